-- Root of the `ZnVerif` library: every module that `lake build` (setup) must compile.
import ZnVerif.Properties.C04
import ZnVerif.Ops.C04
import ZnVerif.Ops.Run
import ZnVerif.Properties.C01
import ZnVerif.Properties.C02
import ZnVerif.Properties.C12
import ZnVerif.Ops.C12
import ZnVerif.Properties.C07
import ZnVerif.Properties.C08
import ZnVerif.Properties.C09
import ZnVerif.Properties.C09Sites
import ZnVerif.Properties.C07Sites
import ZnVerif.Properties.C01Dispatch
import ZnVerif.Properties.C17
import ZnVerif.Ops.C17
import ZnVerif.Properties.C06
import ZnVerif.Ops.C06
import ZnVerif.Properties.C18
import ZnVerif.Properties.C19
import ZnVerif.Ops.C19
import ZnVerif.Properties.C06Eval
import ZnVerif.Properties.C14
import ZnVerif.Ops.C14
import ZnVerif.Properties.C16
import ZnVerif.Properties.C11
import ZnVerif.Ops.C11
import ZnVerif.Properties.C18Chain
import ZnVerif.Properties.C13
import ZnVerif.Properties.C18Lines
import ZnVerif.Properties.C15
import ZnVerif.Properties.C10
import ZnVerif.Ops.Lex
import ZnVerif.Ops.C13
import ZnVerif.Ops.C15
import ZnVerif.Ops.C10
import ZnVerif.Ops.VarInputText
import ZnVerif.Properties.C10VarInput
import ZnVerif.Properties.C05VarInput
import ZnVerif.Properties.C10Http
import ZnVerif.Properties.C03
import ZnVerif.Properties.C05
import ZnVerif.Ops.Parse
import ZnVerif.Ops.ErrLine
import ZnVerif.Ops.Lines
import ZnVerif.Ops.VarInput
import ZnVerif.Properties.C20
import ZnVerif.Ops.C20
import ZnVerif.Properties.C16Eval
import ZnVerif.Properties.Bridges
import ZnVerif.Proofs.ErrorPrinter
import ZnVerif.Properties.C03Stmt
import ZnVerif.Properties.C03StmtExample
import ZnVerif.Properties.C03StmtTokens
import ZnVerif.Properties.C03Chars
import ZnVerif.Properties.C03Layouts
import ZnVerif.Properties.C03LayoutsExample
import ZnVerif.Properties.C03LiteralExample
import ZnVerif.Properties.C15Interp
