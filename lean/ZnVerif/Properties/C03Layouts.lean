/-
C03 at CHARACTER level, free layout — the lexer model composed with the parser round trip, the layout set free.

Spec (Spec/RenderChars.lean, second part): a text is the indentation of its first line followed by ELEMENTS — items (every spelling as
before), single white-space characters (space, TAB, NBSP, ideographic space, … anywhere: between tokens, before a line break, on
lines of their own), verbatim text literals (`El.lit`: own quotes balanced, no back-tick — they may contain line breaks and then are one
token that starts on one line and ends on another; the lines they leave get no `LineText`), comments that stay on their line (items too: the lexer answers a comment token, the parser drops it),
comments that span lines (`El.mcmt`: `/* … */`, `注：“…”`, `注：「…」`, one token like a literal that spans lines), line
breaks LF / CR / CR LF / LF CR (mixed freely), each followed by the indentation of the line it opens in
steps of the text's ONE indent type (TAB, or four spaces).  Two items may touch when the lexer cannot merge them (`Item.Ends`: nothing
is asked after keywords, punctuation, back-tick names, literals; `+ - * /` need a delimiter; `= < >` no `=`; a name must stop — blank,
line break, end of text, punctuation, `& @ # = < > |`, a keyword, `// /* /=` — and must hold no keyword, not even one running on into
what follows: `甲设为乙` is `甲 设为 乙`, `不为` is never a name followed by 为).  Blank lines and lines that hold only indentation or blanks are
lines of the table like any other; the last line needs no line break.

Theorems: `lex_rendered_doc`, `doc_in_order`, `parse_doc_is_laid_out`, `parse_render_doc`, `parse_render_doc_plain` (Properties/C03Chars.lean states them once
more for the canonical rendering — one space, LF, TABs —, as corollaries).  The lexer side is Proofs/RenderGap*.lean (`skipBlank_ws`,
`skipBlank_brk` — both loops that pass line breaks, `parseLine`'s `goto head` and `PreNextToken`'s —, `dispatch_item_ends`); the parser
side is `parseAST_run` (Proofs/LexSim.lean).  What is still open: `parse_render_layouts_full`.
-/
import ZnVerif.Proofs.RenderGapRun
import ZnVerif.Proofs.LexSim
import ZnVerif.Proofs.LexRunOrder
import ZnVerif.Properties.C03Stmt

namespace ZnVerif.Properties.C03
open ZnVerif.Model ZnVerif.Model.Parser ZnVerif.Generated.Tokens
open ZnVerif.Spec.StmtSyntax ZnVerif.Spec.RenderChars
open ZnVerif.Proofs.RenderLex ZnVerif.Proofs.LexSim

/-- **lex_rendered_doc**: the lexer model on the text of a well-formed document answers exactly the document's tokens — types,
literals, start and end indices — then EOF at the end of the text, without error, and leaves exactly the line table the text
determines: every physical line (blank ones included) with its start index, its indentation in steps, and its `LineText` slice —
except that a line left INSIDE a literal or comment that spans lines is recorded without `LineText`, and a line that starts inside one
with indentation 0 whatever it begins with (`litLines`, Spec/RenderChars.lean: what the two scanners do). -/
theorem lex_rendered_doc (ind : Indent) (k0 : Nat) (els : List El) (hwf : DocWF ind k0 els) (fuel : Nat)
    (hf : tokCount els + 1 ≤ fuel) :
    (lexAll fuel (mkLexer (renderDoc ind k0 els)) []).1 = docTokens ind k0 els ++ [(docLayout ind k0 els).eof] ∧
    (lexAll fuel (mkLexer (renderDoc ind k0 els)) []).2.1 = some (.ok ()) ∧
    (lexAll fuel (mkLexer (renderDoc ind k0 els)) []).2.2.lines = (docLayout ind k0 els).lines := by
  have h := (docRun ind k0 els hwf).lexAll (by rw [docRun_toks]; exact elToks_types ind els _ hwf.2.2) fuel hf
  rw [docRun_st0, docRun_toks] at h
  rw [h]
  exact ⟨rfl, rfl, docRun_final_lines ind k0 els hwf⟩

open ZnVerif.Proofs.CmtSim (clean)

theorem clean_of_no_comment {ts : List Token} (h : ∀ t ∈ ts, t.type ≠ cTypeComment) : clean ts = ts :=
  ZnVerif.Proofs.CmtSim.clean_of_no_comment h

/-- **doc_in_order**: the tokens of a document — comments dropped, as the parser drops them — come in reading order against the
layout its text determines -/
theorem doc_in_order (ind : Indent) (k0 : Nat) (els : List El) (hwf : DocWF ind k0 els) :
    (docLayout ind k0 els).InOrder (clean (docTokens ind k0 els)) := by
  rw [← docRun_toks ind k0 els hwf]
  exact run_inOrder_clean _

/-- **parse_doc_is_laid_out**: on the text of a well-formed document, the parser model driven by the lexer model is the parser model
on the document's tokens (comment tokens included) read against the document's layout — whatever the answer, for every fuel and
every variant. -/
theorem parse_doc_is_laid_out (v : Variant) (ind : Indent) (k0 : Nat) (els : List El) (hwf : DocWF ind k0 els) (n : Nat) :
    parseSource v n (renderDoc ind k0 els) = parseLaidOut v (docLayout ind k0 els) n (docTokens ind k0 els) := by
  have := parseAST_run (docRun ind k0 els hwf) v n
  rw [docRun_toks, docRun_st0] at this
  exact this

/-- **parse_render_doc**: for every program `p` and every well-formed document — blanks, blank lines, touching tokens, any line end,
TAB or four-space indentation, comments in the gaps — whose tokens OTHER THAN COMMENTS render `p` (`LinProgram`; a line that holds only a
comment is a line of the table, and no line of the program) under the layout its text determines, parsing the TEXT yields exactly `p`,
same tree and same line numbers, for every fuel from `16 * (tokens that are no comments) + 52 + (all tokens)` on, whichever variant
of the parser. -/
theorem parse_render_doc (v : Variant) {p : Program} (ind : Indent) (k0 : Nat) (els : List El) (hwf : DocWF ind k0 els)
    (h : LinProgram (docLayout ind k0 els) p (clean (docTokens ind k0 els))) (n : Nat)
    (hn : 16 * (clean (docTokens ind k0 els)).length + 52 + tokCount els ≤ n) :
    parseSource v n (renderDoc ind k0 els) = .tree p := by
  rw [parse_doc_is_laid_out v ind k0 els hwf n]
  exact parse_statements_roundtrip_comments v h (doc_in_order ind k0 els hwf) n (by rw [docTokens_length]; exact hn)

/-- the same for a document without comments, with the fuel of `parse_render_canonical` -/
theorem parse_render_doc_plain (v : Variant) {p : Program} (ind : Indent) (k0 : Nat) (els : List El) (hwf : DocWF ind k0 els)
    (hnc : ∀ t ∈ docTokens ind k0 els, t.type ≠ cTypeComment)
    (h : LinProgram (docLayout ind k0 els) p (docTokens ind k0 els)) (n : Nat) (hn : 16 * tokCount els + 52 ≤ n) :
    parseSource v n (renderDoc ind k0 els) = .tree p := by
  rw [parse_doc_is_laid_out v ind k0 els hwf n]
  have hio := doc_in_order ind k0 els hwf
  rw [clean_of_no_comment hnc] at hio
  exact parse_statements_roundtrip v h hio n (by rw [docTokens_length]; exact hn)

/-- the text determines the tree -/
theorem doc_text_unambiguous {p p' : Program} (ind : Indent) (k0 : Nat) (els : List El) (hwf : DocWF ind k0 els)
    (h : LinProgram (docLayout ind k0 els) p (clean (docTokens ind k0 els)))
    (h' : LinProgram (docLayout ind k0 els) p' (clean (docTokens ind k0 els))) : p = p' :=
  rendering_unambiguous h h' (doc_in_order ind k0 els hwf)

/-- What is STILL open at character level: `parse_render_full` (Properties/C03.lean) over ALL layouts.  Covered by `parse_render_doc`:
every synonymous spelling, names between back-ticks, text literals with `encodeSafe` escapes; any white space (or none, where the
lexer cannot merge the neighbours) between tokens, before line breaks, on lines of their own; blank lines and indent-only lines; LF, CR,
CR LF, LF CR line ends, mixed; TAB or four-space indentation (one type per text); a last line with or without line break; verbatim text literals that span lines (one token from its first to its last line);
comments that stay on
their line (`// …`, `/* … */`, `注：…`, `注123：…`) and comments that span lines (see (a)) anywhere between tokens; any arrangement of tokens on lines that `LinProgram` allows.  NOT covered — only the lexer lemma `lex_rendered_doc` would have to be
extended (a new kind of `El` and its lemma in Proofs/RenderGapLayout.lean); the parser side (`parse_doc_is_laid_out` via `Run`, and
`comments_are_invisible` for comment tokens) is already general —:
(a) quoted comments whose body contains the comment's own quote pair (`注：“… “nested” …”`: the scanner counts nested pairs; `MCmt.WF`
    excludes the pair from the body).  Comments that span lines are covered (`El.mcmt`: `/* … */`, `注：“…”`, `注：「…」`, `注N：“…”`; one
    line-table entry per line break inside, indentation 0, no `LineText`).  A token that FOLLOWS such a comment (or a multi-line literal)
    on its closing line stands on a line of indentation 0 in the lexer's table (KF-C03-statement-after-multiline-token): `LinProgram` is read
    against that table, so inside an indented block such a text renders no program and the theorem says nothing about it;
(b) text literals with line breaks that are not `Verbatim` (a back-tick escape AND a raw line break in one literal: `Item.text` is
    `encodeSafe` of a text without CR / LF, `El.lit` any `Verbatim` text, line breaks included);
(c) numbers with sign, decimal point or exponent, and names that contain operator marks (`NameChar` excludes
    `& @ # = < > + - * / | %` and 注);
(d) texts the lexer accepts although they are outside the discipline of `DocWF`: a space-indented line in a TAB-indented text is an
    error, but `IndentOK` also rules out harmless writings (a TAB directly after the indentation TABs counts as indentation, so the
    same text is a document with a larger `k`; that document is covered, the reading with the smaller `k` is not a document).
`Render` is meant to be the relation "`src` is some such writing of the elements `els`". -/
def parse_render_layouts_full (Render : Indent → Nat → List El → List Nat → Prop) : Prop :=
  ∀ (v : Variant) (p : Program) (ind : Indent) (k0 : Nat) (els : List El) (src : List Nat), Render ind k0 els src →
    LinProgram (docLayout ind k0 els) p (clean (docTokens ind k0 els)) → ∃ n0, ∀ n, n0 ≤ n → parseSource v n src = .tree p

end ZnVerif.Properties.C03
