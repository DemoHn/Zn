/-
Bridges — the evaluator model's *embedded* symbol table and containers are the separately verified ones.

`Model/Interp.lean` (A) carries its own simplified scope (`Model.Scope`: a list of symbols, newest first, and a depth)
and its own list / dictionary operations (inside `builtinMethod`, `getProperty`, `setProperty`, `reduceLHS/RHS`,
`hmAppend`, `newHashMapCell`).  `Model/Scope.lean` (B) and `Model/Containers.lean` (C) model scope.go and array.go /
hashmap.go / iv.go as written and carry the refinement theorems C06 / C12.  The theorems here connect (A) to (B) and (C),
so that those refinements hold for the evaluator model too.  An equation between state transformers that a theorem
here states verbatim is proved where it is stated (one unfolding of the evaluator's function on the cell); an equation or
inversion that several theorems use is a lemma in `ZnVerif/Proofs/Bridges*.lean`.

Vocabulary (defined in the lemma modules):
  `absI sc`, `absB σ`   the live symbols (name, depth, const, module of origin, value; newest first) and the current depth;
  `R sc σ`              `absI sc = absB σ`;
  `WF σ`, `RefsOK σ`, `Sim σ d`   (B)'s invariant and its parts (C06);
  `stepI`, `runI`       one `Spec.Scopes.Op` = one call of the corresponding `Model.Scope` function;
  `stackOf sc`          the frame stack an evaluator scope stands for;
  `RV s vm`             evaluator state `s` and (B)'s VM view `vm`: same globals, same current module, related scope;
  `RelRes`, `RelVM`     outcomes of a state-changing operation compared: success with related states, or the same error code
                        (on `Model.Scope` / `SymTab.Scope`, resp. on `VM` / `VMScope`, where (A)'s state is then unchanged);
  `ofGo`, `findM`       (B)'s `GoRes` read as an outcome of the evaluator monad; what `GetValueWithModuleID` answers on (A)'s scope;
  `liftC`, `storeArr a` a `Containers.Res` read in the evaluator monad (`.err c` = runtime error `c`, `.panic` = Go panic),
                        resp. the produced list stored into cell `a`;
  `Rhm vals order hm`   dictionary cell contents and a `Containers.HashMap`: same key order, same lookup function;
  `dictWF vals order`   the evaluator's dictionary invariant: `vals.map fst = order ∧ order.Nodup`;
  `dictStepI`, `dictRunI`  the pure core of the evaluator's dictionary operations, in (C)'s operation vocabulary;
  `KW a s s'`           "if cell `a` holds a dictionary with the invariant in `s`, it does in `s'`";
  `SimI sc d`           (B)'s invariant `Sim` written on the evaluator's scope alone;
  `DictCalls n a s ops s'`  a sequence of successful evaluator calls mutating dictionary cell `a`, `ops` what they did;
  `omapAfter sub m ops` the spec's ordered map after the operations `ops`;
  `answerOpt`, `copyItems` (BridgesLift), `insertCore` (BridgesListMethods), `xeqB`, `strAt` (BridgesListSearch)
                        how an optional element is answered, what 合并 does with one argument, 新增 past its position argument,
                        the comparison's Bool answer in a state, the text a cell holds;
  `toC` (BridgesDictRel), `subOf`, `answerGet`, `KeysAt`, `DictClosed` (BridgesDictOps), `DictSt` (BridgesDictHistory)
                        a dictionary cell's contents read as a `Containers.HashMap` / as a pair, lookup below an address, the
                        answer of 读取, key cells and their texts, "every stored value is allocated".
-/
import ZnVerif.Proofs.BridgesScopeVM
import ZnVerif.Proofs.BridgesScopeReify
import ZnVerif.Proofs.BridgesListMethods
import ZnVerif.Proofs.BridgesListSearch
import ZnVerif.Proofs.BridgesDictHistory
import ZnVerif.Proofs.BridgesDictInv
import ZnVerif.Properties.C06
import ZnVerif.Proofs.Toy

namespace ZnVerif.Properties.Bridges
open ZnVerif ZnVerif.Model ZnVerif.Proofs.Bridges ZnVerif.Proofs.Scope
open ZnVerif.Proofs.Calls (getCell_bind)
open ZnVerif.Spec.Scopes (Op Balanced extAtRoot finalDepth initial)
open ZnVerif.SymTab (VMScope)
open ZnVerif.Model.Containers (HashMap DictOp)
open ZnVerif.Proofs.Containers (Inv)

variable {ν : Type} [NumOps ν]

theorem scope_bridge_begin {sc : Model.Scope} {σ : SymTab.Scope Addr} (h : R sc σ) : R sc.beginScope σ.beginScope :=
  sim_beginScope h

/-- `EndScope`: (B) does not panic and the results are related.  No depth guard is needed for the two models to agree
(below depth 0 both go to −1 and forget every symbol); the guard `0 < d` is what keeps (B)'s invariant, see
`scope_bridge`. -/
theorem scope_bridge_end {sc : Model.Scope} {σ : SymTab.Scope Addr} (h : R sc σ) (hwf : WF σ) :
    ∃ σ', σ.endScope = .ok σ' ∧ R sc.endScope σ' ∧ WF σ' :=
  sim_endScope h hwf

/-- `GetValue` (the scope part of `FindElement`): same value, or not found on both sides. -/
theorem scope_bridge_find {sc : Model.Scope} {σ : SymTab.Scope Addr} (h : R sc σ) (hwf : WF σ) (name : String) :
    σ.getValue name = .ok ((sc.find name).map (·.val)) :=
  sim_find h hwf name

/-- `GetValueWithModuleID`: same value and same module of origin (−1 for a symbol of the module itself). -/
theorem scope_bridge_findM {sc : Model.Scope} {σ : SymTab.Scope Addr} (h : R sc σ) (hwf : WF σ) (name : String) :
    σ.getValueWithModuleID name = .ok (findM sc name) :=
  sim_findM h hwf name

/-- `DeclareValue` (`c = false`) / `DeclareConstValue` (`c = true`): both succeed with related results, or both answer
NameRedeclared (43). -/
theorem scope_bridge_declare {sc : Model.Scope} {σ : SymTab.Scope Addr} (h : R sc σ) (hwf : WF σ) (hrefs : RefsOK σ)
    (name : String) (v : Addr) (c : Bool) :
    RelRes (sc.declare name v c none) (σ.declareValueC name v c) :=
  sim_declare h hwf hrefs name v c

theorem scope_bridge_declareExt {sc : Model.Scope} {σ : SymTab.Scope Addr} (h : R sc σ) (hwf : WF σ)
    (name : String) (v : Addr) (m : Nat) :
    RelRes (sc.declare name v true (some (m : Int))) (σ.declareExternalValue name v m) :=
  sim_declareExt h hwf name v m

/-- `SetValue`: both succeed with related results, or both answer NameNotDefined (42) / AssignToConstant (44). -/
theorem scope_bridge_set {sc : Model.Scope} {σ : SymTab.Scope Addr} (h : R sc σ) (hwf : WF σ) (name : String) (v : Addr) :
    RelRes (sc.set name v) (σ.setValue name v) :=
  sim_set h hwf name v

/-- **scope_bridge**: one operation of the history vocabulary on related states under (B)'s invariant `Sim σ d`
(`opOK`: an `EndScope` only at depth > 0, an import only at depth 0): neither model fails, both give the same answer
(value, nil, 42/43/44), the states are related again and the invariant holds again at the new depth. -/
theorem scope_bridge {sc : Model.Scope} {σ : SymTab.Scope Addr} {d : Nat} (h : R sc σ) (hs : Sim σ d)
    (op : Op Addr) (hok : opOK d op) :
    ∃ sc' σ' r, stepI sc op = some (sc', r) ∧ σ.step op = .ok (σ', r) ∧ R sc' σ' ∧ Sim σ' (nextDepth d op) :=
  let ⟨sc', σ', r, h1, h2, h3, h4, _⟩ := step_bridge h hs op hok
  ⟨sc', σ', r, h1, h2, h3, h4⟩

-- non-vacuity: the fresh scopes are related, with the invariant; one `declare` on them answers alike
example : R ({} : Model.Scope) (SymTab.Scope.new : SymTab.Scope Addr) ∧ Sim (SymTab.Scope.new : SymTab.Scope Addr) 0 :=
  ⟨R_new, sim_new⟩
example : RelRes (({} : Model.Scope).declare "a" 7 false none) ((SymTab.Scope.new : SymTab.Scope Addr).declareValueC "a" 7 false) :=
  scope_bridge_declare R_new sim_new.wf sim_new.refs "a" 7 false

/-- From any related pair of states with (B)'s invariant, every balanced history with imports at the top level only:
the evaluator's scope answers every operation exactly as the frame-stack spec and ends in the state the spec ends in. -/
theorem interp_scope_refines_stack_from (sc : Model.Scope) (σ : SymTab.Scope Addr) (d d' : Nat) (h : R sc σ)
    (hs : Sim σ d) (ops : List (Op Addr)) (hb : finalDepth d ops = some d') (he : extAtRoot d ops = true) :
    ∃ sc' σ' rs, runI sc ops = some (sc', rs) ∧ Spec.Scopes.run (stackOf sc) ops = some (stackOf sc', rs) ∧
      R sc' σ' ∧ Sim σ' d' :=
  run_bridge ops sc σ d d' h hs hb he

/-- **interp_scope_refines_stack**: the evaluator model's scope operations refine `Spec.Scopes`, for every balanced
operation history from the empty scope (`run_bridge`: the simulation carries the spec's answer along, step by step, by
`step_sim` — the step lemma of C06's `scope_refines_stack`). -/
theorem interp_scope_refines_stack (ops : List (Op Addr)) (hb : Balanced 0 ops) (he : extAtRoot 0 ops = true) :
    ∃ sc rs, runI ({} : Model.Scope) ops = some (sc, rs) ∧ Spec.Scopes.run initial ops = some (stackOf sc, rs) := by
  unfold Balanced at hb
  cases hfd : finalDepth 0 ops with
  | none => simp [hfd] at hb
  | some d' =>
    obtain ⟨sc', _, rs, h1, h2, _, _⟩ :=
      interp_scope_refines_stack_from {} SymTab.Scope.new 0 d' R_new sim_new ops hfd he
    exact ⟨sc', rs, h1, h2⟩

/-- (B)'s invariant can be stated on the evaluator's scope alone (`SimI sc d`: depth `d ≥ 0`, symbol depths within
`[0, d]` and non-increasing towards older symbols, module ids only on top-level symbols and never negative): it holds
exactly when some state of (B) with `Sim` is related to `sc`. -/
theorem scope_invariant_intrinsic (sc : Model.Scope) (d : Nat) : SimI sc d ↔ ∃ σ, R sc σ ∧ Sim σ d :=
  ⟨exists_related, fun ⟨_, hR, hs⟩ => simI_of_related hR hs⟩

/-- … so the refinement holds from *any* evaluator scope that satisfies `SimI`, and `SimI` holds again at the end.  (That the
scopes of a program run satisfy it is not stated: the invariant shown of the evaluator's scope operations is `SortedDepths`, Properties/C06Eval.) -/
theorem interp_scope_refines_stack_any (sc : Model.Scope) (d d' : Nat) (h : SimI sc d) (ops : List (Op Addr))
    (hb : finalDepth d ops = some d') (he : extAtRoot d ops = true) :
    ∃ sc' rs, runI sc ops = some (sc', rs) ∧ Spec.Scopes.run (stackOf sc) ops = some (stackOf sc', rs) ∧ SimI sc' d' := by
  obtain ⟨σ, hR, hs⟩ := exists_related h
  obtain ⟨sc', σ', rs, h1, h2, hR', hs'⟩ := interp_scope_refines_stack_from sc σ d d' hR hs ops hb he
  exact ⟨sc', rs, h1, h2, simI_of_related hR' hs'⟩

-- non-vacuity: a scope two blocks deep with a shadowed name and an imported top-level symbol
example : SimI ({ syms := [⟨"x", 2, false, none, 5⟩, ⟨"x", 0, true, none, 3⟩, ⟨"f", 0, true, some 4, 1⟩], depth := 2 } : Model.Scope) 2 :=
  ⟨rfl, ⟨by intro x hx; simp at hx; rcases hx with rfl | rfl <;> omega, by simp⟩,
   by intro sy h; simp at h; rcases h with rfl | rfl | rfl <;> simp; exact ⟨4, rfl⟩⟩

-- non-vacuity: C06's demo history (nesting, shadowing, a constant, an import) on the evaluator's scope
example : Balanced 0 C06.demo ∧ extAtRoot 0 C06.demo = true := by decide
example : (runI ({} : Model.Scope) C06.demo).map (·.2) =
    some [.done, .done, .done, .done, .val 2, .done, .err 44, .done, .done, .done, .val 5, .done, .val 1,
          .undefined, .valM 9 2] := by decide

/-- What `RefsOK` / `extAtRoot` exclude — a real difference between (A) and (B): scope.go never deletes
`externalRefs` entries, so after an import *inside a block* has been popped, the next symbol declared at that index
inherits its module id in (B) (and in Go); (A) forgets the module with the symbol.  The theorem shows the two answers on that
history.  ((A) does model imports — `evalImport` declares the imported names with their module id — but the parser allows
them at the top level of a module only, which is what `extAtRoot` asks for.) -/
theorem stale_ref_disagreement :
    let ops : List (Op Addr) := [.beginScope, .declareExternal "a" 1 7, .endScope, .declare "a" 2, .lookupM "a"]
    (runI ({} : Model.Scope) ops).map (·.2) = some [.done, .done, .done, .done, .valM 2 (-1)] ∧
    (∃ σ, (SymTab.Scope.new : SymTab.Scope Addr).run ops = .ok (σ, [.done, .done, .done, .done, .valM 2 7])) := by
  refine ⟨by decide, ⟨_, rfl⟩⟩

/-- `vm.FindElement` / `vm.FindElementWithModule`: same value, same module id, same error (42). -/
theorem vm_scope_bridge_find {s : VM ν} {vm : VMScope Addr} (h : RV s vm) (name : String) :
    findElement name s = (ofGo (vm.findElement name), s) ∧
    findElementWithModule name s = (ofGo (vm.findElementWithModuleID name), s) := by
  have hg := lookup_eq_globalLookup name vm.globals
  constructor
  · unfold findElement VMScope.findElement
    simp only [bind, getVM, currentScope, h.globals, hg]
    cases SymTab.globalLookup vm.globals name with
    | some a => rfl
    | none =>
      rcases h.scope_cases with ⟨hI, hB⟩ | ⟨sc, σ, d, hI, hB, hR, hsim⟩
      · simp only [hI, hB]; rfl
      · simp only [hI, hB, sim_find hR hsim.wf name]
        cases sc.find name <;> rfl
  · unfold findElementWithModule VMScope.findElementWithModuleID
    simp only [bind, getVM, currentScope, h.globals, hg]
    cases SymTab.globalLookup vm.globals name with
    | some a => rfl
    | none =>
      rcases h.scope_cases with ⟨hI, hB⟩ | ⟨sc, σ, d, hI, hB, hR, hsim⟩
      · simp only [hI, hB]; rfl
      · simp only [hI, hB, sim_findM hR hsim.wf name]
        unfold findM
        cases hf : sc.find name with
        | none => rfl
        | some sy =>
          obtain ⟨nm, dp, cst, x, vl⟩ := sy
          cases x <;> simp [symModule, h.mid, ofGo, pure]

/-- `vm.DeclareElement` / `vm.DeclareConstElement`: success with related states, or the same error (42 no module
running, 43 predefined or redeclared) and the evaluator state unchanged; (B) does not panic. -/
theorem vm_scope_bridge_declare {s : VM ν} {vm : VMScope Addr} (h : RV s vm) (name : String) (v : Addr) (c : Bool) :
    RelVM s (declareElement name v c none s) (vm.declareWith name (·.declareValueC name v c)) := by
  have hg := lookup_eq_globalLookup name vm.globals
  unfold declareElement VMScope.declareWith
  simp only [bind, getVM, currentScope]
  rcases h.scope_cases with ⟨hI, hB⟩ | ⟨sc, σ, d, hI, hB, hR, hsim⟩
  · simp only [hI, hB]; rfl
  · simp only [hI, hB, h.globals, hg]
    cases SymTab.globalLookup vm.globals name with
    | some a => rfl
    | none =>
      obtain ⟨σ₁, r₁, h1, h2, _⟩ := Proofs.Scope.sim_declare hsim name v c
      exact relVM_finish h (sim_declare hR hsim.wf hsim.refs name v c) (fun σ' => sim_of_ofErr h1 h2)
        (by cases sc.declare name v c none <;> rfl) (by cases σ.declareValueC name v c <;> rfl)

/-- `vm.DeclareExternalElement`, at the top level of the module. -/
theorem vm_scope_bridge_declareExt {s : VM ν} {vm : VMScope Addr} (h : RV s vm) (name : String) (v : Addr) (m : Nat)
    (htop : ∀ σ, vm.scope = some σ → σ.currentDepth = 0) :
    RelVM s (declareElement name v true (some (m : Int)) s) (vm.declareExternalElement name v m) := by
  have hg := lookup_eq_globalLookup name vm.globals
  unfold declareElement VMScope.declareExternalElement VMScope.declareWith
  simp only [bind, getVM, currentScope]
  rcases h.scope_cases with ⟨hI, hB⟩ | ⟨sc, σ, d, hI, hB, hR, hsim⟩
  · simp only [hI, hB]; rfl
  · simp only [hI, hB, h.globals, hg]
    cases SymTab.globalLookup vm.globals name with
    | some a => rfl
    | none =>
      have hd0 : d = 0 := by have h0 := htop σ hB; have hd := hsim.depth; omega
      obtain ⟨σ₁, r₁, h1, h2, _⟩ := Proofs.Scope.sim_declareExt hsim hd0 name v m
      exact relVM_finish h (sim_declareExt hR hsim.wf name v m) (fun σ' => sim_of_ofErr h1 h2)
        (by cases sc.declare name v true (some (m : Int)) <;> rfl) (by cases σ.declareExternalValue name v m <;> rfl)

/-- `vm.SetElement`: success with related states, or the same error (42 / 44). -/
theorem vm_scope_bridge_set {s : VM ν} {vm : VMScope Addr} (h : RV s vm) (name : String) (v : Addr) :
    RelVM s (setElement name v s) (vm.setElement name v) := by
  unfold setElement VMScope.setElement
  simp only [bind, currentScope]
  rcases h.scope_cases with ⟨hI, hB⟩ | ⟨sc, σ, d, hI, hB, hR, hsim⟩
  · simp only [hI, hB]; rfl
  · simp only [hI, hB]
    obtain ⟨σ₁, r₁, h1, h2, _⟩ := Proofs.Scope.sim_assign hsim name v
    exact relVM_finish h (sim_set hR hsim.wf name v) (fun σ' => sim_of_ofErr h1 h2)
      (by cases sc.set name v <;> rfl) (by cases σ.setValue name v <;> rfl)

/-- `vm.BeginBoundScope` and its deferred `EndScope` (guard: a block is open). -/
theorem vm_scope_bridge_block {s : VM ν} {vm : VMScope Addr} (h : RV s vm) :
    (∃ hnd s', beginBoundScope s = (.ok hnd, s') ∧ RV s' vm.beginScope ∧
      (hnd = if vm.scope.isSome then some s.csModuleID else none)) ∧
    ((∀ σ, vm.scope = some σ → 0 < σ.currentDepth) →
      ∃ vm' s', vm.endScope = .ok vm' ∧ endBoundScope (some s.csModuleID) s = (.ok (), s') ∧ RV s' vm') := by
  constructor
  · unfold beginBoundScope VMScope.beginScope
    rcases h.scope_cases with ⟨hI, hB⟩ | ⟨sc, σ, d, hI, hB, hR, hsim⟩
    · rw [hI, hB]; exact ⟨none, s, rfl, ⟨h.globals, h.mid, by rw [hI, hB]; trivial⟩, rfl⟩
    · rw [hI, hB]; exact ⟨some s.csModuleID, _, rfl, h.put (sim_beginScope hR) (sim_begin hsim).1, rfl⟩
  · intro hopen
    unfold VMScope.endScope
    rcases h.scope_cases with ⟨hI, hB⟩ | ⟨sc, σ, d, hI, hB, hR, hsim⟩
    · rw [hB]
      exact ⟨vm, s, rfl, by simp only [endBoundScope, modifyVM, hI], ⟨h.globals, h.mid, by rw [hI, hB]; trivial⟩⟩
    · rw [hB]
      have hpos := hopen σ hB
      have hd := hsim.depth
      obtain ⟨d', rfl⟩ : ∃ d', d = d' + 1 := ⟨d - 1, by omega⟩
      obtain ⟨σ', he, hs', _⟩ := sim_end hsim
      obtain ⟨σ'', he', hR', _⟩ := sim_endScope hR hsim.wf
      rw [he] at he'
      cases he'
      exact ⟨{ vm with scope := some σ' }, putScope s.csModuleID sc.endScope s, by simp only [he],
        by simp only [endBoundScope, modifyVM, hI], h.put hR' hs'⟩

-- non-vacuity: the toy state `s0` (module 0 running, empty scope) against (B)'s VM view with a fresh scope
example : RV Proofs.Toy.s0 (⟨[], 0, some SymTab.Scope.new⟩ : VMScope Addr) :=
  ⟨rfl, rfl, ⟨R_new, 0, sim_new⟩⟩

section lists
variable (n : Nat) (a : Addr) (items : List Addr) (s : VM ν)

/-- 前增 / 后增: validate, copy the argument, `Containers.arrayPrepend` / `arrayAppend` on the cell's items, store,
answer the receiver.  (Equations between state transformers: every outcome is covered.) -/
theorem list_bridge_prepend_append (x : Addr) (hc : s.heap[a]? = some (.arr items)) :
    builtinMethod n a "前增" [x] s =
      (do validateExact [x] ["any"]; let x' ← dup n x; storeArr a (Containers.arrayPrepend items x'); pure a) s ∧
    builtinMethod n a "后增" [x] s =
      (do validateExact [x] ["any"]; let x' ← dup n x; storeArr a (Containers.arrayAppend items x'); pure a) s :=
  ⟨bm_prepend n a items s x hc, bm_append n a items s x hc⟩

/-- 新增 / 添加: `Containers.arrayInsert` at `int(p)`; its range check (40) is made before anything is copied. -/
theorem list_bridge_insert (name : String) (hname : name = "新增" ∨ name = "添加") (x p : Addr) (pv : ν)
    (hc : s.heap[a]? = some (.arr items)) (hp : s.heap[p]? = some (.num pv)) :
    builtinMethod n a name [x, p] s =
      (do validateExact [x, p] ["any", "number"]; insertCore n a items x (NumOps.toInt pv)) s :=
  bm_insert n a items s name hname x p pv hc hp

/-- The storing methods, from a successful run: the stored element is the `dup` result `x'`, the new
item list is the `Containers` operation applied to the old one and `x'`, the receiver is answered. -/
theorem list_bridge_store_ok (x : Addr) (r : Addr) (s' : VM ν) (hc : s.heap[a]? = some (.arr items)) :
    (builtinMethod n a "后增" [x] s = (.ok r, s') →
      ∃ x' s1 items', dup n x s = (.ok x', s1) ∧ Containers.arrayAppend items x' = .ok items' ∧ a < s1.heap.size ∧
        s' = { s1 with heap := s1.heap.set! a (.arr items') } ∧ r = a) ∧
    (builtinMethod n a "前增" [x] s = (.ok r, s') →
      ∃ x' s1 items', dup n x s = (.ok x', s1) ∧ Containers.arrayPrepend items x' = .ok items' ∧ a < s1.heap.size ∧
        s' = { s1 with heap := s1.heap.set! a (.arr items') } ∧ r = a) ∧
    (∀ name, name = "新增" ∨ name = "添加" → ∀ p pv, s.heap[p]? = some (.num pv) →
      builtinMethod n a name [x, p] s = (.ok r, s') →
      ∃ x' s1 items', dup n x s = (.ok x', s1) ∧ Containers.arrayInsert items x' (NumOps.toInt pv) = .ok items' ∧
        a < s1.heap.size ∧ s' = { s1 with heap := s1.heap.set! a (.arr items') } ∧ r = a) := by
  refine ⟨fun h => ?_, fun h => ?_, fun name hname p pv hp h => ?_⟩
  · rw [bm_append n a items s x hc] at h
    obtain ⟨_, _, h⟩ := bind_same_ok_inv (validateExact_same _ _) h
    exact copy_store_inv n a s x _ s' r h
  · rw [bm_prepend n a items s x hc] at h
    obtain ⟨_, _, h⟩ := bind_same_ok_inv (validateExact_same _ _) h
    exact copy_store_inv n a s x _ s' r h
  · rw [bm_insert n a items s name hname x p pv hc hp] at h
    obtain ⟨_, _, h⟩ := bind_same_ok_inv (validateExact_same _ _) h
    unfold insertCore at h
    cases hi : Containers.arrayInsert items x (NumOps.toInt pv) with
    | err c => rw [hi] at h; cases h
    | ok l => rw [hi] at h; exact copy_store_inv n a s x _ s' r h
    | panic => rw [hi] at h; exact copy_store_inv n a s x _ s' r h

/-- 合并: the receiver becomes `Containers.arrayMerge items extra`, `extra` the item lists of the arguments copied
element by element (`copyItems` = `getCell`, then `dup` on every item); a new list cell with the same items is answered. -/
theorem list_bridge_merge (vals : List Addr) (hc : s.heap[a]? = some (.arr items)) :
    builtinMethod n a "合并" vals s =
      (do validateAll vals "array"
          let extra ← vals.mapM (copyItems n)
          setCell a (.arr (Containers.arrayMerge items extra))
          alloc (.arr (Containers.arrayMerge items extra))) s :=
  bm_merge n a items s vals hc

/-- 左移 / 右移: `Containers.shiftArrayValue`; the removed element is answered, a new 空 on the empty list. -/
theorem list_bridge_shift (vals : List Addr) (hc : s.heap[a]? = some (.arr items)) :
    builtinMethod n a "左移" vals s =
      (do setCell a (.arr (Containers.shiftArrayValue items true).2)
          answerOpt (Containers.shiftArrayValue items true).1) s ∧
    builtinMethod n a "右移" vals s =
      (do setCell a (.arr (Containers.shiftArrayValue items false).2)
          answerOpt (Containers.shiftArrayValue items false).1) s := by
  rw [shiftRight_bridge]
  unfold builtinMethod
  constructor <;> rw [getCell_bind _ hc]
  · cases items <;> rfl
  · dsimp only
    cases h : items.getLast? with
    | none => cases List.getLast?_eq_none_iff.1 h; rfl
    | some x => rfl

/-- 包含 / 寻找, when every comparison `compareXEQ n item x` answers a Bool `eq item x`: `Containers.arrayContains` /
`arrayFind` with that `eq`, in a new Bool / number cell. -/
theorem list_bridge_contains_find (x : Addr) (eq : Addr → Addr → Bool) (hc : s.heap[a]? = some (.arr items))
    (heq : ∀ i ∈ items, (compareXEQ n i x s).1 = .ok (eq i x)) :
    builtinMethod n a "包含" [x] s =
      (do validateExact [x] ["any"]; newBool (Containers.arrayContains eq x items)) s ∧
    builtinMethod n a "寻找" [x] s =
      (do validateExact [x] ["any"]; newNum (NumOps.ofInt (Containers.arrayFind eq x items))) s := by
  have hg : builtinMethod.goFind n x items 0 s = (.ok (Containers.arrayFind eq x items), s) :=
    goFind_bridge n x eq s items 0 heq
  rw [bm_contains_eq n a items s x hc, bm_find_eq n a items s x hc]
  constructor <;> refine bind_same_congr (validateExact_same _ _) fun _ => ?_
  · simp only [bind, goContains_bridge n x eq s items heq]
  · simp only [bind, hg]

/-- 包含 / 寻找, from a successful run alone: the answer is the pure loop on the Bool answers of `compareXEQ n` in the
start state (`xeqB`), nothing but the answer cell is new. -/
theorem list_bridge_contains_find_ok (x r : Addr) (s' : VM ν) (hc : s.heap[a]? = some (.arr items)) :
    (builtinMethod n a "包含" [x] s = (.ok r, s') →
      r = s.heap.size ∧ s' = { s with heap := s.heap.push (.bool (Containers.arrayContains (xeqB n s) x items)) }) ∧
    (builtinMethod n a "寻找" [x] s = (.ok r, s') →
      r = s.heap.size ∧
        s' = { s with heap := s.heap.push (.num (NumOps.ofInt (Containers.arrayFind (xeqB n s) x items))) }) := by
  rw [bm_contains_eq n a items s x hc, bm_find_eq n a items s x hc]
  constructor <;> intro h
  · obtain ⟨_, _, h⟩ := bind_same_ok_inv (validateExact_same _ _) h
    obtain ⟨b, sb, hg, h⟩ := Proofs.Calls.bind_ok_inv h
    obtain ⟨rfl, rfl⟩ := goContains_ok n x s items b sb hg
    cases h
    exact ⟨rfl, rfl⟩
  · obtain ⟨_, _, h⟩ := bind_same_ok_inv (validateExact_same _ _) h
    obtain ⟨k, sb, hg, h⟩ := Proofs.Calls.bind_ok_inv h
    obtain ⟨rfl, rfl⟩ := goFind_ok n x s items 0 k sb hg
    cases h
    exact ⟨rfl, rfl⟩

/-- 交换: `Containers.arraySwap` at the 1-based positions `cursor + 1`, `cursor = int(floor(p) − 1)` as the evaluator
(and Go) computes it. -/
theorem list_bridge_swap (p q : Addr) (pv qv : ν) (hc : s.heap[a]? = some (.arr items))
    (hp : s.heap[p]? = some (.num pv)) (hq : s.heap[q]? = some (.num qv)) :
    builtinMethod n a "交换" [p, q] s =
      (do validateExact [p, q] ["number", "number"]
          storeArr a (Containers.arraySwap items
            (NumOps.toInt (NumOps.sub (NumOps.floor pv) (NumOps.ofInt 1)) + 1)
            (NumOps.toInt (NumOps.sub (NumOps.floor qv) (NumOps.ofInt 1)) + 1))
          pure a) s := by
  unfold builtinMethod Containers.arraySwap
  rw [getCell_bind _ hc]
  refine bind_same_congr (validateExact_same _ _) fun _ => (getCell_bind _ hp).trans ((getCell_bind _ hq).trans ?_)
  simp only [Int.add_sub_cancel]
  generalize NumOps.toInt (NumOps.sub (NumOps.floor pv) (NumOps.ofInt 1)) = c0
  generalize NumOps.toInt (NumOps.sub (NumOps.floor qv) (NumOps.ofInt 1)) = c1
  by_cases h0 : c0 < 0 ∨ c0 ≥ (items.length : Int)
  · simp only [h0, if_true]; rfl
  · by_cases h1 : c1 < 0 ∨ c1 ≥ (items.length : Int)
    · simp only [h0, h1, if_true, if_false]; rfl
    · simp only [h0, h1, if_false]
      cases items[c0.toNat]? <;> cases items[c1.toNat]? <;> rfl

/-- 拼接: `Containers.arrayJoin` with `str := strAt s` (the text a cell holds): error 82 when some element is not a text
(whatever the arguments), otherwise a new text cell with its answer. -/
theorem list_bridge_join (hc : s.heap[a]? = some (.arr items)) (sep : String) :
    (∀ vals c, (∀ i ∈ items, i < s.heap.size) → Containers.arrayJoin (strAt s) items sep = .err c →
      builtinMethod n a "拼接" vals s = (.err (.rt c), s)) ∧
    (∀ c t, s.heap[c]? = some (.str sep) → Containers.arrayJoin (strAt s) items sep = .ok t →
      builtinMethod n a "拼接" [c] s = newStr t s) := by
  unfold Containers.arrayJoin builtinMethod
  refine ⟨fun vals c hall h => ?_, fun c t hsep h => ?_⟩ <;> split at h <;> cases h
  · next hb =>
    rw [getCell_bind _ hc]
    exact Proofs.Calls.bind_err ((validateAll_string s items hall).trans (if_neg hb))
  · next hb =>
    have hall : ∀ i ∈ items, i < s.heap.size := fun i hi =>
      have ⟨t', ht'⟩ := Option.isSome_iff_exists.1 (List.all_eq_true.1 hb i hi)
      lt_size_of_getElem? (strAt_some ht')
    have hv : validateExact [c] ["string"] s = (.ok (), s) := by
      simp [validateExact, bind, validateOne_string hsep, pure]
    simp only [bind, getCell, hc, validateAll_string s items hall, hb, if_true, hv, hsep]
    rw [getStr_mapM s _ (fun i t' ht' => by simp only [strAt_some ht']; rfl) items hb]
    simp only [joinWith_eq]

theorem list_bridge_getters (hc : s.heap[a]? = some (.arr items)) :
    getProperty n a "首项" s = answerOpt (Containers.arrayGetFirst items) s ∧
    getProperty n a "末项" s = answerOpt (Containers.arrayGetLast items) s ∧
    getProperty n a "长度" s = newNum (NumOps.ofInt (Containers.arrayGetLength items)) s ∧
    getProperty n a "数目" s = newNum (NumOps.ofInt (Containers.arrayGetLength items)) s ∧
    getProperty n a "逆序" s = (do let r ← liftC (Containers.arrayGetReverse items); alloc (.arr r)) s := by
  rw [Proofs.Containers.arrayGetFirst_eq, Proofs.Containers.arrayGetLast_eq, Proofs.Containers.arrayGetReverse_eq]
  unfold getProperty
  refine ⟨?_, ?_, ?_, ?_, ?_⟩ <;> rw [getCell_bind _ hc]
  · cases items <;> rfl
  · dsimp only
    cases items.getLast? <;> rfl
  all_goals rfl

theorem list_bridge_setters (v : Addr) (hc : s.heap[a]? = some (.arr items)) :
    setProperty a "首项" v s = setCell a (.arr (Containers.arraySetFirst items v)) s ∧
    setProperty a "末项" v s = setCell a (.arr (Containers.arraySetLast items v)) s := by
  rw [Proofs.Containers.arraySetFirst_eq, Proofs.Containers.arraySetLast_eq]
  unfold setProperty
  constructor <;> rw [getCell_bind _ hc] <;> cases items <;> rfl

/-- `L#i` and `L#i = v`: `Containers.ivArrayRead` / `ivArrayWrite` (IndexOutOfRange 40 outside 1 … 长度). -/
theorem list_bridge_iv (name : String) (idx : Int) (v : Addr) (hc : s.heap[a]? = some (.arr items)) :
    reduceRHS n (1, a, name, idx) s = liftC (Containers.ivArrayRead items idx) s ∧
    reduceLHS (1, a, name, idx) v s = storeArr a (Containers.ivArrayWrite items idx v) s := by
  unfold Containers.ivArrayRead Containers.ivArrayWrite
  constructor <;> refine (getCell_bind _ hc).trans ?_ <;> dsimp only <;> split
  · rfl
  · cases items[(idx - 1).toNat]? <;> rfl
  · rfl
  · rfl

/-- The error codes: 46 for a name that is no list method, 53 for a wrong number of arguments, 82 for a position that
is no number, 40 for a position outside the list (新增 before the first item; `L#i`, `L#i = v`, 交换 outside 1 … 长度),
45 for a name that is no list property — each with the state unchanged. -/
theorem list_bridge_errors (hc : s.heap[a]? = some (.arr items)) :
    (∀ name vals, name ∉ ["新增", "添加", "前增", "后增", "左移", "右移", "拼接", "合并", "包含", "寻找", "交换"] →
      builtinMethod n a name vals s = (.err (.rt 46), s)) ∧
    (∀ name k vals, (name, k) ∈ [("新增", 2), ("添加", 2), ("前增", 1), ("后增", 1), ("包含", 1), ("寻找", 1), ("交换", 2)] →
      vals.length ≠ k → builtinMethod n a name vals s = (.err (.rt 53), s)) ∧
    (∀ name x p cx cp, name = "新增" ∨ name = "添加" → s.heap[x]? = some cx → s.heap[p]? = some cp →
      (∀ pv, cp ≠ .num pv) → builtinMethod n a name [x, p] s = (.err (.rt 82), s)) ∧
    (∀ name x p cx pv c, name = "新增" ∨ name = "添加" → s.heap[x]? = some cx → s.heap[p]? = some (.num pv) →
      Containers.arrayInsert items x (NumOps.toInt pv) = .err c → builtinMethod n a name [x, p] s = (.err (.rt c), s)) ∧
    (∀ name idx c, Containers.ivArrayRead items idx = .err c → reduceRHS n (1, a, name, idx) s = (.err (.rt c), s)) ∧
    (∀ name idx v c, Containers.ivArrayWrite items idx v = .err c →
      reduceLHS (1, a, name, idx) v s = (.err (.rt c), s)) ∧
    (∀ name, name ∉ ["文本", "首项", "末项", "数目", "长度", "逆序"] → getProperty n a name s = (.err (.rt 45), s)) := by
  refine ⟨fun name vals hn => ?_, fun name k vals hname hlen => ?_, fun name x p cx cp hname hx hp hnum => ?_,
    fun name x p cx pv c hname hx hp h => ?_, fun name idx c h => ?_, fun name idx v c h => ?_, fun name hn => ?_⟩
  · simp only [List.mem_cons, List.not_mem_nil, or_false, not_or] at hn
    obtain ⟨h1, h2, h3, h4, h5, h6, h7, h8, h9, h10, h11⟩ := hn
    unfold builtinMethod
    rw [getCell_bind _ hc]
    simp only
    rfl
  · have hname : (name, k) ∈ argTypes.map fun p => (p.1, p.2.length) := hname
    obtain ⟨⟨_, tys⟩, hmem, heq⟩ := List.mem_map.1 hname
    cases heq
    exact bm_check_fails n a items s _ tys vals _ hc hmem (validateExact_len vals tys s hlen)
  · have h1 : validateOne p "number" s = (.err (.rt 82), s) := by
      unfold validateOne
      rw [getCell_bind _ hp]
      cases cp <;> first | rfl | exact absurd rfl (hnum _)
    have hv : validateExact [x, p] ["any", "number"] s = (.err (.rt 82), s) := by
      simp [validateExact, bind, validateOne_any hx, h1]
    rcases hname with rfl | rfl <;> exact bm_check_fails n a items s _ _ _ _ hc (by decide) hv
  · have hv : validateExact [x, p] ["any", "number"] s = (.ok (), s) := by
      simp [validateExact, bind, validateOne_any hx, validateOne_number hp, pure]
    rw [bm_insert n a items s name hname x p pv hc hp]
    simp only [bind, hv, insertCore, h]
    rfl
  · rw [(list_bridge_iv n a items s name idx 0 hc).1, h]; rfl
  · rw [(list_bridge_iv n a items s name idx v hc).2, h]; rfl
  · simp only [List.mem_cons, List.not_mem_nil, or_false, not_or] at hn
    obtain ⟨h1, h2, h3, h4, h5, h6⟩ := hn
    unfold getProperty
    rw [getCell_bind _ hc]
    simp only
    rfl

/-- C12's list laws read on the evaluator, for the storing methods and one call at a time: a successful 后增 / 前增 / 新增
leaves in the cell exactly the sequence the 1-indexed-sequence spec prescribes (`Seq.append`, `Seq.prepend`,
`Seq.insertAt`) for the copied element (`list_bridge_store_ok`, then the `_eq` lemmas of Proofs/Containers; histories of
list calls, C12's `list_refines_seq`, are not transferred). -/
theorem interp_list_refines_seq (x r : Addr) (s' : VM ν) (hc : s.heap[a]? = some (.arr items)) :
    (builtinMethod n a "后增" [x] s = (.ok r, s') →
      ∃ x' s1, dup n x s = (.ok x', s1) ∧ s' = { s1 with heap := s1.heap.set! a (.arr (Spec.Seq.append items x')) }) ∧
    (builtinMethod n a "前增" [x] s = (.ok r, s') →
      ∃ x' s1, dup n x s = (.ok x', s1) ∧ s' = { s1 with heap := s1.heap.set! a (.arr (Spec.Seq.prepend items x')) }) ∧
    (∀ name, name = "新增" ∨ name = "添加" → ∀ p pv, s.heap[p]? = some (.num pv) →
      builtinMethod n a name [x, p] s = (.ok r, s') →
      ∃ x' s1 items', dup n x s = (.ok x', s1) ∧ Spec.Seq.insertAt items (NumOps.toInt pv) x' = some items' ∧
        s' = { s1 with heap := s1.heap.set! a (.arr items') }) := by
  refine ⟨fun h => ?_, fun h => ?_, fun name hname p pv hp h => ?_⟩
  · obtain ⟨x', s1, items', hd, hop, _, hs', _⟩ := (list_bridge_store_ok n a items s x r s' hc).1 h
    rw [Proofs.Containers.arrayAppend_eq] at hop
    cases hop
    exact ⟨x', s1, hd, hs'⟩
  · obtain ⟨x', s1, items', hd, hop, _, hs', _⟩ := (list_bridge_store_ok n a items s x r s' hc).2.1 h
    rw [Proofs.Containers.arrayPrepend_eq] at hop
    cases hop
    exact ⟨x', s1, hd, hs'⟩
  · obtain ⟨x', s1, items', hd, hop, _, hs', _⟩ := (list_bridge_store_ok n a items s x r s' hc).2.2 name hname p pv hp h
    rw [Proofs.Containers.arrayInsert_eq] at hop
    cases hi : Spec.Seq.insertAt items (NumOps.toInt pv) x' with
    | none => rw [hi] at hop; cases hop
    | some l => rw [hi] at hop; cases hop; exact ⟨x', s1, _, hd, hi, hs'⟩

end lists

-- non-vacuity (toy numbers, `ofInt = toInt = id`): a list `[1, 2]` of cells at address 0, number cells 10, 20 and 1
open ZnVerif.Proofs.Toy in
def sL : VM Int := { heap := #[.arr [1, 2], .num 10, .num 20, .num 1, .str "k", .hm [("k", 1)] ["k"]] }
open ZnVerif.Proofs.Toy in
example : sL.heap[0]? = some (.arr [1, 2]) ∧ sL.heap[3]? = some (.num 1) := ⟨rfl, rfl⟩
open ZnVerif.Proofs.Toy in
example : builtinMethod 5 0 "后增" [1] sL =
    (.ok 0, { sL with heap := #[.arr [1, 2, 6], .num 10, .num 20, .num 1, .str "k", .hm [("k", 1)] ["k"], .num 10] }) := by rfl
open ZnVerif.Proofs.Toy in
example : builtinMethod 5 0 "新增" [1, 3] sL =
    (.ok 0, { sL with heap := #[.arr [1, 6, 2], .num 10, .num 20, .num 1, .str "k", .hm [("k", 1)] ["k"], .num 10] }) := by rfl
open ZnVerif.Proofs.Toy in
example : builtinMethod 5 0 "包含" [2] sL = (.ok 6, { sL with heap := sL.heap.push (.bool true) }) := by rfl
open ZnVerif.Proofs.Toy in
example : reduceRHS 5 (1, 0, "", 3) sL = (.err (.rt 40), sL) ∧ Containers.ivArrayRead [1, 2] 3 = .err 40 := ⟨rfl, rfl⟩

/-- `hmAppend` ↔ `appendKVPair`, `newHashMapCell` ↔ `newHashMap`: related arguments give related results; a literal
(duplicate keys included) gives a cell with the invariant whose association list is the spec's `OrderedMap.ofList`. -/
theorem dict_bridge_build :
    (∀ {vals order} {hm : HashMap Addr}, Rhm vals order hm → ∀ k v,
      Rhm (hmAppend vals order k v).1 (hmAppend vals order k v).2 (Containers.appendKVPair hm k v)) ∧
    (∀ kvs : List (String × Addr), ∃ vals order, (newHashMapCell kvs : Cell ν) = .hm vals order ∧ dictWF vals order ∧
      Rhm vals order (Containers.newHashMap kvs) ∧ vals = Spec.OrderedMap.ofList kvs) :=
  ⟨fun h k v => hmAppend_bridge h k v, fun kvs => newHashMapCell_spec kvs⟩

/-- The removal: the evaluator erases with `assocErase` / `List.erase`; (C) runs the Go loop that edits `keyOrder` in place
while ranging over it.  Under (C)'s invariant `keyOrder.Nodup` (and one entry per key) they agree: same value answered,
(C)'s loop yields exactly `order.erase k`, the new contents are related. -/
theorem dict_bridge_erase {vals : List (String × Addr)} {order : List String} {hm : HashMap Addr} (h : Rhm vals order hm)
    (hwf : dictWF vals order) (k : String) (v : Addr) (hl : lookup k vals = some v) :
    Containers.deleteLoop hm.keyOrder k = .ok (order.erase k) ∧
    ∃ hm', Containers.hmDelete hm k = .ok (some v, hm') ∧ Rhm (assocErase k vals) (order.erase k) hm' := by
  exact ⟨by rw [Proofs.Containers.deleteLoop_eq_erase _ _ (h.order ▸ hwf.2), h.order], erase_bridge h hwf k v hl⟩

section dicts
variable (n : Nat) (a : Addr) (vals : List (String × Addr)) (order : List String) (s : VM ν)

/-- 读取 with its key chain: `Containers.hmGet` (`sub` = lookup in the dictionary cell at an address): the receiver
itself without keys, the value found, a new 空 when a key is missing or a value on the way is no dictionary. -/
theorem dict_bridge_get {hm : HashMap Addr} (hR : Rhm vals order hm) (ks : List Addr) (keys : List String)
    (hc : s.heap[a]? = some (.hm vals order)) (hks : KeysAt s ks keys) (hcl : DictClosed s) :
    builtinMethod n a "读取" ks s = answerGet a (Containers.hmGet (subOf s) hm keys) s := by
  unfold builtinMethod
  rw [getCell_bind _ hc]
  refine (bind_same_ok (validateAll_same _ _) (congrArg Prod.fst (validateAll_keys hks))).trans ?_
  cases hks with
  | nil => rfl
  | cons hk rest =>
    unfold builtinMethod.goGet Containers.hmGet
    rw [getCell_bind _ hk]
    refine (getCell_bind _ hc).trans ?_
    dsimp only
    rw [← hR.get]
    cases hl : lookup _ vals with
    | none => rfl
    | some v => exact goGet_chain a hcl rest v (hcl a vals order hc _ v hl)

/-- 写入, from a successful run: the stored value is the `dup` result `v'`, the new contents are related to
`Containers.hmSet hm key v'`, the answer is the argument (as `hmSet` answers it), the invariant is kept. -/
theorem dict_bridge_set {hm : HashMap Addr} (hR : Rhm vals order hm) (k v : Addr) (key : String) (r : Addr) (s' : VM ν)
    (hc : s.heap[a]? = some (.hm vals order)) (hk : s.heap[k]? = some (.str key))
    (h : builtinMethod n a "写入" [k, v] s = (.ok r, s')) :
    ∃ v' s1 vals' order', dup n v s = (.ok v', s1) ∧ a < s1.heap.size ∧
      s' = { s1 with heap := s1.heap.set! a (.hm vals' order') } ∧
      Rhm vals' order' (Containers.hmSet hm key v').1 ∧ r = (Containers.hmSet hm key v).2 ∧
      (dictWF vals order → dictWF vals' order') := by
  obtain ⟨v', s1, hd, hlt, hs', hr⟩ := bm_hm_set_ok n a vals order s k v key r s' hc hk h
  exact ⟨v', s1, _, _, hd, hlt, hs', hmAppend_bridge hR key v', hr, hmAppend_wf key v'⟩

/-- 移除: (C)'s `hmDelete` on a related map decides the evaluator's run — present key: same value answered, new contents
related, invariant kept; absent key: a new 空, nothing changed; (C) does not panic. -/
theorem dict_bridge_delete {hm : HashMap Addr} (hR : Rhm vals order hm) (hwf : dictWF vals order) (k : Addr) (key : String)
    (hc : s.heap[a]? = some (.hm vals order)) (hk : s.heap[k]? = some (.str key)) :
    match Containers.hmDelete hm key with
    | .ok (some v, hm') => ∃ vals' order',
        builtinMethod n a "移除" [k] s = (.ok v, { s with heap := s.heap.set! a (.hm vals' order') }) ∧
        Rhm vals' order' hm' ∧ dictWF vals' order'
    | .ok (none, hm') => hm' = hm ∧ builtinMethod n a "移除" [k] s = newNull s
    | _ => False := by
  rw [bm_hm_remove n a vals order s k key hc hk]
  cases hl : lookup key vals with
  | none =>
    rw [erase_absent_bridge hR key hl]
    exact ⟨rfl, rfl⟩
  | some v =>
    obtain ⟨hm', hd, hR'⟩ := erase_bridge hR hwf key v hl
    rw [hd]
    exact ⟨_, _, rfl, hR', erase_wf key hwf⟩

theorem dict_bridge_getters {hm : HashMap Addr} (hR : Rhm vals order hm) (hwf : dictWF vals order) (hinv : Inv hm)
    (hc : s.heap[a]? = some (.hm vals order)) :
    getProperty n a "长度" s = newNum (NumOps.ofInt (Containers.hmLength hm)) s ∧
    getProperty n a "数目" s = newNum (NumOps.ofInt (Containers.hmLength hm)) s ∧
    getProperty n a "所有索引" s = (do let ks ← (Containers.hmAllIndexes hm).mapM newStr; alloc (.arr ks)) s ∧
    (∃ vs, Containers.hmAllValues hm = vs.map some ∧ getProperty n a "所有值" s = alloc (.arr vs) s) := by
  -- the evaluator counts the association list, (C) the Go map: equal under the invariants
  have hlen : Containers.hmLength hm = vals.length := by
    have hk := congrArg List.length (Proofs.Containers.keys_abs hinv)
    rw [Proofs.Containers.length_abs hinv, ← hR.order, ← hwf.1] at *
    simpa [Spec.OrderedMap.keys, Spec.OrderedMap.size] using hk
  have hkeys : (vals.map Prod.fst).Nodup := by rw [hwf.1]; exact hwf.2
  -- under the invariant every listed key has a value
  have hvs : order.map (fun k => lookup k vals) = (vals.map Prod.snd).map some := by
    rw [← hwf.1, List.map_map, List.map_map]
    exact List.map_congr_left fun p hp => Model.lookup_of_mem_nodup vals hkeys p.1 p.2 hp
  unfold Containers.hmAllIndexes Containers.hmAllValues getProperty
  rw [hlen, ← hR.order]
  refine ⟨?_, ?_, ?_, vals.map Prod.snd, ?_, ?_⟩ <;> try rw [getCell_bind _ hc]
  · rfl
  · rfl
  · rfl
  · rw [← hvs]
    exact List.map_congr_left fun k _ => (hR.get k).symm
  · show (order.mapM (valueAt vals) >>= fun vs => alloc (.arr vs)) s = _
    simp only [bind, valueAt_mapM vals s order _ hvs]

/-- `D#k` (missing key: IndexKeyNotFound 41) and `D#k = v`. -/
theorem dict_bridge_iv {hm : HashMap Addr} (hR : Rhm vals order hm) (key : String) (idx : Int) (v : Addr)
    (hc : s.heap[a]? = some (.hm vals order)) :
    reduceRHS n (2, a, key, idx) s = liftC (Containers.ivMapRead hm key) s ∧
    ∃ vals' order', reduceLHS (2, a, key, idx) v s = setCell a (.hm vals' order') s ∧
      Rhm vals' order' (Containers.ivMapWrite hm key v) ∧ (dictWF vals order → dictWF vals' order') := by
  refine ⟨?_, _, _, lhs_hm a vals order s key idx v hc, hmAppend_bridge hR key v, hmAppend_wf key v⟩
  unfold Containers.ivMapRead
  rw [← hR.get]
  refine (getCell_bind _ hc).trans ?_
  dsimp only
  cases lookup key vals <;> rfl

/-- Error codes: 46 for a name that is no dictionary method, 53 for a wrong number of arguments to 写入 / 移除. -/
theorem dict_bridge_errors (hc : s.heap[a]? = some (.hm vals order)) :
    (∀ name args, name ∉ ["读取", "写入", "移除"] → builtinMethod n a name args s = (.err (.rt 46), s)) ∧
    (∀ name k args, (name, k) ∈ [("写入", 2), ("移除", 1)] → args.length ≠ k →
      builtinMethod n a name args s = (.err (.rt 53), s)) := by
  unfold builtinMethod
  refine ⟨fun name args hn => ?_, fun name k args hname hlen => ?_⟩ <;> rw [getCell_bind _ hc]
  · simp only [List.mem_cons, List.not_mem_nil, or_false, not_or] at hn
    obtain ⟨h1, h2, h3⟩ := hn
    simp only
    rfl
  · simp only [List.mem_cons, Prod.mk.injEq, List.not_mem_nil, or_false] at hname
    rcases hname with ⟨rfl, rfl⟩ | ⟨rfl, rfl⟩ <;> exact Proofs.Calls.bind_err (validateExact_len args _ s hlen)

/-- **interp_hm_inv_preserved**: every evaluator operation on a dictionary cell — any method call (any name, any
arguments), `D#k = v` / property assignment, `D#k` / property reads — whatever its outcome, leaves in that cell a
dictionary with the invariant `vals.map fst = order ∧ order.Nodup`, which is (C)'s `Inv` (C12 `hm_inv`) on the cell read
as a `Containers.HashMap`. -/
theorem interp_hm_inv_preserved (hc : s.heap[a]? = some (.hm vals order)) (hwf : dictWF vals order) :
    Inv (toC vals order) ∧
    (∀ name args r s', builtinMethod n a name args s = (r, s') → KW a s s') ∧
    (∀ kind key idx v r s', reduceLHS (kind, a, key, idx) v s = (r, s') → KW a s s') ∧
    (∀ kind key idx r s', reduceRHS n (kind, a, key, idx) s = (r, s') → KW a s s') ∧
    (∀ name r s', getProperty n a name s = (r, s') → KW a s s') :=
  ⟨inv_of_dictWF hwf,
   fun name args r s' h => bm_hm_keeps n a name args vals order s s' r hc hwf h,
   fun kind key idx v r s' h => lhs_hm_keeps a kind key idx v vals order s s' r hc hwf h,
   fun kind key idx r s' h => (Pres.ofLeaf : Pres (KW a) (reduceRHS n (kind, a, key, idx))).run s r s' h,
   fun name r s' h => (Pres.ofLeaf : Pres (KW a) (getProperty n a name)).run s r s' h⟩

end dicts

/-- **interp_dict_refines_ordered_map**: for a dictionary cell with the invariant, every history of the evaluator's
dictionary operations (pure core `dictRunI`: `hmAppend`, `assocErase`/`erase`, `lookup` exactly as `builtinMethod` and
`reduceLHS/RHS` use them — see `dict_core_is_evaluator`): after every operation the answer and the cell's association list
are those of the insertion-ordered map (the step lemma of C12's `dict_refines_ordered_map`, `dictStep_spec`, transferred
through `Rhm`), everything (C)
observes of the cell is what the spec shows, and the invariant holds in every state on the way. -/
theorem interp_dict_refines_ordered_map (sub : Addr → String → Option Addr) (st : DictSt) (hwf : dictWF st.1 st.2)
    (ops : List (DictOp Addr)) :
    (dictRunI sub st ops).map (fun p => (p.1, p.2.1)) = Spec.CollHistory.dictRun sub st.1 ops ∧
    (∀ p ∈ dictRunI sub st ops, dictWF p.2.1 p.2.2 ∧
      Containers.observe (toC p.2.1 p.2.2) = Proofs.Containers.specObs p.2.1) ∧
    Containers.observe (toC st.1 st.2) = Proofs.Containers.specObs st.1 := by
  have hobs : ∀ vals order, dictWF vals order →
      Containers.observe (toC vals order) = Proofs.Containers.specObs vals := by
    intro vals order h
    rw [Proofs.Containers.observe_abs (inv_of_dictWF h), abs_eq_vals (Rhm_toC vals order) h]
  obtain ⟨h1, h2⟩ := dictRunI_spec sub ops st hwf
  exact ⟨h1, fun p hp => ⟨h2 p hp, hobs _ _ (h2 p hp)⟩, hobs _ _ hwf⟩

/-- the steps of `dictRunI` are what the evaluator's operations do to the cell: 写入 (on the copy), 移除, `D#k = v` store
`(dictStepI … op).1`; 移除 and `D#k` answer `(dictStepI … op).2` read as a value (`.elem v` ↦ `v`, `.null` ↦ a new 空, `.err c` ↦
runtime error `c`); 写入 answers its argument `v`, while the `.elem` of its step holds the stored copy `v'` -/
theorem dict_core_is_evaluator (n : Nat) (a : Addr) (vals : List (String × Addr)) (order : List String) (s : VM ν)
    (sub : Addr → String → Option Addr) (hc : s.heap[a]? = some (.hm vals order)) (k : Addr) (key : String)
    (hk : s.heap[k]? = some (.str key)) :
    (∀ v, builtinMethod n a "写入" [k, v] s =
      (do validateExact [k, v] ["string", "any"]
          let v' ← dup n v
          setCell a (.hm (dictStepI sub (vals, order) (.set key v')).1.1 (dictStepI sub (vals, order) (.set key v')).1.2)
          pure v) s) ∧
    (∀ v, lookup key vals = some v →
      builtinMethod n a "移除" [k] s =
        (.ok v, { s with heap := s.heap.set! a (.hm (dictStepI sub (vals, order) (.delete key)).1.1
                                                   (dictStepI sub (vals, order) (.delete key)).1.2) }) ∧
      (dictStepI sub (vals, order) (.delete key)).2 = .elem v) ∧
    (lookup key vals = none →
      builtinMethod n a "移除" [k] s = newNull s ∧ dictStepI sub (vals, order) (.delete key) = ((vals, order), .null)) ∧
    (∀ idx v, reduceLHS (2, a, key, idx) v s =
      setCell a (.hm (dictStepI sub (vals, order) (.ivWrite key v)).1.1
                     (dictStepI sub (vals, order) (.ivWrite key v)).1.2) s) ∧
    (∀ idx, reduceRHS n (2, a, key, idx) s =
      (match (dictStepI sub (vals, order) (.ivRead key)).2 with
       | .elem v => (.ok v, s)
       | .err c => (.err (.rt c), s)
       | _ => (.panic, s))) := by
  have hrm := bm_hm_remove n a vals order s k key hc hk
  refine ⟨fun v => bm_hm_set n a vals order s k v key hc hk, fun v hl => ?_, fun hl => ?_,
    fun idx v => lhs_hm a vals order s key idx v hc, fun idx => ?_⟩
  · rw [hl] at hrm
    simp only [dictStepI, hl]
    exact ⟨hrm, trivial⟩
  · rw [hl] at hrm
    simp only [dictStepI, hl]
    exact ⟨hrm, trivial⟩
  · rw [(dict_bridge_iv n a vals order s (Rhm_toC vals order) key idx 0 hc).1]
    simp only [dictStepI, Containers.ivMapRead, ← (Rhm_toC vals order).get key]
    cases lookup key vals <;> rfl

/-- **interp_dict_history** (monadic level): any sequence of successful evaluator calls that mutate the dictionary cell `a`
— 写入, 移除, `D#k = v`, interleaved with arbitrary steps that leave the cell alone (`DictCalls`; `ops` records the key
texts and the values actually stored, for 写入 the `dup` result) — from a cell with the invariant: at the end the cell holds
a dictionary with the invariant whose association list is the insertion-ordered map after `ops`.  (`sub` plays no part: only 读取
looks below the receiver, and `DictCalls` records no 读取; the parameter is there because `omapAfter` folds `CollHistory.dictStep`.) -/
theorem interp_dict_history (sub : Addr → String → Option Addr) (n : Nat) (a : Addr) {s s' : VM ν} {ops : List (DictOp Addr)}
    (h : DictCalls n a s ops s') (vals : List (String × Addr)) (order : List String)
    (hc : s.heap[a]? = some (.hm vals order)) (hwf : dictWF vals order) :
    ∃ order', s'.heap[a]? = some (.hm (omapAfter sub vals ops) order') ∧ dictWF (omapAfter sub vals ops) order' :=
  dictCalls_spec sub n a h vals order hc hwf

-- non-vacuity: 写入 (the copy of cell 2 lands at address 6) then 移除 on the dictionary cell of `sL`
open ZnVerif.Proofs.Toy in
example : ∃ s', DictCalls 5 5 sL [.set "k" 6, .delete "k"] s' :=
  ⟨_, .set (k := 4) (v := 2) (key := "k") rfl rfl rfl (.delete (k := 4) (key := "k") rfl rfl (.done _))⟩

-- non-vacuity: the dictionary cell `{k: 1}` at address 5 of `sL`
open ZnVerif.Proofs.Toy in
example : sL.heap[5]? = some (.hm [("k", 1)] ["k"]) ∧ dictWF [("k", (1 : Addr))] ["k"] ∧
    Rhm [("k", 1)] ["k"] (toC [("k", 1)] ["k"]) := ⟨rfl, by decide, Rhm_toC _ _⟩
open ZnVerif.Proofs.Toy in
example : builtinMethod 5 5 "移除" [4] sL =
    (.ok 1, { sL with heap := #[.arr [1, 2], .num 10, .num 20, .num 1, .str "k", .hm [] []] }) ∧
    Containers.hmDelete (toC [("k", 1)] ["k"]) "k" = .ok (some 1, ⟨[], []⟩) := ⟨rfl, rfl⟩
open ZnVerif.Proofs.Toy in
example : builtinMethod 5 5 "写入" [4, 2] sL =
    (.ok 2, { sL with heap := #[.arr [1, 2], .num 10, .num 20, .num 1, .str "k", .hm [("k", 6)] ["k"], .num 20] }) := by rfl
example : (dictRunI (fun _ _ => none) ([("a", 1), ("b", 2)], ["a", "b"])
    [.delete "a", .ivWrite "a" 7, .set "b" 8, .ivRead "z"]).map (fun p => (p.1, p.2.1)) =
    [(.elem 1, [("b", 2)]), (.unit, [("b", 2), ("a", 7)]), (.elem 8, [("b", 8), ("a", 7)]),
     (.err 41, [("b", 8), ("a", 7)])] := by decide

end ZnVerif.Properties.Bridges
