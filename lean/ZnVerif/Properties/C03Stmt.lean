/-
C03, statements and blocks — "the program's structure is determined by its tokens and indentation".

The token-level round trip of Properties/C03.lean (`parse_tokens_roundtrip_partial`: expressions on one line) extended to
statements, blocks, declarations and whole programs, WITH the layout: lines, indentation, statement line breaks.

Spec (Spec/StmtSyntax.lean): a `Layout Y` (the lexer's line table + the position of EOF), `layoutOps Y` (the token-level lexer that
hands out a token list read against `Y`: a token's line is `FindLineIdx` of its `StartIdx` in `Y.lines`), and the rendering
relations `LinE` (expressions — operators, assignments, member / index chains, calls, 新建, method-call chains, list and dictionary
literals, a `，` after an operand — with the lines the parser stores), `LinStmt s d ts`, `LinBlock ss d ts`, `LinExec x d ts`,
`LinProgram p ts` (`d` = indentation of the node's lines).  The layout discipline is three predicates of the spec: `Glued` (no
statement line break inside a simple statement / a header), `Sep` (a statement line break between consecutive statements) and
`Y.ind … = d` (first tokens of statements, `：`/`？` of headers, 再如/否则/拦截 on lines indented by `d`; the block one step deeper).

The invariant (Proofs/StmtBase.lean, stated once): every parser state reached on a token list read against `Y` is
`S Y p1 ts fl` — last consumed token, remaining tokens, statement-complete flag; the four line fields of the Go parser are functions
of the two window tokens (this is where `InOrder` is needed: `next()` searches the line table from the previous position on);
consuming `t` when `u` follows turns the flag into `fl || Y.brk t u`.  A statement production enters with any flag (it resets it) and
leaves in `S Y (last token) rest true` — a simple statement that is followed by `；` on its line leaves with the flag as the layout
makes it (`CSimple`), and the `；` makes the statement complete; `expectBlockIndent` compares the indentation of the lines of the two
window tokens.  The proofs speak of moves between such states — `Walk Y g s ts s'`: `s'` is `s` advanced over the tokens `ts`
(Proofs/StmtCursor.lean) —; the theorems below say what they give on `S Y p1 (ts ++ rest) fl`.

What `line` fields hold: a statement node the line (`Y.sl`) of its FIRST token (令 如果 每当 遍历 以 输出 抛出 如何 定义 结束循环 继续循环);
an identifier the line of its token; a binary expression the line of its operator token; `{ e }` puts the line of `{` on the top
node of `e` (so do `（`, `【`, 以 for calls, literals, method calls); `x 之 p` and `其 p` hold the line of the member-name token `p`, `x # i` the line of `#`; the calls of a
method-call chain hold line 0; methods and getters inside a 定义 and the empty statement of a `；` hold line 0 (the Go code never sets
them); a 导入 node holds the line of its 导入 token (`ParseProgram`: `setStmtCurrentLine(stmt, tk)`;
`import_lines_recorded`); an expression statement is the expression (`以 x（m）` as a statement: the line of 以).

Variants: every theorem here holds for every `Variant` `v` of the parser model — in particular for `Variant.legacy` (the pinned Go
tree) and `Variant.fixed` (the repaired one): on a rendering none of the repaired places the variant switches is reached (statement
after a 拦截 block, 如果 at end of input, error builder without current token, position of the left-over-token error and of the
error for a body that ends in its 输入 section).  The line of
a 导入 node is not under the variant (Model/Parser.lean, header): every variant records it.

Fuel: `16 * (number of tokens) + c` (`c` = 20 for a statement, 23 for a block, 48 for a body, 52 for a program) — linear in the input.
-/
import ZnVerif.Proofs.StmtMain
import ZnVerif.Proofs.StmtOnStates
import ZnVerif.Proofs.StmtSamples
import ZnVerif.Proofs.CmtSim

namespace ZnVerif.Properties.C03
open ZnVerif.Model ZnVerif.Model.Parser ZnVerif.Generated.Tokens ZnVerif.Generated.ParserTables
open ZnVerif.Spec.StmtSyntax ZnVerif.Proofs.StmtRT ZnVerif.Proofs.CmtSim

variable {Y : Layout} (v : Variant)

/-- **parse_expression_roundtrip_layout**: `parse_tokens_roundtrip_partial` with layout and in context.  A rendering `ts` of the
expression `e` (any operator synonym, braces anywhere), laid out over any number of lines as long as no statement line break falls
inside (`Glued`: line breaks only after `， 、 { 【 ： ？` or before `】 }` — `linebreak_exceptions`), followed by tokens `rest` that do not
continue an expression (a statement line break, or a token outside the follow set `F1`; never a comma: a comma after the
expression belongs to its rendering), parses to exactly `e` — line fields as
`LinE` says — and leaves the parser right after `ts`. -/
theorem parse_expression_roundtrip_layout {e : Expr} {ts : List Token} (h : LinE Y 1 e ts) (hg : Y.Glued ts)
    (p1 : Option Token) (rest : List Token) (ho : Y.InOrder (ts ++ rest)) (hs : Stop Y F1 ts rest) (n : Nat)
    (hn : 16 * ts.length + 16 ≤ n) :
    parse v (layoutOps Y) n (.expr true) (S Y p1 (ts ++ rest) false) = .ok e (Send Y ts rest) :=
  expr_roundtrip h hg p1 rest ho hs n hn

/-- **parse_simple_statement_roundtrip** (level 1: expression statement — calls `（显示：…）`, assignments, … —, `以 x（m：a）、（n）` as a
statement, `令 a、b 设为/恒为/= e`, `输出 e`, `抛出 类：e、…！`, 结束循环, 继续循环 — `LinSimple`).  `ParseStatement` on a rendering of such a
statement, in any state (any flag, any previous token), followed by anything that a statement line break separates from it and that is not a comma, returns exactly that statement and leaves the
parser right after it with the statement marked complete.  Indentation plays no part at this level. -/
theorem parse_simple_statement_roundtrip {s : Stmt} {ts : List Token} (h : LinSimple Y s ts)
    (p1 : Option Token) (rest : List Token) (fl : Bool) (ho : Y.InOrder (ts ++ rest))
    (hb : Y.jf ts.getLast? (Y.peek rest) = true) (hc : (Y.peek rest).type ≠ cTypeCommaSep) (n : Nat)
    (hn : 16 * ts.length + 20 ≤ n) :
    parse v (layoutOps Y) n .statement (S Y p1 (ts ++ rest) fl) = .ok s (S Y ts.getLast? rest true) :=
  -- the claim of a simple statement does not look at the indentation: render it one step deeper than what follows
  have C := linN_claim (v := v) (.simple (Y.ind (Y.peek rest) + 1) s ts h)
  C.2.last C.1.ne p1 rest fl ho ⟨hb, hc, Or.inr (Or.inl (Nat.lt_succ_self _))⟩ n hn

/-- **parse_simple_statement_semicolon**: the same when a `；` follows instead of a statement line break (`a；b` on one line): the
statement is complete because of the `；`, the flag is what the layout makes it.  (The `；` itself then is an empty statement —
`LinN.blockEmpty`, `LinN.blockConsSemi` — with line 0.) -/
theorem parse_simple_statement_semicolon {s : Stmt} {ts : List Token} (h : LinSimple Y s ts)
    (p1 : Option Token) (rest : List Token) (fl : Bool) (ho : Y.InOrder (ts ++ rest))
    (hsemi : (Y.peek rest).type = cTypeStmtSep) (n : Nat) (hn : 16 * ts.length + 20 ≤ n) :
    parse v (layoutOps Y) n .statement (S Y p1 (ts ++ rest) fl) =
      .ok s (S Y ts.getLast? rest (Y.jf ts.getLast? (Y.peek rest))) :=
  have C := linSimple_claim (v := v) h
  C.2.last C.1.ne p1 rest fl ho (by rw [hsemi]; decide) (Or.inr hsemi) n hn

/-- **parse_statement_roundtrip** (levels 1–3: every statement form of `LinStmt`, blocks nested to any depth).
`ParseStatement` on a rendering of the statement `s` whose lines are indented by `d`, in any state, followed by `rest` such that
`After Y d (last token) rest` — a statement line break, then the end of input, or a line indented less than `d`, or a line
indented by `d` that does not start with 再如 / 否则; never a comma — returns exactly `s` (lines as the header says), having consumed
exactly the rendering, with the statement marked complete. -/
theorem parse_statement_roundtrip {s : Stmt} {d : Nat} {ts : List Token} (h : LinStmt Y s d ts)
    (p1 : Option Token) (rest : List Token) (fl : Bool) (ho : Y.InOrder (ts ++ rest)) (ha : After Y d ts.getLast? rest) (n : Nat)
    (hn : 16 * ts.length + 20 ≤ n) :
    parse v (layoutOps Y) n .statement (S Y p1 (ts ++ rest) fl) = .ok s (S Y ts.getLast? rest true) :=
  have C := linN_claim (v := v) h
  C.2.last C.1.ne p1 rest fl ho ha n hn

/-- **parse_block_roundtrip** (level 2).  `ParseBlockStmt` for indentation `d` on a rendering of the statements `ss` (each on
its own run of lines starting on a line indented by `d`, separated by statement line breaks, nested blocks one step deeper),
followed by the end of input or a line indented less than `d`, returns exactly `ss`. -/
theorem parse_block_roundtrip {ss : List Stmt} {d : Nat} {ts : List Token} (h : LinBlock Y ss d ts) (hne : ts ≠ [])
    (p1 : Option Token) (rest : List Token) (fl : Bool) (ho : Y.InOrder (ts ++ rest)) (ha : AfterB Y d ts.getLast? rest) (n : Nat)
    (hn : 16 * ts.length + 23 ≤ n) :
    parse v (layoutOps Y) n (.block d) (S Y p1 (ts ++ rest) fl) = .ok ss (S Y ts.getLast? rest true) := by
  obtain ⟨m, rfl⟩ : ∃ m, n = m + 1 := ⟨n - 1, by omega⟩
  exact block_run (linN_claim (v := v) h).2.2 [] (walk_of_brk hne p1 rest fl ho ha.brk) (fun _ => rfl) ⟨ha.nc, ha.dedent⟩ m (by omega)

/-- **parse_body_roundtrip** (level 3: the body of 如何 / 何为 / 如何新建, and of the program).  `ParseExecBlock` on a rendering of
`输入 a、b` (optional), statements, `拦截 类：` handlers (each with its block), all indented by `d`, returns exactly that body. -/
theorem parse_body_roundtrip {x : ExecBlock} {d : Nat} {ts : List Token} (h : LinExec Y x d ts)
    (p1 : Option Token) (rest : List Token) (ho : Y.InOrder (ts ++ rest)) (ha : AfterB Y d ts.getLast? rest) (n : Nat)
    (hn : 16 * ts.length + 48 ≤ n) :
    parse v (layoutOps Y) n (.execBlock d) (S Y p1 (ts ++ rest) false) = .ok x (S Y ts.getLast? rest true) :=
  have C := linN_claim (v := v) h
  C.2.2.last C.1 p1 rest ho ha n hn

/-- **parse_statements_roundtrip** (level 4).  Every rendering of a program — 导入 statements (each with any number of `；` after it on
its line: ‹导入语句› [‹间隔符› ‹导入语句›]*), 输入 line, statements (simple ones,
`令：` with its pairs, 如果/再如/否则, 每当, 遍历 with 0, 1, 2 names, 如何 / 如何新建 with 输入 lines and 拦截 handlers, 定义 with 其 properties,
methods and 何为 getters, all nested to any depth), then 拦截 handlers — read against any layout in which the tokens come in reading order, parses, for every fuel from
`16 * tokens + 52` on, to exactly that program. -/
theorem parse_statements_roundtrip {p : Program} {ts : List Token} (h : LinProgram Y p ts) (ho : Y.InOrder ts) (n : Nat)
    (hn : 16 * ts.length + 52 ≤ n) : parseLaidOut v Y n ts = .tree p := by
  obtain ⟨m, rfl⟩ : ∃ m, n = m + 4 := ⟨n - 4, by omega⟩
  -- `ParseProgram` is its loop, entered with the indentation of the first line; the loop ends at the end of the text
  have hprog : ∀ (d : Nat) (s' : PState (List Token)), Y.ind (Y.peek ts) = d → s'.p2.type = cTypeEOF →
      parse v (layoutOps Y) (m + 3) (.programLoop d false [] none) (S Y none ts false) = .ok p s' →
      parseLaidOut v Y (m + 4) ts = .tree p := by
    intro d s' hd hend hloop
    unfold parseLaidOut parseAST
    rw [initState_S (m + 3) ts ho]
    dsimp only
    have : parse v (layoutOps Y) (m + 4) .program (S Y none ts false) = .ok p s' := by
      refine andThen (getS_S _) ?_
      rw [peekIndentOf_S, hd]
      exact hloop
    rw [this]
    dsimp only
    rw [if_neg (fun h => h hend)]
  have hend : ∀ (d : Nat) (s : PState (List Token)) (ims : List Import) (k : Nat), s.p2.type = cTypeEOF →
      parse v (layoutOps Y) (k + 1) (.programLoop d false ims none) s = .ok { imports := ims, exec := none } s := by
    intro d s ims k he
    refine andThen (getS_S _) ?_
    rw [if_neg (by simp [blockCond, he])]
    rfl
  -- the move over the whole text, from the first state to the end of input
  have hw : ts ≠ [] → Walk Y false (S Y none ts false) ts (Send Y ts []) := fun hne => by
    have := walk_of hne none [] false (by rwa [List.append_nil])
    rwa [List.append_nil] at this
  cases h with
  | empty => exact hprog _ (S Y none [] false) rfl rfl (hend _ _ [] (m + 2) rfl)
  | body d x ts hx =>
    exact hprog d _ (linN_claim (v := v) hx).2.1.2 rfl (programLoop_exec hx [] (hw (linN_claim (v := v) hx).1) rfl m (by omega))
  | importsOnly d ims _ hne hi =>
    refine hprog d (Send Y ts []) (linImports_heads hi hne).2 rfl ?_
    have := imports_roundtrip (v := v) hi _ _ [] _ 1 (hw hne) (by show cTypeEOF ∈ afterImport; decide)
      (fun h => absurd (show cTypeEOF = cTypeStmtSep from h) (by decide)) (fun k hk => by
        obtain ⟨k, rfl⟩ : ∃ j, k = j + 1 := ⟨k - 1, by omega⟩
        exact hend d _ ([] ++ ims) k rfl) (m + 3) (by omega)
    exact this
  | importsBody d ims ti x tx hne hi hx hsemi =>
    have hxc := linN_claim (v := v) hx
    simp only [List.length_append] at hn
    obtain ⟨s1, hw1, hw2⟩ := (hw (by simp [hne])).append
    obtain ⟨hp, _⟩ := hw2.peek hxc.1
    refine hprog d (Send Y (ti ++ tx) []) (by rw [peek_append hne]; exact (linImports_heads hi hne).2) rfl ?_
    refine imports_roundtrip (v := v) hi _ s1 [] _ (16 * tx.length + 50) hw1 (hp ▸ execHeads_afterImport _ hxc.2.1.1)
      (fun h => by rw [hw1.flag hne, hp]; exact hsemi (hp ▸ h)) (fun k hk => ?_) (m + 3) (by omega)
    obtain ⟨k, rfl⟩ : ∃ j, k = j + 3 := ⟨k - 3, by omega⟩
    exact programLoop_exec hx _ hw2 rfl k (by omega)

/-- **import_lines_recorded**: a program that opens with 导入 statements (rendered by `ti`, body rendered by `tx`) parses to the tree
whose import nodes carry, in order, the lines of the 导入 tokens of `ti` (`importKws ti`: the tokens of type 导入 — a rendered import
holds exactly one, its first) — wherever those lines are: after blank lines, comment lines, or on one line together, with or
without `；` after them (`hsemi`: a body that starts with `；` does so on a later line — a `；` on the line of the last import is part of
`ti`). -/
theorem import_lines_recorded {d : Nat} {ims : List Import} {ti : List Token} {x : ExecBlock} {tx : List Token} (hne : ti ≠ [])
    (hi : LinImports Y d ims ti) (hx : LinN Y d (.exec x) tx)
    (hsemi : (Y.peek tx).type = cTypeStmtSep → Y.jf ti.getLast? (Y.peek tx) = true) (ho : Y.InOrder (ti ++ tx)) (n : Nat)
    (hn : 16 * (ti ++ tx).length + 52 ≤ n) :
    parseLaidOut v Y n (ti ++ tx) = .tree { imports := ims, exec := some x } ∧
      ims.map (·.line) = (importKws ti).map Y.sl :=
  ⟨parse_statements_roundtrip v (.importsBody d ims ti x tx hne hi hx hsemi) ho n hn, linImports_lines hi⟩

/-- **rendering_unambiguous**: tokens and layout determine the tree — a token list read against a layout renders at most one
program (whatever `LinProgram` derivations exist, they end in the tree the parser builds). -/
theorem rendering_unambiguous {p p' : Program} {ts : List Token} (h : LinProgram Y p ts) (h' : LinProgram Y p' ts)
    (ho : Y.InOrder ts) : p = p' := by
  have e := parse_statements_roundtrip Variant.fixed h ho _ (Nat.le_refl _)
  rw [parse_statements_roundtrip Variant.fixed h' ho _ (Nat.le_refl _)] at e
  exact (Outcome.tree.inj e).symm

/-- **comments_are_invisible**: for ANY token list (not only renderings), whatever `Parser.Parse` answers on the list without its
comment tokens — a tree, a syntax error, another error — it answers on the list with them, given one more unit of fuel per token
(`next()` drops comments one by one).  Proved by a simulation through all 45 productions (Proofs/ParserSimStep.lean, Proofs/CmtSim*.lean). -/
theorem comments_are_invisible (Y : Layout) (raw : List Token) (n : Nat) :
    (match parseLaidOut v Y n (clean raw) with
     | .outOfFuel => True
     | .tree t => parseLaidOut v Y (n + raw.length) raw = .tree t
     | .synErr e => parseLaidOut v Y (n + raw.length) raw = .synErr e
     | .otherErr => parseLaidOut v Y (n + raw.length) raw = .otherErr) :=
  parseLaidOut_comments v Y raw n

/-- **parse_statements_roundtrip_comments**: `parse_statements_roundtrip` with comment tokens anywhere in the token list — before
the first token, between any two tokens (also inside expressions and headers), after the last one.  `clean raw` is `raw` without
its comment tokens; the rendering conditions (`LinProgram`, `InOrder`) are about `clean raw`, i.e. comments do not count for line
breaks or indentation (a line that holds only a comment is no line of the program). -/
theorem parse_statements_roundtrip_comments {p : Program} {raw : List Token} (h : LinProgram Y p (clean raw))
    (ho : Y.InOrder (clean raw)) (n : Nat) (hn : 16 * (clean raw).length + 52 + raw.length ≤ n) :
    parseLaidOut v Y n raw = .tree p := by
  obtain ⟨m, rfl⟩ : ∃ m, n = m + raw.length := ⟨n - raw.length, by omega⟩
  exact parseLaidOut_comments_tree v Y raw m p (parse_statements_roundtrip v h ho m (by omega))

/-- the one-line token lexer of `parse_tokens_roundtrip_partial` is the special case of a layout with a single line -/
theorem parseTokens_is_laidOut (n : Nat) (ts : List Token) : parseTokens v n ts = parseLaidOut v oneLine n ts := rfl

/-- What is not covered, kept as a statement over an abstract rendering relation `LinFull` meant to extend `LinProgram`.
Every production of the parser model is covered (all expression forms, all statement forms, `；`, 导入, a `，` after an
operand, comments); what remains are layouts the model accepts beyond the rendering discipline:
(a) commas in other places than after an operand (`LinX.commaAfter`): the parser swallows a single `，` before ANY token it fetches
through `tryConsume` — after a keyword, after `（`, after an operator, at the start of a statement (`comma_is_optional`); each such
place needs its clause in the relation and its case in the production's lemma (the probe that swallows the comma differs from
place to place, and it leaves the comma as the "current token");
(b) inside a dictionary literal the model forgives a statement line break after a value (`hashLoop` resets the flag), and inside
`令：` it skips `；`; `Glued` / `LinPairs` do not offer these;
(c) a statement other than a simple one directly followed by `；` on the line of its last token is covered only as what it is for
the parser: the `；` belongs to the innermost block that is open there;
(d) list items must be glued to each other (same line, or a `，` before the line break): the model has no other way either.
The character level (`parse_render_full`) additionally needs the lexer: that `lexAll` of a rendered text yields such a token list
and the `Layout` made of `Lexer.Lines` and the length of the text. -/
def parse_statements_roundtrip_full (LinFull : Layout → Program → List Token → Prop) : Prop :=
  ∀ (Y : Layout) (p : Program) (ts : List Token), LinFull Y p ts →
    ∃ n0, ∀ n, n0 ≤ n → parseLaidOut v Y n ts = .tree p

-- non-vacuity: a five-line program with a nested block

section examples
private def tk (ty : Nat) (a b : Nat) (lit : List Nat := []) : Token := { type := ty, literal := lit, startIdx := a, endIdx := b }

/-- five lines starting at characters 0, 10, 20, 30, 40; lines 2 and 3 indented by one step; the text is 50 characters long -/
def exY : Layout :=
  { lines := #[{ indents := 0, startIdx := 0 }, { indents := 0, startIdx := 10 }, { indents := 1, startIdx := 20 },
               { indents := 1, startIdx := 30 }, { indents := 0, startIdx := 40 }],
    eofIdx := 50, ne := by decide }

-- 令 甲 设为 乙
private def a1 := tk cTypeDeclareW 0 1
private def a2 := tk cTypeIdentifier 2 3 [0x7532]
private def a3 := tk cTypeAssignW 4 6
private def a4 := tk cTypeIdentifier 7 8 [0x4E59]
-- 每当 甲：
private def b1 := tk cTypeWhileLoopW 10 12
private def b2 := tk cTypeIdentifier 13 14 [0x7532]
private def b3 := tk cTypeFuncCall 15 16
--     输出 甲
private def c1 := tk cTypeReturnW 20 22
private def c2 := tk cTypeIdentifier 23 24 [0x7532]
--     结束循环
private def d1 := tk cTypeBreakW 30 34
-- 甲 + 乙
private def e1 := tk cTypeIdentifier 40 41 [0x7532]
private def e2 := tk cTypePlus 42 43
private def e3 := tk cTypeIdentifier 44 45 [0x4E59]

def exTokens : List Token := [a1, a2, a3, a4, b1, b2, b3, c1, c2, d1, e1, e2, e3]

private def idE (t : Token) : Expr := .id (exY.idOf t)

/-- the tree: a declaration on line 0, a loop on line 1 whose block holds the statements of lines 2 and 3, an expression on line 4 -/
def exProgram : Program :=
  { imports := [],
    exec := some (.mk [] (some
      [.varDecl (exY.sl a1) [(vdTypeOf a3, [exY.idOf a2], idE a4)],
       .while (exY.sl b1) (idE b2) (some [.ret (exY.sl c1) (idE c2), .break (exY.sl d1)]),
       .expr (.arith (exY.sl e2) (lookupD addSubOverride e2.type addSubDefault) (idE e1) (idE e3))]) []) }

/-- the hypotheses of `parse_statements_roundtrip` hold of a concrete program with a nested block … -/
theorem exProgram_rendered : LinProgram exY exProgram exTokens :=
  prog5_rendered (Y := exY) (b3 := b3) (by decide)

theorem exTokens_inOrder : exY.InOrder exTokens := by decide

/-- … so the theorem applies: the parser model returns exactly that tree, the repaired one and the pinned one alike -/
example : parseLaidOut Variant.fixed exY 300 exTokens = .tree exProgram :=
  parse_statements_roundtrip _ exProgram_rendered exTokens_inOrder 300 (by decide)
example : parseLaidOut Variant.legacy exY 300 exTokens = .tree exProgram :=
  parse_statements_roundtrip _ exProgram_rendered exTokens_inOrder 300 (by decide)

/-- independently of the theorem, by evaluation of the parser model: the tree, with the line numbers spelled out -/
example : (match parseLaidOut Variant.fixed exY 300 exTokens with
    | .tree ⟨[], some (.mk [] (some
        [.varDecl 0 [(1, [⟨0, _⟩], .id ⟨0, _⟩)],
         .while 1 (.id ⟨1, _⟩) (some [.ret 2 (.id ⟨2, _⟩), .break 3]),
         .expr (.arith 4 12 (.id ⟨4, _⟩) (.id ⟨4, _⟩))]) [])⟩ => true
    | _ => false) = true := by decide +kernel

/-- the layout matters: the same tokens with line 3 not indented put 结束循环 after the loop, not inside it -/
example : (match parseLaidOut Variant.fixed
      { exY with lines := #[{ indents := 0, startIdx := 0 }, { indents := 0, startIdx := 10 }, { indents := 1, startIdx := 20 },
                            { indents := 0, startIdx := 30 }, { indents := 0, startIdx := 40 }], ne := by decide } 300 exTokens with
    | .tree ⟨[], some (.mk [] (some [.varDecl .., .while 1 _ (some [.ret 2 _]), .break 3, .expr _]) [])⟩ => true
    | _ => false) = true := by decide +kernel

-- non-vacuity of the in-context theorems: the loop statement of the example, followed by the last line
example : LinStmt exY (.while (exY.sl b1) (idE b2) (some [.ret (exY.sl c1) (idE c2), .break (exY.sl d1)])) 0
    (b1 :: [b2] ++ b3 :: ([c1, c2] ++ ([d1] ++ []))) ∧
    After exY 0 (b1 :: [b2] ++ b3 :: ([c1, c2] ++ ([d1] ++ []))).getLast? [e1, e2, e3] := by
  exact ⟨prog5_while (a1 := a1) (a2 := a2) (a3 := a3) (a4 := a4) (e1 := e1) (e2 := e2) (e3 := e3) (by decide),
    by decide, by decide, Or.inr (Or.inr ⟨by decide, by decide⟩)⟩

-- non-vacuity of `import_lines_recorded`: two 导入 statements on lines 1 and 2 (line 0 holds a comment, i.e. no token), a body on line 3
/-- four lines starting at characters 0, 10, 20, 30 -/
def imY : Layout :=
  { lines := #[{ indents := 0, startIdx := 0 }, { indents := 0, startIdx := 10 }, { indents := 0, startIdx := 20 },
               { indents := 0, startIdx := 30 }],
    eofIdx := 40, ne := by decide }
-- 导入 《库》
private def i1 := tk cTypeImportW 10 12
private def i2 := tk cTypeLibString 12 15 [0x5E93]
-- 导入 “文” 之 甲
private def j1 := tk cTypeImportW 20 22
private def j2 := tk cTypeString 22 25 [0x6587]
private def j3 := tk cTypeObjDotW 25 26
private def j4 := tk cTypeIdentifier 26 27 [0x7532]
-- 结束循环
private def k1 := tk cTypeBreakW 30 34

theorem imports_rendered : LinImports imY 0
    [{ line := imY.sl i1, libType := libTypeOf i2, name := some (runesToString i2.literal), items := [] },
     { line := imY.sl j1, libType := libTypeOf j2, name := some (runesToString j2.literal), items := [imY.idOf j4] }]
    ([i1, i2] ++ ([] ++ ([j1, j2, j3, j4] ++ ([] ++ [])))) :=
  .cons _ _ [] _ _ (.plain i1 i2 rfl (by decide) (by decide)) (by decide) (.nil _)
    (.cons _ _ [] _ _ (.items j1 j2 j3 _ [j4] rfl (by decide) (by decide) (.one j4 rfl) (by decide)) (by decide) (.nil _) .nil)

private theorem k1_body : LinN imY 0 (.exec (.mk [] (some [.break (imY.sl k1)]) [])) ([k1] ++ []) :=
  plainBody (.blockCons 0 _ _ _ _ (.simple 0 _ _ (.breakStmt k1 rfl)) (by decide) (.blockNil 0) (Or.inl rfl)) (by simp)

example : ∀ v : Variant, (match parseLaidOut v imY 300 ([i1, i2] ++ ([] ++ ([j1, j2, j3, j4] ++ ([] ++ []))) ++ ([k1] ++ [])) with
    | .tree ⟨ims, _⟩ => ims.map (·.line) = [1, 2]
    | _ => False) := by
  intro v
  have h := import_lines_recorded v (by simp) imports_rendered k1_body (by decide) (by decide) 300 (by decide)
  rw [h.1]
  exact h.2

-- `；` after 导入 statements: line 1 reads `导入《库》；导入“文”之甲；；`, the body is on line 3
/-- four lines starting at characters 0, 10, 50, 60 -/
def imZ : Layout :=
  { lines := #[{ indents := 0, startIdx := 0 }, { indents := 0, startIdx := 10 }, { indents := 0, startIdx := 50 },
               { indents := 0, startIdx := 60 }],
    eofIdx := 70, ne := by decide }
private def s1 := tk cTypeStmtSep 15 16
private def j1' := tk cTypeImportW 16 18
private def j2' := tk cTypeString 18 21 [0x6587]
private def j3' := tk cTypeObjDotW 21 22
private def j4' := tk cTypeIdentifier 22 23 [0x7532]
private def s2 := tk cTypeStmtSep 23 24
private def s3 := tk cTypeStmtSep 24 25
private def k1' := tk cTypeBreakW 60 64

theorem imports_semicolons_rendered : LinImports imZ 0
    [{ line := imZ.sl i1, libType := libTypeOf i2, name := some (runesToString i2.literal), items := [] },
     { line := imZ.sl j1', libType := libTypeOf j2', name := some (runesToString j2'.literal), items := [imZ.idOf j4'] }]
    ([i1, i2] ++ ([s1] ++ ([j1', j2', j3', j4'] ++ ([s2, s3] ++ [])))) :=
  .cons _ _ [s1] _ _ (.plain i1 i2 rfl (by decide) (by decide)) (by decide) (.cons _ s1 [] rfl (by decide) (.nil _))
    (.cons _ _ [s2, s3] _ _ (.items j1' j2' j3' _ [j4'] rfl (by decide) (by decide) (.one j4' rfl) (by decide)) (by decide)
      (.cons _ s2 [s3] rfl (by decide) (.cons _ s3 [] rfl (by decide) (.nil _))) .nil)

private theorem k1'_body : LinN imZ 0 (.exec (.mk [] (some [.break (imZ.sl k1')]) [])) ([k1'] ++ []) :=
  plainBody (.blockCons 0 _ _ _ _ (.simple 0 _ _ (.breakStmt k1' rfl)) (by decide) (.blockNil 0) (Or.inl rfl)) (by simp)

/-- two imports on one line separated by `；`, two more `；` after the second: both import nodes, both on line 1, and NO empty
statement in the body — for every variant -/
example : ∀ v : Variant, parseLaidOut v imZ 300 [i1, i2, s1, j1', j2', j3', j4', s2, s3, k1'] =
    .tree { imports := [{ line := 1, libType := 1, name := some (runesToString i2.literal), items := [] },
                        { line := 1, libType := 2, name := some (runesToString j2'.literal), items := [imZ.idOf j4'] }],
            exec := some (.mk [] (some [.break 3]) []) } := by
  intro v
  exact (import_lines_recorded v (by simp) imports_semicolons_rendered k1'_body (by decide) (by decide) 300 (by decide)).1

/-- independently of the theorem, by evaluation of the parser model: `；` after imports, no empty statement -/
example : (match parseLaidOut Variant.fixed imZ 300 [i1, i2, s1, j1', j2', j3', j4', s2, s3, k1'] with
    | .tree ⟨[⟨1, 1, some _, []⟩, ⟨1, 2, some _, [⟨1, _⟩]⟩], some (.mk [] (some [.break 3]) [])⟩ => true
    | _ => false) = true := by decide +kernel

/-- a `；` on a LATER line is not part of the import section: it is the empty statement it always was -/
example : (match parseLaidOut Variant.fixed imZ 300 [i1, i2, tk cTypeStmtSep 50 51, k1'] with
    | .tree ⟨[⟨1, 1, some _, []⟩], some (.mk [] (some [.empty 0, .break 3]) [])⟩ => true
    | _ => false) = true := by decide +kernel

/-- a comment token (positions do not matter: the parser drops it before looking at lines) -/
private def cm (a : Nat) : Token := tk cTypeComment a (a + 1)

/-- the example with comments before the first token, inside the declaration, after `：`, on a line of their own, at the end -/
def exRaw : List Token := [cm 0, a1, a2, cm 3, a3, a4, cm 9, b1, b2, b3, cm 17, cm 25, c1, c2, d1, cm 35, e1, e2, cm 43, e3, cm 46]

example : parseLaidOut Variant.fixed exY 400 exRaw = .tree exProgram := by
  have hc : clean exRaw = exTokens := by decide
  exact parse_statements_roundtrip_comments _ (by rw [hc]; exact exProgram_rendered) (by rw [hc]; exact exTokens_inOrder) 400
    (by rw [hc]; decide)

end examples

end ZnVerif.Properties.C03
