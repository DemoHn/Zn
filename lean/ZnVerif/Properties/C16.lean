/-
C16 — Executions are isolated from one another.  Here: table facts about pkg/exec regenerated into `Generated/Process`
(predefined values, VM creation sites, `clone`), and the interleaving lemmas over the load / execute steps of
`Model/Process` (the shared interpreter is never written, a request runs its own source).  What an execution can do to the
values that outlive it is in Properties/C16Eval.
-/
import ZnVerif.Model.Process

namespace ZnVerif.Properties.C16
open ZnVerif.Model.Process ZnVerif.Generated

/-- table fact (regenerated from globals.go on every run): every predefined value is either built afresh for
each execution or of a kind no program can change in place. -/
theorem predefined_values_isolated : Process.globals.all isolatedGlobal = true := by decide +kernel

/-- every VM created in pkg/exec is fed by `NewGlobalValues()` -/
theorem every_vm_gets_fresh_globals : Process.initVMSites = Process.initVMSitesFresh ∧ 0 < Process.initVMSites := by decide

/-- `LoadScript` and `LoadFile` begin with `z = z.clone()` and `clone` is a plain struct copy -/
theorem loads_work_on_a_copy :
    Process.loadScriptClones = true ∧ Process.loadFileClones = true ∧ Process.cloneIsStructCopy = true := by decide

/-- loading never writes the shared interpreter (repaired code), for every interleaving -/
theorem shared_interpreter_never_written (steps : List Step) (w : World) :
    (run step w steps).shared = w.shared := by
  induction steps generalizing w with
  | nil => rfl
  | cons s rest ih =>
    simp only [run, List.foldl_cons] at ih ⊢
    rw [ih]; cases s <;> rfl

/-- a handle, once returned to a request, keeps yielding that request's source whatever the others do — a later load of the
same request included: it puts the same handle in front -/
theorem handle_is_own (steps : List Step) (w : World) (i : Nat)
    (h : lookupH i w.handle = some { w.shared with finder := some i }) :
    lookupH i (run step w steps).handle = some { w.shared with finder := some i } := by
  induction steps generalizing w with
  | nil => exact h
  | cons s rest ih =>
    simp only [run, List.foldl_cons] at ih ⊢
    cases s with
    | load j =>
      refine ih (step w (.load j)) ?_
      by_cases hji : i = j
      · subst hji; simp [step, lookupH]
      · simp [step, lookupH, hji, h]
    | exec j => exact ih (step w (.exec j)) (by simpa [step] using h)

/-- for every interleaving, an execute of request `i` after a load of `i` runs source `i`: the newest entry of `ran` says so -/
theorem exec_after_load_runs_own_source (pre post : List Step) (i : Nat) (w : World) :
    (run step w (pre ++ [.load i] ++ post ++ [.exec i])).ran.head? = some (i, some i) := by
  simp only [run, List.foldl_append, List.foldl_cons, List.foldl_nil]
  -- the last step reads the handle that the load of `i` put in front and `post` could not displace
  exact congrArg (fun o => some (i, o.bind (·.finder)))
    (handle_is_own post (step (run step w pre) (.load i)) i (by simp [step, lookupH]))

set_option linter.unusedVariables false in
/-- **each request runs its own source**: for every interleaving of the load/execute steps of any number of
requests, when request `i` executes after its own load it runs source `i`.  (`hnoreload` is not needed:
`exec_after_load_runs_own_source`.) -/
theorem request_runs_its_own_source (pre post : List Step) (i : Nat) (w : World)
    (hnoreload : ∀ s ∈ post, s ≠ .load i) :
    (i, some i) ∈ (run step w (pre ++ [.load i] ++ post ++ [.exec i])).ran :=
  List.mem_of_mem_head? (exec_after_load_runs_own_source pre post i w)

/-- the pinned code did not have this property: two requests whose loads both precede the first execute -/
theorem old_code_runs_foreign_source :
    (1, some 2) ∈ (run stepOld {} [.load 1, .load 2, .exec 1]).ran := by decide

-- non-vacuity: a concrete interleaving of three requests
example : (1, some 1) ∈ (run step {} ([.load 2] ++ [.load 1] ++ [.load 3, .exec 3, .exec 2] ++ [.exec 1])).ran :=
  request_runs_its_own_source [.load 2] [.load 3, .exec 3, .exec 2] 1 {} (by decide)

end ZnVerif.Properties.C16
