/-
C12 — Lists are 1-indexed sequences, dictionaries insertion-ordered maps (container core).
Property theorems only; helper lemmas live in ZnVerif/Proofs/Containers.lean.

Model: ZnVerif/Model/Containers.lean (array.go, hashmap.go, iv.go as written, generic in the element type).
Spec:  ZnVerif/Spec/Seq.lean, ZnVerif/Spec/OrderedMap.lean, ZnVerif/Spec/CollHistory.lean.

Every theorem quantifies over all element types, all lists / all reachable dictionaries and all operation
histories; the proofs are inductions, nothing is enumerated.  Not here: 拼接 (`arrayJoin` is modelled but is no `ListOp`
and has no theorem); and, at program level, iteration order of 遍历, copies between operations, generated-JSON key order.
-/
import ZnVerif.Proofs.Containers

namespace ZnVerif.Properties.C12
open ZnVerif ZnVerif.Model.Containers ZnVerif.Spec ZnVerif.Proofs.Containers

variable {α : Type}

/-- From any state with the invariant, every history of 读取 / 写入 / 移除 / `D#k` / `D#k = v` keeps it:
keyOrder without duplicates, holding exactly the keys of the Go map, one map entry per key. -/
theorem hm_inv_from (sub : α → String → Option α) (ops : List (DictOp α)) :
    ∀ hm : HashMap α, Inv hm → Inv (ops.foldl (dictNext sub) hm) := by
  induction ops with
  | nil => intro hm h; exact h
  | cons op ops ih => intro hm h; exact ih _ (dictNext_inv sub h op)

/-- … and every dictionary the interpreter can build starts with it: `NewHashMap` on any literal, duplicate keys
included. -/
theorem hm_inv (sub : α → String → Option α) (kvs : List (String × α)) (ops : List (DictOp α)) :
    Inv (ops.foldl (dictNext sub) (newHashMap kvs)) :=
  hm_inv_from sub ops _ (newHashMap_spec kvs).1

-- non-vacuity: a literal with a duplicate key, then remove / re-insert / overwrite
example : hmAllIndexes ([DictOp.delete "a", .ivWrite "a" 7, .set "b" 8].foldl (dictNext (fun _ _ => none))
    (newHashMap [("a", 1), ("b", 2), ("a", 3)])) = ["b", "a"] := by decide

/-- The loop of `hmExecDelete` edits `hm.keyOrder` in place while ranging over it.  On a slice without duplicates
that is exactly `erase`: correct *because* of the invariant. -/
theorem delete_edits_in_place_ok (ks : List String) (k : String) (h : ks.Nodup) :
    deleteLoop ks k = .ok (ks.erase k) :=
  deleteLoop_eq_erase ks k h

example : deleteLoop ["a", "b", "c"] "b" = .ok ["a", "c"] := by decide
/-- without the invariant the same loop is wrong: one of two copies survives … -/
example : deleteLoop ["a", "a", "b"] "a" = .ok ["a", "b"] := by decide
/-- … or the second match slices past the already shortened header and the Go code panics -/
example : deleteLoop ["a", "b", "a"] "a" = .panic := by decide

/-- Dictionary: from any state with the invariant, a history never panics, and after every operation the result
and everything observable — displayed pairs, 长度, 所有索引, 所有值 — are those of the insertion-ordered map. -/
theorem dict_refines_ordered_map_from (sub : α → String → Option α) (ops : List (DictOp α)) :
    ∀ hm : HashMap α, Inv hm → ∃ tr, dictRun sub hm ops = .ok tr ∧
      tr.map (fun p => (p.1, observe p.2)) =
        (CollHistory.dictRun sub (abs hm) ops).map (fun p => (p.1, specObs p.2)) := by
  induction ops with
  | nil => intro hm _; exact ⟨[], rfl, rfl⟩
  | cons op ops ih =>
    intro hm h
    obtain ⟨hm', r, hs, hi, hsp⟩ := dictStep_spec sub h op
    obtain ⟨tr, htr, hobs⟩ := ih hm' hi
    refine ⟨(r, hm') :: tr, by simp only [dictRun, hs, htr], ?_⟩
    simp only [CollHistory.dictRun, hsp, List.map_cons, hobs, observe_abs hi]

theorem dict_refines_ordered_map (sub : α → String → Option α) (kvs : List (String × α)) (ops : List (DictOp α)) :
    observe (newHashMap kvs) = specObs (OrderedMap.ofList kvs) ∧
    ∃ tr, dictRun sub (newHashMap kvs) ops = .ok tr ∧
      tr.map (fun p => (p.1, observe p.2)) =
        (CollHistory.dictRun sub (OrderedMap.ofList kvs) ops).map (fun p => (p.1, specObs p.2)) := by
  have h := newHashMap_spec kvs
  refine ⟨by rw [observe_abs h.1, h.2], ?_⟩
  have := dict_refines_ordered_map_from sub ops _ h.1
  rw [h.2] at this
  exact this

/-- the spec side keeps its own well-formedness (no key twice), so the refinement is to a genuine ordered map -/
theorem abs_wellformed {hm : HashMap α} (h : Inv hm) : OrderedMap.WF (abs hm) := by
  unfold OrderedMap.WF; rw [keys_abs h]; exact h.1

example : (observe (newHashMap [("a", 1), ("b", 2), ("a", 3)])).display = .ok [("a", 3), ("b", 2)] := by decide

/-- List: every history on every list never panics and answers, operation by operation, what the 1-indexed
sequence answers (results, the list as displayed, hence its length). -/
theorem list_refines_seq (eq : α → α → Bool) (ops : List (ListOp α)) :
    ∀ v : List α, listRun eq v ops = .ok (CollHistory.listRun eq v ops) := by
  induction ops with
  | nil => intro v; rfl
  | cons op ops ih =>
    intro v
    simp only [listRun, listStep_eq, ih, CollHistory.listRun]

example : listRun (fun a b : Nat => a == b) [1, 2, 3]
    [.insert 9 (-10), .insert 9 (-1), .swap 1 4, .ivRead 5, .shiftLeft, .getReverse] =
    .ok [(.err 40, [1, 2, 3]), (.self, [1, 2, 9, 3]), (.self, [3, 2, 9, 1]), (.err 40, [3, 2, 9, 1]),
         (.elem 3, [2, 9, 1]), (.arr [1, 9, 2], [2, 9, 1])] := by decide

/-- the raw helper `insertArrayValue` has a slice-bounds panic, exactly before the first item;
新增 (`arrayInsert`) guards it, so no list method can reach it -/
theorem insert_helper_panics_only_before_first (v : List α) (idx : Int) (x : α) :
    (insertArrayValue v idx x = .panic ↔ (idx < 0 ∧ (v.length : Int) + idx < 0)) ∧ arrayInsert v x idx ≠ .panic := by
  refine ⟨insertArrayValue_panic_iff v idx x, ?_⟩
  rw [arrayInsert_eq]
  cases Seq.insertAt v idx x <;> simp

/-- 后增 then 末项 returns the element and the length grows by one -/
theorem append_then_last (v : List α) (x : α) :
    ∃ v', arrayAppend v x = .ok v' ∧ arrayGetLast v' = some x ∧ arrayGetLength v' = arrayGetLength v + 1 := by
  refine ⟨v ++ [x], arrayAppend_eq v x, ?_, ?_⟩
  · rw [arrayGetLast_eq]; simp
  · simp [arrayGetLength]

/-- 前增 then 首项 returns the element and the length grows by one -/
theorem prepend_then_first (v : List α) (x : α) :
    ∃ v', arrayPrepend v x = .ok v' ∧ arrayGetFirst v' = some x ∧ arrayGetLength v' = arrayGetLength v + 1 := by
  refine ⟨x :: v, arrayPrepend_eq v x, ?_, ?_⟩
  · rw [arrayGetFirst_eq]; simp
  · simp [arrayGetLength]

/-- length = number of stored elements: exactly the positions 1 … 长度 can be read -/
theorem length_counts (v : List α) (i : Int) :
    (∃ x, ivArrayRead v i = .ok x) ↔ (1 ≤ i ∧ i ≤ (arrayGetLength v : Int)) := by
  rw [ivArrayRead_eq]
  by_cases hi : Seq.InRange v i
  · rw [get1_inRange hi]; exact ⟨fun _ => hi, fun _ => ⟨_, rfl⟩⟩
  · unfold Seq.get1; rw [if_neg hi]; exact ⟨fun ⟨x, hx⟩ => (by cases hx), fun h => absurd h hi⟩

/-- dictionary: 长度 (the Go map's `len`) = number of keys listed = number of values listed, and exactly the
listed keys can be read -/
theorem dict_length_counts {hm : HashMap α} (h : Inv hm) :
    hmLength hm = (hmAllIndexes hm).length ∧ hmLength hm = (hmAllValues hm).length ∧
    ∀ k, (∃ v, ivMapRead hm k = .ok v) ↔ k ∈ hmAllIndexes hm := by
  have hl := length_abs h
  have hk : (abs hm).length = hm.keyOrder.length := by
    have := congrArg List.length (keys_abs h)
    simpa [OrderedMap.keys] using this
  refine ⟨?_, ?_, ?_⟩
  · rw [hl]; exact hk
  · rw [hl]; show (abs hm).length = (hm.keyOrder.map _).length
    rw [List.length_map]; exact hk
  · intro k
    unfold ivMapRead hmAllIndexes
    rw [h.2.1 k]
    constructor
    · rintro ⟨v, hv⟩
      cases hg : mapGet hm.value k with
      | none => rw [hg] at hv; cases hv
      | some w => exact mem_dom_of_mapGet hg
    · intro hd
      obtain ⟨v, hv⟩ := mapGet_some_of_mem hd
      exact ⟨v, by rw [hv]⟩

/-- 逆序 twice is the identity (and 逆序 never fails) -/
theorem reverse_involutive (v : List α) :
    ∃ r, arrayGetReverse v = .ok r ∧ arrayGetReverse r = .ok v ∧ r.length = v.length :=
  ⟨v.reverse, arrayGetReverse_eq v, by rw [arrayGetReverse_eq, List.reverse_reverse], by simp⟩

/-- 左移 undoes 前增, 右移 undoes 后增: the removed element is the one added and the list is the old one -/
theorem shift_pop_inverse_of_prepend_append (v : List α) (x : α) :
    (∃ v', arrayPrepend v x = .ok v' ∧ shiftArrayValue v' true = (some x, v)) ∧
    (∃ v', arrayAppend v x = .ok v' ∧ shiftArrayValue v' false = (some x, v)) := by
  refine ⟨⟨x :: v, arrayPrepend_eq v x, ?_⟩, ⟨v ++ [x], arrayAppend_eq v x, ?_⟩⟩
  · rw [shiftLeft_eq]; rfl
  · rw [shiftRight_eq]; simp [Seq.shiftRight]

/-- 左移 / 右移 on the empty list give 空 and leave it empty -/
theorem shift_empty : shiftArrayValue ([] : List α) true = (none, []) ∧ shiftArrayValue ([] : List α) false = (none, []) :=
  ⟨rfl, rfl⟩

/-- 交换 of two positions in 1 … 长度: afterwards each holds what the other held, everything else is as before -/
theorem swap_swaps (v : List α) (i j : Int) (hi : Seq.InRange v i) (hj : Seq.InRange v j) :
    ∃ v', arraySwap v i j = .ok v' ∧ v'.length = v.length ∧
      ivArrayRead v' i = ivArrayRead v j ∧ ivArrayRead v' j = ivArrayRead v i ∧
      ∀ p, p ≠ i → p ≠ j → ivArrayRead v' p = ivArrayRead v p := by
  obtain ⟨a, ha⟩ : ∃ a, Seq.get1 v i = some a := ⟨_, get1_inRange hi⟩
  obtain ⟨b, hb⟩ : ∃ b, Seq.get1 v j = some b := ⟨_, get1_inRange hj⟩
  have hj' : Seq.InRange (v.set (i - 1).toNat b) j := by unfold Seq.InRange at *; rw [List.length_set]; exact hj
  -- a swap is two writes: every clause is `get1_set` twice
  refine ⟨(v.set (i - 1).toNat b).set (j - 1).toNat a, ?_, by simp, ?_, ?_, fun p hpi hpj => ?_⟩
  · rw [arraySwap_eq]; unfold Seq.swap; rw [if_pos ⟨hi, hj⟩, ha, hb]
  · rw [ivArrayRead_eq, ivArrayRead_eq, get1_set hj', get1_set hi, if_pos rfl, hb]
    by_cases e : i = j
    · rw [if_pos e, ← ha, e, hb]
    · rw [if_neg e]
  · rw [ivArrayRead_eq, ivArrayRead_eq, get1_set hj', if_pos rfl, ha]
  · rw [ivArrayRead_eq, ivArrayRead_eq, get1_set hj', get1_set hi, if_neg hpj, if_neg hpi]

example : Seq.InRange [10, 20, 30] 1 ∧ Seq.InRange [10, 20, 30] 3 ∧ arraySwap [10, 20, 30] 1 3 = .ok [30, 20, 10] := by decide

/-- 合并 is concatenation, in argument order -/
theorem merge_is_append (v : List α) (args : List (List α)) : arrayMerge v args = v ++ args.flatten :=
  arrayMerge_eq v args

/-- 包含 and 寻找 agree: 寻找 answers −1 exactly when 包含 answers 假 (and then no element is equal); otherwise it answers
the position — counted from 0, like 新增's index — of the FIRST equal element -/
theorem contains_iff_find (eq : α → α → Bool) (x : α) (v : List α) :
    (arrayContains eq x v = true ↔ arrayFind eq x v ≠ -1) ∧
    (arrayFind eq x v = -1 → ∀ y ∈ v, eq y x = false) ∧
    (arrayFind eq x v ≠ -1 → ∃ n : Nat, arrayFind eq x v = (n : Int) ∧ n < v.length ∧
      ∃ y, v[n]? = some y ∧ eq y x = true ∧ ∀ m, m < n → ∀ z, v[m]? = some z → eq z x = false) := by
  rw [arrayContains_eq, arrayFind_eq]
  unfold Seq.contains Seq.find
  cases h : v.findIdx? (fun item => eq item x) with
  | none =>
    have hn := List.findIdx?_eq_none_iff.1 h
    exact ⟨by simpa using hn, fun _ => hn, fun hne => absurd rfl hne⟩
  | some n =>
    obtain ⟨hlt, hp, hmin⟩ := List.findIdx?_eq_some_iff_getElem.1 h
    have hne : ((n : Nat) : Int) ≠ -1 := by omega
    refine ⟨⟨fun _ => hne, fun _ => List.any_eq_true.2 ⟨_, List.getElem_mem hlt, hp⟩⟩, fun e => absurd e hne,
      fun _ => ⟨n, rfl, hlt, v[n], List.getElem?_eq_getElem hlt, hp, fun m hm z hz => ?_⟩⟩
    obtain ⟨hm', rfl⟩ := List.getElem?_eq_some_iff.1 hz
    simpa using hmin m hm

example : arrayFind (fun a b : Nat => a == b) 6 [2, 4, 6, 6] = 2 ∧ arrayFind (fun a b : Nat => a == b) 5 [2, 4, 6] = -1 := by
  decide

/-- a read returns the last value written at that position; other positions and the length are untouched -/
theorem read_returns_last_write (v : List α) (i : Int) (x : α) (v' : List α) (hw : ivArrayWrite v i x = .ok v') :
    ivArrayRead v' i = .ok x ∧ v'.length = v.length ∧ ∀ p, p ≠ i → ivArrayRead v' p = ivArrayRead v p := by
  rw [ivArrayWrite_eq] at hw
  unfold Seq.set1 at hw
  by_cases hi : Seq.InRange v i
  · rw [if_pos hi] at hw
    cases hw
    exact ⟨by rw [ivArrayRead_eq, get1_set hi, if_pos rfl], List.length_set,
      fun p hp => by rw [ivArrayRead_eq, ivArrayRead_eq, get1_set hi, if_neg hp]⟩
  · rw [if_neg hi] at hw; cases hw

/-- Reading or writing a position outside 1 … 长度 (also through 交换) is index error 40 and the list is unchanged -/
theorem index_out_of_range_error_unchanged (eq : α → α → Bool) (v : List α) (i : Int) (x : α)
    (h : ¬ Seq.InRange v i) :
    listStep eq v (.ivRead i) = .ok (v, .err 40) ∧ listStep eq v (.ivWrite i x) = .ok (v, .err 40) ∧
    ∀ j, listStep eq v (.swap i j) = .ok (v, .err 40) ∧ listStep eq v (.swap j i) = .ok (v, .err 40) := by
  refine ⟨?_, ?_, fun j => ⟨?_, ?_⟩⟩
  · simp [listStep_eq, CollHistory.listStep, Seq.get1, h, CollHistory.indexError]
  · simp [listStep_eq, CollHistory.listStep, Seq.set1, h, CollHistory.indexError]
  · simp [listStep_eq, CollHistory.listStep, Seq.swap, h, CollHistory.indexError]
  · simp [listStep_eq, CollHistory.listStep, Seq.swap, h, CollHistory.indexError]

example : ¬ Seq.InRange [1, 2, 3] 0 ∧ ¬ Seq.InRange [1, 2, 3] 4 ∧ ¬ Seq.InRange ([] : List Nat) 1 := by decide

/-- Reading a missing key through `D#k` is error 41 and changes nothing (the method 读取 answers 空 instead) -/
theorem missing_key_read_error (sub : α → String → Option α) {hm : HashMap α} (h : Inv hm) (k : String)
    (hk : k ∉ hmAllIndexes hm) :
    dictStep sub hm (.ivRead k) = .ok (hm, .err 41) ∧ dictStep sub hm (.get [k]) = .ok (hm, .null) := by
  have hd : k ∉ dom hm.value := fun hd => hk ((h.2.1 k).mpr hd)
  have hg := (mapGet_none_iff hm.value k).mpr hd
  simp [dictStep, ivMapRead, hmGet, hg, getResult, errIndexKeyNotFound]

/-- a read returns the last value written under that key; other keys are untouched -/
theorem dict_read_returns_last_write (hm : HashMap α) (k : String) (v : α) (k' : String) :
    ivMapRead (ivMapWrite hm k v) k' = if k' = k then .ok v else ivMapRead hm k' :=
  ivMapRead_write hm k v k'

/-- Writing a new key inserts it at the end: listed last, readable, 长度 + 1, displayed after all old pairs -/
theorem new_key_write_inserts {hm : HashMap α} (h : Inv hm) (k : String) (v : α) (hk : k ∉ hmAllIndexes hm) :
    Inv (ivMapWrite hm k v) ∧
    hmAllIndexes (ivMapWrite hm k v) = hmAllIndexes hm ++ [k] ∧
    ivMapRead (ivMapWrite hm k v) k = .ok v ∧
    hmLength (ivMapWrite hm k v) = hmLength hm + 1 ∧
    observe (ivMapWrite hm k v) = specObs (abs hm ++ [(k, v)]) := by
  have hs := appendKVPair_spec h k v
  have hkk : k ∉ OrderedMap.keys (abs hm) := by rw [keys_abs h]; exact hk
  have habs : abs (ivMapWrite hm k v) = abs hm ++ [(k, v)] := by
    show abs (appendKVPair hm k v) = _
    rw [hs.2]; unfold OrderedMap.insert; rw [if_neg hkk]
  have hi : Inv (ivMapWrite hm k v) := hs.1
  refine ⟨hi, ?_, ?_, ?_, ?_⟩
  · show hmAllIndexes (ivMapWrite hm k v) = hm.keyOrder ++ [k]
    rw [← keys_abs h, ← (show OrderedMap.keys (abs (ivMapWrite hm k v)) = hmAllIndexes (ivMapWrite hm k v) from keys_abs hi), habs]
    simp [OrderedMap.keys]
  · rw [ivMapRead_write]; simp
  · rw [length_abs hi, length_abs h, habs]; simp [OrderedMap.size]
  · rw [observe_abs hi, habs]

/-- Removing a key and writing it again appends it: the key moves behind all others -/
theorem reinsert_appends {hm : HashMap α} (h : Inv hm) (k : String) (v : α) (hk : k ∈ hmAllIndexes hm) :
    ∃ old hm1, hmDelete hm k = .ok (some old, hm1) ∧ ivMapRead hm k = .ok old ∧ k ∉ hmAllIndexes hm1 ∧
      hmAllIndexes (ivMapWrite hm1 k v) = (hmAllIndexes hm).erase k ++ [k] ∧
      observe (ivMapWrite hm1 k v) = specObs (OrderedMap.erase (abs hm) k ++ [(k, v)]) := by
  obtain ⟨old, hold⟩ := mapGet_some_of_mem ((h.2.1 k).mp hk)
  obtain ⟨hm1, hdel, hi1, habs1, hko1⟩ := hmDelete_spec h k
  have hk1 : k ∉ hmAllIndexes hm1 := by
    show k ∉ hm1.keyOrder
    rw [hko1, List.Nodup.mem_erase_iff h.1]; simp
  have hn := new_key_write_inserts hi1 k v hk1
  refine ⟨old, hm1, by rw [hdel, hold], by simp [ivMapRead, hold], hk1, ?_, ?_⟩
  · rw [hn.2.1]; show hm1.keyOrder ++ [k] = _; rw [hko1]; rfl
  · rw [hn.2.2.2.2, habs1]

/-- Overwriting an existing key keeps its place: the key list and 长度 are unchanged, only that key's value is new -/
theorem overwrite_keeps_place {hm : HashMap α} (h : Inv hm) (k : String) (v : α) (hk : k ∈ hmAllIndexes hm) :
    hmAllIndexes (ivMapWrite hm k v) = hmAllIndexes hm ∧
    hmLength (ivMapWrite hm k v) = hmLength hm ∧
    (∀ k', ivMapRead (ivMapWrite hm k v) k' = if k' = k then .ok v else ivMapRead hm k') ∧
    observe (ivMapWrite hm k v) = specObs ((abs hm).map (fun p => if p.1 = k then (k, v) else p)) := by
  obtain ⟨old, hold⟩ := mapGet_some_of_mem ((h.2.1 k).mp hk)
  have hs := appendKVPair_spec h k v
  have hkk : k ∈ OrderedMap.keys (abs hm) := by rw [keys_abs h]; exact hk
  have habs : abs (ivMapWrite hm k v) = (abs hm).map (fun p => if p.1 = k then (k, v) else p) := by
    show abs (appendKVPair hm k v) = _
    rw [hs.2]; unfold OrderedMap.insert; rw [if_pos hkk]
  have hi : Inv (ivMapWrite hm k v) := hs.1
  have hko : hmAllIndexes (ivMapWrite hm k v) = hmAllIndexes hm := by
    show (appendKVPair hm k v).keyOrder = hm.keyOrder
    unfold appendKVPair; rw [hold]
  refine ⟨hko, ?_, ivMapRead_write hm k v, by rw [observe_abs hi, habs]⟩
  rw [length_abs hi, length_abs h, habs]; simp [OrderedMap.size]

-- non-vacuity of the dictionary laws: a reachable dictionary with a present and an absent key
example : Inv (newHashMap [("a", 1), ("b", 2), ("a", 3)]) ∧
    "a" ∈ hmAllIndexes (newHashMap [("a", 1), ("b", 2), ("a", 3)]) ∧
    "z" ∉ hmAllIndexes (newHashMap [("a", 1), ("b", 2), ("a", 3)]) :=
  ⟨(newHashMap_spec _).1, by decide, by decide⟩

example : hmAllIndexes (ivMapWrite (newHashMap [("a", 1), ("b", 2)]) "a" 9) = ["a", "b"] ∧
    (match hmDelete (newHashMap [("a", 1), ("b", 2)]) "a" with
     | .ok (_, hm1) => hmAllIndexes (ivMapWrite hm1 "a" 9)
     | _ => []) = ["b", "a"] := by decide

end ZnVerif.Properties.C12
