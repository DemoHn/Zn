/-
C01 — the regenerated tie of operator dispatch.

Properties/C01.lean proves that `Model.evalExpr` computes what the manual says for every pure expression tree (`PureExpr`: no
call, member access, assignment or construction); which
NumOps operation the model applies for which AST constant was READ from evalArithExpr / evalArithTypeModuloExpr /
evalLogicComparator / evalLogicCombiner / evalExpression.  `Generated/OperatorDispatch.lean` regenerates that reading
on every run: every `return` and every assignment of those functions (and of the comparison helpers they apply to the two
operands) under its guards, the operands written l and r, e.g.
  switch ….Type case syntax.ArithIntDiv ▸ return value.NewNumber(math.Floor(l / r)), nil.
`operator_dispatch_as_modelled` compares it with the table the model was written from (`Proofs/EvalSites.lean`, every
entry with the model's counterpart).  Swapping `+` and `-`, dropping a zero check, sending 大于 to compareLogicGTE makes
it fail: a broken obligation of C01.  (The numeric values of the AST constants are tied separately, by the regenerated
parser tables.)
-/
import ZnVerif.Proofs.EvalSites

namespace ZnVerif.Properties.C01Dispatch
open ZnVerif ZnVerif.Generated ZnVerif.Proofs.EvalSites

/-- The dispatch of the Go evaluator — AST type constant ↦ Go operation or helper, with the zero checks, the type checks
and their error constructors, the short-circuit exits of 且 / 或 — is, entry for entry, the table `Model.evalExpr` was
written from (`modelledOperatorDispatch`).  What the model does at each entry stands beside it as text (the field `model`):
that is read, not checked by Lean. -/
theorem operator_dispatch_as_modelled : OperatorDispatch.operatorDispatch = modelledOperatorDispatch.map (·.entry) :=
  rfl

/-- the scan saw the five operator functions and the four comparison helpers: twelve exits of evalArithExpr (five operators,
two zero checks, the operand checks), seven of the modulo function, fourteen steps of the comparator, eight of the combiner,
twelve of evalExpression, three of each helper -/
theorem dispatch_inventory_nonempty :
    (["exec.evalArithExpr", "exec.evalArithTypeModuloExpr", "exec.evalLogicComparator", "exec.evalLogicCombiner",
      "exec.evalExpression", "exec.compareLogicGT", "exec.compareLogicGTE", "exec.compareLogicLT", "exec.compareLogicLTE"].map
      fun f => (OperatorDispatch.operatorDispatch.filter (·.func == f)).length) = [12, 7, 14, 8, 12, 3, 3, 3, 3] := by
  decide +kernel

end ZnVerif.Properties.C01Dispatch
