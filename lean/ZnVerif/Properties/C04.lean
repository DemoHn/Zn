/-
C04 — Unspaced text is tokenised exactly as documented (keywords, names, numbers).
Property theorems only; helper lemmas live in ZnVerif/Proofs.
-/
import ZnVerif.Proofs.BinSearch
import ZnVerif.Proofs.NumberForm
import ZnVerif.Spec.Keywords
import ZnVerif.Generated.Tokens
import ZnVerif.Proofs.LexSegment

namespace ZnVerif.Properties.C04
open ZnVerif ZnVerif.Model ZnVerif.Spec ZnVerif.Generated

/-! ### Identifier alphabet: membership is the same for every code point however it is looked up -/

/-- table fact, re-checked against the regenerated table on every run -/
theorem idRange_sortedDisjoint : sortedDisjoint IdRange.idRange = true := by decide +kernel

theorem idRange_nonempty : 0 < IdRange.idRange.length := by decide +kernel

/-- generic: on every sorted, disjoint, non-empty table the binary-search loop of `IdInRange`
(with its `size+2` fuel — i.e. it terminates) returns exactly linear membership, for every code point. -/
theorem binsearch_eq_linear (tbl : Array (Nat × Nat)) (maxCp : Nat)
    (hsd : sortedDisjoint tbl.toList = true) (hne : 0 < tbl.size) (c : Nat) :
    idInRangeTbl tbl maxCp c = .ok (decide (c ≤ maxCp) && linearMember tbl.toList c) :=
  Proofs.idInRangeTbl_eq_linear tbl maxCp c hsd hne

/-- the property for the table in /repo: for every code point (all of `Nat`, hence all 0x110000) the
lookup neither panics nor runs out of fuel and equals membership in the listed ranges. -/
theorem idInRange_is_membership (c : Nat) :
    idInRange c = .ok (decide (c ≤ IdRange.idMax) && linearMember IdRange.idRange c) := by
  have h := binsearch_eq_linear idRangeArr IdRange.idMax
    (by simpa [idRangeArr] using idRange_sortedDisjoint)
    (by simpa [idRangeArr] using idRange_nonempty) c
  simpa [idInRange, idRangeArr] using h

-- non-vacuity: a concrete table meets the hypotheses, and a member / non-member are decided as expected
example : sortedDisjoint [(1, 3), (5, 5), (9, 20)] = true ∧ 0 < #[(1, 3), (5, 5), (9, 20)].size := by decide
set_option maxRecDepth 100000 in
example : idInRange 0x4E2D = .ok true ∧ idInRange 0x3002 = .ok false := by
  constructor <;> rw [idInRange_is_membership] <;> decide +kernel


/-! ### Numbers: `tryParseNumber` recognises exactly the documented form, for every string -/

/-- table facts tying the regenerated Go switch to the 9-class step function used in the proofs
(re-checked on every run; a semantic change of the switch breaks `numberDFA_is_specStep`) -/
theorem numberDFA_chars_ascii : ∀ t ∈ NumberDFA.transitions, ∀ c ∈ t.1, c < 128 :=
  Proofs.NumberForm.table_chars_ascii
theorem numberDFA_states_small :
    ∀ t ∈ NumberDFA.transitions, ∀ tr ∈ t.2, (∀ q ∈ tr.1, q < 14) ∧ tr.2 < 14 :=
  Proofs.NumberForm.table_states_small
theorem numberDFA_is_specStep (q c : Nat) :
    dfaStep q c = Proofs.NumberForm.specStep q (Proofs.NumberForm.classOf c) :=
  Proofs.NumberForm.dfaStep_eq q c

/-- the hand-written DFA answers "number" exactly on the documented numeric form — all strings, any length -/
theorem number_form (s : List Nat) : tryParseNumber s = .number ↔ NumForm s :=
  Proofs.NumberForm.number_form s

/-- "an identifier that starts like a number but is not one is rejected, never treated as a name" -/
theorem starts_like_number_rejected (s : List Nat) (h1 : StartsLikeNumber s) (h2 : ¬ NumForm s) :
    tryParseNumber s = .error :=
  Proofs.NumberForm.starts_like_number_rejected s h1 h2

/-- everything else is a name -/
theorem otherwise_name (s : List Nat) (h : ¬ StartsLikeNumber s) : tryParseNumber s = .name :=
  Proofs.NumberForm.otherwise_name s h

/-- the executable spec oracle used by the driver decides the Prop-level spec … -/
theorem numFormB_iff (s : List Nat) : numFormB s = true ↔ NumForm s :=
  Proofs.NumberForm.numFormB_iff s
theorem startsLikeNumberB_iff (s : List Nat) : startsLikeNumberB s = true ↔ StartsLikeNumber s :=
  Proofs.NumberForm.startsLikeNumberB_iff s

/-- … and agrees with the model on every string -/
theorem classify_eq_model (s : List Nat) :
    classify s = (match tryParseNumber s with
      | .name => IdKind.name | .number => IdKind.number | .error => IdKind.error) :=
  Proofs.NumberForm.classify_eq_model s

/-- the text handed to `strconv.ParseFloat` after the two `strings.Replace` calls is sign, integer digits,
fraction unchanged, and the exponent in `e` notation with the same sign and digits -/
theorem number_text_for_ParseFloat (sg i f e : List Nat) (hs : SignOpt sg) (hi : Digits1 i)
    (hf : Frac f) (he : Exp e) :
    ∃ e', ExpText e e' ∧ parseFloatText (sg ++ i ++ f ++ e) = sg ++ i ++ f ++ e' :=
  Proofs.NumberForm.number_text_for_ParseFloat sg i f e hs hi hf he

-- non-vacuity. "-12.8*10^15" is a number on both sides; "2.3.5" starts like a number, is not one, is rejected;
-- "+" , "+x", ".5", "e5", "IR80" do not start like a number and are names; "1e5" (E-notation needs a sign) is rejected.
example : tryParseNumber [0x2D, 0x31, 0x32, 0x2E, 0x38, 0x2A, 0x31, 0x30, 0x5E, 0x31, 0x35] = .number := by decide
example : NumForm [0x2D, 0x31, 0x32, 0x2E, 0x38, 0x2A, 0x31, 0x30, 0x5E, 0x31, 0x35] :=
  ⟨[0x2D], [0x31, 0x32], [0x2E, 0x38], [0x2A, 0x31, 0x30, 0x5E, 0x31, 0x35], by decide,
    Or.inr ⟨_, rfl, by decide⟩, ⟨by decide, by decide⟩, Or.inr ⟨_, rfl, by decide, by decide⟩,
    Or.inr (Or.inr (Or.inl ⟨[], [0x31, 0x35], by decide, Or.inl rfl, by decide, by decide⟩))⟩
example : StartsLikeNumber [0x32, 0x2E, 0x33, 0x2E, 0x35] ∧ ¬ NumForm [0x32, 0x2E, 0x33, 0x2E, 0x35] :=
  ⟨⟨[], 0x32, _, rfl, Or.inl rfl, by decide⟩, fun h => absurd ((numFormB_iff _).mpr h) (by decide)⟩
example : tryParseNumber [0x32, 0x2E, 0x33, 0x2E, 0x35] = .error := by decide
example : tryParseNumber [0x31, 0x65, 0x35] = .error ∧ tryParseNumber [0x31, 0x65, 0x2B, 0x35] = .number := by decide
example : ¬ StartsLikeNumber [0x49, 0x52, 0x38, 0x30] :=
  fun h => absurd ((startsLikeNumberB_iff _).mpr h) (by decide)
example : ¬ StartsLikeNumber [0x2B] ∧ ¬ StartsLikeNumber [0x2B, 0x78] ∧ ¬ StartsLikeNumber [0x2E, 0x35]
    ∧ ¬ StartsLikeNumber [0x65, 0x35] :=
  ⟨fun h => absurd ((startsLikeNumberB_iff _).mpr h) (by decide),
   fun h => absurd ((startsLikeNumberB_iff _).mpr h) (by decide),
   fun h => absurd ((startsLikeNumberB_iff _).mpr h) (by decide),
   fun h => absurd ((startsLikeNumberB_iff _).mpr h) (by decide)⟩
example : tryParseNumber [0x2B] = .name ∧ tryParseNumber [0x2B, 0x78] = .name ∧
    tryParseNumber [0x2E, 0x35] = .name ∧ tryParseNumber [0x65, 0x35] = .name := by decide
-- "-12.8*10^15" ↦ "-12.8e15", "7*^-3" ↦ "7e-3", "1E+2" unchanged
example : SignOpt [0x2D] ∧ Digits1 [0x31, 0x32] ∧ Frac [0x2E, 0x38] ∧ Exp [0x2A, 0x31, 0x30, 0x5E, 0x31, 0x35] :=
  ⟨Or.inr ⟨_, rfl, by decide⟩, ⟨by decide, by decide⟩, Or.inr ⟨_, rfl, by decide, by decide⟩,
   Or.inr (Or.inr (Or.inl ⟨[], [0x31, 0x35], by decide, Or.inl rfl, by decide, by decide⟩))⟩
example : parseFloatText [0x2D, 0x31, 0x32, 0x2E, 0x38, 0x2A, 0x31, 0x30, 0x5E, 0x31, 0x35]
    = [0x2D, 0x31, 0x32, 0x2E, 0x38, 0x65, 0x31, 0x35] ∧
    parseFloatText [0x37, 0x2A, 0x5E, 0x2D, 0x33] = [0x37, 0x65, 0x2D, 0x33] ∧
    parseFloatText [0x31, 0x45, 0x2B, 0x32] = [0x31, 0x45, 0x2B, 0x32] := by decide

/-! ### Keyword table (pkg/syntax/zh/keyword.go, regenerated as `Tokens.keywordTable`) -/

/-- no first glyph is listed twice: the outer `switch ch` has one case per glyph -/
theorem keyword_first_glyphs_distinct : (Tokens.keywordTable.map (·.1)).Nodup := keywordTable_wf.2

/-- within one glyph's ordered alternatives, no alternative's lookahead is a prefix of another one's
(in either order; in particular no alternative is listed twice) -/
theorem keyword_alternatives_exclusive :
    ∀ e ∈ Tokens.keywordTable, ∀ a ∈ e.2, ∀ b ∈ e.2, a.1 <+: b.1 → a = b := by decide +kernel

/-- hence at most one alternative matches the glyphs that follow … -/
theorem keyword_match_unique :
    ∀ e ∈ Tokens.keywordTable, ∀ (rest : List Nat), ∀ a ∈ e.2, ∀ b ∈ e.2,
      a.1 <+: rest → b.1 <+: rest → a = b := by
  intro e he rest a ha b hb h1 h2
  have f := fun x hx h => find?_prefix_free (·.1) e.2 (keyword_alternatives_exclusive e he) (a := x) (s := rest) hx h
  exact Option.some.inj ((f a ha h1).symm.trans (f b hb h2))

/-- … and the order of the `if … else if …` chain does not matter: whichever alternative matches is the
one the chain (first match in table order) selects -/
theorem keyword_order_irrelevant :
    ∀ e ∈ Tokens.keywordTable, ∀ (rest : List Nat), ∀ a ∈ e.2, a.1 <+: rest →
      e.2.find? (fun x => x.1.isPrefixOf rest) = some a :=
  fun e he _ _ ha h => find?_prefix_free (·.1) e.2 (keyword_alternatives_exclusive e he) ha h

/-- the recorded word length (how far the cursor moves) is the number of glyphs of the spelling -/
theorem keyword_wordlen_consistent :
    ∀ e ∈ Tokens.keywordTable, ∀ a ∈ e.2, a.2.1 = a.1.length + 1 :=
  fun e he a ha => ((keywordTable_wf.1 e he).2 a ha).2.2

/-- the table denotes exactly the documented keyword list: the same 34 spellings with the same token types -/
theorem keyword_types_documented (x : List Nat × Nat) :
    x ∈ Keywords.denoted Tokens.keywordTable ↔ x ∈ Keywords.documented := D_same x

/-- the documented list is a function of the spelling (34 distinct spellings) -/
theorem keyword_documented_functional :
    (Keywords.documented.map (·.1)).Nodup ∧ Keywords.documented.length = 34 := by decide +kernel

-- non-vacuity: 不大于 is in the table (glyph 不, lookahead 大于), matches "大于20", and is what the chain selects
example : (0x4E0D, [([0x4E3A], 2, 50), ([0x5927, 0x4E8E], 3, 52), ([0x7B49, 0x4E8E], 3, 51), ([0x5C0F, 0x4E8E], 3, 53)])
    ∈ Tokens.keywordTable ∧ ([0x5927, 0x4E8E], 3, 52) ∈
      [([0x4E3A], 2, 50), ([0x5927, 0x4E8E], 3, 52), ([0x7B49, 0x4E8E], 3, 51), ([0x5C0F, 0x4E8E], 3, 53)]
    ∧ [0x5927, 0x4E8E] <+: [0x5927, 0x4E8E, 0x32, 0x30] := by decide
example : ([0x4E0D, 0x5927, 0x4E8E], 52) ∈ Keywords.denoted Tokens.keywordTable := by decide

/-! ### The lexer on unspaced text (model: `Model/Lexer.lean`, the whole `NextToken`) -/


/-- the documented keyword list is prefix-free: no keyword is a prefix of another one -/
theorem documented_prefix_free :
    ∀ a ∈ Keywords.documented, ∀ b ∈ Keywords.documented, a.1 <+: b.1 → a = b := Model.documented_prefix_free

/-- the full statement of the property's first sentence: for EVERY text the tokens are the documented segmentation.
It cannot hold as such — white space, line breaks, operators, numbers' signs, punctuation, quotes, back-ticks,
`注` and invalid characters are tokenised by the other scanners (`operator_needs_delimiter`,
`backtick_is_one_identifier`, the C13 theorems, correspondence) — so the proved theorem restricts the alphabet. -/
def lex_is_greedy_segmentation_full : Prop :=
  ∀ s : List Nat, (lexAll (s.length + 2) (mkLexer s) []).1 =
    (Spec.Segment.segment Keywords.documented s).map tokOf ++ [eofTok s.length]

/-- **Unspaced text is cut greedily into keywords and names** — for every text (any length) over the keyword glyphs
and the plain name characters (`SegChar`: every identifier character — CJK, Latin, Greek, kana, hangul letters,
digits, `_ $ ^` … — except 注 and the operator marks `& @ # = < > + - * / | %`), the token stream of the lexer is
exactly the documented segmentation: at each position the unique documented keyword that matches there is cut out,
otherwise the character extends the current name; then EOF; no error.  (`_partial` in the alphabet only.) -/
theorem lex_is_greedy_segmentation_partial (s : List Nat) (hs : ∀ c ∈ s, SegChar c) :
    (lexAll (s.length + 2) (mkLexer s) []).1 = (Spec.Segment.segment Keywords.documented s).map tokOf ++ [eofTok s.length] ∧
    (lexAll (s.length + 2) (mkLexer s) []).2.1 = some (.ok ()) := by
  unfold Spec.Segment.segment
  cases s with
  | nil =>
    have := lexAll_empty 1
    simpa [segAux_nil, Spec.Segment.flush] using this
  | cons c r =>
    rw [lexAll_first c r (hs c List.mem_cons_self)]
    have := lexAll_seg (c :: r) hs (c :: r).length 0 [] ((c :: r).length + 2) rfl (Nat.zero_le _) (by omega)
    simpa using this

-- non-vacuity: 如果何为不等于x大 is over the alphabet; its documented segmentation is 如果 | 何为 | 不等于 | x大
set_option maxRecDepth 100000 in
example : ∀ c ∈ [0x5982, 0x679C, 0x4F55, 0x4E3A, 0x4E0D, 0x7B49, 0x4E8E, 0x78, 0x5927], SegChar c := by decide +kernel
example : Spec.Segment.segment Keywords.documented [0x5982, 0x679C, 0x4F55, 0x4E3A, 0x4E0D, 0x7B49, 0x4E8E, 0x78, 0x5927] =
    [.kw 44 0 2, .kw 46 2 4, .kw 51 4 7, .name 7 9 [0x78, 0x5927]] := by decide
-- … and the restriction is needed: `+` is an identifier character but an operator mark, so not in the alphabet
set_option maxRecDepth 100000 in
example : ¬ SegChar 0x2B ∧ ¬ SegChar 0x6CE8 ∧ ¬ SegChar 0x20 := by decide +kernel

/-- **Between back-ticks no keyword is extracted**: a back-tick, any run of identifier characters (keyword glyphs
included, also `. * / %`), a back-tick — at the start of a text and followed by anything — is ONE identifier token
whose name is exactly the run. -/
theorem backtick_is_one_identifier (w r : List Nat)
    (hw : ∀ c ∈ w, isIdentifierChar c = true ∨ c ∈ IdRange.idContinue) :
    (nextToken (mkLexer (Tokens.cBackTick :: (w ++ Tokens.cBackTick :: r)))).1 =
      .ok { type := Tokens.cTypeIdentifier, literal := w, startIdx := 0, endIdx := w.length + 2 } := by
  rw [nextToken_first _ _ (by decide) ⟨by decide, by decide, by decide⟩,
    dispatch_quoted w r hw _ (startState_cur _ _) (startState_rest _ _)]
  simp [startState]

-- non-vacuity: `如果` between back-ticks (both glyphs are identifier characters) is a name, not the keyword
set_option maxRecDepth 100000 in
example : ∀ c ∈ [0x5982, 0x679C], isIdentifierChar c = true ∨ c ∈ IdRange.idContinue := by decide +kernel

/-- **`+ - * /` is an operator token exactly when a delimiter follows** (white space, punctuation or a quote
character): then it is the one-character token of its type; `/=` is always the two-character not-equal mark;
otherwise `parseOperators` declines and the character starts (or is) a name or number.  `//` and `/*` never reach
this point: at a token start they are comments. -/
theorem operator_needs_delimiter (l : Lexer) (hc : l.cur ∈ arithOps) :
    (l.cur = Tokens.cSlashOp ∧ l.peek = Tokens.cEqualOp →
      parseOperators l = (.ok (some { type := Tokens.cTypeNEMark, startIdx := l.cursor, endIdx := l.cursor + 2 }), l.adv.adv)) ∧
    (¬ (l.cur = Tokens.cSlashOp ∧ l.peek = Tokens.cEqualOp) →
      ((∃ tk, (parseOperators l).1 = .ok (some tk)) ↔ isDelimiter l.peek = true) ∧
      (isDelimiter l.peek = true → parseOperators l =
        (.ok (some { type := arithTokenType l.cur, startIdx := l.cursor, endIdx := l.cursor + 1 }), l.adv)) ∧
      (isDelimiter l.peek = false → parseOperators l = (.ok none, l))) ∧
    (l.cur = Tokens.cSlashOp → (l.peek = Tokens.cSlashOp ∨ l.peek = Tokens.cMultiplyOp) →
      ∃ tk, (dispatchToken l).1 = .ok tk ∧ tk.type = Tokens.cTypeComment ∧ tk.startIdx = l.cursor) := by
  refine ⟨?_, ?_, fun h1 h2 => dispatch_slash_comment l h1 h2⟩
  · rintro ⟨h1, h2⟩
    rw [parseOperators_arith l hc]
    simp [h1, h2]
  · intro hne
    have hcond : (l.cur == Tokens.cSlashOp && l.peek == Tokens.cEqualOp) = false := by
      rw [Bool.eq_false_iff]; intro h; apply hne; simpa using h
    rw [parseOperators_arith l hc]
    simp only [hcond, Bool.false_eq_true, ↓reduceIte]
    cases hd : isDelimiter l.peek <;> simp

-- non-vacuity: `+` before a space is the operator; `+` before `1` is not (it will be the sign of a number)
example : (0x2B : Nat) ∈ arithOps ∧ isDelimiter 0x20 = true ∧ isDelimiter 0x31 = false ∧
    isDelimiter 0xFF08 = true ∧ isDelimiter 0x201C = true := by decide

end ZnVerif.Properties.C04
