/-
C10 — no program can crash the host process: the INPUT-VARIABLE TEXTS.

"Whatever … input-variable text is applied to whatever values, the outcome is a value or a Zn error delivered through the normal
error channel — never a Go runtime panic, a nil result that crashes the caller, or a process exit."

Model: Model/VarInput.lean (pkg/exec/exec_varinput.go as written) on top of the evaluator Model/Interp.lean, started in the VM
`r.InitVM(NewGlobalValues())` gives: predefined names, NO module, NO call frame, NO scope.  On the pinned tree `X = Y` dereferenced
the missing frame and `X = 其Y` indexed `callStack[-1]` (commit e955303 repaired the accessors; 2eab72e the call of a name bound
by the text itself).  In the model every such access is `goPanic`-free by construction of the accessors (`topFrame`,
`currentScope` answer `none`) — what has to be PROVED is that nothing else of the evaluator panics when started there:
`popFrame` on an empty stack, `getCell` of a dangling address, the `| none => goPanic` / `| _ => goPanic` arms of `evalExpr`,
`memberIV`, `execMethodFunction`, `construct`.  `eval_total_without_frames` is that fact (Proofs/VarInput*.lean: the invariant `VI`,
one induction on the fuel), for every complete expression — the trees the parser returns (C03 `returned_tree_complete`).

The built-in members reached from a text are covered by re-using the lemmas behind Properties/C10.lean's results (Proofs/BuiltinMembers.lean:
`post_builtinMethod`, `post_getProperty`, `post_reduceRHS`, `post_reduceLHS`; Proofs/Builtins.lean: `post_dup`, `ro_display`, `ro_compareXEQ`),
not by re-proving them.

The three theorems at the end that take the real lexer model (`execVarInputBytes_total`, `execVarInputRunes_total`, `evalExpressionText_total`)
ask one position bound `B` for every source at once, which no `B` meets: they cannot be instantiated (see the first one's docstring); the
per-source forms `varinput_text_total` / `exprinput_text_total` are the end-to-end statements.

Tie to the code: tools/props/c10.py streams `varinput`, `varinput:trace`, `varinput:tree` (Go = model on texts, with the display trace,
on several entries, and on the real parser's tree).
-/
import ZnVerif.Proofs.VarInputTop
import ZnVerif.Proofs.ParserTheorems

namespace ZnVerif.Properties.C10VarInput
open ZnVerif.Model ZnVerif.Model.VarInput ZnVerif.Model.Parser ZnVerif.Proofs.VarInput ZnVerif.Proofs.Builtins
open ZnVerif.Spec.Grammar ZnVerif.Proofs.ParserHoare

variable {ν : Type} [NumOps ν]

/-! ## the VM the texts are evaluated in -/

/-- `r.InitVM(NewGlobalValues())`: no frame, no scope, no current module … -/
theorem initial_vm_is_empty :
    (initVM () : VM ν).stack = [] ∧ (initVM () : VM ν).scopes = [] ∧ (initVM () : VM ν).csModuleID = -1 ∧
    (initVM () : VM ν).modules = #[] := ⟨rfl, rfl, rfl, rfl⟩

/-- … and it satisfies the invariant `VI` (well-formed heap, no user-defined method / constructor anywhere, every root a cell) -/
theorem initial_vm_invariant : VI (initVM () : VM ν) := by
  have hsz : (initVM () : VM ν).heap.size = 7 := rfl
  -- the seven predefined cells, one by one: only the type 异常 has anything to check
  have cells : ∀ c ∈ (initVM () : VM ν).heap.toList, CellOk (initVM () : VM ν).heap c ∧ Plain c := by
    intro c hc
    rcases hc with _ | ⟨_, _ | ⟨_, _ | ⟨_, _ | ⟨_, _ | ⟨_, _ | ⟨_, _ | ⟨_, hc⟩⟩⟩⟩⟩⟩⟩
    iterate 3 exact ⟨trivial, trivial⟩
    · exact ⟨⟨nofun, nofun⟩, rfl⟩
    iterate 3 exact ⟨trivial, trivial⟩
    · cases hc
  have cell := fun (a : Nat) (c : Cell ν) (h : (initVM () : VM ν).heap[a]? = some c) =>
    cells c (Array.mem_toList_iff.2 (Array.mem_of_getElem? h))
  refine ⟨fun a c h => (cell a c h).1, fun a c h => (cell a c h).2, ?_, nofun, nofun⟩
  intro p hp
  rw [hsz]
  rcases hp with _ | ⟨_, _ | ⟨_, _ | ⟨_, _ | ⟨_, _ | ⟨_, _ | ⟨_, _ | ⟨_, hp⟩⟩⟩⟩⟩⟩⟩
  iterate 7 decide
  cases hp

/-! ## the evaluator never needs a frame -/

/-- **the VM accessors are guarded — "never panics from an empty stack"**: a complete expression, evaluated with any fuel in any state that
    satisfies `VI` — in particular the frameless initial VM, and every state a previous text left behind (frames of failed calls
    included) — does not panic; the state handed back satisfies `VI` again, and a value is the address of a cell (no nil result). -/
theorem eval_total_without_frames (n : Nat) (e : Expr) (hc : CExpr e) (s : VM ν) (hs : VI s) :
    (evalExpr n e s).1 ≠ .panic ∧ VI (evalExpr n e s).2 ∧ s.heap.size ≤ (evalExpr n e s).2.heap.size ∧
    ∀ v, (evalExpr n e s).1 = .ok v → v < (evalExpr n e s).2.heap.size :=
  ((allV n).eval e s hc hs).good

/-- the pieces, for the record: a call and a method call in such a VM (these push and pop frames; 新建: `vpost_construct`,
    Proofs/VarInputCalls.lean) -/
theorem call_total_without_frames (n : Nat) (fname : String) (params : List Addr) (s : VM ν) (hs : VI s)
    (hp : ∀ v ∈ params, v < s.heap.size) : (execDirectFunction n fname params s).1 ≠ .panic :=
  (vpost_execDirectFunction n hs fname hp).ne_panic

theorem method_call_total_without_frames (n : Nat) (root : Addr) (fname : String) (params : List Addr) (s : VM ν) (hs : VI s)
    (hr : root < s.heap.size) (hp : ∀ v ∈ params, v < s.heap.size) : (execMethodFunction n root fname params s).1 ≠ .panic :=
  (vpost_execMethodFunction n hs hr fname hp).ne_panic

/-- the tree-level statement with everything it gives: not a panic, the VM left behind satisfies `VI`, every bound value is a cell -/
theorem varinput_good (fuel : Nat) (p : Program) (hc : Complete p) (s : VM ν) (hs : VI s) :
    GoodMap (evalVarAssignBlockTree fuel p s) := by
  unfold evalVarAssignBlockTree
  cases ha : assertVarAssignBlock p with
  | none => exact hs
  | some pairs =>
    exact evalAssigns_good fuel pairs (fun q hq => (assert_complete hc ha q hq).2) [] s hs (fun b hb => nomatch hb)

/-- **varinput_total**: for every (complete) tree and every fuel, `ExecVarInputText` does not panic -/
theorem varinput_total (fuel : Nat) (p : Program) (hc : Complete p) :
    (execVarInputTree fuel p : Outcome ν _) ≠ .panic :=
  fun he => goodMap_ne_panic (varinput_good fuel p hc (initVM ()) initial_vm_invariant) he

/-- … and never hands a nil value to its caller: every name of the returned map is bound to a cell of the returned VM's heap -/
theorem varinput_no_nil (fuel : Nat) (p : Program) (hc : Complete p) (binds : List (String × Addr)) (s' : VM ν)
    (h : execVarInputTree fuel p = .ok binds s') : ∀ b ∈ binds, ∃ c, s'.heap[b.2]? = some c := by
  have := varinput_good (ν := ν) fuel p hc (initVM ()) initial_vm_invariant
  unfold execVarInputTree at h
  rw [h] at this
  exact fun b hb => get_of_lt_size (this.2 b hb)

theorem exprinput_good (fuel : Nat) (p : Program) (hc : Complete p) (s : VM ν) (hs : VI s) :
    GoodVal (evalExpressionTree fuel p s) :=
  (evalExpressionTree_good fuel p s hs (fun _ ha => single_complete hc ha)).1

/-- **exprinput_total**: one entry, in ANY state that satisfies `VI` (the VM is shared by the entries: a later entry starts where the
    earlier ones stopped) -/
theorem exprinput_total (fuel : Nat) (p : Program) (hc : Complete p) (s : VM ν) (hs : VI s) :
    evalExpressionTree fuel p s ≠ .panic :=
  fun he => goodVal_ne_panic (exprinput_good fuel p hc s hs) he

/-- all entries of `ExecExpressionInputText`, in whatever order: no panic, every returned value a cell -/
theorem exprinputs_total (fuel : Nat) (entries : List (String × Program)) (hc : ∀ x ∈ entries, Complete x.2) :
    GoodMap (execExpressionInputTrees (ν := ν) fuel entries) ∧ (execExpressionInputTrees (ν := ν) fuel entries) ≠ .panic := by
  have h : GoodMap (execExpressionInputTrees (ν := ν) fuel entries) := by
    unfold execExpressionInputTrees
    exact exprInputsLoop_good _ entries
      (fun x hx s hs => evalExpressionTree_good fuel x.2 s hs (fun _ ha => single_complete (hc x hx) ha)) [] _ initial_vm_invariant nofun
  exact ⟨h, fun he => goodMap_ne_panic h he⟩

/-! ## the texts themselves: parser + checks + evaluator -/

variable {σ : Type} {ops : LexOps σ} {B : Nat} {μ : σ → Nat} {I : σ → Prop}

/-- **varinput_total, end to end**: whatever the text (any lexer that meets `LexOK`: C05), whatever the fuels, the entry point
    `evalVarAssignBlockText` started in the initial VM does not panic: the parser does not (C05 `no_panic_after_fix`), the tree it
    returns is complete (C03 `returned_tree_complete`), the evaluator then needs no frame -/
theorem varinput_text_total (hl : LexOK ops B μ I) (l : σ) (hI : I l) (pfuel fuel : Nat) (isEmpty : Bool) (s : VM ν) (hs : VI s) :
    GoodMap (evalVarAssignBlockWith ops pfuel fuel isEmpty l s) := by
  unfold evalVarAssignBlockWith
  split
  · exact ⟨hs, fun b hb => nomatch hb⟩
  · have hp := ZnVerif.Proofs.ParserGood.parseAST_spec hl pfuel l hI
    unfold afterParse
    cases hr : parseAST Variant.fixed ops pfuel l with
    | tree t => rw [hr] at hp; exact varinput_good fuel t hp s hs
    | synErr e => exact hs
    | otherErr => exact hs
    | outOfFuel => trivial

theorem exprinput_text_total (hl : LexOK ops B μ I) (l : σ) (hI : I l) (pfuel fuel : Nat) (s : VM ν) (hs : VI s) :
    GoodVal (evalExpressionWith ops pfuel fuel l s) := by
  unfold evalExpressionWith
  have hp := ZnVerif.Proofs.ParserGood.parseAST_spec hl pfuel l hI
  unfold afterParse
  cases hr : parseAST Variant.fixed ops pfuel l with
  | tree t => rw [hr] at hp; exact exprinput_good fuel t hp s hs
  | synErr e => exact hs
  | otherErr => exact hs
  | outOfFuel => trivial

/-- `ExecVarInputText(source)` on the bytes of the Go string, with the lexer model `Model/Lexer.lean` (that it meets `LexOK` is the
    lexer's own obligation, as everywhere in C05): invalid UTF-8 is the IO error 12, the empty text the empty map, the rest as above.
    TRAP: this theorem and the two below ask `LexOK realOps B μ I` with ONE bound `B` together with `I (mkLexer src)` for EVERY source; a
    source longer than `B` has a token or an error beyond `B`, so the two hypotheses cannot be met together.  The forms to build on are
    the per-source ones above (`varinput_text_total`, `exprinput_text_total`: `I l` for the one lexer state `l`). -/
theorem execVarInputBytes_total {B : Nat} {μ : Lexer → Nat} {I : Lexer → Prop} (hl : LexOK realOps B μ I) (hI : ∀ src, I (mkLexer src)) (pfuel fuel : Nat) (bytes : List Nat) :
    (execVarInputBytes pfuel fuel bytes : Outcome ν _) ≠ .panic := by
  unfold execVarInputBytes evalVarAssignBlockText
  split
  · intro h; cases h
  · cases byteStreamReadAll bytes with
    | error e => intro h; cases h
    | ok src => exact fun he => goodMap_ne_panic (varinput_text_total hl (mkLexer src) (hI src) pfuel fuel false (initVM ()) initial_vm_invariant) he

/-- the same on the runes of the text (the form the C05 stream `varinput` drives: Model/VarInput.lean `execVarInputText`, called from Ops/VarInput.lean) -/
theorem execVarInputRunes_total {B : Nat} {μ : Lexer → Nat} {I : Lexer → Prop} (hl : LexOK realOps B μ I) (hI : ∀ src, I (mkLexer src))
    (pfuel fuel : Nat) (src : List Nat) : (execVarInputRunes pfuel fuel src : Outcome ν _) ≠ .panic :=
  fun he => goodMap_ne_panic (varinput_text_total hl (mkLexer src) (hI src) pfuel fuel src.isEmpty (initVM ()) initial_vm_invariant) he

theorem evalExpressionText_total {B : Nat} {μ : Lexer → Nat} {I : Lexer → Prop} (hl : LexOK realOps B μ I) (hI : ∀ src, I (mkLexer src)) (pfuel fuel : Nat) (bytes : List Nat)
    (s : VM ν) (hs : VI s) : evalExpressionText pfuel fuel bytes s ≠ .panic := by
  unfold evalExpressionText
  cases byteStreamReadAll bytes with
  | error e => intro h; cases h
  | ok src => exact fun he => goodVal_ne_panic (exprinput_text_total hl (mkLexer src) (hI src) pfuel fuel s hs) he

/-! ## non-vacuity: the former crash inputs, as trees, in the model -/

section examples
local instance unitNum : NumOps Unit where
  add _ _ := (); sub _ _ := (); mul _ _ := (); div _ _ := (); floor _ := (); ceil _ := (); sqrt _ := ()
  eq _ _ := true; lt _ _ := false; gt _ _ := false; le _ _ := true; ge _ _ := true
  isZero _ := false; leZero _ := false; ofInt _ := (); toInt _ := 0; parse _ := (); fmt _ := ""

def prog (stmts : List Stmt) : Program := { imports := [], exec := some (.mk [] (some stmts) []) }
def asg (l : Nat) (x : String) (e : Expr) : Stmt := .expr (.assign l (.id ⟨l, x⟩) e)

/-- why completeness is a hypothesis: a tree with a missing part (a call without a name) does panic — Go: nil dereference —; such a
    tree is what the parser never returns -/
example : (match (execVarInputTree 5 (prog [asg 0 "X" (.call 0 none [] none)]) : Outcome Unit _) with
    | .panic => true | _ => false) = true := by decide +kernel
/-- `X = Y`: NameNotDefined (42) -/
example : (match (execVarInputTree 9 (prog [asg 0 "X" (.id ⟨0, "Y"⟩)]) : Outcome Unit _) with
    | .evalErr (.rt 42) _ => true | _ => false) = true := by decide +kernel
/-- `X = 其Y`: error 48, not `callStack[-1]` -/
example : (match (execVarInputTree 9 (prog [asg 0 "X" (.member 0 2 .nil 1 (some ⟨0, "Y"⟩) .nil)]) : Outcome Unit _) with
    | .evalErr (.rt 48) _ => true | _ => false) = true := by decide +kernel
/-- `甲 = （显示：“a”）得到乙 ⏎ 丙 = （乙）`: the call creates the scope of module -1, 得到 binds 乙 there, `（乙）` finds it, its home
    module is -1 (Go: nil → native module, commit 2eab72e), it is not a method: error 81 — and the frame of that call stays -/
example : (match (execVarInputTree 9 (prog [asg 0 "甲" (.call 0 (some ⟨0, "显示"⟩) [.str 0 "a"] (some ⟨0, "乙"⟩)),
      asg 1 "丙" (.call 1 (some ⟨1, "乙"⟩) [] none)]) : Outcome Unit _) with
    | .evalErr (.rt 81) s => s.stack.length == 1 && s.out == ["a"] | _ => false) = true := by decide +kernel
/-- a text that succeeds: `X = 【“a”】 ⏎ Y = 以X…` cannot see X (no scope), but `Y = （显示：“b”）` runs: two names bound -/
example : (match (execVarInputTree 9 (prog [asg 0 "X" (.arr 0 [.str 0 "a"]), .empty 1, asg 2 "Y" (.call 2 (some ⟨2, "显示"⟩) [.str 2 "b"] none)])
      : Outcome Unit _) with
    | .ok binds s => binds.map (·.1) == ["X", "Y"] && s.stack.isEmpty | _ => false) = true := by decide +kernel
end examples

end ZnVerif.Properties.C10VarInput
