/-
C03, statements: a second non-vacuity example that uses every constructor of the rendering relations `LinN`, `LinSimple`, `LinX` but two
(`LinX.str`: the one text, on line 33, is an index, `LinX.idxStr`; `LinN.tailNil`: the one 如果 has a 否则), and `LinProgram` with 导入
statements: the 47-line program listed, with its tokens, in Properties/C03StmtTokens.  The derivation shows that the hypotheses of
`parse_statements_roundtrip` are satisfiable on it; the tree is the one the derivation determines.  (Independently, C03StmtTokens
evaluates the parser model on the tokens and compares the tree's shape and line numbers with the expected ones.)
-/
import ZnVerif.Properties.C03Stmt
import ZnVerif.Properties.C03StmtTokens

namespace ZnVerif.Properties.C03.Example2
open ZnVerif.Model ZnVerif.Model.Parser ZnVerif.Generated.Tokens
open ZnVerif.Spec.StmtSyntax ZnVerif.Proofs.StmtRT

-- Line `k` starts at character `100 * k`, so the line of a character is a division.  The side conditions of the derivation below
-- (indentation, line breaks between tokens, reading order) are decided through it instead of by the search `FindLineIdx`.

theorem line_start : ∀ m < 47, (Y.lines[m]?).map (·.startIdx) = some (100 * m) := by decide +kernel

theorem line_eq (c : Nat) : findLineIdx Y.lines c 0 = min (c / 100) 46 := by
  have hsz : Y.lines.size = 47 := rfl
  have hst : ∀ m (h : m < Y.lines.size), Y.lines[m].startIdx = 100 * m := fun m h => by
    simpa [h] using line_start m (hsz ▸ h)
  refine ZnVerif.Proofs.ParserHoare.findLineIdx_eq Y.lines c (Nat.zero_le _) (by omega) (fun x _ hx => ⟨by omega, ?_⟩)
    fun ⟨h', hn⟩ => hn ?_
  · rw [hst]; omega
  · rw [hst]; omega

instance (priority := high) (t : Token) (d : Nat) : Decidable (Y.ind t = d) :=
  decidable_of_iff (Y.indent (min (t.startIdx / 100) 46) = d) (by unfold Layout.ind Layout.sl; rw [line_eq])

instance (priority := high) (t u : Token) (b : Bool) : Decidable (Y.brk t u = b) :=
  decidable_of_iff (meetStmtLineBreak (some t) u (min (u.startIdx / 100) 46) (min (t.endIdx / 100) 46) = b) (by
    unfold Layout.brk Layout.sl Layout.el; rw [line_eq, line_eq])

instance (priority := high) (a : Option Token) (u : Token) (b : Bool) : Decidable (Y.jf a u = b) :=
  match a with
  | none => (inferInstance : Decidable (false = b))
  | some t => (inferInstance : Decidable (Y.brk t u = b))

instance (priority := high) (t u : Token) : Decidable (Y.sl t ≤ Y.sl u) :=
  decidable_of_iff (min (t.startIdx / 100) 46 ≤ min (u.startIdx / 100) 46) (by
    unfold Layout.sl; rw [line_eq, line_eq])

instance (priority := high) (t u : Token) : Decidable (Y.el t ≤ Y.el u) :=
  decidable_of_iff (min (t.endIdx / 100) 46 ≤ min (u.endIdx / 100) 46) (by
    unfold Layout.el; rw [line_eq, line_eq])

def decGlued : (ts : List Token) → Decidable (Y.Glued ts)
  | [] => .isTrue trivial
  | [_] => .isTrue trivial
  | t :: u :: r =>
    have : Decidable (Y.Glued (u :: r)) := decGlued (u :: r)
    (inferInstance : Decidable (Y.brk t u = false ∧ Y.Glued (u :: r)))

instance (priority := high) (ts : List Token) : Decidable (Y.Glued ts) := decGlued ts

def decInOrder : (ts : List Token) → Decidable (Y.InOrder ts)
  | [] => .isTrue trivial
  | t :: r =>
    have : Decidable (Y.InOrder r) := decInOrder r
    (inferInstance : Decidable (t.type ≠ cTypeComment ∧ Y.sl t ≤ Y.sl (Y.peek r) ∧ Y.el t ≤ Y.el (Y.peek r) ∧ Y.InOrder r))

instance (priority := high) (ts : List Token) : Decidable (Y.InOrder ts) := decInOrder ts


theorem lid (t : Token) (h : t.type = cTypeIdentifier) : LinE Y 1 (.id (Y.idOf t)) [t] := linE_id1 t h

/-- `输出 x` on line `l`, as a statement of a block indented by `d` -/
theorem retS (d l : Nat) (x : Token) (hx : x.type = cTypeIdentifier) (hg : Y.Glued [ret l, x]) :
    LinN Y d (.stmt (.ret (Y.sl (ret l)) (.id (Y.idOf x)))) [ret l, x] :=
  .simple d _ _ (.retStmt (ret l) _ [x] rfl (lid x hx) hg)

/-- a block of one statement -/
theorem blk1 {d : Nat} {s : Stmt} {ts : List Token} (h : LinN Y d (.stmt s) ts) (hi : Y.ind (Y.peek ts) = d) :
    LinN Y d (.block [s]) (ts ++ []) := .blockCons d s [] ts [] h hi (.blockNil d) (Or.inl rfl)

-- line 0
def imports :=
  LinImports.cons (Y := Y) (d := 0) _ l0 [] _ [] (.items (T cTypeImportW 0 0) (T cTypeLibString 0 1 [0x5E93]) (T cTypeObjDotW 0 2) _
    [jia 0 3, pause 0 4, yi 0 5] rfl (by decide +kernel) (by decide +kernel)
    (.cons (jia 0 3) (pause 0 4) _ _ rfl rfl (.one (yi 0 5) rfl)) (by decide +kernel)) (by decide +kernel) (.nil _) .nil

-- lines 1–3
def declBlock :=
  LinN.declBlockStmt (Y := Y) 0 (T cTypeDeclareW 1 0) (colon 1 1) _ _ rfl rfl (by decide +kernel) (by decide +kernel) (by simp)
    (.cons (T cTypeAssignW 2 1) _ [jia 2 0] _ [yi 2 2] _ _ (.one _ rfl) (by decide +kernel) (lid _ rfl) (by decide +kernel)
      (by decide +kernel)
      (.cons (T cTypeAssignConstW 3 3) _ [bing 3 0, pause 3 1, nm 3 2] _ [jia 3 4] _ [] (.cons _ _ _ _ rfl rfl (.one _ rfl))
        (by decide +kernel) (lid _ rfl) (by decide +kernel) (by decide +kernel) .nil (Or.inl rfl))
      (Or.inr (by decide +kernel)))

-- lines 4–13: 如何 求和？
def ifBlock := blk1 (retS 2 7 (jia 7 1) rfl (by decide +kernel)) (by decide +kernel)
def elifBlock := blk1 (LinN.simple (Y := Y) 2 _ _ (.continueStmt (T cTypeContinueW 9 0) rfl)) (by decide +kernel)
def throwS :=
  LinN.simple (Y := Y) 2 _ _ (.throwStmt (T cTypeThrowErrorW 11 0) (nm 11 1) (colon 11 2) (T cTypeExceptionT 11 6) _ _ rfl rfl rfl
    (.cons (pause 11 4) _ [jia 11 3] _ _ (lid _ rfl) rfl rfl (.one _ _ (lid (yi 11 5) rfl))) rfl (by decide +kernel))
def elseBlock := blk1 throwS (by decide +kernel)

def branch :=
  LinN.branchStmt (Y := Y) 1 (T cTypeCondW 6 0) (colon 6 2) _ _ _ _ _ _ _ _ rfl (lid (jia 6 1) rfl) rfl (by decide +kernel)
    (by decide +kernel) (by decide +kernel) (by simp) ifBlock
    (.tailOther 1 (T cTypeCondOtherW 8 0) (colon 8 2) _ _ _ _ _ _ _ _ rfl (lid (yi 8 1) rfl) rfl (by decide +kernel)
      (by decide +kernel) (by decide +kernel) (by simp) elifBlock
      (.tailElse 1 (T cTypeCondElseW 10 0) (colon 10 1) _ _ rfl rfl (by decide +kernel) (by decide +kernel) (by decide +kernel)
        (by simp) elseBlock)
      (Or.inr (by decide +kernel)))
    (Or.inr (by decide +kernel))

def handler1 :=
  LinN.handCons (Y := Y) 1 (T cTypeCatchErrorW 12 0) (nm 12 1) (colon 12 2) _ _ _ _ rfl rfl rfl (by decide +kernel)
    (by decide +kernel) (by decide +kernel) (by simp)
    (blk1 (retS 2 13 (yi 13 1) rfl (by decide +kernel)) (by decide +kernel)) (.handNil 1) (Or.inl rfl)

def funcBody :=
  LinN.execInput (Y := Y) 1 (T cTypeInputW 5 0) _ [jia 5 1, pause 5 2, yi 5 3] _ _ _ _ rfl (.cons _ _ _ _ rfl rfl (.one _ rfl))
    (by decide +kernel) (by decide +kernel) (blk1 branch (by decide +kernel)) handler1 (Or.inr (by decide +kernel))
    (Or.inr (by decide +kernel)) (by simp)

def funcS :=
  LinN.funcStmt (Y := Y) 0 (T cTypeFuncW 4 0) (nm 4 1) (qm 4 2) _ _ rfl rfl rfl (by decide +kernel) (by decide +kernel) funcBody

-- lines 14–19: 定义 狗：
def body1 (l : Nat) (x : Token) (hx : x.type = cTypeIdentifier) (hg : Y.Glued [ret l, x]) (hi : Y.ind (ret l) = 2) :=
  LinN.execPlain (Y := Y) 2 _ _ _ _ (blk1 (retS 2 l x hx hg) hi) (.handNil 2) (Or.inl rfl) (by simp)

def members :=
  LinN.memProp (Y := Y) 1 (T cTypeObjThisW 15 0) (nm 15 1) (T cTypeAssignW 15 2) _ _ _ _ _ _ rfl rfl (by decide +kernel)
    (lid (jia 15 3) rfl) (by decide +kernel) (by decide +kernel)
    (.memMethod 1 (T cTypeFuncW 16 0) (nm 16 1) (qm 16 2) _ _ _ _ _ _ rfl rfl rfl (by decide +kernel) (by decide +kernel)
      (by decide +kernel) (body1 17 (jia 17 1) rfl (by decide +kernel) (by decide +kernel))
      (.memGetter 1 (T cTypeGetterW 18 0) (nm 18 1) (qm 18 2) _ _ _ _ _ _ rfl rfl rfl (by decide +kernel) (by decide +kernel)
        (by decide +kernel) (body1 19 (yi 19 1) rfl (by decide +kernel) (by decide +kernel)) (.memNil 1) (Or.inl rfl))
      (Or.inr (by decide +kernel)))
    (Or.inr (by decide +kernel))

def classS :=
  LinN.classStmt (Y := Y) 0 (T cTypeObjDefineW 14 0) (nm 14 1) (colon 14 2) _ _ _ _ rfl rfl rfl (by decide +kernel)
    (by decide +kernel) (by simp) members

-- lines 20–21: 如何新建 狗？
def ctorS :=
  LinN.ctorStmt (Y := Y) 0 (T cTypeFuncW 20 0) (T cTypeObjNewW 20 1) (nm 20 2) (qm 20 3) _ _ rfl rfl rfl rfl (by decide +kernel)
    (by decide +kernel)
    (.execPlain 1 _ _ _ _ (blk1 (retS 1 21 (jia 21 1) rfl (by decide +kernel)) (by decide +kernel)) (.handNil 1) (Or.inl rfl)
      (by simp))

-- lines 22–28: the three forms of 遍历, 每当, an expression with braces and four operator levels
def brkBlock (l : Nat) (hi : Y.ind (T cTypeBreakW l 0) = 1) :=
  blk1 (LinN.simple (Y := Y) 1 _ _ (.breakStmt (T cTypeBreakW l 0) rfl)) hi

def iter0 :=
  LinN.iter0Stmt (Y := Y) 0 (T cTypeIteratorW 22 0) (colon 22 2) _ _ _ _ rfl (lid (jia 22 1) rfl) rfl (by decide +kernel)
    (by decide +kernel) (by simp) (brkBlock 23 (by decide +kernel))

def iter1 :=
  LinN.iter1Stmt (Y := Y) 0 (T cTypeVarOneW 24 0) (jia 24 1) (T cTypeIteratorW 24 2) (colon 24 4) _ _ _ _ rfl rfl rfl
    (lid (yi 24 3) rfl) rfl (by decide +kernel) (by decide +kernel) (by simp) (brkBlock 25 (by decide +kernel))

theorem u6 {e : Expr} {ts : List Token} (h : LinE Y 7 e ts) : LinE Y 6 e ts := .up 6 _ _ (by decide) h
theorem u5 {e : Expr} {ts : List Token} (h : LinE Y 6 e ts) : LinE Y 5 e ts := .up 5 _ _ (by decide) h
theorem u4 {e : Expr} {ts : List Token} (h : LinE Y 5 e ts) : LinE Y 4 e ts := .up 4 _ _ (by decide) h
theorem u3 {e : Expr} {ts : List Token} (h : LinE Y 4 e ts) : LinE Y 3 e ts := .up 3 _ _ (by decide) h
theorem u2 {e : Expr} {ts : List Token} (h : LinE Y 3 e ts) : LinE Y 2 e ts := .up 2 _ _ (by decide) h
theorem u1 {e : Expr} {ts : List Token} (h : LinE Y 2 e ts) : LinE Y 1 e ts := .up 1 _ _ (by decide) h

/-- `{ 甲 或 乙 } 且 甲 == 乙 * 丙` -/
def bigExpr :=
  u1 (LinX.and (Y := Y) (cfg := true) (T cTypeLogicAndW 28 5) _ _ _ _ rfl
    (u2 (u3 (u4 (u5 (u6 (LinX.brace (T cTypeStmtQuoteL 28 0) (T cTypeStmtQuoteR 28 4) _ _ rfl rfl
      (LinX.or (T cTypeLogicOrW 28 2) _ _ [jia 28 1] [yi 28 3] rfl (lid _ rfl) (u2 (u3 (u4 (u5 (u6 (.id (yi 28 3) rfl)))))))))))))
    (LinX.cmp (T cTypeEqualMark 28 7) _ _ [jia 28 6] _ (by decide) (u4 (u5 (u6 (.id (jia 28 6) rfl))))
      (u4 (u5 (LinX.mul (T cTypeMultiply 28 9) _ _ [yi 28 8] [bing 28 10] (by decide) (u6 (.id (yi 28 8) rfl))
        (.id (bing 28 10) rfl))))))

def whileS :=
  LinN.whileStmt (Y := Y) 1 (T cTypeWhileLoopW 27 0) (colon 27 2) _ _ _ _ rfl (lid (jia 27 1) rfl) rfl (by decide +kernel)
    (by decide +kernel) (by simp)
    (blk1 (LinN.simple (Y := Y) 2 _ _ (.exprStmt _ _ bigExpr (by decide +kernel) (by decide +kernel))) (by decide +kernel))

def iter2 :=
  LinN.iter2Stmt (Y := Y) 0 (T cTypeVarOneW 26 0) (jia 26 1) (pause 26 2) (yi 26 3) (T cTypeIteratorW 26 4) (colon 26 6) _ _ _ _
    rfl rfl rfl rfl rfl (lid (bing 26 5) rfl) rfl (by decide +kernel) (by decide +kernel) (by simp)
    (blk1 whileS (by decide +kernel))

-- lines 29–44: calls, 新建, member chains, assignments, lists and dictionaries, method calls, `；`, commas, line breaks


theorem idX {cfg : Bool} (t : Token) (h : t.type = cTypeIdentifier) : LinX Y cfg 7 (.expr (.id (Y.idOf t))) [t] := .id t h
theorem lift51 {cfg : Bool} {e : Expr} {ts : List Token} (h : LinX Y cfg 5 (.expr e) ts) : LinX Y cfg 1 (.expr e) ts :=
  .up 1 _ _ (by decide) (.up 2 _ _ (by decide) (.up 3 _ _ (by decide) (.up 4 _ _ (by decide) h)))
theorem lift41 {cfg : Bool} {e : Expr} {ts : List Token} (h : LinX Y cfg 4 (.expr e) ts) : LinX Y cfg 1 (.expr e) ts :=
  .up 1 _ _ (by decide) (.up 2 _ _ (by decide) (.up 3 _ _ (by decide) h))
theorem lift61 {cfg : Bool} {e : Expr} {ts : List Token} (h : LinX Y cfg 6 (.expr e) ts) : LinX Y cfg 1 (.expr e) ts :=
  lift51 (.up 5 _ _ (by decide) h)
theorem lift75 {cfg : Bool} {e : Expr} {ts : List Token} (h : LinX Y cfg 7 (.expr e) ts) : LinX Y cfg 5 (.expr e) ts :=
  .up 5 _ _ (by decide) (.up 6 _ _ (by decide) h)
theorem lift7 {cfg : Bool} {e : Expr} {ts : List Token} (h : LinX Y cfg 7 (.expr e) ts) : LinX Y cfg 1 (.expr e) ts :=
  lift51 (lift75 h)
/-- one argument -/
def arg1 (t : Token) (h : t.type = cTypeIdentifier) := LinX.argsOne (Y := Y) _ [t] (lift7 (idX t h))

-- 29  （名：甲、乙）
def call29 :=
  LinX.call (Y := Y) (cfg := true) (lp 29 0) _ _ _ none rfl
    (.fcallArgs (nm 29 1) (colon 29 2) (rp 29 6) _ _ rfl rfl rfl
      (.argsCons (pause 29 4) _ [jia 29 3] _ _ (lift7 (idX (jia 29 3) rfl)) rfl rfl (arg1 (yi 29 5) rfl))) trivial
def s29 := LinN.simple (Y := Y) 0 _ _ (.exprStmt _ _ (lift7 call29) (by decide +kernel) (by decide +kernel))

-- 30  （名：甲）得到 丙；（名）；
def call30a :=
  LinX.call (Y := Y) (cfg := true) (lp 30 0) _ _ _ (some (T cTypeGetResultW 30 5, bing 30 6)) rfl
    (.fcallArgs (nm 30 1) (colon 30 2) (rp 30 4) _ _ rfl rfl rfl (arg1 (jia 30 3) rfl)) ⟨rfl, rfl⟩
def s30a := LinSimple.exprStmt (Y := Y) _ _ (lift7 call30a) (by decide +kernel) (by decide +kernel)
def call30b := LinX.call (Y := Y) (cfg := true) (lp 30 8) _ _ _ none rfl (.fcall0 (nm 30 9) (rp 30 10) rfl rfl) trivial
def s30b := LinSimple.exprStmt (Y := Y) _ _ (lift7 call30b) (by decide +kernel) (by decide +kernel)

-- 31  令 名 为 （新建 名：甲）
def new31 :=
  LinX.new (Y := Y) (cfg := true) (lp 31 3) (T cTypeObjNewW 31 4) _ _ _ rfl rfl
    (.fcallArgs (nm 31 5) (colon 31 6) (rp 31 8) _ _ rfl rfl rfl (arg1 (jia 31 7) rfl))
def s31 :=
  LinN.simple (Y := Y) 0 _ _ (.declStmt (T cTypeDeclareW 31 0) (T cTypeAssignW 31 2) _ [nm 31 1] _ _ rfl (.one _ rfl)
    (by decide +kernel) (lift7 new31) (by decide +kernel))

-- 32  甲 之 名 = 甲 # 乙
def a32 := LinX.dot (Y := Y) (cfg := true) (T cTypeObjDotW 32 1) (nm 32 2) _ [jia 32 0] (by decide +kernel) rfl (idX (jia 32 0) rfl)
def b32 := LinX.idxId (Y := Y) (cfg := true) (T cTypeMapHash 32 5) (yi 32 6) _ [jia 32 4] rfl rfl (idX (jia 32 4) rfl)
def e32 := lift41 (LinX.assign (Y := Y) (cfg := true) (eqm 32 3) _ _ _ _ (by decide +kernel) rfl (lift75 a32) (lift75 b32))
def s32 := LinN.simple (Y := Y) 0 _ _ (.exprStmt _ _ e32 (by decide +kernel) (by decide +kernel))

-- 33  甲 # "键" = 甲 # { 乙 + 甲 }
def a33 :=
  LinX.idxStr (Y := Y) (cfg := true) (T cTypeMapHash 33 1) (T cTypeString 33 2 [0x952E]) _ [jia 33 0] rfl rfl (idX (jia 33 0) rfl)
def sum33 :=
  lift51 (LinX.add (Y := Y) (cfg := true) (T cTypePlus 33 8) _ _ [yi 33 7] [jia 33 9] (by decide +kernel) (lift75 (idX (yi 33 7) rfl))
    (.up 6 _ _ (by decide) (idX (jia 33 9) rfl)))
def b33 :=
  LinX.idxExpr (Y := Y) (cfg := true) (T cTypeMapHash 33 5) (T cTypeStmtQuoteL 33 6) (T cTypeStmtQuoteR 33 10) _ [jia 33 4] _ _
    rfl rfl rfl (idX (jia 33 4) rfl) sum33
def e33 := lift41 (LinX.assign (Y := Y) (cfg := true) (eqm 33 3) _ _ _ _ (by decide +kernel) rfl (lift75 a33) (lift75 b33))
def s33 := LinN.simple (Y := Y) 0 _ _ (.exprStmt _ _ e33 (by decide +kernel) (by decide +kernel))

-- 34  其 名 = 【甲，乙，
-- 35      丙】
/-- an item followed by its comma -/
def itemC (t c : Token) (h : t.type = cTypeIdentifier) (hc : c.type = cTypeCommaSep) :=
  lift61 (LinX.commaAfter (Y := Y) (cfg := false) c _ [t] hc (idX t h))
def arr34 :=
  LinX.arr (Y := Y) (cfg := true) (lb 34 3) (rb 35 1) _ _ _ _ rfl rfl (itemC (jia 34 4) (cma 34 5) rfl rfl)
    (.itemsCons _ _ _ _ (itemC (yi 34 6) (cma 34 7) rfl rfl) (.itemsCons _ _ _ _ (lift7 (idX (bing 35 0) rfl)) .itemsNil))
def e34 :=
  lift41 (LinX.assign (Y := Y) (cfg := true) (eqm 34 2) _ _ _ _ (by decide +kernel) rfl
    (lift75 (LinX.this (T cTypeObjThisW 34 0) (nm 34 1) rfl rfl)) (lift75 arr34))
def s34 := LinN.simple (Y := Y) 0 _ _ (.exprStmt _ _ e34 (by decide +kernel) (by decide +kernel))

-- 36  甲 为 【甲 = 乙，丙 = 甲】
def hm36 :=
  LinX.hm (Y := Y) (cfg := true) (lb 36 2) (eqm 36 4) (rb 36 10) _ [jia 36 3] _ _ _ _ rfl rfl rfl (lift7 (idX (jia 36 3) rfl))
    (itemC (yi 36 5) (cma 36 6) rfl rfl)
    (.kvsCons (eqm 36 8) _ [bing 36 7] _ [jia 36 9] _ _ rfl (lift7 (idX (bing 36 7) rfl)) (lift7 (idX (jia 36 9) rfl)) .kvsNil)
def e36 :=
  lift41 (LinX.assign (Y := Y) (cfg := true) (T cTypeAssignW 36 1) _ _ _ _ (by decide +kernel) rfl (lift75 (idX (jia 36 0) rfl))
    (lift75 hm36))
def s36 := LinN.simple (Y := Y) 0 _ _ (.exprStmt _ _ e36 (by decide +kernel) (by decide +kernel))

-- 37  令 甲 为 【】        38  令 乙 为 【=】
def s37 :=
  LinN.simple (Y := Y) 0 _ _ (.declStmt (T cTypeDeclareW 37 0) (T cTypeAssignW 37 2) _ [jia 37 1] _ _ rfl (.one _ rfl)
    (by decide +kernel) (lift7 (LinX.arrEmpty (lb 37 3) (rb 37 4) rfl rfl)) (by decide +kernel))
def s38 :=
  LinN.simple (Y := Y) 0 _ _ (.declStmt (T cTypeDeclareW 38 0) (T cTypeAssignW 38 2) _ [yi 38 1] _ _ rfl (.one _ rfl)
    (by decide +kernel) (lift7 (LinX.hmEmpty (lb 38 3) (eqm 38 4) (rb 38 5) rfl rfl rfl)) (by decide +kernel))

-- 39  以 甲（名：乙）、（名）得到 丙
def s39 :=
  LinN.simple (Y := Y) 0 _ _ (.mcallStmt (T cTypeVarOneW 39 0) (lp 39 2) _ [jia 39 1] _ _ _ _ _
    (some (T cTypeGetResultW 39 11, bing 39 12)) rfl (lid (jia 39 1) rfl) rfl
    (.fcallArgs (nm 39 3) (colon 39 4) (rp 39 6) _ _ rfl rfl rfl (arg1 (yi 39 5) rfl))
    (.chainCons (pause 39 7) (lp 39 8) _ _ _ _ _ rfl rfl (.fcall0 (nm 39 9) (rp 39 10) rfl rfl) .chainNil) ⟨rfl, rfl⟩
    (by decide +kernel))

-- 40  令 丙 为 以 甲（名）
def mc40 :=
  LinX.mcall (Y := Y) (cfg := true) (T cTypeVarOneW 40 3) (lp 40 5) _ [jia 40 4] _ _ _ _ _ none rfl (lid (jia 40 4) rfl) rfl
    (.fcall0 (nm 40 6) (rp 40 7) rfl rfl) .chainNil trivial
def s40 :=
  LinN.simple (Y := Y) 0 _ _ (.declStmt (T cTypeDeclareW 40 0) (T cTypeAssignW 40 2) _ [bing 40 1] _ _ rfl (.one _ rfl)
    (by decide +kernel) (lift7 mc40) (by decide +kernel))

-- 42  （名：
-- 43      甲、
-- 44      乙）
def call42 :=
  LinX.call (Y := Y) (cfg := true) (lp 42 0) _ _ _ none rfl
    (.fcallArgs (nm 42 1) (colon 42 2) (rp 44 1) _ _ rfl rfl rfl
      (.argsCons (pause 43 1) _ [jia 43 0] _ _ (lift7 (idX (jia 43 0) rfl)) rfl rfl (arg1 (yi 44 0) rfl))) trivial
def s42 := LinN.simple (Y := Y) 0 _ _ (.exprStmt _ _ (lift7 call42) (by decide +kernel) (by decide +kernel))

/-- the statements of lines 29–44 -/
def stmts2 :=
  LinN.blockCons (Y := Y) 0 _ _ _ _ s29 (by decide +kernel)
    (.blockConsSemi 0 _ _ _ _ s30a (by decide +kernel)
      (.blockEmpty 0 (semi 30 7) _ _ rfl (by decide +kernel)
        (.blockConsSemi 0 _ _ _ _ s30b (by decide +kernel)
          (.blockEmpty 0 (semi 30 11) _ _ rfl (by decide +kernel)
            (.blockCons 0 _ _ _ _ s31 (by decide +kernel)
              (.blockCons 0 _ _ _ _ s32 (by decide +kernel)
                (.blockCons 0 _ _ _ _ s33 (by decide +kernel)
                  (.blockCons 0 _ _ _ _ s34 (by decide +kernel)
                    (.blockCons 0 _ _ _ _ s36 (by decide +kernel)
                      (.blockCons 0 _ _ _ _ s37 (by decide +kernel)
                        (.blockCons 0 _ _ _ _ s38 (by decide +kernel)
                          (.blockCons 0 _ _ _ _ s39 (by decide +kernel)
                            (.blockCons 0 _ _ _ _ s40 (by decide +kernel)
                              (.blockEmpty 0 (semi 41 0) _ _ rfl (by decide +kernel)
                                (.blockCons 0 _ _ _ _ s42 (by decide +kernel) (.blockNil 0) (Or.inl rfl)))
                              (Or.inr (by decide +kernel)))
                            (Or.inr (by decide +kernel)))
                          (Or.inr (by decide +kernel)))
                        (Or.inr (by decide +kernel)))
                      (Or.inr (by decide +kernel)))
                    (Or.inr (by decide +kernel)))
                  (Or.inr (by decide +kernel)))
                (Or.inr (by decide +kernel)))
              (Or.inr (by decide +kernel))))
          (by simp) rfl))
      (by simp) rfl)
    (Or.inr (by decide +kernel))

-- lines 45–46: the program's handler
def handler2 :=
  LinN.handCons (Y := Y) 0 (T cTypeCatchErrorW 45 0) (nm 45 1) (colon 45 2) _ _ _ _ rfl rfl rfl (by decide +kernel)
    (by decide +kernel) (by decide +kernel) (by simp)
    (blk1 (retS 1 46 (jia 46 1) rfl (by decide +kernel)) (by decide +kernel)) (.handNil 0) (Or.inl rfl)

def stmts :=
  LinN.blockCons (Y := Y) 0 _ _ _ _ declBlock (by decide +kernel)
    (.blockCons 0 _ _ _ _ funcS (by decide +kernel)
      (.blockCons 0 _ _ _ _ classS (by decide +kernel)
        (.blockCons 0 _ _ _ _ ctorS (by decide +kernel)
          (.blockCons 0 _ _ _ _ iter0 (by decide +kernel)
            (.blockCons 0 _ _ _ _ iter1 (by decide +kernel)
              (.blockCons 0 _ _ _ _ iter2 (by decide +kernel) stmts2 (Or.inr (by decide +kernel)))
              (Or.inr (by decide +kernel)))
            (Or.inr (by decide +kernel)))
          (Or.inr (by decide +kernel)))
        (Or.inr (by decide +kernel)))
      (Or.inr (by decide +kernel)))
    (Or.inr (by decide +kernel))

def progBody :=
  LinN.execPlain (Y := Y) 0 _ _ _ _ stmts handler2 (Or.inr (by decide +kernel))
    (fun h => absurd (List.append_eq_nil_iff.mp h).2 (List.cons_ne_nil _ _))

/-- the hypotheses of `parse_statements_roundtrip` are satisfiable on a program that uses every statement form -/
theorem rendered : ∃ p, LinProgram Y p tokens := ⟨_, LinProgram.importsBody 0 _ _ _ _ (by simp [l0]) imports progBody (fun h => absurd h (by decide +kernel))⟩

theorem inOrder : Y.InOrder tokens := by decide +kernel

/-- … so the theorem applies, to the pinned parser (`Variant.legacy`) and to the repaired one alike -/
theorem parsed : ∃ p, ∀ v, parseLaidOut v Y 4000 tokens = .tree p := by
  obtain ⟨p, hp⟩ := rendered
  exact ⟨p, fun v => parse_statements_roundtrip v hp inOrder 4000 (by decide +kernel)⟩

end ZnVerif.Properties.C03.Example2
