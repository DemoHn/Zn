/-
C16 (evaluator part) — what one execution can do to values that outlive it.  The heap cells of the predefined
values are created once (`initVM`); the evaluator only ever overwrites a cell with a cell of the same kind, and
never a method, truth-value, 空 or exception-value cell at all.  So 真 假 空 显示 取随机数 (and library
functions) cannot be altered by any program; 数值 (a number cell) and 异常 (a type cell) can — which is why the
interpreter builds those two afresh for every execution.  (A text cell can be altered too: 转换数值 stores the rewritten
text back into its receiver; no predefined value is a text.)
By the fuel induction `allPres` (Proofs/Balance*.lean) for the relation `KS` (Proofs/FnStable.lean).
-/
import ZnVerif.Proofs.FnStable
import ZnVerif.Proofs.Toy

namespace ZnVerif.Properties.C16Eval
open ZnVerif.Model ZnVerif.Proofs.Balance

variable {ν : Type} [NumOps ν]

/-- method cells that exist in `s` are the same method cells in `s'` -/
def FnStable (s s' : VM ν) : Prop := ∀ (i : Nat) (f : FnRef), s.heap[i]? = some (.fn f) → s'.heap[i]? = some (.fn f)

theorem FnStable.of_KS {s s' : VM ν} (h : KS s s') : FnStable s s' := fun _ _ hf => h.frozen_eq hf rfl

/-- no step of the evaluator — expression, statement, call, method call, constructor, handler, declaration — ever
changes a method cell, at any fuel, on any outcome (value, error, signal, panic, out of fuel) -/
theorem fn_cells_immutable (n : Nat) (s : VM ν) :
    (∀ e, FnStable s (evalExpr n e s).2) ∧
    (∀ st, FnStable s (evalStmt n st s).2) ∧
    (∀ b ps, FnStable s (evalExecBlock n b ps s).2) ∧
    (∀ f ps, FnStable s (execDirectFunction n f ps s).2) ∧
    (∀ r f ps, FnStable s (execMethodFunction n r f ps s).2) ∧
    (∀ c ps, FnStable s (construct n c ps s).2) ∧
    (∀ bm bd cs e, FnStable s (handleException n bm bd cs e s).2) ∧
    (∀ st, FnStable s (evalClassDecl n st s).2) ∧
    (∀ st, FnStable s (evalFuncDecl n st s).2) ∧
    (∀ st, FnStable s (evalCtorDecl n st s).2) := by
  have h := allPres (ν := ν) (R := KS) n
  exact ⟨fun e => .of_KS ((h.evalExpr e).run s), fun st => .of_KS ((h.evalStmt st).run s),
    fun b ps => .of_KS ((h.evalExecBlock b ps).run s), fun f ps => .of_KS ((h.execDirectFunction f ps).run s),
    fun r f ps => .of_KS ((h.execMethodFunction r f ps).run s), fun c ps => .of_KS ((h.construct c ps).run s),
    fun bm bd cs e => .of_KS ((h.handleException bm bd cs e).run s),
    fun st => .of_KS ((h.evalClassDecl st).run s), fun st => .of_KS ((h.evalFuncDecl st).run s),
    fun st => .of_KS ((h.evalCtorDecl st).run s)⟩

/-- …nor does a whole execution (`Execute`: allocate the main module, push the script frame, bind the inputs, run) -/
theorem fn_cells_immutable_program (fuel : Nat) (p : Program) (inputs : List (String × Cell ν)) (s : VM ν) :
    FnStable s (runProgram fuel p inputs s).2 :=
  .of_KS ((ks_runProgram fuel p inputs).run s)

/-- the general fact behind it: every existing cell keeps its kind, and cells of the kinds method / truth
value / 空 / exception value keep their content — for every step and for whole executions.  (Cells of the other
kinds — number, text, list, dictionary, object, type — are overwritten by 自增, 转换数值, 后增, 写入, property assignment,
constructor definition, …, always with a cell of the same kind.) -/
theorem cells_keep_kind (fuel : Nat) (p : Program) (inputs : List (String × Cell ν)) (s : VM ν) (i : Nat)
    (c : Cell ν) (hc : s.heap[i]? = some c) :
    ∃ c', (runProgram fuel p inputs s).2.heap[i]? = some c' ∧ kindOf c' = kindOf c ∧
      ((kindOf c).frozen = true → c' = c) :=
  (ks_runProgram fuel p inputs).run s i c hc

theorem cells_keep_kind_step (n : Nat) (st : Stmt) (s : VM ν) (i : Nat) (c : Cell ν) (hc : s.heap[i]? = some c) :
    ∃ c', (evalStmt n st s).2.heap[i]? = some c' ∧ kindOf c' = kindOf c ∧ ((kindOf c).frozen = true → c' = c) :=
  ((allPres (ν := ν) (R := KS) n).evalStmt st).run s i c hc

/-- the predefined values of the kinds truth value / 空 / method — 真 (0), 假 (1), 空 (2), 显示 (4), 取随机数 (5) — are
after any execution started from the predefined heap exactly what they were; 异常 (3) is still a type cell and
数值 (6) still a number cell, but those two can have been altered -/
theorem builtin_values_unchanged_kind (fuel : Nat) (p : Program) (inputs : List (String × Cell ν)) (s : VM ν)
    (hs : s.heap = (initVM (ν := ν) ()).heap) :
    let h' := (runProgram fuel p inputs s).2.heap
    h'[0]? = some (.bool true) ∧ h'[1]? = some (.bool false) ∧ h'[2]? = some .null ∧
    h'[4]? = some (.fn .display) ∧ h'[5]? = some (.fn .random) ∧
    (∃ c, h'[3]? = some c ∧ kindOf c = .cls) ∧ (∃ c, h'[6]? = some c ∧ kindOf c = .num) := by
  have h := (ks_runProgram fuel p inputs).run s
  have hget : ∀ i : Nat, s.heap[i]? = (initVM (ν := ν) ()).heap[i]? := fun i => by rw [hs]
  exact ⟨h.frozen_eq (hget 0) rfl, h.frozen_eq (hget 1) rfl, h.frozen_eq (hget 2) rfl, h.frozen_eq (hget 4) rfl,
    h.frozen_eq (hget 5) rfl, kindAt.of_KS h ⟨_, hget 3, rfl⟩, kindAt.of_KS h ⟨_, hget 6, rfl⟩⟩

section examples
open ZnVerif.Proofs.Toy

/-- `定义点：…`, `如何新建点？ …` (the constructor of 点 is redefined: a `setCell` on the type cell), `（显示：“a”）` -/
def prog : Program :=
  { imports := []
    exec := some (.mk []
      (some [.classDecl 0 (some ⟨0, "点"⟩) [] [] [],
             .funcDecl 1 (some ⟨1, "点"⟩) 3 (some (.mk [] (some []) [])),
             .expr (.call 2 (some ⟨2, "显示"⟩) [.str 2 "a"] none)])
      []) }

/-- the program displays a and has rewritten the type cell (address 7: its constructor is now the user one) … -/
example : (runProgram 10 prog [] (initVM (ν := Int) ())).2.out = ["a"] ∧
    ((runProgram 10 prog [] (initVM (ν := Int) ())).2.heap[7]?.map fun c =>
      match c with | .cls "点" (.user 0 _) _ _ => true | _ => false) = some true := by
  decide +kernel

/-- … and cell 4 (显示) is intact -/
example : (runProgram 10 prog [] (initVM (ν := Int) ())).2.heap[4]? = some (.fn .display) :=
  fn_cells_immutable_program 10 prog [] _ 4 .display rfl

example : (runProgram 10 prog [] (initVM (ν := Int) ())).2.heap[0]? = some (.bool true) :=
  (builtin_values_unchanged_kind 10 prog [] (initVM (ν := Int) ()) rfl).1

/-- the companion negative: a number cell CAN be altered in place — `以 数值（自增：…）` on the cell 6 of a heap that also
holds a 5 at address 7 turns 数值 into 5 (so a shared 数值 would leak between executions) -/
example : (builtinMethod 1 6 "自增" [7] { initVM (ν := Int) () with heap := (initVM (ν := Int) ()).heap.push (.num 5) }).2.heap[6]?
    = some (.num 5) := rfl

/-- likewise a text cell: 转换数值 leaves `1e3` where `1*^3` was -/
example : (builtinMethod 1 7 "转换数值" [] { initVM (ν := Int) () with heap := (initVM (ν := Int) ()).heap.push (.str "1*^3") }).2.heap[7]?
    = some (.str "1e3") := by rfl

example : ∃ c', (evalStmt 3 (.empty 0) s0).2.heap[0]? = some c' ∧ kindOf c' = Kind.exc ∧ c' = .exc "boom" := by
  obtain ⟨c', h1, h2, h3⟩ := cells_keep_kind_step 3 (.empty 0) s0 0 (.exc "boom") rfl
  exact ⟨c', h1, h2, h3 rfl⟩

end examples

end ZnVerif.Properties.C16Eval
