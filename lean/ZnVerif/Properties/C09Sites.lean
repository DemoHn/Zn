/-
C06 / C08 / C09 / C18 — the regenerated tie of the call-frame and scope discipline.

The theorems of Properties/C06Eval.lean (blocks balance their scopes), C08.lean (a call restores the caller, the result
is the return slot), C09.lean (a handled exception restores the stack, frames of failed calls stay until then) and
C18*.lean (every statement stamps its line on the innermost frame, the chain is the active calls) are about
`Model/Interp.lean`: pushFrame / popFrame / withScope / setTopFrame / getReturnValue / unwindTo, placed where the Go
evaluator calls PushCallFrame / PopCallFrame / BeginBoundScope (+ defer) / SetCurrentLine / SetReturnValue /
GetReturnValue.  WHERE the Go evaluator calls them is regenerated from the working tree on every run
(`Generated/FrameSites.lean`: enclosing function, callee, ordinal, statement form, guards, earlier exits — no line numbers,
no names of locals) and compared here with the hand-written list of the sites the models mirror
(`Proofs/EvalSites.lean`, every entry naming the mirroring definition).  A pop added, removed, moved under another
guard or behind another early return makes `frame_sites_all_modelled` fail: a broken obligation of these four
properties, followed by the widened search of DESIGN §4.

The two equalities are closed by `rfl` (both sides unfold to the same list of literals; a `decide` over a few thousand
characters of string literals costs a minute, `rfl` a second); the derived facts by `decide +kernel`.
-/
import ZnVerif.Proofs.EvalSites

namespace ZnVerif.Properties.C09Sites
open ZnVerif ZnVerif.Generated ZnVerif.Proofs.EvalSites

/-- Every call of the frame / scope discipline that go/types finds in pkg/exec, pkg/runtime and pkg/value — with the
function it stands in, its place among the calls of that function, the statement it is part of, the guards it sits
under and the number of earlier exits — is a site the models mirror, and the models mirror no site that is not there. -/
theorem frame_sites_all_modelled : FrameSites.frameSites = modelledFrameSites.map (·.site) := rfl

/-- The bodies of PushCallFrame, PopCallFrame, GetCallStack, Get/SetReturnValue, SetCurrentLine, HasStarted,
Begin/EndScope, BeginBoundScope (and of getCurrentCallFrame / getCurrentScope / initValueStack), statement by statement,
are what pushFrame, popFrame, stackDepth, getReturnValue, setTopFrame, Scope.beginScope / endScope, beginBoundScope /
endBoundScope, topFrame, currentScope were written from. -/
theorem frame_primitives_all_modelled : FrameSites.framePrimitives = modelledFramePrimitives.map (·.prim) := rfl

/-- the scan saw the sources (a scan that reached nothing would make the equalities above hold between empty lists
only after the expectation had been emptied too; this pins the size) -/
theorem frame_inventory_nonempty :
    FrameSites.funcsScanned ≥ 250 ∧ FrameSites.frameSites.length ≥ 40 ∧ FrameSites.framePrimitives.length ≥ 30 ∧
    (FrameSites.frameSites.filter (·.callee == "(*runtime.VM).PushCallFrame")).length ≥ 8 ∧
    (FrameSites.frameSites.filter (·.callee == "(*runtime.VM).PopCallFrame")).length ≥ 8 := by decide +kernel

/-- The sites that the table `modelledFrameSites` (Proofs/EvalSites.lean) classes as outside the evaluator model all stand in the
import path (`evalImportStmt`, `execAnotherModule`, `VM.BeginScope`; the loader part of Model/Interp.lean — `evalImport`, `importStd`,
`execAnotherModule` — and the loader model of C15 mirror them) or in `VM.EndScope`. -/
theorem sites_outside_evaluator_model :
    ∀ m ∈ modelledFrameSites, m.mirror.inEvaluatorModel = false →
      m.site.func ∈ ["exec.evalImportStmt", "exec.execAnotherModule", "runtime.(*VM).BeginScope", "runtime.(*VM).EndScope"] := by
  decide +kernel

/-- `VM.EndScope` has no caller: every scope the evaluator opens is closed through the closer BeginBoundScope returned
(bound to the scope of the module that was current when the scope was opened), the one opened by `VM.BeginScope` in
execAnotherModule is never closed. -/
theorem vm_EndScope_has_no_caller :
    ∀ s ∈ FrameSites.frameSites, s.callee ≠ "(*runtime.VM).EndScope" ∧ s.callee ≠ "(*runtime.VM).EndScope (method value)" := by
  decide +kernel

/-- every BeginBoundScope is the first recorded site of its function and its closer is deferred at once, under no guard:
the three block functions close their scope on every way out (`Model.withScope`) -/
theorem bound_scopes_are_deferred_at_once :
    ∀ s ∈ FrameSites.frameSites, s.callee = "(*runtime.VM).BeginBoundScope" →
      s.ord = 1 ∧ s.guard = "" ∧ s.exits = 0 ∧
      FrameSites.Site.mk s.func "result of (*runtime.VM).BeginBoundScope" 2 "defer □()" "" 0 ∈ FrameSites.frameSites := by
  decide +kernel

/-- no PopCallFrame is unconditional: each stands under a guard or behind a possible exit, so a failed call leaves its frame
(what C18's chain and C09's unwinding rest on) -/
theorem every_pop_is_conditional :
    ∀ s ∈ FrameSites.frameSites, s.callee = "(*runtime.VM).PopCallFrame" → s.guard ≠ "" ∨ s.exits > 0 := by
  decide +kernel

/-- every function that pushes a frame pops one later on -/
theorem every_push_has_a_later_pop :
    ∀ s ∈ FrameSites.frameSites, s.callee = "(*runtime.VM).PushCallFrame" →
      ∃ p ∈ FrameSites.frameSites, p.func = s.func ∧ p.callee = "(*runtime.VM).PopCallFrame" ∧ p.ord > s.ord := by
  decide +kernel

end ZnVerif.Properties.C09Sites
