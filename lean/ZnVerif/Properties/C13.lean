/-
C13 — Every text value can be written as a literal and reads back exactly.
Property theorems only (helper lemmas: ZnVerif/Proofs/Literal.lean).  The model (`Model/Lexer.lean`) mirrors
pkg/syntax/zh/tokens.go `parseString` + `unescapeBackTickSpecialStr` with the repairs 99ba0e9, 56b311d, 421b244 of /repo (Model/Lexer.lean's header); the spec
(`Spec/Literal.lean`) is written from the manual.  Code points are `Nat`; all theorems hold for every list of
numbers, in particular for every list of valid scalar values.
-/
import ZnVerif.Proofs.Literal

namespace ZnVerif.Properties.C13
open ZnVerif ZnVerif.Model ZnVerif.Spec.Literal ZnVerif.Spec.Lines
open ZnVerif.Generated.Tokens (cBackTick)

/-- **Every text round-trips through the safe encoder** — any text (any code points, any length, any mixture of
quotes of all five pairs, back-ticks, CR/LF in any order, NUL, spaces, punctuation), any of the five opening
quotes: the literal `open ++ encodeSafe q t ++ close` lexes to ONE token of `q`'s family whose value is `t`, and the
token ends exactly at the end of the literal.  (The loop is `strRun` on the text after the opening quote, `lexString_literal`; induction on `t`: `strRun_safe`.) -/
theorem literal_roundtrip_safe (q : Quote) (t : List Nat) :
    lexString (literalSafe q t) = .ok (t, q.type, (literalSafe q t).length) := by
  obtain ⟨ls', h, -⟩ := strRun_safe q 0 q.type [] t.length t rfl 0 [] 0 []
  unfold literalSafe
  rw [lexString_literal, h, strRun_closer]
  simp

/-- the statement in the property's wording (`ValidScalars t` is not needed by the proof) -/
theorem literal_roundtrip_safe_scalars (q : Quote) (t : List Nat) (_ : ValidScalars t) :
    lexString (literalSafe q t) = .ok (t, q.type, (literalSafe q t).length) :=
  literal_roundtrip_safe q t

/-- `balancedFrom` is "the depth ends at zero without ever closing below zero" -/
theorem balanced_iff_depth (q : Quote) (d : Nat) (t : List Nat) :
    balancedFrom q d t = true ↔ depthAfter q d t = some 0 := Model.balanced_iff_depth q d t

/-- **Texts with balanced own quotes round-trip verbatim**: nested pairs of `q`'s own quotes, quotes of the other
pairs in any arrangement, line breaks LF, CR, CRLF, LFCR exactly as written, spaces and punctuation — the characters
between the outer quotes become the value unchanged. -/
theorem literal_roundtrip_verbatim (q : Quote) (t : List Nat) (h : Verbatim q t) :
    lexString (literalVerbatim q t) = .ok (t, q.type, t.length + 2) := by
  obtain ⟨hbal, hbt, h0⟩ := h
  unfold literalVerbatim encodeVerbatim
  rw [lexString_literal,
    strRun_verbatim q 0 q.type [q.closer] (closer_ordinary q).2.1 _ t rfl _ _ 0 0 _ hbt h0 ((balanced_iff_depth q 0 t).mp hbal),
    strRun_closer]
  simp

-- non-vacuity: “小狗说：“旺旺”！” (the manual's example) is Verbatim for “ ”; a text with every kind of trouble
-- (back-tick, own closer, other pair's opener, CR LF, LF CR, NUL) is covered by the safe theorem.
example : Verbatim .dblCurly [0x5C0F, 0x72D7, 0x8BF4, 0xFF1A, 0x201C, 0x65FA, 0x65FA, 0x201D, 0xFF01] := by
  refine ⟨by decide, by decide, by decide⟩
example : literalSafe .dblCurly [0x60, 0x201D, 0x300C, 0x0D, 0x0A, 0x0A, 0x0D, 0, 0x41] =
    [0x201C, 0x60, 0x42, 0x4B, 0x60, 0x60, 0x201D, 0x60, 0x300C, 0x0D, 0x0A, 0x0A, 0x0D,
      0x60, 0x55, 0x2B, 0x30, 0x60, 0x41, 0x201D] := by decide
example : lexString [0x201C, 0x60, 0x42, 0x4B, 0x60, 0x60, 0x201D, 0x60, 0x300C, 0x0D, 0x0A, 0x0A, 0x0D,
      0x60, 0x55, 0x2B, 0x30, 0x60, 0x41, 0x201D] =
    .ok ([0x60, 0x201D, 0x300C, 0x0D, 0x0A, 0x0A, 0x0D, 0, 0x41], 2, 20) :=
  literal_roundtrip_safe .dblCurly [0x60, 0x201D, 0x300C, 0x0D, 0x0A, 0x0A, 0x0D, 0, 0x41]

/-- **The escape table, at the machine**: with the cursor on a back-tick and the text continuing with a documented
name and a back-tick, the characters of the table are appended and the cursor ends on the closing back-tick;
`U+` with 1–8 hex digits `[0-9A-F]` denotes that code point iff it is a valid scalar value — otherwise
(surrogate, beyond U+10FFFF) the whole group is kept as written. -/
theorem escape_table (l : Lexer) (src r : List Nat) (hc : l.cur = cBackTick) :
    (∀ name val, (name, val) ∈ namedEscapes → l.rest = name ++ cBackTick :: r →
      unescapeBackTick l src = (src ++ val, l.setCursor (l.cursor + name.length + 1))) ∧
    (∀ d ds, (∀ x ∈ d :: ds, isHex x = true) → ds.length ≤ 7 →
      l.rest = 0x55 :: 0x2B :: d :: (ds ++ cBackTick :: r) →
      unescapeBackTick l src =
        (if validScalar (hexVal (d :: ds)) then src ++ [hexVal (d :: ds)]
          else src ++ ([0x60, 0x55, 0x2B, d] ++ ds ++ [0x60]),
         l.setCursor (l.cursor + 4 + ds.length))) := by
  exact ⟨fun name val hmem h => unesc_named hmem hc h, fun d ds hds hlen h => unesc_U d ds hds hlen hc h⟩

/-- **A single quote character wrapped in back-ticks denotes itself** — whichever of the ten quote characters,
in a literal opened with any of the five quotes, its own closing quote included: no partner is needed and the
nesting depth is untouched. -/
theorem lone_quote_in_backticks (q : Quote) (c : Nat) (hc : c ∈ quoteChars) :
    lexString [q.opener, 0x60, c, 0x60, q.closer] = .ok ([c], q.type, 5) := by
  have hq : isQuoteChar c = true := by rw [isQuoteChar_eq_spec]; simpa using hc
  rw [lexString_literal, show ([0x60, c, 0x60, q.closer] : List Nat) = cBackTick :: c :: cBackTick :: [q.closer] from rfl,
    strRun, if_neg (by decide), strPass, if_neg (by decide), if_pos rfl, tickText_quote [q.closer] hq]
  show strOut (strRun q 0 q.type [q.closer] _ _ 0 []) = _
  rw [strRun_closer]
  rfl

/-- **Any other back-tick text is kept literally** — for every text and every position of a back-tick inside a
string: the machine consumes a stretch `` ` `` `w` of the text and appends either exactly that stretch, or — only
when the stretch is a documented escape (`decodeEscape`: a name of the table, `U+hex` of a valid code point, one
quote character, between two back-ticks) — its documented meaning.  Nothing else can come out. -/
theorem other_backtick_text_literal (src : List Nat) (l : Lexer) (hc : l.cur = cBackTick) :
    ∃ w, l.rest = w ++ (unescapeBackTick l src).2.rest ∧
      (unescapeBackTick l src).2.cursor = l.cursor + w.length ∧
      ((unescapeBackTick l src).1 = src ++ cBackTick :: w ∨
        ∃ v, decodeEscape (cBackTick :: w) = some v ∧ (unescapeBackTick l src).1 = src ++ v) := by
  obtain ⟨hle, h⟩ := tickText_spec l.rest
  rw [unescapeBackTick_eq l src hc]
  refine ⟨l.rest.take (tickText l.rest).2, ?_, ?_, ?_⟩
  · rw [Lexer.rest_setCursor]; exact (List.take_append_drop _ _).symm
  · rw [List.length_take, Nat.min_eq_left hle]; rfl
  · rcases h with e | e
    · exact Or.inl (by rw [e])
    · exact Or.inr ⟨_, e, rfl⟩

/-- **An undocumented back-tick group is kept whole and its closing back-tick opens nothing** — with the cursor on
a back-tick followed by ordinary characters `w` (no back-tick, quote, line break, NUL) and a back-tick, where
`` ` `` `w` `` ` `` is not a documented escape: exactly the group is appended and the cursor ends on its closing
back-tick, so whatever follows — another escape, say — is read on its own.  (False before
the repair 421b244 of /repo: in `` `F``CR` `` the `` `CR` `` stayed literal.) -/
theorem undocumented_group_kept (src r w : List Nat) (l : Lexer) (hc : l.cur = cBackTick)
    (hw : ∀ c ∈ w, GroupChar c) (hr : l.rest = w ++ cBackTick :: r)
    (hnd : decodeEscape (cBackTick :: w ++ [cBackTick]) = none) :
    unescapeBackTick l src = (src ++ cBackTick :: w ++ [cBackTick], l.setCursor (l.cursor + w.length + 1)) := by
  rw [unescapeBackTick_eq l src hc, hr, tickText_group r hw, ← decodeEscape_group (fun m => (hw _ m).1 rfl), hnd,
    List.append_assoc]
  rfl

-- non-vacuity: `U+D800` is a group of ordinary characters, and neither it nor `F` is documented
example : (∀ c ∈ [0x55, 0x2B, 0x44, 0x38, 0x30, 0x30], GroupChar c) ∧
    decodeEscape (cBackTick :: [0x55, 0x2B, 0x44, 0x38, 0x30, 0x30] ++ [cBackTick]) = none ∧
    decodeEscape (cBackTick :: [0x46] ++ [cBackTick]) = none := by
  refine ⟨by decide, by decide, by decide⟩

-- non-vacuity of `escape_table` / `other_backtick_text_literal`: the six names are in the table, `U+1F005` is the
-- manual's example, `U+D800` and `U+FFFFFFFF` are not valid (kept), `` `C` `` and `` `TABK` `` are not documented.
example : ([0x42, 0x4B], [0x60]) ∈ namedEscapes ∧ namedEscapes.length = 6 := by decide
example : validScalar (hexVal [0x31, 0x46, 0x30, 0x30, 0x35]) = true ∧ hexVal [0x31, 0x46, 0x30, 0x30, 0x35] = 0x1F005 := by
  decide
example : validScalar (hexVal [0x44, 0x38, 0x30, 0x30]) = false ∧
    validScalar (hexVal [0x46, 0x46, 0x46, 0x46, 0x46, 0x46, 0x46, 0x46]) = false := by decide
example : decodeEscape [0x60, 0x43, 0x60] = none ∧ decodeEscape [0x60, 0x54, 0x41, 0x42, 0x4B, 0x60] = none ∧
    decodeEscape [0x60, 0x43, 0x52, 0x4C, 0x46, 0x60] = some [0x0D, 0x0A] ∧
    decodeEscape [0x60, 0x55, 0x2B, 0x44, 0x38, 0x30, 0x30, 0x60] = none ∧
    decodeEscape [0x60, 0x201D, 0x60] = some [0x201D] := by decide

/-- **A literal closes only at its own closing quote at nesting depth zero.**  For every text `t` without
back-ticks and NUL whose own-pair nesting never drops below zero (`depthAfter q 0 t = some d`; quotes of the other
four pairs, line breaks, anything else may occur freely):
(a) the literal is not closed anywhere inside `t` — `open ++ t` alone is the unterminated-string error at the end
of the text; (b) an own closing quote after `t` closes the literal there iff the depth is zero, whatever follows;
(c) at depth `d > 0` that closing quote is part of the text and the literal stays open. -/
theorem closes_only_at_own_quote_depth_zero (q : Quote) (t post : List Nat) (d : Nat)
    (hbt : backTick ∉ t) (h0 : 0 ∉ t) (hd : depthAfter q 0 t = some d) :
    lexString (q.opener :: t) = .err ⟨27, t.length + 1⟩ ∧
    (d = 0 → lexString (q.opener :: (t ++ q.closer :: post)) = .ok (t, q.type, t.length + 2)) ∧
    (d ≠ 0 → lexString (q.opener :: (t ++ [q.closer])) = .err ⟨27, t.length + 2⟩) := by
  have run : ∀ post, isBreak (post.headD 0) = false → lexString (q.opener :: (t ++ post)) =
      strOut (strRun q 0 q.type post (0 + t.length) ([] ++ t) d ([] ++ lineStarts (0 + 1) t)) := fun post hp => by
    rw [lexString_literal, strRun_verbatim q 0 q.type post hp _ t rfl _ _ 0 d _ hbt h0 hd]
  refine ⟨?_, ?_, ?_⟩
  · have := run [] rfl
    rw [List.append_nil] at this
    rw [this, strRun_nil]
    simp
  · rintro rfl
    rw [run (q.closer :: post) (closer_ordinary q).2.1, strRun_closer]
    simp
  · intro hd0
    obtain ⟨d', rfl⟩ : ∃ d', d = d' + 1 := ⟨d - 1, by omega⟩
    rw [run [q.closer] (closer_ordinary q).2.1, strRun_closer_open, strRun_nil]
    simp

-- non-vacuity: “a「b”c (other pair's opener, own closer): closes after `a「b`; “a“b”c” needs both closers.
example : depthAfter .dblCurly 0 [0x61, 0x300C, 0x62] = some 0 ∧ backTick ∉ [0x61, 0x300C, 0x62] ∧
    (0 : Nat) ∉ [0x61, 0x300C, 0x62] := by decide
example : depthAfter .dblCurly 0 [0x61, 0x201C, 0x62] = some 1 := by decide

/-- **An unterminated literal is a syntax error** — for every text that starts with an opening quote, the first
token is either a text token of that quote's family, or error 27 (`IncompleteString`) whose cursor
lies inside `0 … length` on the end of the text (or on a NUL, which the lexer takes for the end); never a different
error, never a panic, whatever the text contains. -/
theorem unterminated_is_error_27 (q : Quote) (body : List Nat) :
    (∃ lit e, lexString (q.opener :: body) = .ok (lit, q.type, e)) ∨
    (∃ c, lexString (q.opener :: body) = .err ⟨27, c⟩ ∧ 0 < c ∧ c ≤ (q.opener :: body).length ∧
      (mkLexer (q.opener :: body)).getChar c = 0) := by
  have hp := parseString_outcome (startState (q.opener :: body)) (by simp [startState])
  rw [startState_cur, (quote_scanner q).2] at hp
  unfold lexString
  rw [nextToken_quote]
  rcases hp with ⟨tk, h1, h2, -⟩ | ⟨c, h1, h2, h3, h5⟩
  · left; rw [h1]; exact ⟨tk.literal, tk.endIdx, by show LexRes.ok (tk.literal, tk.type, tk.endIdx) = _; rw [h2]⟩
  · right; rw [h1]
    exact ⟨c, rfl, by simpa [startState] using h2, by simpa [startState] using h3, h5⟩

end ZnVerif.Properties.C13
