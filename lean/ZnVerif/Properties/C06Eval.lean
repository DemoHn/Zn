/-
C06 (evaluator part) — blocks balance their scopes: every module's scope depth is restored on every outcome (normal,
signal, error, Go panic, out of fuel), the `defer EndScope` acts on the scope of the module that was current when
the block was entered, and when a block or method body is left none of its declarations remain.
(The `runtime.Scope` refinement theorems are in Properties/C06.lean.)
-/
import ZnVerif.Proofs.BalanceMutual
import ZnVerif.Proofs.ScopeGrow
import ZnVerif.Proofs.LoaderConst
import ZnVerif.Proofs.Toy

namespace ZnVerif.Properties.C06Eval
open ZnVerif.Model ZnVerif.Proofs.Calls ZnVerif.Proofs.Balance

variable {ν : Type} [NumOps ν]

/-- `SortedDepths` (symbols stacked by non-increasing depth, none deeper than the current depth) holds for the empty
scope and is kept by every scope operation -/
theorem sorted_depths_preserved :
    SortedDepths {} ∧
    (∀ sc, SortedDepths sc → SortedDepths sc.beginScope) ∧
    (∀ sc, SortedDepths sc → SortedDepths sc.endScope) ∧
    (∀ sc sc' name v c ext, SortedDepths sc → sc.declare name v c ext = .ok sc' → SortedDepths sc') ∧
    (∀ sc sc' name v, SortedDepths sc → sc.set name v = .ok sc' → SortedDepths sc') :=
  ⟨sortedDepths_empty, fun _ h => h.beginScope, fun _ h => h.endScope,
   fun _ _ _ _ _ _ h hd => h.declare hd, fun _ _ _ _ h hs => h.set hs⟩

/-- on a well-formed scope `EndScope` drops exactly the symbols deeper than the level it returns to -/
theorem end_scope_drops_deeper (sc : Scope) (h : SortedDepths sc) :
    sc.endScope.depth = sc.depth - 1 ∧
    sc.endScope.syms = sc.syms.filter (fun sy => sy.depth ≤ sc.depth - 1) ∧
    ∀ sy ∈ sc.endScope.syms, sy.depth ≤ sc.endScope.depth :=
  ⟨rfl, endScope_syms h, h.endScope.2⟩

/-- `BeginScope`, any sequence of declarations and assignments (failed ones — 43, 44, 42 — change nothing), `EndScope`:
the depth is back and the symbols are those of before: same names, depths, constness, order.  Only the values of
outer variables may have been assigned. -/
theorem end_scope_forgets (sc : Scope) (h : SortedDepths sc) (ops : List ScopeOp) :
    (applyOps ops sc.beginScope).endScope.depth = sc.depth ∧
    (applyOps ops sc.beginScope).endScope.syms.map symKey = sc.syms.map symKey ∧
    SortedDepths (applyOps ops sc.beginScope).endScope :=
  have hb := ScopeRel.bracket (ScopeRel.applyOps ops sc.beginScope)
  ⟨hb.1.1, hb.2 h, (hb.1.2 h).1⟩

/-- with declarations only (no assignment) the scope after `EndScope` is the scope before `BeginScope`, values included -/
theorem end_scope_forgets_declared (sc : Scope) (h : SortedDepths sc) (ops : List ScopeOp)
    (hdecl : ∀ op ∈ ops, op.isSet = false) : (applyOps ops sc.beginScope).endScope = sc :=
  endScope_forgets_declared sc h ops hdecl

example : SortedDepths ({ syms := [⟨"y", 1, false, none, 4⟩, ⟨"x", 0, true, none, 3⟩], depth := 1 } : Scope) :=
  ⟨by simp, by intro sy h; simp at h; rcases h with rfl | rfl <;> decide⟩

/-- `x` (outer, depth 0) is assigned, shadowed by an inner `x`, the inner one assigned; after `EndScope` one `x` is left -/
example : (applyOps [.set "x" 9, .declare "x" 5 false none, .set "x" 6]
    ({ syms := [⟨"x", 0, false, none, 3⟩], depth := 0 } : Scope).beginScope).endScope.syms.map symKey =
    [("x", 0, false, none)] :=
  (end_scope_forgets _ ⟨by simp, by intro sy h; simp at h; subst h; decide⟩ _).2.1

/-! ## the scope bracket `endScope := vm.BeginBoundScope(); defer endScope()` -/

/-- `withScope body` when the current module has a scope `sc`: the body starts one level deeper in that scope; whatever
the body's outcome `(body s1).1` — value, error, signal, panic, out of fuel — it is the bracket's outcome, and the
deferred `EndScope` is applied to the scope of the module that was current AT ENTRY (`s.csModuleID`), not to the
module current when the body stops (`t.csModuleID`, which a failed call may have left different); no other
module's scope, and nothing else of the state, is touched by the bracket itself. -/
theorem withScope_balanced {α : Type} (body : M ν α) (s : VM ν) (sc : Scope)
    (hsc : getScope s.csModuleID s = some sc) :
    let s1 := putScope s.csModuleID sc.beginScope s
    let t := (body s1).2
    (withScope body s).1 = (body s1).1 ∧
    getScope s.csModuleID s1 = some sc.beginScope ∧
    getScope s.csModuleID (withScope body s).2 = (getScope s.csModuleID t).map Scope.endScope ∧
    (∀ m, m ≠ s.csModuleID → getScope m s1 = getScope m s ∧ getScope m (withScope body s).2 = getScope m t) ∧
    (withScope body s).2.stack = t.stack ∧ (withScope body s).2.csModuleID = t.csModuleID ∧
    (withScope body s).2.heap = t.heap ∧ (withScope body s).2.out = t.out := by
  intro s1 t
  rw [withScope_some body s sc hsc]
  refine ⟨rfl, getScope_putScope_same _ _ _, getScope_endScopeOf_same _ _, ?_, ?_⟩
  · intro m hm
    exact ⟨getScope_putScope_other _ _ _ _ hm, getScope_endScopeOf_other _ _ _ hm⟩
  · simp [t, s1]

/-- without a scope for the current module the bracket is the body alone -/
theorem withScope_without_scope {α : Type} (body : M ν α) (s : VM ν) (h : getScope s.csModuleID s = none) :
    withScope body s = body s := withScope_none body s h

/-- if the body leaves the entry module's scope at the depth it found it (one deeper than at entry), the bracket
restores the entry depth — on every outcome; and if that scope is well-formed, every symbol that is left is not
deeper than the restored depth: all symbols declared at the deeper level are gone -/
theorem withScope_restores_depth {α : Type} (body : M ν α) (s : VM ν) (sc sc2 : Scope)
    (hsc : getScope s.csModuleID s = some sc)
    (hbody : getScope s.csModuleID (body (putScope s.csModuleID sc.beginScope s)).2 = some sc2)
    (hdepth : sc2.depth = sc.depth + 1) :
    ∃ sc3, getScope s.csModuleID (withScope body s).2 = some sc3 ∧ sc3.depth = sc.depth ∧
      (SortedDepths sc2 → sc3.syms = sc2.syms.filter (fun sy => sy.depth ≤ sc.depth) ∧
        ∀ sy ∈ sc3.syms, sy.depth ≤ sc.depth) := by
  refine ⟨sc2.endScope, ?_, ?_, ?_⟩
  · rw [(withScope_balanced body s sc hsc).2.2.1, hbody]; rfl
  · rw [endScope_depth, hdepth]; omega
  · intro h2
    have hd : sc2.depth - 1 = sc.depth := by omega
    have := endScope_syms h2
    rw [hd] at this
    refine ⟨this, ?_⟩
    intro sy hsy
    have := h2.endScope.2 sy hsy
    rw [endScope_depth, hd] at this
    exact this

/-- in general the entry module's scope ends one level above where the body left it -/
theorem withScope_depth_general {α : Type} (body : M ν α) (s : VM ν) (sc sc2 : Scope)
    (hsc : getScope s.csModuleID s = some sc)
    (hbody : getScope s.csModuleID (body (putScope s.csModuleID sc.beginScope s)).2 = some sc2) :
    ∃ sc3, getScope s.csModuleID (withScope body s).2 = some sc3 ∧ sc3.depth = sc2.depth - 1 :=
  ⟨sc2.endScope, by rw [(withScope_balanced body s sc hsc).2.2.1, hbody]; rfl, rfl⟩

/-! ## blocks balance (induction on fuel over the whole evaluator, `Proofs/BalanceMutual.lean`) -/

/-- every function of the evaluator — statements, expressions, calls, constructors, handlers — leaves the scope of
every module at the depth it found it, at every fuel, on every outcome (normal, signal, error, panic, out of fuel) -/
theorem every_function_balances (n : Nat) :
    (∀ st (s : VM ν), KeepsDepths s (evalStmt n st s).2) ∧
    (∀ e (s : VM ν), KeepsDepths s (evalExpr n e s).2) ∧
    (∀ f ps (s : VM ν), KeepsDepths s (execDirectFunction n f ps s).2) ∧
    (∀ r f ps (s : VM ν), KeepsDepths s (execMethodFunction n r f ps s).2) ∧
    (∀ c ps (s : VM ν), KeepsDepths s (construct n c ps s).2) ∧
    (∀ bm bd cs e (s : VM ν), KeepsDepths s (handleException n bm bd cs e s).2) := by
  have h := allPres (ν := ν) (R := ScopeGrow) n
  exact ⟨fun st s => ((h.evalStmt st).run s).keepsDepths, fun e s => ((h.evalExpr e).run s).keepsDepths,
    fun f ps s => ((h.execDirectFunction f ps).run s).keepsDepths,
    fun r f ps s => ((h.execMethodFunction r f ps).run s).keepsDepths,
    fun c ps s => ((h.construct c ps).run s).keepsDepths,
    fun bm bd cs e s => ((h.handleException bm bd cs e).run s).keepsDepths⟩

/-- blocks, method/program bodies and 遍历 loops leave every module's scope depth as they found it, on all outcomes -/
theorem blocks_balance (n : Nat) (s : VM ν) :
    (∀ b, KeepsDepths s (evalPureStmtBlock n b s).2) ∧
    (∀ b ps, KeepsDepths s (evalExecBlock n b ps s).2) ∧
    (∀ ln e names body, KeepsDepths s (evalStmt n (.iterate ln e names body) s).2) := by
  have h := allPres (ν := ν) (R := ScopeGrow) n
  exact ⟨fun b => ((h.evalPureStmtBlock b).run s).keepsDepths,
    fun b ps => ((h.evalExecBlock b ps).run s).keepsDepths,
    fun ln e names body => ((h.evalStmt _).run s).keepsDepths⟩

/-- when a block is left — normally, by a signal, an uncaught error, a panic — the scope of the module it was entered
in has, besides its depth, exactly the symbols it had (if it was well-formed): none of the block's declarations remain -/
theorem block_leaves_no_declarations (n : Nat) (stmts : List Stmt) (s : VM ν) (sc : Scope)
    (hsc : getScope s.csModuleID s = some sc) (hs : SortedDepths sc) :
    ∃ sc', getScope s.csModuleID (evalPureStmtBlock (n+1) (some stmts) s).2 = some sc' ∧
      sc'.depth = sc.depth ∧ sc'.syms.map symKey = sc.syms.map symKey ∧ SortedDepths sc' := by
  simp only [evalPureStmtBlock]
  obtain ⟨sc', h1, h2, h3⟩ := (scopeGrow_withScope_strong _ (Pres.stmtsLoop (allPres n).evalStmt stmts none) s).2 sc hsc
  exact ⟨sc', h1, h2, (h3 hs).2, (h3 hs).1⟩

/-- when a method (or the program body) returns — normally or through a handled exception or with an error — none of
its declarations (此, inputs, 得到 names, variables, nested methods and types) remain in the scope of the module it
was entered in, and that scope is back at its depth -/
theorem exec_block_restores_scope (n : Nat) (inputs : List Ident) (body : Option (List Stmt))
    (catches : List (Option Ident × Option (List Stmt))) (params : List Addr) (s : VM ν) (sc : Scope)
    (hsc : getScope s.csModuleID s = some sc) (hs : SortedDepths sc) :
    ∃ sc', getScope s.csModuleID (evalExecBlock (n+1) (some (.mk inputs body catches)) params s).2 = some sc' ∧
      sc'.depth = sc.depth ∧ sc'.syms.map symKey = sc.syms.map symKey ∧ SortedDepths sc' := by
  rw [evalExecBlock_eq]
  have := allPres (ν := ν) (R := ScopeGrow) n
  obtain ⟨sc', h1, h2, h3⟩ := (scopeGrow_withScope_strong _ (Pres.execBlockBody n inputs body catches params) s).2 sc hsc
  exact ⟨sc', h1, h2, (h3 hs).2, (h3 hs).1⟩

/-- symbols below the current level of any module's scope are never removed or reordered by anything the evaluator
does (statement level: what a statement may add are symbols at the current level) -/
theorem outer_symbols_kept (n : Nat) (st : Stmt) (s : VM ν) (mid : Int) (sc : Scope)
    (hsc : getScope mid s = some sc) (hs : SortedDepths sc) :
    ∃ sc', getScope mid (evalStmt n st s).2 = some sc' ∧ sc'.depth = sc.depth ∧ SortedDepths sc' ∧
      (sc'.syms.filter (fun sy => sy.depth ≤ sc.depth - 1)).map symKey =
        (sc.syms.filter (fun sy => sy.depth ≤ sc.depth - 1)).map symKey := by
  obtain ⟨sc', h1, h2, h3⟩ := ((allPres (ν := ν) (R := ScopeGrow) n).evalStmt st).run s mid sc hsc
  refine ⟨sc', h1, h2, (h3 hs).1, ?_⟩
  have := (h3 hs).2
  unfold outerKeys at this
  rw [h2] at this
  exact this

/-- all scopes well-formed is an invariant of the evaluator (the hypothesis `SortedDepths` above is never lost);
it holds at program start, where there are no scopes at all -/
theorem well_scoped_invariant (n : Nat) (s : VM ν) (hw : WellScoped s) :
    (∀ st, WellScoped (evalStmt n st s).2) ∧ (∀ b ps, WellScoped (evalExecBlock n b ps s).2) ∧
    (∀ fr, WellScoped (pushFrame fr s).2) := by
  have h := allPres (ν := ν) (R := WellScopedRel) n
  exact ⟨fun st => (h.evalStmt st).run s hw, fun b ps => (h.evalExecBlock b ps).run s hw,
    fun fr => (wellScoped_pushFrame fr).run s hw⟩

theorem well_scoped_initially : WellScoped (initVM (ν := ν) ()) := by
  intro mid sc h
  simp [getScope, initVM] at h

/-- inputs, 得到 names, methods, types and 此 are declared with the constant flag; assigning such a name is error 44 and
changes nothing -/
theorem const_declaration_rejects_assignment (name : String) (v w : Addr) (ext : Option Int) (s s' : VM ν)
    (h : declareElement name v true ext s = (.ok (), s')) : setElement name w s' = (.err (.rt 44), s') :=
  set_after_const_declare name v w ext s s' h

/- `hnames` is not used: a `bindInputs` that ended normally has been through `matchIDName` on every input
(`Calls.matchIDName_ok_inv`). -/
set_option linter.unusedVariables false in
/-- inputs are constants: once the inputs of a body are bound, assigning any of them is error 44 and changes nothing -/
theorem inputs_are_const (inputs : List Ident) (params : List Addr) (s s' : VM ν)
    (hnames : ∀ i ∈ inputs, IsName i.lit) (hlen : params.length = inputs.length)
    (h : bindInputs inputs params s = (.ok (), s')) :
    ∀ i ∈ inputs, ∀ w, setElement i.lit w s' = (.err (.rt 44), s') := by
  intro i hi w
  have hb := bindInputs_constBound inputs params [] s s' hlen (by intro x hx; cases hx) h
  exact hb.set_rejected i.lit (by simp; exact ⟨i, hi, rfl⟩) w

section examples
open ZnVerif.Proofs.Toy

/-- a body that "calls into module 7 and fails": it pushes a frame of module 7 and stops with an error.  The bracket
still closes module 0's scope (depth back to 0), while the current module at exit is 7. -/
example :
    let body : M Int Unit := do pushFrame { moduleId := 7, callType := 2 }; declareElement "x" 1 false; rtErr 40
    (withScope body s0).1 = .err (.rt 40) ∧ (withScope body s0).2.csModuleID = 7 ∧
    (getScope 0 (withScope body s0).2).map (·.depth) = some 0 := by
  intro body
  have h := withScope_balanced body s0 {} rfl
  exact ⟨h.1, rfl, by show Option.map _ (getScope s0.csModuleID _) = _; rw [h.2.2.1]; rfl⟩

example : ∃ sc3, getScope 0 (withScope (declareElement "x" 1 false) s0).2 = some sc3 ∧ sc3.depth = 0 ∧ sc3.syms = [] := by
  obtain ⟨sc3, h1, h2, h3⟩ := withScope_restores_depth (declareElement "x" 1 false) s0 {}
    { syms := [⟨"x", 1, false, none, 1⟩], depth := 1 } rfl rfl rfl
  refine ⟨sc3, h1, h2, ?_⟩
  rw [(h3 ⟨by simp, by intro sy h; simp at h; subst h; decide⟩).1]
  rfl

/-- `令x为“a”` inside a block of a program: afterwards module 0's scope is empty again at depth 0 -/
example : ∃ sc', getScope 0 (evalPureStmtBlock 5 (some [.varDecl 0 [(1, [⟨0, "x"⟩], .str 0 "a")]]) s0).2 = some sc' ∧
    sc'.depth = 0 ∧ sc'.syms.map symKey = [] := by
  obtain ⟨sc', h1, h2, h3, _⟩ := block_leaves_no_declarations 4 [.varDecl 0 [(1, [⟨0, "x"⟩], .str 0 "a")]] s0 {} rfl
    sortedDepths_empty
  exact ⟨sc', h1, h2, h3⟩

/-- …while the same declaration as a plain statement (not a block) does leave `x` behind — the block theorem is not
trivially true of everything -/
example : ((getScope 0 (evalStmt 4 (.varDecl 0 [(1, [⟨0, "x"⟩], .str 0 "a")]) s0).2).map
    (fun sc => sc.syms.map (·.name))) = some ["x"] := by rfl

example : ∃ sc', getScope 0 (evalExecBlock 6 (some (.mk [⟨0, "甲"⟩] (some [.varDecl 0 [(1, [⟨0, "x"⟩], .str 0 "a")]])
    [])) [1] s0).2 = some sc' ∧ sc'.depth = 0 ∧ sc'.syms.map symKey = [] := by
  obtain ⟨sc', h1, h2, h3, _⟩ := exec_block_restores_scope 5 [⟨0, "甲"⟩]
    (some [.varDecl 0 [(1, [⟨0, "x"⟩], .str 0 "a")]]) [] [1] s0 {} rfl sortedDepths_empty
  exact ⟨sc', h1, h2, h3⟩

example : WellScoped s0 := by
  intro mid sc h
  by_cases hm : mid = 0
  · subst hm
    have : sc = {} := by simpa [getScope, s0] using h.symm
    subst this
    exact sortedDepths_empty
  · have : (0 == mid) = false := by simpa using (Ne.symm hm)
    simp [getScope, s0, this] at h

example : ∃ s' : VM Int, setElement "甲" 1 s' = (.err (.rt 44), s') :=
  ⟨_, const_declaration_rejects_assignment "甲" 0 1 none s0 _ rfl⟩

example : ∃ s' : VM Int, setElement "甲" 5 s' = (.err (.rt 44), s') ∧ setElement "乙" 5 s' = (.err (.rt 44), s') :=
  let h := inputs_are_const [⟨0, "甲"⟩, ⟨0, "乙"⟩] [0, 1] s0 _
    (by intro i hi; simp at hi; rcases hi with rfl | rfl <;> decide) rfl rfl
  ⟨_, h ⟨0, "甲"⟩ (by simp) 5, h ⟨0, "乙"⟩ (by simp) 5⟩

example : (applyOps [.declare "t" 1 false none, .declare "u" 2 true none]
    ({ syms := [⟨"x", 0, false, none, 3⟩], depth := 0 } : Scope).beginScope).endScope =
    { syms := [⟨"x", 0, false, none, 3⟩], depth := 0 } :=
  end_scope_forgets_declared _ ⟨by simp, by intro sy h; simp at h; subst h; decide⟩ _
    (by intro op h; simp at h; rcases h with rfl | rfl <;> rfl)

/-- a state whose current module (5) has no scope: the bracket is the body alone -/
example : withScope (newNull : M Int Addr) { s0 with csModuleID := 5 } = newNull { s0 with csModuleID := 5 } :=
  withScope_without_scope _ _ rfl

/-- a body that (wrongly) ends a scope itself: the bracket then ends one level above where the body stopped -/
example : ∃ sc3, getScope 0 (withScope (endBoundScope (some 0)) s0).2 = some sc3 ∧ sc3.depth = 0 - 1 :=
  withScope_depth_general (endBoundScope (some 0)) s0 {} { syms := [], depth := 0 } rfl rfl

example : ∃ sc', getScope 0 (evalStmt 4 (.varDecl 0 [(1, [⟨0, "x"⟩], .str 0 "a")]) s0).2 = some sc' ∧
    sc'.depth = 0 ∧ SortedDepths sc' := by
  obtain ⟨sc', h1, h2, h3, _⟩ := outer_symbols_kept 4 (.varDecl 0 [(1, [⟨0, "x"⟩], .str 0 "a")]) s0 0 {} rfl
    sortedDepths_empty
  exact ⟨sc', h1, h2, h3⟩

end examples

end ZnVerif.Properties.C06Eval
