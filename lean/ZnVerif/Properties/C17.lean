/-
C17 — Source files are decoded losslessly or rejected.
Property theorems (and `not_an_encoding`, which the examples use); helper lemmas live in ZnVerif/Proofs/Utf8.lean and
ZnVerif/Proofs/Decode.lean.

Model: pkg/io as repaired by commit f1b6b3d of the repository (Model/Decode.lean), over ANY read
script — a list of chunks of any sizes, empty reads allowed, the last read optionally delivered together with
io.EOF.  Spec: Spec/Decode.lean, which knows nothing about reads.
`asSpec` only renames the model's error (IOError 13) to the spec's error.
-/
import ZnVerif.Proofs.Decode

namespace ZnVerif.Properties.C17
open ZnVerif ZnVerif.Model ZnVerif.Spec ZnVerif.Proofs.Decode ZnVerif.Proofs.Utf8

/-- the general form: the reader may hand its last block over together with `io.EOF` -/
theorem chunking_irrelevant_eof (chunks : List (List Nat)) (last : List Nat) :
    asSpec (fileReadAllWith chunks last) = decodeAll (chunks.flatten ++ last) := by
  have := fileLoop_fresh [] chunks last
  simpa [fileReadAllWith, FileStream.new] using this

/-- `FileStream.ReadAll` returns what the chunk-free spec says about the concatenated bytes — the decoded
text or the rejection — for every byte string and every way of cutting it into reads (`io.EOF` on a read of its own). -/
theorem chunking_irrelevant (bytes : List Nat) (chunks : List (List Nat)) (h : chunks.flatten = bytes) :
    asSpec (readAll chunks) = decodeAll bytes := by
  have := chunking_irrelevant_eof chunks []
  rwa [List.append_nil, h] at this

/-- `ByteStream` (script mode, variable input): `ReadAll`, and any sequence of `Read(n)` calls up to the end,
is the strict decoder (the code strips no BOM there) -/
theorem byteStream_chunking_irrelevant (chunks : List (List Nat)) (last : List Nat) :
    asSpec (ByteStream.readAllLoop { encBuffer := [] } chunks last) = decodeStrict (chunks.flatten ++ last) := by
  have := byteLoop_eq [] chunks last
  simpa using this

theorem byteStream_readAll (bytes : List Nat) : asSpec (byteStreamReadAll bytes) = decodeStrict bytes := by
  unfold byteStreamReadAll bytesReaderScript
  rw [byteStream_chunking_irrelevant]
  cases bytes <;> simp

/-- what the loop does with a character cut by a read (a reading of `decodeBuf_incomplete`; the theorems above go through
`decodeBuf_append` instead): a proper prefix of a valid encoding is carried to the next read — it is neither dropped nor
decoded -/
theorem prefix_of_valid_is_carried (buf more : List Nat) (c : Nat) (hb : buf ≠ []) (hm : more ≠ [])
    (h : decodeOne (buf ++ more) = some (c, [])) : decodeBuf false buf = .ok ([], buf) := by
  have hnf : fullRune buf = false := by
    cases hf : fullRune buf with
    | false => rfl
    | true =>
      exfalso
      obtain ⟨_, hd⟩ := fullRune_append buf more hf
      have hle := decode_size_le buf
      match buf, hb with
      | p0 :: rest, _ =>
        have hmod := decodeOne_model p0 (rest ++ more)
        rw [← List.cons_append, hd, h] at hmod
        split at hmod
        · cases hmod
        · injection hmod with hmod
          injection hmod with _ hnil
          have hlen := congrArg List.length hnil
          have : more.length ≠ 0 := fun e => hm (List.length_eq_zero_iff.mp e)
          simp only [List.length_nil, List.length_drop, List.length_append] at hlen
          omega
  rw [decodeBuf_incomplete false hb hnf]
  rfl

example : decodeOne ([0xE4, 0xB8] ++ [0xAD]) = some (0x4E2D, []) := by decide

/-- `decodeStrict` accepts exactly the encodings of lists of Unicode scalar values, and returns that list -/
theorem decodeStrict_is_encoding_inverse (bytes cps : List Nat) :
    decodeStrict bytes = .ok cps ↔ (∀ c ∈ cps, IsScalar c) ∧ encodeAll cps = bytes :=
  ⟨decodeStrict_sound bytes cps, fun ⟨h1, h2⟩ => h2 ▸ decodeStrict_complete cps h1⟩

/-- a file that is the UTF-8 encoding of scalar values `cps` (not starting with a BOM) is read as exactly `cps`,
whatever its size and however it is cut into reads -/
theorem valid_file_lossless (cps : List Nat) (chunks : List (List Nat)) (hs : ∀ c ∈ cps, IsScalar c)
    (hb : cps.head? ≠ some bom) (h : chunks.flatten = encodeAll cps) : readAll chunks = .ok cps := by
  apply asSpec_ok
  rw [chunking_irrelevant _ chunks h, decodeAll, decodeStrict_complete cps hs]
  cases cps with
  | nil => rfl
  | cons c cs => exact if_neg fun e => hb (by simp [e])

/-- … and with a BOM in front, the BOM is removed and the rest is read as exactly `cps` -/
theorem valid_file_lossless_bom (cps : List Nat) (chunks : List (List Nat)) (hs : ∀ c ∈ cps, IsScalar c)
    (h : chunks.flatten = encodeAll (bom :: cps)) : readAll chunks = .ok cps := by
  apply asSpec_ok
  rw [chunking_irrelevant _ chunks h, decodeAll,
    decodeStrict_complete _ (List.forall_mem_cons.mpr ⟨by decide, hs⟩)]
  rfl

example : (∀ c ∈ [0x4EE4, 0x41, 0x1F600], IsScalar c) ∧ [0x4EE4, 0x41, 0x1F600].head? ≠ some bom ∧
    [[0xE4, 0xBB], [], [0xA4, 0x41, 0xF0, 0x9F], [0x98], [0x80]].flatten = encodeAll [0x4EE4, 0x41, 0x1F600] := by
  decide

example : readAll [[0xE4, 0xBB], [], [0xA4, 0x41, 0xF0, 0x9F], [0x98], [0x80]] = .ok [0x4EE4, 0x41, 0x1F600] :=
  valid_file_lossless _ _ (by decide) (by decide) (by decide)

/-- bytes that are not the UTF-8 encoding of any list of scalar values (GBK text, a corrupted byte, a truncated
last character, overlong forms, surrogates, …) make `ReadAll` return the IOError — never a prefix, never an
altered text — however the reads are cut -/
theorem invalid_file_rejected (bytes : List Nat) (chunks : List (List Nat)) (h : chunks.flatten = bytes)
    (hinv : ¬ ∃ cps, (∀ c ∈ cps, IsScalar c) ∧ encodeAll cps = bytes) :
    readAll chunks = .error .invalidEncoding := by
  apply asSpec_error (e := .invalidUtf8)
  rw [chunking_irrelevant _ chunks h, decodeAll]
  cases hd : decodeStrict bytes with
  | error e => cases e; rfl
  | ok cps => exact absurd ⟨cps, decodeStrict_sound bytes cps hd⟩ hinv

/-- a non-empty byte string whose front is no character at all is nobody's encoding (used for non-vacuity) -/
theorem not_an_encoding {bytes : List Nat} (hne : bytes ≠ []) (h : decodeOne bytes = none) :
    ¬ ∃ cps, (∀ c ∈ cps, IsScalar c) ∧ encodeAll cps = bytes := by
  rintro ⟨cps, h1, h2⟩
  have := decodeStrict_complete cps h1
  rw [h2, decodeStrict_none hne h] at this
  cases this

-- GBK "中文" (D6 D0 CE C4), an overlong NUL (C0 80), a surrogate (ED A0 80), a lone continuation byte
example : readAll [[0xD6], [0xD0, 0xCE], [0xC4]] = .error .invalidEncoding :=
  invalid_file_rejected _ _ rfl (not_an_encoding (by decide) (by decide))
example : readAll [[0xC0, 0x80]] = .error .invalidEncoding :=
  invalid_file_rejected _ _ rfl (not_an_encoding (by decide) (by decide))
example : readAll [[0xED, 0xA0], [0x80]] = .error .invalidEncoding :=
  invalid_file_rejected _ _ rfl (not_an_encoding (by decide) (by decide))
example : readAll [[0x80]] = .error .invalidEncoding :=
  invalid_file_rejected _ _ rfl (not_an_encoding (by decide) (by decide))

/-- a file containing the bytes EF BF BD (a legitimate U+FFFD) between valid text is read completely, with
U+FFFD in its place, wherever the reads cut it -/
theorem replacement_char_is_a_character (pre post : List Nat) (chunks : List (List Nat))
    (hs : ∀ c ∈ pre ++ post, IsScalar c) (hb : (pre ++ 0xFFFD :: post).head? ≠ some bom)
    (h : chunks.flatten = encodeAll pre ++ [0xEF, 0xBF, 0xBD] ++ encodeAll post) :
    readAll chunks = .ok (pre ++ 0xFFFD :: post) := by
  apply valid_file_lossless _ _ _ hb
  · rw [h]; simp [encodeAll, encode]
  · intro c hc
    rcases List.mem_append.mp hc with hc | hc
    · exact hs c (List.mem_append.mpr (Or.inl hc))
    · rcases List.mem_cons.mp hc with rfl | hc
      · decide
      · exact hs c (List.mem_append.mpr (Or.inr hc))

example : readAll [[0x41, 0xEF], [0xBF], [0xBD, 0x42]] = .ok [0x41, 0xFFFD, 0x42] :=
  replacement_char_is_a_character [0x41] [0x42] _ (by decide) (by decide) (by decide)

/-- after the leading EF BB BF everything is kept — including a second U+FEFF right behind it or anywhere
later — and the BOM is recognised even when the reads split it -/
theorem bom_once (cps : List Nat) (chunks : List (List Nat)) (hs : ∀ c ∈ cps, IsScalar c)
    (h : chunks.flatten = [0xEF, 0xBB, 0xBF] ++ encodeAll cps) : readAll chunks = .ok cps :=
  valid_file_lossless_bom cps chunks hs (by rw [h]; simp [encodeAll, encode, bom])

/-- a U+FEFF that is not the first character of the file is an ordinary character -/
theorem bom_only_leading (c : Nat) (pre post : List Nat) (chunks : List (List Nat)) (hc : c ≠ bom)
    (hs : ∀ x ∈ c :: pre ++ bom :: post, IsScalar x)
    (h : chunks.flatten = encodeAll (c :: pre ++ bom :: post)) :
    readAll chunks = .ok (c :: pre ++ bom :: post) :=
  valid_file_lossless _ _ hs (by simp [hc]) h

example : readAll [[0xEF], [], [0xBB, 0xBF, 0xEF, 0xBB], [0xBF, 0x41]] = .ok [0xFEFF, 0x41] :=
  bom_once [0xFEFF, 0x41] _ (by decide) (by decide)
example : readAll [[0x41, 0xEF, 0xBB], [0xBF]] = .ok [0x41, 0xFEFF] :=
  bom_only_leading 0x41 [] [] _ (by decide) (by decide) (by decide)

end ZnVerif.Properties.C17
