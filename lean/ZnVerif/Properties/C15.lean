/-
C15 — Modules load once, export read-only names, and cycles are reported.

Property theorems about the loader model (Model/Modules.lean, mirroring the repaired Go code) against the manual's
reading (Spec/ModuleSem.lean).  All of them quantify over every finite file table, every library table, every order
oracle (Go map iteration at the two `range` sites) and every amount of call fuel; `run` is `LoadFile(main).Execute`.
`Variant.repaired` is the tree with fix b9c6899 (named 420e70b in Model/Modules.lean: the same change): a module name with a
part that is not a plain file name is error 60; the theorems are about it.  `Variant.pinned` is the finder before that fix: the examples about it are the checked
NEGATIONS of `valid_name_path_injective`, `path_stays_under_root` and `body_runs_at_most_once` on the pinned tree.
Helper lemmas live in Proofs/Modules*.lean.
-/
import ZnVerif.Proofs.ModulesPath
import ZnVerif.Proofs.ModulesView
import ZnVerif.Proofs.ModulesFuel
import ZnVerif.Proofs.ModulesFile

namespace ZnVerif.Properties.C15
open ZnVerif.Model.Modules
open ZnVerif.Spec.ModuleSem
open ZnVerif.Proofs.Modules
open ZnVerif.Proofs.ModulesDfs

/-- `A-B-C` resolves to `A/B/C.zn` below the main file's directory when A, B, C are plain file names: the spec's `resolve`
    says so, and the finder of `LoadFile` looks at exactly that path (found ⇒ that file's source, absent ⇒
    ModuleNotFound).  (`hfile`: the finder of fix b9c6899 looks a name up only if its parts are plain; what
    `filepath.Join`'s cleaning did to other names before that fix: `pinned_names_share_a_file`.) -/
theorem path_resolution (files : Files) (segs : List Name) (hne : segs ≠ []) (hplain : ∀ s, s ∈ segs → chDash ∉ s)
    (hfile : ∀ s, s ∈ segs → plainSegment s = true)
    (hcustom : (parseLibName (joinDash segs)).libType = .custom) :
    resolve (joinDash segs) = .file (withExt segs) ∧
    finder .repaired files (parseLibName (joinDash segs)) =
      (match assoc (withExt segs) files with
       | some s => .src s
       | none => .notFound) := by
  have hseg : segments (joinDash segs) = segs := by
    rw [segments_eq_splitOn]; exact splitOn_joinDash segs hne hplain
  have hpn : plainName (joinDash segs) = true := by
    unfold plainName; rw [hseg]; exact List.all_eq_true.2 hfile
  constructor
  · rw [resolve_custom hcustom, hpn, hseg]; rfl
  · rw [finder_custom files hcustom, hpn, hseg]
    cases assoc (withExt segs) files <;> rfl

/-- the path is the directory segments followed by the last segment with `.zn` appended -/
theorem path_shape : ∀ (segs : List Name) (h : segs ≠ []),
    withExt segs = segs.dropLast ++ [segs.getLast h ++ [0x2E, 0x7A, 0x6E]]
  | [x], _ => rfl
  | x :: y :: r, _ => by
    have ih := path_shape (y :: r) (by simp)
    simp only [withExt] at ih ⊢
    rw [ih]
    simp

/-- for every module name the model's finder and the spec's `resolve` agree: a name whose parts are all plain file names
    is looked up at `A/B/C.zn`, any other name denotes no module -/
theorem finder_agrees_with_spec (files : Files) (n : Name) (hc : (parseLibName n).libType = .custom) :
    resolve n = (if plainName n then .file (withExt (segments n)) else .nothing) ∧
    finder .repaired files (parseLibName n) =
      (if plainName n then
        match assoc (withExt (segments n)) files with
        | some s => .src s
        | none => .notFound
      else .notFound) :=
  ⟨resolve_custom hc, finder_custom files hc⟩

/-- the test the repaired `LoadFile` makes on the parts of a name (`part == "" || part == "." || part == ".." ||
    strings.ContainsAny(part, "/\\")` rejects) is the spec's "every part is a plain file name" -/
theorem validity_test_is_plain_name (n : Name) (hc : (parseLibName n).libType = .custom) :
    validParts (parseLibName n).libPath = plainName n := by
  rw [parseLibName_custom_path hc]; exact validParts_eq_plainName n

/-- the path a name denotes for the finder is the path the spec gives it -/
theorem resolveName_agrees_with_spec (n : Name) (p : Path) : resolveName .repaired n = some p ↔ resolve n = .file p :=
  resolveName_some_iff n p

/-- Two valid names resolve to the same path iff they are the same name — for all names: no file has two names. -/
theorem valid_name_path_injective (a b : Name) (pa pb : Path) (ha : resolveName .repaired a = some pa)
    (hb : resolveName .repaired b = some pb) : pa = pb ↔ a = b := by
  constructor
  · intro h; subst h; exact resolveName_repaired_inj ha hb
  · intro h; subst h; rw [ha] at hb; injection hb

/-- the same in the spec's terms -/
theorem valid_name_path_injective_spec (a b : Name) (pa pb : Path) (ha : resolve a = .file pa)
    (hb : resolve b = .file pb) : pa = pb ↔ a = b :=
  valid_name_path_injective a b pa pb ((resolveName_agrees_with_spec a pa).2 ha) ((resolveName_agrees_with_spec b pb).2 hb)

/-- The resolved file lies under the main file's directory: the path is not empty and no component of it is `..` (nor
    `.`, empty, or containing a separator) — every component is a plain directory or file name. -/
theorem path_stays_under_root (n : Name) (p : Path) (h : resolveName .repaired n = some p) :
    p ≠ [] ∧ ∀ c, c ∈ p → c ≠ dotdot ∧ PlainComp c := by
  obtain ⟨h1, h2⟩ := resolveName_repaired_plain h
  exact ⟨h1, fun c hc => ⟨(h2 c hc).2.2.1, h2 c hc⟩⟩

/-- … whatever the file table holds (also entries outside that directory): a source the finder returns is the table's
    entry at a path of plain components -/
theorem finder_reads_under_root (files : Files) (n : Name) (s : ModuleSrc)
    (h : finder .repaired files (parseLibName n) = .src s) :
    ∃ p, resolveName .repaired n = some p ∧ assoc p files = some s ∧ ∀ c, c ∈ p → c ≠ dotdot ∧ PlainComp c := by
  rw [finder_eq_resolve] at h
  cases hr : resolve n with
  | file p =>
    rw [hr] at h
    dsimp only at h
    have hn := (resolveName_some_iff n p).2 hr
    cases hs : assoc p files with
    | none => rw [hs] at h; cases h
    | some s' => rw [hs] at h; cases h; exact ⟨p, hn, hs, (path_stays_under_root n p hn).2⟩
  | _ => rw [hr] at h; cases h

/-- for a name the repaired code accepts, `filepath.Join`'s cleaning is the identity, so the fix changes nothing for
    such names: the pinned finder (join and clean) and the repaired one (test, then join) answer alike -/
theorem fix_changes_only_rejected_names (files : Files) (n : Name) (hc : (parseLibName n).libType = .custom)
    (hp : plainName n = true) : finder .pinned files (parseLibName n) = finder .repaired files (parseLibName n) := by
  unfold finder
  rw [resolveParts_pinned_of_valid ((validity_test_is_plain_name n hc).trans hp)]

/-- `@L` is a library name: the spec's `resolve` answers the library `@L` itself and `ParseLibName` classifies the name as a standard
    library.  (That an import of it then looks the registered libraries up under exactly that name is `evalImport`'s `.std` branch,
    see `missing_library_64`; it is not part of this statement.) -/
theorem path_resolution_library (l : Name) :
    resolve (chAt :: l) = .lib (chAt :: l) ∧ (parseLibName (chAt :: l)).libType = .std := by
  constructor
  · rfl
  · simp [parseLibName]

-- non-vacuity: 目-内-丙 ↦ 目/内/丙.zn
example : resolve [0x76EE, 0x2D, 0x5185, 0x2D, 0x4E19] = .file [[0x76EE], [0x5185], [0x4E19, 0x2E, 0x7A, 0x6E]] := by
  decide
example : joinDash [[0x76EE], [0x5185], [0x4E19]] = [0x76EE, 0x2D, 0x5185, 0x2D, 0x4E19] := by decide
example : resolveName .repaired [0x76EE, 0x2D, 0x5185, 0x2D, 0x4E19] = some [[0x76EE], [0x5185], [0x4E19, 0x2E, 0x7A, 0x6E]] := by
  decide
-- 甲--乙, 甲-.-乙, 丙-..-甲-乙, 甲/乙, 甲\乙, ..-外, the empty name: no module
example : resolve [0x7532, 0x2D, 0x2D, 0x4E59] = .nothing := by decide
example : resolve [0x7532, 0x2D, 0x2E, 0x2D, 0x4E59] = .nothing := by decide
example : resolve [0x4E19, 0x2D, 0x2E, 0x2E, 0x2D, 0x7532, 0x2D, 0x4E59] = .nothing := by decide
example : resolve [0x7532, 0x2F, 0x4E59] = .nothing := by decide
example : resolve [0x7532, 0x5C, 0x4E59] = .nothing := by decide
example : resolve [0x2E, 0x2E, 0x2D, 0x5916] = .nothing := by decide
example : resolve [] = .nothing := by decide
-- a dot inside a part is fine: 甲.乙 ↦ 甲.乙.zn, ..甲 ↦ ..甲.zn
example : resolve [0x7532, 0x2E, 0x4E59] = .file [[0x7532, 0x2E, 0x4E59, 0x2E, 0x7A, 0x6E]] := by decide
example : resolve [0x2E, 0x2E, 0x7532] = .file [[0x2E, 0x2E, 0x7532, 0x2E, 0x7A, 0x6E]] := by decide

/-! ### the pinned finder (before fix b9c6899): the negations, on the witnesses of the finding -/

/-- 甲-乙, 甲--乙, 甲-.-乙, 丙-..-甲-乙, 甲/乙 are five names of the one file 甲/乙.zn: the map name ↦ path of the pinned tree
    is not injective -/
theorem pinned_names_share_a_file :
    resolveName .pinned [0x7532, 0x2D, 0x4E59] = some [[0x7532], [0x4E59, 0x2E, 0x7A, 0x6E]] ∧
    resolveName .pinned [0x7532, 0x2D, 0x2D, 0x4E59] = some [[0x7532], [0x4E59, 0x2E, 0x7A, 0x6E]] ∧
    resolveName .pinned [0x7532, 0x2D, 0x2E, 0x2D, 0x4E59] = some [[0x7532], [0x4E59, 0x2E, 0x7A, 0x6E]] ∧
    resolveName .pinned [0x4E19, 0x2D, 0x2E, 0x2E, 0x2D, 0x7532, 0x2D, 0x4E59] = some [[0x7532], [0x4E59, 0x2E, 0x7A, 0x6E]] ∧
    resolveName .pinned [0x7532, 0x2F, 0x4E59] = some [[0x7532], [0x4E59, 0x2E, 0x7A, 0x6E]] := by decide

/-- ..-外 is the file 外.zn in the PARENT of the main file's directory -/
theorem pinned_path_leaves_root :
    resolveName .pinned [0x2E, 0x2E, 0x2D, 0x5916] = some [dotdot, [0x5916, 0x2E, 0x7A, 0x6E]] := by decide

/-- the DFS answers true only if the dependency graph has a cycle — for every start order -/
theorem dfs_sound (g : Graph) (π : List Nat) : checkCircular g π = some true → HasCycle g := fun h =>
  let ⟨_, hr, ht, _⟩ := checkCircular_spec g π
  ht (Option.some.inj (hr.symm.trans h))

/-- the DFS finds every cycle — for every start order that enumerates the nodes (Go: `for node := range adj`) -/
theorem dfs_complete (g : Graph) (π : List Nat) (hπ : ∀ v, v ∈ nodes g → v ∈ π) :
    HasCycle g → checkCircular g π = some true := fun hc => by
  obtain ⟨b, hr, _, hfl⟩ := checkCircular_spec g π
  cases b with
  | true => exact hr
  | false => exact (hfl rfl hπ hc).elim

/-- the DFS never runs out of fuel: it terminates with an answer -/
theorem dfs_total (g : Graph) (π : List Nat) : ∃ b, checkCircular g π = some b :=
  let ⟨b, h, _⟩ := checkCircular_spec g π
  ⟨b, h⟩

/-- the answer does not depend on the map iteration order -/
theorem dfs_order_independent (g : Graph) (π₁ π₂ : List Nat) (h₁ : ∀ v, v ∈ nodes g → v ∈ π₁)
    (h₂ : ∀ v, v ∈ nodes g → v ∈ π₂) : checkCircular g π₁ = checkCircular g π₂ := by
  obtain ⟨b1, e1⟩ := dfs_total g π₁
  obtain ⟨b2, e2⟩ := dfs_total g π₂
  rw [e1, e2]
  cases b1 <;> cases b2
  · rfl
  · have := dfs_complete g π₁ h₁ (dfs_sound g π₂ e2); rw [e1] at this; cases this
  · have := dfs_complete g π₂ h₂ (dfs_sound g π₁ e1); rw [e2] at this; cases this
  · rfl

-- non-vacuity: a 3-cycle hanging off a chain, a self-loop, a diamond
example : checkCircular [(0, 1), (1, 2), (2, 3), (3, 1)] [3, 2, 1, 0] = some true := by decide
example : HasCycle [(0, 1), (1, 2), (2, 3), (3, 1)] :=
  ⟨3, 1, by simp, .cons (b := 2) (by simp) (.cons (b := 3) (by simp) (.refl 3))⟩
example : checkCircular [(0, 0)] [0] = some true := by decide
example : checkCircular [(0, 1), (0, 2), (1, 3), (2, 3)] [2, 0, 3, 1] = some false := by decide

/-- number of times the body of module `m` (one entry of the module registry, i.e. one NAME) was started -/
def bodyStarts (log : List Ev) (m : Nat) : Nat := log.count (Ev.body m)

/-- Each registered module's body runs at most once per program run, however many modules import it — whether the run
    completes or fails.  (It is about NAMES, i.e. entries of the module registry: where one file has several names, as with the
    pinned finder, it does not bound how often the FILE's body runs — `alias_pinned_runs_twice`; `body_runs_at_most_once` is the
    statement about FILES.  Like every theorem here it is stated for `Variant.repaired`.) -/
theorem module_body_runs_at_most_once (O : Oracle) (hO : OracleOK O) (files : Files) (libs : Libs) (callFuel : Nat)
    (mainPath : Path) (m : Nat) : bodyStarts (run .repaired O files libs callFuel mainPath).vm.log m ≤ 1 := by
  unfold bodyStarts
  cases hm : assoc mainPath files with
  | none => simp [run, hm, VM.init]
  | some src => exact count_body_eq m _ ▸ List.nodup_iff_count.1 (run_sinv hO hm).bodies m

/-- Each module body runs at most once per program run, however many modules import it and under whatever names —
    whether the run completes or fails: for every file table, import graph and FILE `p` (a path below the main file's
    directory), the number of body starts of modules that execute `p` (`fileOfModule`: the main file for the main
    module, the resolved path of its name for any other) is at most one.  This includes the main file, which a module
    may name (导入“主” inside 主.zn): that import never completes. -/
theorem body_runs_at_most_once (O : Oracle) (hO : OracleOK O) (files : Files) (libs : Libs) (callFuel : Nat)
    (mainPath : Path) (p : Path) :
    fileBodyStarts .repaired mainPath (run .repaired O files libs callFuel mainPath).vm p ≤ 1 := by
  unfold fileBodyStarts
  cases hm : assoc mainPath files with
  | none => simp [run, hm, VM.init, bodiesOf]
  | some src =>
    have hS := run_sinv (libs := libs) (cf := callFuel) hO hm
    rw [run_eq hm] at hS ⊢
    apply countP_le_one_of_nodup hS.bodies
    intro a ha b hb hPa hPb
    simp only [decide_eq_true_eq] at hPa hPb
    unfold fileOfModule at hPa hPb
    cases hna : (namesOf (finish (runWith .repaired O files libs (loadFuelFor files) callFuel src)).vm)[a]? with
    | none => rw [hna] at hPa; cases hPa
    | some na =>
      cases hnb : (namesOf (finish (runWith .repaired O files libs (loadFuelFor files) callFuel src)).vm)[b]? with
      | none => rw [hnb] at hPb; cases hPb
      | some nb =>
        rw [hna] at hPa; rw [hnb] at hPb
        dsimp only at hPa hPb
        by_cases ha0 : na = mainName
        · by_cases hb0 : nb = mainName
          · exact hS.index_inj hna ((ha0.trans hb0.symm) ▸ hnb)
          · rw [if_pos ha0] at hPa; rw [if_neg hb0] at hPb
            cases hPa
            cases hS.index_inj (ha0 ▸ hna) hS.main0
            exact (main_file_once hO hm ha hnb hb0 hPb).elim
        · by_cases hb0 : nb = mainName
          · rw [if_neg ha0] at hPa; rw [if_pos hb0] at hPb
            cases hPb
            cases hS.index_inj (hb0 ▸ hnb) hS.main0
            exact (main_file_once hO hm hb hna ha0 hPa).elim
          · rw [if_neg ha0] at hPa; rw [if_neg hb0] at hPb
            cases resolveName_repaired_inj hPa hPb
            exact hS.index_inj hna hnb

/-- When a module's own statements start, every module named by its import statements has already been loaded
    completely (its `done` event is earlier in the log). -/
theorem imports_before_body (O : Oracle) (hO : OracleOK O) (files : Files) (libs : Libs) (callFuel : Nat)
    (mainPath : Path) (mainSrc : ModuleSrc) (hmain : assoc mainPath files = some mainSrc)
    (later earlier : List Ev) (m : Nat)
    (hlog : (run .repaired O files libs callFuel mainPath).vm.log = later ++ Ev.body m :: earlier)
    (nm : Name) (src : ModuleSrc) (hname : (namesOf (run .repaired O files libs callFuel mainPath).vm)[m]? = some nm)
    (hsrc : msrc files mainSrc nm = some src) (imp : Imp) (himp : imp ∈ src.imports)
    (hc : (parseLibName imp.name).libType = .custom) :
    ∃ id, assoc imp.name (run .repaired O files libs callFuel mainPath).vm.nameMap = some id ∧ Ev.done id ∈ earlier := by
  obtain ⟨id, h1, h2, _⟩ := (run_sinv hO hmain).before later m earlier hlog nm src hname hsrc imp himp hc
  exact ⟨id, h1, h2⟩

/-- An import of a module whose file is missing is error 60 (nothing is allocated, nothing runs). -/
theorem missing_module_60 (O : Oracle) (files : Files) (libs : Libs) (callFuel fuel : Nat) (vm : VM) (imp : Imp)
    (hc : (parseLibName imp.name).libType = .custom) (hnew : vm.findModuleByName imp.name = none)
    (hmissing : assoc (withExt (segments imp.name)) files = none) :
    evalImport O libs (loadModule .repaired O files libs callFuel (fuel + 1)) vm imp = .err (.code 60) vm := by
  have hf : finder .repaired files (parseLibName imp.name) = .notFound := by
    rw [finder_custom files hc, hmissing]
    cases plainName imp.name <;> rfl
  unfold evalImport
  dsimp only
  rw [hc]
  dsimp only
  rw [hnew]
  dsimp only
  unfold loadModule
  rw [hf]

/-- An import of a name with a part that is not a plain file name (empty, `.`, `..`, containing `/` or `\`) denotes no
    module and is error 60 — for every file table (whatever files exist, nothing is looked up), nothing is allocated,
    nothing runs. -/
theorem invalid_name_is_60 (O : Oracle) (files : Files) (libs : Libs) (callFuel fuel : Nat) (vm : VM) (imp : Imp)
    (hc : (parseLibName imp.name).libType = .custom) (hnew : vm.findModuleByName imp.name = none)
    (hinv : plainName imp.name = false) :
    resolve imp.name = .nothing ∧ resolveName .repaired imp.name = none ∧
    evalImport O libs (loadModule .repaired O files libs callFuel (fuel + 1)) vm imp = .err (.code 60) vm := by
  have hf : finder .repaired files (parseLibName imp.name) = .notFound := by
    rw [finder_custom files hc, hinv]; rfl
  have hr : resolve imp.name = .nothing := by rw [resolve_custom hc, hinv]; rfl
  refine ⟨hr, by rw [resolveName_eq_resolve, hr], ?_⟩
  unfold evalImport
  dsimp only
  rw [hc]
  dsimp only
  rw [hnew]
  dsimp only
  unfold loadModule
  rw [hf]

/-- … so every module that a run loaded (other than the main module and libraries) has a plain name -/
theorem loaded_module_has_plain_name (O : Oracle) (hO : OracleOK O) (files : Files) (libs : Libs) (callFuel : Nat)
    (mainPath : Path) (m : Nat) (nm : Name) (hdone : Ev.done m ∈ (run .repaired O files libs callFuel mainPath).vm.log)
    (hname : (namesOf (run .repaired O files libs callFuel mainPath).vm)[m]? = some nm) :
    nm = mainName ∨ plainName nm = true := by
  cases hm : assoc mainPath files with
  | none => simp [run, hm, VM.init] at hdone
  | some src =>
    by_cases hn : nm = mainName
    · exact Or.inl hn
    · obtain ⟨n', hn', _, s', hs'⟩ := (run_sinv hO hm).doneReach m hdone
      rw [hname] at hn'; cases hn'
      exact Or.inr (msrc_plain hn hs').2.1

/-- An import of a library that is not registered is error 64. -/
theorem missing_library_64 (O : Oracle) (libs : Libs) (load : VM → LibNameInfo → Res (VM × Nat)) (vm : VM) (imp : Imp)
    (hstd : (parseLibName imp.name).libType = .std) (hmissing : assoc imp.name libs = none) :
    evalImport O libs load vm imp = .err (.code 64) (vm.allocateModule imp.name).1 := by
  unfold evalImport
  dsimp only
  rw [hstd]
  dsimp only
  rw [hmissing]

/-- The loader itself never hangs: import nesting is bounded by the number of files, so the fuel `run` provides is
    never exhausted (only a runaway recursion of method calls inside a body can end a run with `callFuel`). -/
theorem loader_terminates (O : Oracle) (hO : OracleOK O) (files : Files) (libs : Libs) (callFuel : Nat)
    (mainPath : Path) : (run .repaired O files libs callFuel mainPath).err ≠ some .loadFuel := by
  cases hm : assoc mainPath files with
  | none => simp [run, hm]
  | some src =>
    rw [run_eq hm]
    intro he
    have h := (runWith_spec (libs := libs) (cf := callFuel) hO).finish_err he
    obtain ⟨st, hL, hlen⟩ := h.fuel rfl
    have := stack_length_le h.sinv hL
    simp only [loadFuelFor, List.length_nil] at hlen
    omega

/-- A run that ends with error 63 has a cycle in the import relation reachable from the main module. -/
theorem cycle_reported_sound (O : Oracle) (hO : OracleOK O) (files : Files) (libs : Libs) (callFuel : Nat)
    (mainPath : Path) (hres : NoReserved files)
    (h63 : (run .repaired O files libs callFuel mainPath).err = some (.code 63)) : StaticCycle files mainPath := by
  cases hm : assoc mainPath files with
  | none => simp [run, hm] at h63
  | some src =>
    rw [run_eq hm] at h63
    have h := (runWith_spec (libs := libs) (cf := callFuel) hO).finish_err h63
    exact mcycle_to_static hm hres (graph_cycle_to_mcycle h.sinv (h.cycle rfl))

/-- A run never completes when the import relation reachable from the main module has a cycle: no silent,
    half-initialised modules. -/
theorem cycle_never_silent (O : Oracle) (hO : OracleOK O) (files : Files) (libs : Libs) (callFuel : Nat)
    (mainPath : Path) (hres : NoReserved files) (hcyc : StaticCycle files mainPath) :
    (run .repaired O files libs callFuel mainPath).err ≠ none := by
  cases hm : assoc mainPath files with
  | none => simp [run, hm]
  | some src =>
    rw [run_eq hm]
    intro hn
    exact ((runWith_spec (libs := libs) (cf := callFuel) hO).finish_ok hn).1.no_mcycle (static_to_mcycle hm hres hcyc)

/-- Cycle ⇔ error 63, for runs that are not stopped by a different error first (a missing module or library, a
    redeclared name, a failing statement of a module body that runs before the cycle is closed). -/
theorem cycle_reported (O : Oracle) (hO : OracleOK O) (files : Files) (libs : Libs) (callFuel : Nat)
    (mainPath : Path) (hres : NoReserved files)
    (hother : (run .repaired O files libs callFuel mainPath).err = none ∨
      (run .repaired O files libs callFuel mainPath).err = some (.code 63)) :
    StaticCycle files mainPath ↔ (run .repaired O files libs callFuel mainPath).err = some (.code 63) := by
  constructor
  · intro hc
    rcases hother with h | h
    · exact absurd h (cycle_never_silent O hO files libs callFuel mainPath hres hc)
    · exact h
  · exact cycle_reported_sound O hO files libs callFuel mainPath hres

/-- the module source the loader ran for a registered name is the file the spec assigns to that module -/
theorem module_source_agrees_with_spec (files : Files) (mainPath : Path) (mainSrc : ModuleSrc)
    (hmain : assoc mainPath files = some mainSrc) (n : Name) (hc : (parseLibName n).libType = .custom) :
    msrc files mainSrc n = sourceOf files mainPath (nodeOfName n) :=
  have _ := hc   -- not needed: both sides are `none` for a library name
  msrc_eq_sourceOf hmain n

/-- Exactly the imported module's methods and types — all of them, or the listed ones — become available: in a
    completed run, the names a loaded module `M` holds at import level (depth 0 of its scope) are exactly the names
    its import statements bring (`Brings`: the selected definitions of the imported module's source, or the selected
    registered names of the library). -/
theorem exports_exactly_methods_and_types (O : Oracle) (hO : OracleOK O) (hρ : ExportOrderOK O) (files : Files)
    (libs : Libs) (callFuel : Nat) (mainPath : Path) (mainSrc : ModuleSrc) (hmain : assoc mainPath files = some mainSrc)
    (hok : (run .repaired O files libs callFuel mainPath).err = none)
    (M : Nat) (nm : Name) (src : ModuleSrc) (hdone : Ev.done M ∈ (run .repaired O files libs callFuel mainPath).vm.log)
    (hname : (namesOf (run .repaired O files libs callFuel mainPath).vm)[M]? = some nm) (hsrc : msrc files mainSrc nm = some src) :
    ∃ s, lookS (run .repaired O files libs callFuel mainPath).vm M = some s ∧
      ∀ n, (∃ y, y ∈ s.locals ∧ y.depth = 0 ∧ y.name = n) ↔
        ∃ imp, imp ∈ src.imports ∧ Brings files mainSrc libs imp n := by
  obtain ⟨-, s, IS, h1, h2, hd0, -, -⟩ := run_view hO hρ hmain hok hdone hname hsrc
  exact ⟨s, h1, fun n => (hd0 n).trans (brought_iff hρ h2 n)⟩

/-- Imported names are read-only: every name in the scope of a loaded module is a constant, and assigning to a
    name the module imported is error 44.  (In this model every declaration is a constant declaration — no item of the fragment
    declares a variable — so the first clause holds of any scope; what the theorem adds is that an imported name RESOLVES in the
    importer's scope: the assignment is error 44, not 42.) -/
theorem imports_read_only (O : Oracle) (hO : OracleOK O) (hρ : ExportOrderOK O) (files : Files)
    (libs : Libs) (callFuel : Nat) (mainPath : Path) (mainSrc : ModuleSrc) (hmain : assoc mainPath files = some mainSrc)
    (hok : (run .repaired O files libs callFuel mainPath).err = none)
    (M : Nat) (nm : Name) (src : ModuleSrc) (hdone : Ev.done M ∈ (run .repaired O files libs callFuel mainPath).vm.log)
    (hname : (namesOf (run .repaired O files libs callFuel mainPath).vm)[M]? = some nm) (hsrc : msrc files mainSrc nm = some src) :
    ∃ s, lookS (run .repaired O files libs callFuel mainPath).vm M = some s ∧ (∀ y, y ∈ s.locals → y.isConst = true) ∧
      ∀ imp n, imp ∈ src.imports → Brings files mainSrc libs imp n → s.setValueCode n = some 44 := by
  obtain ⟨-, s, IS, h1, h2, hd0, hconst, -⟩ := run_view hO hρ hmain hok hdone hname hsrc
  refine ⟨s, h1, hconst, fun imp n hi hbr => setValueCode_const hconst ?_⟩
  obtain ⟨y, hy, _, hyn⟩ := (hd0 n).2 ((brought_iff hρ h2 n).2 ⟨imp, hi, hbr⟩)
  exact ⟨y, hy, hyn⟩

/-- the statement `n = …` on a name that resolves to a constant ends the run with error 44 -/
theorem assign_to_constant_44 (callFuel : Nat) (vm : VM) (m : Nat) (s : Scope) (n : Name) (r : List Item)
    (hcur : vm.curScope = some (m, s)) (h44 : s.setValueCode n = some 44) :
    runItems callFuel vm (.assign n :: r) = .err (.code 44) vm := by
  unfold runItems
  rw [hcur]
  dsimp only
  rw [h44]

/-- An imported method behaves as inside its own module: in a completed run, within the scope of a module `H`
    that was loaded by an import, every method and type `d` defined by `H` resolves to `H`'s own definition and a
    frame for it is routed to `H` itself (no external reference), and every name `H` imported from a module that
    `H` does not define itself resolves to the definition in the exporting module, routed to that module. -/
theorem imported_method_sees_home_module (O : Oracle) (hO : OracleOK O) (hρ : ExportOrderOK O) (files : Files)
    (libs : Libs) (callFuel : Nat) (mainPath : Path) (mainSrc : ModuleSrc) (hmain : assoc mainPath files = some mainSrc)
    (hok : (run .repaired O files libs callFuel mainPath).err = none)
    (H : Nat) (hH0 : H ≠ 0) (nm : Name) (src : ModuleSrc)
    (hdone : Ev.done H ∈ (run .repaired O files libs callFuel mainPath).vm.log)
    (hname : (namesOf (run .repaired O files libs callFuel mainPath).vm)[H]? = some nm) (hsrc : msrc files mainSrc nm = some src) :
    ∃ s, lookS (run .repaired O files libs callFuel mainPath).vm H = some s ∧
      (∀ d, d ∈ defsOf src.body → s.getValueWithModuleID d.name = some (valOfDef d H, none)) ∧
      (∀ imp srcI d, imp ∈ src.imports → (parseLibName imp.name).libType = .custom →
        msrc files mainSrc imp.name = some srcI → d ∈ defsOf srcI.body →
        selected (exportNames srcI) imp.items d.name → d.name ∉ exportNames src →
        ∃ home, assoc imp.name (run .repaired O files libs callFuel mainPath).vm.nameMap = some home ∧
          s.getValueWithModuleID d.name = some (valOfDef d home, some home)) := by
  obtain ⟨hB, s, IS, h1, h2, -, -, hH⟩ := run_view hO hρ hmain hok hdone hname hsrc
  replace hH := hH hH0
  have hexp := hB.closedExports H nm src hdone hname hsrc
  have hnd := hB.expNodup H
  refine ⟨s, h1, ?_, ?_⟩
  · intro d hd
    apply hH.own hρ hnd
    rw [hexp]; exact List.mem_map.2 ⟨d, hd, rfl⟩
  · intro imp srcI d hi hc hsI hd hsel hnot
    obtain ⟨mid, ex, hn, hex, hall⟩ := h2.exists_of_mem hi
    obtain ⟨srcI', hsI', hexeq⟩ := hex.custom hc
    rw [hsI] at hsI'; injection hsI' with hsI'; subst hsI'
    have hmem : (d.name, valOfDef d mid) ∈ ex := by
      rw [hexeq]; exact List.mem_map.2 ⟨d, hd, rfl⟩
    have hch := (mem_chosenOf hρ hex.nodup).2 ⟨hmem, hsel.2⟩
    have he : ((d.name, valOfDef d mid, mid) : Entry) ∈ IS := hall _ hch
    have hns : d.name ∉ (((run .repaired O files libs callFuel mainPath).vm.exportsOf H).map (fun p => p.1)) := by
      rw [hexp, List.map_map]
      exact hnot
    exact ⟨mid, hn, hH.imported hρ he hns⟩

example : OracleOK Oracle.default := fun _ _ h => h
example : ExportOrderOK Oracle.default := fun l => List.Perm.refl l
-- reversed start order / reversed export order (the second oracle of the driver)
example : OracleOK ⟨fun g => (nodes g).reverse, fun l => l.reverse⟩ := fun _ _ h => List.mem_reverse.2 h
example : ExportOrderOK ⟨fun g => (nodes g).reverse, fun l => l.reverse⟩ := fun l => List.reverse_perm l

namespace Examples

def zn (x : Name) : Name := x ++ [0x2E, 0x7A, 0x6E]
def nMain : Name := [0x4E3B]          -- 主
def nA : Name := [0x7532]             -- 甲
def nB : Name := [0x4E59]             -- 乙
def nC : Name := [0x4E19]             -- 丙
def fA : Name := [0x7532, 0x6CD5]     -- 甲法
def gA : Name := [0x7532, 0x8F85]     -- 甲辅
def tA : Name := [0x7532, 0x7C7B]     -- 甲类
def pMain : Path := [zn nMain]

/-- 主 → 甲 → 乙 → 甲 -/
def cyclic : Files := [
  (pMain, ⟨[⟨nA, []⟩], [.marker 1]⟩),
  ([zn nA], ⟨[⟨nB, []⟩], [.marker 2, .defn ⟨fA, .method, 3, []⟩]⟩),
  ([zn nB], ⟨[⟨nA, []⟩], [.marker 4, .use (.call fA)]⟩)]

/-- diamond: 主 → 甲, 乙 ; 甲 → 丙 ; 乙 → 丙 (in a subdirectory: 目-丙) -/
def diamond : Files := [
  (pMain, ⟨[⟨nA, []⟩, ⟨nB, []⟩], [.marker 1]⟩),
  ([zn nA], ⟨[⟨[0x76EE, 0x2D, 0x4E19], []⟩], [.marker 2]⟩),
  ([zn nB], ⟨[⟨[0x76EE, 0x2D, 0x4E19], []⟩], [.marker 3]⟩),
  ([[0x76EE], zn nC], ⟨[], [.marker 4]⟩)]

/-- 主 imports only 甲法 of 甲; 甲法 calls its sibling 甲辅 and constructs its sibling type 甲类 -/
def sibling : Files := [
  (pMain, ⟨[⟨nA, [fA]⟩], [.marker 1, .use (.call fA), .marker 2]⟩),
  ([zn nA], ⟨[], [.defn ⟨fA, .method, 3, [.call gA, .new tA]⟩, .defn ⟨gA, .method, 4, []⟩,
                 .defn ⟨tA, .type, 5, [.call gA]⟩, .marker 6]⟩)]

theorem cyclic_noReserved : NoReserved cyclic := by
  intro p src hp imp hi
  simp [cyclic] at hp
  rcases hp with ⟨_, rfl⟩ | ⟨_, rfl⟩ | ⟨_, rfl⟩ <;> simp at hi <;> subst hi <;> decide

theorem cyclic_63 : (run .repaired Oracle.default cyclic [] 8 pMain).err = some (.code 63) := by decide

-- the hypotheses of `cycle_reported` are satisfiable: the cyclic table, with outcome 63
example : StaticCycle cyclic pMain :=
  cycle_reported_sound Oracle.default (fun _ _ h => h) cyclic [] 8 pMain cyclic_noReserved cyclic_63

set_option maxRecDepth 100000 in
example : (run .repaired Oracle.default diamond [] 8 pMain).err = none ∧
    (run .repaired Oracle.default diamond [] 8 pMain).trace = [4, 2, 3, 1] := by decide

-- bodies run once: module 3 (乙: the registry is 主模块, 甲, 目-丙, 乙) by name, and by FILE 目/丙.zn, which two modules import
set_option maxRecDepth 100000 in
example : bodyStarts (run .repaired Oracle.default diamond [] 8 pMain).vm.log 3 = 1 := by decide
set_option maxRecDepth 100000 in
example : fileBodyStarts .repaired pMain (run .repaired Oracle.default diamond [] 8 pMain).vm [[0x76EE], zn nC] = 1 := by
  decide

/-- the witness of the finding: 主 imports 甲-乙 and 甲--乙; the table has 甲/乙.zn -/
def alias : Files := [
  (pMain, ⟨[⟨[0x7532, 0x2D, 0x4E59], []⟩, ⟨[0x7532, 0x2D, 0x2D, 0x4E59], []⟩], [.marker 1]⟩),
  ([nA, zn nB], ⟨[], [.marker 2]⟩)]

-- repaired: 甲-乙 is loaded (its body runs once), then 甲--乙 is error 60
theorem alias_repaired : (run .repaired Oracle.default alias [] 8 pMain).err = some (.code 60) ∧
    (run .repaired Oracle.default alias [] 8 pMain).trace = [2] ∧
    fileBodyStarts .repaired pMain (run .repaired Oracle.default alias [] 8 pMain).vm [nA, zn nB] = 1 := by decide

-- pinned: the run completes and the body of the ONE file 甲/乙.zn ran twice, once per name (each of the two registered
-- modules ran once: `module_body_runs_at_most_once` does not see it) — the negation of `body_runs_at_most_once`
theorem alias_pinned_runs_twice : (run .pinned Oracle.default alias [] 8 pMain).err = none ∧
    (run .pinned Oracle.default alias [] 8 pMain).trace = [2, 2, 1] ∧
    fileBodyStarts .pinned pMain (run .pinned Oracle.default alias [] 8 pMain).vm [nA, zn nB] = 2 ∧
    bodyStarts (run .pinned Oracle.default alias [] 8 pMain).vm.log 1 = 1 ∧
    bodyStarts (run .pinned Oracle.default alias [] 8 pMain).vm.log 2 = 1 := by decide

/-- 主 imports ..-外; the table has 外.zn in the PARENT of the main file's directory -/
def outside : Files := [
  (pMain, ⟨[⟨[0x2E, 0x2E, 0x2D, 0x5916], []⟩], [.marker 1]⟩),
  ([dotdot, zn [0x5916]], ⟨[], [.marker 2]⟩)]

theorem outside_repaired : (run .repaired Oracle.default outside [] 8 pMain).err = some (.code 60) ∧
    (run .repaired Oracle.default outside [] 8 pMain).trace = [] := by decide

theorem outside_pinned_is_read : (run .pinned Oracle.default outside [] 8 pMain).err = none ∧
    (run .pinned Oracle.default outside [] 8 pMain).trace = [2, 1] := by decide

-- the main file named by an import (主.zn imports 主): the second module is allocated, its import of 主 closes a cycle,
-- the body of 主.zn never runs twice (it does not run at all)
set_option maxRecDepth 100000 in
example : (run .repaired Oracle.default [(pMain, ⟨[⟨nMain, []⟩], [.marker 1]⟩)] [] 8 pMain).err = some (.code 63) ∧
    fileBodyStarts .repaired pMain (run .repaired Oracle.default [(pMain, ⟨[⟨nMain, []⟩], [.marker 1]⟩)] [] 8 pMain).vm
      pMain = 0 := by decide

-- the imported method sees its home module's other method and type; the unlisted 甲辅 is not visible in 主
set_option maxRecDepth 100000 in
example : (run .repaired Oracle.default sibling [] 8 pMain).err = none ∧
    (run .repaired Oracle.default sibling [] 8 pMain).trace = [6, 1, 3, 4, 5, 4, 2] := by decide

set_option maxRecDepth 100000 in
example : (run .repaired Oracle.default
    [(pMain, ⟨[⟨nA, [fA]⟩], [.use (.call gA)]⟩), ([zn nA], ⟨[], [.defn ⟨fA, .method, 3, []⟩, .defn ⟨gA, .method, 4, []⟩]⟩)]
    [] 8 pMain).err = some (.code 42) := by decide

-- read-only, missing module, missing library
set_option maxRecDepth 100000 in
example : (run .repaired Oracle.default
    [(pMain, ⟨[⟨nA, []⟩], [.marker 1, .assign fA]⟩), ([zn nA], ⟨[], [.defn ⟨fA, .method, 3, []⟩]⟩)]
    [] 8 pMain).err = some (.code 44) := by decide

set_option maxRecDepth 100000 in
example : (run .repaired Oracle.default [(pMain, ⟨[⟨nA, []⟩], [.marker 1]⟩)] [] 8 pMain).err = some (.code 60) := by decide

set_option maxRecDepth 100000 in
example : (run .repaired Oracle.default [(pMain, ⟨[⟨[0x40, 0x65E0], []⟩], [.marker 1]⟩)] [] 8 pMain).err = some (.code 64) := by
  decide

-- a library import: the listed registered name becomes a read-only name, the unlisted one does not exist
def jsonLib : Name := [0x40, 0x4A]
def libsEx : Libs := [(jsonLib, [[0x89E3], [0x751F]])]

set_option maxRecDepth 100000 in
example : (run .repaired Oracle.default [(pMain, ⟨[⟨jsonLib, [[0x89E3]]⟩], [.marker 1, .assign [0x89E3]]⟩)] libsEx 8 pMain).err
    = some (.code 44) := by decide

set_option maxRecDepth 100000 in
example : (run .repaired Oracle.default [(pMain, ⟨[⟨jsonLib, [[0x89E3]]⟩], [.marker 1, .assign [0x751F]]⟩)] libsEx 8 pMain).err
    = some (.code 42) := by decide

end Examples

end ZnVerif.Properties.C15
