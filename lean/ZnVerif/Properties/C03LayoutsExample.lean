/-
C03 at character level, free layout: non-vacuity of `parse_render_doc` / `lex_rendered_doc` (Properties/C03Layouts.lean) — the
five-line program of C03Chars written with touching tokens, runs of blanks, CR LF / CR / LF line ends, a line that holds only its
indentation, four-space indentation, comments of three kinds and no line break at the end.
-/
import ZnVerif.Properties.C03Layouts

namespace ZnVerif.Properties.C03
open ZnVerif.Model ZnVerif.Model.Parser ZnVerif.Generated.Tokens ZnVerif.Generated.ParserTables
open ZnVerif.Spec.StmtSyntax ZnVerif.Spec.RenderChars

namespace LayoutExample
open ZnVerif.Proofs.StmtRT

/-- tokens that touch (`令甲`, `每当甲：`, `输出/*三*/甲`), two spaces, an ideographic space; CR LF, a lone CR, LF,
a line that holds only its indentation; indentation by four spaces; no line break at the end; a `//` comment at the end of a line, a
`注1：` comment on a line of its own, a `/* */` comment between two tokens -/
def frText : String := "令甲 =  乙 // 一\r\n注1：二\r\n每当甲：\r    输出/*三*/甲\n    \n    结束循环\r\n甲 +　乙"

def frEls : List El := [
  .tok (.kw [0x4EE4] 40), .tok (.name [0x7532]), .ws 0x20, .tok (.op [0x3D] cTypeAssignMark), .ws 0x20, .ws 0x20,
  .tok (.name [0x4E59]), .ws 0x20, .tok (.cmt (.line [0x20, 0x4E00])), .br .crlf 0, .tok (.cmt (.note [0x31] [0x4E8C])), .br .crlf 0,
  .tok (.kw [0x6BCF, 0x5F53] 60), .tok (.name [0x7532]), .tok (.punct 0xFF1A 13), .br .cr 1,
  .tok (.kw [0x8F93, 0x51FA] 48), .tok (.cmt (.block [0x4E09])), .tok (.name [0x7532]), .br .lf 1, .br .lf 1,
  .tok (.kw [0x7ED3, 0x675F, 0x5FAA, 0x73AF] 81), .br .crlf 0,
  .tok (.name [0x7532]), .ws 0x20, .tok (.op [0x2B] cTypePlus), .ws 0x3000, .tok (.name [0x4E59])]

theorem frText_rendered : renderDoc .sp4 0 frEls = frText.toList.map Char.toNat := by decide +kernel

theorem frEls_wf : DocWF .sp4 0 frEls := by decide +kernel

/-- the layout the text determines: seven physical lines (one with a comment only, one with indentation only), 58 characters -/
abbrev frY : Layout := docLayout .sp4 0 frEls

example : frY.lines = #[closedLineI .sp4 0 0 12, closedLineI .sp4 14 0 18, closedLineI .sp4 20 0 24, closedLineI .sp4 25 1 37,
    closedLineI .sp4 38 1 42, closedLineI .sp4 43 1 51, closedLineI .sp4 53 0 58] ∧ frY.eofIdx = 58 := by decide

private def tk (ty : Nat) (a b : Nat) (lit : List Nat := []) : Token := { type := ty, literal := lit, startIdx := a, endIdx := b }

private def a1 := tk cTypeDeclareW 0 1
private def a2 := tk cTypeIdentifier 1 2 [0x7532]
private def a3 := tk cTypeAssignMark 3 4
private def a4 := tk cTypeIdentifier 6 7 [0x4E59]
private def b1 := tk cTypeWhileLoopW 20 22
private def b2 := tk cTypeIdentifier 22 23 [0x7532]
private def b3 := tk cTypeFuncCall 23 24
private def c1 := tk cTypeReturnW 29 31
private def c2 := tk cTypeIdentifier 36 37 [0x7532]
private def d1 := tk cTypeBreakW 47 51
private def e1 := tk cTypeIdentifier 53 54 [0x7532]
private def e2 := tk cTypePlus 55 56
private def e3 := tk cTypeIdentifier 57 58 [0x4E59]

open ZnVerif.Proofs.CmtSim (clean) in
/-- the sixteen tokens without the three comments -/
theorem frTokens_eq : clean (docTokens .sp4 0 frEls) = [a1, a2, a3, a4, b1, b2, b3, c1, c2, d1, e1, e2, e3] := by decide

private def idE (t : Token) : Expr := .id (frY.idOf t)

/-- the tree: the declaration on line 0, the loop on line 2 with the statements of lines 3 and 5, the expression on line 6 -/
def frProgram : Program :=
  { imports := [],
    exec := some (.mk [] (some
      [.varDecl (frY.sl a1) [(vdTypeOf a3, [frY.idOf a2], idE a4)],
       .while (frY.sl b1) (idE b2) (some [.ret (frY.sl c1) (idE c2), .break (frY.sl d1)]),
       .expr (.arith (frY.sl e2) (lookupD addSubOverride e2.type addSubDefault) (idE e1) (idE e3))]) []) }

open ZnVerif.Proofs.CmtSim (clean) in
theorem frProgram_rendered : LinProgram frY frProgram (clean (docTokens .sp4 0 frEls)) := by
  rw [frTokens_eq]
  exact prog5_rendered (Y := frY) (by decide)

open ZnVerif.Proofs.CmtSim (clean) in
/-- `parse_render_doc` applies to the TEXT, whichever variant of the parser -/
theorem frParsed (v : Variant) : parseSource v 300 (frText.toList.map Char.toNat) = .tree frProgram := by
  rw [← frText_rendered]
  exact parse_render_doc v .sp4 0 frEls frEls_wf frProgram_rendered 300 (by rw [frTokens_eq]; decide)

example : parseSource Variant.fixed 300 (frText.toList.map Char.toNat) = .tree frProgram := frParsed _
example : parseSource Variant.legacy 300 (frText.toList.map Char.toNat) = .tree frProgram := frParsed _

set_option maxRecDepth 100000 in
/-- the tree with its line numbers spelled out: the same shape as for the canonical text, on the lines 0, 2, 3, 5, 6 of this layout
(line 1 holds a comment, line 4 only indentation) -/
example : (match parseSource Variant.fixed 300 (frText.toList.map Char.toNat) with
    | .tree ⟨[], some (.mk [] (some
        [.varDecl 0 [(1, [⟨0, _⟩], .id ⟨0, _⟩)],
         .while 2 (.id ⟨2, _⟩) (some [.ret 3 (.id ⟨3, _⟩), .break 5]),
         .expr (.arith 6 12 (.id ⟨6, _⟩) (.id ⟨6, _⟩))]) [])⟩ => true
    | _ => false) = true := by rw [frParsed]; decide

/-- `lex_rendered_doc` on the example: 16 tokens (3 of them comments) then EOF, seven lines -/
theorem frLexed : (lexAll 20 (mkLexer (frText.toList.map Char.toNat)) []).1 = docTokens .sp4 0 frEls ++ [frY.eof] ∧
    (lexAll 20 (mkLexer (frText.toList.map Char.toNat)) []).2.2.lines = frY.lines := by
  rw [← frText_rendered]
  exact ⟨(lex_rendered_doc .sp4 0 frEls frEls_wf 20 (by decide)).1, (lex_rendered_doc .sp4 0 frEls frEls_wf 20 (by decide)).2.2⟩

set_option maxRecDepth 100000 in
example : (lexAll 20 (mkLexer (frText.toList.map Char.toNat)) []).1 = docTokens .sp4 0 frEls ++ [frY.eof] ∧
    (lexAll 20 (mkLexer (frText.toList.map Char.toNat)) []).2.2.lines = frY.lines := frLexed
set_option maxRecDepth 100000 in
example : (lexAll 20 (mkLexer (frText.toList.map Char.toNat)) []).1.length = 17 ∧
    (lexAll 20 (mkLexer (frText.toList.map Char.toNat)) []).2.2.lines.size = 7 := by
  rw [frLexed.1, frLexed.2]; decide

/-- the discipline is needed: `不为` written for a name `不` followed by `为` is ONE keyword — such a document is not well-formed -/
example : ¬ DocWF .tab 0 [.tok (.name [0x4E0D]), .tok (.kw [0x4E3A] 41), .ws 0x20, .tok (.name [0x7532])] := by decide +kernel

end LayoutExample

end ZnVerif.Properties.C03
