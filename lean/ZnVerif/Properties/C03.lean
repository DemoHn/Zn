/-
C03 — Parsing builds the tree the grammar prescribes, for any layout.

Theorems about `Model/Parser.lean` (`Variant.fixed`) and the generated tables.  The token-level round trip with layout is in
Properties/C03Stmt, the character level (lexer and parser composed on a rendered text) in Properties/C03Chars (`parse_render_canonical`)
and Properties/C03Layouts (`parse_render_doc`, free layout); `parse_render_full` below keeps the statement for a rendering relation given
from outside as a definition, and the correspondence runs (tools/props/c03.py) check it for the generator's.  Proofs:
Proofs/ParserGood* (completeness, one induction on the fuel), Proofs/ParserRoundtrip (token-level round trip of expressions on one line,
an instance of the round trip with layout of Proofs/Stmt*).
-/
import ZnVerif.Proofs.ParserTheorems
import ZnVerif.Generated.Tokens
import ZnVerif.Model.ParserLex
import ZnVerif.Proofs.ParserRoundtrip

namespace ZnVerif.Properties.C03
open ZnVerif.Model ZnVerif.Model.Parser ZnVerif.Generated.Tokens ZnVerif.Generated.ParserTables
open ZnVerif.Spec.Grammar ZnVerif.Proofs.ParserHoare ZnVerif.Proofs.ParserGood

variable {σ : Type} {ops : LexOps σ} {B : Nat} {μ : σ → Nat} {I : σ → Prop}

/-- **returned_tree_complete**: whatever the token stream, a tree the (repaired) parser returns is complete: every construct has
all the parts the grammar requires (Spec/Grammar `Complete`).  Before fix (2) `如果` at end of input returned a `BranchStmt` with a
nil condition. -/
theorem returned_tree_complete (hl : LexOK ops B μ I) (l : σ) (hI : I l) (n : Nat) (t : Program)
    (h : parseAST Variant.fixed ops n l = .tree t) : Complete t := by
  have := parseAST_spec hl n l hI
  rw [h] at this
  exact this

/-- every piece of tree a production returns is complete, given complete accumulators (the statement the induction carries) -/
theorem production_complete (hl : LexOK ops B μ I) (n : Nat) (nt : NT) (s s' : PState σ) (r : nt.Out)
    (hs : Inv ops B I s) (hpre : PreC nt) (h : parse Variant.fixed ops n nt s = .ok r s') : PostC nt r :=
  (parse_post hl hs hpre h).2.2

/-- the witness of defect (2), at token level: the pinned tree accepts `如果` EOF with an incomplete tree, the repaired one
reports a syntax error at the end of input -/
theorem if_at_eof_before_fix :
    (match parseTokens Variant.legacy 60 [{ type := cTypeCondW, startIdx := 0, endIdx := 2 }] with
     | .tree t =>
       (match t.exec with
        | some (.mk _ (some [.branch _ .nil none [] false none]) _) => true   -- no condition, no block
        | _ => false)
     | _ => false) = true := by decide +kernel

theorem if_at_eof_after_fix :
    (match parseTokens Variant.fixed 60 [{ type := cTypeCondW, startIdx := 0, endIdx := 2 }] with
     | .synErr e => e.code == 20 | _ => false) = true := by decide +kernel

-- non-vacuity of `returned_tree_complete`: a token stream that yields a tree (`甲 + 乙`)
example : (match parseTokens Variant.fixed 200
    [{ type := cTypeIdentifier, literal := [0x7532], startIdx := 0, endIdx := 1 },
     { type := cTypePlus, startIdx := 2, endIdx := 3 },
     { type := cTypeIdentifier, literal := [0x4E59], startIdx := 4, endIdx := 5 }] with
    | .tree _ => true | _ => false) = true := by decide +kernel

/-- **synonym_tables**: each pair of spellings the manual calls synonyms reaches the same tree constructor / operator code /
token class in the tables the parser and lexer consult (regenerated from the Go source). -/
theorem synonym_tables :
    -- comparison words and marks
    lookupD logicTypeMap cTypeLogicEqualW 0 = cLogicEQ ∧ lookupD logicTypeMap cTypeEqualMark 0 = cLogicEQ ∧
    lookupD logicTypeMap cTypeLogicNotEqW 0 = cLogicNEQ ∧ lookupD logicTypeMap cTypeNEMark 0 = cLogicNEQ ∧
    lookupD logicTypeMap cTypeLogicGtW 0 = cLogicGT ∧ lookupD logicTypeMap cTypeGTMark 0 = cLogicGT ∧
    lookupD logicTypeMap cTypeLogicGteW 0 = cLogicGTE ∧ lookupD logicTypeMap cTypeGTEMark 0 = cLogicGTE ∧
    lookupD logicTypeMap cTypeLogicLtW 0 = cLogicLT ∧ lookupD logicTypeMap cTypeLTMark 0 = cLogicLT ∧
    lookupD logicTypeMap cTypeLogicLteW 0 = cLogicLTE ∧ lookupD logicTypeMap cTypeLTEMark 0 = cLogicLTE ∧
    lookupD logicTypeMap cTypeLogicYesW 0 = cLogicXEQ ∧ lookupD logicTypeMap cTypeLogicNoW 0 = cLogicXNEQ ∧
    -- every comparison token the parser accepts has an operator code, and only those
    (∀ t, t ∈ lv3ValidTypes ↔ (logicTypeMap.find? (fun p => p.1 == t)).isSome) ∧
    -- `=` / 设为 in declarations and (with AsVarAssign) in assignments
    cTypeAssignW ∈ vdAssignKeywords ∧ cTypeAssignMark ∈ vdAssignKeywords ∧
    cTypeAssignW ∈ lv4ValidTypes ++ lv4VarAssignExtra ∧ cTypeAssignMark ∈ lv4ValidTypes ++ lv4VarAssignExtra ∧
    cTypeAssignMark ∉ lv4ValidTypes ∧
    -- arithmetic marks
    lookupD addSubOverride cTypePlus addSubDefault = cArithAdd ∧ lookupD addSubOverride cTypeMinus addSubDefault = cArithSub ∧
    lookupD mulDivTypeMap cTypeMultiply 0 = cArithMul ∧ lookupD mulDivTypeMap cTypeDivision 0 = cArithDiv ∧
    lookupD mulDivTypeMap cTypeIntDivMark 0 = cArithIntDiv ∧ lookupD mulDivTypeMap cTypeModuloMark 0 = cArithModulo ∧
    -- Chinese / ASCII punctuation: one token class per pair
    (∀ p ∈ [(cComma, cComma_EN), (cColon, cColon_EN), (cSemicolon, cSemicolon_EN), (cQuestionMark, cQuestionMark_EN),
            (cBangMark, cBangMark_EN), (cLeftBracket, cLeftBracket_EN), (cRightBracket, cRightBracket_EN),
            (cLeftParen, cLeftParen_EN), (cRightParen, cRightParen_EN)],
       (punctuationTypeMap.find? (fun e => e.1 == p.1)).map (·.2) = (punctuationTypeMap.find? (fun e => e.1 == p.2)).map (·.2) ∧
       (punctuationTypeMap.find? (fun e => e.1 == p.1)).isSome) := by
  refine ⟨by decide, by decide, by decide, by decide, by decide, by decide, by decide, by decide, by decide, by decide,
    by decide, by decide, by decide, by decide, ?_, by decide, by decide, by decide, by decide, by decide, by decide, by decide,
    by decide, by decide, by decide, by decide, by decide⟩
  -- the two inclusions between the accepted tokens and the keys of the table
  intro t
  rw [List.find?_isSome]
  constructor
  · exact (by decide : ∀ t ∈ lv3ValidTypes, ∃ x ∈ logicTypeMap, (x.1 == t) = true) t
  · rintro ⟨x, hx, he⟩
    exact beq_iff_eq.mp he ▸ (by decide : ∀ x ∈ logicTypeMap, x.1 ∈ lv3ValidTypes) x hx

/-- **linebreak_exceptions**: between two tokens (neither is EOF) that are on different lines there is a statement line break
EXCEPT when the first is one of `， 、 { 【 ： ？` or the second is one of `】 }` — exactly the documented lists, and the lists the Go
code consults (regenerated). -/
theorem linebreak_exceptions (cur p2 : Token) (sl2 el1 : Nat)
    (hc : cur.type ≠ cTypeEOF) (hp : p2.type ≠ cTypeEOF) (hlb : sl2 > el1) :
    meetStmtLineBreak (some cur) p2 sl2 el1 = false ↔
      (cur.type ∈ [cTypeCommaSep, cTypePauseCommaSep, cTypeStmtQuoteL, cTypeArrayQuoteL, cTypeFuncCall, cTypeFuncDeclare] ∨
       p2.type ∈ [cTypeArrayQuoteR, cTypeStmtQuoteR]) := by
  unfold meetStmtLineBreak
  simp only [hc, hp, or_self, if_false, hlb, if_true]
  have e1 : exceptCurrentTokenTypes = [cTypeCommaSep, cTypePauseCommaSep, cTypeStmtQuoteL, cTypeArrayQuoteL, cTypeFuncCall, cTypeFuncDeclare] := by decide
  have e2 : exceptFollowingTokenTypes = [cTypeArrayQuoteR, cTypeStmtQuoteR] := by decide
  rw [e1, e2]
  by_cases h1 : cur.type ∈ [cTypeCommaSep, cTypePauseCommaSep, cTypeStmtQuoteL, cTypeArrayQuoteL, cTypeFuncCall, cTypeFuncDeclare]
  · simp [h1]
  · by_cases h2 : p2.type ∈ [cTypeArrayQuoteR, cTypeStmtQuoteR]
    · simp [h1, h2]
    · simp [h1, h2]

/-- two tokens on the same line are never separated by a statement line break; the end of input always is one -/
theorem linebreak_same_line (cur p2 : Token) (sl2 el1 : Nat) (hc : cur.type ≠ cTypeEOF) (hp : p2.type ≠ cTypeEOF)
    (h : sl2 ≤ el1) : meetStmtLineBreak (some cur) p2 sl2 el1 = false := by
  unfold meetStmtLineBreak
  simp [hc, hp, Nat.not_lt.mpr h]

theorem linebreak_at_eof (cur p2 : Token) (sl2 el1 : Nat) (h : cur.type = cTypeEOF ∨ p2.type = cTypeEOF) :
    meetStmtLineBreak (some cur) p2 sl2 el1 = true := by
  unfold meetStmtLineBreak
  simp [h]

/-- **comma_is_optional**: `tryConsume` on a state whose peek token is a comma behaves exactly as on the state after that comma
(whatever is asked for) — a single `，` between two tokens is invisible wherever the parser goes through `tryConsume` … -/
theorem comma_is_optional (n : Nat) (tys : List Nat) (s s1 : PState σ)
    (hc : s.p2.type = cTypeCommaSep) (hn : next ops n s = .ok () s1) (h1 : s1.p2.type ≠ cTypeCommaSep) :
    tryConsume ops n tys s = tryConsume ops n tys s1 :=
  tryConsume_past_comma n tys hc hn h1

/-- … but only ONE: a second comma is not swallowed — it stays the peek token, and matches nothing but a request for a comma -/
theorem second_comma_not_swallowed (n : Nat) (tys : List Nat) (s s1 : PState σ)
    (hc : s.p2.type = cTypeCommaSep) (hn : next ops n s = .ok () s1) (h1 : s1.p2.type = cTypeCommaSep)
    (ht : cTypeCommaSep ∉ tys) :
    tryConsume ops n tys s = .ok none s1 := by
  rw [tryConsume_comma n tys s hc]
  have : tys.contains s1.p2.type = false := by
    rw [h1]; simpa using ht
  unfold tryConsumeCore
  simp only [Bind.bind, PM.bind, hn, getS, this]
  by_cases hf : s1.flag = true <;> simp [hf, Pure.pure, PM.pure]

/-- **parse_tokens_roundtrip_partial**: every token list that renders the expression tree `e`
(Spec/ExprSyntax `Lin`: any operator synonym, left-associative `或 且 + − * / | %` with the right operand one level tighter, exactly ONE
comparison per level-3 expression, braces anywhere, identifiers / numbers / strings as leaves) parses — as a whole program, with
fuel linear in the number of tokens — to exactly the program whose only statement is `e`.  Precedence and associativity of the
real grammar are therefore those of `Lin`.  Partial: expressions only (no calls, member chains, arrays, assignments, statements). -/
theorem parse_tokens_roundtrip_partial {e : Expr} {ts : List Token} (h : ZnVerif.Spec.ExprSyntax.Lin 1 e ts) (n : Nat)
    (hn : 16 * ts.length + 24 ≤ n) :
    parseTokens Variant.fixed n ts = .tree (ZnVerif.Spec.ExprSyntax.exprProgram e) :=
  ZnVerif.Proofs.StmtRT.lin_roundtrip _ h n hn

section examples
open ZnVerif.Spec.ExprSyntax
private def tk (ty : Nat) (lit : List Nat := []) : Token := { type := ty, literal := lit, startIdx := 0, endIdx := 0 }

/-- non-vacuity, and precedence at work: `甲 + 乙 * 丙` is `甲 + (乙 * 丙)` -/
example : Lin 1 (.arith 0 cArithAdd (.id ⟨0, runesToString [0x7532]⟩)
      (.arith 0 cArithMul (.id ⟨0, runesToString [0x4E59]⟩) (.id ⟨0, runesToString [0x4E19]⟩)))
    [tk cTypeIdentifier [0x7532], tk cTypePlus, tk cTypeIdentifier [0x4E59], tk cTypeMultiply, tk cTypeIdentifier [0x4E19]] := by
  refine .up 1 _ _ (by decide) (.up 2 _ _ (by decide) (.up 3 _ _ (by decide) (.up 4 _ _ (by decide) ?_)))
  exact Lin.add (tk cTypePlus) _ _ [tk cTypeIdentifier [0x7532]] [tk cTypeIdentifier [0x4E59], tk cTypeMultiply, tk cTypeIdentifier [0x4E19]]
    (by decide)
    (.up 5 _ _ (by decide) (.up 6 _ _ (by decide) (Lin.id (tk cTypeIdentifier [0x7532]) rfl)))
    (Lin.mul (tk cTypeMultiply) _ _ [tk cTypeIdentifier [0x4E59]] [tk cTypeIdentifier [0x4E19]] (by decide)
      (.up 6 _ _ (by decide) (Lin.id (tk cTypeIdentifier [0x4E59]) rfl)) (Lin.id (tk cTypeIdentifier [0x4E19]) rfl))

/-- **no_chain_of_comparisons** (witness): `1 < 2 < 3` is a syntax error (the grammar's EqE' is not recursive; `Lin` has no
constructor that would chain) -/
theorem no_chain_of_comparisons_witness :
    (match parseTokens Variant.fixed 200 [tk cTypeIdentifier [0x31], tk cTypeLTMark, tk cTypeIdentifier [0x32], tk cTypeLTMark,
        tk cTypeIdentifier [0x33]] with
     | .synErr e => e.code == 20 | _ => false) = true := by decide +kernel
end examples

/-- the full claim, kept as a statement: every rendering (`Render t src`: the layout rules of the manual, implemented on the
generator side by tools/znlayout.py) of a well-formed program parses back to that program.  Proved on the Lean side, for the
rendering relations of the Lean side: the token-level round trip (Properties/C03Stmt), completeness of every returned tree, and the
character level (Properties/C03Chars `parse_render_canonical`, Properties/C03Layouts `parse_render_doc`); for the generator's `Render` the
correspondence runs check it (real parser = lexer model + parser model = generator's tree). -/
def parse_render_full (Wf : Program → Prop) (Render : Program → List Nat → Prop) (sameModuloLines : Program → Program → Prop) : Prop :=
  ∀ (t : Program) (src : List Nat), Wf t → Render t src →
    ∃ n t', parseSource Variant.fixed n src = .tree t' ∧ sameModuloLines t t'

end ZnVerif.Properties.C03
