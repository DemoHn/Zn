/-
C14 — Text operations count characters; % formatting follows the directives.
Property theorems only; helper lemmas live in ZnVerif/Proofs (Template, Directive, Format, TextUtf8, TextScan, TextOps,
TextHistory, TextMethods).

Texts are sequences of code points; where the Go code (or the library routine it calls) works on bytes the
model does too, on `encode t`, the UTF-8 bytes of the character sequence `t` (`ValidText t`: all scalar values).
Numbers are abstract: every theorem holds for every rendering function `env.fmtFloat`, every `env.scale100`
and every display function (these are runtime; the correspondence run compares them with a reference).
-/
import ZnVerif.Proofs.Format
import ZnVerif.Proofs.TextHistory
import ZnVerif.Proofs.TextMethods

namespace ZnVerif.Properties.C14
open ZnVerif ZnVerif.Generated
open ZnVerif.Model.Format
open ZnVerif.Spec.Template
open ZnVerif.Proofs.TextUtf8 (ValidText)

/-- the template scanner's double switch (states 1 begin, 2 literal, 3 format), every state × every character -/
theorem scanner_table (st ch : Nat) : scanLookup st ch = Proofs.Format.refScanLookup st ch :=
  Proofs.Format.scanLookup_eq_ref st ch

/-- the directive machine's double switch (states 1 begin, 2 `+`, 3 `.`, 6 precision digit, 4 `E`, 5 `%`) -/
theorem directive_switch_table (st ch : Nat) : dirLookup st ch = Proofs.Directive.refLookup st ch :=
  Proofs.Directive.dirLookup_eq_ref st ch

/-- begin states, the closing of a pending literal run, the `len % 3` check, the type tags, the precision limit
and the state refused at the end of a directive, as the Go source has them (regenerated) -/
theorem machine_constants :
    FormatDFA.scanBegin = 1 ∧ FormatDFA.scanCloseState = 2 ∧ FormatDFA.scanModulus = 3 ∧
    FormatDFA.scan_fmtTypeLiteral = 1 ∧ FormatDFA.scan_fmtTypeFormatter = 2 ∧
    FormatDFA.dirBegin = 1 ∧ FormatDFA.dirMaxPrecision = some precLimit ∧ FormatDFA.dirRejectFinal = [3] := by
  decide

/-- the directive machine (loop and final check) accepts exactly `[+]?(.D+)?[E%]?` with a
precision of at most `precLimit`, and hands the renderer exactly the documented (sign, precision, style).
The precision is a natural number of any size here; see `precision_limit` and `precision_accumulator_bounded`
for what happens to the ones beyond the limit. -/
theorem directive_table (d : List Nat) :
    (dirRun d).map DirSt.flags =
      ((parseDirective d).filter Directive.withinLimit).map Proofs.Directive.flagsOf := by
  rw [Proofs.Directive.dirRun_eq, Option.map_map]
  congr 1
  funext dir
  exact Proofs.Directive.flags_stateOf dir

/-- the executable grammar used above is the documented grammar: optional `+`, optional `.` with at least one
digit, optional `E` or `%`, nothing else; the triple is (sign?, decimal value of the digits, style) -/
theorem directive_grammar (l : List Nat) (d : Directive) : parseDirective l = some d ↔ DirectiveForm l d :=
  Proofs.Template.parseDirective_iff l d

/-- precisions that do not fit: a well-formed directive is refused by the code iff its precision exceeds
`precLimit` = 1000000 (commit f4afd28 of the repository; the pinned tree printed Go's `%!(NOVERB)` text for them) -/
theorem precision_limit (l : List Nat) (d : Directive) (h : DirectiveForm l d) :
    (dirRun l).isSome = d.withinLimit := by
  have hp := (directive_grammar l d).2 h
  rw [Proofs.Directive.dirRun_eq, hp]
  by_cases hw : d.withinLimit = true <;> simp [Option.filter, hw]

/-- … and the accumulator `numFixedPrecision` never exceeds the limit in any state the loop reaches, for any
input: the Go `int` holds at most 10·1000000 + 9 before the check, so it cannot wrap around -/
theorem precision_accumulator_bounded (d : List Nat) (s : DirSt) (h : dirLoop dirInit d = some s) :
    s.prec ≤ 1000000 :=
  Proofs.Directive.dirLoop_prec_le d dirInit s (by decide) h

section
variable {ν κ : Type} (env : Env ν κ)

/-- for every template, every argument list and every rendering of numbers and display forms,
`formatString` returns the text `⟦template⟧ args` of the spec, and an error exactly when the spec has none
(scanner invariant by induction on the template, any length) -/
theorem format_spec (t : List Nat) (args : List (Arg ν κ)) :
    (formatString env t args).toOption = denote env t args := by
  rw [Proofs.Format.formatString_exact]
  unfold denote
  cases hsp : split t with
  | none => rfl
  | some segs =>
    dsimp only
    by_cases hn : args.length ≠ (holes segs).length
    · rw [if_pos hn]
      cases hf : fillSegs env segs args with
      | none => rfl
      | some out => exact absurd (Proofs.Format.fillSegs_length env segs args out hf) hn
    · rw [if_neg hn]
      exact (Proofs.Format.fillRef_spec env segs args (by omega)).1

/-- the `%` dispatch: two numbers are the remainder (C01), a text and a list are `formatString`, i.e. `⟦t⟧ items`;
every other pair of operands is a type error -/
theorem modulo_dispatch (l r : Operand ν κ) :
    (match evalModulo env l r with
      | .arith a b => ModMeaning.remainder a b
      | .formatted res => ModMeaning.filled res.toOption
      | .typeError => ModMeaning.error) = modulo env l r := by
  cases l <;> cases r <;> simp [evalModulo, modulo, format_spec]

/-- which error: a malformed template is reported as such whatever the arguments are … -/
theorem format_malformed_template (t : List Nat) (args : List (Arg ν κ)) (h : split t = none) :
    formatString env t args = .error .invalidTemplate := by
  rw [Proofs.Format.formatString_exact, h]

/-- … and a well-formed one with a different number of placeholders and arguments as a count mismatch -/
theorem format_count_mismatch (t : List Nat) (args : List (Arg ν κ)) (segs : List Seg) (h : split t = some segs)
    (hn : args.length ≠ (holes segs).length) : formatString env t args = .error .unmatchParams := by
  rw [Proofs.Format.formatString_exact, h]
  dsimp only
  rw [if_pos hn]

/-- no slice `formatStrRune[start:end]` and no `paramElemList[i]` is ever out of range -/
theorem format_never_panics (t : List Nat) (args : List (Arg ν κ)) :
    formatString env t args ≠ .error .panic := by
  rw [Proofs.Format.formatString_exact]
  cases hsp : split t with
  | none => simp
  | some segs =>
    dsimp only
    by_cases hn : args.length ≠ (holes segs).length
    · rw [if_pos hn]; simp
    · rw [if_neg hn]
      have := (Proofs.Format.fillRef_spec env segs args (by omega)).2
      cases hf : Proofs.Format.fillRef env segs args with
      | error e => rw [hf] at this; cases e <;> simp_all [Except.map]
      | ok v => simp [Except.map]

/-- the spec's `split` is the unique decomposition of a template into non-empty maximal literal runs without
braces and placeholders `{d}` with `d` free of braces; there is none iff the template is malformed -/
theorem template_decomposition (t : List Nat) (segs : List Seg) :
    split t = some segs ↔ (unparse segs = t ∧ Canonical segs) :=
  Proofs.Template.split_iff t segs

/-- the error cases of the spec are the documented ones: the template is malformed, or the numbers of placeholders
and elements differ, or some placeholder cannot render its element … -/
theorem denote_error_iff (t : List Nat) (args : List (Arg ν κ)) :
    denote env t args = none ↔
      (split t = none ∨ ∃ segs, split t = some segs ∧
        (args.length ≠ (holes segs).length ∨
         ∃ (k : Nat) (d : List Nat) (a : Arg ν κ), (holes segs)[k]? = some d ∧ args[k]? = some a ∧ render env d a = none)) := by
  unfold denote
  cases hsp : split t with
  | none => simp
  | some segs => simp [Proofs.Format.fillSegs_none_iff]

/-- … where `{}` fails only on a value without display form, and `{c…}` fails iff it does not start with `#`, or the
element is not a number, or what follows `#` is not a directive within the precision limit -/
theorem placeholder_error_iff (c : Nat) (rest : List Nat) (a : Arg ν κ) :
    (render env [] a = none ↔ a = .other) ∧
    (render env (c :: rest) a = none ↔
      (c ≠ 0x23 ∨ (∀ x, a ≠ .num x) ∨ ∀ dir, parseDirective rest = some dir → dir.withinLimit = false)) :=
  ⟨Proofs.Format.render_nil_none_iff env a, Proofs.Format.render_cons_none_iff env c rest a⟩

end

/-! ### non-vacuity: concrete templates through model and spec (a toy renderer that shows its arguments) -/

/-- renders a number `x` as `<verb,precision,sign,x>`-like code points, so the examples show what was asked of it -/
def toyEnv : Env Nat Nat where
  fmtFloat v prec plus x := [match v with | .f => 0x66 | .e => 0x45 | .g => 0x67, prec.getD 99, if plus then 0x2B else 0x20, x]
  scale100 x := x * 100
  displayNum x := [0x6E, x]
  display v := [0x76, v]

-- "A{}年{#+.2%}" % [plain 7, num 3]  =  "A" ++ display 7 ++ "年" ++ fmtFloat f (some 2) plus (3·100) ++ "%"
example : formatString toyEnv [0x41, 0x7B, 0x7D, 0x5E74, 0x7B, 0x23, 0x2B, 0x2E, 0x32, 0x25, 0x7D] [.plain 7, .num 3]
    = .ok [0x41, 0x76, 7, 0x5E74, 0x66, 2, 0x2B, 300, 0x25] := by rfl
example : denote toyEnv [0x41, 0x7B, 0x7D, 0x5E74, 0x7B, 0x23, 0x2B, 0x2E, 0x32, 0x25, 0x7D] [.plain 7, .num 3]
    = some [0x41, 0x76, 7, 0x5E74, 0x66, 2, 0x2B, 300, 0x25] := by decide
-- the error classes: "{{}" malformed; "{}" with no argument; "{#}" on a text; "{#E.2}" wrong order; "{#.}" no digit
example : formatString toyEnv [0x7B, 0x7B, 0x7D] [.num 1] = .error .invalidTemplate := by rfl
example : formatString toyEnv [0x7B, 0x7D] [] = .error .unmatchParams := by rfl
example : formatString toyEnv [0x7B, 0x23, 0x7D] [.plain 1] = .error .notNumber := by rfl
example : formatString toyEnv [0x7B, 0x23, 0x45, 0x2E, 0x32, 0x7D] [.num 1] = .error .badDirective := by rfl
example : formatString toyEnv [0x7B, 0x23, 0x2E, 0x7D] [.num 1] = .error .badDirective := by rfl
example : denote toyEnv [0x7B, 0x23, 0x2E, 0x7D] [.num 1] = none := by decide
-- the grammar has members of every shape, and non-members
example : parseDirective [0x2B, 0x2E, 0x31, 0x32, 0x45] = some ⟨true, some 12, .sci⟩ := by decide
example : parseDirective [] = some ⟨false, none, .plain⟩ := by decide
example : parseDirective [0x45, 0x2E, 0x32] = none := by decide
example : DirectiveForm [0x2B, 0x2E, 0x31, 0x32, 0x45] ⟨true, some 12, .sci⟩ :=
  (directive_grammar _ _).1 (by decide)
-- precisions beyond the limit: {#.1000000} is accepted, {#.1000001} and {#.99999999999999999999} are refused
example : (dirRun [0x2E, 0x31, 0x30, 0x30, 0x30, 0x30, 0x30, 0x30]).isSome = true := by decide
example : dirRun [0x2E, 0x31, 0x30, 0x30, 0x30, 0x30, 0x30, 0x31] = none := by decide
example : dirRun (0x2E :: List.replicate 20 0x39) = none := by decide
example : split [0x61, 0x7B, 0x23, 0x7D, 0x62] = some [.lit [0x61], .hole [0x23], .lit [0x62]] := by decide

open ZnVerif.Model.TextOps in
/-- 长度 is the number of entries of 字符组, which is the number of characters -/
theorem length_eq_chars_length (t : List Nat) (hv : ValidText t) :
    length (encode t) = (chars (encode t)).length ∧ length (encode t) = t.length := by
  rw [Proofs.TextUtf8.length_encode t hv, Proofs.TextUtf8.chars_encode t hv]
  simp

open ZnVerif.Model.TextOps in
/-- 字符组 lists the characters: its k-th entry is the text consisting of the k-th character alone -/
theorem chars_are_characters (t : List Nat) (hv : ValidText t) :
    chars (encode t) = t.map (fun c => encode [c]) := by
  rw [Proofs.TextUtf8.chars_encode t hv]
  simp [encode]

open ZnVerif.Model.TextOps in
/-- for every text and every index pair, 取样 returns exactly the entries at the
1-based positions i..j of the character array (negative indices from the end; start before 1 → exception; end
after the length → exception; start after end → empty), joined — never part of a character — and never panics -/
theorem length_chars_slice_consistent (t : List Nat) (hv : ValidText t) (i j : Int) :
    slice (encode t) i j =
      match Spec.TextOps.slice (chars (encode t)) i j with
      | .ok pieces => .ok pieces.flatten
      | .error e => .error (Proofs.TextOps.liftErr e) := by
  rw [Proofs.TextOps.slice_encode t hv, Proofs.TextUtf8.chars_encode t hv, Proofs.TextOps.slice_map]
  cases Spec.TextOps.slice t i j with
  | error e => rfl
  | ok r => simp [Except.map, encode]

open ZnVerif.Model.TextOps in
/-- the same against the character sequence itself: the result is the encoding of the characters at positions i..j -/
theorem slice_is_characters (t : List Nat) (hv : ValidText t) (i j : Int) :
    slice (encode t) i j =
      match Spec.TextOps.slice t i j with
      | .ok r => .ok (encode r)
      | .error e => .error (Proofs.TextOps.liftErr e) :=
  Proofs.TextOps.slice_encode t hv i j

open ZnVerif.Model.TextOps in
/-- cutting the bytes of a text at the bytes of a separator (what `strings.Split`
does) yields exactly the encoded pieces of cutting the character sequence at the separator's characters — no
piece holds part of a character; an empty separator yields the characters one by one (none for the empty text) … -/
theorem split_preserves_characters (t sep : List Nat) (hvt : ValidText t) (hvs : ValidText sep) :
    split (encode t) (encode sep) = (Spec.TextOps.split t sep).map encode :=
  Proofs.TextOps.split_encode t sep hvt hvs

/-- … and the pieces joined by the separator are the text again -/
theorem split_join (t sep : List Nat) : Spec.TextOps.join sep (Spec.TextOps.split t sep) = t := by
  unfold Spec.TextOps.split
  by_cases hs : sep = []
  · subst hs
    simp only [if_true]
    induction t with
    | nil => rfl
    | cons c t ih =>
      cases t with
      | nil => rfl
      | cons c' t' =>
        simp only [List.map_cons, Spec.TextOps.join, List.append_nil] at ih ⊢
        rw [ih]; rfl
  · rw [if_neg hs, Proofs.TextOps.join_splitOn sep hs t 0 [] (Nat.zero_le _)]
    simp

open ZnVerif.Model.TextOps in
-- 你好😀e + combining acute: five characters, 13 bytes
example : ValidText [0x4F60, 0x597D, 0x1F600, 0x65, 0x301] ∧
    length (encode [0x4F60, 0x597D, 0x1F600, 0x65, 0x301]) = 5 ∧ (encode [0x4F60, 0x597D, 0x1F600, 0x65, 0x301]).length = 13 := by
  refine ⟨?_, by decide, by decide⟩
  intro c hc; simp at hc; rcases hc with rfl | rfl | rfl | rfl | rfl <;> decide

open ZnVerif.Model.TextOps in
-- 以“你好😀”（取样：2、-1） = “好😀”; （取样：0、1） and （取样：1、4） are exceptions; （取样：3、2） is empty
example : slice (encode [0x4F60, 0x597D, 0x1F600]) 2 (-1) = .ok (encode [0x597D, 0x1F600]) ∧
    slice (encode [0x4F60, 0x597D, 0x1F600]) 0 1 = .error .startIndex ∧
    slice (encode [0x4F60, 0x597D, 0x1F600]) 1 4 = .error .endIndex ∧
    slice (encode [0x4F60, 0x597D, 0x1F600]) 3 2 = .ok [] := ⟨by rfl, by rfl, by rfl, by rfl⟩

open ZnVerif.Model.TextOps in
-- the pinned tree (bytes indexed directly): 以“你好”（取样：1、1） is the single byte E4 — not a text; the repaired
-- code returns 你
example : sliceBytes (encode [0x4F60, 0x597D]) 1 1 = .ok [0xE4] ∧
    slice (encode [0x4F60, 0x597D]) 1 1 = .ok (encode [0x4F60]) := ⟨by rfl, by rfl⟩

open ZnVerif.Model.TextOps in
-- 分隔: “a，b，” at “，” gives a, b and the empty text; at the empty separator the characters
example : split (encode [0x61, 0xFF0C, 0x62, 0xFF0C]) (encode [0xFF0C]) = [encode [0x61], encode [0x62], []] ∧
    split (encode [0x4F60, 0x1F600]) [] = [encode [0x4F60], encode [0x1F600]] ∧
    split [] [] = [] := by decide

/-! One text value over a history.  `Model.TextOps.runHistory` / `Spec.TextOps.runHistory`: the steps 长度, 字符组, 取样 i j, the text itself and
转换数值 applied one after the other to the SAME value.  转换数值 (`strExecAtoi`) stores a rewritten text back into
its receiver, so later steps see other bytes than earlier ones; the theorems say that they still see a text, and
the same one the character-level spec has at that moment. -/

open ZnVerif.Model.TextOps in
/-- what 转换数值 leaves in its receiver.  The byte-level `strings.Replace(…, 1)` of `*^` and then
of `*10^` by `e`, on the bytes of a text, gives the bytes of the text in which the first `*^`, then the first `*10^`,
is replaced by `e` as characters: no occurrence is found inside a multi-byte character, none is missed -/
theorem atoiRewrite_encode (t : List Nat) (hv : ValidText t) :
    atoiRewrite (encode t) = encode (Spec.TextOps.numberRewrite t) :=
  Proofs.TextHistory.atoiRewrite_encode t hv

open ZnVerif.Model.TextOps in
/-- for every text and every history, what the model shows on the bytes `encode t` is, step
by step, the encoding (`encodeObs`) of what the spec shows on the characters `t` — 长度: the same number; 字符组: the
characters one by one, each encoded; 取样: the same outcome (result / start-index exception / end-index exception,
never a panic) with the encoded result; the text: the encoding of the spec's current text — and the value the
history leaves is the encoding of the (valid) text the spec leaves -/
theorem history_refines_spec (t : List Nat) (hv : ValidText t) (h : List Step) :
    runHistory h (encode t) = (Spec.TextOps.runHistory h t).map Proofs.TextHistory.encodeObs ∧
    stateAfter h (encode t) = encode (Spec.TextOps.stateAfter h t) ∧
    ValidText (Spec.TextOps.stateAfter h t) :=
  Proofs.TextHistory.history_encode h t hv

open ZnVerif.Model.TextOps in
/-- at every moment of every history of a text value — `s` are its bytes then — 长度 is the
number of entries of 字符组, the entries of 字符组 joined are the text, and 取样 i j is the spec slice of 字符组 (the
entries at positions i..j, joined; same exceptions; never part of a character): no step can make the observables
disagree with each other -/
theorem history_self_consistent (t : List Nat) (hv : ValidText t) (h : List Step) :
    let s := stateAfter h (encode t)
    length s = (chars s).length ∧ (chars s).flatten = s ∧
    ∀ i j : Int, slice s i j =
      match Spec.TextOps.slice (chars s) i j with
      | .ok pieces => .ok pieces.flatten
      | .error e => .error (Proofs.TextOps.liftErr e) := by
  obtain ⟨_, hs, hv'⟩ := history_refines_spec t hv h
  dsimp only
  rw [hs]
  refine ⟨(length_eq_chars_length _ hv').1, ?_, fun i j => length_chars_slice_consistent _ hv' i j⟩
  rw [Proofs.TextUtf8.chars_encode _ hv']
  rfl

open ZnVerif.Model.TextOps in
/-- the same in terms of observations only: asking 长度, 字符组 and 取样 i j after any history shows a number `n`, an
array `cs` and an outcome `r` with `n` the number of entries of `cs` and `r` the spec slice of `cs` -/
theorem history_observations_consistent (t : List Nat) (hv : ValidText t) (h : List Step) (i j : Int) :
    ∃ n cs r, runHistory (h ++ [.len, .chars, .slice i j]) (encode t) =
        runHistory h (encode t) ++ [.len n, .chars cs, .slice r] ∧
      n = cs.length ∧
      r = match Spec.TextOps.slice cs i j with
          | .ok pieces => .ok pieces.flatten
          | .error e => .error (Proofs.TextOps.liftErr e) := by
  obtain ⟨h1, _, h3⟩ := history_self_consistent t hv h
  exact ⟨_, _, _, Proofs.TextHistory.runHistory_append h _ _, h1, h3 i j⟩

/-! ### non-vacuity: `1*10^3多` (7 characters, 9 bytes) becomes `1e3多` (4 characters) under 转换数值 -/

-- the text is valid
example : ValidText [0x31, 0x2A, 0x31, 0x30, 0x5E, 0x33, 0x591A] := by
  intro c hc; simp at hc; rcases hc with rfl | rfl | rfl | rfl | rfl | rfl | rfl <;> decide

open ZnVerif.Model.TextOps in
-- model, on bytes: 7; (rewrites); 4; the four characters (多 = E5 A4 9A); characters 1..2 = `1e`
example : runHistory [.len, .toNumber, .len, .chars, .slice 1 2] (encode [0x31, 0x2A, 0x31, 0x30, 0x5E, 0x33, 0x591A]) =
    [.len 7, .converted, .len 4, .chars [[0x31], [0x65], [0x33], [0xE5, 0xA4, 0x9A]], .slice (.ok [0x31, 0x65])] := by rfl

open ZnVerif.Spec.TextOps ZnVerif.Model.TextOps.Step in
-- spec, on characters
example : runHistory [len, toNumber, len, chars, slice 1 2] [0x31, 0x2A, 0x31, 0x30, 0x5E, 0x33, 0x591A] =
    [.len 7, .converted, .len 4, .chars [[0x31], [0x65], [0x33], [0x591A]], .slice (.ok [0x31, 0x65])] := by rfl

open ZnVerif.Model.TextOps in
-- the value left behind is `1e3多`; and nothing is rewritten in `*多^⩞`: `*` and `^` stand apart, and the bytes of
-- 多 (E5 A4 9A) and ⩞ (U+2A5E = E2 A9 9E) contain neither 2A nor 5E
example : stateAfter [.toNumber] (encode [0x31, 0x2A, 0x31, 0x30, 0x5E, 0x33, 0x591A]) = encode [0x31, 0x65, 0x33, 0x591A] ∧
    atoiRewrite (encode [0x2A, 0x591A, 0x5E, 0x2A5E]) = encode [0x2A, 0x591A, 0x5E, 0x2A5E] := ⟨by rfl, by rfl⟩

/-! The other text methods (替换 匹配 匹配开头 匹配结尾 去除空格 转小写-英文 转大写-英文 格式化 转换数值).
`Model/TextMethods.lean` mirrors what pkg/value/string.go asks of Go's `strings` / `strconv` packages, on bytes;
`Spec/TextMethods.lean` says what the methods mean, on characters.  (取样, 分隔, 长度, 字符组 are above; 拼接 appends.) -/

open ZnVerif.Model.TextOps ZnVerif.Proofs.TextMethods in
/-- on the UTF-8 bytes of texts of Unicode scalar values the models compute the encoding of
what the specs say of the characters —
  * 替换: every leftmost non-overlapping occurrence is replaced, none is found inside a multi-byte character; an empty
    pattern is found before every character and at the end (not between the bytes of one);
  * 匹配 / 匹配开头 / 匹配结尾: the bytes of `sub` occur in / start / end the bytes of `t` iff its characters do;
  * 去除空格: exactly the White_Space characters at both ends go;
  * 转小写-英文 / 转大写-英文: defined for the same texts (no letter that is cased but not English), same result;
  * 格式化: `{#k}` becomes the k-th value, left to right, replaced text is not scanned again;
  * 转换数值: the receiver is left holding the encoding of `numberRewrite t`; the scanner of `strconv.ParseFloat` on its bytes
    accepts, refuses or (special spellings, possible overflow) is left out exactly where the spec's numeral form says
    decimal numeral / exception / open; and an accepted text is ASCII, so the number is `ParseFloat` of the same text -/
theorem text_methods_refine_spec (t : List Nat) (hv : ValidText t) :
    (∀ pat rep, ValidText pat →
      replaceAll (encode t) (encode pat) (encode rep) = encode (Spec.TextOps.replaceAll t pat rep)) ∧
    (∀ sub, ValidText sub →
      containsGo (encode sub) (encode t) = Spec.TextOps.occursIn sub t ∧
      hasPrefix (encode t) (encode sub) = Spec.TextOps.startsWith t sub ∧
      hasSuffix (encode t) (encode sub) = Spec.TextOps.endsWith t sub) ∧
    trimSpace (encode t) = encode (Spec.TextOps.trim t) ∧
    toLower (encode t) = (Spec.TextOps.toLower t).map encode ∧
    toUpper (encode t) = (Spec.TextOps.toUpper t).map encode ∧
    (∀ vals, format (encode t) (vals.map encode) = encode (Spec.TextOps.fill t vals)) ∧
    (atoiRewrite (encode t) = encode (Spec.TextOps.numberRewrite t) ∧
     atofClass (atoiRewrite (encode t)) = classOf (Spec.TextOps.numeralKind (Spec.TextOps.numberRewrite t)) ∧
     (Spec.TextOps.numeralKind (Spec.TextOps.numberRewrite t) = .decimal →
       atoiRewrite (encode t) = Spec.TextOps.numberRewrite t)) := by
  have hrw := Proofs.TextHistory.atoiRewrite_encode t hv
  have hvr := Proofs.TextHistory.validText_numberRewrite t hv
  have hcls : atofClass (atoiRewrite (encode t)) = classOf (Spec.TextOps.numeralKind (Spec.TextOps.numberRewrite t)) := by
    rw [hrw, atofClass_encode _ hvr, atofClass_numeralKind]
  refine ⟨fun pat rep hp => replaceAll_encode t pat rep hv hp,
    fun sub hs => ⟨containsGo_encode sub hs t hv, Proofs.TextOps.prefix_encode sub t hs hv, hasSuffix_encode t sub hv hs⟩,
    trimSpace_encode t hv, toLower_encode t hv, toUpper_encode t hv, fun vals => format_encode t vals hv,
    hrw, hcls, fun hd => ?_⟩
  have hnum : atofClass (Spec.TextOps.numberRewrite t) = .number := by
    rw [atofClass_numeralKind, hd]; rfl
  rw [hrw, Proofs.TextUtf8.encode_ascii _ (ascii_of_number _ hnum)]

open ZnVerif.Model.TextOps in
-- 好 inside 你好你好 is replaced twice; the empty pattern is found around every character, not inside one
example : replaceAll (encode [0x4F60, 0x597D, 0x4F60, 0x597D]) (encode [0x597D]) (encode [0x61]) = encode [0x4F60, 0x61, 0x4F60, 0x61] ∧
    Spec.TextOps.replaceAll [0x4F60, 0x597D, 0x4F60, 0x597D] [0x597D] [0x61] = [0x4F60, 0x61, 0x4F60, 0x61] ∧
    replaceAll (encode [0x4F60, 0x597D]) [] [0x2D] = encode [0x2D, 0x4F60, 0x2D, 0x597D, 0x2D] := ⟨by rfl, by rfl, by rfl⟩

open ZnVerif.Model.TextOps in
-- 你 = E4 BD A0, 䶠 = E4 B6 A0: the byte A0 (the last of 你, and NBSP's second byte) is not a suffix character;
-- an ideographic space and a no-break space at the ends go, the zero-width space U+200B stays
example : hasSuffix (encode [0x4F60]) (encode [0xA0]) = false ∧
    trimSpace (encode [0x3000, 0x200B, 0x61, 0xA0]) = encode [0x200B, 0x61] ∧
    Spec.TextOps.trim [0x3000, 0x200B, 0x61, 0xA0] = [0x200B, 0x61] := ⟨by rfl, by rfl, by rfl⟩

open ZnVerif.Model.TextOps in
-- `{#2}` and `{#1}`; the value of `{#1}` holds a placeholder that is not filled again; `{#3}` has no value
example : format (encode [0x7B, 0x23, 0x32, 0x7D, 0x7B, 0x23, 0x31, 0x7D, 0x7B, 0x23, 0x33, 0x7D]) [encode [0x7B, 0x23, 0x32, 0x7D], encode [0x4F60]] =
    encode [0x4F60, 0x7B, 0x23, 0x32, 0x7D, 0x7B, 0x23, 0x33, 0x7D] := by rfl

open ZnVerif.Model.TextOps in
-- Ab你 ↦ ab你; É (U+00C9) is outside the fragment; `1*^3` is left as `1e3`, a decimal numeral; `1e`, `１` are none;
-- `inf`, `0x1p1`, `1_0`, `1e999` are left open
example : toLower (encode [0x41, 0x62, 0x4F60]) = some (encode [0x61, 0x62, 0x4F60]) ∧ toLower (encode [0xC9]) = none ∧
    Spec.TextOps.toLower [0xC9] = none ∧
    atoiRewrite (encode [0x31, 0x2A, 0x5E, 0x33]) = [0x31, 0x65, 0x33] ∧ atofClass [0x31, 0x65, 0x33] = .number ∧
    atofClass [0x31, 0x65] = .syntaxErr ∧ atofClass (encode [0xFF11]) = .syntaxErr ∧
    atofClass [0x69, 0x6E, 0x66] = .special ∧ atofClass [0x30, 0x78, 0x31, 0x70, 0x31] = .special ∧
    atofClass [0x31, 0x5F, 0x30] = .special ∧ atofClass [0x31, 0x65, 0x39, 0x39, 0x39] = .special := by decide

end ZnVerif.Properties.C14
