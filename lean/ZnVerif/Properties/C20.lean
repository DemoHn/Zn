/-
C20 — The prefork master keeps the worker pool within its bounds.
Property theorems only; helper lemmas live in ZnVerif/Proofs/PM.lean, the model in ZnVerif/Model/PM.lean.

All theorems about `Variant.repaired` quantify over every configuration with `init ≤ max`, every batch constant
(`Config.batch`, 10 in the code) and every finite sequence of events each of which is enabled when it happens:
start-ups, registrations, state reports for any pid with any state, exits of any running process at any moment
(crashes, hung requests that time out), deletions — in every order.
-/
import ZnVerif.Proofs.PM
import ZnVerif.Spec.PoolBounds

namespace ZnVerif.Properties.C20
open ZnVerif.Model.PM ZnVerif.Proofs.PM

/-- `--init-procs 2 --max-procs 3`: worker 1 crashes (its refill start sleeps 100 ms), worker 2 reports BUSY (one
more worker is reserved and started at once), its registration resets `refCount` to 2 and forgets the sleeping
refill, worker 3 reports BUSY (another one is reserved and started), then the refill wakes up.  Replayed on the real
master by the harness script `pm 2 3 k1 u2:b u3:b s q` (workers 2, 3, 4 and 5 alive: four, the limit is three). -/
def witness : List Ev :=
  [.spawnStart 0, .add 1, .spawnStart 0, .add 2,
   .exit 1, .del 1,
   .update 2 .busy, .spawnStart 2, .add 3,
   .update 3 .busy, .spawnStart 3, .add 4,
   .spawnStart 1, .add 5]

/-- the trace named in DESIGN §6: `--init-procs 1 --max-procs 3`, BUSY(w1) · add(w2) · BUSY(w2) · … -/
def witnessDesign : List Ev :=
  [.spawnStart 0, .add 1,
   .update 1 .busy, .spawnStart 1, .add 2,
   .update 2 .busy, .spawnStart 1, .spawnStart 2, .add 3, .add 4]

theorem asWritten_witness :
    (run .asWritten ⟨2, 3, 10⟩ (init .asWritten ⟨2, 3, 10⟩) witness).map aliveCount = some 4 := by decide

theorem asWritten_witnessDesign :
    (run .asWritten ⟨1, 3, 10⟩ (init .asWritten ⟨1, 3, 10⟩) witnessDesign).map aliveCount = some 4 := by decide

/-- the bound claimed by the property is false for the code as written -/
theorem asWritten_violates_live_le_max :
    ¬ (∀ (c : Config), c.init ≤ c.max → ∀ (evs : List Ev) (s : State),
        run .asWritten c (init .asWritten c) evs = some s → aliveCount s ≤ c.max) := by
  intro h
  have h4 := asWritten_witness
  cases hr : run .asWritten ⟨2, 3, 10⟩ (init .asWritten ⟨2, 3, 10⟩) witness with
  | none => rw [hr] at h4; cases h4
  | some s =>
    rw [hr] at h4
    have := h ⟨2, 3, 10⟩ (by decide) witness s hr
    simp only [Option.map_some, Option.some.injEq] at h4
    simp only at this
    omega

/-- on the repaired bookkeeping `witness` is no trace: `.spawnStart 3` is not enabled, the second BUSY report finds nothing left
to reserve -/
example : (run .repaired ⟨2, 3, 10⟩ (init .repaired ⟨2, 3, 10⟩) witness).map aliveCount = none := by decide
-- without that start-up (worker 4 is then the refill) the run stays at the limit
example : (run .repaired ⟨2, 3, 10⟩ (init .repaired ⟨2, 3, 10⟩)
    [.spawnStart 0, .add 1, .spawnStart 0, .add 2, .exit 1, .del 1, .update 2 .busy, .spawnStart 2, .add 3,
     .update 3 .busy, .spawnStart 1, .add 4]).map aliveCount = some 3 := by decide

/-- **bookkeeping invariant**: in every reachable state `refCount` is exactly registered + started-but-unregistered +
still-reserved, and lies between `InitProcs` and `MaxProcs`. -/
theorem refCount_accounts (c : Config) (h : c.init ≤ c.max) (evs : List Ev) (s : State)
    (hr : run .repaired c (init .repaired c) evs = some s) :
    s.refCount = (s.childs.length : Int) + (s.unreg.length : Int) + (reserved s.batches : Int) ∧
    (c.init : Int) ≤ s.refCount ∧ s.refCount ≤ (c.max : Int) := by
  have hI := inv_reachable c h s ⟨evs, hr⟩
  exact ⟨hI.count, hI.lo, hI.hi⟩

/-- **live_le_max**: under every interleaving the number of live worker processes never exceeds `MaxProcs`. -/
theorem live_le_max (c : Config) (h : c.init ≤ c.max) (evs : List Ev) (s : State)
    (hr : run .repaired c (init .repaired c) evs = some s) : aliveCount s ≤ c.max := by
  have hI := inv_reachable c h s ⟨evs, hr⟩
  have h1 := aliveCount_le s
  have h2 := hI.count
  have h3 := hI.hi
  omega

/-- `quiet` is the right notion: it holds exactly when no start-up, no registration and no deletion is enabled, i.e.
when only state reports (requests) and faults can happen next. -/
theorem quiet_iff_only_requests_enabled (v : Variant) (c : Config) (s : State) :
    quiet s = true ↔ (∀ b, step v c s (.spawnStart b) = none) ∧ (∀ p, step v c s (.add p) = none) ∧
      (∀ p, step v c s (.del p) = none) := by
  have h1 : (∀ b, step v c s (.spawnStart b) = none) ↔ reserved s.batches = 0 := by
    have := exists_decAt_iff s.batches
    simp only [step, Option.map_eq_none_iff]
    constructor
    · intro h
      apply Classical.byContradiction
      intro hne
      obtain ⟨i, bs', hi⟩ := this.2 (by omega)
      rw [h i] at hi; cases hi
    · intro h b
      cases hd : decAt b s.batches with
      | none => rfl
      | some bs' => have := this.1 ⟨b, bs', hd⟩; omega
  have h2 : (∀ p, step v c s (.add p) = none) ↔ s.unreg = [] := by
    simp only [step, Option.map_eq_none_iff]
    constructor
    · intro h
      cases hu : s.unreg with
      | nil => rfl
      | cons u us => have := h u.1; simp [hu, takeUnreg] at this
    · intro h p; simp [h, takeUnreg]
  have h3 : (∀ p, step v c s (.del p) = none) ↔ ∀ ch ∈ s.childs, ch.alive = true := by
    constructor
    · intro h ch hm
      cases ha : ch.alive with
      | true => rfl
      | false =>
        have := h ch.pid
        rw [step, if_pos ((isDeadChild_iff s ch.pid).2 ⟨ch, hm, rfl, ha⟩)] at this
        cases this
    · intro h p
      rw [step, if_neg]
      rw [isDeadChild_iff]
      rintro ⟨ch, hm, _, ha⟩
      rw [h ch hm] at ha; cases ha
  rw [h1, h2, h3]
  simp only [quiet, Bool.and_eq_true, beq_iff_eq, List.isEmpty_iff, List.all_eq_true, and_assoc]

/-- **quiet_ge_init**: whenever the system is quiet, at least `InitProcs` workers are alive, every live worker is
registered, every registered worker is alive, and `refCount` is that number. -/
theorem quiet_ge_init (c : Config) (h : c.init ≤ c.max) (evs : List Ev) (s : State)
    (hr : run .repaired c (init .repaired c) evs = some s) (hq : quiet s = true) :
    c.init ≤ aliveCount s ∧ aliveCount s = s.childs.length ∧ s.refCount = (aliveCount s : Int) := by
  have hI := inv_reachable c h s ⟨evs, hr⟩
  obtain ⟨h1, h2, h3⟩ := quiet_spec s hq
  have hc := hI.count
  have hlo := hI.lo
  simp only [h1, h2, List.length_nil] at hc
  refine ⟨?_, h3, ?_⟩ <;> omega

/-- … and the system does become quiet: from every reachable state the master's own events (registrations, start-ups,
deletions: `drain` with fuel `workLeft s`) lead to a quiet state, whatever happened before. -/
theorem quiet_is_reached (c : Config) (h : c.init ≤ c.max) (evs : List Ev) (s : State)
    (hr : run .repaired c (init .repaired c) evs = some s) :
    ∃ (more : List Ev) (s' : State), (∀ e ∈ more, e.internal = true) ∧ run .repaired c s more = some s' ∧
      quiet s' = true ∧ c.init ≤ aliveCount s' ∧ aliveCount s' ≤ c.max := by
  have hI := inv_reachable c h s ⟨evs, hr⟩
  obtain ⟨h1, h2, h3⟩ := drain_spec c (workLeft s) s hI (Nat.le_refl _)
  have hI' := inv_run c _ s _ hI h1
  obtain ⟨q1, q2, q3⟩ := quiet_spec _ h3
  have hc := hI'.count
  have hlo := hI'.lo
  have hhi := hI'.hi
  simp only [q1, q2, List.length_nil] at hc
  exact ⟨_, _, h2, h1, h3, by omega, by omega⟩

/-- **timeout_replaces**: a registered, running worker whose request outlives the time-out reports STOPPED and exits.
Then its deletion is enabled, and after it (1) the worker has left the table, (2) every other table entry — pid,
state, running bit — is exactly what it was before the time-out and nothing else is in the table, (3) no
unregistered process was touched, (4) the bookkeeping again plans for at least `InitProcs` processes, and if it
would have fallen short a refill batch was started. -/
theorem timeout_replaces (c : Config) (h : c.init ≤ c.max) (evs : List Ev) (s : State)
    (hr : run .repaired c (init .repaired c) evs = some s) (pid : Nat) (st : WState)
    (hw : (⟨pid, st, true⟩ : Child) ∈ s.childs) :
    ∃ s1 s2, step .repaired c s (.timeoutKill pid) = some s1 ∧ step .repaired c s1 (.del pid) = some s2 ∧
      pid ∉ s2.childs.map (·.pid) ∧
      (∀ ch : Child, ch ∈ s2.childs ↔ (ch ∈ s.childs ∧ ch.pid ≠ pid)) ∧
      s2.unreg = s.unreg ∧
      (c.init : Int) ≤ s2.refCount ∧
      (s1.refCount - 1 < c.init → ∃ n, 0 < n ∧ s2.batches = s1.batches ++ [⟨n, true⟩]) := by
  have hI := inv_reachable c h s ⟨evs, hr⟩
  have halive : isAlive s pid = true := by
    simp only [isAlive, Bool.or_eq_true, List.any_eq_true, Bool.and_eq_true, beq_iff_eq]
    exact Or.inl ⟨_, hw, rfl, rfl⟩
  have hs1 : step .repaired c s (.timeoutKill pid) = some (exitH (updateH c s pid .stopped) pid) := by
    simp [step, halive]
  have hI1 : Inv c (exitH (updateH c s pid .stopped) pid) := inv_step c s _ _ hI hs1
  -- the entry of `pid` is now (pid, stopped, not running)
  have hdeadmem : (⟨pid, .stopped, false⟩ : Child) ∈ (exitH (updateH c s pid .stopped) pid).childs := by
    simp only [exitH, updateH_childs, markDead, setState, List.map_map, List.mem_map, Function.comp]
    exact ⟨_, hw, by simp⟩
  have hdead := (isDeadChild_iff (exitH (updateH c s pid .stopped) pid) pid).2 ⟨_, hdeadmem, rfl, rfl⟩
  have hs2 : step .repaired c (exitH (updateH c s pid .stopped) pid) (.del pid) =
      some (delH c (exitH (updateH c s pid .stopped) pid) pid) := by simp [step, hdead]
  have hI2 := inv_step c _ _ _ hI1 hs2
  have hnd1 := hI1.childs_nodup
  have hpid_unreg : pid ∉ s.unreg.map (·.1) := by
    have := hI.nodup
    simp only [pidsOf] at this
    intro hm
    exact (List.nodup_append.mp this).2.2 pid (List.mem_map.mpr ⟨_, hw, rfl⟩) pid hm rfl
  refine ⟨_, _, hs1, hs2, ?_, ?_, ?_, hI2.lo, ?_⟩
  · rw [delH_childs]; exact delChild_pids_of_nodup pid _ hnd1
  · intro ch
    rw [delH_childs]
    constructor
    · intro hm
      have hne : ch.pid ≠ pid := by
        intro heq
        exact delChild_pids_of_nodup pid _ hnd1 (List.mem_map.mpr ⟨ch, hm, heq⟩)
      refine ⟨?_, hne⟩
      have := (mem_delChild_of_ne pid _ ch hne).mp hm
      simp only [exitH, updateH_childs] at this
      exact (mem_markDead_setState_of_ne pid .stopped s.childs ch hne).mp this
    · rintro ⟨hm, hne⟩
      refine (mem_delChild_of_ne pid _ ch hne).mpr ?_
      simp only [exitH, updateH_childs]
      exact (mem_markDead_setState_of_ne pid .stopped s.childs ch hne).mpr hm
  · rw [delH_unreg]
    simp only [exitH, updateH_unreg]
    exact markDeadU_of_not_mem pid s.unreg hpid_unreg
  · intro hlt
    refine ⟨((c.init : Int) - ((exitH (updateH c s pid .stopped) pid).refCount - 1)).toNat, by omega, ?_⟩
    unfold delH
    simp only [hlt, if_true]

/-- **one_request_per_worker**: a pool of workers sharing one listener, given distinct requests.  After any sequence
of accepts, completions, time-outs, crashes and start-ups, every request is in exactly one place (still queued, or
taken by exactly one worker, exactly once) — and a worker accepts only when it serves nothing, so it holds at most
one request at a time. -/
theorem one_request_per_worker (reqs : List Nat) (hd : reqs.Nodup) (n : Nat) (evs : List PEv) (p : Pool)
    (hr : Pool.run ⟨reqs, List.replicate n Worker.fresh⟩ evs = some p) :
    (Pool.all p).Perm reqs ∧ (Pool.all p).Nodup ∧
    (∀ (w w' : Worker) (r : Nat), w.step (.accept r) = some w' → w.phase = .accepting ∧ w'.phase = .serving r) := by
  have hp := Pool.run_all evs _ p hr
  have h0 : Pool.all ⟨reqs, List.replicate n Worker.fresh⟩ = reqs := by
    simp [Pool.all, Worker.fresh, Worker.taken]
  rw [h0] at hp
  refine ⟨hp, hp.nodup_iff.mpr hd, fun w w' r hw => ?_⟩
  have := Worker.step_taken w w' (.accept r) hw
  exact ⟨this.1, this.2.1⟩

/-- **others_undisturbed**: no event takes away a live worker other than the one it is about — crashes, time-outs and
deletions concern one pid; start-ups, registrations and state reports concern none. -/
theorem others_undisturbed (c : Config) (h : c.init ≤ c.max) (evs : List Ev) (s s' : State)
    (hr : run .repaired c (init .repaired c) evs = some s) (e : Ev) (hs : step .repaired c s e = some s')
    (j : Nat) (hne : Ev.target e ≠ some j) (hj : j ∈ alivePids s) : j ∈ alivePids s' :=
  alive_step c s s' e (inv_reachable c h s ⟨evs, hr⟩) hs j hne hj

/-- **model_meets_spec**: what an observer sees of the model passes the executable spec oracle
(`Spec.PoolBounds`, the one the real master's observations are judged by): the bound in every reachable state, the
quiet clauses in every quiet one, and across every event the second clause of `stepOk` — no live worker other than the event's
target (the model's `Ev.target`) disappears; its first clause, that the target is gone afterwards, is not stated here. -/
theorem model_meets_spec (c : Config) (h : c.init ≤ c.max) (evs : List Ev) (s : State)
    (hr : run .repaired c (init .repaired c) evs = some s) :
    Spec.PoolBounds.maxOk c.max ⟨alivePids s, s.childs.length⟩ = true ∧
    (quiet s = true → Spec.PoolBounds.quietOk c.init ⟨alivePids s, s.childs.length⟩ = true) ∧
    (∀ (e : Ev) (s' : State), step .repaired c s e = some s' →
      ∀ j ∈ alivePids s, Ev.target e = some j ∨ j ∈ alivePids s') := by
  refine ⟨?_, ?_, ?_⟩
  · simpa [Spec.PoolBounds.maxOk, alivePids_length] using live_le_max c h evs s hr
  · intro hq
    obtain ⟨h1, h2, _⟩ := quiet_ge_init c h evs s hr hq
    simp only [Spec.PoolBounds.quietOk, alivePids_length, Bool.and_eq_true, decide_eq_true_eq]
    omega
  · intro e s' hs j hj
    by_cases ht : Ev.target e = some j
    · exact Or.inl ht
    · exact Or.inr (others_undisturbed c h evs s s' hr e hs j ht hj)

-- a reachable state that exercises every handler (start-up, BUSY with reservation, crash with refill, time-out)
example : (run .repaired ⟨2, 3, 10⟩ (init .repaired ⟨2, 3, 10⟩)
    [.spawnStart 0, .add 1, .spawnStart 0, .add 2, .update 1 .busy, .update 2 .busy, .spawnStart 1, .add 3,
     .exit 1, .del 1, .timeoutKill 2, .del 2, .spawnStart 2, .add 4]).map (fun s => (aliveCount s, quiet s)) =
    some (2, true) := by decide

-- `timeout_replaces` has instances: worker 2 is registered and running after start-up
example : (run .repaired ⟨2, 3, 10⟩ (init .repaired ⟨2, 3, 10⟩) [.spawnStart 0, .add 1, .spawnStart 0, .add 2]).map
    (fun s => decide ((⟨2, .idle, true⟩ : Child) ∈ s.childs)) = some true := by decide

-- `one_request_per_worker` has instances: two workers, three requests, one time-out
example : (Pool.run ⟨[7, 8, 9], List.replicate 2 Worker.fresh⟩
    [.accept 0, .accept 1, .finish 0, .timeout 1, .spawn, .accept 2]).map (·.queue) = some [] := by decide

end ZnVerif.Properties.C20
