/-
C02 — Branches, loops and 输出 follow the documented control flow.
Theorems about the model's mechanism (return slot polled after each statement, loops catching
signals), for every fuel, every program fragment, every VM state.

Part one (the first 13 theorems): the generic loops the evaluator is built from (`stmtsLoop`, `whileM`,
`untilM`, `untilIdxM`, `firstM`).  Part two ("The real constructs"): the statements themselves —
`evalStmt (n+1) (.while …)`, `(.iterate …)`, `(.branch …)`, `evalPureStmtBlock`, `evalExecBlock` — in the order
1 输出 (`return_propagates_block`, `return_stops_while`, `return_stops_iterate_*`, `return_through_branch`,
`return_stops_everything` and its converse `return_path_complete` / `return_iff_path` — resting on
`expression_keeps_caller_frame` —, `return_ends_body`), 4 如果, 2 结束循环/继续循环, 3 遍历, 5 value of a body,
6 the same facts on the spec semantics, 7 loop signals stay inside the body and the loop they belong to
(`loop_signal_never_leaves_body`, `loop_signal_is_lexical`, …).  Last section: the statement evaluator refines the
spec semantics on the control-flow fragment (`exec_refines_spec`, `block_refines_spec`, `program_refines_spec`,
`return_slot_iff_spec_returns`; why the fuel clause cannot be exact).  In sections 1–7 an implication is as a rule followed
by an `example` that runs a toy program (toy numbers `Int`, machines `vm0`/`vm1`, programs of `Proofs/ControlFlowToy.lean`) through its
hypotheses; where a program has more than one loop pass the hypotheses are checked by the kernel (`K`).  Of the last section
only `program_refines_spec` is run on programs (two, at the end): `exec_refines_spec`, `block_refines_spec`,
`return_slot_iff_spec_returns`, `body_refines_spec` have no instance of their own.
-/
import ZnVerif.Model.Interp
import ZnVerif.Proofs.ControlFlowToy
import ZnVerif.Proofs.ControlFlowSpec
import ZnVerif.Proofs.RetPathComplete
import ZnVerif.Proofs.LoopSignals
import ZnVerif.Proofs.StmtRefineProgram
import ZnVerif.Proofs.ToyNum
set_option linter.unusedSectionVars false

namespace ZnVerif.Properties.C02
open ZnVerif.Model

open ZnVerif.Proofs.ControlFlow
open ZnVerif.Proofs.EvalArms (whileStep_eq branchOther_eq)
open ZnVerif.Proofs.ControlFlow.Toy   -- toy numbers, toy programs, kernel reflection: used by the `example`s only

variable {ν : Type} [NumOps ν]

/-- `输出 e` stores the value in the return slot of the current frame and yields it. -/
theorem return_sets_slot (n ln : Nat) (e : Expr) (s s' : VM ν) (v : Addr) (fr : Frame) (rest : List Frame)
    (hs : s.stack = fr :: rest)
    (he : evalExpr n e { s with stack := { fr with line := ln, started := true } :: rest } = (.ok v, s'))
    (hst : s'.stack = { fr with line := ln, started := true } :: rest) :
    ∃ s'', evalStmt (n+1) (.ret ln e) s = (.ok v, s'') ∧
      s''.stack = { fr with line := ln, started := true, ret := some v } :: rest :=
  ⟨_, evalStmt_ret_ok (by rw [setLine_cons ln s fr rest hs]; exact he) hst, rfl⟩

example : ∃ s'', evalStmt 3 retX vm0 = (.ok 0, s'') ∧ s''.stack = [{ moduleId := 0, callType := 1, started := true, ret := some 0 }] :=
  return_sets_slot 2 0 (.str 0 "x") vm0 _ 0 { moduleId := 0, callType := 1 } [] rfl rfl rfl

/-- the statement loop of a block: once the return slot is set after a statement, *no later statement
is evaluated* — the result and state do not depend on `rest` at all. -/
theorem no_statement_after_return (evalOne : Stmt → M ν Addr) (last : Option Addr) (st : Stmt) (rest : List Stmt)
    (s s' : VM ν) (v rv : Addr) (fr : Frame) (frs : List Frame)
    (hnd : isDecl st = false)
    (h1 : evalOne st s = (.ok v, s')) (hst : s'.stack = fr :: frs) (hret : fr.ret = some rv) :
    stmtsLoop evalOne last (st :: rest) s = (.ok (some rv), s') :=
  stmtsLoop_hit hnd h1 (by simp [retSlot, hst, hret])

example : ∃ s', stmtsLoop (evalStmt 3) none [retX, .nil] vm0 = (.ok (some 0), s') :=
  ⟨_, no_statement_after_return (evalStmt 3) none retX [.nil] vm0 _ 0 0 { moduleId := 0, callType := 1, started := true, ret := some 0 } []
    rfl rfl rfl rfl⟩

/-- … and while the slot is empty the loop goes on with the next statement, remembering the last value
(a body without 输出 yields the value of its final statement). -/
theorem statement_loop_continues (evalOne : Stmt → M ν Addr) (last : Option Addr) (st : Stmt) (rest : List Stmt)
    (s s' : VM ν) (v : Addr) (fr : Frame) (frs : List Frame)
    (hnd : isDecl st = false)
    (h1 : evalOne st s = (.ok v, s')) (hst : s'.stack = fr :: frs) (hret : fr.ret = none) :
    stmtsLoop evalOne last (st :: rest) s = stmtsLoop evalOne (some v) rest s' :=
  stmtsLoop_next hnd h1 (by simp [retSlot, hst, hret])

example : ∃ s', stmtsLoop (evalStmt 3) none [.empty 0, .nil] vm0 = stmtsLoop (evalStmt 3) (some 0) [.nil] s' :=
  ⟨_, statement_loop_continues (evalStmt 3) none (.empty 0) [.nil] vm0 _ 0 { moduleId := 0, callType := 1, started := true } []
    rfl rfl rfl rfl⟩

theorem final_statement_value (evalOne : Stmt → M ν Addr) (last : Option Addr) (s : VM ν) :
    stmtsLoop evalOne last [] s = (.ok last, s) := rfl

/-- 每当: a pass whose step answers "stop" ends the loop with no further pass, whatever fuel is left. -/
theorem while_stops (k : Nat) (step : M ν Bool) (s s' : VM ν) (h : step s = (.ok false, s')) :
    whileM (k+1) step s = (.ok (), s') :=
  whileM_stop h

example : whileM 1 (pure false) vm0 = (.ok (), vm0) := while_stops 0 (pure false) vm0 vm0 rfl

/-- 每当 re-runs its step (condition test first) before every pass. -/
theorem while_retests (k : Nat) (step : M ν Bool) (s s' : VM ν) (h : step s = (.ok true, s')) :
    whileM (k+1) step s = whileM k step s' :=
  whileM_go h

example : whileM 2 (pure true) vm0 = whileM 1 (pure true) vm0 := while_retests 1 (pure true) vm0 vm0 rfl

/-- 遍历: elements are visited in order; a pass answering "stop" (结束循环, or 输出 in the body) ends the
loop — the remaining elements are not visited. -/
theorem iterate_stops {α} (f : α → M ν Bool) (x : α) (xs : List α) (s s' : VM ν) (h : f x s = (.ok true, s')) :
    untilM f (x :: xs) s = (.ok (), s') :=
  untilM_stop h

example : untilM (fun (_ : Nat) => (pure true : M Int Bool)) [1, 2] vm0 = (.ok (), vm0) :=
  iterate_stops _ 1 [2] vm0 vm0 rfl

theorem iterate_in_order {α} (f : α → M ν Bool) (x : α) (xs : List α) (s s' : VM ν) (h : f x s = (.ok false, s')) :
    untilM f (x :: xs) s = untilM f xs s' :=
  untilM_go h

example : untilM (fun (_ : Nat) => (pure false : M Int Bool)) [1, 2] vm0 =
    untilM (fun (_ : Nat) => (pure false : M Int Bool)) [2] vm0 :=
  iterate_in_order _ 1 [2] vm0 vm0 rfl

/-- 1-based indices: the i-th pass (0-based position i) receives index i. `untilIdxM` is started at 0 by
`遍历` and the pass adds 1 (see Interp.evalStmt). -/
theorem iterate_index_advances {α} (f : Nat → α → M ν Bool) (i : Nat) (x : α) (xs : List α) (s s' : VM ν)
    (h : f i x s = (.ok false, s')) :
    untilIdxM f i (x :: xs) s = untilIdxM f (i + 1) xs s' :=
  untilIdxM_go h

example : untilIdxM (fun _ (_ : Nat) => (pure false : M Int Bool)) 0 [1, 2] vm0 =
    untilIdxM (fun _ (_ : Nat) => (pure false : M Int Bool)) 1 [2] vm0 :=
  iterate_index_advances _ 0 1 [2] vm0 vm0 rfl

/-- 如果/再如/否则: the first alternative that answers is the only one that runs. -/
theorem branch_first_true {α β} (f : α → M ν (Option β)) (d : M ν β) (x : α) (xs : List α) (s s' : VM ν) (b : β)
    (h : f x s = (.ok (some b), s')) :
    firstM f d (x :: xs) s = (.ok b, s') :=
  ZnVerif.Proofs.Calls.firstM_cons_some h

example : firstM (fun (x : Nat) => (pure (some x) : M Int (Option Nat))) (pure 0) [1, 2] vm0 = (.ok 1, vm0) :=
  branch_first_true _ _ 1 [2] vm0 vm0 1 rfl

theorem branch_skips_false {α β} (f : α → M ν (Option β)) (d : M ν β) (x : α) (xs : List α) (s s' : VM ν)
    (h : f x s = (.ok none, s')) :
    firstM f d (x :: xs) s = firstM f d xs s' :=
  ZnVerif.Proofs.Calls.firstM_cons_none h

example : firstM (fun (_ : Nat) => (pure none : M Int (Option Nat))) (pure 0) [1, 2] vm0 =
    firstM (fun (_ : Nat) => (pure none : M Int (Option Nat))) (pure 0) [2] vm0 :=
  branch_skips_false _ _ 1 [2] vm0 vm0 rfl

theorem branch_else_last {α β} (f : α → M ν (Option β)) (d : M ν β) (s : VM ν) :
    firstM f d [] s = d s := rfl

/-- a non-boolean condition of 如果 is error 80 and no branch runs -/
theorem branch_non_bool_is_error (n ln : Nat) (c : Expr) (ifB elseB : Option (List Stmt))
    (others : List (Expr × Option (List Stmt))) (he : Bool) (s s' : VM ν) (a : Addr) (cell : Cell ν)
    (fr : Frame) (rest : List Frame) (hs : s.stack = fr :: rest)
    (hc : evalExpr n c { s with stack := { fr with line := ln, started := true } :: rest } = (.ok a, s'))
    (hcell : s'.heap[a]? = some cell) (hnb : ∀ b, cell ≠ .bool b) :
    evalStmt (n+1) (.branch ln c ifB others he elseB) s = (.err (.rt 80), s') := by
  rw [evalStmt_branch]
  exact condNode_non_bool (by rw [setLine_cons ln s fr rest hs]; exact hc) hcell hnb


example : ∃ s', evalStmt 3 (.branch 0 (.str 0 "x") (some [.nil]) [] false none) vm0 = (.err (.rt 80), s') :=
  ⟨_, branch_non_bool_is_error 2 0 (.str 0 "x") (some [.nil]) none [] false vm0 _ 0 (.str "x")
    { moduleId := 0, callType := 1 } [] rfl rfl rfl (by intro b h; cases h)⟩

/-! # The real constructs

From here on the theorems are about `evalStmt (n+1) (.while …)`, `(.iterate …)`, `(.branch …)`,
`evalPureStmtBlock`, `evalExecBlock` themselves — every fuel `n`, every body, every machine state.
Vocabulary (defined in `Proofs/EvalArms.lean` and `Proofs/ControlFlow.lean`, each tied to the model by an unfolding lemma proved there):
`setLine ln s` = `s` with the line of the top frame set and the frame marked started (first thing `evalStmt` does,
and first thing every turn of a 每当 loop does); `enterScope`/`leaveScope h`
= `BeginBoundScope` / the deferred `EndScope` (they touch `scopes` only); `retSlot s` = the return slot of the
top frame; `ReturnSet s` = that slot holds a value; `newNull s` = allocate 空 (the value of 如果/每当/遍历);
`Steps ev none pre s last s1` = the statements `pre` ran from `s`, each ended normally with the slot empty;
`passVerdict r s` = how a loop reads the end (`r`, `s`) of a pass: `some true` go on (normal end with the slot
empty, or 继续循环), `some false` stop (结束循环, or normal end with the slot set), `none` propagate;
`WhilePasses n ln c body k s s1` = k complete passes (each time the loop's line `ln` is made current again, then the
condition is evaluated first and is 真); `whileTurn n ln c body` = one turn of the loop as `evalStmt` runs it;
`ListPasses … i items s s1` / `DictPasses … target keys s s1` = complete passes for those elements in that order
(for a dictionary: a key that an earlier pass removed is skipped — no binding, no body, machine unchanged). -/


/-! ## 1. 输出 -/

/-- `return_propagates_block`.  In a block `pre ++ st :: post`: if the statements `pre` ran without 输出 and `st`
ends normally leaving the return slot set, the block yields the value in the slot; the final state is the one
after `st` with the block's scope ended — `post` is not evaluated (it does not occur on the right-hand side),
and the slot is still set, so the construct that contains the block sees it as well. -/
theorem return_propagates_block {n : Nat} {pre : List Stmt} (post : List Stmt) {st : Stmt} {s s1 s2 : VM ν}
    {last : Option Addr} {v rv : Addr}
    (hpre : Steps (evalStmt n) none pre (enterScope s) last s1)
    (hnd : isDecl st = false) (hst : evalStmt n st s1 = (.ok v, s2)) (hret : retSlot s2 = some rv) :
    evalPureStmtBlock (n+1) (some (pre ++ st :: post)) s = (.ok (some rv), leaveScope (scopeHandle s) s2) ∧
    ReturnSet (leaveScope (scopeHandle s) s2) :=
  ⟨block_after hpre (stmtsLoop_hit hnd hst hret), (returnSet_iff _).2 ⟨rv, by rw [retSlot_leaveScope]; exact hret⟩⟩

example : ∃ rv s', evalPureStmtBlock 4 (some ([.empty 0] ++ retX :: [.nil])) vm0 = (.ok (some rv), s') ∧ ReturnSet s' :=
  ⟨_, _, return_propagates_block [.nil]
    (.stmt rfl (run_ok (evalStmt 3 _) _ K) K (.nil _ _)) rfl (run_ok (evalStmt 3 _) _ K) (slot_set _ K)⟩

/-- a block none of whose statements leaves the slot set runs all of them and yields the value of the last one -/
theorem block_runs_to_end {n : Nat} {stmts : List Stmt} {s s1 : VM ν} {last : Option Addr}
    (h : Steps (evalStmt n) none stmts (enterScope s) last s1) :
    evalPureStmtBlock (n+1) (some stmts) s = (.ok last, leaveScope (scopeHandle s) s1) := by
  rw [← List.append_nil stmts]; exact block_after h rfl

example : ∃ last s', evalPureStmtBlock 4 (some [.empty 0, .expr (.str 0 "x")]) vm0 = (.ok last, s') :=
  ⟨_, _, block_runs_to_end
    (.stmt rfl (run_ok (evalStmt 3 _) _ K) K (.stmt rfl (run_ok (evalStmt 3 _) _ K) K (.nil _ _)))⟩

/-- 结束循环 / 继续循环 (and every error) raised by a statement of a block leave the block at once, as that same
signal: the block does not catch it, the rest of the block is not evaluated. -/
theorem signal_propagates_block (n : Nat) (pre post : List Stmt) (st : Stmt) (s s1 s2 : VM ν)
    (last : Option Addr) (e : Err)
    (hpre : Steps (evalStmt n) none pre (enterScope s) last s1)
    (hnd : isDecl st = false) (hst : evalStmt n st s1 = (.err e, s2)) :
    evalPureStmtBlock (n+1) (some (pre ++ st :: post)) s = (.err e, leaveScope (scopeHandle s) s2) :=
  block_after hpre (stmtsLoop_fail hnd hst)

example : ∃ s', evalPureStmtBlock 4 (some ([.empty 0] ++ .break 0 :: [.nil])) vm0 = (.err .sigBreak, s') :=
  ⟨_, signal_propagates_block 3 [.empty 0] [.nil] (.break 0) vm0 _ _ _ _
    (.stmt rfl (run_ok (evalStmt 3 _) _ K) K (.nil _ _)) rfl (run_err (evalStmt 3 _) _ _ K)⟩

/-- `return_stops_while`.  每当: after k complete passes, if the condition is 真 once more and the body ends
normally leaving the return slot set, the loop is over: the statement is `ok` (value 空), its final state is the
state after *that* pass (plus the 空 cell) — no further condition test, no further pass — and the slot is still set. -/
theorem return_stops_while (n ln k : Nat) (c : Expr) (body : Option (List Stmt)) (s s1 s2 s3 : VM ν)
    (a rv : Addr) (r : Option Addr)
    (hp : WhilePasses n ln c body k (setLine ln s) s1) (hk : k < n)
    (hc : evalExpr n c (setLine ln s1) = (.ok a, s2)) (ht : s2.heap[a]? = some (.bool true))
    (hb : evalPureStmtBlock n body s2 = (.ok r, s3)) (hret : retSlot s3 = some rv) :
    evalStmt (n+1) (.while ln c body) s = newNull s3 ∧ retSlot (newNull s3).2 = some rv := by
  refine ⟨while_stops_after hp hk (whileStep_pass hc ht hb ?_), hret⟩
  simp [passVerdict, hret]

/-- the 输出 is executed in the *second* pass (k = 1): `每当 真： 如果 d： 输出 "x"。 d = t` with d = 假, t = 真 -/
example : ∃ s3 rv, evalStmt 7 (.while 0 cTrue (some retSecondTime)) vm1 = newNull s3 ∧ retSlot (newNull s3).2 = some rv :=
  ⟨_, _, return_stops_while 6 0 1 cTrue (some retSecondTime) vm1 _ _ _ _ _ _
    (.succ (run_ok (evalExpr 6 cTrue) _ K) (cell_bool _ true K) (run_ok (evalPureStmtBlock 6 _) _ K) K (.zero _))
    (by decide) (run_ok (evalExpr 6 cTrue) _ K) (cell_bool _ true K)
    (run_ok (evalPureStmtBlock 6 _) _ K) (slot_set _ K)⟩

/-- `return_stops_iterate` (list).  遍历 over the list `pre ++ x :: post`: after complete passes for `pre`, if the
pass for `x` ends normally leaving the slot set, the loop is over; `post` is not visited. -/
theorem return_stops_iterate_list (n ln : Nat) (e : Expr) (names : List Ident) (body : Option (List Stmt))
    (s s1 s2 s3 s4 s5 : VM ν) (target x rv : Addr) (r : Option Addr) (slots : Option String × Option String)
    (pre post : List Addr)
    (hT : evalExpr n e (enterScope (setLine ln s)) = (.ok target, s1))
    (hS : iterSlots names s1 = (.ok slots, s2))
    (hcell : s2.heap[target]? = some (.arr (pre ++ x :: post)))
    (hp : ListPasses n names.length slots body 0 pre s2 s3)
    (hbind : iterBind n names.length slots s3.heap.size x
      (pushCell (.num (NumOps.ofInt ((pre.length : Int) + 1))) s3) = (.ok (), s4))
    (hb : evalPureStmtBlock n body s4 = (.ok r, s5)) (hret : retSlot s5 = some rv) :
    evalStmt (n+1) (.iterate ln e names body) s = newNull (leaveScope (scopeHandle (setLine ln s)) s5) ∧
    retSlot (newNull (leaveScope (scopeHandle (setLine ln s)) s5)).2 = some rv :=
  ⟨iterate_list_stops hT hS hcell hp hbind hb (by simp [passVerdict, hret]),
    by rw [retSlot_newNull, retSlot_leaveScope]; exact hret⟩

/-- `遍历 ["a","b","c"] 以 v： 如果 v == "b"： 输出 "x"`: one complete pass, the 输出 in the second, "c" not visited -/
example : ∃ s5 rv, evalStmt 7 (.iterate 0 abc [vId] (some [retIfB])) vm0 = newNull s5 ∧ retSlot (newNull s5).2 = some rv :=
  ⟨_, _, return_stops_iterate_list 6 0 abc [vId] (some [retIfB]) vm0 _ _ _ _ _ _ _ _ _ _ [0] [2]
    (run_ok (evalExpr 6 abc) _ K) (run_ok (iterSlots [vId]) _ K) (cell_arr _ [0, 1, 2] K)
    (.cons (run_unit (iterBind 6 1 _ _ _) _ K) (run_ok (evalPureStmtBlock 6 _) _ K) K (.nil _ _))
    (run_unit (iterBind 6 1 _ _ _) _ K) (run_ok (evalPureStmtBlock 6 _) _ K) (slot_set _ K)⟩

/-- `return_stops_iterate` (dictionary): the same for the key order `pre ++ k :: post`. -/
theorem return_stops_iterate_dict (n ln : Nat) (e : Expr) (names : List Ident) (body : Option (List Stmt))
    (s s1 s2 s3 s4 s5 : VM ν) (target v rv : Addr) (r : Option Addr) (slots : Option String × Option String)
    (vals vals' : List (String × Addr)) (ord' pre post : List String) (k : String)
    (hT : evalExpr n e (enterScope (setLine ln s)) = (.ok target, s1))
    (hS : iterSlots names s1 = (.ok slots, s2))
    (hcell : s2.heap[target]? = some (.hm vals (pre ++ k :: post)))
    (hp : DictPasses n names.length slots body target pre s2 s3)
    (hcell' : s3.heap[target]? = some (.hm vals' ord')) (hl : lookup k vals' = some v)
    (hbind : iterBind n names.length slots s3.heap.size v (pushCell (.str k) s3) = (.ok (), s4))
    (hb : evalPureStmtBlock n body s4 = (.ok r, s5)) (hret : retSlot s5 = some rv) :
    evalStmt (n+1) (.iterate ln e names body) s = newNull (leaveScope (scopeHandle (setLine ln s)) s5) ∧
    retSlot (newNull (leaveScope (scopeHandle (setLine ln s)) s5)).2 = some rv :=
  ⟨iterate_dict_stops hT hS hcell hp hcell' hl hbind hb (by simp [passVerdict, hret]),
    by rw [retSlot_newNull, retSlot_leaveScope]; exact hret⟩

/-- `遍历 [p="a", q="b", r="c"] 以 v： 如果 v == "b"： 输出 "x"`: stops at key q, r not visited -/
example : ∃ s5 rv, evalStmt 7 (.iterate 0 pqr [vId] (some [retIfB])) vm0 = newNull s5 ∧ retSlot (newNull s5).2 = some rv :=
  ⟨_, _, return_stops_iterate_dict 6 0 pqr [vId] (some [retIfB]) vm0 _ _ _ _ _ _ 1 _ _ _ _ _ _ ["p"] ["r"] "q"
    (run_ok (evalExpr 6 pqr) _ K) (run_ok (iterSlots [vId]) _ K)
    (cell_hm _ [("p", 0), ("q", 1), ("r", 2)] ["p", "q", "r"] K)
    (.cons (cell_hm _ [("p", 0), ("q", 1), ("r", 2)] ["p", "q", "r"] K) (v := 0) K
      (run_unit (iterBind 6 1 _ _ _) _ K) (run_ok (evalPureStmtBlock 6 _) _ K) K (.nil _))
    (cell_hm _ [("p", 0), ("q", 1), ("r", 2)] ["p", "q", "r"] K) K
    (run_unit (iterBind 6 1 _ _ _) _ K) (run_ok (evalPureStmtBlock 6 _) _ K) (slot_set _ K)⟩

/-! ## 4. 如果 / 再如 / 否则 (placed here because 输出 through a branch needs it) -/

/-- the 如果 condition is 真: exactly the 如果 block is run — whatever it does —, then the value is 空.  No 再如
condition is evaluated, no other block is run (`others`, `elseB` do not occur on the right). -/
theorem branch_runs_if_block {n ln : Nat} {c : Expr} {ifB elseB : Option (List Stmt)}
    {others : List (Expr × Option (List Stmt))} {he : Bool} {s s1 : VM ν} {a : Addr}
    (hc : evalExpr n c (setLine ln s) = (.ok a, s1)) (ht : s1.heap[a]? = some (.bool true)) :
    evalStmt (n+1) (.branch ln c ifB others he elseB) s =
      ((do let _ ← evalPureStmtBlock n ifB; newNull) : M ν Addr) s1 := by
  rw [evalStmt_branch, condNode_true hc ht]

example : ∃ s1, evalStmt 5 (.branch 0 cTrue (some [retX]) [(.nil, none)] true none) vm0 =
    ((do let _ ← evalPureStmtBlock 4 (some [retX]); newNull) : M Int Addr) s1 :=
  ⟨_, branch_runs_if_block (run_ok (evalExpr 4 cTrue) _ K) (cell_bool _ true K)⟩

/-- the 如果 condition and the conditions of the alternatives `pre` are 假 (evaluated in that order), the next
one is 真: exactly its block is run, the later alternatives `post` and 否则 are not looked at. -/
theorem branch_runs_first_true_other {n ln : Nat} {c oc : Expr} {ifB elseB ob : Option (List Stmt)}
    {pre post : List (Expr × Option (List Stmt))} {he : Bool} {s s1 s2 s3 : VM ν} {a b : Addr}
    (hc : evalExpr n c (setLine ln s) = (.ok a, s1)) (hf : s1.heap[a]? = some (.bool false))
    (hpre : CondsFalse n pre s1 s2)
    (hoc : evalExpr n oc s2 = (.ok b, s3)) (hot : s3.heap[b]? = some (.bool true)) :
    evalStmt (n+1) (.branch ln c ifB (pre ++ (oc, ob) :: post) he elseB) s =
      ((do let _ ← evalPureStmtBlock n ob; newNull) : M ν Addr) s3 := by
  rw [branch_after hc hf hpre rfl, bind_eq_of_eq (firstM_branchOther_true hoc hot _ post)]
  simp only [bind_assoc, pure_bind]

/-- `如果 假： ‹nil› 再如 假： ‹nil› 再如 真： 输出 "x" 再如 ‹nil expression›： …` -/
example : ∃ s3, evalStmt 5 (.branch 0 cFalse (some [.nil]) ([(cFalse, some [.nil])] ++ (cTrue, some [retX]) :: [(.nil, none)])
      true (some [.nil])) vm0 = ((do let _ ← evalPureStmtBlock 4 (some [retX]); newNull) : M Int Addr) s3 :=
  ⟨_, branch_runs_first_true_other (pre := [(cFalse, some [.nil])])
    (run_ok (evalExpr 4 cFalse) _ K) (cell_bool _ false K)
    (.cons (run_ok (evalExpr 4 cFalse) _ K) (cell_bool _ false K) (.nil _))
    (run_ok (evalExpr 4 cTrue) _ K) (cell_bool _ true K)⟩

/-- no condition is 真 and there is a 否则: exactly the 否则 block is run -/
theorem branch_runs_else {n ln : Nat} {c : Expr} {ifB elseB : Option (List Stmt)}
    {others : List (Expr × Option (List Stmt))} {s s1 s2 : VM ν} {a : Addr}
    (hc : evalExpr n c (setLine ln s) = (.ok a, s1)) (hf : s1.heap[a]? = some (.bool false))
    (hall : CondsFalse n others s1 s2) :
    evalStmt (n+1) (.branch ln c ifB others true elseB) s =
      ((do let _ ← evalPureStmtBlock n elseB; newNull) : M ν Addr) s2 := by
  rw [branch_after hc hf hall (List.append_nil _).symm]
  simp [firstM, branchElse]

example : ∃ s2, evalStmt 5 (.branch 0 cFalse (some [.nil]) [(cFalse, some [.nil])] true (some [retX])) vm0 =
    ((do let _ ← evalPureStmtBlock 4 (some [retX]); newNull) : M Int Addr) s2 :=
  ⟨_, branch_runs_else
    (run_ok (evalExpr 4 cFalse) _ K) (cell_bool _ false K)
    (.cons (run_ok (evalExpr 4 cFalse) _ K) (cell_bool _ false K) (.nil _))⟩

/-- no condition is 真 and there is no 否则: nothing is run; the value is 空 -/
theorem branch_runs_nothing {n ln : Nat} {c : Expr} {ifB elseB : Option (List Stmt)}
    {others : List (Expr × Option (List Stmt))} {s s1 s2 : VM ν} {a : Addr}
    (hc : evalExpr n c (setLine ln s) = (.ok a, s1)) (hf : s1.heap[a]? = some (.bool false))
    (hall : CondsFalse n others s1 s2) :
    evalStmt (n+1) (.branch ln c ifB others false elseB) s = newNull s2 := by
  rw [branch_after hc hf hall (List.append_nil _).symm]
  rfl

example : ∃ s2, evalStmt 5 (.branch 0 cFalse (some [.nil]) [(cFalse, some [.nil])] false (some [.nil])) vm0 = newNull s2 :=
  ⟨_, branch_runs_nothing
    (run_ok (evalExpr 4 cFalse) _ K) (cell_bool _ false K)
    (.cons (run_ok (evalExpr 4 cFalse) _ K) (cell_bool _ false K) (.nil _))⟩

/-- a non-boolean 再如 condition is error 80; no block is run -/
theorem branch_other_non_bool_is_error (n ln : Nat) (c oc : Expr) (ifB elseB ob : Option (List Stmt))
    (pre post : List (Expr × Option (List Stmt))) (he : Bool) (s s1 s2 s3 : VM ν) (a b : Addr) (cell : Cell ν)
    (hc : evalExpr n c (setLine ln s) = (.ok a, s1)) (hf : s1.heap[a]? = some (.bool false))
    (hpre : CondsFalse n pre s1 s2)
    (hoc : evalExpr n oc s2 = (.ok b, s3)) (hcell : s3.heap[b]? = some cell) (hnb : ∀ x, cell ≠ .bool x) :
    evalStmt (n+1) (.branch ln c ifB (pre ++ (oc, ob) :: post) he elseB) s = (.err (.rt 80), s3) := by
  rw [branch_after hc hf hpre rfl]
  simp only [firstM]
  have h2 : branchOther n (oc, ob) s2 = (.err (.rt 80), s3) := by
    rw [branchOther_eq]; exact condNode_non_bool hoc hcell hnb
  rw [bind_err (bind_err h2)]

example : ∃ s3, evalStmt 5 (.branch 0 cFalse (some [.nil]) ([] ++ (.str 0 "x", some [.nil]) :: []) false none) vm0 =
    (.err (.rt 80), s3) :=
  ⟨_, branch_other_non_bool_is_error 4 0 cFalse (.str 0 "x") _ _ _ [] [] _ vm0 _ _ _ _ _ (.str "x")
    (run_ok (evalExpr 4 cFalse) _ K) (cell_bool _ false K) (.nil _)
    (run_ok (evalExpr 4 (.str 0 "x")) _ K) (cell_str _ "x" K) (by intro x h; cases h)⟩

/-- `branch_first_true` on the statement: the four cases together. -/
theorem branch_first_true_stmt (n ln : Nat) (c : Expr) (ifB elseB : Option (List Stmt))
    (others : List (Expr × Option (List Stmt))) (he : Bool) (s s1 : VM ν) (a : Addr) (bv : Bool)
    (hc : evalExpr n c (setLine ln s) = (.ok a, s1)) (hbv : s1.heap[a]? = some (.bool bv)) :
    (bv = true → evalStmt (n+1) (.branch ln c ifB others he elseB) s =
        ((do let _ ← evalPureStmtBlock n ifB; newNull) : M ν Addr) s1) ∧
    (bv = false → ∀ pre oc ob post s2 s3 b, others = pre ++ (oc, ob) :: post → CondsFalse n pre s1 s2 →
        evalExpr n oc s2 = (.ok b, s3) → s3.heap[b]? = some (.bool true) →
        evalStmt (n+1) (.branch ln c ifB others he elseB) s =
          ((do let _ ← evalPureStmtBlock n ob; newNull) : M ν Addr) s3) ∧
    (bv = false → ∀ s2, CondsFalse n others s1 s2 →
        evalStmt (n+1) (.branch ln c ifB others he elseB) s =
          if he then ((do let _ ← evalPureStmtBlock n elseB; newNull) : M ν Addr) s2 else newNull s2) := by
  refine ⟨?_, ?_, ?_⟩
  · rintro rfl; exact branch_runs_if_block hc hbv
  · rintro rfl pre oc ob post s2 s3 b rfl hpre hoc hot
    exact branch_runs_first_true_other hc hbv hpre hoc hot
  · rintro rfl s2 hall
    cases he
    · simpa using branch_runs_nothing (elseB := elseB) hc hbv hall
    · simpa using branch_runs_else (ifB := ifB) hc hbv hall

example : ∃ s1, evalStmt 5 (.branch 0 cTrue (some [retX]) [] false none) vm0 =
    ((do let _ ← evalPureStmtBlock 4 (some [retX]); newNull) : M Int Addr) s1 :=
  ⟨_, (branch_first_true_stmt 4 0 cTrue _ none [] false vm0 _ _ true
    (run_ok (evalExpr 4 cTrue) _ K) (cell_bool _ true K)).1 rfl⟩

/-- `return_through_branch`.  If the block that a 如果 statement runs (the state `sb` is where it starts, see the
three theorems above) ends normally leaving the slot set, the 如果 statement is `ok` and the slot is still set:
the enclosing block stops (`return_propagates_block`), the enclosing loop stops (`return_stops_while` …). -/
theorem return_through_branch (n : Nat) (blk : Option (List Stmt)) (sb s2 : VM ν) (r : Option Addr) (rv : Addr)
    (hb : evalPureStmtBlock n blk sb = (.ok r, s2)) (hret : retSlot s2 = some rv) :
    ((do let _ ← evalPureStmtBlock n blk; newNull) : M ν Addr) sb = newNull s2 ∧
    retSlot (newNull s2).2 = some rv :=
  ⟨bind_ok hb, hret⟩

example : ∃ s2 rv, ((do let _ ← evalPureStmtBlock 4 (some [retX, .nil]); newNull) : M Int Addr) vm0 = newNull s2 ∧
    retSlot (newNull s2).2 = some rv :=
  ⟨_, _, return_through_branch 4 (some [retX, .nil]) vm0 _ _ _ (run_ok (evalPureStmtBlock 4 _) _ K) (slot_set _ K)⟩

/-- 结束循环 / 继续循环 / an error in the block that a 如果 statement runs is the outcome of the 如果 statement -/
theorem signal_through_branch (n : Nat) (blk : Option (List Stmt)) (sb s2 : VM ν) (e : Err)
    (hb : evalPureStmtBlock n blk sb = (.err e, s2)) :
    ((do let _ ← evalPureStmtBlock n blk; newNull) : M ν Addr) sb = (.err e, s2) :=
  bind_err hb

example : ∃ s2, ((do let _ ← evalPureStmtBlock 4 (some [.break 0, .nil]); newNull) : M Int Addr) vm0 = (.err .sigBreak, s2) :=
  ⟨_, signal_through_branch 4 (some [.break 0, .nil]) vm0 _ _ (run_err (evalPureStmtBlock 4 _) _ _ K)⟩

/-! ## 2. 结束循环 / 继续循环 act on the innermost loop -/

/-- `break_innermost_only` (每当).  If in some pass the body of *this* loop ends with the 结束循环 signal, this loop
catches it: the statement is `ok` with value 空 in the state after that pass (no further test, no further pass).
Being `ok`, the statement is to its enclosing block like any finished statement (next theorem). -/
theorem break_innermost_only_while (n ln k : Nat) (c : Expr) (body : Option (List Stmt)) (s s1 s2 s3 : VM ν) (a : Addr)
    (hp : WhilePasses n ln c body k (setLine ln s) s1) (hk : k < n)
    (hc : evalExpr n c (setLine ln s1) = (.ok a, s2)) (ht : s2.heap[a]? = some (.bool true))
    (hb : evalPureStmtBlock n body s2 = (.err .sigBreak, s3)) :
    evalStmt (n+1) (.while ln c body) s = newNull s3 :=
  while_stops_after hp hk (whileStep_pass hc ht hb rfl)

/-- `每当 真： 如果 d： 结束循环。 d = t`: one complete pass, 结束循环 in the second -/
example : ∃ s3, evalStmt 7 (.while 0 cTrue (some breakSecondTime)) vm1 = newNull s3 :=
  ⟨_, break_innermost_only_while 6 0 1 cTrue (some breakSecondTime) vm1 _ _ _ _
    (.succ (run_ok (evalExpr 6 cTrue) _ K) (cell_bool _ true K) (run_ok (evalPureStmtBlock 6 _) _ K) K (.zero _))
    (by decide) (run_ok (evalExpr 6 cTrue) _ K) (cell_bool _ true K) (run_err (evalPureStmtBlock 6 _) _ _ K)⟩

/-- … so the block that contains the loop (the body of an outer loop, for instance) goes on with the statement
after the loop: the signal does not reach any outer loop. -/
theorem break_resumes_enclosing_block (n ln k : Nat) (c : Expr) (body : Option (List Stmt)) (s s1 s2 s3 : VM ν) (a : Addr)
    (last : Option Addr) (rest : List Stmt)
    (hp : WhilePasses n ln c body k (setLine ln s) s1) (hk : k < n)
    (hc : evalExpr n c (setLine ln s1) = (.ok a, s2)) (ht : s2.heap[a]? = some (.bool true))
    (hb : evalPureStmtBlock n body s2 = (.err .sigBreak, s3)) (hempty : retSlot s3 = none) :
    stmtsLoop (evalStmt (n+1)) last (.while ln c body :: rest) s =
      stmtsLoop (evalStmt (n+1)) (some s3.heap.size) rest (newNull s3).2 :=
  stmtsLoop_next rfl (break_innermost_only_while n ln k c body s s1 s2 s3 a hp hk hc ht hb) hempty

example : ∃ a s', stmtsLoop (evalStmt 7) none (.while 0 cTrue (some breakSecondTime) :: [.empty 0]) vm1 =
    stmtsLoop (evalStmt 7) (some a) [.empty 0] s' :=
  ⟨_, _, break_resumes_enclosing_block 6 0 1 cTrue (some breakSecondTime) vm1 _ _ _ _ none [.empty 0]
    (.succ (run_ok (evalExpr 6 cTrue) _ K) (cell_bool _ true K) (run_ok (evalPureStmtBlock 6 _) _ K) K (.zero _))
    (by decide) (run_ok (evalExpr 6 cTrue) _ K) (cell_bool _ true K) (run_err (evalPureStmtBlock 6 _) _ _ K) K⟩

/-- `continue_innermost_only` (每当).  If the body ends with the 继续循环 signal, this loop catches it and the pass
counts as complete: the loop goes on with its next turn, which starts by evaluating the condition again
(`whileStep` = test, then pass).  Hence k passes become k+1 passes, and every statement about "after k+1 passes"
(`while_ends_when_condition_false`, `return_stops_while`, …) applies. -/
theorem continue_innermost_only_while (n ln k : Nat) (c : Expr) (body : Option (List Stmt)) (s0 s1 s2 s3 : VM ν) (a : Addr)
    (hp : WhilePasses n ln c body k s0 s1)
    (hc : evalExpr n c (setLine ln s1) = (.ok a, s2)) (ht : s2.heap[a]? = some (.bool true))
    (hb : evalPureStmtBlock n body s2 = (.err .sigContinue, s3)) :
    WhilePasses n ln c body (k+1) s0 s3 ∧
    ∀ j, whileM (j+1) (whileTurn n ln c body) s1 = whileM j (whileTurn n ln c body) s3 :=
  ⟨hp.snoc hc ht hb rfl, fun j => whileM_go (by rw [whileTurn_eq]; exact whileStep_pass hc ht hb rfl)⟩

example : ∃ s3, WhilePasses 6 0 cTrue (some [.continue 0, .nil]) 1 vm0 s3 :=
  ⟨_, (continue_innermost_only_while 6 0 0 cTrue (some [.continue 0, .nil]) vm0 _ _ _ _ (.zero _)
    (run_ok (evalExpr 6 cTrue) _ K) (cell_bool _ true K) (run_err (evalPureStmtBlock 6 _) _ _ K)).1⟩

/-- `while_retests` on the statement: the loop ends (value 空) exactly when the condition, evaluated again after
k complete passes, is 假 — in the state in which that test left the machine. -/
theorem while_ends_when_condition_false (n ln k : Nat) (c : Expr) (body : Option (List Stmt)) (s s1 s2 : VM ν) (a : Addr)
    (hp : WhilePasses n ln c body k (setLine ln s) s1) (hk : k < n)
    (hc : evalExpr n c (setLine ln s1) = (.ok a, s2)) (hf : s2.heap[a]? = some (.bool false)) :
    evalStmt (n+1) (.while ln c body) s = newNull s2 :=
  while_stops_after hp hk (by rw [whileStep_eq]; exact condNode_false hc hf)

/-- `每当 d /= t： d = t`: one pass, then the condition is tested again and is 假 -/
example : ∃ s2, evalStmt 7 (.while 0 dNeT (some [setD])) vm1 = newNull s2 :=
  ⟨_, while_ends_when_condition_false 6 0 1 dNeT (some [setD]) vm1 _ _ _
    (.succ (run_ok (evalExpr 6 dNeT) _ K) (cell_bool _ true K) (run_ok (evalPureStmtBlock 6 _) _ K) K (.zero _))
    (by decide) (run_ok (evalExpr 6 dNeT) _ K) (cell_bool _ false K)⟩

/-- … and a non-boolean condition, at whichever test, is error 80 (the body is not run for it). -/
theorem while_non_bool_is_error (n ln k : Nat) (c : Expr) (body : Option (List Stmt)) (s s1 s2 : VM ν) (a : Addr)
    (cell : Cell ν)
    (hp : WhilePasses n ln c body k (setLine ln s) s1) (hk : k < n)
    (hc : evalExpr n c (setLine ln s1) = (.ok a, s2)) (hcell : s2.heap[a]? = some cell) (hnb : ∀ b, cell ≠ .bool b) :
    evalStmt (n+1) (.while ln c body) s = (.err (.rt 80), s2) :=
  while_fails_after hp hk (by rw [whileStep_eq]; exact condNode_non_bool hc hcell hnb)

example : ∃ s2, evalStmt 7 (.while 0 (.str 0 "x") (some [.nil])) vm0 = (.err (.rt 80), s2) :=
  ⟨_, while_non_bool_is_error 6 0 0 (.str 0 "x") (some [.nil]) vm0 _ _ _ (.str "x") (.zero _) (by decide)
    (run_ok (evalExpr 6 _) _ K) (cell_str _ "x" K) (by intro b h; cases h)⟩

/-- the two signals are all a loop catches: any other error of the body (a runtime error, an exception signal)
ends the loop and is the outcome of the 每当 statement -/
theorem while_passes_other_errors (n ln k : Nat) (c : Expr) (body : Option (List Stmt)) (s s1 s2 s3 : VM ν) (a : Addr)
    (e : Err)
    (hp : WhilePasses n ln c body k (setLine ln s) s1) (hk : k < n)
    (hc : evalExpr n c (setLine ln s1) = (.ok a, s2)) (ht : s2.heap[a]? = some (.bool true))
    (hb : evalPureStmtBlock n body s2 = (.err e, s3)) (h1 : e ≠ .sigBreak) (h2 : e ≠ .sigContinue) :
    evalStmt (n+1) (.while ln c body) s = (.err e, s3) := by
  refine while_fails_after hp hk ?_
  rw [whileStep_eq, condNode_true hc ht]
  simp only [Model.tryCatch, hb]
  exact passHandler_err h1 h2

/-- 每当 真： ‹nil expression as a statement› — error 80 from the body leaves the loop -/
example : ∃ s3, evalStmt 7 (.while 0 cTrue (some [.expr .nil, .nil])) vm0 = (.err (.rt 80), s3) :=
  ⟨_, while_passes_other_errors 6 0 0 cTrue _ vm0 _ _ _ _ _ (.zero _) (by decide)
    (run_ok (evalExpr 6 cTrue) _ K) (cell_bool _ true K) (run_err (evalPureStmtBlock 6 _) _ _ K)
    (by decide) (by decide)⟩

/-- `break_innermost_only` (遍历 over a list): the pass for `x` ends with 结束循环: the loop is over, `ok`, 空;
`post` is not visited. -/
theorem break_innermost_only_iterate_list (n ln : Nat) (e : Expr) (names : List Ident) (body : Option (List Stmt))
    (s s1 s2 s3 s4 s5 : VM ν) (target x : Addr) (slots : Option String × Option String) (pre post : List Addr)
    (hT : evalExpr n e (enterScope (setLine ln s)) = (.ok target, s1))
    (hS : iterSlots names s1 = (.ok slots, s2))
    (hcell : s2.heap[target]? = some (.arr (pre ++ x :: post)))
    (hp : ListPasses n names.length slots body 0 pre s2 s3)
    (hbind : iterBind n names.length slots s3.heap.size x
      (pushCell (.num (NumOps.ofInt ((pre.length : Int) + 1))) s3) = (.ok (), s4))
    (hb : evalPureStmtBlock n body s4 = (.err .sigBreak, s5)) :
    evalStmt (n+1) (.iterate ln e names body) s = newNull (leaveScope (scopeHandle (setLine ln s)) s5) :=
  iterate_list_stops hT hS hcell hp hbind hb rfl

/-- `遍历 ["a","b","c"] 以 v： 如果 v == "b"： 结束循环` -/
example : ∃ s5, evalStmt 7 (.iterate 0 abc [vId] (some [breakIfB])) vm0 = newNull s5 :=
  ⟨_, break_innermost_only_iterate_list 6 0 abc [vId] (some [breakIfB]) vm0 _ _ _ _ _ _ _ _ [0] [2]
    (run_ok (evalExpr 6 abc) _ K) (run_ok (iterSlots [vId]) _ K) (cell_arr _ [0, 1, 2] K)
    (.cons (run_unit (iterBind 6 1 _ _ _) _ K) (run_ok (evalPureStmtBlock 6 _) _ K) K (.nil _ _))
    (run_unit (iterBind 6 1 _ _ _) _ K) (run_err (evalPureStmtBlock 6 _) _ _ K)⟩

/-- `break_innermost_only` (遍历 over a dictionary) -/
theorem break_innermost_only_iterate_dict (n ln : Nat) (e : Expr) (names : List Ident) (body : Option (List Stmt))
    (s s1 s2 s3 s4 s5 : VM ν) (target v : Addr) (slots : Option String × Option String)
    (vals vals' : List (String × Addr)) (ord' pre post : List String) (k : String)
    (hT : evalExpr n e (enterScope (setLine ln s)) = (.ok target, s1))
    (hS : iterSlots names s1 = (.ok slots, s2))
    (hcell : s2.heap[target]? = some (.hm vals (pre ++ k :: post)))
    (hp : DictPasses n names.length slots body target pre s2 s3)
    (hcell' : s3.heap[target]? = some (.hm vals' ord')) (hl : lookup k vals' = some v)
    (hbind : iterBind n names.length slots s3.heap.size v (pushCell (.str k) s3) = (.ok (), s4))
    (hb : evalPureStmtBlock n body s4 = (.err .sigBreak, s5)) :
    evalStmt (n+1) (.iterate ln e names body) s = newNull (leaveScope (scopeHandle (setLine ln s)) s5) :=
  iterate_dict_stops hT hS hcell hp hcell' hl hbind hb rfl

example : ∃ s5, evalStmt 7 (.iterate 0 pqr [vId] (some [breakIfB])) vm0 = newNull s5 :=
  ⟨_, break_innermost_only_iterate_dict 6 0 pqr [vId] (some [breakIfB]) vm0 _ _ _ _ _ _ 1 _ _ _ _ ["p"] ["r"] "q"
    (run_ok (evalExpr 6 pqr) _ K) (run_ok (iterSlots [vId]) _ K)
    (cell_hm _ [("p", 0), ("q", 1), ("r", 2)] ["p", "q", "r"] K)
    (.cons (cell_hm _ [("p", 0), ("q", 1), ("r", 2)] ["p", "q", "r"] K) (v := 0) K
      (run_unit (iterBind 6 1 _ _ _) _ K) (run_ok (evalPureStmtBlock 6 _) _ K) K (.nil _))
    (cell_hm _ [("p", 0), ("q", 1), ("r", 2)] ["p", "q", "r"] K) K
    (run_unit (iterBind 6 1 _ _ _) _ K) (run_err (evalPureStmtBlock 6 _) _ _ K)⟩

/-- `continue_innermost_only` (遍历): a pass that ends with 继续循环 is a complete pass; the loop goes on with the
next element and the next index. -/
theorem continue_innermost_only_iterate (n nameLen i : Nat) (slots : Option String × Option String)
    (body : Option (List Stmt)) (x : Addr) (xs : List Addr) (s s1 s2 : VM ν)
    (hbind : iterBind n nameLen slots s.heap.size x (pushCell (.num (NumOps.ofInt ((i : Int) + 1))) s) = (.ok (), s1))
    (hb : evalPureStmtBlock n body s1 = (.err .sigContinue, s2)) :
    ListPasses n nameLen slots body i [x] s s2 ∧
    untilIdxM (iterListStep n nameLen slots body) i (x :: xs) s =
      untilIdxM (iterListStep n nameLen slots body) (i+1) xs s2 := by
  have hp : ListPasses n nameLen slots body i [x] s s2 := .cons hbind hb rfl (.nil _ _)
  exact ⟨hp, by simpa using untilIdxM_passes hp xs⟩

example : ∃ s2, ListPasses 4 0 (none, none) (some [.continue 0, .nil]) 0 [0] (pushCell (.str "a") vm0) s2 :=
  ⟨_, (continue_innermost_only_iterate 4 0 0 (none, none) (some [.continue 0, .nil]) 0 [] (pushCell (.str "a") vm0) _ _
    (run_unit (iterBind 4 0 _ _ _) _ K) (run_err (evalPureStmtBlock 4 _) _ _ K)).1⟩

/-! ## 3. 遍历: order, indices, copies -/

/-- `iterate_list_order_and_index`.  遍历 over a list cell `items` (read once, when the loop starts): if the
passes for `items` — taken in order, the pass at 0-based position i receiving a fresh number cell holding i+1
as its key (`ListPasses`) — are all complete, the statement is `ok` with value 空 in the state after the last
pass, the loop's scope ended.  Together with `return_stops_iterate_list` / `break_innermost_only_iterate_list`
(first incomplete pass) this fixes the visiting order and the 1-based indices for every outcome. -/
theorem iterate_list_order_and_index (n ln : Nat) (e : Expr) (names : List Ident) (body : Option (List Stmt))
    (s s1 s2 s3 : VM ν) (target : Addr) (slots : Option String × Option String) (items : List Addr)
    (hT : evalExpr n e (enterScope (setLine ln s)) = (.ok target, s1))
    (hS : iterSlots names s1 = (.ok slots, s2))
    (hcell : s2.heap[target]? = some (.arr items))
    (hp : ListPasses n names.length slots body 0 items s2 s3) :
    evalStmt (n+1) (.iterate ln e names body) s = newNull (leaveScope (scopeHandle (setLine ln s)) s3) := by
  refine iterate_run (r := .ok ()) hT hS ?_
  rw [iterLoop_arr hcell, ← List.append_nil items, untilIdxM_passes hp]; rfl

/-- `遍历 ["a","b"] 以 k，v： （空语句）`: two complete passes with keys 1, 2 -/
example : ∃ s3, evalStmt 7 (.iterate 0 ab [kId, vId] (some [.empty 0])) vm0 = newNull s3 :=
  ⟨_, iterate_list_order_and_index 6 0 ab [kId, vId] (some [.empty 0]) vm0 _ _ _ _ _ [0, 1]
    (run_ok (evalExpr 6 ab) _ K) (run_ok (iterSlots [kId, vId]) _ K) (cell_arr _ [0, 1] K)
    (.cons (run_unit (iterBind 6 2 _ _ _) _ K) (run_ok (evalPureStmtBlock 6 _) _ K) K
      (.cons (run_unit (iterBind 6 2 _ _ _) _ K) (run_ok (evalPureStmtBlock 6 _) _ K) K (.nil _ _)))⟩

/-- `iterate_dict_insertion_order`.  遍历 over a dictionary cell `.hm vals order`: the passes follow `order` (the
insertion order kept by the cell, see C12), each key as a fresh text cell, the value looked up at the time of the pass. -/
theorem iterate_dict_insertion_order (n ln : Nat) (e : Expr) (names : List Ident) (body : Option (List Stmt))
    (s s1 s2 s3 : VM ν) (target : Addr) (slots : Option String × Option String)
    (vals : List (String × Addr)) (order : List String)
    (hT : evalExpr n e (enterScope (setLine ln s)) = (.ok target, s1))
    (hS : iterSlots names s1 = (.ok slots, s2))
    (hcell : s2.heap[target]? = some (.hm vals order))
    (hp : DictPasses n names.length slots body target order s2 s3) :
    evalStmt (n+1) (.iterate ln e names body) s = newNull (leaveScope (scopeHandle (setLine ln s)) s3) := by
  refine iterate_run (r := .ok ()) hT hS ?_
  rw [iterLoop_hm hcell, ← List.append_nil order, untilM_passes hp]; rfl

example : ∃ s3, evalStmt 7 (.iterate 0 pq [kId, vId] (some [.empty 0])) vm0 = newNull s3 :=
  ⟨_, iterate_dict_insertion_order 6 0 pq [kId, vId] (some [.empty 0]) vm0 _ _ _ _ _ _ _
    (run_ok (evalExpr 6 pq) _ K) (run_ok (iterSlots [kId, vId]) _ K)
    (cell_hm _ [("p", 0), ("q", 1)] ["p", "q"] K)
    (.cons (cell_hm _ [("p", 0), ("q", 1)] ["p", "q"] K) (v := 0) K
      (run_unit (iterBind 6 2 _ _ _) _ K) (run_ok (evalPureStmtBlock 6 _) _ K) K
      (.cons (cell_hm _ [("p", 0), ("q", 1)] ["p", "q"] K) (v := 1) K
        (run_unit (iterBind 6 2 _ _ _) _ K) (run_ok (evalPureStmtBlock 6 _) _ K) K (.nil _)))⟩

/-- a key that is gone when its turn comes is skipped (`DictPasses.skip`): order `p, q`, values `[p = "a"]` — one
pass for `p`, none for `q`, the loop ends normally -/
example : ∃ s3, evalStmt 7 (.iterate 0 (.id dId) [] (some [.empty 0])) vmGone = newNull s3 :=
  ⟨_, iterate_dict_insertion_order 6 0 (.id dId) [] (some [.empty 0]) vmGone _ _ _ 1 _ [("p", 0)] ["p", "q"]
    (run_ok (evalExpr 6 (.id dId)) _ K) (run_ok (iterSlots []) _ K)
    (cell_hm _ [("p", 0)] ["p", "q"] K)
    (.cons (cell_hm _ [("p", 0)] ["p", "q"] K) (v := 0) K
      (run_unit (iterBind 6 0 _ _ _) _ K) (run_ok (evalPureStmtBlock 6 _) _ K) K
      (.skip (cell_hm _ [("p", 0)] ["p", "q"] K) K (.nil _)))⟩

/-- 遍历 over anything but a list or a dictionary is error 80 -/
theorem iterate_non_collection_is_error (n ln : Nat) (e : Expr) (names : List Ident) (body : Option (List Stmt))
    (s s1 s2 : VM ν) (target : Addr) (slots : Option String × Option String) (cell : Cell ν)
    (hT : evalExpr n e (enterScope (setLine ln s)) = (.ok target, s1))
    (hS : iterSlots names s1 = (.ok slots, s2))
    (hcell : s2.heap[target]? = some cell) (hna : ∀ xs, cell ≠ .arr xs) (hnh : ∀ v o, cell ≠ .hm v o) :
    evalStmt (n+1) (.iterate ln e names body) s = (.err (.rt 80), leaveScope (scopeHandle (setLine ln s)) s2) := by
  exact iterate_run (r := .err (.rt 80)) hT hS (iterLoop_other hcell hna hnh)

example : ∃ s', evalStmt 7 (.iterate 0 (.str 0 "x") [] (some [.nil])) vm0 = (.err (.rt 80), s') :=
  ⟨_, iterate_non_collection_is_error 6 0 (.str 0 "x") [] (some [.nil]) vm0 _ _ _ _ (.str "x")
    (run_ok (evalExpr 6 _) _ K) (run_ok (iterSlots []) _ K) (cell_str _ "x" K)
    (by intro xs h; cases h) (by intro v o h; cases h)⟩

/-- `iterate_binds_copy`.  What a pass binds: with one loop variable `vn`, the variable is set to a *copy* (`dup`,
value.DuplicateValue) of the element; with two, the first is set to the key cell and the second to the copy; with
none nothing is bound (the copy is still made).  `iterSlots` yields exactly these shapes (`iterSlots_shape`). -/
theorem iterate_binds_copy (n : Nat) (kn vn : String) (key v : Addr) :
    (iterBind n 1 (none, some vn) key v : M ν Unit) = (do let v' ← dup n v; setElement vn v') ∧
    (iterBind n 2 (some kn, some vn) key v : M ν Unit) = (do let v' ← dup n v; setElement kn key; setElement vn v') ∧
    (iterBind n 0 (none, none) key v : M ν Unit) = (do let _ ← dup n v; pure ()) :=
  ⟨rfl, rfl, rfl⟩

theorem iterSlots_shape (names : List Ident) (s s' : VM ν) (slots : Option String × Option String)
    (h : iterSlots names s = (.ok slots, s')) :
    (names.length = 0 ∧ slots = (none, none)) ∨ (names.length = 1 ∧ ∃ vn, slots = (none, some vn)) ∨
    (names.length = 2 ∧ ∃ kn vn, slots = (some kn, some vn)) := by
  open ZnVerif.Proofs.Calls in
  rcases names with _ | ⟨v, _ | ⟨k, _ | ⟨w, rest⟩⟩⟩
  · cases h; exact .inl ⟨rfl, rfl⟩
  · -- every step of the declaration succeeded; the last one is `pure (none, some vn)`
    obtain ⟨vn, _, _, h⟩ := bind_ok_inv h
    obtain ⟨_, _, _, h⟩ := bind_ok_inv h
    obtain ⟨_, _, _, h⟩ := bind_ok_inv h
    cases h; exact .inr (.inl ⟨rfl, vn, rfl⟩)
  · obtain ⟨kn, _, _, h⟩ := bind_ok_inv h
    obtain ⟨vn, _, _, h⟩ := bind_ok_inv h
    obtain ⟨_, _, _, h⟩ := bind_ok_inv h
    obtain ⟨_, _, _, h⟩ := bind_ok_inv h
    obtain ⟨_, _, _, h⟩ := bind_ok_inv h
    obtain ⟨_, _, _, h⟩ := bind_ok_inv h
    cases h; exact .inr (.inr ⟨rfl, kn, vn, rfl⟩)
  · cases h

example : ∃ slots s', iterSlots [vId] vm0 = (.ok slots, s') := ⟨_, _, run_ok (iterSlots [vId]) vm0 K⟩

/-! ## 1 (continued). 输出 from any nesting depth -/

/-- `return_stops_everything`.  `RetPath n nd s rv sr s'` (Proofs/ControlFlow) describes, for a statement or a block
`nd`, a path from its beginning into a `输出` nested at *any* depth inside blocks, 如果/再如/否则 alternatives,
每当 loops and 遍历 loops over lists and dictionaries: before the path only statements that end normally with
the slot empty, conditions that are 假, complete loop passes; `sr` is the machine right after the 输出 statement.
Whatever stands after the path — the later statements of every block on it, the later alternatives, every
remaining loop pass or element — is arbitrary and not evaluated:
* the construct ends `ok`, a block with the value `rv` of the 输出;
* the return slot still holds `rv` at the end (so the same holds for whatever contains `nd`);
* `Quiet sr s'`: between the 输出 and the end nothing is displayed (the trace at the end is the trace right after
  the 输出), the call stack and the globals are untouched, no existing heap cell is written — the heap only grows
  by the 空 cells that the finished constructs yield; blocks on the way out end their scopes (the index of `RetPath`).
Covers: nesting inside one method body / the program.  Not covered here: 输出 inside a method called from an
expression (that is the callee's frame: C08) and inside exception handlers (C09). -/
theorem return_stops_everything {n : Nat} {nd : Node} {s sr s' : VM ν} {rv : Addr}
    (h : RetPath n nd s rv sr s') :
    retSlot s' = some rv ∧ Quiet sr s' ∧
    (∀ st, nd = .stmt st → ∃ v, evalStmt n st s = (.ok v, s')) ∧
    (∀ b, nd = .block b → evalPureStmtBlock n b s = (.ok (some rv), s')) := by
  obtain ⟨hr, ho, he⟩ := ZnVerif.Proofs.RetPathComplete.sound h
  exact ⟨hr, ho, fun st hst => by subst hst; exact he, fun b hb => by subst hb; exact he⟩

/-- the two readings of `return_stops_everything`: for a block … -/
theorem return_stops_everything_block {n : Nat} {b : Option (List Stmt)} {s sr s' : VM ν} {rv : Addr}
    (h : RetPath n (.block b) s rv sr s') :
    evalPureStmtBlock n b s = (.ok (some rv), s') ∧ ReturnSet s' ∧ Quiet sr s' :=
  have h' := ZnVerif.Proofs.RetPathComplete.sound h
  ⟨h'.2.2, (returnSet_iff _).2 ⟨rv, h'.1⟩, h'.2.1⟩

/-- … and for a statement -/
theorem return_stops_everything_stmt {n : Nat} {st : Stmt} {s sr s' : VM ν} {rv : Addr}
    (h : RetPath n (.stmt st) s rv sr s') :
    (∃ v, evalStmt n st s = (.ok v, s')) ∧ ReturnSet s' ∧ Quiet sr s' :=
  have h' := ZnVerif.Proofs.RetPathComplete.sound h
  ⟨h'.2.2, (returnSet_iff _).2 ⟨rv, h'.1⟩, h'.2.1⟩

/-- 输出 four constructs deep, a nil statement (Go panic if reached) after every construct on the way:
`（空）； 每当 真：｛ 如果 真：｛ 遍历 ["a","b"]：｛ 输出 "x"； ‹nil› ｝ ‹nil› ｝ ‹nil› ｝ ‹nil›` -/
example : ∃ rv, ∃ sr s' : VM Int,
    evalPureStmtBlock 9 (some nested) vm0 = (.ok (some rv), s') ∧ ReturnSet s' ∧ Quiet sr s' := by
  apply Exists.intro; apply Exists.intro; apply Exists.intro
  apply return_stops_everything_block
  apply RetPath.block (pre := [.empty 0]) (post := [.nil])
  · exact .stmt rfl (run_ok (evalStmt 8 _) _ K) K (.nil _ _)
  · rfl
  apply RetPath.while (k := 0) (.zero _) (by decide)
  · exact run_ok (evalExpr 7 cTrue) _ K
  · exact cell_bool _ true K
  apply RetPath.block (pre := []) (post := [.nil]) (.nil _ _) rfl
  apply RetPath.branchIf
  · exact run_ok (evalExpr 5 cTrue) _ K
  · exact cell_bool _ true K
  apply RetPath.block (pre := []) (post := [.nil]) (.nil _ _) rfl
  apply RetPath.iterList (pre := []) (post := [8])
  · exact run_ok (evalExpr 3 ab) _ K
  · exact run_ok (iterSlots []) _ K
  · exact cell_arr _ [7, 8] K
  · exact .nil _ _
  · exact run_unit (iterBind 3 0 _ _ _) _ K
  apply RetPath.block (pre := []) (post := [.nil]) (.nil _ _) rfl
  exact RetPath.ret (fr := { moduleId := 0, callType := 1, started := true }) (rest := []) (run_ok (evalExpr 1 _) _ K) K

/-- the full statement of the converse of `return_stops_everything` (proved below: `return_path_complete`):
`RetPath` describes *every* way in which a block can end `ok` with the slot newly set, i.e. only a 输出 statement of
the block (at some depth) sets the slot of the frame the block runs in. -/
def return_path_complete_full : Prop :=
  ∀ (ν : Type) [NumOps ν] (n : Nat) (b : Option (List Stmt)) (s s' : VM ν) (r : Option Addr) (rv : Addr),
    retSlot s = none → evalPureStmtBlock n b s = (.ok r, s') → retSlot s' = some rv →
    ∃ sr, RetPath n (.block b) s rv sr s'

/-- `expression_keeps_caller_frame` — the frame discipline the converse rests on (Proofs/RetKeep `allKeep`, on top
of the whole-evaluator stack induction `allFr` of Proofs/StackBalBlock).  An expression that ends normally — whatever
it calls: methods, object methods, constructors, bodies with 拦截 handlers, 输出 inside all of them — leaves the call
stack it started from: same depth, the frames below the top one literally the same, and the top frame the same up to
its line marker; in particular the return slot of the frame the expression is evaluated in is untouched (a call pushes
one frame and a normal end has popped exactly that one; a handler runs in a frame of its own).  And an expression never
ends with a loop signal. -/
theorem expression_keeps_caller_frame (n : Nat) (e : Expr) (s s' : VM ν) (r : Res Addr)
    (h : evalExpr n e s = (r, s')) :
    (∀ a, r = .ok a → retSlot s' = retSlot s ∧ s'.stack.length = s.stack.length ∧ s'.stack.tail = s.stack.tail ∧
      (s'.stack.head?.map fun fr => (fr.moduleId, fr.callType, fr.this, fr.ret)) =
        (s.stack.head?.map fun fr => (fr.moduleId, fr.callType, fr.this, fr.ret))) ∧
    r ≠ .err .sigBreak ∧ r ≠ .err .sigContinue := by
  have hk := (ZnVerif.Proofs.RetKeep.allKeep (ν := ν) n).evalExpr e
  have h1 := hk.same s; have h2 := hk.nosig s
  rw [h] at h1 h2
  refine ⟨fun a ha => ?_, fun hr => (by subst hr; cases h2), fun hr => (by subst hr; cases h2)⟩
  subst ha
  have hs := h1 rfl
  refine ⟨(hk.run h).1 rfl, hs.length_eq, hs.tail_eq, ?_⟩
  rcases (ZnVerif.Proofs.RetKeep.sameL_iff _ _).1 hs with ⟨e1, e2⟩ | ⟨f, f', rest, e1, e2, q1, q2, q3, q4⟩
  · rw [e1, e2]
  · rw [e1, e2]; simp [q1, q2, q3, q4]

/-- `f` is defined as `如何f？ 输出 "x"`; the statement `（f）` is then run in the script frame: the callee's 输出 does
not reach the caller's slot (it is still empty), the stack is the caller's -/
example : ∃ a s', evalExpr 8 (.call 0 (some ⟨0, "f"⟩) [] none) withRetF = (.ok a, s') ∧ retSlot withRetF = none ∧
    retSlot s' = none ∧ s'.stack.length = 1 ∧ s'.heap[a]? = some (.str "x") := by
  have h := run_ok (evalExpr 8 (.call 0 (some ⟨0, "f"⟩) [] none)) withRetF K
  obtain ⟨h1, h2, -⟩ := (expression_keeps_caller_frame 8 _ withRetF _ _ h).1 _ rfl
  have h0 : retSlot withRetF = none := K
  exact ⟨_, _, h, h0, by rw [h1]; exact h0, by rw [h2]; exact K, cell_str _ "x" K⟩

/-- `return_path_complete` — the converse of `return_stops_everything`, for every fuel, block and machine state:
a block that starts with the return slot of its frame empty and ends normally with the slot holding `rv` has run along
a `RetPath`: through statements that ended normally with the slot empty, 假 conditions and complete loop passes into a
输出 statement of the block itself (nested at some depth in blocks, 如果/再如/否则 alternatives, 每当 and 遍历 passes) that
stored `rv`; `sr` is the machine right after that 输出.  Hence *only* a 输出 statement of the block sets the slot of the
frame the block runs in — no expression does (`expression_keeps_caller_frame`: calls, constructors and handlers work
in frames of their own), no declaration, no 抛出, no loop bookkeeping.  No side condition on the state is needed: with an
empty call stack the slot reads as empty at the end as well (a 输出 there stores nothing), so the hypothesis
`retSlot s' = some rv` already excludes it. -/
theorem return_path_complete : return_path_complete_full := by
  intro ν _ n b s s' r rv h0 h hrv
  exact ((ZnVerif.Proofs.RetPathComplete.complete (ν := ν) n).2 b s s' (.ok r) h0 h).1 rfl rv hrv

/-- the program `nested` (输出 "x" below 每当 / 如果 / 遍历, a Go-panic statement after every construct on the way) is run
by the kernel; from the two facts "ended normally" and "the slot is set" the theorem reconstructs the path -/
example : ∃ rv, ∃ sr s' : VM Int, RetPath 9 (.block (some nested)) vm0 rv sr s' := by
  have h := run_ok (evalPureStmtBlock 9 (some nested)) vm0 K
  obtain ⟨sr, hp⟩ := return_path_complete Int 9 (some nested) vm0 _ _ _ K h (slot_set _ K)
  exact ⟨_, sr, _, hp⟩

/-- the degenerate machine without any frame: 输出 stores nothing, the slot reads as empty afterwards — the
hypothesis `retSlot s' = some rv` of `return_path_complete` cannot hold there, no side condition is needed -/
example : ∃ r s', evalPureStmtBlock 4 (some [retX]) { vm0 with stack := [] } = (.ok r, s') ∧ retSlot s' = none :=
  ⟨_, _, run_ok (evalPureStmtBlock 4 _) _ K, K⟩

/-- … and the same for a single statement (a 如果, a 每当, a 遍历, a 输出 …): if it ends normally with the slot newly
set, it ran along a `RetPath`. -/
theorem return_path_complete_stmt (n : Nat) (st : Stmt) (s s' : VM ν) (v rv : Addr)
    (h0 : retSlot s = none) (h : evalStmt n st s = (.ok v, s')) (hrv : retSlot s' = some rv) :
    ∃ sr, RetPath n (.stmt st) s rv sr s' :=
  ((ZnVerif.Proofs.RetPathComplete.complete (ν := ν) n).1 st s s' (.ok v) h0 h).1 rfl rv hrv

example : ∃ rv, ∃ sr s' : VM Int, RetPath 7 (.stmt (.while 0 cTrue (some retSecondTime))) vm1 rv sr s' := by
  have h := run_ok (evalStmt 7 (.while 0 cTrue (some retSecondTime))) vm1 K
  obtain ⟨sr, hp⟩ := return_path_complete_stmt 7 _ vm1 _ _ _ K h (slot_set _ K)
  exact ⟨_, sr, _, hp⟩

/-- `return_iff_path`: the two directions together.  From a state with the slot empty, "the block ends normally with
the slot holding `rv`" and "there is a path into a 输出 of the block that stores `rv`" are the same thing; and then the
value of the block is `rv`. -/
theorem return_iff_path (n : Nat) (b : Option (List Stmt)) (s s' : VM ν) (rv : Addr) (h0 : retSlot s = none) :
    ((∃ r, evalPureStmtBlock n b s = (.ok r, s')) ∧ retSlot s' = some rv) ↔ ∃ sr, RetPath n (.block b) s rv sr s' := by
  constructor
  · rintro ⟨⟨r, h⟩, hrv⟩
    exact return_path_complete ν n b s s' r rv h0 h hrv
  · rintro ⟨sr, hp⟩
    have h' := ZnVerif.Proofs.RetPathComplete.sound hp
    exact ⟨⟨_, h'.2.2⟩, h'.1⟩

example : ∃ rv, ∃ s' : VM Int, ((∃ r, evalPureStmtBlock 9 (some nested) vm0 = (.ok r, s')) ∧ retSlot s' = some rv) ∧
    ∃ sr, RetPath 9 (.block (some nested)) vm0 rv sr s' := by
  have h := run_ok (evalPureStmtBlock 9 (some nested)) vm0 K
  have hs := slot_set (evalPureStmtBlock 9 (some nested) vm0).2 K
  exact ⟨_, _, ⟨⟨_, h⟩, hs⟩, (return_iff_path 9 (some nested) vm0 _ _ K).1 ⟨⟨_, h⟩, hs⟩⟩

/-- `loop_signal_leaves_slot_empty`: the companion fact of the induction.  A block (or statement) that starts with the
slot empty and ends with 结束循环 / 继续循环 leaves the slot empty: so every pass of the loop that catches the signal
starts with the slot empty, like the first one. -/
theorem loop_signal_leaves_slot_empty (n : Nat) (b : Option (List Stmt)) (s s' : VM ν) (e : Err)
    (h0 : retSlot s = none) (h : evalPureStmtBlock n b s = (.err e, s')) (he : e = .sigBreak ∨ e = .sigContinue) :
    retSlot s' = none := by
  refine ((ZnVerif.Proofs.RetPathComplete.complete (ν := ν) n).2 b s s' (.err e) h0 h).2 ?_
  rcases he with rfl | rfl <;> rfl

example : ∃ s' : VM Int, evalPureStmtBlock 4 (some [.empty 0, .continue 0, .nil]) vm0 = (.err .sigContinue, s') ∧
    retSlot s' = none :=
  ⟨_, run_err (evalPureStmtBlock 4 _) _ _ K,
    loop_signal_leaves_slot_empty 4 _ vm0 _ _ K (run_err (evalPureStmtBlock 4 _) _ _ K) (.inr rfl)⟩

/-! ## 5. the value of a body -/

/-- `输出 ends the enclosing method body (or the whole program)`.  A body (`evalExecBlock`: the program, a method, a
constructor) whose statement block ends with the slot holding `rv` — by `return_stops_everything`, a 输出 at any
depth — yields `rv`; the state is the one the block left, with the body's scope ended.  (`hpre`: binding of 此
and of the inputs succeeded; `hh`: the hoisted definitions were executed.) -/
theorem return_ends_body (n : Nat) (inputs : List Ident) (stmts : List Stmt)
    (catches : List (Option Ident × Option (List Stmt))) (params : List Addr) (s s1 s2 s3 : VM ν) (rv : Addr)
    (hpre : execPrelude inputs params (enterScope s) = (.ok (), s1))
    (hh : hoistDecls n stmts s1 = (.ok (), s2))
    (hb : evalPureStmtBlock n (some stmts) s2 = (.ok (some rv), s3)) :
    evalExecBlock (n+2) (some (.mk inputs (some stmts) catches)) params s = (.ok rv, leaveScope (scopeHandle s) s3) :=
  evalExecBlock_ok hpre (by rw [evalStmtBlock_eq, bind_ok hh]; exact hb)

/-- the program `nested` (输出 "x" four constructs deep) as the body of the main program: its value is that "x" -/
example : ∃ rv s', evalExecBlock 11 (some (.mk [] (some nested) [])) [] vm0 = (.ok rv, s') ∧ s'.heap[rv]? = some (.str "x") :=
  ⟨_, _, return_ends_body 9 [] nested [] [] vm0 _ _ _ _
    (run_unit (execPrelude [] []) _ K) (run_unit (hoistDecls 9 nested) _ K) (run_ok_some (evalPureStmtBlock 9 _) _ K),
    cell_str _ "x" K⟩

/-- … and for the whole program (no inputs, no imports): `runProgram` = allocate 主模块, push the script frame
(`programStart`), run the body with `evalExecBlock`, pop the frame; so the value of the program is the value of
its body — `rv` of a 输出 at any depth (`return_ends_body`), else the final expression (`final_expression_value`). -/
theorem program_value_is_body_value (fuel : Nat) (body : Option (List Stmt))
    (catches : List (Option Ident × Option (List Stmt))) (inputs : List (String × Cell ν)) (s s2 : VM ν) (v : Addr)
    (fr : Frame) (rest : List Frame)
    (hb : evalExecBlock fuel (some (.mk [] body catches)) [] (programStart s) = (.ok v, s2))
    (hst : s2.stack = fr :: rest) :
    ∃ s3, runProgram fuel ⟨[], some (.mk [] body catches)⟩ inputs s = (.ok v, s3) ∧ s3.out = s2.out ∧ s3.heap = s2.heap := by
  rw [runProgram_eq, bind_ok hb]
  simp [bind, popFrame, hst, pure]

/-- the program `nested`: its result is the text "x" of the 输出 four constructs deep -/
example : ∃ v s3, runProgram 11 ⟨[], some (.mk [] (some nested) [])⟩ [] (initVM (ν := Int) ()) = (.ok v, s3) ∧
    s3.heap[v]? = some (.str "x") := by
  obtain ⟨s3, h, -, hh⟩ := program_value_is_body_value 11 (some nested) [] [] (initVM (ν := Int) ()) _ _ _ _
    (run_ok (evalExecBlock 11 _ _) _ K) (stack_cons _ K)
  exact ⟨_, s3, h, by rw [hh]; exact cell_str _ "x" K⟩

/-- `final_expression_value`.  A body none of whose statements leaves the return slot set (`Steps`: no 输出 was
executed) runs all of them; its value is the value of the last statement that is not a definition
(`pre ++ st :: ds` with `ds` definitions only) … -/
theorem final_expression_value (n : Nat) (inputs : List Ident) (pre ds : List Stmt) (st : Stmt)
    (catches : List (Option Ident × Option (List Stmt))) (params : List Addr) (s s1 s2 s3 s4 : VM ν)
    (last : Option Addr) (v : Addr)
    (hpre : execPrelude inputs params (enterScope s) = (.ok (), s1))
    (hh : hoistDecls (n+1) (pre ++ st :: ds) s1 = (.ok (), s2))
    (hsteps : Steps (evalStmt n) none pre (enterScope s2) last s3)
    (hnd : isDecl st = false) (hds : ∀ d ∈ ds, isDecl d = true)
    (hst : evalStmt n st s3 = (.ok v, s4)) (hempty : retSlot s4 = none) :
    evalExecBlock (n+3) (some (.mk inputs (some (pre ++ st :: ds)) catches)) params s =
      (.ok v, leaveScope (scopeHandle s) (leaveScope (scopeHandle s2) s4)) := by
  have hall : Steps (evalStmt n) none (pre ++ st :: ds) (enterScope s2) (some v) s4 :=
    hsteps.append (.stmt hnd hst hempty (Steps.decls _ ds s4 hds hempty))
  exact evalExecBlock_ok hpre (by rw [evalStmtBlock_eq, bind_ok hh]; exact block_runs_to_end hall)

/-- `（空）； "x"； 如何f？…` : the value of the body is the text "x" (the definition after it does not count) -/
example : ∃ v s', evalExecBlock 6 (some (.mk [] (some ([.empty 0] ++ .expr (.str 0 "x") :: [fDecl])) [])) [] vm0 = (.ok v, s') ∧
    s'.heap[v]? = some (.str "x") :=
  ⟨_, _, final_expression_value 3 [] [.empty 0] [fDecl] (.expr (.str 0 "x")) [] [] vm0 _ _ _ _ _ _
    (run_unit (execPrelude [] []) _ K) (run_unit (hoistDecls 4 _) _ K)
    (.stmt rfl (run_ok (evalStmt 3 _) _ K) K (.nil _ _)) rfl (by intro d hd; simp at hd; subst hd; rfl)
    (run_ok (evalStmt 3 _) _ K) K, cell_str _ "x" K⟩

/-- … and 空 when there is no such statement (an empty body, or definitions only): a fresh 空 cell, allocated
after the block's scope was ended. -/
theorem final_expression_value_empty (n : Nat) (inputs : List Ident) (ds : List Stmt)
    (catches : List (Option Ident × Option (List Stmt))) (params : List Addr) (s s1 s2 : VM ν)
    (hpre : execPrelude inputs params (enterScope s) = (.ok (), s1))
    (hh : hoistDecls (n+1) ds s1 = (.ok (), s2))
    (hds : ∀ d ∈ ds, isDecl d = true) (hempty : retSlot s2 = none) :
    evalExecBlock (n+3) (some (.mk inputs (some ds) catches)) params s =
      (.ok s2.heap.size,
       leaveScope (scopeHandle s) (newNull (leaveScope (scopeHandle s2) (enterScope s2))).2) := by
  have hall : Steps (evalStmt n) none ds (enterScope s2) none (enterScope s2) :=
    Steps.decls _ ds _ hds (by rw [retSlot_enterScope]; exact hempty)
  rw [evalExecBlock_ok hpre (by rw [evalStmtBlock_eq, bind_ok hh]; exact block_runs_to_end hall)]
  simp only [leaveScope_heap, enterScope_heap]

example : ∃ v s', evalExecBlock 6 (some (.mk [] (some [fDecl]) [])) [] vm0 = (.ok v, s') ∧ s'.heap[v]? = some .null :=
  ⟨_, _, final_expression_value_empty 3 [] [fDecl] [] [] vm0 _ _
    (run_unit (execPrelude [] []) _ K) (run_unit (hoistDecls 4 _) _ K) (by intro d hd; simp at hd; subst hd; rfl) K,
    cell_null _ K⟩

/-! ## 6. The spec semantics (`Spec/Sem.lean`) says the same, with outcomes instead of a slot

There 输出 is the outcome `.ret v`, 结束循环 `.brk`, 继续循环 `.cont`; sequencing is the bind of `SM`. -/

open ZnVerif.Proofs.ControlFlowSpec

/-- `spec_return_skips_continuation` — the law of `SM`: whatever follows a computation that ended with `.ret v` is skipped -/
theorem spec_return_skips_continuation {α β} (m : Spec.SM ν α) (f : α → Spec.SM ν β) (s s' : Spec.SState ν)
    (v : Spec.SVal ν) (h : m s = (.ret v, s')) : (m >>= f) s = (.ret v, s') :=
  sbind_ret h

example : ((Spec.sfail (.ret .null) : Spec.SM Int Unit) >>= fun _ => Spec.sfail .unspecified) sp0 =
    ((.ret .null, sp0) : Spec.R Int Unit × _) :=
  spec_return_skips_continuation _ _ sp0 sp0 .null rfl

/-- `spec_return_propagates` on a statement list: once a statement ends with `.ret v`, the list ends with `.ret v`
in that very state; `post` is not executed. -/
theorem spec_return_propagates (n : Nat) (pre post : List Stmt) (st : Stmt) (s s1 s2 : Spec.SState ν)
    (v0 v : Spec.SVal ν)
    (hpre : SRuns n .null pre s v0 s1) (hst : Spec.execS n st s1 = (.ret v, s2)) :
    Spec.runStmts (n+1) (pre ++ st :: post) s = (.ret v, s2) := by
  simp only [Spec.runStmts]
  rw [foldlM_sruns hpre]
  simp [List.foldlM_cons, bind, hst]

example : ∃ v s2, Spec.runStmts 4 ([.empty 0] ++ retX :: [.nil]) sp0 = (.ret v, s2) :=
  ⟨_, _, spec_return_propagates 3 [.empty 0] [.nil] retX sp0 _ _ _ _ (.cons rfl (.nil _ _)) rfl⟩

/-- … through a nested block (its scope is closed on the way out) … -/
theorem spec_return_through_block (n : Nat) (stmts : List Stmt) (s s2 : Spec.SState ν) (v : Spec.SVal ν)
    (h : Spec.runStmts n (stmts.filter notDecl) { s with env := [] :: s.env } = (.ret v, s2)) :
    Spec.runBlock (n+1) (some stmts) s = (.ret v, { s2 with env := s2.env.drop 1 }) := by
  rw [runBlock_eq]
  simp [Spec.withBlock, bind, Spec.modS, Spec.catchR, h, Spec.sfail]

example : ∃ v s2, Spec.runBlock 5 (some [retX, .nil]) sp0 = (.ret v, s2) :=
  ⟨_, _, spec_return_through_block 4 [retX, .nil] sp0 _ _ rfl⟩

/-- … and out of a 每当 loop: no further test, no further pass. -/
theorem spec_return_stops_while (n ln k : Nat) (c : Expr) (body : Option (List Stmt)) (s s1 s2 s3 : Spec.SState ν)
    (v : Spec.SVal ν)
    (hp : SWhilePasses n c body k s s1) (hk : k < n)
    (hc : Spec.evalE n c s1 = (.ok (.bool true), s2)) (hb : Spec.runBlock n body s2 = (.ret v, s3)) :
    Spec.execS (n+1) (.while ln c body) s = (.ret v, s3) := by
  rw [execS_while]
  have := spec_while_after hp hk (specWhileStep_ret hc hb) (by intro h; cases h)
  exact sbind_ret this

example : ∃ v s3, Spec.execS 6 (.while 0 cTrue (some [retX, .nil])) sp0 = (.ret v, s3) :=
  ⟨_, _, spec_return_stops_while 5 0 0 cTrue (some [retX, .nil]) sp0 _ _ _ _ (.zero _) (by decide) rfl rfl⟩

/-- `spec_break_innermost`: `.brk` from the body is consumed by the loop whose body it is; that loop ends `ok`
(value 空), so nothing outside it ever sees the `.brk`. -/
theorem spec_break_innermost (n ln k : Nat) (c : Expr) (body : Option (List Stmt)) (s s1 s2 s3 : Spec.SState ν)
    (hp : SWhilePasses n c body k s s1) (hk : k < n)
    (hc : Spec.evalE n c s1 = (.ok (.bool true), s2)) (hb : Spec.runBlock n body s2 = (.brk, s3)) :
    Spec.execS (n+1) (.while ln c body) s = (.ok .null, s3) := by
  rw [execS_while]
  have := spec_while_after hp hk (specWhileStep_pass hc hb (b := false) rfl) (by intro h; cases h)
  rw [sbind_ok this]; rfl

example : ∃ s3, Spec.execS 6 (.while 0 cTrue (some [.break 0, .nil])) sp0 = (.ok .null, s3) :=
  ⟨_, spec_break_innermost 5 0 0 cTrue (some [.break 0, .nil]) sp0 _ _ _ (.zero _) (by decide) rfl rfl⟩

/-- `spec_while_retests`: after a pass that ended `ok` or with `.cont` the loop is at its beginning again — the next
thing it does is evaluate the condition (`specWhileStep` = test, then pass) — and it ends `ok` with 空 exactly when
that test gives 假. -/
theorem spec_while_retests (n ln k : Nat) (c : Expr) (body : Option (List Stmt)) (s s1 s2 : Spec.SState ν)
    (hp : SWhilePasses n c body k s s1) (hk : k < n) :
    (∀ j, Spec.whileS (k + j) (specWhileStep n c body) s = Spec.whileS j (specWhileStep n c body) s1) ∧
    (Spec.evalE n c s1 = (.ok (.bool false), s2) → Spec.execS (n+1) (.while ln c body) s = (.ok .null, s2)) := by
  refine ⟨whileS_passes hp, fun hc => ?_⟩
  rw [execS_while]
  have := spec_while_after hp hk (specWhileStep_false (body := body) hc) (by intro h; cases h)
  rw [sbind_ok this]; rfl

example : ∃ s2, Spec.execS 6 (.while 0 cFalse (some [.nil])) sp0 = (.ok .null, s2) :=
  ⟨_, (spec_while_retests 5 0 0 cFalse (some [.nil]) sp0 _ _ (.zero _) (by decide)).2 rfl⟩

/-! ## 7. Loop signals stay inside the body and the loop they belong to

(`evalExecBlock` mirrors `loopSignalToException`, pkg/exec/eval.go, /repo commits 8b872eb / 0bac3b4).  `Err.isLoopSignal e` = `e` is
`.sigBreak` or `.sigContinue`; `FreeSig e st` (Proofs/LoopSignals) = a 结束循环 (`e = .sigBreak`) resp. 继续循环
(`e = .sigContinue`) stands lexically in `st` outside every loop of `st`: `st` is that statement, or a 如果/再如/否则
statement one of whose blocks contains such a statement; `BlockFreeSig e b` = some statement of block `b` has it. -/

open ZnVerif.Proofs.LoopSignals

/-- `loop_signal_never_leaves_body`.  Whatever a method / constructor / program body does — 结束循环 or 继续循环
outside any loop of the body, in a 如果, in a 拦截 handler block, … — the outcome of `evalExecBlock` is never a
loop signal: every fuel, every body, every handler list, every state. -/
theorem loop_signal_never_leaves_body (n : Nat) (blk : Option ExecBlock) (params : List Addr) (s s' : VM ν) (e : Err)
    (h : evalExecBlock n blk params s = (.err e, s')) : e ≠ .sigBreak ∧ e ≠ .sigContinue := by
  have := (NoSig.evalExecBlock n blk params).out s e s' h
  constructor <;> rintro rfl <;> cases this

/-- a 结束循环 at the top of a body becomes an exception value returned as an error (here: cell 7), not a signal -/
example : errIs (evalExecBlock 5 (some (.mk [] (some [.break 0, .nil]) [])) [] (programStart (initVM (ν := Int) ()))).1
    (.excErr 7) = true := K
/-- … and so does a 继续循环 executed by the 拦截 handler block of the body (the case of /repo commit 0bac3b4) -/
example : errIs (evalExecBlock 8 (some handlerContinues) [] (programStart (initVM (ν := Int) ()))).1 (.excErr 10) = true := K
example : ∃ e s', evalExecBlock 8 (some handlerContinues) [] (programStart (initVM (ν := Int) ())) = (.err e, s') ∧
    e ≠ .sigBreak ∧ e ≠ .sigContinue := by
  have h := run_err (evalExecBlock 8 (some handlerContinues) []) (programStart (initVM (ν := Int) ())) (.excErr 10) K
  exact ⟨_, _, h, loop_signal_never_leaves_body _ _ _ _ _ _ h⟩

/-- no expression ever yields a loop signal: not a call `（f：…）`, not a method call, not 新建 (the constructor body),
not the arguments, not an l-value — whatever bodies they run (`loop_signal_never_leaves_body`) and whatever built-in
they reach. -/
theorem expression_never_yields_loop_signal (n : Nat) (ex : Expr) (s s' : VM ν) (e : Err)
    (h : evalExpr n ex s = (.err e, s')) : e ≠ .sigBreak ∧ e ≠ .sigContinue := by
  have := (NoSig.evalExpr n ex).out s e s' h
  constructor <;> rintro rfl <;> cases this

/-- `（f）` with no `f` defined: error 42, which the theorem says is not a loop signal -/
example : ∃ e s', evalExpr 4 (.call 0 (some ⟨0, "f"⟩) [] none) vm0 = (.err e, s') ∧ e ≠ .sigBreak ∧ e ≠ .sigContinue := by
  have h := run_err (evalExpr 4 (.call 0 (some ⟨0, "f"⟩) [] none)) vm0 (.rt 42) K
  exact ⟨_, _, h, expression_never_yields_loop_signal _ _ _ _ _ h⟩

/-- a loop statement never ends with a loop signal: the signals of its body are consumed by *it* (结束循环 / 继续循环
act on the innermost loop, none passes through to an outer one), everything else the body can raise is not one. -/
theorem loop_statement_never_signals (n ln : Nat) (c : Expr) (names : List Ident) (body : Option (List Stmt))
    (s s' : VM ν) (e : Err) :
    (evalStmt (n+1) (.while ln c body) s = (.err e, s') → e ≠ .sigBreak ∧ e ≠ .sigContinue) ∧
    (evalStmt (n+1) (.iterate ln c names body) s = (.err e, s') → e ≠ .sigBreak ∧ e ≠ .sigContinue) := by
  constructor <;> intro h
  · have := (NoSig.whileStmt n ln c body).out s e s' h
    constructor <;> rintro rfl <;> cases this
  · have := (NoSig.iterateStmt n ln c names body).out s e s' h
    constructor <;> rintro rfl <;> cases this

example : ∃ e s', evalStmt 7 (.while 0 (.str 0 "x") (some [.break 0])) vm0 = (.err e, s') ∧ e ≠ .sigBreak ∧ e ≠ .sigContinue := by
  have h := run_err (evalStmt 7 (.while 0 (.str 0 "x") (some [.break 0]))) vm0 (.rt 80) K
  exact ⟨_, _, h, (loop_statement_never_signals 6 0 _ [] _ _ _ _).1 h⟩

/-- `loop_signal_is_lexical`.  If a statement (a block) ends with the signal `e`, then a 结束循环 / 继续循环 stands
lexically in it, outside every loop of it and not inside any method it calls. -/
theorem loop_signal_is_lexical (n : Nat) (s s' : VM ν) (e : Err) (he : Err.isLoopSignal e = true) :
    (∀ st, evalStmt n st s = (.err e, s') → FreeSig e st) ∧
    (∀ b, evalPureStmtBlock n b s = (.err e, s') → BlockFreeSig e b) :=
  ⟨fun st h => ((sig_lexical n).1 st).out s e s' h he, fun b h => ((sig_lexical n).2 b).out s e s' h he⟩

/-- `如果 真：｛ 结束循环 ｝` ends with the break signal — and contains the 结束循环 -/
example : FreeSig .sigBreak (.branch 0 cTrue (some [.break 0, .nil]) [] false none) :=
  (loop_signal_is_lexical 6 vm0 _ .sigBreak rfl).1 _ (run_err (evalStmt 6 _) _ .sigBreak K)

/-- `break_in_callee_does_not_end_callers_loop`.  A loop (每当 / 遍历) leaves through its `结束循环` branch, or skips to
the next pass through its `继续循环` branch, only when its body ends with that signal (`whileStep` / `iterPass`, see
`break_innermost_only_while`, `continue_innermost_only_while`, …).  This theorem says when that can happen:
(1) only if the 结束循环 / 继续循环 stands lexically in the body of *this* loop, outside its inner loops;
(2) in particular never because of a statement that is an expression — a call `（f：…）`, a method call, 新建, an
assignment, … — whatever the callee does (a 结束循环 there is an exception *of the callee*,
`loop_signal_never_leaves_body`): the outcome of such a statement is not a loop signal, and a body made of such
statements, declarations, 输出 and loops only never takes the loop's signal branches. -/
theorem break_in_callee_does_not_end_callers_loop (n : Nat) (body : Option (List Stmt)) (s s' : VM ν) (e : Err)
    (he : Err.isLoopSignal e = true) :
    (evalPureStmtBlock n body s = (.err e, s') → BlockFreeSig e body) ∧
    (∀ ex : Expr, evalStmt n (.expr ex) s ≠ (.err e, s')) ∧
    (∀ stmts, body = some stmts → (∀ st ∈ stmts, ¬ FreeSig e st) → evalPureStmtBlock n body s ≠ (.err e, s')) := by
  refine ⟨(loop_signal_is_lexical n s s' e he).2 body, fun ex h => ?_, fun stmts hb hno h => ?_⟩
  · have := (loop_signal_is_lexical n s s' e he).1 _ h
    cases this
  · obtain ⟨stmts', st, hb', hm, hf⟩ := (loop_signal_is_lexical n s s' e he).2 body h
    rw [hb] at hb'; cases hb'
    exact hno st hm hf

/-- a statement that is a call is never a free signal, nor is a loop, a 输出, a declaration … — only 结束循环 /
继续循环 themselves and 如果 statements containing them are -/
theorem call_is_not_a_free_signal (e : Err) (ex : Expr) : ¬ FreeSig e (.expr ex) := by
  intro h; cases h

/-- the caller's loop `每当 真：｛ （f） ｝` where `f`'s body is `结束循环`: the call ends with the callee's exception
(cell 9), the pass of the caller's loop with that error — the loop's 结束循环 branch is not taken -/
example : ∃ s', evalPureStmtBlock 9 (some [callF, .nil]) withF = (.err (.excErr 9), s') ∧
    ¬ BlockFreeSig .sigBreak (some [callF, .nil]) := by
  refine ⟨_, run_err (evalPureStmtBlock 9 _) _ _ K, ?_⟩
  rintro ⟨stmts, st, hb, hm, hf⟩
  cases hb
  simp at hm
  rcases hm with rfl | rfl <;> cases hf

/-- spec twin: the outcome of a body in the spec semantics (`Spec.callBody`) is never `.brk` / `.cont` — a 结束循环 /
继续循环 outside any loop of the body, or in its handler block, is an exception of that body. -/
theorem spec_loop_signal_never_leaves_body (n : Nat) (blk : Option ExecBlock) (args : List (Spec.SVal ν))
    (this : Option (Spec.SVal ν)) (s s' : Spec.SState ν) :
    Spec.callBody n blk args this s ≠ (.brk, s') ∧ Spec.callBody n blk args this s ≠ (.cont, s') := by
  constructor <;> intro h <;> have := SNoSig.callBody n blk args this s _ s' h <;> cases this

/-- a body that is just 结束循环 raises the exception 收到「结束」中断信号 -/
example : ∃ s', Spec.callBody 5 (some (.mk [] (some [.break 0, .nil]) [])) [] none sp0 =
    (.raise (.exc "收到「结束」中断信号"), s') := ⟨_, rfl⟩

end ZnVerif.Properties.C02

/-! ## The statement evaluator refines the spec semantics on the control-flow fragment

Vocabulary (Proofs/StmtRefine*.lean):
* `PureStmt st` — declarations (令 / 恒为) and assignments `x 为 e` of top-scalar pure expressions, pure expression
  statements, the display call `（显示：…）` on top-scalar arguments, 如果 / 再如 / 否则, 每当, 遍历 with 0–2 loop variables
  over a top-scalar expression or a list / dictionary literal of top-scalar items, 输出, 结束循环, 继续循环, the empty
  statement; `PureBlock b` — a block of such statements.  ("Top-scalar": the top node is not a list / dictionary
  literal, so that every stored value is a scalar and the environment relation of C01 at depth 0 is kept.)
* `StRel ω mid D ds s σ` — the state relation: globals ↔ predefined names; the flat symbol list of module `mid`'s
  scope (depth marks `D :: ds`, strictly decreasing) ↔ the spec's blocks `σ.env`, symbol by symbol (name, constness,
  value read by `contentW ω 1`); a non-empty call stack whose top frame belongs to `mid`; `s.out = σ.out`; the global
  显示 is the display method; `ω` answers display-alike for non-plain cells.  `slot s` — the top frame's return slot.
* `SimS V T B s σ m m'` with outcomes `SOut` (Proofs/StmtRefineSim.lean):
    model `.ok a`, slot empty  ↔ spec `.ok v`    (`V`: states related, `a` reads as `v`)
    model `.ok _`, slot = `x`  ↔ spec `.ret v`   (`T`: states related, `x` reads as `v`) — the mechanism gap: the
                                                  model polls the slot after each statement and each loop pass,
                                                  the spec propagates `.ret` through bind
    model `.err .sigBreak / .sigContinue` ↔ spec `.brk / .cont`   (`B`: states related, slot empty)
    model `.err (.rt c)` ↔ spec `.raise (.fault (specCode c))`;  model `.err (.sem c)` ↔ spec `.fatal c`.
  No claim when the spec says `unspecified` or when either side is out of fuel: the two spend fuel at different
  rates (the spec's `runStmts` takes a unit per block, so the spec's fuel `m` may be any `m ≤ n`; the model's display
  call takes three units).  See `exec_fuel_exact_full` below. -/

namespace ZnVerif.Properties.C02
open ZnVerif.Model ZnVerif.Spec ZnVerif.Proofs

variable {ν : Type} [NumOps ν]

/-- Statements: for every model fuel `n`, every spec fuel `m ≤ n`, every statement of the fragment and every pair
of related states with an empty return slot, `evalStmt` and `execS` end with matching outcomes. -/
theorem exec_refines_spec (ω : Addr → Option (SVal ν)) (mid : Int) (n m : Nat) (hle : m ≤ n) (st : Stmt) (s : VM ν)
    (σ : SState ν) (D : Int) (ds : List Int) (hst : PureStmt st) (hrel : StRel ω mid D ds s σ) (hslot : slot s = none) :
    SimS (VRel ω mid D ds s.heap (PVal ω)) (TRel ω mid D ds s.heap) (BRel ω mid D ds s.heap) s σ
      (evalStmt n st) (execS m st) :=
  (stmt_block_sim ω mid n m hle).1 st s σ D ds s.heap hst ⟨hrel, HeapLe.refl _, hslot⟩

/-- Blocks (`evalPureStmtBlock`: own scope, slot polled after each statement; `runBlock`: own block, fold). -/
theorem block_refines_spec (ω : Addr → Option (SVal ν)) (mid : Int) (n m : Nat) (hle : m ≤ n) (b : Option (List Stmt))
    (s : VM ν) (σ : SState ν) (D : Int) (ds : List Int) (hb : PureBlock b) (hrel : StRel ω mid D ds s σ)
    (hslot : slot s = none) :
    SimS (VRel ω mid D ds s.heap (PBlk ω)) (TRel ω mid D ds s.heap) (BRel ω mid D ds s.heap) s σ
      (evalPureStmtBlock n b) (runBlock m b) :=
  (stmt_block_sim ω mid n m hle).2 b s σ D ds s.heap hb ⟨hrel, HeapLe.refl _, hslot⟩

/-- the heart of C02 in plain words: when neither side runs out of fuel (and the spec is specified), the model's
statement ends normally with the slot SET exactly when the spec's outcome is `.ret`, with the slot EMPTY exactly
when it is `.ok`; a loop signal exactly when the spec says `.brk` / `.cont`; an error exactly when the spec raises. -/
theorem return_slot_iff_spec_returns (ω : Addr → Option (SVal ν)) (mid : Int) (n m : Nat) (hle : m ≤ n) (st : Stmt)
    (s s' : VM ν) (σ σ' : SState ν) (D : Int) (ds : List Int) (hst : PureStmt st) (hrel : StRel ω mid D ds s σ)
    (hslot : slot s = none) (r : Res Addr) (r' : R ν (SVal ν))
    (hm : evalStmt n st s = (r, s')) (hs : execS m st σ = (r', σ'))
    (h1 : r' ≠ .unspecified) (h2 : r' ≠ .fuel) (h3 : r ≠ .fuel) :
    (∃ a v, r = .ok a ∧ r' = .ok v ∧ slot s' = none ∧ StRel ω mid D ds s' σ' ∧ ∃ k, contentW ω k s'.heap a = some v) ∨
    (∃ a x v, r = .ok a ∧ r' = .ret v ∧ slot s' = some x ∧ StRel ω mid D ds s' σ' ∧ ∃ k, contentW ω k s'.heap x = some v) ∨
    (r = .err .sigBreak ∧ r' = .brk ∧ slot s' = none ∧ StRel ω mid D ds s' σ') ∨
    (r = .err .sigContinue ∧ r' = .cont ∧ slot s' = none ∧ StRel ω mid D ds s' σ') ∨
    (∃ c, r = .err (.rt c) ∧ r' = .raise (.fault (specCode c))) ∨
    (∃ c, r = .err (.sem c) ∧ r' = .fatal c) := by
  have h := exec_refines_spec ω mid n m hle st s σ D ds hst hrel hslot
  unfold SimS at h
  rw [hm, hs] at h
  rcases h with h | h | h | h
  · exact absurd h h1
  · exact absurd h h2
  · exact absurd h h3
  · cases h with
    | ok hv => exact .inl ⟨_, _, rfl, rfl, hv.2.2.1, hv.1, hv.2.2.2⟩
    | ret ht =>
      obtain ⟨g1, _, x, g3, g4⟩ := ht
      exact .inr (.inl ⟨_, x, _, rfl, rfl, g3, g1, g4⟩)
    | brk hb => exact .inr (.inr (.inl ⟨rfl, rfl, hb.2.2, hb.1⟩))
    | cont hb => exact .inr (.inr (.inr (.inl ⟨rfl, rfl, hb.2.2, hb.1⟩)))
    | rt c => exact .inr (.inr (.inr (.inr (.inl ⟨c, rfl, rfl⟩))))
    | sem c => exact .inr (.inr (.inr (.inr (.inr ⟨c, rfl, rfl⟩))))

/-- the initial states are related (non-vacuity of `StRel`, for every number type): `startS` is the machine in
which `runProgram` starts the main body (module 0, script frame), `{}` the initial spec state -/
theorem start_states_related : StRel (ν := ν) initω 0 0 [] startS {} ∧ slot (startS (ν := ν)) = none :=
  ⟨stRel_start, slot_start⟩

/-- Programs: a program without imports, inputs and handlers whose body is a statement list of the fragment, run
by `Model.runProgram` from `initVM ()` and by `Spec.runProgram` from `{}` with the same fuel, ends with the same
result value (the result cell reads as the spec's value) and the same displayed lines, or with an error on both
sides (`FinalRel`; no claim when the spec is `unspecified` or a side is out of fuel). -/
theorem program_refines_spec (stmts : List Stmt) (hp : ∀ st ∈ stmts, PureStmt st) (n : Nat) :
    FinalRel (ν := ν) initω false (Model.runProgram (n+3) ⟨[], some (.mk [] (some stmts) [])⟩ [] (initVM ()))
      (Spec.runProgram (n+3) ⟨[], some (.mk [] (some stmts) [])⟩ [] {}) :=
  program_refines stmts hp n

/-- the same for any body run by `evalExecBlock` / `callBody` in related states (frame of a program or handler, not
of a method call) -/
theorem body_refines_spec (ω : Addr → Option (SVal ν)) (mid : Int) (D : Int) (ds : List Int) (s : VM ν) (σ : SState ν)
    (hrel : StRel ω mid D ds s σ) (hslot : slot s = none) (fr : Model.Frame) (rest : List Model.Frame)
    (hstack : s.stack = fr :: rest) (hct : (fr.callType == 2) = false)
    (stmts : List Stmt) (hp : ∀ st ∈ stmts, PureStmt st) (n : Nat) :
    FinalRel ω true (evalExecBlock (n+3) (some (.mk [] (some stmts) [])) [] s)
      (callBody (n+3) (some (.mk [] (some stmts) [])) [] none σ) :=
  body_refines hrel hslot fr rest hstack hct stmts hp n

/-! ### Non-vacuity: toy programs on the initial machine (numbers = the toy `Int` of Proofs/ToyNum.lean) -/

section examples
attribute [local instance] toyNumOps

private def idE (t : String) : Expr := .id ⟨0, t⟩
private def shows (es : List Expr) : Stmt := .expr (.call 0 (some ⟨0, "显示"⟩) es none)

/-- 令 d 为 假； 每当 真：｛ （显示：d）； 如果 d： 输出 7； d 为 真 ｝ — the 输出 is executed in the second pass -/
private def progRet : List Stmt :=
  [.varDecl 0 [(1, [⟨0, "d"⟩], idE "假")],
   .while 0 (idE "真") (some [
     shows [idE "d"],
     .branch 0 (idE "d") (some [.ret 0 (idE "7")]) [] false none,
     .expr (.assign 0 (.id ⟨0, "d"⟩) (idE "真"))]),
   shows [idE "d"]]

/-- 遍历 [1, 2] 以 x：｛ 遍历 [3, 4] 以 k，y：｛ 如果 y == 4： 结束循环； （显示：x，k，y） ｝ ｝； （显示：0） — the 结束循环
ends the inner loop only -/
private def progBreak : List Stmt :=
  [.iterate 0 (.arr 0 [idE "1", idE "2"]) [⟨0, "x"⟩] (some [
     .iterate 0 (.arr 0 [idE "3", idE "4"]) [⟨0, "k"⟩, ⟨0, "y"⟩] (some [
       .branch 0 (.logic 0 LogicEQ (idE "y") (idE "4")) (some [.break 0]) [] false none,
       shows [idE "x", idE "k", idE "y"]])]),
   shows [idE "0"]]

/-- membership in a literal list, case by case -/
local macro "each_mem " h:ident : tactic => `(tactic| (simp only [List.mem_cons, List.not_mem_nil, or_false] at $h:ident))

private theorem pure_shows (es : List Expr) (h : ∀ e ∈ es, PureExpr e ∧ TopScalar e) : PureStmt (shows es) :=
  .display 0 ⟨0, "显示"⟩ es rfl h

private theorem pure_progRet : ∀ st ∈ progRet, PureStmt st := by
  intro st hst
  unfold progRet at hst
  each_mem hst
  rcases hst with rfl | rfl | rfl
  · refine .varDecl _ _ fun p hp => ?_
    each_mem hp; subst hp; exact ⟨.id _, .id _⟩
  · refine .while _ _ _ (.id _) fun l hl st hst => ?_
    cases hl
    each_mem hst
    rcases hst with rfl | rfl | rfl
    · exact pure_shows _ fun e he => by each_mem he; subst he; exact ⟨.id _, .id _⟩
    · refine .branch _ _ _ _ _ _ (.id _) (fun l hl st hst => ?_) (fun _ h => by cases h) (fun _ h => by cases h)
        (fun _ h => by cases h)
      cases hl; each_mem hst; subst hst; exact .ret _ _ (.id _)
    · exact .assign _ _ _ (.id _) (.id _)
  · exact pure_shows _ fun e he => by each_mem he; subst he; exact ⟨.id _, .id _⟩

private theorem pure_progBreak : ∀ st ∈ progBreak, PureStmt st := by
  intro st hst
  unfold progBreak at hst
  each_mem hst
  rcases hst with rfl | rfl
  · refine .iterate _ _ _ _ (.arr _ _ fun e he => ?_) (by decide) fun l hl st hst => ?_
    · each_mem he; rcases he with rfl | rfl <;> exact ⟨.id _, .id _⟩
    · cases hl; each_mem hst; subst hst
      refine .iterate _ _ _ _ (.arr _ _ fun e he => ?_) (by decide) fun l hl st hst => ?_
      · each_mem he; rcases he with rfl | rfl <;> exact ⟨.id _, .id _⟩
      · cases hl; each_mem hst
        rcases hst with rfl | rfl
        · refine .branch _ _ _ _ _ _ (.logic _ _ _ _ (by decide) (.id _) (.id _)) (fun l hl st hst => ?_)
            (fun _ h => by cases h) (fun _ h => by cases h) (fun _ h => by cases h)
          cases hl; each_mem hst; subst hst; exact .break _
        · exact pure_shows _ fun e he => by
            each_mem he; rcases he with rfl | rfl | rfl <;> exact ⟨.id _, .id _⟩
  · exact pure_shows _ fun e he => by each_mem he; subst he; exact ⟨.id _, .id _⟩

/-- observables of a model run: the number the result cell holds (if it is a number), whether it is 空, the lines -/
private def modelRun (p : Res Addr × VM Int) : Option (Option Int × Bool × List String) :=
  match p with
  | (.ok a, s) => some ((match s.heap[a]? with | some (.num x) => some x | _ => none),
      (match s.heap[a]? with | some .null => true | _ => false), s.out)
  | _ => none
private def specRun (p : R Int (SVal Int) × SState Int) : Option (Option Int × Bool × List String) :=
  match p with
  | (.ok v, σ) => some ((match v with | .num x => some x | _ => none), (match v with | .null => true | _ => false), σ.out)
  | _ => none

-- the loop runs twice: `假` and `真` are displayed, the 输出 of the second pass ends the program with 7 and the
-- statement after the loop is not executed
example : modelRun (Model.runProgram 12 ⟨[], some (.mk [] (some progRet) [])⟩ [] (initVM ())) =
    some (some 7, false, ["真", "假"]) := by decide +kernel
example : specRun (Spec.runProgram 12 ⟨[], some (.mk [] (some progRet) [])⟩ [] {}) =
    some (some 7, false, ["真", "假"]) := by decide +kernel
-- … and that agreement is an instance of the theorem
example : FinalRel initω false (Model.runProgram 12 ⟨[], some (.mk [] (some progRet) [])⟩ [] (initVM ()))
    (Spec.runProgram 12 ⟨[], some (.mk [] (some progRet) [])⟩ [] ({} : SState Int)) :=
  program_refines_spec progRet pure_progRet 9

-- the inner 结束循环 ends only the inner loop: lines `1 1 3`, `2 1 3`, then `0`; the program's value is 空
example : modelRun (Model.runProgram 14 ⟨[], some (.mk [] (some progBreak) [])⟩ [] (initVM ())) =
    some (none, true, ["0", "2 1 3", "1 1 3"]) := by decide +kernel
example : specRun (Spec.runProgram 14 ⟨[], some (.mk [] (some progBreak) [])⟩ [] {}) =
    some (none, true, ["0", "2 1 3", "1 1 3"]) := by decide +kernel
example : FinalRel initω false (Model.runProgram 14 ⟨[], some (.mk [] (some progBreak) [])⟩ [] (initVM ()))
    (Spec.runProgram 14 ⟨[], some (.mk [] (some progBreak) [])⟩ [] ({} : SState Int)) :=
  program_refines_spec progBreak pure_progBreak 11

/-! ### why the fuel clause cannot be exact -/

/-- The exact fuel clause one would like: with the same fuel the model's statement runs out of fuel exactly when
the spec's does.  It does NOT hold, in either direction, for model and spec as written: the spec's `runStmts`
consumes a unit of fuel per block where the model's `stmtsLoop` does not, and the model's display call consumes
three units (`execDirectFunction`, `execFunction`, `display`) where the spec's `showV` has its own fuel.
`exec_fuel_exact_full_fails` refutes it with the display call at fuel 2; the `example` after it shows the other direction
(a block at fuel 3).  What is proved instead (`exec_refines_spec`): the outcomes
match whenever neither side is out of fuel, for every spec fuel `m ≤ n`; since an outcome other than out-of-fuel
does not depend on the fuel (model: `Proofs/ExprMono.lean` for expressions), this is the statement about all
terminating runs.  Missing for an exact clause: equal fuel accounting in Spec/Sem.lean (reported, not changed). -/
def exec_fuel_exact_full : Prop :=
  ∀ (μ : Type) [NumOps μ] (ω : Addr → Option (SVal μ)) (mid : Int) (n : Nat) (st : Stmt) (s : VM μ) (σ : SState μ)
    (D : Int) (ds : List Int), PureStmt st → StRel ω mid D ds s σ → slot s = none →
    ((evalStmt n st s).1 = .fuel ↔ (execS n st σ).1 = .fuel)

private def isFuelM {α} : Res α → Bool | .fuel => true | _ => false
private def isFuelS {α} : R Int α → Bool | .fuel => true | _ => false

/-- fuel 2, `（显示）`: the model is out of fuel inside the call, the spec displays an empty line -/
theorem exec_fuel_exact_full_fails : ¬ exec_fuel_exact_full := by
  intro h
  have h1 := h Int initω 0 2 (shows []) startS {} 0 [] (pure_shows [] fun _ h => by cases h) stRel_start slot_start
  have a1 : isFuelM (evalStmt 2 (shows []) (startS (ν := Int))).1 = true := by decide +kernel
  have a2 : isFuelS (execS 2 (shows []) ({} : SState Int)).1 = false := by decide +kernel
  have e1 : (evalStmt 2 (shows []) (startS (ν := Int))).1 = .fuel := by
    generalize (evalStmt 2 (shows []) (startS (ν := Int))).1 = r at a1
    cases r <;> simp [isFuelM] at a1 ⊢
  rw [h1.1 e1] at a2
  simp [isFuelS] at a2

-- the other direction: with fuel 3 the model completes `如果 真：｛ 空语句 ｝`, the spec is out of fuel in `runStmts`
example : isFuelM (evalStmt 3 (.branch 0 (idE "真") (some [.empty 0]) [] false none) (startS (ν := Int))).1 = false ∧
    isFuelS (execS 3 (.branch 0 (idE "真") (some [.empty 0]) [] false none) ({} : SState Int)).1 = true := by
  decide +kernel

end examples

end ZnVerif.Properties.C02
