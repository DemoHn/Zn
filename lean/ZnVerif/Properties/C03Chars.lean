/-
C03 at CHARACTER level — the lexer model composed with the parser round trip, for a canonical text rendering.

Spec (Spec/RenderChars.lean): `renderTokens : List RTok → List Nat` writes a list of items with layout instructions as text — every
token by its spelling (any keyword of the documented list, so either synonym; Chinese or ASCII punctuation; operator marks; plain
names and numbers over the name alphabet; names between back-ticks; text literals through C13's `encodeSafe`), tokens of a line
separated by exactly one space, a line started by `k` TABs and ended by LF.  `tokensOf` / `lineTable` / `layoutOf` are the token list
(with start and end indices) and the line table the rendering determines.

Theorems (no enumeration anywhere: induction, through the theorems about documents — last paragraph; the lexer is the well-founded
model of Model/Lexer.lean, no fuel but the token count):
 * `lex_rendered`            — `lexAll` on the text answers exactly `tokensOf rts` then EOF, no error, and leaves exactly `lineTable rts`
                               as `Lexer.Lines` (start index, indentation AND `LineText` slice of every line);
 * `rendered_in_order`       — those tokens are in reading order against that layout (`Layout.InOrder`);
 * `parse_source_is_laid_out`— for EVERY fuel and every parser variant, `Parser.Parse` on the text (parser model driven by the lexer
                               model, line table as known so far) answers what the parser model answers on `tokensOf rts` read against
                               `layoutOf rts` — trees, syntax errors, panics, out-of-fuel alike (simulation through all 45 productions:
                               Proofs/ParserSim*.lean, Proofs/LexSim*.lean; lexer side: Proofs/RenderGap*.lean);
 * `parse_render_canonical`  — composition with `parse_statements_roundtrip`: if the rendered tokens render the program `p`
                               (`LinProgram`) under the layout the rendering determines, the text parses to exactly `p` — same tree, same
                               line numbers — for every fuel from `16 * tokens + 52` on.
All four are corollaries of the theorems about documents with free layout (Properties/C03Layouts.lean: `lex_rendered_doc`,
`doc_in_order`, `parse_doc_is_laid_out`, `parse_render_doc_plain`): a canonical rendering is the document `renderDoc .tab k₀ (tok :: ofRToks …)`
(Proofs/RenderGapEmbed.lean).  What is still open is said at `parse_render_layouts_full` (Properties/C03Layouts.lean).
-/
import ZnVerif.Proofs.RenderGapEmbed
import ZnVerif.Properties.C03Layouts

namespace ZnVerif.Properties.C03
open ZnVerif.Model ZnVerif.Model.Parser ZnVerif.Generated.Tokens ZnVerif.Generated.ParserTables
open ZnVerif.Spec.StmtSyntax ZnVerif.Spec.RenderChars
open ZnVerif.Proofs.RenderLex

/-- a canonical rendering is a document (`docOf`): same text, same tokens (none a comment), same layout, and well-formed -/
theorem canonical_is_doc (rts : List RTok) (hwf : WF rts) :
    renderTokens rts = renderDoc .tab (docOf rts).1 (docOf rts).2 ∧ tokensOf rts = docTokens .tab (docOf rts).1 (docOf rts).2 ∧
    layoutOf rts = docLayout .tab (docOf rts).1 (docOf rts).2 ∧ DocWF .tab (docOf rts).1 (docOf rts).2 ∧
    tokCount (docOf rts).2 = rts.length ∧ ∀ t ∈ tokensOf rts, t.type ≠ cTypeComment := by
  obtain ⟨⟨r0, rs, k0, rfl, hk⟩, hw⟩ := hwf
  have hd : docOf (r0 :: rs) = (k0, .tok r0.item :: ofRToks rs) := by simp [docOf, hk]
  rw [hd]
  refine ⟨renderTokens_eq r0 rs k0 hk, tokensOf_eq r0 rs k0 hk, ?_, docWF_of_WF r0 rs k0 hw, by simp [tokCount, tokCount_ofRToks],
    fun t ht => (toksFrom_item_types _ true 0 hw t ht).2⟩
  show (⟨_, _, _⟩ : Layout) = ⟨_, _, _⟩
  congr 1
  · rw [lineTable_eq r0 rs k0 hk]
  · rw [renderTokens_eq r0 rs k0 hk]

/-- **lex_rendered**: the lexer model on the canonical text of a well-formed token list answers exactly the rendered tokens — types,
literals, start and end indices — then EOF at the end of the text, without error; and the line table it leaves is exactly the one
the rendering determines (every physical line: start index, number of TABs, `LineText` from after the TABs to the line feed; last
the empty line after the final LF).  Any token budget from `tokens + 2` on. -/
theorem lex_rendered (rts : List RTok) (hwf : WF rts) (fuel : Nat) (hf : rts.length + 2 ≤ fuel) :
    (lexAll fuel (mkLexer (renderTokens rts)) []).1 = tokensOf rts ++ [(layoutOf rts).eof] ∧
    (lexAll fuel (mkLexer (renderTokens rts)) []).2.1 = some (.ok ()) ∧
    (lexAll fuel (mkLexer (renderTokens rts)) []).2.2.lines = (layoutOf rts).lines := by
  obtain ⟨h1, h2, h3, h4, h5, _⟩ := canonical_is_doc rts hwf
  rw [h1, h2, h3]
  exact lex_rendered_doc .tab _ _ h4 fuel (by omega)

/-- **rendered_in_order**: the rendered tokens come in reading order against the layout the rendering determines (and none is a
comment) — the side condition `Layout.InOrder` of `parse_statements_roundtrip` always holds of a rendering. -/
theorem rendered_in_order (rts : List RTok) (hwf : WF rts) : (layoutOf rts).InOrder (tokensOf rts) := by
  obtain ⟨_, h2, h3, h4, _, h6⟩ := canonical_is_doc rts hwf
  have := doc_in_order .tab _ _ h4
  rw [← h2, ← h3, clean_of_no_comment h6] at this
  exact this

/-- **parse_source_is_laid_out**: on the canonical text, the parser model driven by the lexer model is the parser model on the
rendered token list read against the rendered layout — whatever the answer, for every fuel and every variant of the parser. -/
theorem parse_source_is_laid_out (v : Variant) (rts : List RTok) (hwf : WF rts) (n : Nat) :
    parseSource v n (renderTokens rts) = parseLaidOut v (layoutOf rts) n (tokensOf rts) := by
  obtain ⟨h1, h2, h3, h4, _, _⟩ := canonical_is_doc rts hwf
  rw [h1, h2, h3]
  exact parse_doc_is_laid_out v .tab _ _ h4 n

/-- **parse_render_canonical**: for every program `p` and every well-formed rendered token list whose tokens render `p`
(`LinProgram`: the rendering relation of Spec/StmtSyntax, with the lines the parser stores) under the layout the rendering
determines, parsing the canonical TEXT yields exactly `p` — the same tree with the same line numbers — for every fuel from
`16 * tokens + 52` on; for the repaired parser and the pinned one alike.  (Corollary of `parse_render_doc_plain`.) -/
theorem parse_render_canonical (v : Variant) {p : Program} (rts : List RTok) (hwf : WF rts)
    (h : LinProgram (layoutOf rts) p (tokensOf rts)) (n : Nat) (hn : 16 * rts.length + 52 ≤ n) :
    parseSource v n (renderTokens rts) = .tree p := by
  obtain ⟨h1, h2, h3, h4, h5, h6⟩ := canonical_is_doc rts hwf
  rw [h1]
  rw [h2, h3] at h
  exact parse_render_doc_plain v .tab _ _ h4 (h2 ▸ h6) h n (by rw [h5]; exact hn)

/-- the text determines the tree: two programs rendered by the same canonical text are equal -/
theorem canonical_text_unambiguous {p p' : Program} (rts : List RTok) (hwf : WF rts)
    (h : LinProgram (layoutOf rts) p (tokensOf rts)) (h' : LinProgram (layoutOf rts) p' (tokensOf rts)) : p = p' :=
  rendering_unambiguous h h' (rendered_in_order rts hwf)

-- non-vacuity: a five-line program with a nested block, as TEXT

namespace CharsExample
open ZnVerif.Proofs.StmtRT

/-- the text, spelled out: a declaration, a loop whose block (one TAB) holds two statements, an expression statement -/
def exText : String := "令 甲 设为 乙\n每当 甲 ：\n\t输出 甲\n\t结束循环\n甲 + 乙\n"

/-- the same as items with layout instructions -/
def exRts : List RTok := [
  ⟨.kw [0x4EE4] 40, some 0⟩, ⟨.name [0x7532], none⟩, ⟨.kw [0x8BBE, 0x4E3A] 49, none⟩, ⟨.name [0x4E59], none⟩,
  ⟨.kw [0x6BCF, 0x5F53] 60, some 0⟩, ⟨.name [0x7532], none⟩, ⟨.punct 0xFF1A 13, none⟩,
  ⟨.kw [0x8F93, 0x51FA] 48, some 1⟩, ⟨.name [0x7532], none⟩,
  ⟨.kw [0x7ED3, 0x675F, 0x5FAA, 0x73AF] 81, some 1⟩,
  ⟨.name [0x7532], some 0⟩, ⟨.op [0x2B] cTypePlus, none⟩, ⟨.name [0x4E59], none⟩]

/-- the canonical rendering of the items IS the text -/
theorem exText_rendered : renderTokens exRts = exText.toList.map Char.toNat := by decide +kernel

theorem exRts_wf : WF exRts := by decide +kernel

/-- the layout the rendering determines: six physical lines (the last one empty), 34 characters -/
abbrev exY : Layout := layoutOf exRts

example : exY.lines = #[closedLine 0 0 8, closedLine 9 0 15, closedLine 16 1 21, closedLine 22 1 27, closedLine 28 0 33,
    closedLine 34 0 34] ∧ exY.eofIdx = 34 := by decide

private def tk (ty : Nat) (a b : Nat) (lit : List Nat := []) : Token := { type := ty, literal := lit, startIdx := a, endIdx := b }

-- 令 甲 设为 乙
private def a1 := tk cTypeDeclareW 0 1
private def a2 := tk cTypeIdentifier 2 3 [0x7532]
private def a3 := tk cTypeAssignW 4 6
private def a4 := tk cTypeIdentifier 7 8 [0x4E59]
-- 每当 甲 ：
private def b1 := tk cTypeWhileLoopW 9 11
private def b2 := tk cTypeIdentifier 12 13 [0x7532]
private def b3 := tk cTypeFuncCall 14 15
-- ⇥输出 甲
private def c1 := tk cTypeReturnW 17 19
private def c2 := tk cTypeIdentifier 20 21 [0x7532]
-- ⇥结束循环
private def d1 := tk cTypeBreakW 23 27
-- 甲 + 乙
private def e1 := tk cTypeIdentifier 28 29 [0x7532]
private def e2 := tk cTypePlus 30 31
private def e3 := tk cTypeIdentifier 32 33 [0x4E59]

/-- the rendered tokens, with the positions they have in the text -/
theorem exTokens_eq : tokensOf exRts = [a1, a2, a3, a4, b1, b2, b3, c1, c2, d1, e1, e2, e3] := by decide

private def idE (t : Token) : Expr := .id (exY.idOf t)

/-- the tree: a declaration on line 0, a loop on line 1 whose block holds the statements of lines 2 and 3, an expression on line 4 -/
def exProgram : Program :=
  { imports := [],
    exec := some (.mk [] (some
      [.varDecl (exY.sl a1) [(vdTypeOf a3, [exY.idOf a2], idE a4)],
       .while (exY.sl b1) (idE b2) (some [.ret (exY.sl c1) (idE c2), .break (exY.sl d1)]),
       .expr (.arith (exY.sl e2) (lookupD addSubOverride e2.type addSubDefault) (idE e1) (idE e3))]) []) }

/-- the rendered tokens render that program under the layout the rendering determines -/
theorem exProgram_rendered : LinProgram exY exProgram (tokensOf exRts) := by
  rw [exTokens_eq]
  exact prog5_rendered (Y := exY) (by decide)

/-- … so `parse_render_canonical` applies to the TEXT: the parser model driven by the lexer model returns exactly that tree, the
repaired parser and the pinned one alike -/
theorem exParsed (v : Variant) : parseSource v 300 (exText.toList.map Char.toNat) = .tree exProgram := by
  rw [← exText_rendered]
  exact parse_render_canonical v exRts exRts_wf exProgram_rendered 300 (by decide)

example : parseSource Variant.fixed 300 (exText.toList.map Char.toNat) = .tree exProgram := exParsed _
example : parseSource Variant.legacy 300 (exText.toList.map Char.toNat) = .tree exProgram := exParsed _

set_option maxRecDepth 100000 in
/-- the tree, with the line numbers spelled out -/
example : (match parseSource Variant.fixed 300 (exText.toList.map Char.toNat) with
    | .tree ⟨[], some (.mk [] (some
        [.varDecl 0 [(1, [⟨0, _⟩], .id ⟨0, _⟩)],
         .while 1 (.id ⟨1, _⟩) (some [.ret 2 (.id ⟨2, _⟩), .break 3]),
         .expr (.arith 4 12 (.id ⟨4, _⟩) (.id ⟨4, _⟩))]) [])⟩ => true
    | _ => false) = true := by rw [exParsed]; decide

/-- `lex_rendered` on the example: 13 tokens then EOF at 34, six lines -/
theorem exLexed : (lexAll 20 (mkLexer (exText.toList.map Char.toNat)) []).1 = tokensOf exRts ++ [exY.eof] ∧
    (lexAll 20 (mkLexer (exText.toList.map Char.toNat)) []).2.2.lines = exY.lines := by
  rw [← exText_rendered]
  exact ⟨(lex_rendered exRts exRts_wf 20 (by decide)).1, (lex_rendered exRts exRts_wf 20 (by decide)).2.2⟩

set_option maxRecDepth 100000 in
example : (lexAll 20 (mkLexer (exText.toList.map Char.toNat)) []).1 = tokensOf exRts ++ [exY.eof] ∧
    (lexAll 20 (mkLexer (exText.toList.map Char.toNat)) []).2.2.lines = exY.lines := exLexed
set_option maxRecDepth 100000 in
example : (lexAll 20 (mkLexer (exText.toList.map Char.toNat)) []).1.length = 14 ∧
    (lexAll 20 (mkLexer (exText.toList.map Char.toNat)) []).2.2.lines.size = 6 := by
  rw [exLexed.1, exLexed.2]; decide

/-- the layout matters at character level too: the same text with the TAB of line 3 removed puts 结束循环 after the loop (by
evaluation of lexer model + parser model in the kernel: the well-founded loops of the lexer reduce there) -/
example : (match parseSource Variant.fixed 300 ("令 甲 设为 乙\n每当 甲 ：\n\t输出 甲\n结束循环\n甲 + 乙\n".toList.map Char.toNat) with
    | .tree ⟨[], some (.mk [] (some [.varDecl .., .while 1 _ (some [.ret 2 _]), .break 3, .expr _]) [])⟩ => true
    | _ => false) = true := by decide +kernel

end CharsExample

end ZnVerif.Properties.C03
