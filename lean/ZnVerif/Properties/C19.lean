/-
C19 — JSON generation and parsing are faithful inverses.  Property theorems only; helper lemmas live in
ZnVerif/Proofs/Json.lean (reference codec) and ZnVerif/Proofs/JsonZn.lean (Zn values, UTF-8, AppendKVPair).

Model: ZnVerif/Model/Json.lean — pkg/common/elem2json.go and stdlib/json/json.go as repaired by commit ce84fc2 of the
repository, `encoding/json` as the reference RFC 8259 codec (`refPrint`, `refParse`), numbers
abstract (`NumCodec ν`).  The only thing assumed of numbers is `NumCodec.Lawful` (a finite number is written as an RFC
8259 number that reads back as itself); it is a hypothesis `hC` of the theorems below, never an axiom, and `toyCodec`
shows it is satisfiable.

Every theorem quantifies over all values / all texts / all nesting depths / all printing styles: the proofs are
structural inductions over values and texts, nothing is enumerated.
-/
import ZnVerif.Proofs.JsonZn

namespace ZnVerif.Properties.C19
open ZnVerif.Model.Json ZnVerif.Proofs.Json

variable {ν : Type}

/-! ### a lawful number codec exists (non-vacuity of `hC`) -/

/-- five numbers, one of them not finite -/
inductive Toy where
  | zero | one | half | minusOne | inf
  deriving DecidableEq, Repr

def toyCodec : NumCodec Toy where
  isFinite x := x != .inf
  fmtNum
    | .zero => [0x30]
    | .one => [0x31]
    | .half => [0x30, 0x2E, 0x35]
    | .minusOne => [0x2D, 0x31]
    | .inf => [0x2B, 0x49, 0x6E, 0x66]
  parseNum t :=
    if t = [0x30] then some .zero else if t = [0x31] then some .one else if t = [0x30, 0x2E, 0x35] then some .half
    else if t = [0x2D, 0x31] then some .minusOne else none
  ofInt i := if i = 1 then .one else if i = -1 then .minusOne else .zero

theorem toyCodec_lawful : toyCodec.Lawful where
  token := by intro x hx; cases x <;> first | rfl | exact absurd hx (by decide)
  roundtrip := by intro x hx; cases x <;> first | rfl | exact absurd hx (by decide)

/-- **Reference codec round trip.**  Whatever plain value `p` (any nesting, any strings, duplicate keys included) with
finite numbers, and whatever style a conforming generator writes it in — each character of each string spelt literally,
as a two-character escape, as `\uXXXX` in either case or as a surrogate pair, white space at every place the grammar
allows it — the reference parser reads exactly `p` back, with object members in document order.  (Keys need not be
distinct: plain objects keep every member.) -/
theorem ref_codec_roundtrip (C : NumCodec ν) (hC : C.Lawful) (st : Style) (hst : StyleOk st) (p : PV ν)
    (hfin : p.finite C = true) (d : Nat) (hd : p.depth ≤ d) :
    refParse C d (refPrint C st p) = .ok p :=
  refParse_refPrint C hC st hst p hfin d hd

/-- Python's `ensure_ascii` spelling with `", "` / `": "` separators, as one more style -/
def asciiSpaced : Style :=
  { esc := fun c => if c = 0x22 ∨ c = 0x5C ∨ c = 0x0A then .short
                    else if c < 0x20 ∨ (0x7F ≤ c ∧ c < 0x110000 ∧ isSurrogate c = false) then .uni true else .lit,
    afterComma := [0x20], afterColon := [0x20], outerTrail := [0x0A] }

theorem asciiSpaced_ok : StyleOk asciiSpaced := by
  refine ⟨?_, rfl, rfl, rfl, rfl, rfl, rfl, rfl, rfl, rfl⟩
  intro c
  simp only [asciiSpaced]
  split
  · rename_i h; rcases h with h | h | h <;> subst h <;> decide
  · split
    · rename_i h1 h2
      simp only [formOk, Bool.and_eq_true, decide_eq_true_eq, Bool.not_eq_true']
      simp only [isSurrogate, decide_eq_false_iff_not] at h2 ⊢
      omega
    · rename_i h1 h2
      simp only [formOk, decide_eq_true_eq]
      omega

-- non-vacuity: `{"k\n": [0.5, "é😀\u0001", {}], "k\n": null}` (a repeated key) in a style with escapes and white space, hypotheses by evaluation
example : refParse toyCodec 3 (refPrint toyCodec asciiSpaced
      (.obj [([0x6B, 0x0A], .arr [.num .half, .str [0xE9, 0x1F600, 0x01], .obj []]), ([0x6B, 0x0A], .null)]))
    = .ok (.obj [([0x6B, 0x0A], .arr [.num .half, .str [0xE9, 0x1F600, 0x01], .obj []]), ([0x6B, 0x0A], .null)]) :=
  ref_codec_roundtrip toyCodec toyCodec_lawful asciiSpaced asciiSpaced_ok _ (by decide) 3 (by decide)

example : refPrint toyCodec asciiSpaced (.obj [([0x6B, 0x0A], .arr [.num .half, .str [0xE9, 0x1F600, 0x01]])])
    = "{\"k\\n\": [0.5, \"\\u00E9\\uD83D\\uDE00\\u0001\"]}\n".toList.map Char.toNat := by decide

/-- the depth bound is sharp: one level more than allowed is an error, not a value -/
example : refParse toyCodec 1 (refPrint toyCodec goStyle (.arr [.arr []])) = .error .depth := rfl

/-- **Round trip.**  For every JSON-representable dictionary `d` (texts and keys of Unicode scalar values, finite
numbers, only texts / numbers / booleans / 空 / lists / dictionaries inside, distinct keys in every dictionary, nesting
within the parser's bound), `生成JSON` yields a text `t` and `解析JSON(t)` yields `d` itself — equal as a tree, hence
`为 d`, and with every dictionary's keys in the same order. -/
theorem zn_json_roundtrip (C : NumCodec ν) (hC : C.Lawful) (kvs : List (Text × JV ν))
    (h : Representable C (.dict kvs) = true) :
    ∃ t, FN_generateJson C [.dict kvs] = .ok (.str t) ∧ FN_parseJson C [.str t] = .ok (.dict kvs) := by
  simp only [Representable, Bool.and_eq_true, decide_eq_true_eq] at h
  obtain ⟨⟨⟨⟨hno, hkd⟩, hsc⟩, hfin⟩, hdep⟩ := h
  have hrt := refParse_refPrint C hC goStyle goStyle_ok _ hfin maxJSONNestingDepth hdep
  have hb := build_roundtrip C (.dict kvs) hno hkd
  refine ⟨_, generateJson_dict C hC kvs hsc hfin, ?_⟩
  rw [refPrint_goStyle] at hrt
  rw [parseJson_eq]
  simp only []
  rw [jsonBytesToElement_eq, unmarshalPlainValue, utf8_decode_encode _ (print_scalar C hC goStyle goStyle_ok _ hsc hfin), hrt]
  simpa only [buildPlainValueFromElement, PV.toPlain, buildElementFromPlainValue] using congrArg Outcome.ok hb

-- non-vacuity: 【"b" = 【0.5, 【】, "<é\n😀"】, "a" = 【"" = 空, "k" = 真】, "" = -1】 is representable
example : Representable toyCodec (.dict [([0x62], .list [.num .half, .list [], .str [0x3C, 0xE9, 0x0A, 0x1F600]]),
    ([0x61], .dict [([], .null), ([0x6B], .bool true)]), ([], .num .minusOne)]) = true := by decide

/-- **Generated JSON follows insertion order.**  For every dictionary with finite numbers and proper texts (anything
else inside it allowed — other kinds of value are written as `null`, keys need not be distinct), the generated text,
read by the reference parser at any sufficient depth bound, is an object whose keys are the dictionary's keys in their
insertion order (`GetKeyOrder()`).  (The proof shows more than is stated: the members are `buildPlainM` of the dictionary's.) -/
theorem generate_follows_insertion_order (C : NumCodec ν) (hC : C.Lawful) (kvs : List (Text × JV ν))
    (hsc : (buildPlainValueFromElement (.dict kvs)).scalarTexts = true)
    (hfin : (buildPlainValueFromElement (.dict kvs)).finite C = true) :
    ∃ t, FN_generateJson C [.dict kvs] = .ok (.str t) ∧
      ∀ d, (buildPlainValueFromElement (.dict kvs)).depth ≤ d →
        ∃ ms, refParse C d t = .ok (.obj ms) ∧ keysOf ms = keysOf kvs := by
  refine ⟨_, generateJson_dict C hC kvs hsc hfin, fun d hd => ?_⟩
  have hrt := refParse_refPrint C hC goStyle goStyle_ok _ hfin d hd
  rw [refPrint_goStyle] at hrt
  exact ⟨buildPlainM kvs, by simpa [buildPlainValueFromElement] using hrt, keysOf_buildPlainM kvs⟩

-- non-vacuity: keys z, a, m stay in that order (a sorted encoder would give a, m, z); a function value inside
example : (buildPlainValueFromElement (JV.dict [([0x7A], .num Toy.one), ([0x61], .other 7), ([0x6D], .list [])])).scalarTexts
    = true ∧ (buildPlainValueFromElement (JV.dict [([0x7A], .num Toy.one), ([0x61], .other 7), ([0x6D], .list [])])).finite
      toyCodec = true := by decide
example : marshalElement toyCodec (.dict [([0x7A], .num .one), ([0x61], .other 7), ([0x6D], .list [])])
    = .ok ("{\"z\":1,\"a\":null,\"m\":[]}".toList.map Char.toNat) := rfl

/-- **Parsed JSON follows document order.**  Whenever the text of `解析JSON` is a JSON object with members `ms` (in
document order, as the decoder's token stream delivers them), the result is a dictionary whose keys are the members'
keys in order of first occurrence, and whose value under each key is the value of the *last* member with that key —
independent of any map iteration order: the model has no order oracle. -/
theorem parse_follows_document_order (C : NumCodec ν) (s : Text) (ms : List (Text × PV ν))
    (h : unmarshalPlainValue C (utf8Encode s) = .ok (.obj ms)) :
    ∃ kvs, FN_parseJson C [.str s] = .ok (.dict kvs) ∧ keysOf kvs = firstOccurrences (keysOf ms) ∧
      ∀ k, getV kvs k = (lastValue ms k).map (fun v => buildElementFromPlainValue C v.toPlain) := by
  refine ⟨appendAll [] (buildElemM C (toPlainM ms)), ?_, ?_, ?_⟩
  · rw [parseJson_eq]; simp only []; rw [jsonBytesToElement_eq, h]
  · rw [keysOf_appendAll_nil, buildElemM_map]
    simp [keysOf, List.map_map, Function.comp_def]
  · intro k
    rw [getV_appendAll_nil, buildElemM_map]
    exact lastValue_map (fun v : PV ν => buildElementFromPlainValue C v.toPlain) ms k

-- non-vacuity: members b, a, b again — key order b, a; the last value of b wins
example : firstOccurrences (keysOf [([0x62], (PV.num Toy.one)), ([0x61], .null), ([0x62], .bool true)]) = [[0x62], [0x61]]
    ∧ lastValue [([0x62], (PV.num Toy.one)), ([0x61], .null), ([0x62], .bool true)] [0x62] = some (.bool true) := by
  constructor <;> rfl
example : refParse toyCodec maxJSONNestingDepth ("{\"b\":1,\"a\":null,\"b\":true}".toList.map Char.toNat)
    = .ok (.obj [([0x62], .num .one), ([0x61], .null), ([0x62], .bool true)]) := rfl

/-- **A non-finite number raises a catchable exception.**  If any number anywhere inside the dictionary is not finite,
`生成JSON` ends in `raise 异常` (a `*value.Exception` signal, the class `拦截异常` matches): no text, no panic. -/
theorem non_finite_raises_catchable (C : NumCodec ν) (kvs : List (Text × JV ν))
    (h : (buildPlainValueFromElement (.dict kvs)).finite C = false) :
    FN_generateJson C [.dict kvs] = .raise exceptionClass := by
  rw [generateJson_eq]
  simp only [elementToJSONString, marshalElement, write_nonfinite C _ h]

example : (buildPlainValueFromElement (JV.dict [([0x61], .list [.num Toy.one, .dict [([0x62], .num Toy.inf)]])])).finite
    toyCodec = false := by decide

/-- **Malformed JSON raises a catchable exception.**  Whenever the text is not a JSON object for the decoder —
malformed, a number outside the float64 range, nested too deep, trailing data, or a well-formed value that is not an
object — `解析JSON` ends in `raise 异常`: never a value, never a panic. -/
theorem malformed_raises_catchable (C : NumCodec ν) (s : Text)
    (h : ∀ ms, unmarshalPlainValue C (utf8Encode s) ≠ .ok (.obj ms)) :
    FN_parseJson C [.str s] = .raise exceptionClass := by
  rw [parseJson_eq]
  simp only []
  rw [jsonBytesToElement_eq]
  split
  · exact absurd ‹_› (h _)
  · rfl

-- non-vacuity: `{"a":1,}`, `{"a":01}`, `{"a":"\x"}`, `{"a":tru}`, `{"a":1}x`, the empty text
example : refParse toyCodec maxJSONNestingDepth ("{\"a\":1,}".toList.map Char.toNat) = .error .badChar := rfl
example : refParse toyCodec maxJSONNestingDepth ("{\"a\":01}".toList.map Char.toNat) = .error .badNumber := rfl
example : refParse toyCodec maxJSONNestingDepth ("{\"a\":\"\\x\"}".toList.map Char.toNat) = .error .badEscape := rfl
example : refParse toyCodec maxJSONNestingDepth ("{\"a\":tru}".toList.map Char.toNat) = .error .badLiteral := rfl
example : refParse toyCodec maxJSONNestingDepth ("{\"a\":1}x".toList.map Char.toNat) = .error .trailing := rfl
example : refParse toyCodec maxJSONNestingDepth [] = .error .eof := rfl
/-- a number the codec cannot represent (here: any but the four toy numbers; for float64: `1e400`) is an error too -/
example : refParse toyCodec maxJSONNestingDepth ("{\"a\":1e400}".toList.map Char.toNat) = .error .numberRange := rfl

/-- **The top-level value must be an object.**  A well-formed JSON text whose value is a list, a text, a number, a
boolean or `null` raises 异常 … -/
theorem top_level_must_be_object (C : NumCodec ν) (s : Text) (p : PV ν)
    (hp : unmarshalPlainValue C (utf8Encode s) = .ok p) (hno : ∀ ms, p ≠ .obj ms) :
    FN_parseJson C [.str s] = .raise exceptionClass :=
  malformed_raises_catchable C s (by intro ms h; rw [hp] at h; cases h; exact hno ms rfl)

/-- … and whatever `解析JSON` returns is a dictionary. -/
theorem parse_yields_dictionary (C : NumCodec ν) (values : List (JV ν)) (v : JV ν)
    (h : FN_parseJson C values = .ok v) : ∃ kvs, v = .dict kvs := by
  rw [parseJson_eq] at h
  split at h
  · rw [jsonBytesToElement_eq] at h
    split at h <;> cases h
    exact ⟨_, rfl⟩
  all_goals cases h

example : refParse toyCodec maxJSONNestingDepth ("[1]".toList.map Char.toNat) = .ok (.arr [.num .one]) := rfl
example : refParse toyCodec maxJSONNestingDepth ("null".toList.map Char.toNat) = .ok .null := rfl

/-- **Neither function can panic**: the type assertions `values[0].(*value.String)` / `values[0].(*value.HashMap)` are
guarded by `ValidateExactParams`; a wrong argument list is runtime error 53 (count) or 82 (kind). -/
theorem json_functions_never_panic (C : NumCodec ν) (values : List (JV ν)) :
    FN_parseJson C values ≠ .panic ∧ FN_generateJson C values ≠ .panic := by
  rw [parseJson_eq, generateJson_eq]
  constructor <;> split <;> intro h <;> try cases h
  · rw [jsonBytesToElement_eq] at h; split at h <;> cases h
  · unfold elementToJSONString at h; split at h <;> cases h

/-- `（解析JSON：1）`, `（生成JSON：【1】）`, a missing or a second argument: runtime errors 82 / 53, no panic -/
example : FN_parseJson toyCodec [.num .one] = .rtError 82 ∧ FN_generateJson toyCodec [.list [.num .one]] = .rtError 82
    ∧ FN_parseJson toyCodec [] = .rtError 53 ∧ FN_generateJson toyCodec [.dict [], .dict []] = .rtError 53 := by
  refine ⟨rfl, rfl, rfl, rfl⟩

/-- **An empty list is an array.**  `【】` is written as `[]`, which every JSON reader reads as an empty array, not as
`null` — on its own (`ElementToJSONString`, HTTP bodies) and anywhere inside a dictionary (by `zn_json_roundtrip`). -/
theorem empty_list_is_array (C : NumCodec ν) (d : Nat) (hd : 1 ≤ d) :
    marshalElement C (.list []) = .ok [0x5B, 0x5D] ∧ refParse C d [0x5B, 0x5D] = .ok (.arr []) ∧
      ∀ k, marshalElement C (.dict [(k, .list [])]) = .ok (0x7B :: printStr goStyle k ++ [0x3A, 0x5B, 0x5D, 0x7D]) := by
  obtain ⟨d, rfl⟩ := succ_of_pos hd
  refine ⟨rfl, ?_, ?_⟩
  · simp [refParse, parse, skipWs, isWs]
  · intro k
    simp [marshalElement, buildPlainValueFromElement, buildPlainM, buildPlainL, writePlainValue, writeMembers, writeElems]

example : Representable toyCodec (.dict [([0x61], .list [])]) = true := by decide

end ZnVerif.Properties.C19
