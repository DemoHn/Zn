/-
C07 — the regenerated tie of the copy discipline.

Properties/C07.lean proves, on `Model/Interp.lean`, that 令 / = / element assignment / loop variables / object defaults /
the list and dictionary mutators store COPIES (`Model.dup`).  WHERE the Go code calls `value.DuplicateValue` is
regenerated from the working tree on every run (`Generated/CopySites.lean`: enclosing function, ordinal, the copied
expression, the statement the copy flows into, guards) and compared here with the list of the model's copy sites
(`Proofs/EvalSites.lean`).  Dropping one DuplicateValue — the realistic regression, invisible to the repository's tests —
makes `copy_sites_all_modelled` fail: a broken obligation of C07.
-/
import ZnVerif.Proofs.EvalSites

namespace ZnVerif.Properties.C07Sites
open ZnVerif ZnVerif.Generated ZnVerif.Proofs.EvalSites

/-- Every call of value.DuplicateValue in pkg/exec, pkg/runtime and pkg/value is a copy site of the model (`dup` in
evalExpr `.assign`, evalStmt `.varDecl` / `.iterate`, evalClassDecl, construct, builtinMethod 后增 前增 新增 合并 写入, and
dup's own recursion), with the same copied expression and destination, and the model has no copy site the code lacks. -/
theorem copy_sites_all_modelled : CopySites.copySites = modelledCopySites.map (·.site) := rfl

/-- all of them are mirrored inside the evaluator model -/
theorem copy_sites_in_evaluator_model : ∀ m ∈ modelledCopySites, m.mirror.inEvaluatorModel = true := by decide +kernel

/-- the scan saw the sources, and DuplicateValue is never passed around as a function value (which would hide a call) -/
theorem copy_inventory_nonempty :
    CopySites.copySites.length ≥ 12 ∧ ∀ s ∈ CopySites.copySites, s.arg ≠ "(function value)" := by decide +kernel

end ZnVerif.Properties.C07Sites
