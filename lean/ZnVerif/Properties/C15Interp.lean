/-
C15 on the evaluator model (`Model/Interp.lean`: `evalImport`, `execAnotherModule`, `loadModule`, `evalProgram`,
`runProgramWith` — eval.go `evalImportStmt` / `execAnotherModule` / `evalProgram` as written, with the VM of the
evaluator: heap, scopes per module, call stack, module table, dependency graph).

Every theorem quantifies over all file tables, library tables, programs, fuels and — except the whole-run
statements — machine states.  Helper lemmas: `Proofs/LoaderPres.lean` (every relation the evaluator keeps is kept by
the loader), `Proofs/LoaderInv.lean` (`ModKept`: the module table only grows, names are kept and stay distinct),
`Proofs/LoaderRun.lean` (what `allocateModule`, `checkDependency` and the branches of `evalImport` write), `Proofs/LoaderConst.lean`
(names bound as constants reject assignment), `Proofs/LoaderBridge.lean` (the translation of the abstract loader's source fragment, for
the bridge instances at the end).
-/
import ZnVerif.Proofs.LoaderRun
import ZnVerif.Proofs.LoaderConst
import ZnVerif.Proofs.LoaderBridge
import ZnVerif.Properties.C15
import ZnVerif.Proofs.Toy
set_option linter.unusedSectionVars false

namespace ZnVerif.Properties.C15Interp
open ZnVerif.Model ZnVerif.Proofs.Balance ZnVerif.Proofs.Calls

variable {ν : Type} [NumOps ν]

/-- the machine after `vm.SetCurrentLine(node.GetCurrentLine())` of an import statement -/
def atImport (im : Import) (s : VM ν) : VM ν :=
  (setTopFrame (fun fr => { fr with line := im.line, started := true }) s).2

theorem atImport_state (im : Import) (s : VM ν) :
    atImport im s = { s with stack := (setTopFrame (fun fr => { fr with line := im.line, started := true }) s).2.stack } :=
  setTopFrame_state _ s

theorem atImport_find (im : Import) (name : String) (s : VM ν) :
    findModuleByName name (atImport im s) = findModuleByName name s :=
  (congrArg (findModuleByName name) (atImport_state im s) :)

/-! ## a missing module is error 60, a missing library error 64 -/

/-- 导入“name” where `name` is not a valid module path, or no file stands at its path, and no module of that name has been
allocated: error 60, raised at the line of the statement; nothing is allocated, nothing runs, nothing is displayed. -/
theorem interp_missing_module_60 (files : FileTable) (libs : LibTable) (fuel k : Nat) (im : Import) (name : String)
    (s : VM ν) (hn : im.name = some name) (hstd : isStdName name = false) (hfresh : findModuleByName name s = none)
    (hfile : ∀ path, modulePath name = some path → lookup path files = none) :
    evalImport libs (loadModule files libs fuel (k+1)) im s = (.err (.rt 60), atImport im s) := by
  rw [evalImport_custom libs _ s hn hstd, ← atImport_state]
  simp only [hfresh]
  exact bind_err (loadModule_no_file hfile libs fuel k _)

/-- 导入《@L》 for a library that is not registered: error 64 at the line of the statement.  (The module entry of the
library has been allocated by then, as in the Go code: `AllocateModule` comes before `FindLibrary`.)  No frame is pushed,
nothing is displayed. -/
theorem interp_missing_library_64 (libs : LibTable) (load : String → M ν Nat) (im : Import) (name : String) (s : VM ν)
    (hn : im.name = some name) (hstd : isStdName name = true) (hlib : lookup name libs = none) :
    evalImport libs load im s = (.err (.rt 64), (allocateModule name false (atImport im s)).2) ∧
    (allocateModule name false (atImport im s)).2.out = s.out ∧
    (allocateModule name false (atImport im s)).2.stack = (atImport im s).stack := by
  have ha := allocateModule_state name false (atImport im s)
  refine ⟨?_, by rw [ha, atImport_state], by rw [ha]⟩
  rw [evalImport_std libs load s hn hstd, ← atImport_state]
  exact bind_err (importStd_missing hlib _)

/-! ## imports come before the importer's own statements -/

/-- `evalProgram` runs the import statements first, in order; if one of them does not succeed, none of the importer's own
statements runs: the machine is left exactly where the failing import left it, with that outcome. -/
theorem interp_imports_before_body (fuel : Nat) (imp : Import → M ν Unit) (p : Program) (inputs : List (String × Cell ν))
    (s : VM ν) :
    (∀ s1, p.imports.forM imp s = (.ok (), s1) →
      evalProgram fuel imp p inputs s = evalProgram fuel imp { p with imports := [] } inputs s1) ∧
    ((p.imports.forM imp s).1 ≠ .ok () →
      (evalProgram fuel imp p inputs s).2 = (p.imports.forM imp s).2 ∧
      ∀ a, (evalProgram fuel imp p inputs s).1 ≠ .ok a) := by
  constructor
  · intro s1 h
    unfold evalProgram
    rw [bind_ok h]
    rfl
  · intro h
    unfold evalProgram
    rcases bind_inv (m := p.imports.forM imp) (s := s) rfl with ⟨a, s1, h1, _⟩ | ⟨rb, h1, _, h2, _⟩
    · exact absurd (congrArg Prod.fst h1) h
    · exact ⟨congrArg Prod.snd h1.symm, h2⟩

/-- the import statements of one program run in the order they are written -/
theorem interp_imports_in_order (imp : Import → M ν Unit) (im : Import) (rest : List Import) :
    (im :: rest).forM imp = (imp im >>= fun _ => rest.forM imp) := rfl

/-! ## a module is allocated once, and its body runs at most once -/

/-- every function of the evaluator keeps the module table's names (`ModKept`) … -/
theorem modKept_evaluator (n : Nat) : AllPres (ModKept (ν := ν)) n := allPres n

/-- … and so do an import statement and a whole program section (imports, then the exec block), modules they load included -/
theorem modKept_import (files : FileTable) (libs : LibTable) (fuel : Nat) (im : Import) :
    Pres (ModKept (ν := ν)) (importWith files libs fuel im) := Pres.importWith files libs fuel im

theorem modKept_evalProgram (files : FileTable) (libs : LibTable) (fuel : Nat) (p : Program) (inputs : List (String × Cell ν)) :
    Pres (ModKept (ν := ν)) (evalProgram fuel (importWith files libs fuel) p inputs) :=
  Pres.evalProgram fuel _ (Pres.importWith files libs fuel) p inputs

/-- An import of a module that has been allocated never reaches the loader: whatever `execAnotherModule` would do is
irrelevant (no file is looked up, no body runs) — only the dependency edge, the cycle check and the binding of names happen. -/
theorem interp_loaded_module_is_not_loaded_again (libs : LibTable) (load load' : String → M ν Nat) (im : Import)
    (name : String) (s : VM ν) (i : Nat) (hn : im.name = some name) (hstd : isStdName name = false)
    (hfound : findModuleByName name s = some i) :
    evalImport libs load im s = evalImport libs load' im s := by
  rw [evalImport_found libs load s hn hstd hfound, evalImport_found libs load' s hn hstd hfound]

/-- the loader starts a module's body only after it has appended a NEW entry for that name to the module table:
`execAnotherModule` is reached from `evalImport` only when `FindModuleByName` failed, and then `AllocateModule` appends
(the file existing); from then on the name is found -/
theorem interp_load_allocates_fresh (name : String) (s : VM ν) (hfresh : findModuleByName name s = none) :
    allocateModule name true s = (.ok s.modules.size, (allocateModule name true s).2) ∧
    modNames (allocateModule name true s).2 = modNames s ++ [name] ∧
    findModuleByName name (allocateModule name true s).2 = some s.modules.size := by
  have h := allocateModule_fresh (hp := true) hfresh
  have hm := congrArg (·.2.modules) h
  exact ⟨by rw [h], modNames_push hm, by rw [findModuleByName_push hm, hfresh]; simp⟩

/-- **Each module body runs at most once per run.**  Once a module name has been allocated (its body has started), every
later import of that name — after ANY piece `m` of the run, in any module, however many modules import it — finds the module
and never reaches the loader again.  (No body start is counted: the loader is the only place where a body starts, and the statement
is that an import of a found name does not depend on it.) -/
theorem interp_body_runs_at_most_once {α : Type} (m : M ν α) (hm : Pres (ModKept (ν := ν)) m) (libs : LibTable)
    (load load' : String → M ν Nat) (im : Import) (name : String) (s : VM ν) (i : Nat)
    (hn : im.name = some name) (hstd : isStdName name = false) (hfound : findModuleByName name s = some i) :
    findModuleByName name (m s).2 = some i ∧
    evalImport libs load im (m s).2 = evalImport libs load' im (m s).2 := by
  have hk := findModuleByName_kept (hm.run s) hfound
  exact ⟨hk, interp_loaded_module_is_not_loaded_again libs load load' im name _ i hn hstd hk⟩

/-- In a whole run (from the initial machine) no module name is ever allocated twice: the module table of the final
machine — successful run or not — holds pairwise distinct names, the main module first. -/
theorem interp_module_allocated_once (files : FileTable) (libs : LibTable) (fuel : Nat) (p : Program)
    (inputs : List (String × Cell ν)) :
    (modNames (runProgramWith files libs fuel p inputs (initVM (ν := ν) ())).2).Nodup ∧
    ∃ extra, modNames (runProgramWith files libs fuel p inputs (initVM (ν := ν) ())).2 = "主模块" :: extra := by
  rw [runProgramWith_eq]
  obtain ⟨⟨extra, he⟩, hnd⟩ :=
    (Pres.mainRun (R := ModKept) files libs fuel p inputs).run (mainAllocated (initVM (ν := ν) ()))
  have h0 : modNames (mainAllocated (initVM (ν := ν) ())) = ["主模块"] := rfl
  rw [h0] at he hnd
  exact ⟨hnd (by simp), extra, by rw [he]; rfl⟩

/-! ## imported names are read-only -/

/-- **Imported names are read-only.**  After a successful `bindImports` (the last step of `evalImportStmt`: all exports of the
module in sorted order, or the listed ones in list order — `boundNames`) assigning ANY of the names it bound is error 44 and
leaves the machine exactly as it is (the name keeps its value). -/
theorem interp_exports_are_const (ext : Nat) (items : List Ident) (s s' : VM ν) (m : Module)
    (hm : s.modules[ext]? = some m) (h : bindImports ext items s = (.ok (), s')) :
    ∀ name ∈ boundNames m items, ∀ w, setElement name w s' = (.err (.rt 44), s') := by
  intro name hn w
  have hb := bindImports_constBound ext items [] s s' m hm (fun x hx => by cases hx) h
  exact hb.set_rejected name (by simpa using hn) w

/-- … and names that were bound constants before (`names`: earlier imports of the same program section, inputs) are still constants
after a later import statement -/
theorem interp_exports_stay_const (ext : Nat) (items : List Ident) (names : List String) (s s' : VM ν) (m : Module)
    (hm : s.modules[ext]? = some m) (hb : ConstBound names s) (h : bindImports ext items s = (.ok (), s')) :
    ∀ name ∈ names, ∀ w, setElement name w s' = (.err (.rt 44), s') := by
  intro name hn w
  have hb' := bindImports_constBound ext items names s s' m hm hb h
  exact hb'.set_rejected name (List.mem_append_right _ hn) w

/-- the single step: a name declared by `DeclareExternalElement` = `declareElement … true (some home)` rejects assignment right
after the declaration and after one more constant declaration -/
theorem interp_import_declaration_is_const (name : String) (v w : Addr) (home : Nat) (s s' : VM ν)
    (h : declareElement name v true (some (home : Int)) s = (.ok (), s')) :
    setElement name w s' = (.err (.rt 44), s') ∧
    ∀ (name2 : String) (v2 : Addr) (home2 : Option Int) (s'' : VM ν),
      declareElement name2 v2 true home2 s' = (.ok (), s'') → setElement name w s'' = (.err (.rt 44), s'') := by
  have hb : ConstBound [name] s' := ConstBound.declare (names := []) (fun x hx => by cases hx) h
  refine ⟨hb.set_rejected name (by simp) w, ?_⟩
  intro name2 v2 home2 s'' h2
  exact (hb.declare h2).set_rejected name (by simp) w

/-! ## an import cycle through a module that is still loading -/

open ZnVerif.Spec.ModuleSem (Walk HasCycle) in
/-- An import of an allocated module `i` from which the dependency graph already leads to the CURRENT module (in particular:
a module that is still loading further down the import stack) is error 63: the new edge `current → i` closes the cycle. -/
theorem interp_import_closing_cycle_63 (libs : LibTable) (load : String → M ν Nat) (im : Import) (name : String)
    (t : VM ν) (i : Nat) (hn : im.name = some name) (hstd : isStdName name = false)
    (hfound : findModuleByName name t = some i)
    (hwalk : Walk (natGraph t.graph) ((i : Int) + 1).toNat (t.csModuleID + 1).toNat) :
    (evalImport libs load im t).1 = .err (.rt 63) := by
  rw [evalImport_found libs load t hn hstd hfound]
  apply fst_err_bind
  refine congrArg Prod.fst ((checkDependency_found (i := i) ?_).1 (natGraph_closes hwalk))
  exact hfound

open ZnVerif.Spec.ModuleSem (Walk) in
/-- An import, by the CURRENT module, of its own name (the module is allocated and its frame is on top: it is loading or
running) is error 63: `AddModuleDependency` records the edge `m → m`, and the DFS over the whole graph finds the loop — whatever
else the graph contains, whatever the loader would do. -/
theorem interp_import_of_current_module_63 (libs : LibTable) (load : String → M ν Nat) (im : Import) (name : String)
    (t : VM ν) (i : Nat) (hn : im.name = some name) (hstd : isStdName name = false)
    (hfound : findModuleByName name t = some i) (hcs : t.csModuleID = (i : Int)) :
    (evalImport libs load im t).1 = .err (.rt 63) :=
  interp_import_closing_cycle_63 libs load im name t i hn hstd hfound (by rw [hcs]; exact Walk.refl _)

/-- loading a fresh module whose file exists: a failure of its FIRST import statement is the failure of the load -/
theorem load_first_import_err (files : FileTable) (libs : LibTable) (fuel k : Nat) (name path : String) (prog : Program)
    (im : Import) (rest : List Import) (s : VM ν) (e : Err)
    (hfresh : findModuleByName name s = none) (hpath : modulePath name = some path)
    (hfile : lookup path files = some prog) (himps : prog.imports = im :: rest)
    (h : (evalImport libs (loadModule files libs fuel k) im (loadStart name s)).1 = .err e) :
    (loadModule files libs fuel (k+1) name s).1 = .err e := by
  rw [loadModule]
  unfold execAnotherModule
  simp only [hpath, hfile]
  rw [bind_ok (interp_load_allocates_fresh name s hfresh).1, bind_ok (a := ()) (s' := loadStart name s) (pushFrame_ok _ _)]
  apply fst_err_bind
  unfold evalProgram
  apply fst_err_bind
  rw [himps]
  exact fst_err_bind (f := fun _ => rest.forM _) h

/-- **A module that imports itself is error 63**, for every file table: loading `name` (not allocated yet, its file exists)
whose program's first import statement names `name` again ends with the circular-dependency error.  (The statement is about the
outcome; that nothing is displayed is checked on the instance `selfFiles` below.) -/
theorem interp_self_import_63 (files : FileTable) (libs : LibTable) (fuel k : Nat) (name path : String) (prog : Program)
    (im : Import) (rest : List Import) (s : VM ν)
    (hstd : isStdName name = false) (hfresh : findModuleByName name s = none) (hpath : modulePath name = some path)
    (hfile : lookup path files = some prog) (himps : prog.imports = im :: rest) (hself : im.name = some name) :
    (loadModule files libs fuel (k+1) name s).1 = .err (.rt 63) := by
  apply load_first_import_err files libs fuel k name path prog im rest s _ hfresh hpath hfile himps
  obtain ⟨h1, h3, _⟩ := loadStart_facts hfresh
  exact interp_import_of_current_module_63 libs _ im name _ s.modules.size hself hstd (by rw [h1, hfresh]; simp) h3

open ZnVerif.Spec.ModuleSem (Walk HasCycle) in
/-- **甲 ↔ 乙 is error 63, for every file table**: loading `a` (fresh, file exists) whose first import names `b` (fresh, another
name, file exists) whose first import names `a` again ends with the circular-dependency error.  (The statement is about the outcome
only.) -/
theorem interp_two_module_cycle_63 (files : FileTable) (libs : LibTable) (fuel k : Nat) (a b pa pb : String)
    (proga progb : Program) (ima imb : Import) (resta restb : List Import) (s : VM ν)
    (hab : a ≠ b) (hstda : isStdName a = false) (hstdb : isStdName b = false)
    (hfa : findModuleByName a s = none) (hfb : findModuleByName b s = none)
    (hpa : modulePath a = some pa) (hpb : modulePath b = some pb)
    (hfilea : lookup pa files = some proga) (hfileb : lookup pb files = some progb)
    (hia : proga.imports = ima :: resta) (hib : progb.imports = imb :: restb)
    (hna : ima.name = some b) (hnb : imb.name = some a) :
    (loadModule files libs fuel (k+2) a s).1 = .err (.rt 63) := by
  apply load_first_import_err files libs fuel (k+1) a pa proga ima resta s _ hfa hpa hfilea hia
  obtain ⟨ga1, ga3, _⟩ := loadStart_facts hfa
  -- the import of `b` inside `a`: `b` is not allocated, so it is loaded
  have hfb0 : findModuleByName b (loadStart a s) = none := by rw [ga1, hfb]; simp [hab]
  rw [evalImport_custom libs _ _ hna hstdb, ← atImport_state]
  simp only [hfb0]
  apply fst_err_bind
  -- loading `b` from there: its first import names `a`, which is the module below it on the import stack
  have hfb' := (atImport_find ima b _).trans hfb0
  apply load_first_import_err files libs fuel k b pb progb imb restb _ _ hfb' hpb hfileb hib
  obtain ⟨gb1, gb3, gb4⟩ := loadStart_facts hfb'
  apply interp_import_closing_cycle_63 libs _ imb a _ s.modules.size hnb hstda
  · rw [gb1, atImport_find, ga1, hfa]; simp
  -- the edge a → b was recorded when `b` was allocated with `a` current
  rw [gb3, gb4, (congrArg VM.csModuleID (atImport_state ima _)).trans ga3]
  have hnn : ((s.modules.size : Int) ≥ 0) := Int.natCast_nonneg _
  simp only [hnn, if_true]
  refine Walk.cons ?_ (Walk.refl _)
  unfold natGraph
  rw [List.map_append]
  exact List.mem_append_right _ (by simp)

/-! ## the cycle check of the evaluator's loader is the DFS of `Model/Modules` — C15's DFS theorems transfer -/

open ZnVerif.Spec.ModuleSem (Walk HasCycle) in
/-- `CheckDepedency` in the evaluator model decides "the dependency graph has a cycle": for an allocated name it answers error 63
exactly when the graph (over module ids) has a cycle, succeeds exactly when it has none, and never runs out of fuel — the
evaluator's loader calls the very `Modules.checkCircular` that `C15.dfs_sound` / `dfs_complete` / `dfs_total` are about. -/
theorem interp_dependency_check_decides_cycle (name : String) (s : VM ν) (i : Nat) (h : findModuleByName name s = some i) :
    (HasCycle (natGraph s.graph) → checkDependency name s = (.err (.rt 63), s)) ∧
    (¬ HasCycle (natGraph s.graph) → checkDependency name s = (.ok (), s)) :=
  checkDependency_found h

/-! ## the bridge to the abstract loader of `Model/Modules.lean` (stated; checked on instances) -/

section bridge
open ZnVerif.Proofs.LoaderBridge
open ZnVerif.Model.Modules (Oracle Files Libs Path)

/-- inside the fragment both models speak about: names are texts (every code point a character), path segments hold no `/`,
no two files share a path, no import names the reserved main module (C15's `NoReserved`) -/
def TableOK (files : Files) : Prop :=
  (∀ f ∈ files, ∀ seg ∈ f.1, ∀ c ∈ seg, c.isValidChar ∧ c ≠ 0x2F) ∧
  (∀ f ∈ files, ∀ i ∈ f.2.imports, ∀ c ∈ i.name, c.isValidChar) ∧
  (files.map (·.1)).Nodup ∧ ZnVerif.Proofs.Modules.NoReserved files

/-- the two loaders agree on one file table: final error code, modules in allocation order (= the order in which module
programs are entered; with once-only loading, the sequence of body starts is a function of it), displayed markers — whenever
neither run stopped on fuel or a panic.  (A computable test, so that instances are checked by evaluation.) -/
def agreeB (ν : Type) [NumOps ν] (files : Files) (libs : Libs) (callFuel fuel : Nat) (mainPath : Path) : Bool :=
  match Modules.assoc mainPath files with
  | none => true
  | some src =>
    let o := Modules.run .repaired Oracle.default files libs callFuel mainPath
    let r := runProgramWith (toFileTable files) (toLibTable libs) fuel (toProgram src) [] (initVM (ν := ν) ())
    decide (absCode o = none) || decide (interpCode r.1 = none) ||
      (decide (absCode o = interpCode r.1) && decide (absModules o = interpModules r.2) && decide (absTrace o = interpTrace r.2))

def Simulates (ν : Type) [NumOps ν] (files : Files) (libs : Libs) (callFuel fuel : Nat) (mainPath : Path) : Prop :=
  agreeB ν files libs callFuel fuel mainPath = true

/-- FULL bridge: on every file table of the fragment the evaluator's loader and the abstract loader agree (then every theorem of
`Properties/C15.lean` about `Modules.run` — `cycle_reported`, `body_runs_at_most_once`, `imports_before_body`,
`imported_method_sees_home_module` — speaks about the evaluator model).  NOT proved. -/
def interp_loader_simulates_modules_full : Prop :=
  ∀ (ν : Type) [NumOps ν] (files : Files) (libs : Libs) (callFuel fuel : Nat) (mainPath : Path),
    TableOK files → Simulates ν files libs callFuel fuel mainPath

/-- first half: file tables whose modules consist of import statements only (no exec block).  NOT proved in general either (the
simulation relation between the two VMs — module table, name map, graph, scopes by module id — and the two `splitOn`s remain to
be written down); what is proved: both loaders run the SAME DFS (`interp_dependency_check_decides_cycle`), the evaluator-side
twins of the abstract loader's theorems above, and the instances below. -/
def interp_loader_simulates_modules_imports_only_full : Prop :=
  ∀ (ν : Type) [NumOps ν] (files : Files) (libs : Libs) (callFuel fuel : Nat) (mainPath : Path),
    TableOK files → (∀ f ∈ files, f.2.body = []) → Simulates ν files libs callFuel fuel mainPath

open ZnVerif.Properties.C15.Examples in
/-- instances of the bridge, bodies included: C15's cyclic table (63), diamond (丙 once) and sibling table (an imported method
calls a sibling method and constructs a sibling type of its home module) -/
example : Simulates Int cyclic [] 8 60 pMain ∧ Simulates Int diamond [] 8 60 pMain ∧ Simulates Int sibling [] 8 60 pMain := by
  unfold Simulates
  decide +kernel

end bridge

section examples

def imp (line : Nat) (name : String) (items : List Ident := []) : Import :=
  { line := line, libType := 2, name := some name, items := items }
def show_ (line : Nat) (t : String) : Stmt := .expr (.call line (some ⟨line, "显示"⟩) [.str line t] none)
def body (stmts : List Stmt) : Option ExecBlock := some (.mk [] (some stmts) [])

/-- 主 imports 甲 and 乙, both import 丙 (in a directory): diamond -/
def diamond : FileTable := [
  ("甲.zn", { imports := [imp 0 "目-丙"], exec := body [show_ 1 "甲"] }),
  ("乙.zn", { imports := [imp 0 "目-丙"], exec := body [show_ 1 "乙"] }),
  ("目/丙.zn", { imports := [], exec := body [.funcDecl 0 (some ⟨0, "丙法"⟩) 1 (body [show_ 1 "丙法"]), show_ 2 "丙"] })]
def selected : List Ident := [⟨2, "丙法"⟩]
def diamondMain : Program :=
  { imports := [imp 0 "甲", imp 1 "乙", imp 2 "目-丙" selected],
    exec := body [show_ 3 "主", .expr (.call 4 (some ⟨4, "丙法"⟩) [] none), .expr (.assign 5 (.id ⟨5, "丙法"⟩) (.str 5 "x"))] }

/-- 丙 runs once (before 甲's and 乙's own statements), the imported method runs, and assigning it is error 44 -/
example : ((runProgramWith diamond [] 40 diamondMain [] (initVM (ν := Int) ())).2.out.reverse = ["丙", "甲", "乙", "主", "丙法"]) ∧
    (match (runProgramWith diamond [] 40 diamondMain [] (initVM (ν := Int) ())).1 with | .err (.rt 44) => true | _ => false) = true ∧
    modNames (runProgramWith diamond [] 40 diamondMain [] (initVM (ν := Int) ())).2 = ["主模块", "甲", "目-丙", "乙"] := by
  decide +kernel

/-- the witness of `interp_self_import_63`: 甲 imports 甲 -/
def selfFiles : FileTable := [("甲.zn", { imports := [imp 0 "甲"], exec := body [show_ 1 "甲"] })]

example : (match (runProgramWith selfFiles [] 8 { imports := [imp 0 "甲"], exec := body [show_ 1 "主"] } []
    (initVM (ν := Int) ())).1 with | .err (.rt 63) => true | _ => false) = true ∧
    (runProgramWith selfFiles [] 8 { imports := [imp 0 "甲"], exec := body [show_ 1 "主"] } [] (initVM (ν := Int) ())).2.out = [] := by
  decide +kernel

/-- 甲 ↔ 乙 -/
def cycleFiles : FileTable := [("甲.zn", { imports := [imp 0 "乙"], exec := body [show_ 1 "甲"] }),
  ("乙.zn", { imports := [imp 0 "甲"], exec := body [show_ 1 "乙"] })]

example : (match (runProgramWith cycleFiles [] 8 { imports := [imp 0 "甲"], exec := none } []
    (initVM (ν := Int) ())).1 with | .err (.rt 63) => true | _ => false) = true := by
  decide +kernel

/-- missing module / invalid module path / missing library -/
example : (match (runProgramWith [] [] 8 { imports := [imp 0 "缺"], exec := none } [] (initVM (ν := Int) ())).1 with
    | .err (.rt 60) => true | _ => false) = true ∧
    (match (runProgramWith [("甲/乙.zn", { imports := [], exec := none })] [] 8 { imports := [imp 0 "甲--乙"], exec := none } []
      (initVM (ν := Int) ())).1 with | .err (.rt 60) => true | _ => false) = true ∧
    (match (runProgramWith [] [("@JSON", ["解析JSON"])] 8 { imports := [imp 0 "@无"], exec := none } [] (initVM (ν := Int) ())).1 with
    | .err (.rt 64) => true | _ => false) = true := by
  decide +kernel

example : modulePath "目-内-丙" = some "目/内/丙.zn" ∧ modulePath "甲--乙" = none ∧ modulePath "..-外" = none ∧
    modulePath "甲/乙" = none ∧ isStdName "@JSON" = true ∧ isStdName "JSON" = false := by decide +kernel

end examples

end ZnVerif.Properties.C15Interp
