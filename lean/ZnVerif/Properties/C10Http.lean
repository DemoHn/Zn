/-
C10 — no program can crash the host process: the value classes of pkg/common (http_request.go, http_resp.go).

`CLASS_HttpRequest.Construct(values)` / `CLASS_HttpResponse.Construct(values)` for EVERY argument list: the outcome is the new
object or a Zn error (too few / too many / ill-typed arguments: 50 / 73 / 82; the JSON exception for a body holding NaN or ±Inf) —
never a Go panic, never a nil result.  On the pinned tree `ValidateLeastParams` indexed `values[idx]` past the end when fewer than
two arguments were given (`新建HTTP请求` without arguments: index out of range; commit ac9b960); after the repair the validator's
`ok` fixes the number of values at two or three, which is what makes the constructors' own `values[0]`, `values[1]`, `values[2]`
safe (`request_patterns_ok`, `response_patterns_ok` in Proofs/HttpValues.lean).

Model: Model/HttpValues.lean (the Go constructors statement by statement, `SetProperty` errors dropped as in Go, JSON through
Model/Json.lean).  The classes define properties only, so the members of their objects are `getProperty` / `setProperty` /
`builtinMethod` of Model/Interp.lean on an `.obj` cell: Properties/C10.lean `getProperty_total`, `setProperty_total`, `builtin_total`.
Tie to the code: `Generated.Members.classes` (regenerated: names, properties, constructor patterns) = the model's `classTable`;
tools/props/c10.py stream `httpval` (Construct, then every property, Go = model) and the member sweep on `req` / `resp` / `reqcls` /
`respcls`.
-/
import ZnVerif.Properties.C10
import ZnVerif.Proofs.HttpValues

namespace ZnVerif.Properties.C10Http
open ZnVerif.Model ZnVerif.Model.HttpValues ZnVerif.Proofs.Builtins ZnVerif.Proofs.HttpValues ZnVerif.Generated
open ZnVerif.Properties.C10 (GoodOutcome good_of_post)
open ZnVerif.Proofs.Calls (M_bind_def getCell_ok)

variable {ν : Type} [NumOps ν]

/-- **http_request_ctor_total**: for every fuel, class cell, argument list (any length, any values) and well-formed heap,
    `新建HTTP请求：…` does not panic, keeps the heap well-formed, and a result is the address of a cell -/
theorem http_request_ctor_total (C : Json.NumCodec ν) (n : Nat) (cv : Addr) (params : List Addr) (s : VM ν)
    (hs : WfHeap s) (hcv : IsCls s.heap cv) (hp : ∀ v ∈ params, v < s.heap.size) :
    GoodOutcome s (requestConstruct C n cv params s) := by
  refine good_of_post ?_
  unfold requestConstruct
  refine Hoare.bind (post_newObject n hs hcv) (fun inst s1 hs1 e1 hinst => ?_)
  exact post_requestCtor C n hs1 hinst (fun v hv => Nat.lt_of_lt_of_le (hp v hv) e1.size)

/-- **http_response_ctor_total**: the same for `新建HTTP响应：…` -/
theorem http_response_ctor_total (C : Json.NumCodec ν) (n : Nat) (cv : Addr) (params : List Addr) (s : VM ν)
    (hs : WfHeap s) (hcv : IsCls s.heap cv) (hp : ∀ v ∈ params, v < s.heap.size) :
    GoodOutcome s (responseConstruct C n cv params s) := by
  refine good_of_post ?_
  unfold responseConstruct
  refine Hoare.bind (post_newObject n hs hcv) (fun inst s1 hs1 e1 hinst => ?_)
  exact post_responseCtor C n hs1 hinst (fun v hv => Nat.lt_of_lt_of_le (hp v hv) e1.size)

/-- the constructors applied directly to an object (`self`), as the Go `FuncExecutor`s are -/
theorem http_request_ctor_body_total (C : Json.NumCodec ν) (n : Nat) (self : Addr) (values : List Addr) (s : VM ν)
    (hs : WfHeap s) (ha : self < s.heap.size) (hv : ∀ v ∈ values, v < s.heap.size) :
    GoodOutcome s (requestCtor C n self values s) := (post_requestCtor C n hs ha hv).good

theorem http_response_ctor_body_total (C : Json.NumCodec ν) (n : Nat) (self : Addr) (values : List Addr) (s : VM ν)
    (hs : WfHeap s) (ha : self < s.heap.size) (hv : ∀ v ∈ values, v < s.heap.size) :
    GoodOutcome s (responseCtor C n self values s) := (post_responseCtor C n hs ha hv).good

/-- what the repaired validator guarantees the constructors: two or three values -/
theorem http_ctor_arity (vs : List Validate.VKind) :
    (Validate.validateLeast true true vs requestPatterns = .ok → vs.length = 2 ∨ vs.length = 3) ∧
    (Validate.validateLeast true true vs responsePatterns = .ok → vs.length = 2 ∨ vs.length = 3) :=
  ⟨request_patterns_ok vs, response_patterns_ok vs⟩

/-- … and what happened before the repair, on the witness: no argument at all → the validator itself indexes out of range -/
theorem http_ctor_panicked_before_fix :
    Validate.validateLeast false true [] requestPatterns = .panic ∧
    Validate.validateLeast false true [.number] responsePatterns = .panic := by decide +kernel

/-- **member tables**: the classes, their property names (in definition order) and the constructor patterns of the code are the
    ones the model has -/
theorem http_member_tables : classTable = Members.classes := by decide +kernel

/-- an object of the two classes has no method: every name is MethodNotFound (46) for every argument list -/
theorem http_objects_have_no_methods (n : Nat) (a cv : Addr) (props : List (String × Addr)) (name : String) (vals : List Addr)
    (s : VM ν) (h : s.heap[a]? = some (.obj cv props)) : (builtinMethod n a name vals s).1 = .err (.rt 46) := by
  unfold builtinMethod
  rw [M_bind_def, getCell_ok h]
  rfl

/-! non-vacuity -/
section examples
local instance unitNum : NumOps Unit where
  add _ _ := (); sub _ _ := (); mul _ _ := (); div _ _ := (); floor _ := (); ceil _ := (); sqrt _ := ()
  eq _ _ := true; lt _ _ := false; gt _ _ := false; le _ _ := true; ge _ _ := true
  isZero _ := false; leZero _ := false; ofInt _ := (); toInt _ := 0; parse _ := (); fmt _ := ""

def unitCodec : Json.NumCodec Unit := { isFinite := fun _ => true, fmtNum := fun _ => [0x30], parseNum := fun _ => some (), ofInt := fun _ => () }

/-- state: the request class at 6, the texts “GET” (7) and “/a” (8) -/
def s0 : VM Unit := ((do let c ← mkRequestClass; let _ ← newStr "GET"; let _ ← newStr "/a"; pure c : M Unit Addr) {}).2

/-- no argument (the former crash): LeastParamsError (50) -/
example : (requestConstruct unitCodec 9 6 [] s0).1 = .err (.rt 50) := by decide +kernel
example : (requestConstruct unitCodec 9 6 [7] s0).1 = .err (.rt 50) := by decide +kernel
/-- two texts: an object whose 方法 and URL are the arguments themselves -/
example : (match requestConstruct unitCodec 9 6 [7, 8] s0 with
    | (.ok o, s') => (match s'.heap[o]? with
      | some (.obj 6 props) => lookup "方法" props == some 7 && lookup "URL" props == some 8
      | _ => false)
    | _ => false) = true := by decide +kernel
/-- a third argument that is a text: 内容 is it (the model also sets 头部 to a Content-Type dictionary; not tested here) -/
example : (match requestConstruct unitCodec 9 6 [7, 8, 8] s0 with
    | (.ok o, s') => (match s'.heap[o]? with
      | some (.obj 6 props) => lookup "内容" props == some 8
      | _ => false)
    | _ => false) = true := by decide +kernel
end examples

end ZnVerif.Properties.C10Http
