/-
C06 — Names obey block scoping; constants cannot be reassigned.  Symbol-table core: all histories of
begin/end-scope, declare, declare-const, assign and lookup on `runtime.Scope` (model: `Model/Scope.lean`,
spec: `Spec/Scopes.lean`).  Property theorems only; helper lemmas live in `ZnVerif/Proofs/{Scope, ScopeSpec, ScopeBridge,
ScopeVM}.lean`.

Vocabulary (defined in the helper modules):
  `Sim σ d`        the invariant of a scope under balanced use at nesting depth `d`: `currentDepth = d ≥ 0`,
                   `localCount ≤ len(locals), len(values)`, depths of `locals[0..localCount)` non-decreasing and
                   within `[0, d]`, every `externalRefs` key a live top-level symbol;
  `abs σ`          the frame stack the scope stands for (live symbols grouped by depth);
  `Balanced d ops` no `end` without an open block (the evaluator pairs every BeginScope with a deferred EndScope);
  `extAtRoot d ops` imports only at the top level (the parser admits 导入 only in the leading import block);
  `Segment body`   a block body: closes exactly what it opens;   `declOf n v c` = `declare`/`declareConst`.
The evaluator-level half (programs) is Properties/C06Eval.lean, on the evaluator's own `Model.Scope` of `Model/Interp.lean`;
Properties/Bridges.lean relates that scope to the one of `Model/Scope.lean`.
-/
import ZnVerif.Proofs.ScopeVM

namespace ZnVerif.Properties.C06
open ZnVerif ZnVerif.SymTab ZnVerif.Spec.Scopes ZnVerif.Proofs.Scope ZnVerif.Proofs.ScopeSpec

variable {α : Type}

/-! ### Refinement: every balanced history on the symbol table is a history of the frame stack -/

/-- From any scope satisfying the invariant, every history that closes only blocks it may close and imports
only at the top level: the model never panics, answers every operation (value, nil, error code) exactly as the
frame-stack spec, ends in the state the spec ends in, and keeps the invariant. -/
theorem scope_refines_stack_from (σ : Scope α) (d d' : Nat) (h : Sim σ d) (ops : List (Op α))
    (hb : finalDepth d ops = some d') (he : extAtRoot d ops = true) :
    ∃ σ' rs, σ.run ops = .ok (σ', rs) ∧ Spec.Scopes.run (abs σ) ops = some (abs σ', rs) ∧ Sim σ' d' := by
  obtain ⟨σ', rs, h1, h2, h3⟩ := run_sim ops σ d d' h hb he
  exact ⟨σ', rs, h1, h3, h2⟩

/-- The property for `NewScope()`: all histories. -/
theorem scope_refines_stack (ops : List (Op α)) (hb : Balanced 0 ops) (he : extAtRoot 0 ops = true) :
    ∃ σ rs, (Scope.new : Scope α).run ops = .ok (σ, rs) ∧ Spec.Scopes.run initial ops = some (abs σ, rs) ∧
      ∃ d, Sim σ d := by
  obtain ⟨d', hfd⟩ := balanced_out hb
  obtain ⟨σ', rs, h1, h2, h3⟩ := scope_refines_stack_from Scope.new 0 d' sim_new ops hfd he
  exact ⟨σ', rs, h1, h2, d', h3⟩

/-- Without `declareExternal` (the six operations the property names, and `lookupM`): balanced is all that is needed. -/
theorem scope_refines_stack_core (ops : List (Op α)) (hb : Balanced 0 ops) (hne : ∀ op ∈ ops, Op.isExt op = false) :
    ∃ σ rs, (Scope.new : Scope α).run ops = .ok (σ, rs) ∧ Spec.Scopes.run initial ops = some (abs σ, rs) :=
  let ⟨σ, rs, h1, h2, _⟩ := scope_refines_stack ops hb (extAtRoot_noExt ops 0 hne)
  ⟨σ, rs, h1, h2⟩

/-- `Balanced` is exactly the domain of the spec: a history has a meaning as a frame-stack history iff it never
closes a block that is not open.  (So the refinement covers every history the spec speaks about.) -/
theorem spec_defined_iff_balanced (ops : List (Op α)) :
    (Spec.Scopes.run (initial : Stack α) ops).isSome ↔ Balanced 0 ops :=
  run_defined_iff ops initial (by simp [initial])

/-- Under balanced use `currentDepth` never goes negative and the slices are never indexed out of range
(`EndScope` below depth 0 is the one way to reach a negative depth; see `endScope_below_zero`). -/
theorem balanced_depth_nonneg (ops : List (Op α)) (hb : Balanced 0 ops) (he : extAtRoot 0 ops = true) :
    ∃ σ rs, (Scope.new : Scope α).run ops = .ok (σ, rs) ∧ 0 ≤ σ.currentDepth ∧
      σ.localCount ≤ σ.locals.size ∧ σ.localCount ≤ σ.values.size := by
  obtain ⟨σ, rs, h1, _, d, hs⟩ := scope_refines_stack ops hb he
  exact ⟨σ, rs, h1, by rw [hs.depth]; omega, hs.wf.1, hs.wf.2⟩

-- non-vacuity: a history with nesting, shadowing, a constant and an import meets both hypotheses, and its answers
-- are the expected ones
def demo : List (Op Nat) :=
  [.declareExternal "f" 9 2, .declare "a" 1, .beginScope, .declare "a" 2, .lookup "a", .declareConst "k" 3,
   .assign "k" 4, .beginScope, .assign "a" 5, .endScope, .lookup "a", .endScope, .lookup "a", .lookup "k", .lookupM "f"]
example : Balanced 0 demo ∧ extAtRoot 0 demo = true := by decide
example : (Spec.Scopes.run initial demo).map (·.2) =
    some [.done, .done, .done, .done, .val 2, .done, .err 44, .done, .done, .done, .val 5, .done, .val 1,
          .undefined, .valM 9 2] := by decide

/-- What the hypothesis `Balanced` excludes, as written in scope.go: an `EndScope` at depth 0 makes the depth −1
and forgets every symbol, top-level ones included. -/
theorem endScope_below_zero :
    (Scope.new : Scope Nat).run [.declare "a" 1, .endScope, .lookup "a"] =
      .ok (⟨#[⟨"a", 0, false⟩], 0, -1, #[1], []⟩, [.done, .done, .undefined]) := by rfl

/-- What the hypothesis `extAtRoot` excludes, as written in scope.go: `externalRefs` entries survive `EndScope`, so a
symbol declared later at the same index inherits the module id of a popped import (spec: −1, model and Go: 7). -/
theorem stale_externalRef_observable :
    ((Scope.new : Scope Nat).run [.beginScope, .declareExternal "a" 1 7, .endScope, .declare "a" 2, .lookupM "a"] =
        .ok (⟨#[⟨"a", 0, false⟩], 1, 0, #[2], [(0, 7)]⟩, [.done, .done, .done, .done, .valM 2 7])) ∧
    (Spec.Scopes.run (initial : Stack Nat) [.beginScope, .declareExternal "a" 1 7, .endScope, .declare "a" 2, .lookupM "a"]).map (·.2) =
        some [.done, .done, .done, .done, .valM 2 (-1)] := by
  constructor
  · rfl
  · decide

/-! ### Corollaries, stated outright for every scope satisfying the invariant -/

/-- **A name declared in a block is gone after the block's end**: whatever the block body does (any well
bracketed body, including assignments to the name and deeper redeclarations), after `end` a lookup of the name
answers exactly what it answered before the block — not found if there was no outer declaration, the outer
value if there was one. -/
theorem end_scope_forgets (σ : Scope α) (d : Nat) (h : Sim σ d) (name : String) (v : α) (c : Bool)
    (body : List (Op α)) (hseg : Segment body) (hne : ∀ op ∈ body, Op.isExt op = false) :
    ∃ σ' rs r, σ.run (.beginScope :: declOf name v c :: (body ++ [.endScope])) = .ok (σ', rs) ∧ Sim σ' d ∧
      σ.step (.lookup name) = .ok (σ, r) ∧ σ'.step (.lookup name) = .ok (σ', r) := by
  have hfd : finalDepth 0 (.beginScope :: declOf name v c :: (body ++ [.endScope])) = some 0 := by
    rw [show finalDepth 0 (Op.beginScope :: declOf name v c :: (body ++ [.endScope])) =
      finalDepth 1 (declOf name v c :: (body ++ [.endScope])) from rfl, finalDepth_declOf, finalDepth_append]
    have := finalDepth_shift body 0 0 1 hseg
    simp only [Nat.zero_add] at this
    rw [this]; rfl
  have hne' : ∀ op ∈ (.beginScope :: declOf name v c :: (body ++ [.endScope]) : List (Op α)), Op.isExt op = false :=
    List.forall_mem_cons.2 ⟨rfl, List.forall_mem_cons.2 ⟨isExt_declOf name v c, List.forall_mem_append.2
      ⟨hne, List.forall_mem_cons.2 ⟨rfl, nofun⟩⟩⟩⟩
  obtain ⟨σ', rs, h1, h2, h3⟩ := run_transfer h _ 0 hfd hne'
  rw [Nat.zero_add] at h2
  have hforget := block_forgets (abs σ) name v c body hseg (abs σ') rs h3
  refine ⟨σ', rs, lookRes (lookupB (abs σ) name), h1, h2, model_lookup h name, ?_⟩
  rw [model_lookup h2 name, hforget]

/-- **An inner declaration shadows an outer one until the inner block ends**: inside the block — at any nesting
depth below it, after any body that does not itself declare or assign the name — a lookup answers the block's
own value, whatever was visible outside.  (`end_scope_forgets` is the other half: the outer reading is back
after `end`.) -/
theorem shadow_until_end (σ : Scope α) (d : Nat) (h : Sim σ d) (name : String) (v : α) (c : Bool)
    (body : List (Op α)) (k : Nat) (hfd : finalDepth 0 body = some k) (hnt : ∀ op ∈ body, ¬ touches name op)
    (hne : ∀ op ∈ body, Op.isExt op = false) :
    ∃ σ' rs, σ.run (.beginScope :: declOf name v c :: body) = .ok (σ', rs) ∧ Sim σ' (d + 1 + k) ∧
      σ'.step (.lookup name) = .ok (σ', .val v) := by
  have hfd' : finalDepth 0 (.beginScope :: declOf name v c :: body) = some (k + 1) := by
    rw [show finalDepth 0 (Op.beginScope :: declOf name v c :: body) =
      finalDepth 1 (declOf name v c :: body) from rfl, finalDepth_declOf]
    have := finalDepth_shift body 0 k 1 hfd
    simpa using this
  have hne' : ∀ op ∈ (.beginScope :: declOf name v c :: body : List (Op α)), Op.isExt op = false :=
    List.forall_mem_cons.2 ⟨rfl, List.forall_mem_cons.2 ⟨isExt_declOf name v c, hne⟩⟩
  obtain ⟨σ', rs, h1, h2, h3⟩ := run_transfer h _ (k + 1) hfd' hne'
  have hsh := block_shadows (abs σ) name v c body k hfd hnt (abs σ') rs h3
  refine ⟨σ', rs, h1, by rw [show d + 1 + k = k + 1 + d by omega]; exact h2, ?_⟩
  rw [model_lookup h2 name, hsh]; rfl

/-- **Declaring a name twice in the same block is an error**: once the name has been declared in the current
block (or was already there, so that this declaration itself failed), then after any well bracketed continuation
a further declaration of the name in that block answers NameRedeclared (43) and leaves the scope untouched. -/
theorem redeclare_same_block_error (σ : Scope α) (d : Nat) (h : Sim σ d) (name : String) (v : α) (c : Bool)
    (body : List (Op α)) (hseg : Segment body) (hne : ∀ op ∈ body, Op.isExt op = false)
    (σ₁ : Scope α) (rs : List (Res α)) (hrun : σ.run (declOf name v c :: body) = .ok (σ₁, rs)) (v' : α) (c' : Bool) :
    σ₁.step (declOf name v' c') = .ok (σ₁, .err 43) := by
  have hfd : finalDepth 0 (declOf name v c :: body) = some 0 := by rw [finalDepth_declOf]; exact hseg
  have hne' : ∀ op ∈ (declOf name v c :: body : List (Op α)), Op.isExt op = false :=
    List.forall_mem_cons.2 ⟨isExt_declOf name v c, hne⟩
  obtain ⟨σ', rs', h1, h2, h3⟩ := run_transfer h _ 0 hfd hne'
  rw [hrun] at h1
  simp only [GoRes.ok.injEq, Prod.mk.injEq] at h1
  obtain ⟨rfl, rfl⟩ := h1
  rw [Nat.zero_add] at h2
  exact model_step_err h2 _ (opOK_declOf d name v' c') _ 43
    (block_keeps_binding (abs σ) name v c body hseg (abs σ₁) rs h3 v' c')

/-- **A constant cannot be reassigned and a rejected assignment leaves the old value intact**: after a successful
`declareConst name w`, and any continuation (nested blocks included) that neither declares nor assigns the name, assigning
it answers AssignToConstant (44), the scope is untouched, and a lookup still answers `w`. -/
theorem const_assign_error_keeps_value (σ : Scope α) (d : Nat) (h : Sim σ d) (name : String) (w : α)
    (body : List (Op α)) (k : Nat) (hfd : finalDepth 0 body = some k) (hnt : ∀ op ∈ body, ¬ touches name op)
    (hne : ∀ op ∈ body, Op.isExt op = false)
    (σ₁ : Scope α) (rs : List (Res α)) (hrun : σ.run (.declareConst name w :: body) = .ok (σ₁, .done :: rs)) (v : α) :
    σ₁.step (.assign name v) = .ok (σ₁, .err 44) ∧ σ₁.step (.lookup name) = .ok (σ₁, .val w) := by
  have hfd' : finalDepth 0 (.declareConst name w :: body) = some k := by simp only [finalDepth]; exact hfd
  have hne' : ∀ op ∈ (.declareConst name w :: body : List (Op α)), Op.isExt op = false :=
    List.forall_mem_cons.2 ⟨rfl, hne⟩
  obtain ⟨σ', rs', h1, h2, h3⟩ := run_transfer h _ k hfd' hne'
  rw [hrun] at h1
  simp only [GoRes.ok.injEq, Prod.mk.injEq] at h1
  obtain ⟨rfl, rfl⟩ := h1
  have hl := const_stays (abs σ) name w body k hfd hnt (abs σ₁) rs h3
  constructor
  · apply model_step_err h2 (.assign name v) True.intro (abs σ₁) 44
    simp [step, hl]
  · rw [model_lookup h2 name, hl]; rfl

/-- **Assigning a name that is not declared (or no longer visible) is an error**: NameNotDefined (42), scope
untouched. -/
theorem assign_undeclared_error (σ : Scope α) (d : Nat) (h : Sim σ d) (name : String) (v : α)
    (hun : σ.step (.lookup name) = .ok (σ, .undefined)) : σ.step (.assign name v) = .ok (σ, .err 42) := by
  rw [model_lookup h name] at hun
  simp only [GoRes.ok.injEq, Prod.mk.injEq, true_and] at hun
  apply model_step_err h (.assign name v) True.intro (abs σ) 42
  cases hl : lookupB (abs σ) name with
  | none => simp [step, hl]
  | some b => rw [hl] at hun; simp [lookRes] at hun

/-- A name can be used only after its declaration: a fresh scope knows no name. -/
theorem lookup_before_declare (name : String) :
    (Scope.new : Scope α).step (.lookup name) = .ok (Scope.new, .undefined) := by rfl

-- non-vacuity of the corollaries: concrete bodies meeting the hypotheses, with the answers computed by the model
def body1 : List (Op Nat) := [.assign "x" 7, .beginScope, .declare "x" 8, .assign "x" 9, .endScope, .lookup "x"]
example : Segment body1 ∧ (∀ op ∈ body1, Op.isExt op = false) := by decide
-- outer x = 1, inner block declares x = 2 and runs body1: afterwards x reads 1 again
example : ((Scope.new : Scope Nat).run (.declare "x" 1 :: .beginScope :: declOf "x" 2 false :: (body1 ++ [.endScope, .lookup "x"]))) =
    .ok (⟨#[⟨"x", 0, false⟩, ⟨"x", 1, false⟩, ⟨"x", 2, false⟩], 1, 0, #[1, 7, 9], []⟩,
      [.done, .done, .done, .done, .done, .done, .done, .done, .val 7, .done, .val 1]) := by rfl
def body2 : List (Op Nat) := [.declare "y" 5, .beginScope, .assign "y" 6, .lookup "x"]
example : finalDepth 0 body2 = some 1 ∧ (∀ op ∈ body2, ¬ touches "x" op) ∧ (∀ op ∈ body2, Op.isExt op = false) := by
  refine ⟨by decide, ?_, by decide⟩
  intro op hop
  simp only [body2, List.mem_cons, List.mem_nil_iff, or_false] at hop
  rcases hop with rfl | rfl | rfl | rfl <;> simp [touches, writes]
example : (∃ d, Sim (Scope.new : Scope Nat) d) := ⟨0, sim_new⟩

/-! ### Predefined names, through the VM's wrappers (`FindElement`, `Declare*Element`, `SetElement`) -/

/-- All balanced histories through the wrappers of a VM that is running a module, for any table of predefined
names: never a panic; every answer is the one of the frame-stack spec with predefined names consulted first,
refused (43) by every declaration and rejected (whatever the code) by assignment. -/
theorem vm_refines (g : List (String × α)) (mid : Nat) (ops : List (Op α)) (hb : Balanced 0 ops)
    (he : extAtRoot 0 ops = true) :
    ∃ vm' rs s' rs', (⟨g, mid, some Scope.new⟩ : VMScope α).run ops = .ok (vm', rs) ∧
      vmRun ⟨g, mid, initial⟩ ops = some (s', rs') ∧ agreeAll rs' rs := by
  obtain ⟨d', hfd⟩ := balanced_out hb
  obtain ⟨vm', σ', rs, rs', h1, _, h3, h4, _⟩ := vm_run_sim ops _ _ 0 d' (vmSim_new g mid) hfd he
  exact ⟨vm', rs, _, rs', h1, h3, h4⟩

/-- **Predefined names are found first**, in every VM state — whatever the scope holds, even with no scope at all. -/
theorem globals_found_first (vm : VMScope α) (n : String) (gv : α) (hg : globalLookup vm.globals n = some gv) :
    vm.findElement n = .ok gv ∧ vm.findElementWithModuleID n = .ok (gv, -1) := by
  simp [VMScope.findElement, VMScope.findElementWithModuleID, hg]

/-- **Predefined names cannot be declared**, in every VM state: each of the three declaring wrappers answers
NameRedeclared (43) when a module is running (NameNotDefined when none is) and the VM is untouched. -/
theorem globals_not_declarable (vm : VMScope α) (n : String) (gv : α) (hg : globalLookup vm.globals n = some gv)
    (v : α) (m : Nat) :
    vm.step (.declare n v) = .ok (vm, .err (if vm.scope.isSome then 43 else 42)) ∧
    vm.step (.declareConst n v) = .ok (vm, .err (if vm.scope.isSome then 43 else 42)) ∧
    vm.step (.declareExternal n v m) = .ok (vm, .err (if vm.scope.isSome then 43 else 42)) := by
  obtain ⟨g, mid, sc⟩ := vm
  cases sc <;>
    simp [VMScope.step, VMScope.declareElement, VMScope.declareConstElement, VMScope.declareExternalElement,
      VMScope.declareWith, VMScope.ofErr, errNameRedeclared, errNameNotDefined] <;>
    simp_all

/-- **Predefined names cannot be assigned**, after every balanced history: `SetElement` does not look at `vm.globals`,
but since no local of a predefined name can have been declared, `SetValue` finds nothing: the assignment is rejected
(as NameNotDefined, 42), the VM is untouched, and the name still reads its predefined value. -/
theorem globals_not_assignable (g : List (String × α)) (mid : Nat) (ops : List (Op α)) (hb : Balanced 0 ops)
    (he : extAtRoot 0 ops = true) (vm' : VMScope α) (rs : List (Res α))
    (hrun : (⟨g, mid, some Scope.new⟩ : VMScope α).run ops = .ok (vm', rs))
    (n : String) (gv : α) (hg : globalLookup g n = some gv) (v : α) :
    vm'.step (.assign n v) = .ok (vm', .err 42) ∧ vm'.step (.lookup n) = .ok (vm', .val gv) := by
  obtain ⟨d', hfd⟩ := balanced_out hb
  obtain ⟨vm'', σ', rs', _, h1, hs, _, _, hgl⟩ := vm_run_sim ops _ _ 0 d' (vmSim_new g mid) hfd he
  rw [hrun] at h1
  simp only [GoRes.ok.injEq, Prod.mk.injEq] at h1
  obtain ⟨rfl, rfl⟩ := h1
  obtain ⟨g', mid', sc⟩ := vm'
  have hsc : sc = some σ' := hs.scope
  subst hsc
  have hgg : g' = g := hgl
  subst hgg
  have hg' : gfind g' n = some gv := by rw [← globalLookup_eq]; exact hg
  have hset := setValue_global hs.sim g' hs.names n gv hg' v
  constructor
  · simp [VMScope.step, VMScope.setElement, hset, VMScope.ofErr]
  · simp [VMScope.step, VMScope.findElement, hg]

-- non-vacuity: a VM with two predefined names; a history that tries to declare, assign and read one of them
def vmDemo : List (Op Nat) := [.declare "G" 1, .declare "x" 2, .beginScope, .assign "G" 3, .lookup "G", .lookup "x", .lookupM "x"]
example : Balanced 0 vmDemo ∧ extAtRoot 0 vmDemo = true := by decide
example : globalLookup [("G", 100), ("H", 200)] "G" = some 100 := by decide
example : (⟨[("G", 100), ("H", 200)], 0, some Scope.new⟩ : VMScope Nat).run vmDemo =
    .ok (⟨[("G", 100), ("H", 200)], 0, some ⟨#[⟨"x", 0, false⟩], 1, 1, #[2], []⟩⟩,
      [.err 43, .done, .done, .err 42, .val 100, .val 2, .valM 2 0]) := by rfl

end ZnVerif.Properties.C06
