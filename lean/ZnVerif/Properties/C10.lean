/-
C10 — no program can crash the host process.

Whatever built-in property, method, operator, index, constructor, library function or input-variable text is
applied to whatever values, the outcome is a value or a Zn error delivered through the normal error channel —
never a Go runtime panic, a nil result that crashes the caller, or a process exit.

In the model (Model/Interp.lean) a Go panic is the outcome `.panic`, running out of fuel is the separate
outcome `.fuel`, a value is the address of a heap cell.  The theorems below quantify over every receiver,
every member name (any string at all), every argument list, every heap that is well-formed, and — numbers
being abstract (`NumOps ν`, no laws) — every `Int` that `NumOps.toInt` can return for an index.

Tie to the code: `Generated.Members` (regenerated from /repo on every run) lists every member name of every
built-in type, the library registrations, the predefined names, the class definitions of pkg/common, every
`Validate*Params` call with its patterns, the `return nil, nil` sites and the shape of the `golang:` cast;
`members_all_modelled` / `members_all_answered` fail when the code gains a member the model does not dispatch on or
does not answer.  The sweep
(tools/props/c10.py, harness op `value`) runs the full product on the real code and compares with the model.
-/
import ZnVerif.Proofs.InvLaws
import ZnVerif.Proofs.TextTotal
import ZnVerif.Proofs.Validate
import ZnVerif.Generated.Members
set_option linter.unusedSectionVars false

namespace ZnVerif.Properties.C10
open ZnVerif.Model ZnVerif.Proofs.Builtins ZnVerif.Generated
open ZnVerif.Proofs.Calls (M_bind_def getCell_ok)

variable {ν : Type} [NumOps ν]

/-! ## the heap invariant

`WfHeap s` (Proofs/Builtins.lean): every address stored in a cell of `s.heap` is smaller than the heap size; a
dictionary's key order lists keys of its map without repetition (the invariant of `value.HashMap`); the class
of an object is a class cell (Go: the field `model *ClassModel` is typed).  `ArgsIn s a vals`: receiver and
arguments are addresses of cells. -/

def ArgsIn (s : VM ν) (a : Addr) (vals : List Addr) : Prop := a < s.heap.size ∧ ∀ v ∈ vals, v < s.heap.size

/-- what a run that did not panic guarantees: the heap is still well-formed, it has not shrunk (so no address became
    dangling), and a value is the address of a cell -/
def GoodOutcome (s : VM ν) (p : Res Addr × VM ν) : Prop :=
  p.1 ≠ .panic ∧ WfHeap p.2 ∧ s.heap.size ≤ p.2.heap.size ∧ ∀ r, p.1 = .ok r → r < p.2.heap.size

def GoodOutcomeU (s : VM ν) (p : Res Unit × VM ν) : Prop :=
  p.1 ≠ .panic ∧ WfHeap p.2 ∧ s.heap.size ≤ p.2.heap.size

theorem good_of_post {s : VM ν} {p : Res Addr × VM ν} (h : Hoare WfHeap Ext s (fun r s' => r < s'.heap.size) p) : GoodOutcome s p :=
  h.good

theorem goodU_of_post {s : VM ν} {p : Res Unit × VM ν} (h : Hoare WfHeap Ext s (fun _ _ => True) p) : GoodOutcomeU s p :=
  ⟨h.ne_panic, h.inv, h.rel.size⟩

/-- every method of list, dictionary, number and text (and the "no such method" answer of every other value):
    for every fuel, receiver, method name, argument list and well-formed state, no panic — in particular the
    slice expressions of 新增/添加 and the index expressions of 交换 for ALL `Int`s `NumOps.toInt` can return,
    the type assertions after `Validate*Params`, the key-order reads when a dictionary argument is copied (`dup`) — the heap stays well-formed
    and a result is the address of a cell (`no_nil_results`) -/
theorem builtin_total (n : Nat) (a : Addr) (name : String) (vals : List Addr) (s : VM ν)
    (hs : WfHeap s) (hargs : ArgsIn s a vals) : GoodOutcome s (builtinMethod n a name vals s) :=
  (post_builtinMethod n name vals hs hargs.1 hargs.2).good

/-- C10 in one line: no built-in method — any receiver, any name, any argument list, any fuel — answers the Go-panic outcome -/
theorem builtin_never_panics (n : Nat) (a : Addr) (name : String) (vals : List Addr) (s : VM ν)
    (hs : WfHeap s) (hargs : ArgsIn s a vals) : (builtinMethod n a name vals s).1 ≠ .panic :=
  (builtin_total n a name vals s hs hargs).1

theorem getProperty_total (n : Nat) (a : Addr) (name : String) (s : VM ν) (hs : WfHeap s) (ha : a < s.heap.size) :
    GoodOutcome s (getProperty n a name s) :=
  (post_getProperty n name hs ha).ofPre.good

theorem setProperty_total (a : Addr) (name : String) (v : Addr) (s : VM ν) (hs : WfHeap s)
    (ha : a < s.heap.size) (hv : v < s.heap.size) : GoodOutcomeU s (setProperty a name v s) :=
  goodU_of_post (post_setProperty name hs ha hv)

/-- `root # index` and `root 之 name` read: every kind tag, every `Int` index -/
theorem reduceRHS_total (n kind : Nat) (root : Addr) (name : String) (idx : Int) (s : VM ν) (hs : WfHeap s)
    (hr : root < s.heap.size) : GoodOutcome s (reduceRHS n (kind, root, name, idx) s) :=
  (post_reduceRHS n kind name idx hs hr).ofPre.good

/-- `root # index = v` and `root 之 name = v` -/
theorem reduceLHS_total (kind : Nat) (root v : Addr) (name : String) (idx : Int) (s : VM ν) (hs : WfHeap s)
    (hr : root < s.heap.size) (hv : v < s.heap.size) : GoodOutcomeU s (reduceLHS (kind, root, name, idx) v s) :=
  goodU_of_post (post_reduceLHS kind name idx hs hr hv)

open ZnVerif.Proofs.TextTotal in
/-- `text_methods_total`: a text method — any name at all — applied to a text receiver and ANY argument list (wrong types,
    wrong counts, every `Int` that `NumOps.toInt` can return for the positions of 取样) ends, inside the fragment the model
    covers (`TextFragment`), with a value that is the address of a cell or with a Zn error (MethodNotFound 46, a parameter
    count / type error 53 / 82, or the exception signal of 取样 / 转换数值): never a panic — in particular the slice
    `ss[startIdx-1 : endIdx]` of `strExecSlice` is never out of range —, never `unmodelled`, never out of fuel; the heap
    stays well-formed -/
theorem text_methods_total (n : Nat) (a : Addr) (name : String) (vals : List Addr) (s : VM ν) (t : String)
    (hs : WfHeap s) (hargs : ArgsIn s a vals) (ht : s.heap[a]? = some (.str t)) (hf : TextFragment t name) :
    ((∃ r, (builtinMethod n a name vals s).1 = .ok r ∧ r < (builtinMethod n a name vals s).2.heap.size) ∨
     (∃ e, (builtinMethod n a name vals s).1 = .err e)) ∧ WfHeap (builtinMethod n a name vals s).2 := by
  have g := builtin_total n a name vals s hs hargs
  have d := ends_text n a name vals t s ht hf
  refine ⟨?_, g.2.1⟩
  rcases h : builtinMethod n a name vals s with ⟨r, s'⟩
  rw [h] at g d
  cases r with
  | ok r => exact .inl ⟨r, rfl, g.2.2.2 r rfl⟩
  | err e => exact .inr ⟨e, rfl⟩
  | panic => exact absurd rfl g.1
  | fuel => exact d.elim
  | unmodelled => exact d.elim

open ZnVerif.Proofs.TextTotal in
/-- … and the fragment is exact: outside it the model says `notModelled` (it never guesses a value) -/
theorem text_methods_outside_fragment (n : Nat) (a : Addr) (vals : List Addr) (s : VM ν) (t : String)
    (ht : s.heap[a]? = some (.str t)) :
    (TextOps.toLower (textBytes t) = none → (builtinMethod n a "转小写-英文" vals s).1 = .unmodelled) ∧
    (TextOps.toUpper (textBytes t) = none → (builtinMethod n a "转大写-英文" vals s).1 = .unmodelled) ∧
    (TextOps.atofClass (TextOps.atoiRewrite (textBytes t)) = .special →
      (builtinMethod n a "转换数值" vals s).1 = .unmodelled) := by
  refine ⟨fun h => ?_, fun h => ?_, fun h => ?_⟩
  · unfold builtinMethod
    rw [M_bind_def, getCell_ok ht]
    simp only [h]
    rfl
  · unfold builtinMethod
    rw [M_bind_def, getCell_ok ht]
    simp only [h]
    rfl
  · unfold builtinMethod
    rw [M_bind_def, getCell_ok ht]
    simp only []
    rw [M_bind_def, setCell_apply _ (lt_size_of_get ht)]
    simp only [h]
    rfl

/-- helpers the members call: display (`String()`) here, copy below (`dup_total`); equality is `ro_compareXEQ`, Proofs/Builtins.lean -/
theorem display_total (n : Nat) (a : Addr) (s : VM ν) (hs : WfHeap s) (ha : a < s.heap.size) :
    (display n a s).1 ≠ .panic ∧ (display n a s).2 = s := by
  obtain ⟨r, hr, hq⟩ := ro_display n hs ha
  rw [hr]
  exact ⟨by cases r <;> first | exact hq.elim | simp, rfl⟩

theorem dup_total (n : Nat) (a : Addr) (s : VM ν) (hs : WfHeap s) (ha : a < s.heap.size) : GoodOutcome s (dup n a s) :=
  (post_dup n hs ha).ofPre.good

/-- 新建 with the default constructor of a user type or the constructor of the predefined 异常: the property
    defaults are copied, the object is allocated, the arguments of 异常 are validated — no panic for any
    argument list (a user-defined constructor runs a method body: evaluator) -/
theorem construct_total (n : Nat) (cv : Addr) (params : List Addr) (s : VM ν) (nm : String) (ctor : Ctor)
    (props methods : List (String × Addr)) (hs : WfHeap s) (hc : s.heap[cv]? = some (.cls nm ctor props methods))
    (hctor : ∀ mid exec, ctor ≠ .user mid exec) (hp : ∀ v ∈ params, v < s.heap.size) :
    GoodOutcome s (construct n cv params s) :=
  (Proofs.VarInput.post_construct Proofs.VarInput.wfHeap_laws n params hs hc hctor hp).good

/-- 显示 applied to any argument list -/
theorem display_function_total (n : Nat) (params : List Addr) (s : VM ν) (hs : WfHeap s)
    (hp : ∀ v ∈ params, v < s.heap.size) : GoodOutcome s (execFunction n .display none params s) :=
  ((Proofs.VarInput.post_displayFn Proofs.VarInput.wfHeap_laws n none params hs hp).weaken fun _ _ _ _ q => q.1).good

/-- `no_nil_results`, spelled out: a value answered by a member is the address of an existing cell.  What this
    means for Go: no member function returns `nil, nil`; the extractor lists every `return nil, nil` of
    pkg/value, pkg/common, stdlib/json, stdlib/file, exec/globals.go, exec/exec_varinput.go — none is left. -/
theorem no_nil_results (n : Nat) (a : Addr) (name : String) (vals : List Addr) (s s' : VM ν) (r : Addr)
    (hs : WfHeap s) (hargs : ArgsIn s a vals) (h : builtinMethod n a name vals s = (.ok r, s')) :
    ∃ c, s'.heap[r]? = some c := by
  have := (builtin_total n a name vals s hs hargs).2.2.2 r (by rw [h])
  rw [h] at this
  exact get_of_lt_size this

theorem no_nil_return_sites : Members.nilReturnSites = [] := by decide

/-! non-vacuity: a well-formed state with a list, a dictionary, a number and a text; the former crash input of
    新增 (position −10 in a list of three) is an index error, not a panic -/

section examples
instance unitNum : NumOps Unit where
  add _ _ := (); sub _ _ := (); mul _ _ := (); div _ _ := (); floor _ := (); ceil _ := (); sqrt _ := ()
  eq _ _ := true; lt _ _ := false; gt _ _ := false; le _ _ := true; ge _ _ := true
  isZero _ := false; leZero _ := false; ofInt _ := (); toInt _ := -10; parse _ := (); fmt _ := ""

def s1 : VM Unit := { heap := #[.arr [2, 2, 2], .hm [("k", 2)] ["k"], .num (), .str "文", .bool true, .null] }

theorem s1_wf : WfHeap s1 := by
  intro a c h
  have ha : a < 6 := lt_size_of_get h
  match a, ha with
  | 0, _ => injection h with h; subst h; intro x hx; simp at hx; subst hx; decide
  | 1, _ => injection h with h; subst h; exact ⟨by intro p hp; simp at hp; subst hp; decide, by intro k hk; simp at hk; subst hk; rfl, by simp⟩
  | 2, _ => injection h with h; subst h; trivial
  | 3, _ => injection h with h; subst h; trivial
  | 4, _ => injection h with h; subst h; trivial
  | 5, _ => injection h with h; subst h; trivial

example : ArgsIn s1 0 [3, 2] := ⟨by decide, by decide⟩
/-- toInt = −10 on a list of three: the guard answers IndexOutOfRange (40) -/
example : (builtinMethod 5 0 "新增" [3, 2] s1).1 = .err (.rt 40) := by decide +kernel
example : (builtinMethod 5 0 "新增" [3, 2] s1).1 ≠ .panic := builtin_never_panics 5 0 "新增" [3, 2] s1 s1_wf ⟨by decide, by decide⟩
/-- without the guard `insertArrayValue` is the Go slice panic: the guard is what the theorem rests on -/
example : insertArrayValue [2, 2, 2] (-10) 3 = .panic := by decide +kernel
/-- the text methods on the text “文” (address 3): a wrong argument count is error 53, a wrong type error 82, 取样 beyond the
    end is the exception signal, 转换数值 of a non-numeral too — and all of it is inside the fragment -/
example : Proofs.TextTotal.TextFragment "文" "转换数值" := by
  refine ⟨fun h => absurd h (by decide), fun h => absurd h (by decide), fun _ => (by decide)⟩
example : (builtinMethod 5 3 "替换" [3] s1).1 = .err (.rt 53) := by decide +kernel
example : (builtinMethod 5 3 "匹配" [2] s1).1 = .err (.rt 82) := by decide +kernel
example : (builtinMethod 5 3 "取样" [2, 2] s1).1 = .err (.sigExc 6) := by decide +kernel
example : (builtinMethod 5 3 "转换数值" [] s1).1 = .err (.sigExc 6) := by decide +kernel
example : (builtinMethod 5 3 "去除空格" [0, 1] s1).1 = .ok 6 := by decide +kernel
end examples

/-! ## the member tables of the code are the names the model dispatches on -/

/-- one cell of every built-in type -/
def probeState : VM Unit :=
  { heap := #[.arr [], .hm [] [], .num (), .str "", .bool true, .null, .cls "c" .default [] [], .obj 6 [], .fn .display, .exc ""] }

def probeAddr : String → Option Nat
  | "array" => some 0 | "hashmap" => some 1 | "number" => some 2 | "string" => some 3 | "bool" => some 4
  | "null" => some 5 | "class" => some 6 | "object" => some 7 | "function" => some 8 | "exception" => some 9
  | _ => none

inductive Disp | found | notFound | unmodelled
  deriving DecidableEq

def classify {α} (notFoundCode : Nat) : Res α → Disp
  | .err (.rt c) => if c == notFoundCode then .notFound else .found
  | .unmodelled => .unmodelled
  | _ => .found

/-- what the MODEL answers when the member (type, kind, name) is applied to a value of that type without
    arguments: `notFound` = PropertyNotFound (45) / MethodNotFound (46), i.e. the model does not know the name -/
def dispatch (m : String × String × String) : Disp :=
  match probeAddr m.1 with
  | none => .notFound
  | some a =>
    if m.2.1 == "g" then classify 45 (getProperty 3 a m.2.2 probeState).1
    else if m.2.1 == "s" then classify 45 (setProperty a m.2.2 5 probeState).1
    else classify 46 (builtinMethod 3 a m.2.2 [] probeState).1

/-- members the model dispatches on but answers `notModelled` for on every receiver: there is none (the text methods that
    wrap Go's `strings` / `strconv` packages are modelled in Model/TextMethods.lean) -/
def unmodelledMembers : List (String × String × String) := []

/-- members the model answers `notModelled` for on SOME receivers only — outside `TextFragment`: case mapping of a text
    holding a letter that is neither English nor caseless, 转换数值 of a spelling `strconv.ParseFloat` accepts beyond plain
    decimal numerals (inf / nan, hexadecimal, underscores) or of a numeral that may be out of range -/
def partlyModelledMembers : List (String × String × String) := [
  ("string", "m", "转小写-英文"), ("string", "m", "转大写-英文"), ("string", "m", "转换数值")]

/-- library functions and the random generator have no model in Model/Interp.lean (swept on the real code only; JSON: Model/Json.lean, C19) -/
def unmodelledLibrary : List (String × String × String) := [
  ("@JSON", "f", "解析JSON"), ("@JSON", "f", "生成JSON"),
  ("@文件", "f", "读取文件"), ("@文件", "f", "写入文件"), ("@文件", "f", "读取目录")]
/-- the value classes of pkg/common: modelled in Model/HttpValues.lean (constructors total: Properties/C10Http.lean, which also
    proves the model's class table equal to `Members.classes`) -/
def commonClasses : List String := ["HTTP请求", "HTTP响应"]

/-- applied to the probe value of its type without arguments, every member of the code is ANSWERED by the model
    (a value, or an error other than "no such member") — the text methods included -/
theorem members_all_answered : ∀ m ∈ Members.members, dispatch m = .found := by decide +kernel

/-- every member name of every built-in type of the code is a name the model dispatches on -/
theorem members_all_modelled : ∀ m ∈ Members.members, dispatch m ≠ .notFound :=
  fun m hm => by rw [members_all_answered m hm]; exact nofun

/-- … and none of them is answered `notModelled` on its probe value: `unmodelledMembers` is the empty list, so this is
    `dispatch m ≠ .unmodelled` for every member of the code (the form would list the exceptions if there were any) -/
theorem unmodelled_members_exact : ∀ m ∈ Members.members, (dispatch m = .unmodelled ↔ m ∈ unmodelledMembers) :=
  fun m hm => by rw [members_all_answered m hm]; exact ⟨nofun, fun h => absurd h List.not_mem_nil⟩

/-- every value type of pkg/value is a type the model has cells for (GoValue has no member and no literal) -/
theorem types_all_modelled : ∀ t ∈ Members.types, (probeAddr t).isSome = true ∨ t = "govalue" := by decide +kernel

/-- only objects look members up dynamically (user-defined properties and methods: evaluator, C08) -/
theorem dynamic_lookups_are_objects : Members.dynamicLookups = ["object:g", "object:m", "object:s"] := by decide

/-- the predefined names are the ones the model's initial VM binds -/
theorem globals_all_modelled : (initVM (ν := Unit) ()).globals.map (·.1) = Members.globals := by decide +kernel

theorem constructables_modelled : Members.constructables = ["class", "number"] := by decide

theorem libraries_listed : ∀ l ∈ Members.libraries, l ∈ unmodelledLibrary := by decide +kernel
theorem classes_listed : ∀ c ∈ Members.classes, c.1 ∈ commonClasses := by decide +kernel

open ZnVerif.Model.Validate in
/-- `ValidateLeastParams`' own indexing (`values[idx]`, `matches[2]`) and the `golang:` cast: the repaired code
    never panics, for every list of values and every list of patterns that contain a word character -/
theorem validate_least_params_total (values : List VKind) (pats : List String)
    (hp : ∀ p ∈ pats, (parsePat p).isSome = true) : validateLeast true true values pats ≠ .panic :=
  ZnVerif.Proofs.Validate.validateLeastFrom_guarded values pats 0 hp

open ZnVerif.Model.Validate in
theorem validate_exact_params_total (values : List VKind) (tys : List String) : validateExact true values tys ≠ .panic :=
  fun h => by
    unfold Validate.validateExact at h
    split at h
    · cases h
    · exact ZnVerif.Proofs.Validate.validateExact_go_guarded values tys h

open ZnVerif.Model.Validate in
theorem validate_all_params_total (values : List VKind) (ty : String) : validateAll true values ty ≠ .panic :=
  ZnVerif.Proofs.Validate.validateAllFrom_guarded ty values

open ZnVerif.Model.Validate in
/-- every pattern any caller in pkg/value, pkg/common, stdlib/json, stdlib/file, exec/globals.go passes contains a word character -/
theorem registered_patterns_wellformed :
    ∀ c ∈ Members.validateCalls, ∀ p ∈ c.2.2, (parsePat p).isSome = true := by decide +kernel

open ZnVerif.Model.Validate in
/-- the defect the sweep found, on its witness: before the repair (`idxGuarded = false`) the constructors of
    HTTP请求 / HTTP响应 (`ValidateLeastParams(values, "string", "string", "any?")`) index past the end when fewer than
    two values are given -/
example : validateLeast false true [] ["string", "string", "any?"] = .panic := by decide +kernel
open ZnVerif.Model.Validate in
example : validateLeast false true [.string] ["string", "string", "any?"] = .panic := by decide +kernel
open ZnVerif.Model.Validate in
example : validateLeast false true [.number] ["number", "any", "hashmap?"] = .panic := by decide +kernel
open ZnVerif.Model.Validate in
/-- the repaired code answers LeastParamsError (50) -/
example : validateLeast true true [.string] ["string", "string", "any?"] = .err 50 := by decide +kernel
open ZnVerif.Model.Validate in
/-- hmExecGet's pattern never reaches the indexing branch, repaired or not -/
example : validateLeast false false [] ["string+"] = .ok := by decide +kernel

/-- no function registered in pkg/value, pkg/common, stdlib/json, stdlib/file, exec/globals.go uses a `golang:` type string -/
theorem no_registered_golang_pattern :
    ∀ c ∈ Members.validateCalls, ∀ p ∈ c.2.2, Validate.hasPrefix p Validate.golangPrefix = false := by decide +kernel

/-- the unchecked `v.(*GoValue)` after a failed type test: either the cast is guarded in the code, or no registered
    function uses a `golang:` type string (then the branch is unreachable from programs) -/
theorem golang_cast_guarded :
    Members.golangCastShape = "guarded" ∨
    ∀ c ∈ Members.validateCalls, ∀ p ∈ c.2.2, Validate.hasPrefix p Validate.golangPrefix = false :=
  .inr no_registered_golang_pattern

open ZnVerif.Model.Validate in
/-- what the guard is for: without it a non-GoValue argument of a `golang:` parameter is a Go panic -/
example : validateOne false .number "golang:x" = .panic := by decide +kernel
open ZnVerif.Model.Validate in
example : validateOne true .number "golang:x" = .err 82 := by decide +kernel

end ZnVerif.Properties.C10
