/-
C05 — compilation terminates cleanly on every input: the INPUT-VARIABLE TEXTS.

"For every finite sequence of Unicode characters given as program source or as input-variable text, compilation terminates and
yields either a syntax tree or a single syntax error whose code is in the documented range and whose position lies within the
input — never an endless loop, an internal crash, or a half-built tree."

For an input-variable text "compilation" is steps #1–#3 of `evalVarAssignBlockText` / `evalExpressionText` (pkg/exec/exec_varinput.go,
Model/VarInput.lean): decode, parse with the ordinary parser, check the shape of the tree.  What is proved here:

  * `varinput_compiles_cleanly` — with the fuel of C05 `parse_terminates` the parse step is never still running; its answer is a
    complete tree (then the entry point goes on with exactly that tree) or one syntax error with a code in 20…27 and a cursor
    inside the text (then the entry point answers its SLOT error and the VM is untouched); never the recovered run-time panic;
  * `varinput_all_or_nothing` — a tree that is not a block of assignments (no statements at all, a child that is neither an
    assignment nor an empty statement) is rejected BEFORE anything is evaluated: the VM handed back is the one handed in;
    `varinput_shape_check` says exactly which trees pass;
  * `varinput_binds_all_in_order` — on success the right-hand sides of ALL assignment statements of the tree have been evaluated, in
    order, each in the state the previous one left; the map binds exactly the target names, a later assignment to the same name
    overwriting the earlier one;
  * `varinput_target_check` — an assignment whose target is not a plain name stops the text with a SLOT error; the Go code tests
    this inside the evaluation loop, so the right-hand sides BEFORE it have run (their displayed lines stay displayed): all-or-nothing
    holds for the returned MAP (nothing is returned), not for side effects;
  * `exprinput_single_expression` — the expression entry point evaluates a tree only if it is one single expression statement.

Totality of the evaluation itself (never a panic) is C10: Properties/C10VarInput.lean.
-/
import ZnVerif.Proofs.VarInputTop
import ZnVerif.Proofs.ParserTheorems
set_option linter.unusedSectionVars false

namespace ZnVerif.Properties.C05VarInput
open ZnVerif.Model ZnVerif.Model.VarInput ZnVerif.Model.Parser ZnVerif.Proofs.VarInput
open ZnVerif.Spec.Grammar ZnVerif.Proofs.ParserHoare ZnVerif.Proofs.ParserGood

variable {ν : Type} [NumOps ν]
variable {σ : Type} {ops : LexOps σ} {B : Nat} {μ : σ → Nat} {I : σ → Prop}

/-- **varinput_compiles_cleanly** (both entry points: `k` is what follows the parse step) -/
theorem varinput_compiles_cleanly {α : Type} (hl : LexOK ops B μ I) (l : σ) (hI : I l) (pfuel : Nat) (hn : fuelFor (μ l) ≤ pfuel)
    (k : Program → VM ν → Outcome ν α) (s : VM ν) :
    (∃ t, parseAST Variant.fixed ops pfuel l = .tree t ∧ Complete t ∧ afterParse (parseAST Variant.fixed ops pfuel l) k s = k t s) ∨
    (∃ e, parseAST Variant.fixed ops pfuel l = .synErr e ∧ 20 ≤ e.code ∧ e.code ≤ 27 ∧ e.cursor ≤ B ∧
      afterParse (parseAST Variant.fixed ops pfuel l) k s = .slot .parse s) := by
  have hp := parseAST_spec hl pfuel l hI
  cases hr : parseAST Variant.fixed ops pfuel l with
  | tree t => rw [hr] at hp; exact .inl ⟨t, rfl, hp, rfl⟩
  | synErr e => rw [hr] at hp; exact .inr ⟨e, rfl, hp.1, hp.2.1, hp.2.2, rfl⟩
  | otherErr => rw [hr] at hp; exact hp.elim
  | outOfFuel => rw [hr] at hp; simp only at hp; omega

/-- the two instances, spelled out: the assignment block … -/
theorem varinput_parse_step (hl : LexOK ops B μ I) (l : σ) (hI : I l) (pfuel fuel : Nat) (hn : fuelFor (μ l) ≤ pfuel) (s : VM ν) :
    (∃ t, Complete t ∧ evalVarAssignBlockWith ops pfuel fuel false l s = evalVarAssignBlockTree fuel t s) ∨
    evalVarAssignBlockWith ops pfuel fuel false l s = .slot .parse s := by
  rcases varinput_compiles_cleanly hl l hI pfuel hn (evalVarAssignBlockTree fuel) s with ⟨t, _, hc, h⟩ | ⟨e, _, _, _, _, h⟩
  · exact .inl ⟨t, hc, h⟩
  · exact .inr h

/-- … and the single expression -/
theorem exprinput_parse_step (hl : LexOK ops B μ I) (l : σ) (hI : I l) (pfuel fuel : Nat) (hn : fuelFor (μ l) ≤ pfuel) (s : VM ν) :
    (∃ t, Complete t ∧ evalExpressionWith ops pfuel fuel l s = evalExpressionTree fuel t s) ∨
    evalExpressionWith ops pfuel fuel l s = .slot .parse s := by
  rcases varinput_compiles_cleanly hl l hI pfuel hn (evalExpressionTree fuel) s with ⟨t, _, hc, h⟩ | ⟨e, _, _, _, _, h⟩
  · exact .inl ⟨t, hc, h⟩
  · exact .inr h

/-- a block of plain assignments, as `assertASTIsVarAssignBlock` sees it: there is an exec block with a statement block, and every
    child is an assignment expression or an empty statement.  (Input names and exception handlers of the exec block are not looked at.) -/
def IsAssignBlock (p : Program) : Prop :=
  ∃ ins stmts cs, p.exec = some (.mk ins (some stmts) cs) ∧ ∀ st ∈ stmts, (asAssign st).isSome = true ∨ isEmptyStmt st = true

/-- **varinput_shape_check**: the check passes exactly on assignment blocks, and then returns ALL assignments of the block, in order -/
theorem varinput_shape_check (p : Program) (pairs : List (Expr × Expr)) :
    assertVarAssignBlock p = some pairs ↔
      ∃ ins stmts cs, p.exec = some (.mk ins (some stmts) cs) ∧
        (∀ st ∈ stmts, (asAssign st).isSome = true ∨ isEmptyStmt st = true) ∧ pairs = stmts.filterMap asAssign := by
  unfold assertVarAssignBlock
  cases hx : p.exec with
  | none => simp
  | some x =>
    obtain ⟨ins, body, cs⟩ := x
    cases body with
    | none => simp
    | some stmts =>
      dsimp only
      rw [collectAssigns_some_iff]
      constructor
      · rintro ⟨h1, h2⟩; exact ⟨ins, stmts, cs, rfl, h1, h2⟩
      · rintro ⟨ins', stmts', cs', he, h1, h2⟩
        cases he
        exact ⟨h1, h2⟩

theorem shape_check_fails_iff (p : Program) : assertVarAssignBlock p = none ↔ ¬ IsAssignBlock p := by
  constructor
  · rintro h ⟨ins, stmts, cs, hx, hall⟩
    have := (varinput_shape_check p (stmts.filterMap asAssign)).mpr ⟨ins, stmts, cs, hx, hall, rfl⟩
    rw [h] at this; cases this
  · intro h
    cases ha : assertVarAssignBlock p with
    | none => rfl
    | some pairs =>
      obtain ⟨ins, stmts, cs, hx, hall, _⟩ := (varinput_shape_check p pairs).mp ha
      exact absurd ⟨ins, stmts, cs, hx, hall⟩ h

/-- **varinput_all_or_nothing**: a tree that is not a block of assignments is rejected with the SLOT error and NOTHING has been
    evaluated — the VM handed back is the VM handed in (no value allocated, no frame, no line displayed); conversely a text that
    returns a map was such a block -/
theorem varinput_all_or_nothing (fuel : Nat) (p : Program) (s : VM ν) :
    (¬ IsAssignBlock p → evalVarAssignBlockTree fuel p s = .slot .shape s) ∧
    (∀ binds s', evalVarAssignBlockTree fuel p s = .ok binds s' → IsAssignBlock p) := by
  constructor
  · intro h
    unfold evalVarAssignBlockTree
    rw [(shape_check_fails_iff p).mpr h]
  · intro binds s' h
    apply Classical.byContradiction
    intro hn
    unfold evalVarAssignBlockTree at h
    rw [(shape_check_fails_iff p).mpr hn] at h
    cases h

/-! ## what a successful text has done -/

/-- **varinput_binds_all_in_order**: what a text that returned a map has done -/
theorem varinput_binds_all_in_order (fuel : Nat) (p : Program) (s s' : VM ν) (binds : List (String × Addr))
    (h : evalVarAssignBlockTree fuel p s = .ok binds s') :
    ∃ ins stmts cs rs,
      p.exec = some (.mk ins (some stmts) cs) ∧
      -- ALL assignment statements of the tree ran, in order, each in the state the previous one left (`Runs`) …
      Runs fuel (stmts.filterMap asAssign) s rs s' ∧ rs.length = (stmts.filterMap asAssign).length ∧
      -- … every target is a plain name, and `rs` lists (that name, the value of its right-hand side) …
      (∀ k (hk : k < (stmts.filterMap asAssign).length),
        ∃ i, ((stmts.filterMap asAssign)[k]'hk).1 = .id i ∧ (rs[k]?).map Prod.fst = some i.lit) ∧
      -- … the map binds exactly those names, each to the value of its LAST assignment
      (∀ name, lookup name binds = lastValue name rs) ∧
      (∀ name, (lookup name binds).isSome = true ↔ name ∈ rs.map Prod.fst) := by
  unfold evalVarAssignBlockTree at h
  cases ha : assertVarAssignBlock p with
  | none => rw [ha] at h; cases h
  | some pairs =>
    rw [ha] at h
    dsimp only at h
    obtain ⟨ins, stmts, cs, hx, _, rfl⟩ := (varinput_shape_check p pairs).mp ha
    obtain ⟨rs, hruns, rfl⟩ := (evalAssigns_ok_iff fuel _ [] s s' binds).mp h
    have ht := runs_targets hruns
    have hl : ∀ name, lookup name (buildMap [] rs) = lastValue name rs := by
      intro name
      rw [lookup_buildMap]
      cases lastValue name rs <;> rfl
    refine ⟨ins, stmts, cs, rs, hx, hruns, ht.1, ht.2, hl, fun name => ?_⟩
    rw [hl, lastValue_isSome]

/-- `ExecVarInputText` itself: the run starts in the initial VM -/
theorem execVarInputTree_binds_all_in_order (fuel : Nat) (p : Program) (s' : VM ν) (binds : List (String × Addr))
    (h : execVarInputTree fuel p = .ok binds s') :
    ∃ ins stmts cs rs, p.exec = some (.mk ins (some stmts) cs) ∧ Runs fuel (stmts.filterMap asAssign) (initVM ()) rs s' ∧
      (∀ name, lookup name binds = lastValue name rs) := by
  obtain ⟨ins, stmts, cs, rs, h1, h2, _, _, h5, _⟩ := varinput_binds_all_in_order fuel p (initVM ()) s' binds h
  exact ⟨ins, stmts, cs, rs, h1, h2, h5⟩

/-- **varinput_target_check**: the first assignment whose target is not a plain name ends the text with the SLOT error; the
    assignments before it have been evaluated (Go tests the target inside the loop) -/
theorem varinput_target_check (fuel : Nat) (before after : List (Expr × Expr)) (t e : Expr) (ht : ∀ i, t ≠ .id i)
    (acc : List (String × Addr)) (s s1 : VM ν) (rs : List (String × Addr)) (h : Runs fuel before s rs s1) :
    evalAssigns fuel (before ++ (t, e) :: after) acc s = .slot .target s1 := by
  induction h generalizing acc with
  | nil s =>
    show evalAssigns fuel ((t, e) :: after) acc s = _
    unfold evalAssigns
    cases t with
    | id i => exact absurd rfl (ht i)
    | _ => rfl
  | @cons i e' rest s s1' s' v rs h1 h2 ih =>
    show evalAssigns fuel ((.id i, e') :: (rest ++ (t, e) :: after)) acc s = _
    unfold evalAssigns
    dsimp only
    rw [h1]
    exact ih _

/-- **exprinput_single_expression**: `assertASTIsSingleExpr` passes exactly on a block with ONE child that is an expression -/
theorem exprinput_single_expression (p : Program) (e : Expr) :
    assertSingleExpr p = some e ↔ e ≠ .nil ∧ ∃ ins cs, p.exec = some (.mk ins (some [.expr e]) cs) := by
  unfold assertSingleExpr
  constructor
  · intro h
    split at h
    · cases h
    · cases h
    · cases h
    · next ins e' cs hne hx =>
      cases h
      exact ⟨fun he => hne (by rw [he]), ins, cs, hx⟩
    · cases h
  · rintro ⟨hne, ins, cs, hx⟩
    rw [hx]
    cases e with
    | nil => exact absurd rfl hne
    | _ => rfl

/-- … and everything else is rejected before anything is evaluated -/
theorem exprinput_all_or_nothing (fuel : Nat) (p : Program) (s : VM ν) (h : assertSingleExpr p = none) :
    evalExpressionTree fuel p s = .slot .shape s := by
  unfold evalExpressionTree
  rw [h]

/-! ## non-vacuity -/

section examples
local instance unitNum : NumOps Unit where
  add _ _ := (); sub _ _ := (); mul _ _ := (); div _ _ := (); floor _ := (); ceil _ := (); sqrt _ := ()
  eq _ _ := true; lt _ _ := false; gt _ _ := false; le _ _ := true; ge _ _ := true
  isZero _ := false; leZero _ := false; ofInt _ := (); toInt _ := 0; parse _ := (); fmt _ := ""

def prog (stmts : List Stmt) : Program := { imports := [], exec := some (.mk [] (some stmts) []) }
def asg (l : Nat) (x : String) (e : Expr) : Stmt := .expr (.assign l (.id ⟨l, x⟩) e)

-- `X = “a” ； ； X = “b”`: an assignment block; the later X wins
example : IsAssignBlock (prog [asg 0 "X" (.str 0 "a"), .empty 0, .empty 0, asg 0 "X" (.str 0 "b")]) :=
  ⟨[], _, [], rfl, by decide⟩
example : (match (execVarInputTree 9 (prog [asg 0 "X" (.str 0 "a"), .empty 0, .empty 0, asg 0 "X" (.str 0 "b")]) : Outcome Unit _) with
    | .ok binds s => binds.length == 1 && (match lookup "X" binds with | some a => (match s.heap[a]? with | some (.str "b") => true | _ => false) | none => false)
    | _ => false) = true := by decide +kernel
-- `输出 1` / a tree without an exec block: not assignment blocks
example : ¬ IsAssignBlock (prog [.ret 0 (.id ⟨0, "1"⟩)]) := by
  rintro ⟨_, _, _, h, hall⟩; cases h; exact absurd (hall _ List.mem_cons_self) (by decide)
example : ¬ IsAssignBlock { imports := [], exec := none } := by rintro ⟨_, _, _, h, _⟩; cases h
-- `X = （显示：“a”） ⏎ Y之b = “c”`: the first right-hand side HAS run (one line displayed) when the target test stops the text
example : (match (execVarInputTree 9 (prog [asg 0 "X" (.call 0 (some ⟨0, "显示"⟩) [.str 0 "a"] none),
      .expr (.assign 1 (.member 1 1 (.id ⟨1, "Y"⟩) 1 (some ⟨1, "b"⟩) .nil) (.str 1 "c"))]) : Outcome Unit _) with
    | .slot .target s => s.out == ["a"] | _ => false) = true := by decide +kernel
end examples

end ZnVerif.Properties.C05VarInput
