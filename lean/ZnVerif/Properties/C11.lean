/-
C11 — Execution is deterministic: nothing observable depends on hash-map iteration order, addresses or timing.
Property theorems only; helper lemmas live in ZnVerif/Proofs/MapSites.lean.

Model: ZnVerif/Model/MapSites.lean — every `range`-over-map site of the interpreter as a function of the order
oracle (the sequence `es` the Go runtime yields, `RangeOrder m es`: any permutation of the map's entries), plus
dictionary equality on pure trees.  The inventory of sites and of randomness / clock / identity / goroutine uses is
`ZnVerif/Generated/Facts.lean`, regenerated from the working tree by go/types on every run.

Shape of the argument.  The evaluator model (Model/Interp.lean) is a pure function with no oracle parameter, so the
only way an execution could depend on the runtime's choices is through the places the inventory lists:
  (1) `sites_all_classified` — every regenerated map-range site is one of the hand-classified ones;
  (2) one theorem per classified site of this property — for ALL maps, ALL pairs of yield orders, ALL loop-body
      functions: same result (state AND first error);
  (3) `no_other_sources` — no clock, `%p`, goroutine or `select` in the execution path, `rand` only in 取随机数,
      the single identity comparison is `IsInstanceOf` (class identity = declaration, no address is ever shown);
  (4) `xeq_content_only` — dictionary equality (为 / 不为 / == / 包含 / 寻找) is a function of contents.
Sites owned by C15 / C19 / C20 are listed as external.  Not modelled: the Go scheduler and address space.
-/
import ZnVerif.Proofs.MapSites

namespace ZnVerif.Properties.C11
open ZnVerif ZnVerif.Model.MapSites ZnVerif.Proofs.MapSites ZnVerif.Generated

variable {κ : Type} {α : Type} {β : Type} {σ : Type} {ε : Type} [DecidableEq κ]

/-- Every `range` over a map that go/types finds in pkg/exec, pkg/value, pkg/runtime, pkg/common, pkg/syntax, pkg/io,
pkg/error, pkg/server, stdlib/json, stdlib/file — with its multiplicity and loop shape — is a classified site. -/
theorem sites_all_classified : ∀ s ∈ Facts.mapRangeSites, s ∈ classified := by decide +kernel

/-- the scan saw the sources (a scan that silently reached nothing would make the theorem above vacuous) -/
theorem inventory_nonempty : Facts.rangeStmtTotal ≥ 100 ∧ Facts.mapRangeSites.length ≥ 3 := by decide

/-- In the execution path (everything but the prefork process manager's two files): the only use of a random
generator is 取随机数 (`rand.Float64`, excepted by the property); no clock is read; no `%p`; no goroutine is started and
no `select` chooses; the only identity comparison between interpreter values is the class test of `IsInstanceOf`. -/
theorem no_other_sources :
    Facts.randUses.filter inExecPath = [⟨"pkg/exec/globals.go", "newGetRandomFloatFunc", "rand.Float64", 1, ""⟩] ∧
    Facts.timeUses.filter inExecPath = [] ∧
    Facts.percentP = [] ∧
    Facts.goStmts.filter inExecPath = [] ∧
    Facts.selectStmts.filter inExecPath = [] ∧
    (∀ s ∈ Facts.ptrCompares, s = ⟨"pkg/value/object.go", "(*Object).IsInstanceOf", "zo.model == classModel", 1, ""⟩) := by
  decide +kernel

/-- `NewObject`: whatever order the property map of the class is ranged in, the new object's property map reads
the same under every name (and every later access to it is by name: the inventory lists no range over `propList`). -/
theorem newObject_order_independent (dup : α → α) (init m es₁ es₂ : GoMap κ α) (hm : WF m)
    (h₁ : RangeOrder m es₁) (h₂ : RangeOrder m es₂) (k : κ) :
    get? k (newObject dup init es₁) = get? k (newObject dup init es₂) := by
  rw [newObject_get? dup init es₁ (wf_of_perm hm h₁), newObject_get? dup init es₂ (wf_of_perm hm h₂),
    get?_perm hm h₁, get?_perm hm h₂]

/-- … and what it reads is: the value given at construction, else a copy of the declared default. -/
theorem newObject_reads (dup : α → α) (init m es : GoMap κ α) (hm : WF m) (h : RangeOrder m es) (k : κ) :
    get? k (newObject dup init es) = (get? k m).map (objValue dup init k) := by
  rw [newObject_get? dup init es (wf_of_perm hm h), get?_perm hm h]

example : get? "b" (newObject (· + 100) [("b", 7)] [("a", 1), ("b", 2), ("c", 3), ("d", 4)]) = some 7 ∧
    get? "b" (newObject (· + 100) [("b", 7)] [("d", 4), ("b", 2), ("a", 1), ("c", 3)]) = some 7 ∧
    get? "c" (newObject (· + 100) [("b", 7)] [("d", 4), ("b", 2), ("a", 1), ("c", 3)]) = some 103 := by decide

/-- Standard-library import: copying the library's exports into the module (refusals of already present names are
dropped by the code) leaves the same export table whatever the order. -/
theorem libraryCopy_order_independent (m0 m es₁ es₂ : GoMap κ α) (hm : WF m)
    (h₁ : RangeOrder m es₁) (h₂ : RangeOrder m es₂) (k : κ) :
    get? k (libraryCopy m0 es₁) = get? k (libraryCopy m0 es₂) := by
  rw [libraryCopy_get? k es₁ m0 (wf_of_perm hm h₁), libraryCopy_get? k es₂ m0 (wf_of_perm hm h₂),
    get?_perm hm h₁, get?_perm hm h₂]

example : get? "x" (libraryCopy [("x", 0)] [("x", 1), ("y", 2)]) = some 0 ∧
    get? "y" (libraryCopy [("x", 0)] [("y", 2), ("x", 1)]) = some 2 := by decide

/-- The repaired loops (collect the keys, `sort.Strings`, then run the body over the sorted keys reading `m[k]`):
for every body — any function of state, key and value that may fail — the final state AND the first error are the
same for all yield orders. -/
theorem sortedKeyLoop_order_independent (le : κ → κ → Bool) (ho : TotalOrder le)
    (step : σ → κ → Option α → Except ε σ) (m es₁ es₂ : GoMap κ α)
    (h₁ : RangeOrder m es₁) (h₂ : RangeOrder m es₂) (s : σ) :
    sortedKeyLoop le step m es₁ s = sortedKeyLoop le step m es₂ s := by
  unfold sortedKeyLoop
  rw [mergeSort_perm_invariant ho (keys_rangeOrder h₁ h₂)]

/-- import-all (`导入《模块》` without a name list) after the repair: `step` is `vm.DeclareExternalElement`; the
resulting scope and, when several exported names clash with existing ones, the reported name do not depend on the
order in which the export map is ranged. -/
theorem importAll_order_independent (le : κ → κ → Bool) (ho : TotalOrder le)
    (declare : σ → κ → Option α → Except ε σ) (exports es₁ es₂ : GoMap κ α)
    (h₁ : RangeOrder exports es₁) (h₂ : RangeOrder exports es₂) (scope : σ) :
    sortedKeyLoop le declare exports es₁ scope = sortedKeyLoop le declare exports es₂ scope :=
  sortedKeyLoop_order_independent le ho declare exports es₁ es₂ h₁ h₂ scope

/-- `ExecExpressionInputText` after the repair: `step` evaluates one expression text and stores the result. -/
theorem exprInput_order_independent (le : κ → κ → Bool) (ho : TotalOrder le)
    (evalStore : σ → κ → Option α → Except ε σ) (exprs es₁ es₂ : GoMap κ α)
    (h₁ : RangeOrder exprs es₁) (h₂ : RangeOrder exprs es₂) (s : σ) :
    sortedKeyLoop le evalStore exprs es₁ s = sortedKeyLoop le evalStore exprs es₂ s :=
  sortedKeyLoop_order_independent le ho evalStore exprs es₁ es₂ h₁ h₂ s

theorem natLe_totalOrder : TotalOrder (fun a b : Nat => decide (a ≤ b)) where
  trans := by intro a b c h1 h2; simp at *; omega
  total := by intro a b; simp; omega
  antisymm := by intro a b h1 h2; simp at *; omega

/-- a declare function for the examples: a name can be declared once -/
def declOnce (s : List String) (k : String) (_ : Option Nat) : Except String (List String) :=
  if k ∈ s then .error k else .ok (k :: s)

/-- Why the repair was needed — the loop as it was (body run in yield order) reports a different name for two yield
orders of the same export map when two exports clash.  Witness program: `导入《@JSON》` twice. -/
theorem importAll_range_order_mattered :
    keyLoopRange declOnce [("解析JSON", 1), ("生成JSON", 2)] ["解析JSON", "生成JSON"] = .error "解析JSON" ∧
    keyLoopRange declOnce [("生成JSON", 2), ("解析JSON", 1)] ["解析JSON", "生成JSON"] = .error "生成JSON" := by
  decide

/-- the same two yield orders through the repaired loop (`Nat`-coded names ordered by `≤`) -/
example : sortedKeyLoop (fun a b : Nat => decide (a ≤ b)) (fun s k _ => if k ∈ s then Except.error k else .ok (k :: s))
      [(1, 10), (2, 20)] [(1, 10), (2, 20)] [1, 2] = (.error 1 : Except Nat (List Nat)) ∧
    sortedKeyLoop (fun a b : Nat => decide (a ≤ b)) (fun s k _ => if k ∈ s then Except.error k else .ok (k :: s))
      [(1, 10), (2, 20)] [(2, 20), (1, 10)] [1, 2] = (.error 1 : Except Nat (List Nat)) := by
  constructor <;> simp [sortedKeyLoop, keys, List.mergeSort, runSteps, get?]

/-- the hypotheses are satisfiable: `≤` on codes is a total order, a rotation is a yield order -/
example : TotalOrder (fun a b : Nat => decide (a ≤ b)) ∧ RangeOrder [(1, 10), (2, 20), (3, 30)] [(2, 20), (3, 30), (1, 10)] :=
  ⟨natLe_totalOrder, by unfold RangeOrder; decide⟩

/-- Request dictionaries (头部 / 查询参数) after the repair: the insertion-ordered dictionary built from
`r.Header` / `r.URL.Query()` is the same LIST of pairs for every yield order. -/
theorem requestDict_order_independent (le : κ → κ → Bool) (ho : TotalOrder le) (m es₁ es₂ : GoMap κ (List β))
    (h₁ : RangeOrder m es₁) (h₂ : RangeOrder m es₂) :
    firstValueDict le m es₁ = firstValueDict le m es₂ := by
  unfold firstValueDict
  rw [mergeSort_perm_invariant ho (keys_rangeOrder h₁ h₂)]

/-- Before the repair the dictionary's key order was the yield order. -/
theorem requestDict_range_order_mattered :
    firstValueDictRange [("Accept", ["*/*"]), ("X-A", ["1", "2"]), ("X-B", [])] = [("Accept", "*/*"), ("X-A", "1")] ∧
    firstValueDictRange [("X-A", ["1", "2"]), ("X-B", []), ("Accept", ["*/*"])] = [("X-A", "1"), ("Accept", "*/*")] := by
  decide

example : firstValueDict (fun a b : Nat => decide (a ≤ b)) [(3, ["c"]), (1, ["a", "z"]), (2, [])] [(2, []), (3, ["c"]), (1, ["a", "z"])]
    = [(1, "a"), (3, "c")] := by simp [firstValueDict, keys, List.mergeSort, firstValue, get?]

variable {ν : Type}

/-- `compareLogicXEQ` / `CompareValues(CmpEq)` after the repair, on plain values (numbers, texts, booleans, 空,
lists, dictionaries, nested to any depth): if `l` and `l'` have the same contents and `r` and `r'` have the same
contents — as finite maps, whatever their key orders and whatever the layout of the underlying Go maps — then both
comparisons finish (no error, no panic, given fuel above the size of the left operand) with the SAME verdict.
For every number-equality `eqν` (no laws assumed: NaN may differ from itself).
Proved on the pure tree type `PV` mirroring `Model/Interp.lean compareXEQ`; the heap-level statement is not proved
(a `PV` is a plain value of the heap read as a tree with its key orders — `content`, Proofs/Heap.lean, reads such trees without
them; the tie is the program-level correspondence run). -/
theorem xeq_content_only (eqν : ν → ν → Bool) (n m : Nat) (l l' r r' : PV ν)
    (hl : Same l l') (hr : Same r r') (hn : sizeOf l < n) (hm : sizeOf l' < m) :
    ∃ b, xeq eqν n l r = .ok b ∧ xeq eqν m l' r' = .ok b :=
  xeq_joint eqν n m l l' r r' hl hr hn hm

/-- in particular the verdict does not depend on the key order of either operand, nor on the amount of fuel -/
theorem xeq_keyOrder_irrelevant (eqν : ν → ν → Bool) (n m : Nat) (lv rv : List (String × PV ν))
    (lo lo' ro ro' : List String)
    (hl : Same (.hm lv lo) (.hm lv lo')) (hr : Same (.hm rv ro) (.hm rv ro'))
    (hn : sizeOf (PV.hm lv lo) < n) (hm : sizeOf (PV.hm lv lo') < m) :
    ∃ b, xeq eqν n (.hm lv lo) (.hm rv ro) = .ok b ∧ xeq eqν m (.hm lv lo') (.hm rv ro') = .ok b :=
  xeq_content_only eqν n m _ _ _ _ hl hr hn hm

/-- two dictionaries with the same three entries, different key orders and different map layouts (the example below compares
them; that they are `Same` is not shown in this file) -/
def dA : PV Nat := .hm [("A", .num 1), ("B", .num 2), ("C", .arr [.str "x", .null])] ["A", "B", "C"]
def dA' : PV Nat := .hm [("C", .arr [.str "x", .null]), ("A", .num 1), ("B", .num 2)] ["B", "C", "A"]
def dB : PV Nat := .hm [("A", .num 1), ("B", .num 9), ("C", .arr [.str "x", .null])] ["A", "B", "C"]

example : xeq (· == ·) 10 dA dA' = .ok true ∧ xeq (· == ·) 10 dA' dA = .ok true ∧
    xeq (· == ·) 10 dA dB = .ok false ∧ xeq (· == ·) 10 dA' dB = .ok false := by decide

/-- The defect that was repaired: with "the verdict of the first yielded key", `【A=1，B=2，C=3】为【A=1，B=9，C=8】`
is 真 when the runtime yields `A` first and 假 when it yields `B` first. -/
theorem xeq_first_key_order_mattered :
    let lv : List (String × PV Nat) := [("A", .num 1), ("B", .num 2), ("C", .num 3)]
    let rv : List (String × PV Nat) := [("A", .num 1), ("B", .num 9), ("C", .num 8)]
    xeqFirstKey (· == ·) 5 lv rv [("A", .num 1), ("B", .num 2), ("C", .num 3)] = .ok true ∧
    xeqFirstKey (· == ·) 5 lv rv [("B", .num 2), ("C", .num 3), ("A", .num 1)] = .ok false ∧
    xeq (· == ·) 5 (.hm lv ["A", "B", "C"]) (.hm rv ["A", "B", "C"]) = .ok false := by decide

/-- Outside the theorem's hypothesis (a value that cannot be compared, e.g. an object, under some key): the verdict
still depends only on the two values, but on their key ORDER too — `false` if a differing key comes first, error 83 if
the object comes first.  Key order is insertion order (C12), so this is deterministic; it is recorded here because it
bounds what "a function of contents" can mean for non-plain values. -/
theorem xeq_nonplain_keyOrder_visible :
    let lv : List (String × PV Nat) := [("A", .num 1), ("B", .other 0)]
    let rv : List (String × PV Nat) := [("A", .num 2), ("B", .other 0)]
    xeq (· == ·) 5 (.hm lv ["A", "B"]) (.hm rv ["A", "B"]) = .ok false ∧
    xeq (· == ·) 5 (.hm lv ["B", "A"]) (.hm rv ["A", "B"]) = .err 83 := by decide

/-! ### what is not a theorem here

The design's `run_order_independent : ∀ π₁ π₂ prog inputs, run π₁ prog inputs = run π₂ prog inputs` would need the
evaluator model to take the oracle as a parameter.  `Model/Interp.lean` has none: it is written with the π-free forms of
the sites (lists in declaration order), and what the theorems above prove is that every π-instance of a site equals
that form on everything a program can read.  The lifting to whole runs is therefore by construction of the model plus
`sites_all_classified`; it is exercised — not proved — by the repetition runs (N executions of the real code in one
process must give exactly one outcome, equal to the model's where the program is modelled). -/

end ZnVerif.Properties.C11
