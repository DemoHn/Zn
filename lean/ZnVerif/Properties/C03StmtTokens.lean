/-
C03, statements: the 47-line program of the second non-vacuity example (Properties/C03StmtExample), as the tokens of a layout, and the
parser model evaluated on them: the tree's shape and line numbers are compared with the expected ones.  This needs the specification
alone, so the one long kernel evaluation builds beside the modules of the round-trip proof and not after them.

  0  导入 《库》 之 甲、乙
  1  令：
  2      甲 设为 乙
  3      丙、丁 恒为 甲
  4  如何 求和？
  5      输入 甲、乙
  6      如果 甲：
  7          输出 甲
  8      再如 乙：
  9          继续循环
 10      否则：
 11          抛出 错：甲、乙！
 12      拦截 错：
 13          输出 乙
 14  定义 狗：
 15      其 名 为 甲
 16      如何 叫？
 17          输出 甲
 18      何为 岁？
 19          输出 乙
 20  如何新建 狗？
 21      输出 甲
 22  遍历 甲：
 23      结束循环
 24  以 甲 遍历 乙：
 25      结束循环
 26  以 甲、乙 遍历 丙：
 27      每当 甲：
 28          { 甲 或 乙 } 且 甲 == 乙 * 丙
 29  （名：甲、乙）
 30  （名：甲）得到 丙；（名）；
 31  令 名 为 （新建 名：甲）
 32  甲 之 名 = 甲 # 乙
 33  甲 # "键" = 甲 # { 乙 + 甲 }
 34  其 名 = 【甲，乙，
 35      丙】
 36  甲 为 【甲 = 乙，丙 = 甲】
 37  令 甲 为 【】
 38  令 乙 为 【=】
 39  以 甲（名：乙）、（名）得到 丙
 40  令 丙 为 以 甲（名）
 41  ；
 42  （名：
 43      甲、
 44      乙）
 45  拦截 错：
 46      输出 甲
-/
import ZnVerif.Spec.StmtSyntax

namespace ZnVerif.Properties.C03.Example2
open ZnVerif.Model ZnVerif.Model.Parser ZnVerif.Generated.Tokens
open ZnVerif.Spec.StmtSyntax

/-- line `k` starts at character `100 * k`; the indentation of the 47 lines as in the header -/
def Y : Layout :=
  { lines :=
    #[{ indents := 0, startIdx := 0 }, { indents := 0, startIdx := 100 }, { indents := 1, startIdx := 200 },
      { indents := 1, startIdx := 300 }, { indents := 0, startIdx := 400 }, { indents := 1, startIdx := 500 },
      { indents := 1, startIdx := 600 }, { indents := 2, startIdx := 700 }, { indents := 1, startIdx := 800 },
      { indents := 2, startIdx := 900 }, { indents := 1, startIdx := 1000 }, { indents := 2, startIdx := 1100 },
      { indents := 1, startIdx := 1200 }, { indents := 2, startIdx := 1300 }, { indents := 0, startIdx := 1400 },
      { indents := 1, startIdx := 1500 }, { indents := 1, startIdx := 1600 }, { indents := 2, startIdx := 1700 },
      { indents := 1, startIdx := 1800 }, { indents := 2, startIdx := 1900 }, { indents := 0, startIdx := 2000 },
      { indents := 1, startIdx := 2100 }, { indents := 0, startIdx := 2200 }, { indents := 1, startIdx := 2300 },
      { indents := 0, startIdx := 2400 }, { indents := 1, startIdx := 2500 }, { indents := 0, startIdx := 2600 },
      { indents := 1, startIdx := 2700 }, { indents := 2, startIdx := 2800 }, { indents := 0, startIdx := 2900 },
      { indents := 0, startIdx := 3000 }, { indents := 0, startIdx := 3100 }, { indents := 0, startIdx := 3200 },
      { indents := 0, startIdx := 3300 }, { indents := 0, startIdx := 3400 }, { indents := 1, startIdx := 3500 },
      { indents := 0, startIdx := 3600 }, { indents := 0, startIdx := 3700 }, { indents := 0, startIdx := 3800 },
      { indents := 0, startIdx := 3900 }, { indents := 0, startIdx := 4000 }, { indents := 0, startIdx := 4100 },
      { indents := 0, startIdx := 4200 }, { indents := 1, startIdx := 4300 }, { indents := 1, startIdx := 4400 },
      { indents := 0, startIdx := 4500 }, { indents := 1, startIdx := 4600 }],
    eofIdx := 4700, ne := by decide }

/-- the `k`-th token of line `l` -/
def T (ty l k : Nat) (lit : List Nat := []) : Token :=
  { type := ty, literal := lit, startIdx := 100 * l + 2 * k, endIdx := 100 * l + 2 * k + 1 }

def jia (l k : Nat) : Token := T cTypeIdentifier l k [0x7532]
def yi (l k : Nat) : Token := T cTypeIdentifier l k [0x4E59]
def bing (l k : Nat) : Token := T cTypeIdentifier l k [0x4E19]
def nm (l k : Nat) : Token := T cTypeIdentifier l k [0x540D]
def pause (l k : Nat) : Token := T cTypePauseCommaSep l k
def colon (l k : Nat) : Token := T cTypeFuncCall l k
def qm (l k : Nat) : Token := T cTypeFuncDeclare l k
def ret (l : Nat) : Token := T cTypeReturnW l 0
def lp (l k : Nat) : Token := T cTypeFuncQuoteL l k
def rp (l k : Nat) : Token := T cTypeFuncQuoteR l k
def cma (l k : Nat) : Token := T cTypeCommaSep l k
def semi (l k : Nat) : Token := T cTypeStmtSep l k
def eqm (l k : Nat) : Token := T cTypeAssignMark l k
def lb (l k : Nat) : Token := T cTypeArrayQuoteL l k
def rb (l k : Nat) : Token := T cTypeArrayQuoteR l k

def l0 : List Token := [T cTypeImportW 0 0, T cTypeLibString 0 1 [0x5E93], T cTypeObjDotW 0 2, jia 0 3, pause 0 4, yi 0 5]

/-- the tokens of the 47 lines -/
def tokens : List Token :=
  l0 ++ [] ++
  ((T cTypeDeclareW 1 0 :: colon 1 1 :: jia 2 0 :: T cTypeAssignW 2 1 :: yi 2 2 ::
      bing 3 0 :: pause 3 1 :: nm 3 2 :: T cTypeAssignConstW 3 3 :: [jia 3 4]) ++
   (T cTypeFuncW 4 0 :: nm 4 1 :: qm 4 2 :: T cTypeInputW 5 0 :: jia 5 1 :: pause 5 2 :: yi 5 3 ::
      T cTypeCondW 6 0 :: jia 6 1 :: colon 6 2 :: ret 7 :: jia 7 1 ::
      T cTypeCondOtherW 8 0 :: yi 8 1 :: colon 8 2 :: T cTypeContinueW 9 0 ::
      T cTypeCondElseW 10 0 :: colon 10 1 ::
      T cTypeThrowErrorW 11 0 :: nm 11 1 :: colon 11 2 :: jia 11 3 :: pause 11 4 :: yi 11 5 :: T cTypeExceptionT 11 6 ::
      T cTypeCatchErrorW 12 0 :: nm 12 1 :: colon 12 2 :: ret 13 :: [yi 13 1]) ++
   (T cTypeObjDefineW 14 0 :: nm 14 1 :: colon 14 2 :: T cTypeObjThisW 15 0 :: nm 15 1 :: T cTypeAssignW 15 2 :: jia 15 3 ::
      T cTypeFuncW 16 0 :: nm 16 1 :: qm 16 2 :: ret 17 :: jia 17 1 :: T cTypeGetterW 18 0 :: nm 18 1 :: qm 18 2 :: ret 19 :: [yi 19 1]) ++
   (T cTypeFuncW 20 0 :: T cTypeObjNewW 20 1 :: nm 20 2 :: qm 20 3 :: ret 21 :: [jia 21 1]) ++
   (T cTypeIteratorW 22 0 :: jia 22 1 :: colon 22 2 :: [T cTypeBreakW 23 0]) ++
   (T cTypeVarOneW 24 0 :: jia 24 1 :: T cTypeIteratorW 24 2 :: yi 24 3 :: colon 24 4 :: [T cTypeBreakW 25 0]) ++
   (T cTypeVarOneW 26 0 :: jia 26 1 :: pause 26 2 :: yi 26 3 :: T cTypeIteratorW 26 4 :: bing 26 5 :: colon 26 6 ::
      T cTypeWhileLoopW 27 0 :: jia 27 1 :: colon 27 2 ::
      T cTypeStmtQuoteL 28 0 :: jia 28 1 :: T cTypeLogicOrW 28 2 :: yi 28 3 :: T cTypeStmtQuoteR 28 4 :: T cTypeLogicAndW 28 5 ::
      jia 28 6 :: T cTypeEqualMark 28 7 :: yi 28 8 :: T cTypeMultiply 28 9 :: [bing 28 10]) ++
   (lp 29 0 :: nm 29 1 :: colon 29 2 :: jia 29 3 :: pause 29 4 :: yi 29 5 :: rp 29 6 ::
      lp 30 0 :: nm 30 1 :: colon 30 2 :: jia 30 3 :: rp 30 4 :: T cTypeGetResultW 30 5 :: bing 30 6 :: semi 30 7 ::
      lp 30 8 :: nm 30 9 :: rp 30 10 :: semi 30 11 ::
      T cTypeDeclareW 31 0 :: nm 31 1 :: T cTypeAssignW 31 2 :: lp 31 3 :: T cTypeObjNewW 31 4 :: nm 31 5 :: colon 31 6 ::
      jia 31 7 :: rp 31 8 ::
      jia 32 0 :: T cTypeObjDotW 32 1 :: nm 32 2 :: eqm 32 3 :: jia 32 4 :: T cTypeMapHash 32 5 :: yi 32 6 ::
      jia 33 0 :: T cTypeMapHash 33 1 :: T cTypeString 33 2 [0x952E] :: eqm 33 3 :: jia 33 4 :: T cTypeMapHash 33 5 ::
      T cTypeStmtQuoteL 33 6 :: yi 33 7 :: T cTypePlus 33 8 :: jia 33 9 :: T cTypeStmtQuoteR 33 10 ::
      T cTypeObjThisW 34 0 :: nm 34 1 :: eqm 34 2 :: lb 34 3 :: jia 34 4 :: cma 34 5 :: yi 34 6 :: cma 34 7 :: bing 35 0 :: rb 35 1 ::
      jia 36 0 :: T cTypeAssignW 36 1 :: lb 36 2 :: jia 36 3 :: eqm 36 4 :: yi 36 5 :: cma 36 6 :: bing 36 7 :: eqm 36 8 ::
      jia 36 9 :: rb 36 10 ::
      T cTypeDeclareW 37 0 :: jia 37 1 :: T cTypeAssignW 37 2 :: lb 37 3 :: rb 37 4 ::
      T cTypeDeclareW 38 0 :: yi 38 1 :: T cTypeAssignW 38 2 :: lb 38 3 :: eqm 38 4 :: rb 38 5 ::
      T cTypeVarOneW 39 0 :: jia 39 1 :: lp 39 2 :: nm 39 3 :: colon 39 4 :: yi 39 5 :: rp 39 6 :: pause 39 7 :: lp 39 8 ::
      nm 39 9 :: rp 39 10 :: T cTypeGetResultW 39 11 :: bing 39 12 ::
      T cTypeDeclareW 40 0 :: bing 40 1 :: T cTypeAssignW 40 2 :: T cTypeVarOneW 40 3 :: jia 40 4 :: lp 40 5 :: nm 40 6 :: rp 40 7 ::
      semi 41 0 ::
      lp 42 0 :: nm 42 1 :: colon 42 2 :: jia 43 0 :: pause 43 1 :: yi 44 0 :: [rp 44 1]) ++
   (T cTypeCatchErrorW 45 0 :: nm 45 1 :: colon 45 2 :: ret 46 :: [jia 46 1]))

/-- independently of the theorem, by evaluation of the parser model: the shape of the tree and every line number -/
def expected : Outcome → Bool
    | .tree ⟨[⟨0, 1, some _, [⟨0, _⟩, ⟨0, _⟩]⟩], some (.mk [] (some
        [.varDecl 1 [(1, [⟨2, _⟩], .id ⟨2, _⟩), (3, [⟨3, _⟩, ⟨3, _⟩], .id ⟨3, _⟩)],
         .funcDecl 4 (some ⟨4, _⟩) 1 (some (.mk [⟨5, _⟩, ⟨5, _⟩] (some
           [.branch 6 (.id ⟨6, _⟩) (some [.ret 7 (.id ⟨7, _⟩)]) [(.id ⟨8, _⟩, some [.continue 9])] true
              (some [.throw 11 (some ⟨11, _⟩) [.id ⟨11, _⟩, .id ⟨11, _⟩]])])
           [(some ⟨12, _⟩, some [.ret 13 (.id ⟨13, _⟩)])])),
         .classDecl 14 (some ⟨14, _⟩) [(some ⟨15, _⟩, .id ⟨15, _⟩)]
           [.funcDecl 0 (some ⟨16, _⟩) 1 (some (.mk [] (some [.ret 17 (.id ⟨17, _⟩)]) []))]
           [.funcDecl 0 (some ⟨18, _⟩) 2 (some (.mk [] (some [.ret 19 (.id ⟨19, _⟩)]) []))],
         .funcDecl 20 (some ⟨20, _⟩) 3 (some (.mk [] (some [.ret 21 (.id ⟨21, _⟩)]) [])),
         .iterate 22 (.id ⟨22, _⟩) [] (some [.break 23]),
         .iterate 24 (.id ⟨24, _⟩) [⟨24, _⟩] (some [.break 25]),
         .iterate 26 (.id ⟨26, _⟩) [⟨26, _⟩, ⟨26, _⟩] (some
           [.while 27 (.id ⟨27, _⟩) (some
             [.expr (.logic 28 2 (.logic 28 1 (.id ⟨28, _⟩) (.id ⟨28, _⟩))
                (.logic 28 4 (.id ⟨28, _⟩) (.arith 28 14 (.id ⟨28, _⟩) (.id ⟨28, _⟩))))])]),
         .expr (.call 29 (some ⟨29, _⟩) [.id ⟨29, _⟩, .id ⟨29, _⟩] none),
         .expr (.call 30 (some ⟨30, _⟩) [.id ⟨30, _⟩] (some ⟨30, _⟩)), .empty 0,
         .expr (.call 30 (some ⟨30, _⟩) [] none), .empty 0,
         .varDecl 31 [(1, [⟨31, _⟩], .new 31 (some ⟨31, _⟩) [.id ⟨31, _⟩])],
         .expr (.assign 32 (.member 32 1 (.id ⟨32, _⟩) 1 (some ⟨32, _⟩) .nil) (.member 32 1 (.id ⟨32, _⟩) 2 none (.id ⟨32, _⟩))),
         .expr (.assign 33 (.member 33 1 (.id ⟨33, _⟩) 2 none (.str 33 _))
           (.member 33 1 (.id ⟨33, _⟩) 2 none (.arith 33 12 (.id ⟨33, _⟩) (.id ⟨33, _⟩)))),
         .expr (.assign 34 (.member 34 2 .nil 1 (some ⟨34, _⟩) .nil) (.arr 34 [.id ⟨34, _⟩, .id ⟨34, _⟩, .id ⟨35, _⟩])),
         .expr (.assign 36 (.id ⟨36, _⟩) (.hm 36 [(.id ⟨36, _⟩, .id ⟨36, _⟩), (.id ⟨36, _⟩, .id ⟨36, _⟩)])),
         .varDecl 37 [(1, [⟨37, _⟩], .arr 37 [])],
         .varDecl 38 [(1, [⟨38, _⟩], .hm 38 [])],
         .expr (.mcall 39 (.id ⟨39, _⟩) [.call 0 (some ⟨39, _⟩) [.id ⟨39, _⟩] none, .call 0 (some ⟨39, _⟩) [] none] (some ⟨39, _⟩)),
         .varDecl 40 [(1, [⟨40, _⟩], .mcall 40 (.id ⟨40, _⟩) [.call 0 (some ⟨40, _⟩) [] none] none)],
         .empty 0,
         .expr (.call 42 (some ⟨42, _⟩) [.id ⟨43, _⟩, .id ⟨44, _⟩] none)])
        [(some ⟨45, _⟩, some [.ret 46 (.id ⟨46, _⟩)])])⟩ => true
    | _ => false

theorem evaluated : expected (parseLaidOut Variant.fixed Y 4000 tokens) = true := by decide +kernel

end ZnVerif.Properties.C03.Example2
