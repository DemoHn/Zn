/-
C09 — Exceptions reach the nearest matching handler and unwind cleanly.
Which handler runs and what its block's outcome becomes are run equations of `handleException` / `finishBlock` / `runHandlerA` (the pieces of
Proofs/Handlers.lean) under hypotheses that fix the path: the class of the exception value (`HasClass`), the names of the handlers
before the matching one.  That the stack, the module and 其 are those of the protected block's entry afterwards — whatever the failed
calls left above it, whatever the handler block does — is the fuel induction on the call stack (`allFr` / `allBal`,
Proofs/StackBalBlock.lean; `runHandler_rel` for one handler block); so is "no loop signal leaves a body".  Examples on Proofs/Toy.lean.
-/
import ZnVerif.Model.Interp
import ZnVerif.Proofs.Handlers
import ZnVerif.Proofs.ControlFlow
import ZnVerif.Proofs.StackBalBlock
import ZnVerif.Proofs.Toy
set_option linter.unusedSectionVars false

namespace ZnVerif.Properties.C09
open ZnVerif.Model ZnVerif.Proofs.Calls ZnVerif.Proofs.StackBal

variable {ν : Type} [NumOps ν]

/-- when a statement raises (any error outcome: thrown exception, failing built-in, runtime fault), no later
statement of that block runs: result and state do not depend on `rest` -/
theorem raise_skips_rest (evalOne : Stmt → M ν Addr) (last : Option Addr) (st : Stmt) (rest : List Stmt)
    (s s' : VM ν) (e : Err) (hnd : isDecl st = false) (h1 : evalOne st s = (.err e, s')) :
    stmtsLoop evalOne last (st :: rest) s = (.err e, s') :=
  ZnVerif.Proofs.ControlFlow.stmtsLoop_fail hnd h1

/-- 抛出 (stated for an empty argument list): the exception object is constructed and raised as a signal -/
theorem throw_raises (n ln : Nat) (cid : Ident) (s s1 : VM ν) (cv ex : Addr) (nm : String) (ct : Ctor)
    (ps : List (String × Addr)) (ms : List (String × Addr)) (fr : Frame) (rest : List Frame) (cname : String)
    (hs : s.stack = fr :: rest)
    (hname : matchIDName (ν := ν) cid.lit { s with stack := { fr with line := ln, started := true } :: rest } =
      (.ok cname, { s with stack := { fr with line := ln, started := true } :: rest }))
    (hfind : findElement cname { s with stack := { fr with line := ln, started := true } :: rest } =
      (.ok cv, { s with stack := { fr with line := ln, started := true } :: rest }))
    (hcell : s.heap[cv]? = some (.cls nm ct ps ms))
    (hcons : construct n cv [] { s with stack := { fr with line := ln, started := true } :: rest } = (.ok ex, s1)) :
    evalStmt (n+1) (.throw ln (some cid) []) s = (.err (.sigExc ex), s1) := by
  simp only [evalStmt, Stmt.line]
  simp [bind, setTopFrame, modifyVM, hs, matchIDNameOpt, hname, hfind, getCell, hcell, hcons, throwE, pure]

/-- 结束循环 is a signal (继续循环 likewise: the next arm of `evalStmt`, `throwE .sigContinue`) -/
theorem break_is_signal (n ln : Nat) (s : VM ν) :
    (evalStmt (n+1) (.break ln) s).1 = .err .sigBreak := by
  simp only [evalStmt, Stmt.line]
  simp [bind, setTopFrame, modifyVM, throwE]

/-! ## handlers (`handleExceptionSignal`) -/

/-- the error of a protected body goes to `finishBlock` — loop signals become exceptions, then the block's handlers —
with the module and the call depth of the block's entry (both read before anything of the block runs) -/
theorem body_error_goes_to_handlers (n : Nat) (inputs : List Ident) (body : Option (List Stmt))
    (catches : List (Option Ident × Option (List Stmt))) (params : List Addr) (s s1 s2 : VM ν) (e : Err)
    (hlen : params.length = inputs.length)
    (hpro : (do bindThis s; bindInputs inputs params : M ν Unit) s = (.ok (), s1))
    (hbody : evalStmtBlock n body s1 = (.err e, s2)) :
    execBlockBody n inputs body catches params s =
      finishBlock n s.csModuleID s.stack.length catches (.err e) s2 := by
  rw [execBlockBody_run hlen hpro, hbody]

theorem conv_plain (e : Err) (he : isSig e = false) (t : VM ν) : loopSignalToException e t = (.ok e, t) := by
  unfold loopSignalToException
  cases e <;> first | rfl | cases he

/-- an error that is not a loop signal goes to the handlers as it is; what a handler makes of it is the body's value -/
theorem handled_error_is_body_value (n : Nat) (bm : Int) (bd : Nat)
    (catches : List (Option Ident × Option (List Stmt))) (e : Err) (t t' : VM ν) (v : Addr)
    (he : isSig e = false) (hh : handleException n bm bd catches e t = (.ok v, t')) :
    finishBlock n bm bd catches (.err e) t = (.ok v, t') := by
  unfold finishBlock
  simp only
  rw [bind_ok (conv_plain e he t), tryCatch_run hh]; rfl

/-- …and an error no handler takes leaves the body unchanged (if it is not a loop signal of the handler block) -/
theorem unhandled_error_leaves_body (n : Nat) (bm : Int) (bd : Nat)
    (catches : List (Option Ident × Option (List Stmt))) (e e2 : Err) (t t' : VM ν)
    (he : isSig e = false) (he2 : isSig e2 = false) (hh : handleException n bm bd catches e t = (.err e2, t')) :
    finishBlock n bm bd catches (.err e) t = (.err e2, t') := by
  unfold finishBlock
  simp only
  rw [bind_ok (conv_plain e he t), tryCatch_run hh]
  simp only
  rw [bind_ok (conv_plain e2 he2 t')]; rfl

/-- 结束循环 / 继续循环 that no loop of the body consumed: the body behaves as if it had raised a fresh 异常 value -/
theorem loop_signal_becomes_exception (n : Nat) (bm : Int) (bd : Nat)
    (catches : List (Option Ident × Option (List Stmt))) (t : VM ν) :
    finishBlock n bm bd catches (.err .sigBreak) t =
      finishBlock n bm bd catches (.err (.excErr t.heap.size)) { t with heap := t.heap.push (.exc "收到「结束」中断信号") } ∧
    finishBlock n bm bd catches (.err .sigContinue) t =
      finishBlock n bm bd catches (.err (.excErr t.heap.size)) { t with heap := t.heap.push (.exc "收到「继续」中断信号") } := by
  constructor <;> rfl

/-- the first handler whose class name equals the exception's class name runs; the handlers after it play no role
(`post` is arbitrary), the ones before it are passed over -/
theorem handler_matches_first_class (n : Nat) (bm : Int) (bd : Nat)
    (pre post : List (Option Ident × Option (List Stmt))) (i : Ident) (blk : Option (List Stmt))
    (e : Err) (ex : Addr) (s s1 : VM ν)
    (hexc : excOf e s = (.ok (some ex), s1)) (hcls : HasClass s1 ex i.lit) (hi : IsName i.lit) (hne : i.lit ≠ "")
    (hpre : ∀ c ∈ pre, ∃ j, c.1 = some j ∧ IsName j.lit ∧ j.lit ≠ i.lit) :
    handleException (n+1) bm bd (pre ++ (some i, blk) :: post) e s = runHandlerA n bm bd ex blk s1 := by
  rw [handleException_eq, bind_ok hexc]
  simp only
  rw [bind_ok (classNameOf_of_hasClass hcls)]
  rw [firstM_skip s1 pre _ (by
    intro c hc
    obtain ⟨j, hj1, hj2, hj3⟩ := hpre c hc
    rcases c with ⟨c1, c2⟩
    simp only at hj1; subst hj1
    exact tryHandler_miss n bm bd ex i.lit j c2 hj2 hj3 s1)]
  rw [firstM_cons_hit (runHandlerA n bm bd ex blk) (tryHandler_hit n bm bd ex i blk hi hne)]

/-- no handler of the exception's class: the very same error value goes on outward -/
theorem unmatched_propagates_unchanged (n : Nat) (bm : Int) (bd : Nat)
    (catches : List (Option Ident × Option (List Stmt))) (e : Err) (ex : Addr) (s s1 : VM ν) (name : String)
    (hexc : excOf e s = (.ok (some ex), s1)) (hcls : HasClass s1 ex name)
    (hall : ∀ c ∈ catches, ∃ j, c.1 = some j ∧ IsName j.lit ∧ j.lit ≠ name) :
    handleException (n+1) bm bd catches e s = (.err e, s1) := by
  rw [handleException_eq, bind_ok hexc]
  simp only
  rw [bind_ok (classNameOf_of_hasClass hcls)]
  have := firstM_skip (f := tryHandler n bm bd ex name) (d := (throwE e : M ν Addr)) s1 catches [] (by
    intro c hc
    obtain ⟨j, hj1, hj2, hj3⟩ := hall c hc
    rcases c with ⟨c1, c2⟩
    simp only at hj1; subst hj1
    exact tryHandler_miss n bm bd ex name j c2 hj2 hj3 s1)
  rw [List.append_nil] at this
  rw [this]; rfl

/-- a runtime fault (index out of range, division by zero, …) is seen by the handlers as an 异常 value -/
theorem runtime_fault_is_catchable (n : Nat) (bm : Int) (bd : Nat)
    (post : List (Option Ident × Option (List Stmt))) (i : Ident) (blk : Option (List Stmt)) (code : Nat)
    (s : VM ν) (hi : i.lit = exceptionClassName) :
    handleException (n+1) bm bd ((some i, blk) :: post) (.rt code) s =
      runHandlerA n bm bd s.heap.size blk { s with heap := s.heap.push (.exc ("‹rt:" ++ toString code ++ "›")) } := by
  have hname : IsName i.lit := by rw [hi]; decide
  have hne : i.lit ≠ "" := by rw [hi]; decide
  have hcell : ({ s with heap := s.heap.push (.exc ("‹rt:" ++ toString code ++ "›")) } : VM ν).heap[s.heap.size]? =
      some (.exc ("‹rt:" ++ toString code ++ "›")) := by simp
  have := handler_matches_first_class n bm bd [] post i blk (.rt code) s.heap.size s _ (excOf_rt code s)
    (Or.inl ⟨_, hcell, hi⟩) hname hne (by intro c hc; cases hc)
  rw [List.nil_append] at this
  exact this

/-- semantic errors and loop signals are not exceptions: handlers never see them -/
theorem non_exception_errors_pass (n : Nat) (bm : Int) (bd : Nat)
    (catches : List (Option Ident × Option (List Stmt))) (e : Err) (s : VM ν)
    (he : (∃ c, e = .sem c) ∨ e = .sigBreak ∨ e = .sigContinue ∨ e = .other) :
    handleException (n+1) bm bd catches e s = (.err e, s) := by
  rw [handleException_eq]
  rcases he with ⟨c, rfl⟩ | rfl | rfl | rfl <;> rfl

/-- the handler block runs with the exception as 其: the frame on top is an exception frame of the protected block's
module whose receiver is the exception value -/
theorem handler_this_is_exception (bm : Int) (bd : Nat) (ex : Addr) (s : VM ν) :
    (handlerEntry bm bd ex s).stack = { moduleId := bm, callType := 3, this := some ex } :: (unwindTo bd s).2.stack ∧
    (handlerEntry bm bd ex s).csModuleID = bm ∧
    getThis (handlerEntry bm bd ex s) = (.ok (some ex), handlerEntry bm bd ex s) := by
  have h := handler_entry_stack bm bd ex s
  exact ⟨h.1, h.2, getThis_cons _ _ _ h.1⟩

/-- a handler block that ended normally: its frame is popped, and its 输出 value (the frame's return slot) or a fresh
空 is the result -/
theorem runHandlerA_ok {n : Nat} {bm : Int} {bd : Nat} {ex : Addr} {blk : Option (List Stmt)} {s s3 : VM ν}
    {x : Option Addr} {fr : Frame} {rest : List Frame} (hbm : 0 ≤ bm)
    (hrun : evalPureStmtBlock n blk (handlerEntry bm bd ex s) = (.ok x, s3)) (hst : s3.stack = fr :: rest) :
    runHandlerA n bm bd ex blk s =
      (match fr.ret with | some v => pure v | none => newNull : M ν Addr)
        { s3 with stack := rest, csModuleID := topModule rest } := by
  rw [runHandlerA_run n bm bd ex blk s hbm, bind_ok hrun, bind_ok (getReturnValue_cons s3 fr rest hst),
    bind_ok (popFrame_cons s3 fr rest hst)]
  cases fr.ret <;> rfl

/-- after a handler block that ended normally its own frame is on top (with the frames below untouched) — no
assumption: the block is balanced (`allBal`) -/
theorem handler_block_keeps_its_frame (n : Nat) (bm : Int) (bd : Nat) (ex : Addr) (blk : Option (List Stmt))
    (s s3 : VM ν) (x : Option Addr)
    (hrun : evalPureStmtBlock n blk (handlerEntry bm bd ex s) = (.ok x, s3)) :
    ∃ fr, s3.stack = fr :: (unwindTo bd s).2.stack ∧ fr.moduleId = bm ∧ fr.callType = 3 ∧ fr.this = some ex := by
  obtain ⟨fr, hs, hc⟩ := ((allBal (ν := ν) n).evalPureStmtBlock blk).ok_cons (handler_entry_stack bm bd ex s).1 hrun
  exact ⟨fr, hs, core_eq_iff.1 hc⟩

/-- the value of a handled block is the return slot of the handler's frame, or a fresh 空 -/
theorem handler_value_or_null (n : Nat) (bm : Int) (bd : Nat) (ex : Addr) (blk : Option (List Stmt))
    (s s3 : VM ν) (x : Option Addr) (hbm : 0 ≤ bm)
    (hrun : evalPureStmtBlock n blk (handlerEntry bm bd ex s) = (.ok x, s3)) :
    (∀ v, s3.stack.head?.bind (·.ret) = some v →
      (runHandlerA n bm bd ex blk s).1 = .ok v ∧ (runHandlerA n bm bd ex blk s).2.heap = s3.heap) ∧
    (s3.stack.head?.bind (·.ret) = none → (runHandlerA n bm bd ex blk s).1 = .ok s3.heap.size ∧
      (runHandlerA n bm bd ex blk s).2.heap = s3.heap.push .null) := by
  obtain ⟨fr, hs, _⟩ := handler_block_keeps_its_frame n bm bd ex blk s s3 x hrun
  rw [runHandlerA_ok hbm hrun hs, hs]
  constructor
  · intro v (hv : fr.ret = some v); rw [hv]; exact ⟨rfl, rfl⟩
  · intro (hv : fr.ret = none); rw [hv]; exact ⟨rfl, rfl⟩

/-- restoration: after a handled exception the call stack is the stack `st0` the protected block was entered with (up
to `line` / `ret` / `started` of its top frame, which statements of the block have updated in place) — the frames of the calls
that failed inside the block are dropped, the exception frame is popped — hence the call depth, 其 (the top frame's
receiver) and the current module are those of before.  No assumption about the handler block. -/
theorem catch_restores_stack (n : Nat) (bm : Int) (bd : Nat) (ex : Addr) (blk : Option (List Stmt))
    (s s3 : VM ν) (st0 : List Frame) (x : Option Addr) (hbm : 0 ≤ bm)
    (hext : Ext st0 s.stack) (hl : st0.length = bd)
    (hrun : evalPureStmtBlock n blk (handlerEntry bm bd ex s) = (.ok x, s3)) :
    (∃ v, (runHandlerA n bm bd ex blk s).1 = .ok v) ∧
    SameStack st0 (runHandlerA n bm bd ex blk s).2.stack ∧
    (runHandlerA n bm bd ex blk s).2.stack.length = bd ∧
    (runHandlerA n bm bd ex blk s).2.csModuleID = topModule st0 ∧
    getThis (runHandlerA n bm bd ex blk s).2 = (.ok (st0.head?.bind (·.this)), (runHandlerA n bm bd ex blk s).2) := by
  obtain ⟨fr, hs3, _⟩ := handler_block_keeps_its_frame n bm bd ex blk s s3 x hrun
  have hok : ∃ v, (runHandlerA n bm bd ex blk s).1 = .ok v ∧
      (runHandlerA n bm bd ex blk s).2.csModuleID = topModule (runHandlerA n bm bd ex blk s).2.stack := by
    rw [runHandlerA_ok hbm hrun hs3]
    cases fr.ret <;> exact ⟨_, rfl, rfl⟩
  obtain ⟨v, hv, hcs⟩ := hok
  obtain ⟨⟨_, hsame⟩, _⟩ := RelTo.postRel (m := fun bd => runHandlerA n bm bd ex blk)
    (runHandler_rel n (allFr (ν := ν) n).evalPureStmtBlock bm ex blk) hext hl
  rw [hv] at hsame
  have hS := hsame rfl
  exact ⟨⟨v, hv⟩, hS, by rw [hS.length_eq, hl], by rw [hcs]; exact topModule_norm hS, getThis_of_norm hS⟩

/-- call stacks are balanced: whatever ends normally — a method or program body (also through a handled exception), a
call, a constructor, an expression, a statement, a block — leaves the call stack it started with, up to `line` /
`ret` of the top frame (statements record their line there, 输出 its value); the frames below are untouched.
By induction on fuel over the whole evaluator (`allFr`, read through `allBal`); true only since loop signals stop at body boundaries. -/
theorem stack_balanced_on_success (n : Nat) :
    (∀ b ps (s s' : VM ν) v, evalExecBlock n b ps s = (.ok v, s') → SameStack s.stack s'.stack) ∧
    (∀ f ps (s s' : VM ν) v, execDirectFunction n f ps s = (.ok v, s') → SameStack s.stack s'.stack) ∧
    (∀ r f ps (s s' : VM ν) v, execMethodFunction n r f ps s = (.ok v, s') → SameStack s.stack s'.stack) ∧
    (∀ c ps (s s' : VM ν) v, construct n c ps s = (.ok v, s') → SameStack s.stack s'.stack) ∧
    (∀ e (s s' : VM ν) v, evalExpr n e s = (.ok v, s') → SameStack s.stack s'.stack) ∧
    (∀ st (s s' : VM ν) v, evalStmt n st s = (.ok v, s') → SameStack s.stack s'.stack) ∧
    (∀ b (s s' : VM ν) v, evalPureStmtBlock n b s = (.ok v, s') → SameStack s.stack s'.stack) := by
  have h := allBal (ν := ν) n
  exact ⟨fun b ps _ _ _ hr => (h.evalExecBlock b ps).ok_same hr, fun f ps _ _ _ hr => (h.execDirectFunction f ps).ok_same hr,
    fun r f ps _ _ _ hr => (h.execMethodFunction r f ps).ok_same hr, fun c ps _ _ _ hr => (h.construct c ps).ok_same hr,
    fun e _ _ _ hr => (h.evalExpr e).ok_same hr, fun st _ _ _ hr => (h.evalStmt st).ok_same hr,
    fun b _ _ _ hr => (h.evalPureStmtBlock b).ok_same hr⟩

/-- what `SameStack` says: both empty, or the same frames below a top frame with the same module, kind and receiver -/
theorem same_stack_means (st st' : List Frame) :
    SameStack st st' ↔ (st = [] ∧ st' = []) ∨
      ∃ f f' r, st = f :: r ∧ st' = f' :: r ∧ f'.moduleId = f.moduleId ∧ f'.callType = f.callType ∧ f'.this = f.this := by
  rw [← top_marks, top_iff]
  simp only [FrameRel.marks, core_eq_iff]

/-- a method or program body never ends with a loop signal — 结束循环 / 继续循环 stop at the body boundary (also when
raised by a 拦截 handler block) -/
theorem loop_signal_stops_at_body (n : Nat) (b : Option ExecBlock) (ps : List Addr) (s : VM ν) :
    (evalExecBlock n b ps s).1 ≠ .err .sigBreak ∧ (evalExecBlock n b ps s).1 ≠ .err .sigContinue :=
  ((allBal (ν := ν) n).evalExecBlock b ps).no_signal s

/-- hence no call, constructor or expression ends with a loop signal: a loop of the caller can never consume a
signal of a callee … -/
theorem callee_signal_never_reaches_caller (n : Nat) :
    (∀ f ps (s : VM ν), (execDirectFunction n f ps s).1 ≠ .err .sigBreak ∧ (execDirectFunction n f ps s).1 ≠ .err .sigContinue) ∧
    (∀ r f ps (s : VM ν), (execMethodFunction n r f ps s).1 ≠ .err .sigBreak ∧
      (execMethodFunction n r f ps s).1 ≠ .err .sigContinue) ∧
    (∀ c ps (s : VM ν), (construct n c ps s).1 ≠ .err .sigBreak ∧ (construct n c ps s).1 ≠ .err .sigContinue) ∧
    (∀ e (s : VM ν), (evalExpr n e s).1 ≠ .err .sigBreak ∧ (evalExpr n e s).1 ≠ .err .sigContinue) := by
  have h := allBal (ν := ν) n
  exact ⟨fun f ps => (h.execDirectFunction f ps).no_signal, fun r f ps => (h.execMethodFunction r f ps).no_signal,
    fun c ps => (h.construct c ps).no_signal, fun e => (h.evalExpr e).no_signal⟩

/-- … and the signal a loop does consume was raised by a statement running in the loop's own frame: when a block or
statement ends with a loop signal, no frame has been added or removed -/
theorem loop_signal_raised_in_own_frame (n : Nat) (s s' : VM ν) (e : Err) (he : e = .sigBreak ∨ e = .sigContinue) :
    (∀ b, evalPureStmtBlock n b s = (.err e, s') → SameStack s.stack s'.stack) ∧
    (∀ st, evalStmt n st s = (.err e, s') → SameStack s.stack s'.stack) := by
  have h := allBal (ν := ν) n
  have hsig : okOrSig (Res.err e : Res (Option Addr)) = true ∧ okOrSig (Res.err e : Res Addr) = true := by
    rcases he with rfl | rfl <;> exact ⟨rfl, rfl⟩
  constructor
  · intro b hr
    have := (h.evalPureStmtBlock b).same s (by rw [hr]; exact hsig.1); rwa [hr] at this
  · intro st hr
    have := (h.evalStmt st).same s (by rw [hr]; exact hsig.2); rwa [hr] at this

/-- the current module is always the module of the frame on top of the call stack (−1 without frames): the
evaluator keeps this on every outcome -/
theorem module_follows_top_frame (n : Nat) (s : VM ν) (hi : s.csModuleID = topModule s.stack) :
    (∀ st, (evalStmt n st s).2.csModuleID = topModule (evalStmt n st s).2.stack) ∧
    (∀ e, (evalExpr n e s).2.csModuleID = topModule (evalExpr n e s).2.stack) ∧
    (∀ b ps, (evalExecBlock n b ps s).2.csModuleID = topModule (evalExecBlock n b ps s).2.stack) := by
  have h := allBal (ν := ν) n
  exact ⟨fun st => (h.evalStmt st).inv s hi, fun e => (h.evalExpr e).inv s hi,
    fun b ps => (h.evalExecBlock b ps).inv s hi⟩

/-- restoration at the level of the protected body (`evalExecBlock` = a method body or the program body with its
拦截 handlers): a statement of the body fails with `e` (not a loop signal — those become exceptions first, see
`loop_signal_becomes_exception`), a handler matches and its block runs normally.  Then the body yields a value as
if it had returned normally, and the call stack (so the call depth and 其) and the current module are those at
entry (up to `line` / `ret` / `started` of the top frame).  No assumption about what failed calls left on the stack or about
the handler block.  (Scope depths and the caller's variables: `C06Eval.exec_block_restores_scope`, unconditional.) -/
theorem catch_restores (n : Nat) (inputs : List Ident) (body : Option (List Stmt))
    (pre post : List (Option Ident × Option (List Stmt))) (i : Ident) (blk : Option (List Stmt))
    (params : List Addr) (s t1 t2 t3 t4 : VM ν) (e : Err) (ex : Addr) (x : Option Addr)
    (hlen : params.length = inputs.length)
    (hpro : (do bindThis (enterScope s); bindInputs inputs params : M ν Unit) (enterScope s) = (.ok (), t1))
    (hbody : evalStmtBlock (n+1) body t1 = (.err e, t2)) (he : isSig e = false)
    (hexc : excOf e t2 = (.ok (some ex), t3)) (hcls : HasClass t3 ex i.lit) (hi : IsName i.lit) (hne : i.lit ≠ "")
    (hpre : ∀ c ∈ pre, ∃ j, c.1 = some j ∧ IsName j.lit ∧ j.lit ≠ i.lit)
    (hmod : 0 ≤ s.csModuleID)
    (hrun : evalPureStmtBlock n blk (handlerEntry s.csModuleID s.stack.length ex t3) = (.ok x, t4)) :
    let r := evalExecBlock (n+2) (some (.mk inputs body (pre ++ (some i, blk) :: post))) params s
    (∃ v, r.1 = .ok v) ∧ SameStack s.stack r.2.stack ∧ r.2.stack.length = s.stack.length ∧
    r.2.csModuleID = topModule s.stack ∧ getThis r.2 = (.ok (s.stack.head?.bind (·.this)), r.2) := by
  intro r
  have hr : r = withScope (execBlockBody (n+1) inputs body (pre ++ (some i, blk) :: post) params) s := by
    show evalExecBlock _ _ _ s = _
    rw [evalExecBlock_eq]
  rw [withScope_run] at hr
  have hes := (congrArg VM.stack (enterScope_state s) :)
  have hec := (congrArg VM.csModuleID (enterScope_state s) :)
  -- the prologue keeps the stack; the failing statements only add frames above it
  have hq : Quiet (do bindThis (enterScope s); bindInputs inputs params : M ν Unit) :=
    Quiet.bind (Quiet.bindThis _) fun _ => Quiet.bindInputs _ _
  have ht1 : t1.stack = s.stack := by
    have := hq.stack (enterScope s); rw [hpro] at this; rw [this, hes]
  have hext2 : Ext s.stack t2.stack := by
    have := ((allBal (ν := ν) (n+1)).evalStmtBlock body).ext t1
    rw [hbody, ht1] at this; exact this
  have hext3 : Ext s.stack t3.stack := by
    have := (congrArg VM.stack (excOf_state e t2) :)
    rw [hexc] at this; rw [this]; exact hext2
  obtain ⟨⟨v, hv⟩, h3, h4, h5, h6⟩ :=
    catch_restores_stack n s.csModuleID s.stack.length ex blk t3 t4 s.stack x hmod hext3 rfl hrun
  have hhandled : handleException (n+1) s.csModuleID s.stack.length (pre ++ (some i, blk) :: post) e t2 =
      (.ok v, (runHandlerA n s.csModuleID s.stack.length ex blk t3).2) := by
    rw [handler_matches_first_class n _ _ pre post i blk e ex t2 t3 hexc hcls hi hne hpre]
    exact Prod.ext hv rfl
  have hbodyrun : execBlockBody (n+1) inputs body (pre ++ (some i, blk) :: post) params (enterScope s) =
      (.ok v, (runHandlerA n s.csModuleID s.stack.length ex blk t3).2) := by
    rw [body_error_goes_to_handlers (n+1) inputs body _ params (enterScope s) t1 t2 e hlen hpro hbody, hes, hec]
    exact handled_error_is_body_value _ _ _ _ e t2 _ v he hhandled
  rw [hbodyrun] at hr
  have hx := exitScope_state s (runHandlerA n s.csModuleID s.stack.length ex blk t3).2
  have hr2 : r.2 = exitScope s (runHandlerA n s.csModuleID s.stack.length ex blk t3).2 := by rw [hr]
  have hst : r.2.stack = (runHandlerA n s.csModuleID s.stack.length ex blk t3).2.stack := by rw [hr2]; exact (congrArg VM.stack hx :)
  refine ⟨⟨v, by rw [hr]⟩, by rw [hst]; exact h3, by rw [hst]; exact h4, by rw [hr2, (congrArg VM.csModuleID hx :)]; exact h5, ?_⟩
  exact getThis_of_norm (by rw [hst]; exact h3)

/-- `Function.Exec` turns a runtime error of the body into an exception error (which callers' handlers catch) -/
theorem function_converts_runtime_error (n : Nat) (exec : Option ExecBlock) (this : Option Addr)
    (params : List Addr) (s s' : VM ν) (c : Nat) (hbody : evalExecBlock n exec params s = (.err (.rt c), s')) :
    execFunction (n+1) (.user exec) this params s =
      (.err (.excErr s'.heap.size), { s' with heap := s'.heap.push (.exc ("‹rt:" ++ toString c ++ "›")) }) := by
  rw [ZnVerif.Proofs.ControlFlow.execFunction_user_run hbody]; rfl

/-- …and passes thrown exceptions, exception errors, signals and semantic errors through unchanged -/
theorem function_passes_other_errors (n : Nat) (exec : Option ExecBlock) (this : Option Addr)
    (params : List Addr) (s s' : VM ν) (e : Err) (hbody : evalExecBlock n exec params s = (.err e, s'))
    (he : (∀ c, e ≠ .rt c) ∧ e ≠ .other) :
    execFunction (n+1) (.user exec) this params s = (.err e, s') := by
  rw [ZnVerif.Proofs.ControlFlow.execFunction_user_run hbody]
  cases e <;> first | rfl | (exfalso; first | exact he.1 _ rfl | exact he.2 rfl)

/-! ## non-vacuity: each implication above, instantiated on a tiny program over the toy numbers -/

section examples
open ZnVerif.Proofs.Toy

/-- a body `结束循环` raises a signal; it reaches `finishBlock` with module 0 and depth 1 … -/
example : execBlockBody 3 [] (some [.break 0]) [] [] s0 =
    finishBlock 3 0 1 [] (.err .sigBreak) (evalStmtBlock 3 (some [.break 0]) s0).2 :=
  body_error_goes_to_handlers 3 [] (some [.break 0]) [] [] s0 s0 _ .sigBreak rfl rfl rfl

/-- … where it becomes an exception error (the fresh 异常 value at address 2), not a signal -/
example : (execBlockBody 3 [] (some [.break 0]) [] [] s0).1 = .err (.excErr 2) := by
  rw [body_error_goes_to_handlers 3 [] (some [.break 0]) [] [] s0 s0 _ .sigBreak rfl rfl rfl,
    (loop_signal_becomes_exception 3 s0.csModuleID s0.stack.length [] _).1]
  rfl

/-- a runtime fault handled by `拦截 异常`: the handler's value is the body's value -/
example : ∃ t', finishBlock 3 0 1 [(some ⟨0, "异常"⟩, some [])] (.err (.rt 40)) s0 = (.ok 3, t') :=
  ⟨_, handled_error_is_body_value 3 0 1 _ (.rt 40) s0 _ 3 rfl rfl⟩

example : ∃ t', finishBlock 3 0 1 [] (.err (.rt 40)) s0 = (.err (.rt 40), t') :=
  ⟨_, unhandled_error_leaves_body 3 0 1 [] (.rt 40) (.rt 40) s0 _ rfl rfl rfl⟩

/-- thrown 异常 value at address 0; handlers 甲, 异常, and a malformed third one that is never looked at -/
example : handleException 3 0 1 ([(some ⟨0, "甲"⟩, none)] ++ (some ⟨0, "异常"⟩, some []) :: [(none, none)])
    (.sigExc 0) s0 = runHandlerA 2 0 1 0 (some []) s0 :=
  handler_matches_first_class 2 0 1 [(some ⟨0, "甲"⟩, none)] [(none, none)] ⟨0, "异常"⟩ (some []) (.sigExc 0) 0 s0 s0
    rfl (Or.inl ⟨"boom", rfl, rfl⟩) (by decide) (by decide)
    (by intro c hc; simp at hc; subst hc; exact ⟨⟨0, "甲"⟩, rfl, by decide, by decide⟩)

example : handleException 3 0 1 [(some ⟨0, "甲"⟩, none)] (.sigExc 0) s0 = (.err (.sigExc 0), s0) :=
  unmatched_propagates_unchanged 2 0 1 [(some ⟨0, "甲"⟩, none)] (.sigExc 0) 0 s0 s0 "异常"
    rfl (Or.inl ⟨"boom", rfl, rfl⟩)
    (by intro c hc; simp at hc; subst hc; exact ⟨⟨0, "甲"⟩, rfl, by decide, by decide⟩)

/-- index-out-of-range (code 40) caught by `拦截 异常`: the handler's value is a fresh 空 at address 3 -/
example : (handleException 3 0 1 [(some ⟨0, "异常"⟩, some [])] (.rt 40) s0).1 = .ok 3 := by
  rw [runtime_fault_is_catchable 2 0 1 [] ⟨0, "异常"⟩ (some []) 40 s0 rfl]; rfl

example : handleException 3 0 1 [(some ⟨0, "异常"⟩, some [])] .sigBreak s0 = (.err .sigBreak, s0) :=
  non_exception_errors_pass 2 0 1 _ .sigBreak s0 (Or.inr (Or.inl rfl))

/-- handler `输出 “x”`: the value is the text cell (address 2); handler without 输出: a fresh 空 (address 2) -/
example : (runHandlerA 3 0 1 0 (some [.ret 0 (.str 0 "x")]) s0Failed).1 = .ok 2 :=
  ((handler_value_or_null 3 0 1 0 (some [.ret 0 (.str 0 "x")]) s0Failed _ _ (by decide) rfl).1 2 rfl).1

example : ∃ fr, (evalPureStmtBlock 3 (some [.ret 0 (.str 0 "x")]) (handlerEntry 0 1 0 s0Failed)).2.stack = fr :: s0.stack ∧
    fr.this = some 0 := by
  obtain ⟨fr, h1, _, _, h4⟩ := handler_block_keeps_its_frame 3 0 1 0 (some [.ret 0 (.str 0 "x")]) s0Failed _ _ rfl
  exact ⟨fr, h1, h4⟩

example : (runHandlerA 3 0 1 0 (some []) s0Failed).1 = .ok 2 ∧
    (runHandlerA 3 0 1 0 (some []) s0Failed).2.heap = #[.exc "boom", .null, .null] :=
  (handler_value_or_null 3 0 1 0 (some []) s0Failed _ _ (by decide) rfl).2 rfl

/-- a call failed inside the protected block (its frame is still there); after the handler the stack is the script
frame alone, the module is 0 and there is no receiver -/
example : SameStack s0.stack (runHandlerA 3 0 1 0 (some []) s0Failed).2.stack ∧
    (runHandlerA 3 0 1 0 (some []) s0Failed).2.csModuleID = 0 :=
  let h := catch_restores_stack 3 0 1 0 (some []) s0Failed _ s0.stack _
    (by decide) ⟨[{ moduleId := 0, callType := 2 }], s0.stack, rfl, rfl⟩ rfl rfl
  ⟨h.2.1, h.2.2.2.1⟩

/-- a method with no inputs called with one argument: error 51 inside becomes an exception error outside -/
example : (execFunction 3 (.user (some (.mk [] (some []) []))) none [7] s0).1 = .err (.excErr 2) := by
  rw [function_converts_runtime_error 2 (some (.mk [] (some []) [])) none [7] s0 _ 51 rfl]
  rfl

/-- a method body `结束循环`: the exception error the body made of the signal passes through `Function.Exec` -/
example : (execFunction 5 (.user (some (.mk [] (some [.break 0]) []))) none [] s0).1 = .err (.excErr 2) := by
  rw [function_passes_other_errors 4 (some (.mk [] (some [.break 0]) [])) none [] s0 _ (.excErr 2) rfl
    ⟨(by intro c h; cases h), (by intro h; cases h)⟩]

/-- a runtime fault (code 80) inside a body with handler `拦截 异常` without 输出: the body yields a fresh 空; stack,
module and 其 are those of the entry -/
example :
    let r := evalExecBlock 6 (some (.mk [] (some [.expr (.arr 0 [.nil])]) [(some ⟨0, "异常"⟩, some [])])) [] s0
    r.1 = .ok 3 ∧ SameStack s0.stack r.2.stack ∧ r.2.csModuleID = 0 := by
  have h := catch_restores 4 [] (some [.expr (.arr 0 [.nil])]) [] [] ⟨0, "异常"⟩ (some []) [] s0 (enterScope s0)
    (evalStmtBlock 5 (some [.expr (.arr 0 [.nil])]) (enterScope s0)).2
    (excOf (.rt 80) (evalStmtBlock 5 (some [.expr (.arr 0 [.nil])]) (enterScope s0)).2).2
    (evalPureStmtBlock 4 (some []) (handlerEntry 0 1 2
      (excOf (.rt 80) (evalStmtBlock 5 (some [.expr (.arr 0 [.nil])]) (enterScope s0)).2).2)).2
    (.rt 80) 2 none
    rfl rfl rfl rfl rfl (Or.inl ⟨_, rfl, rfl⟩) (by decide) (by decide)
    (by intro c hc; cases hc) (by decide) rfl
  exact ⟨rfl, h.2.1, h.2.2.2.1⟩

/-- `g` is `如何g？ 结束循环`: the call fails with an exception error, not with a signal (before the repair the signal
crossed the method boundary and an enclosing 每当 of the caller consumed it) -/
example : (execDirectFunction 7 "g" [] sG).1 = .err (.excErr 1) := rfl

/-- a successful call of `f` (输出 “x”) from `sF`: the stack afterwards is the caller's -/
example : SameStack sF.stack (execDirectFunction 7 "f" [] sF).2.stack :=
  (stack_balanced_on_success 7).2.1 "f" [] sF _ 1 rfl

/-- `结束循环` as a statement of a block: the signal leaves the block with the stack as it was -/
example : SameStack s0.stack (evalPureStmtBlock 3 (some [.break 0]) s0).2.stack :=
  (loop_signal_raised_in_own_frame 3 s0 _ .sigBreak (Or.inl rfl)).1 (some [.break 0]) rfl

example : (evalStmt 3 (.empty 0) s0).2.csModuleID = topModule (evalStmt 3 (.empty 0) s0).2.stack :=
  (module_follows_top_frame 3 s0 rfl).1 _

/-- a failing first statement: the second (which would panic) never runs -/
example : (stmtsLoop (evalStmt 1) none [.break 0, .nil] s0).1 = .err .sigBreak := by
  rw [raise_skips_rest (evalStmt 1) none (.break 0) [.nil] s0 _ .sigBreak rfl rfl]

/-- `抛出点！` where 点 is a user type with the default constructor: the new instance (address 2) is raised -/
example : (evalStmt 3 (.throw 0 (some ⟨0, "点"⟩) []) sO).1 = .err (.sigExc 2) := by
  rw [throw_raises 2 0 ⟨0, "点"⟩ sO _ 0 2 "点" .default [] [] _ _ "点" rfl rfl rfl rfl rfl]

end examples

end ZnVerif.Properties.C09
