/-
C05 — Compilation and error display terminate cleanly on every input.

The parser theorems are about `Model/Parser.lean` with `Variant.fixed` (the tree with patches fix-c05-catch-block-loop,
fix-c03-if-at-eof, fix-c05-error-builder-nil-token applied, the left-over-token error positioned at the first left-over token, and the still-in-the-输入-section error positioned at the token that ended the block), for EVERY lexer `ops` that meets `LexOK` — stated once for all
token streams; `tokenOps_ok` shows the assumption is satisfiable, Model/Lexer's `nextToken` is the intended instance (its own
bounds are proved in Properties/C04 and Proofs/Lex*).  The display theorems are about `Model/ErrorPrinter.lean` (patch
fix-c05-error-printer-total).  Proofs: Proofs/ParserHoare, ParserGood*, ParserTheorems, ErrorPrinter.
-/
import ZnVerif.Proofs.ParserTheorems
import ZnVerif.Proofs.ErrorPrinter
import ZnVerif.Spec.StmtSyntax

namespace ZnVerif.Properties.C05
open ZnVerif.Model ZnVerif.Model.Parser ZnVerif.Generated.Tokens
open ZnVerif.Proofs.ParserHoare ZnVerif.Proofs.ParserGood

variable {σ : Type} {ops : LexOps σ} {B : Nat} {μ : σ → Nat} {I : σ → Prop}

/-- **parser_progress**: a production that succeeds never gives tokens back, and — unless it is one of the ε-productions listed
in `epsilon_productions` — has consumed at least one (`m` = tokens still to be consumed, the peek token included). -/
theorem parser_progress (hl : LexOK ops B μ I) (n : Nat) (nt : NT) (s s' : PState σ) (r : nt.Out)
    (hs : Inv ops B I s) (hpre : PreC nt) (h : parse Variant.fixed ops n nt s = .ok r s') :
    m μ s' ≤ m μ s ∧ (strict nt = true → m μ s' < m μ s) :=
  ⟨(parse_post hl hs hpre h).1.le, fun hst => ((parse_post hl hs hpre h).1.lt hst).1⟩

/-- the ε-productions, explicitly: the two program loops, the operator tails, the loops over the lines of a block (they stop where the
indentation ends) and the loops that stop at a missing continuation token.  Every other production is strict. -/
theorem epsilon_productions (nt : NT) :
    strict nt = false ↔
      (nt = .program ∨ (∃ i x im e, nt = .programLoop i x im e) ∨ (∃ c e, nt = .lv1Tail c e) ∨ (∃ c e, nt = .lv2Tail c e) ∨
       (∃ e, nt = .arithTail e) ∨ (∃ e, nt = .mulDivTail e) ∨ (∃ e, nt = .memberTail e) ∨ (∃ c, nt = .chainLoop c) ∨
       (∃ i p, nt = .varDeclLoop i p) ∨ (∃ i, nt = .block i) ∨ (∃ i a, nt = .blockLoop i a) ∨
       (∃ mi st a, nt = .branchLoop mi st a) ∨ (∃ i, nt = .execBlock i) ∨ (∃ i st a b c, nt = .execLoop i st a b c) ∨
       (∃ a, nt = .throwLoop a) ∨ (∃ i a b c, nt = .classLoop i a b c)) := by
  constructor
  · intro h
    cases nt <;> first | (cases h; done) | simp
  · rintro (rfl | ⟨_, _, _, _, rfl⟩ | ⟨_, _, rfl⟩ | ⟨_, _, rfl⟩ | ⟨_, rfl⟩ | ⟨_, rfl⟩ | ⟨_, rfl⟩ | ⟨_, rfl⟩ | ⟨_, _, rfl⟩ | ⟨_, rfl⟩ |
      ⟨_, _, rfl⟩ | ⟨_, _, _, rfl⟩ | ⟨_, rfl⟩ | ⟨_, _, _, _, _, rfl⟩ | ⟨_, rfl⟩ | ⟨_, _, _, _, rfl⟩) <;> rfl

/-- … and the callers of the two ε-productions that sit inside an unbounded Go loop do not spin on them: an exec-block loop whose
condition holds on entry consumes (this is what fix (1) restores for the 拦截 state), and the loop of 如果 entered in its initial
state consumes (fix (2)). -/
theorem epsilon_loops_progress (hl : LexOK ops B μ I) (n : Nat) (nt : NT) (s s' : PState σ) (r : nt.Out)
    (hs : Inv ops B I s) (hpre : PreC nt) (hc : CondStrict ops nt s) (h : parse Variant.fixed ops n nt s = .ok r s') :
    m μ s' < m μ s :=
  (((parse_post hl hs hpre h).2.1 hc).lt rfl).1

/-- **parse_terminates**: with fuel linear in the input still to be lexed, the repaired parser is never still running. -/
theorem parse_terminates (hl : LexOK ops B μ I) (l : σ) (hI : I l) (n : Nat) (hn : fuelFor (μ l) ≤ n) :
    parseAST Variant.fixed ops n l ≠ .outOfFuel := by
  intro h
  have := parseAST_spec hl n l hI
  rw [h] at this
  simp only at this
  omega

/-- the sufficient fuel is linear in the measure: 24 per unit (the weight of a token in the induction's `need`) and
`rank .program + 1 = 19` -/
theorem fuelFor_linear (k : Nat) : fuelFor k = 24 * k + 19 := rfl

/-- **cursor_bounded**: every syntax error the lexer+parser report has a code in 20…27 and a cursor inside the source
(given that the lexer's own errors and token positions are — `LexOK`). -/
theorem cursor_bounded (hl : LexOK ops B μ I) (l : σ) (hI : I l) (n : Nat) (e : SynErr)
    (h : parseAST Variant.fixed ops n l = .synErr e) : 20 ≤ e.code ∧ e.code ≤ 27 ∧ e.cursor ≤ B := by
  have := parseAST_spec hl n l hI
  rw [h] at this
  exact this

/-- **no_panic_after_fix**: no Go run-time panic (nil `TokenP1` in the error builders, nil `*LineInfo` in `expectBlockIndent`,
nil interface in the statement / basic-expression switches) can occur; `Parser.Parse` never returns an `error` that is not a
`*SyntaxError`. -/
theorem no_panic_after_fix (hl : LexOK ops B μ I) (l : σ) (hI : I l) (n : Nat) :
    parseAST Variant.fixed ops n l ≠ .otherErr := by
  intro h
  have := parseAST_spec hl n l hI
  rw [h] at this
  exact this

/-- the defect (3) on the pinned tree, at token level: a program whose first token is `）` makes the error builder dereference
the missing current token; `recover` turns the run-time error into a non-syntax error. -/
theorem panic_before_fix :
    (match parseTokens Variant.legacy 40 [{ type := cTypeFuncQuoteR, startIdx := 0, endIdx := 1 }] with
     | .otherErr => true | _ => false) = true := by decide +kernel

/-- … and after it: an ordinary syntax error at the offending token -/
theorem same_input_after_fix :
    (match parseTokens Variant.fixed 40 [{ type := cTypeFuncQuoteR, startIdx := 0, endIdx := 1 }] with
     | .synErr e => e.code == 20 && e.cursor == 0 | _ => false) = true := by decide +kernel

/-- **leftover_error_at_first_leftover_token** (C18's "the error points at the offending line"): when `ParseProgram` returns and
tokens remain (a line indented deeper than the complete statement before it belongs to no open block, so every block ends there),
`Parser.Parse` answers syntax error 20 positioned at the FIRST left-over token (`s.p2`, the parser's peek token) — for every
lexer, every input.  (Pinned tree: `getInvalidSyntaxCurr`, i.e. the last token that was accepted — on the line before.) -/
theorem leftover_error_at_first_leftover_token (n : Nat) (l : σ) (s0 s : PState σ) (pg : Program)
    (h0 : initState ops n l = .ok () s0) (hp : parse Variant.fixed ops n .program s0 = .ok pg s) (hleft : s.p2.type ≠ cTypeEOF) :
    parseAST Variant.fixed ops n l = .synErr ⟨20, s.p2.startIdx⟩ := by
  unfold parseAST
  rw [h0]
  simp only [hp, if_pos hleft]
  show (match (errPeek Variant.fixed 20 : PM σ Unit) s with
        | .err e => Outcome.synErr e | .panic => .otherErr | _ => .otherErr) = _
  rw [errPeek_fixed]

/-- two lines, the second indented by one step: `甲` on line 0 (characters 0–1), `乙` on line 1 (characters 6–7) -/
def overY : ZnVerif.Spec.StmtSyntax.Layout :=
  { lines := #[{ indents := 0, startIdx := 0 }, { indents := 1, startIdx := 2 }], eofIdx := 7, ne := by decide }

/-- the witness `甲⏎    乙`: a complete statement followed by an over-indented line.  Repaired tree: error 20 at `乙` (cursor 6, on the
over-indented line) … -/
theorem overindented_line_after_fix :
    (match ZnVerif.Spec.StmtSyntax.parseLaidOut Variant.fixed overY 60
        [{ type := cTypeIdentifier, literal := [0x7532], startIdx := 0, endIdx := 1 },
         { type := cTypeIdentifier, literal := [0x4E59], startIdx := 6, endIdx := 7 }] with
     | .synErr e => e.code == 20 && e.cursor == 6 | _ => false) = true := by decide +kernel

/-- … pinned tree: error 20 at `甲` (cursor 0, the line before) -/
theorem overindented_line_before_fix :
    (match ZnVerif.Spec.StmtSyntax.parseLaidOut Variant.legacy overY 60
        [{ type := cTypeIdentifier, literal := [0x7532], startIdx := 0, endIdx := 1 },
         { type := cTypeIdentifier, literal := [0x4E59], startIdx := 6, endIdx := 7 }] with
     | .synErr e => e.code == 20 && e.cursor == 0 | _ => false) = true := by decide +kernel

/-- how the loop of `ParseExecBlock` ends, whatever the variant and the state of its switch: in the 输入 section with an error (which
builder is the variant's), past it with the block -/
theorem execLoop_end (v : Variant) (n indent : Nat) (st : ExSt) (ins : List Ident) (ss : List Stmt)
    (cs : List (Option Ident × Option (List Stmt))) (s : PState σ) (hend : blockCond ops indent s = false) :
    parse v ops (n + 1) (.execLoop indent st ins ss cs) s =
      if st = .input then (if v.inputStateFix then errPeek v 20 else errCurr v) s else .ok (.mk ins (some ss) cs) s := by
  show pExecLoop v ops n _ indent st ins ss cs s = _
  unfold pExecLoop
  simp only [Bind.bind, PM.bind, getS, hend, Bool.false_eq_true, if_false]
  split <;> rfl

/-- **input_state_error_at_block_ending_token** (C18's "the error points at the offending line"): when the loop of `ParseExecBlock`
ends (`blockCond` fails: the peek token is the end of the text, or stands on a line that is not indented like the block — an
over-indented or a dedented line) while the block is still in its 输入 section (only 输入 lines so far, none at all included),
the production answers syntax error 20 positioned at the PEEK token (`s.p2`: the token that ended the block, or the end of the
text) — for every lexer, every fuel, every input and every accumulator.  (Tree before c82b35a: `getInvalidSyntaxCurr`, i.e. the
last token that was accepted — the last token of the 输入 line, see `input_state_error_before_fix`.) -/
theorem input_state_error_at_block_ending_token (n indent : Nat) (ins : List Ident) (ss : List Stmt)
    (cs : List (Option Ident × Option (List Stmt))) (s : PState σ) (hend : blockCond ops indent s = false) :
    parse Variant.fixed ops (n + 1) (.execLoop indent .input ins ss cs) s = .err ⟨20, s.p2.startIdx⟩ := by
  rw [execLoop_end _ _ _ _ _ _ _ _ hend]
  exact errPeek_fixed 20 s

/-- … the same place in the code before c82b35a (`Variant.legacy`, once a token has been accepted — always the case inside a
method; at the top level of a file with no token accepted the legacy error builder dereferences nil): the error is positioned at
the LAST ACCEPTED token `t` -/
theorem input_state_error_before_fix (n indent : Nat) (ins : List Ident) (ss : List Stmt)
    (cs : List (Option Ident × Option (List Stmt))) (s : PState σ) (t : Token) (hend : blockCond ops indent s = false)
    (hp1 : s.p1 = some t) :
    parse Variant.legacy ops (n + 1) (.execLoop indent .input ins ss cs) s = .err ⟨20, t.startIdx⟩ := by
  rw [execLoop_end _ _ _ _ _ _ _ _ hend]
  show (errCurr Variant.legacy : PM σ ExecBlock) s = _
  unfold errCurr
  rw [hp1]

/-- conversely, a block that is past its 输入 section ends normally there (any variant): the switch is read in the 输入 state only -/
theorem exec_block_ends_outside_input_state (v : Variant) (n indent : Nat) (st : ExSt) (ins : List Ident) (ss : List Stmt)
    (cs : List (Option Ident × Option (List Stmt))) (s : PState σ) (hend : blockCond ops indent s = false) (hst : st ≠ .input) :
    parse v ops (n + 1) (.execLoop indent st ins ss cs) s = .ok (.mk ins (some ss) cs) s := by
  rw [execLoop_end _ _ _ _ _ _ _ _ hend, if_neg hst]

/-- three lines, each one step deeper: `如何算？` (characters 0–3), `    输入N` (5–11), `        输出 N` (13–24) -/
def inputY : ZnVerif.Spec.StmtSyntax.Layout :=
  { lines := #[{ indents := 0, startIdx := 0 }, { indents := 1, startIdx := 5 }, { indents := 2, startIdx := 13 }], eofIdx := 25,
    ne := by decide }

/-- the tokens of `如何算？⏎    输入N⏎        输出 N` (real lexer: `lex` of the driver) -/
def inputToks : List Token :=
  [{ type := cTypeFuncW, startIdx := 0, endIdx := 2 }, { type := cTypeIdentifier, literal := [0x7B97], startIdx := 2, endIdx := 3 },
   { type := cTypeFuncDeclare, startIdx := 3, endIdx := 4 }, { type := cTypeInputW, startIdx := 9, endIdx := 11 },
   { type := cTypeIdentifier, literal := [0x4E], startIdx := 11, endIdx := 12 }, { type := cTypeReturnW, startIdx := 21, endIdx := 23 },
   { type := cTypeIdentifier, literal := [0x4E], startIdx := 24, endIdx := 25 }]

/-- the witness `如何算？⏎    输入N⏎        输出 N`: an over-indented line right after the 输入 line.  Repaired tree: error 20 at `输出`
(cursor 21, on the over-indented line) … -/
theorem line_after_input_line_after_fix :
    (match ZnVerif.Spec.StmtSyntax.parseLaidOut Variant.fixed inputY 80 inputToks with
     | .synErr e => e.code == 20 && e.cursor == 21 | _ => false) = true := by decide +kernel

/-- … tree before c82b35a: error 20 at `N` (cursor 11, the last token of the 输入 line) -/
theorem line_after_input_line_before_fix :
    (match ZnVerif.Spec.StmtSyntax.parseLaidOut Variant.legacy inputY 80 inputToks with
     | .synErr e => e.code == 20 && e.cursor == 11 | _ => false) = true := by decide +kernel

/-- the 输入 line last in the text (`如何算？⏎    输入N`): the repaired tree points at the end of the text (cursor 12) -/
theorem input_line_last_after_fix :
    (match ZnVerif.Spec.StmtSyntax.parseLaidOut Variant.fixed
        { lines := #[{ indents := 0, startIdx := 0 }, { indents := 1, startIdx := 5 }], eofIdx := 12, ne := by decide } 80
        (inputToks.take 5) with
     | .synErr e => e.code == 20 && e.cursor == 12 | _ => false) = true := by decide +kernel

-- non-vacuity: the assumptions on the lexer are satisfiable (token-level lexer), and its initial states satisfy `I`
example : LexOK tokenOps 100 List.length (fun l => ∀ t ∈ l, t.startIdx ≤ 100) := tokenOps_ok 100
example : parseTokens Variant.fixed (fuelFor 1) [{ type := cTypeFuncQuoteR, startIdx := 0, endIdx := 1 }] ≠ .outOfFuel :=
  parse_terminates (tokenOps_ok 100) _ (by intro t ht; simp at ht; subst ht; decide) _ (Nat.le_refl _)

open ZnVerif.Proofs.ErrorPrinter in
/-- **display_total**: for every source and every cursor (also negative, also past the end) the printer returns: no index out
of range, no negative repeat count, no bad slice bounds. -/
theorem display_total (src : List Nat) (cursor : Int) :
    (∃ q col, M.fmtLine src cursor = .ok q col) ∧ M.fmtLine src cursor ≠ .panic ∧ M.fmtLine src cursor ≠ .outOfFuel :=
  ⟨ZnVerif.Proofs.ErrorPrinter.display_total src cursor, ZnVerif.Proofs.ErrorPrinter.display_never_panics src cursor⟩

open ZnVerif.Proofs.ErrorPrinter in
/-- the quoted line is a physical line of the source (the one holding the cursor's anchor) without its indentation -/
theorem quoted_line_is_physical (src : List Nat) (cursor : Int) (q : List Nat) (col : Nat)
    (h : M.fmtLine src cursor = .ok q col) :
    ∃ line ∈ S.physicalLines src, q = line.dropWhile S.isIndent ∧
      ∃ pre post a, S.IsAnchor src (S.clamp src cursor) a ∧ S.IsLineAt src a pre line post :=
  ZnVerif.Proofs.ErrorPrinter.quoted_line_is_physical src cursor q col h

open ZnVerif.Proofs.ErrorPrinter in
/-- C18's `caret_under_offender`: the caret column is the sum of the display widths (generated tables) of the characters of the
quoted line before the cursor -/
theorem caret_under_offender (src : List Nat) (cursor : Int) (q : List Nat) (col : Nat)
    (h : M.fmtLine src cursor = .ok q col) :
    ∃ pre indent post, src = pre ++ indent ++ q ++ post ∧ (∀ x ∈ indent, S.isIndent x = true) ∧
      (pre = [] ∨ ∃ p b, pre = p ++ [b] ∧ S.isBreak b = true) ∧
      col = ((q.take (S.clamp src cursor - (pre.length + indent.length))).map S.width).sum :=
  ZnVerif.Proofs.ErrorPrinter.caret_under_offender src cursor q col h

end ZnVerif.Properties.C05
