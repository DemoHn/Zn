/-
C03 at character level, free layout: non-vacuity of `parse_render_doc_plain` / `Run` for a TOKEN THAT SPANS LINES — a text literal
written verbatim with a line break inside (`LiteralExample`) — and, second half (`MultiCommentExample`, `parse_render_doc`), two COMMENTS that span lines, `/* … */` and `注1：“…”`.
-/
import ZnVerif.Properties.C03Layouts

namespace ZnVerif.Properties.C03.LiteralExample
open ZnVerif.Model ZnVerif.Model.Parser ZnVerif.Generated.Tokens
open ZnVerif.Spec.StmtSyntax ZnVerif.Spec.RenderChars ZnVerif.Proofs.StmtRT

/-- a text literal that spans lines, written verbatim: ONE token from line 0 to line 1 -/
def mlText : String := "令甲 = “一\n二”\n甲"

def mlEls : List El := [
  .tok (.kw [0x4EE4] 40), .tok (.name [0x7532]), .ws 0x20, .tok (.op [0x3D] cTypeAssignMark), .ws 0x20,
  .lit .dblCurly [0x4E00, 0x0A, 0x4E8C], .br .lf 0, .tok (.name [0x7532])]

theorem mlText_rendered : renderDoc .tab 0 mlEls = mlText.toList.map Char.toNat := by decide +kernel

theorem mlEls_wf : DocWF .tab 0 mlEls := by decide +kernel

abbrev mlY : Layout := docLayout .tab 0 mlEls

/-- three lines; the line the literal starts on never gets its `LineText` (the string scanner does not set it) -/
example : mlY.lines = #[{ indents := 0, startIdx := 0 }, closedLineI .tab 8 0 10, closedLineI .tab 11 0 12] ∧ mlY.eofIdx = 12 := by
  decide

private def tk (ty : Nat) (a b : Nat) (lit : List Nat := []) : Token := { type := ty, literal := lit, startIdx := a, endIdx := b }
private def a1 := tk cTypeDeclareW 0 1
private def a2 := tk cTypeIdentifier 1 2 [0x7532]
private def a3 := tk cTypeAssignMark 3 4
private def a4 := tk cTypeString 5 10 [0x4E00, 0x0A, 0x4E8C]
private def e1 := tk cTypeIdentifier 11 12 [0x7532]

theorem mlTokens_eq : docTokens .tab 0 mlEls = [a1, a2, a3, a4, e1] := by decide

/-- the literal starts on line 0 and ends on line 1 -/
example : mlY.sl a4 = 0 ∧ mlY.el a4 = 1 ∧ mlY.sl e1 = 2 := by decide

def mlProgram : Program :=
  { imports := [],
    exec := some (.mk [] (some
      [.varDecl (mlY.sl a1) [(vdTypeOf a3, [mlY.idOf a2], .str (mlY.sl a4) (runesToString a4.literal))],
       .expr (.id (mlY.idOf e1))]) []) }

private theorem lin_str (t : Token) (h : t.type = cTypeString) : LinE mlY 1 (.str (mlY.sl t) (runesToString t.literal)) [t] :=
  .up 1 _ _ (by decide) (.up 2 _ _ (by decide) (.up 3 _ _ (by decide) (.up 4 _ _ (by decide) (.up 5 _ _ (by decide)
    (.up 6 _ _ (by decide) (.str t h))))))

theorem mlProgram_rendered : LinProgram mlY mlProgram (docTokens .tab 0 mlEls) := by
  rw [mlTokens_eq]
  have hdecl : LinN mlY 0 (.stmt (.varDecl (mlY.sl a1) [(vdTypeOf a3, [mlY.idOf a2], .str (mlY.sl a4) (runesToString a4.literal))]))
      [a1, a2, a3, a4] :=
    .simple 0 _ _ (.declStmt a1 a3 _ [a2] _ [a4] rfl (.one a2 rfl) (by decide) (lin_str a4 rfl) (by decide))
  have hexpr : LinN mlY 0 (.stmt (.expr (.id (mlY.idOf e1)))) [e1] :=
    .simple 0 _ _ (.exprStmt _ _ (linE_id1 e1 rfl) (by decide) (by decide))
  have hbody : LinN mlY 0 (.block _) ([a1, a2, a3, a4] ++ ([e1] ++ [])) :=
    .blockCons 0 _ _ _ _ hdecl (by decide) (.blockCons 0 _ _ _ _ hexpr (by decide) (.blockNil 0) (Or.inl rfl)) (Or.inr (by decide))
  exact .body 0 _ _ (plainBody hbody (by simp))

/-- `parse_render_doc_plain` applies to the text with the multi-line literal -/
theorem mlParsed : parseSource Variant.fixed 200 (mlText.toList.map Char.toNat) = .tree mlProgram := by
  rw [← mlText_rendered]
  exact parse_render_doc_plain _ .tab 0 mlEls mlEls_wf (by rw [mlTokens_eq]; decide)
    mlProgram_rendered 200 (by decide)

example : parseSource Variant.fixed 200 (mlText.toList.map Char.toNat) = .tree mlProgram := mlParsed

set_option maxRecDepth 100000 in
/-- the declaration on line 0 holds the string (line 0, value with the line break), the expression is on line 2 -/
example : (match parseSource Variant.fixed 200 (mlText.toList.map Char.toNat) with
    | .tree ⟨[], some (.mk [] (some [.varDecl 0 [(1, [⟨0, _⟩], .str 0 "一\n二")], .expr (.id ⟨2, _⟩)]) [])⟩ => true
    | _ => false) = true := by rw [mlParsed]; decide

end ZnVerif.Properties.C03.LiteralExample

namespace ZnVerif.Properties.C03.MultiCommentExample
open ZnVerif.Model ZnVerif.Model.Parser ZnVerif.Generated.Tokens
open ZnVerif.Spec.StmtSyntax ZnVerif.Spec.RenderChars ZnVerif.Proofs.StmtRT
open ZnVerif.Proofs.CmtSim (clean)

/-- comments that span lines: `/* … */` over two lines, `注1：“…”` over two lines (CR LF inside) -/
def mcText : String := "甲 /*a\nb*/\n注1：“一\r\n二”\n乙"

def mcEls : List El := [
  .tok (.name [0x7532]), .ws 0x20, .mcmt (.block [0x61, 0x0A, 0x62]), .br .lf 0,
  .mcmt (.quoted true [0x31] [0x4E00, 0x0D, 0x0A, 0x4E8C]), .br .lf 0, .tok (.name [0x4E59])]

theorem mcText_rendered : renderDoc .tab 0 mcEls = mcText.toList.map Char.toNat := by decide +kernel

theorem mcEls_wf : DocWF .tab 0 mcEls := by decide +kernel

abbrev mcY : Layout := docLayout .tab 0 mcEls

/-- five lines; the lines left from inside a comment get no `LineText` -/
example : mcY.lines.size = 5 ∧ mcY.eofIdx = 21 := by decide

private def e1 : Token := { type := cTypeIdentifier, literal := [0x7532], startIdx := 0, endIdx := 1 }
private def e2 : Token := { type := cTypeIdentifier, literal := [0x4E59], startIdx := 20, endIdx := 21 }

theorem mcTokens_eq : clean (docTokens .tab 0 mcEls) = [e1, e2] := by decide

example : mcY.sl e1 = 0 ∧ mcY.sl e2 = 4 := by decide

def mcProgram : Program :=
  { imports := [], exec := some (.mk [] (some [.expr (.id (mcY.idOf e1)), .expr (.id (mcY.idOf e2))]) []) }

theorem mcProgram_rendered : LinProgram mcY mcProgram (clean (docTokens .tab 0 mcEls)) := by
  rw [mcTokens_eq]
  have h1 : LinN mcY 0 (.stmt (.expr (.id (mcY.idOf e1)))) [e1] :=
    .simple 0 _ _ (.exprStmt _ _ (linE_id1 e1 rfl) (by decide) (by decide))
  have h2 : LinN mcY 0 (.stmt (.expr (.id (mcY.idOf e2)))) [e2] :=
    .simple 0 _ _ (.exprStmt _ _ (linE_id1 e2 rfl) (by decide) (by decide))
  have hbody : LinN mcY 0 (.block _) ([e1] ++ ([e2] ++ [])) :=
    .blockCons 0 _ _ _ _ h1 (by decide) (.blockCons 0 _ _ _ _ h2 (by decide) (.blockNil 0) (Or.inl rfl)) (Or.inr (by decide))
  exact .body 0 _ _ (plainBody hbody (by simp))

theorem mcParsed : parseSource Variant.fixed 200 (mcText.toList.map Char.toNat) = .tree mcProgram := by
  rw [← mcText_rendered]
  exact parse_render_doc _ .tab 0 mcEls mcEls_wf mcProgram_rendered 200 (by rw [mcTokens_eq]; decide)

example : parseSource Variant.fixed 200 (mcText.toList.map Char.toNat) = .tree mcProgram := mcParsed

set_option maxRecDepth 100000 in
example : (match parseSource Variant.fixed 200 (mcText.toList.map Char.toNat) with
    | .tree ⟨[], some (.mk [] (some [.expr (.id ⟨0, _⟩), .expr (.id ⟨4, _⟩)]) [])⟩ => true
    | _ => false) = true := by rw [mcParsed]; decide

end ZnVerif.Properties.C03.MultiCommentExample
