import ZnVerif.Properties.C07
import ZnVerif.Properties.C07Sites
open ZnVerif.Properties.C07
#print axioms dup_shares_objects
#print axioms dup_copies_number
#print axioms dup_separates
#print axioms dup_total
#print axioms dup_total_of_acyclic
#print axioms readable_iff_acyclic
#print axioms dup_cyclic_out_of_fuel
#print axioms dup_on_cycle_never_returns
#print axioms frame_lemma
#print axioms setCell_frame
#print axioms copy_independent
#print axioms separated_independent
#print axioms mutators_frame
#print axioms stores_frame
#print axioms setProperty_frame
#print axioms dup_only_allocates
#print axioms display_reads_only
#print axioms vardecl_stores_copy
#print axioms vardecl_groups
#print axioms assign_stores_copy
#print axioms element_assign_stores_copy
#print axioms iterate_unfolds
#print axioms iterate_binds_copy
#print axioms new_object_copies_defaults
#print axioms type_keeps_own_copy_of_default
#print axioms type_declaration_unfolds
#print axioms two_objects_share_no_defaults
#print axioms objects_shared
#print axioms property_write_seen_by_all
#print axioms literals_fresh_str
#print axioms literals_fresh_num
#print axioms literals_fresh_arr
#print axioms literals_fresh_hm
#print axioms heap_never_shrinks
#print axioms literals_fresh
#print axioms literal_evaluations_disjoint
#print axioms push_back_is_mutation_through
#print axioms element_store_is_mutation_through
#print axioms other_mutators_are_mutations_through
#print axioms merge_stores_copies
#print axioms merge_is_mutation_through
#print axioms every_mutator_is_a_store
#print axioms mutators_preserve_acyclicity
#print axioms store_is_mutation_through
#print axioms stores_preserve_acyclicity
#print axioms index_read_stays_below
#print axioms push_back_on_copy_invisible
-- the program-level closure
#print axioms copies_independent_any_outcome
#print axioms copies_independent_program_level
#print axioms original_changes_invisible_through_copy
#print axioms copies_independent_program_level_full_false
#print axioms copies_independent_needs_coherent_frames
#print axioms resolve_eq_lookupIn
-- the helper theorems the above rest on
#print axioms ZnVerif.Model.dup_spec
#print axioms ZnVerif.Model.mutSeq_preserves
#print axioms ZnVerif.Model.content_defined_iff
#print axioms ZnVerif.Model.content_eq_reach_ref
#print axioms ZnVerif.Model.builtinMethod_frame
#print axioms ZnVerif.Model.reduceLHS_frame
#print axioms ZnVerif.Model.varDecl_spec
#print axioms ZnVerif.Model.construct_spec
#print axioms ZnVerif.Model.evalMono
#print axioms ZnVerif.Model.builtinMethod_tight
#print axioms ZnVerif.Model.tight_dup
#print axioms ZnVerif.Model.dup_src
#print axioms ZnVerif.Model.execMethod_run
#print axioms ZnVerif.Model.loop_run
#print axioms ZnVerif.Model.decl_between
#print axioms ZnVerif.Model.program_copy_new
#print axioms ZnVerif.Model.program_copy_old

-- regenerated tie: every call of value.DuplicateValue (Generated/CopySites.lean, extracted from $ZN_REPO on every run) = the model's copy sites
#print axioms ZnVerif.Properties.C07Sites.copy_sites_all_modelled
#print axioms ZnVerif.Properties.C07Sites.copy_sites_in_evaluator_model
#print axioms ZnVerif.Properties.C07Sites.copy_inventory_nonempty
