import ZnVerif.Properties.C09
import ZnVerif.Properties.C09Sites
open ZnVerif.Properties.C09
#print axioms raise_skips_rest
#print axioms throw_raises
#print axioms break_is_signal
#print axioms body_error_goes_to_handlers
#print axioms handled_error_is_body_value
#print axioms unhandled_error_leaves_body
#print axioms loop_signal_becomes_exception
#print axioms handler_matches_first_class
#print axioms unmatched_propagates_unchanged
#print axioms runtime_fault_is_catchable
#print axioms non_exception_errors_pass
#print axioms handler_this_is_exception
#print axioms handler_block_keeps_its_frame
#print axioms handler_value_or_null
#print axioms catch_restores_stack
#print axioms stack_balanced_on_success
#print axioms same_stack_means
#print axioms loop_signal_stops_at_body
#print axioms callee_signal_never_reaches_caller
#print axioms loop_signal_raised_in_own_frame
#print axioms module_follows_top_frame
#print axioms catch_restores
#print axioms function_converts_runtime_error
#print axioms function_passes_other_errors

-- regenerated tie: where the Go evaluator pushes / pops frames, opens / closes scopes, stamps lines, reads / writes the return slot
-- (Generated/FrameSites.lean, extracted from $ZN_REPO on every run) = the sites the models mirror (Properties/C09Sites.lean)
#print axioms ZnVerif.Properties.C09Sites.frame_sites_all_modelled
#print axioms ZnVerif.Properties.C09Sites.frame_primitives_all_modelled
#print axioms ZnVerif.Properties.C09Sites.frame_inventory_nonempty
#print axioms ZnVerif.Properties.C09Sites.sites_outside_evaluator_model
#print axioms ZnVerif.Properties.C09Sites.vm_EndScope_has_no_caller
#print axioms ZnVerif.Properties.C09Sites.bound_scopes_are_deferred_at_once
#print axioms ZnVerif.Properties.C09Sites.every_pop_is_conditional
#print axioms ZnVerif.Properties.C09Sites.every_push_has_a_later_pop
