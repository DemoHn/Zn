/-
Complete model of the lexer: pkg/syntax/lexer.go (`PreNextToken`, `parseBeginLex`, `parseSpaces`, `parseLine`
with its `goto head`, `setIndentType`, `FindLineIdx`, `GetLineInfo`) and pkg/syntax/zh/tokens.go (`NextToken`,
`parsePunctuations`, `parseOperators`, `parseVarQuote`, `parseString`, `unescapeBackTickSpecialStr`,
`parseIdentifier`, `parseComment`, `parseEOF`) and pkg/syntax/zh/keyword.go (`parseKeyword` over the regenerated
`keywordTable`).  Mirrors the Go code as written, quirks included:

* the cursor may run past the end of the source (`getChar` answers `RuneEOF = 0` there, so a NUL inside the source
  reads like the end; only `dispatchToken` tells the two apart, by the cursor);
* `LineText = Source[startIdx:endCursor]` is a Go slice expression: `startIdx > endCursor` or
  `endCursor > len(Source)` is a run-time panic → outcome `LexRes.panic`;
* a failed comment attempt (`注` not followed by digits and `：`, `/` not followed by `/` or `*`) only restores the cursor;
* a string or comment that spans lines appends `LineInfo`s without ever setting the `LineText` of the line it left.

The model mirrors the tree WITH five lexer repairs, commits of /repo: 99ba0e9 (a `U+…` escape that is no valid code point is kept
literally), 56b311d (a back-tick group stops before the end of input or a line break), 421b244 (an undocumented back-tick group is
kept whole), 5adf4b0 (an empty `注：` comment does not swallow the next line), 723b40e (a NUL inside the text is an invalid character);
each place is marked.  On the unrepaired tree the correspondence run `lex` disagrees exactly there.

Every Go loop consumes at least one character per pass and leaves at EOF, so every loop here is defined by
well-founded recursion on `src.size - cursor` (`iterate` over one `…Step` function per loop body; `countSame`, `parseSpaces`,
`skipDigits` directly); Lean accepting
the definitions is the termination proof of the lexer.  No fuel anywhere except `lexAll` (token count bound of the op).
Core Lean only.
-/
import ZnVerif.Model.LexCore
import ZnVerif.Proofs.LexFrame

namespace ZnVerif.Model
open ZnVerif.Generated ZnVerif.Generated.Tokens
open Spec.Lines (isBreak isPair)

/-- result of a lexer entry point: a value, a syntax error (code, cursor), or a Go run-time panic -/
inductive LexRes (α : Type) where
  | ok : α → LexRes α
  | err : SynErr → LexRes α
  | panic : LexRes α
  deriving Repr, DecidableEq

namespace Lexer

theorem lt_of_getChar_ne_zero {l : Lexer} {i : Nat} (h : l.getChar i ≠ 0) : i < l.src.size :=
  LinesInv.lt_of_charAt_ne_zero h

theorem cursor_lt_of_cur_ne_zero {l : Lexer} (h : l.cur ≠ 0) : l.cursor < l.src.size :=
  lt_of_getChar_ne_zero h

@[simp] theorem adv_src (l : Lexer) : l.adv.src = l.src := rfl
@[simp] theorem adv_cursor (l : Lexer) : l.adv.cursor = l.cursor + 1 := rfl
@[simp] theorem adv_lines (l : Lexer) : l.adv.lines = l.lines := rfl
@[simp] theorem adv_indentType (l : Lexer) : l.adv.indentType = l.indentType := rfl
@[simp] theorem setCursor_src (l : Lexer) (c : Nat) : (l.setCursor c).src = l.src := rfl
@[simp] theorem setCursor_cursor (l : Lexer) (c : Nat) : (l.setCursor c).cursor = c := rfl
@[simp] theorem pushLine_src (l : Lexer) (li : LineInfo) : (l.pushLine li).src = l.src := rfl
@[simp] theorem pushLine_cursor (l : Lexer) (li : LineInfo) : (l.pushLine li).cursor = l.cursor := rfl
@[simp] theorem pushLine_lines (l : Lexer) (li : LineInfo) : (l.pushLine li).lines = l.lines.push li := rfl
@[simp] theorem pushLine_indentType (l : Lexer) (li : LineInfo) : (l.pushLine li).indentType = l.indentType := rfl

/-- after the line break under the cursor: on its second character if it is a CR LF or LF CR pair -/
def afterBreak (l : Lexer) : Lexer :=
  if (l.cur == runeCR && l.peek == runeLF) || (l.cur == runeLF && l.peek == runeCR) then l.adv else l

/-- the lexer right after the line break that `parseLineBody ch _ l` starts on (`ch` is the character under the cursor) -/
def pastBreak (ch : Nat) (l : Lexer) : Lexer :=
  if (ch == runeCR && l.adv.cur == runeLF) || (ch == runeLF && l.adv.cur == runeCR) then l.adv.adv else l.adv

theorem pastBreak_cur (l : Lexer) : l.pastBreak l.cur = l.afterBreak.adv := by
  unfold afterBreak pastBreak
  rw [show l.adv.cur = l.peek from rfl]
  split <;> rfl

end Lexer

/-! ### Loops

Every `for` loop of the lexer is `iterate step`: `step` is one pass of the Go loop body, answering either
`done r` (a `return`/`break`) or `cont s` (next pass with loop variables `s`).  `Consumes step` — a pass that
continues has moved the cursor forward from a position inside the text — is what makes the recursion
well-founded; it is proved for every loop body below, so Lean accepting `iterate step h` is the termination
proof of that loop.

Progress of the scanners that are not loop bodies is taken from their frame rule (`LinesInv.Frame k l l'`,
Proofs/LexFrame.lean: same text, same recorded line starts — `indents` and `text` of a line may change —, cursor not moved back, no
line break passed), proved once per
function right after its definition (`LinesInv.parseSpaces_frame`, `setIndentType_frame`, `sliceLastLine_frame`,
`parseLineBody_pass`, `unescStep_frame1`, `groupStep_frame1`, `unescapeBackTick_frame1` …); the termination proofs cite
its `src` and `le` fields, and the line-table proofs (Proofs/Lines*.lean) the whole of it.  Only `countSame` has a
second, hypothesis-free progress lemma (`countSame_adv`): its frame needs to know that the counted character is no
line break, which `parseBeginLex_adv` is stated without. -/

inductive Step (ρ σ : Type) where
  | done (r : ρ)
  | cont (s : σ)

def Consumes {ρ σ : Type} (step : Lexer → σ → Step ρ σ × Lexer) : Prop :=
  ∀ l s s' l', step l s = (.cont s', l') → l'.src = l.src ∧ l.cursor < l'.cursor ∧ l.cursor < l.src.size

def iterate {ρ σ : Type} (step : Lexer → σ → Step ρ σ × Lexer) (hc : Consumes step) (l : Lexer) (s : σ) :
    ρ × Lexer :=
  match h : step l s with
  | (.done r, l') => (r, l')
  | (.cont s', l') => iterate step hc l' s'
termination_by l.src.size - l.cursor
decreasing_by
  obtain ⟨h1, h2, h3⟩ := hc l s s' l' h
  rw [h1]; omega

theorem iterate_done {ρ σ : Type} {step : Lexer → σ → Step ρ σ × Lexer} {hc : Consumes step}
    {l l' : Lexer} {s : σ} {r : ρ} (h : step l s = (.done r, l')) : iterate step hc l s = (r, l') := by
  rw [iterate]; split
  · rename_i heq; rw [h] at heq; cases heq; rfl
  · rename_i heq; rw [h] at heq; cases heq

theorem iterate_cont {ρ σ : Type} {step : Lexer → σ → Step ρ σ × Lexer} {hc : Consumes step}
    {l l' : Lexer} {s s' : σ} (h : step l s = (.cont s', l')) :
    iterate step hc l s = iterate step hc l' s' := by
  rw [iterate]; split
  · rename_i heq; rw [h] at heq; cases heq
  · rename_i heq; rw [h] at heq; cases heq; rfl

theorem iterate_inv {ρ σ : Type} {step : Lexer → σ → Step ρ σ × Lexer} {hc : Consumes step}
    (I : Lexer → σ → Prop) (Q : ρ → Lexer → Prop)
    (hcont : ∀ l s s' l', I l s → step l s = (.cont s', l') → I l' s')
    (hdone : ∀ l s r l', I l s → step l s = (.done r, l') → Q r l') :
    ∀ l s, I l s → Q (iterate step hc l s).1 (iterate step hc l s).2 := by
  intro l s
  induction l, s using iterate.induct step hc with
  | case1 l s r l' h => intro hi; rw [iterate_done h]; exact hdone _ _ _ _ hi h
  | case2 l s s' l' h ih => intro hi; rw [iterate_cont h]; exact ih (hcont _ _ _ _ hi h)

theorem iterate_rel {ρ σ : Type} {step : Lexer → σ → Step ρ σ × Lexer} {hc : Consumes step}
    (R : Lexer → Lexer → Prop) (htrans : ∀ a b c, R a b → R b c → R a c)
    (hstep : ∀ (l : Lexer) (s : σ), R l (step l s).2) (l : Lexer) (s : σ) : R l (iterate step hc l s).2 := by
  induction l, s using iterate.induct step hc with
  | case1 l s r l' h => rw [iterate_done h]; have := hstep l s; rw [h] at this; exact this
  | case2 l s s' l' h ih =>
    rw [iterate_cont h]; have := hstep l s; rw [h] at this; exact htrans _ _ _ this ih

/-- what every loop preserves: the source; and the cursor never moves back -/
def Lexer.Le (l l' : Lexer) : Prop := l'.src = l.src ∧ l.cursor ≤ l'.cursor

theorem Lexer.Le.refl (l : Lexer) : l.Le l := ⟨rfl, Nat.le_refl _⟩
theorem Lexer.Le.trans {a b c : Lexer} (h1 : a.Le b) (h2 : b.Le c) : a.Le c :=
  ⟨by rw [h2.1, h1.1], Nat.le_trans h1.2 h2.2⟩

theorem iterate_le {ρ σ : Type} {step : Lexer → σ → Step ρ σ × Lexer} {hc : Consumes step}
    (hstep : ∀ (l : Lexer) (s : σ), l.Le (step l s).2) (l : Lexer) (s : σ) : l.Le (iterate step hc l s).2 :=
  iterate_rel Lexer.Le (fun _ _ _ => Lexer.Le.trans) hstep l s

/-! ### pkg/syntax/lexer.go -/

def mkLexer (src : List Nat) : Lexer := { src := src.toArray }

def indentKind (ch : Nat) : Nat :=
  if ch == runeTAB then cIndentTab else if ch == runeSP then cIndentSpace else cIndentUnknown

/-- the lexer after `setIndentType`: `IndentType` initialised when it was unknown and `ch` is SP/TAB -/
def setIndentTypeLexer (l : Lexer) (ch : Nat) : Lexer :=
  if indentKind ch != cIndentUnknown && l.indentType == cIndentUnknown then { l with indentType := indentKind ch } else l

/-- `setIndentType(count, ch)`: may set `IndentType`; errors 23 (`InvalidIndentType`) / 24 (`InvalidIndentSpaceCount`)
carry the cursor.  Note the Go code initialises `IndentType` *before* the `count%4` test. -/
def setIndentType (l : Lexer) (count ch : Nat) : LexRes Nat × Lexer :=
  let t := indentKind ch
  let l1 := setIndentTypeLexer l ch
  let res : LexRes Nat :=
    if t == cIndentUnknown then
      if count > 0 && l.indentType != t then .err ⟨23, l.cursor⟩
      else .ok (if l.indentType == cIndentSpace then count / 4 else count)
    else
      if t == cIndentSpace && count % 4 != 0 then .err ⟨24, l1.cursor⟩
      else if l1.indentType != t then .err ⟨23, l1.cursor⟩
      else .ok (if l1.indentType == cIndentSpace then count / 4 else count)
  (res, l1)

theorem LinesInv.setIndentType_frame (l : Lexer) (count ch : Nat) : Frame 0 l (setIndentType l count ch).2 := by
  apply Frame.of_eq <;> (simp only [setIndentType, setIndentTypeLexer]; split <;> rfl)

/-- `for l.Next() == ch { count += 1 }` (the cursor ends on the first different character).  In Go the loop
would not end for `ch = RuneEOF`; both callers pass SP or TAB only, the model stops at the end of the text. -/
def countSame (ch : Nat) (l : Lexer) (count : Nat) : Lexer × Nat :=
  if h : l.adv.cur == ch && l.adv.cur != 0 then countSame ch l.adv (count + 1) else (l.adv, count)
termination_by l.src.size - l.cursor
decreasing_by
  have h2 : l.adv.cur ≠ 0 := by
    intro h0
    simp [h0] at h
  have := Lexer.cursor_lt_of_cur_ne_zero h2
  simp at this ⊢
  omega

theorem countSame_adv (ch : Nat) (l : Lexer) (count : Nat) :
    (countSame ch l count).1.src = l.src ∧ l.cursor < (countSame ch l count).1.cursor ∧
    (countSame ch l count).1.lines = l.lines ∧ (countSame ch l count).1.indentType = l.indentType := by
  induction l, count using countSame.induct ch with
  | case1 l count h ih =>
    rw [countSame]; simp only [h, ↓reduceDIte]
    obtain ⟨a, b, c, d⟩ := ih
    refine ⟨by simpa using a, ?_, by simpa using c, by simpa using d⟩
    simp at b; omega
  | case2 l count h =>
    rw [countSame]; simp [h]

theorem LinesInv.countSame_frame (ch : Nat) (hch : isBreak ch = false) (l : Lexer) (count : Nat)
    (h0 : isBreak l.cur = false) : Frame 0 l (countSame ch l count).1 := by
  induction l, count using countSame.induct ch with
  | case1 l count h ih =>
    rw [countSame]; simp only [h, ↓reduceDIte]
    have h' : isBreak l.adv.cur = false := by
      have : l.adv.cur = ch := by
        simp only [Bool.and_eq_true, beq_iff_eq] at h
        exact h.1
      rw [this]; exact hch
    exact (Frame.adv0 h0).trans (ih h')
  | case2 l count h =>
    rw [countSame]; simp only [h]
    exact Frame.adv0 h0

/-- `parseBeginLex`: first `LineInfo`, first line's indent -/
def parseBeginLex (l : Lexer) : LexRes Unit × Lexer :=
  let ch := l.getChar 0
  if ch == runeEOF then (.ok (), l)
  else
    let l1 := l.pushLine { indents := 0, startIdx := 0 }
    if ch == runeTAB || ch == runeSP then
      let r := countSame ch l1 1
      match setIndentType r.1 r.2 ch with
      | (.ok n, l2) =>
        -- `l.Lines[0].Indents = indents`
        (.ok (), { l2 with lines := l2.lines.modify 0 (fun li => { li with indents := n }) })
      | (.err e, l2) => (.err e, l2)
      | (.panic, l2) => (.panic, l2)
    else (.ok (), l1)

theorem parseBeginLex_adv (l : Lexer) :
    (parseBeginLex l).2.src = l.src ∧ l.cursor ≤ (parseBeginLex l).2.cursor := by
  unfold parseBeginLex
  simp only []
  split
  · simp
  · split
    · obtain ⟨h1a, h1b, -, -⟩ := countSame_adv (l.getChar 0) (l.pushLine { indents := 0, startIdx := 0 }) 1
      have f := LinesInv.setIndentType_frame (countSame (l.getChar 0) (l.pushLine { indents := 0, startIdx := 0 }) 1).1
        (countSame (l.getChar 0) (l.pushLine { indents := 0, startIdx := 0 }) 1).2 (l.getChar 0)
      have hle := f.le
      simp only [Lexer.pushLine_src, Lexer.pushLine_cursor] at h1a h1b
      split <;> rename_i heq <;> rw [heq] at f hle <;> exact ⟨f.src.trans h1a, by dsimp only at hle ⊢; omega⟩
    · simp

/-- `parseSpaces`: `for IsWhiteSpace(ch) { ch = l.Next() }` -/
def parseSpaces (l : Lexer) : Lexer :=
  if h : isWhiteSpace l.cur then parseSpaces l.adv else l
termination_by l.src.size - l.cursor
decreasing_by
  have h2 : l.cur ≠ 0 := by
    intro h0
    rw [h0] at h
    exact absurd h (by decide)
  have := Lexer.cursor_lt_of_cur_ne_zero h2
  simp; omega

theorem LinesInv.parseSpaces_frame (l : Lexer) : Frame 0 l (parseSpaces l) := by
  induction l using parseSpaces.induct with
  | case1 l h ih =>
    rw [parseSpaces]; simp only [h, ↓reduceDIte]
    exact (Frame.adv0 (nb_of_pred isWhiteSpace (by decide) (by decide) h)).trans ih
  | case2 l h =>
    rw [parseSpaces]; simp only [h]
    exact Frame.refl 0 l

theorem parseSpaces_strict (l : Lexer) (h : isWhiteSpace l.cur = true) :
    l.cursor < (parseSpaces l).cursor := by
  rw [parseSpaces]; simp only [h, ↓reduceDIte]
  exact (LinesInv.parseSpaces_frame l.adv).le

/-- the shared tail of `parseLine` and `parseEOF`: `lastLine.LineText = l.Source[startIdx:endCursor]`
(`none` = the slice expression panics) -/
def lastLineStart (l : Lexer) : Option Nat :=
  if h : 0 < l.lines.size then
    let last := l.lines[l.lines.size - 1]
    some (if l.indentType == cIndentSpace then last.startIdx + 4 * last.indents
      else if l.indentType == cIndentTab then last.startIdx + last.indents
      else last.startIdx)
  else none

def sliceLastLine (l : Lexer) (endCursor : Nat) : Option Lexer :=
  match lastLineStart l with
  | none => some l
  | some startIdx =>
    if startIdx > endCursor || endCursor > l.src.size then none
    else some { l with lines := l.lines.modify (l.lines.size - 1) (fun li => { li with text := some (startIdx, endCursor) }) }

theorem LinesInv.sliceLastLine_frame {l l' : Lexer} {e : Nat} (h : sliceLastLine l e = some l') :
    Frame 0 l l' ∧ l'.cursor = l.cursor := by
  unfold sliceLastLine at h
  split at h
  · cases h; exact ⟨Frame.refl 0 l, rfl⟩
  · split at h
    · cases h
    · cases h
      exact ⟨Frame.of_eq rfl (starts_modify _ _ _ (fun _ => rfl)) rfl rfl, rfl⟩

/-- `l.Lines[len-1].Indents = n` -/
def setLastIndents (l : Lexer) (n : Nat) : Lexer :=
  { l with lines := l.lines.modify (l.lines.size - 1) (fun li => { li with indents := n }) }

theorem LinesInv.setLastIndents_frame (l : Lexer) (n : Nat) : Frame 0 l (setLastIndents l n) :=
  Frame.of_eq rfl (starts_modify _ _ _ (fun _ => rfl)) rfl rfl

/-- one pass of `parseLine` from label `head:` to just before the final `GetCurrentChar` test -/
def parseLineBody (ch : Nat) (withIndent : Bool) (l : Lexer) : LexRes Unit × Lexer :=
  let endCursor := l.cursor
  let l1 := l.adv
  let l2 := if (ch == runeCR && l1.cur == runeLF) || (ch == runeLF && l1.cur == runeCR) then l1.adv else l1
  let chn := l2.cur
  match sliceLastLine l2 endCursor with
  | none => (.panic, l2)
  | some l3 =>
    let l4 := l3.pushLine { indents := 0, startIdx := l3.cursor }
    if withIndent then
      let r := if chn == runeSP || chn == runeTAB then countSame chn l4 1 else (l4, 0)
      let r2 := setIndentType r.1 r.2 chn
      match r2.1 with
      | .ok n => (.ok (), setLastIndents r2.2 n)
      | .err e => (.err e, r2.2)
      | .panic => (.panic, r2.2)
    else (.ok (), l4)

/-- **one pass of `parseLine`**, whatever the state: it panics right after the line break, or it records the line that
starts there and from then on moves over blanks only -/
theorem LinesInv.parseLineBody_pass (ch : Nat) (w : Bool) (l : Lexer) :
    ((parseLineBody ch w l).1 = .panic ∧ (parseLineBody ch w l).2 = l.pastBreak ch) ∨
      Frame 0 ((l.pastBreak ch).pushLine { indents := 0, startIdx := (l.pastBreak ch).cursor })
        (parseLineBody ch w l).2 := by
  unfold parseLineBody Lexer.pastBreak
  dsimp only
  rw [pair_eq]
  generalize (if isPair ch l.adv.cur = true then l.adv.adv else l.adv) = l2
  split
  · exact .inl ⟨rfl, rfl⟩
  · rename_i l3 h3
    obtain ⟨f3, hc3⟩ := LinesInv.sliceLastLine_frame h3
    have f4 : Frame 0 (l2.pushLine { indents := 0, startIdx := l2.cursor })
        (l3.pushLine { indents := 0, startIdx := l3.cursor }) :=
      Frame.of_eq f3.src (by rw [starts_pushLine, starts_pushLine, f3.sts, hc3]) f3.bl hc3
    refine .inr ?_
    cases w with
    | false => exact f4
    | true =>
      simp only [↓reduceIte]
      have hcur4 : (l3.pushLine { indents := 0, startIdx := l3.cursor }).cur = l2.cur := by
        show charAt l3.src l3.cursor = charAt l2.src l2.cursor
        rw [f3.src, hc3]
      generalize hr : (if (l2.cur == runeSP || l2.cur == runeTAB) = true
        then countSame l2.cur (l3.pushLine { indents := 0, startIdx := l3.cursor }) 1
        else (l3.pushLine { indents := 0, startIdx := l3.cursor }, 0)) = r
      have fr : Frame 0 (l3.pushLine { indents := 0, startIdx := l3.cursor }) r.1 := by
        rw [← hr]
        split
        · rename_i hts
          have hnb : isBreak l2.cur = false := by
            simp only [Bool.or_eq_true, beq_iff_eq] at hts
            rcases hts with e | e <;> rw [e] <;> decide
          exact LinesInv.countSame_frame l2.cur hnb _ 1 (by rw [hcur4]; exact hnb)
        · exact Frame.refl 0 _
      have fs := (f4.trans fr).trans (LinesInv.setIndentType_frame r.1 r.2 l2.cur)
      split
      · exact fs.trans (LinesInv.setLastIndents_frame _ _)
      · exact fs
      · exact fs

theorem parseLineBody_adv (ch : Nat) (w : Bool) (l : Lexer) :
    (parseLineBody ch w l).2.src = l.src ∧ l.cursor < (parseLineBody ch w l).2.cursor := by
  have hb : (l.pastBreak ch).src = l.src ∧ l.cursor < (l.pastBreak ch).cursor := by
    unfold Lexer.pastBreak; split <;> exact ⟨rfl, by simp only [Lexer.adv_cursor]; omega⟩
  rcases LinesInv.parseLineBody_pass ch w l with ⟨-, e⟩ | f
  · rw [e]; exact hb
  · exact ⟨f.src.trans hb.1, Nat.lt_of_lt_of_le hb.2 f.le⟩

/-- loop form of `parseLine`: the loop variable is `ch`; `goto head` while the current character is CR or LF -/
def parseLineStep (withIndent : Bool) (l : Lexer) (ch : Nat) : Step (LexRes Unit) Nat × Lexer :=
  let r := parseLineBody ch withIndent l
  match r.1 with
  | .ok _ => if r.2.cur == runeCR || r.2.cur == runeLF then (.cont r.2.cur, r.2) else (.done (.ok ()), r.2)
  | .err e => (.done (.err e), r.2)
  | .panic => (.done .panic, r.2)

theorem parseLineStep_snd (w : Bool) (l : Lexer) (ch : Nat) :
    (parseLineStep w l ch).2 = (parseLineBody ch w l).2 := by
  unfold parseLineStep; dsimp only; split
  · split <;> rfl
  · rfl
  · rfl

theorem parseLineStep_consumes (w : Bool) : Consumes (parseLineStep w) := by
  intro l ch ch' l' h
  have hs := parseLineStep_snd w l ch
  have ha := parseLineBody_adv ch w l
  rw [h] at hs; dsimp only at hs
  rw [← hs] at ha
  refine ⟨ha.1, ha.2, ?_⟩
  have hcur : l'.cur ≠ 0 := by
    unfold parseLineStep at h; dsimp only at h
    split at h
    · split at h
      · rename_i hc
        cases h
        intro h0; rw [h0] at hc; exact absurd hc (by decide)
      · cases h
    · cases h
    · cases h
  have := Lexer.cursor_lt_of_cur_ne_zero hcur
  rw [ha.1] at this; omega

/-- `parseLine(c, withIndent)` -/
def parseLine (ch : Nat) (withIndent : Bool) (l : Lexer) : LexRes Unit × Lexer :=
  iterate (parseLineStep withIndent) (parseLineStep_consumes withIndent) l ch

theorem parseLine_adv (ch : Nat) (w : Bool) (l : Lexer) :
    (parseLine ch w l).2.src = l.src ∧ l.cursor < (parseLine ch w l).2.cursor := by
  have key : ∀ (l1 l2 : Lexer) (s : Nat) x, l1 = l ∨ (l1.src = l.src ∧ l.cursor < l1.cursor) →
      parseLineStep w l1 s = (x, l2) → l2.src = l.src ∧ l.cursor < l2.cursor := by
    intro l1 l2 s x hi hs
    have ha := parseLineBody_adv s w l1
    rw [← parseLineStep_snd, hs] at ha
    rcases hi with rfl | ⟨h1, h2⟩
    · exact ha
    · exact ⟨ha.1.trans h1, Nat.lt_trans h2 ha.2⟩
  exact iterate_inv (step := parseLineStep w) (I := fun l1 _ => l1 = l ∨ (l1.src = l.src ∧ l.cursor < l1.cursor))
    (Q := fun _ l' => l'.src = l.src ∧ l.cursor < l'.cursor)
    (fun l1 s _ l2 hi hs => .inr (key l1 l2 s _ hi hs)) (fun l1 s _ l2 hi hs => key l1 l2 s _ hi hs) l ch (.inl rfl)

/-- one pass of the `for` loop of `PreNextToken`: skip white space, or a run of line breaks (building `Lines`) -/
def skipBlankStep (l : Lexer) (_ : Unit) : Step (LexRes Unit) Unit × Lexer :=
  if isWhiteSpace l.cur then (.cont (), parseSpaces l)
  else if l.cur == runeCR || l.cur == runeLF then
    let r := parseLine l.cur true l
    match r.1 with
    | .ok _ => (.cont (), r.2)
    | .err e => (.done (.err e), r.2)
    | .panic => (.done .panic, r.2)
  else (.done (.ok ()), l)

theorem skipBlankStep_le (l : Lexer) (u : Unit) : l.Le (skipBlankStep l u).2 := by
  unfold skipBlankStep
  split
  · exact ⟨(LinesInv.parseSpaces_frame l).src, (LinesInv.parseSpaces_frame l).le⟩
  · split
    · have := parseLine_adv l.cur true l
      dsimp only; split <;> exact ⟨this.1, Nat.le_of_lt this.2⟩
    · exact Lexer.Le.refl l

theorem skipBlankStep_consumes : Consumes skipBlankStep := by
  intro l u u' l' h
  unfold skipBlankStep at h
  split at h
  · rename_i hw
    cases h
    have h2 : l.cur ≠ 0 := by
      intro h0; rw [h0] at hw; exact absurd hw (by decide)
    exact ⟨(LinesInv.parseSpaces_frame l).src, parseSpaces_strict l hw, Lexer.cursor_lt_of_cur_ne_zero h2⟩
  · split at h
    · rename_i hc
      have h2 : l.cur ≠ 0 := by
        intro h0; rw [h0] at hc; exact absurd hc (by decide)
      have ha := parseLine_adv l.cur true l
      dsimp only at h
      split at h
      · cases h; exact ⟨ha.1, ha.2, Lexer.cursor_lt_of_cur_ne_zero h2⟩
      · cases h
      · cases h
    · cases h

def skipBlank (l : Lexer) : LexRes Unit × Lexer := iterate skipBlankStep skipBlankStep_consumes l ()

theorem skipBlank_adv (l : Lexer) : l.Le (skipBlank l).2 :=
  iterate_le skipBlankStep_le l ()

/-- `PreNextToken` -/
def preNextToken (l : Lexer) : LexRes Unit × Lexer :=
  if l.beginLex then
    let r := parseBeginLex { l with beginLex := false }
    match r.1 with
    | .ok _ => skipBlank r.2
    | .err e => (.err e, r.2)
    | .panic => (.panic, r.2)
  else skipBlank l

theorem preNextToken_adv (l : Lexer) : l.Le (preNextToken l).2 := by
  unfold preNextToken
  split
  · have hb := parseBeginLex_adv { l with beginLex := false }
    dsimp only
    split
    · exact Lexer.Le.trans (a := l) ⟨hb.1, hb.2⟩ (skipBlank_adv _)
    · exact ⟨hb.1, hb.2⟩
    · exact ⟨hb.1, hb.2⟩
  · exact skipBlank_adv l

/-- `FindLineIdx(cursor, startLoopIdx)` -/
def findLineIdx (l : Lexer) (cursor : Nat) (i : Nat) : Nat :=
  if h : i + 1 < l.lines.size then
    if cursor < l.lines[i + 1].startIdx then i else findLineIdx l cursor (i + 1)
  else i
termination_by l.lines.size - i

/-- `GetLineInfo(idx)` (`none` = nil) -/
def getLineInfo (l : Lexer) (idx : Nat) : Option LineInfo := l.lines[idx]?

/-! ### pkg/syntax/zh/keyword.go -/

/-- the lookahead glyphs of one alternative against `Peek`, `Peek2`, `Peek3` -/
def lookaheadMatches (l : Lexer) : Nat → List Nat → Bool
  | _, [] => true
  | k, g :: gs => l.getChar (l.cursor + k) == g && lookaheadMatches l (k + 1) gs

/-- `parseKeyword` without moving: the matching alternative `(word length, token type)`.  The outer `switch ch`
is `keywordTable` (one row per first glyph), the `if … else if …` chain of a case is the row's ordered alternatives. -/
def matchKeyword (l : Lexer) : Option (Nat × Nat) :=
  match keywordTable.lookup l.cur with
  | none => none
  | some alts =>
    match alts.find? (fun a => lookaheadMatches l 1 a.1) with
    | none => none
    | some (_, wordLen, ty) => if ty != 0 then some (wordLen, ty) else none

/-- `parseKeyword(l, moveForward)`; never errors -/
def parseKeyword (l : Lexer) (moveForward : Bool) : Option Token × Lexer :=
  match matchKeyword l with
  | none => (none, l)
  | some (wordLen, ty) =>
    let l' := if moveForward then l.setCursor (l.cursor + wordLen) else l
    (some { type := ty, startIdx := l.cursor, endIdx := l'.cursor }, l')

/-! ### pkg/syntax/zh/tokens.go -/

/-- the ten quote characters as the `case` lists of `parseString` / `unescapeBackTickSpecialStr` write them -/
def leftQuotes : List Nat :=
  [cLeftDoubleQuoteI, cLeftDoubleQuoteII, cLeftSingleQuoteI, cLeftSingleQuoteII, cLeftLibQuoteI]
def rightQuotes : List Nat :=
  [cRightDoubleQuoteI, cRightDoubleQuoteII, cRightSingleQuoteI, cRightSingleQuoteII, cRightLibQuoteI]

/-- any of the ten quote characters -/
def isQuoteChar (c : Nat) : Bool := leftQuotes.contains c || rightQuotes.contains c

/-- `parsePunctuations` -/
def parsePunctuations (l : Lexer) : LexRes Token × Lexer :=
  match punctuationTypeMap.lookup l.cur with
  | some ty => (.ok { type := ty, startIdx := l.cursor, endIdx := l.cursor + 1 }, l.adv)
  | none => (.err ⟨25, l.cursor⟩, l)

/-- `parseOperators`: `(isOperator, token)`; `none` = not an operator here (falls through to keyword/identifier) -/
def parseOperators (l : Lexer) : LexRes (Option Token) × Lexer :=
  let startIdx := l.cursor
  let ch := l.cur
  let one (ty : Nat) : LexRes (Option Token) × Lexer :=
    (.ok (some { type := ty, startIdx := startIdx, endIdx := l.cursor + 1 }), l.adv)
  let two (ty : Nat) : LexRes (Option Token) × Lexer :=
    (.ok (some { type := ty, startIdx := startIdx, endIdx := l.cursor + 2 }), l.adv.adv)
  if ch == cRefOp then one cTypeObjRef
  else if ch == cAnnotationOp then one cTypeAnnotationT
  else if ch == cHashOp then one cTypeMapHash
  else if ch == cEqualOp then (if l.peek == cEqualOp then two cTypeEqualMark else one cTypeAssignMark)
  else if ch == cLessThanOp then (if l.peek == cEqualOp then two cTypeLTEMark else one cTypeLTMark)
  else if ch == cGreaterThanOp then (if l.peek == cEqualOp then two cTypeGTEMark else one cTypeGTMark)
  else if ch == cIntDivOp then one cTypeIntDivMark
  else if ch == cRemainderOp then one cTypeModuloMark
  else if ch == cPlusOp || ch == cMinusOp || ch == cMultiplyOp || ch == cSlashOp then
    let chn := l.peek
    if ch == cSlashOp && chn == cEqualOp then two cTypeNEMark
    else
      let t := if ch == cPlusOp then cTypePlus else if ch == cMinusOp then cTypeMinus
        else if ch == cMultiplyOp then cTypeMultiply else cTypeDivision
      if isWhiteSpace chn || markPunctuations.contains chn || markQuotes.contains chn then one t
      else (.ok none, l)
  else (.err ⟨25, l.cursor⟩, l)

theorem isIdentifierChar_zero : isIdentifierChar 0 = false := by decide +kernel

/-- one pass of the `for` loop of `parseVarQuote`; loop variable: the literal -/
def parseVarQuoteStep (startIdx : Nat) (l : Lexer) (lit : List Nat) : Step (LexRes Token) (List Nat) × Lexer :=
  let l1 := l.adv
  let ch := l1.cur
  if isIdentifierChar ch || IdRange.idContinue.contains ch then (.cont (lit ++ [ch]), l1)
  else if ch == cBackTick then
    (.done (.ok { type := cTypeIdentifier, startIdx := startIdx, endIdx := l1.cursor + 1, literal := lit }), l1.adv)
  else (.done (.err ⟨25, l1.cursor⟩), l1)

theorem parseVarQuoteStep_consumes (s : Nat) : Consumes (parseVarQuoteStep s) := by
  intro l lit lit' l' h
  unfold parseVarQuoteStep at h
  dsimp only at h
  split at h
  · rename_i hc
    cases h
    have h2 : l.adv.cur ≠ 0 := by
      intro h0; rw [h0] at hc; simp [isIdentifierChar_zero] at hc; exact absurd hc (by decide)
    have := Lexer.cursor_lt_of_cur_ne_zero h2
    simp at this ⊢; omega
  · split at h <;> cases h

/-- `parseVarQuote`: back-tick, identifier characters, back-tick -/
def parseVarQuote (l : Lexer) : LexRes Token × Lexer :=
  iterate (parseVarQuoteStep l.cursor) (parseVarQuoteStep_consumes l.cursor) l []

/-! #### `unescapeBackTickSpecialStr` -/

def hexDigitVal (c : Nat) : Nat := if c ≤ 0x39 then c - 0x30 else c - 0x41 + 10
def hexValue (ds : List Nat) : Nat := ds.foldl (fun a d => a * 16 + hexDigitVal d) 0
/-- `strconv.ParseInt(hexStr, 16, 32)` on a non-empty string of `[0-9A-F]`: value and `err == nil`
(out of range: the value is clamped to `1<<31 - 1` and `err != nil`) -/
def parseInt32Hex (ds : List Nat) : Nat × Bool :=
  let v := hexValue ds
  if v > 0x7FFFFFFF then (0x7FFFFFFF, false) else (v, true)

/-- `utf8.ValidRune` -/
def validRune (r : Nat) : Bool := r < 0xD800 || (0xDFFF < r && r ≤ 0x10FFFF)

def isUpperHex (c : Nat) : Bool := (0x30 ≤ c && c ≤ 0x39) || (0x41 ≤ c && c ≤ 0x46)

/-- the escape names compared with `string(literalBuffer)` (back-ticks included) -/
def escTAB : List Nat := [0x60, 0x54, 0x41, 0x42, 0x60]
def escBK : List Nat := [0x60, 0x42, 0x4B, 0x60]
def escSP : List Nat := [0x60, 0x53, 0x50, 0x60]
def escCR : List Nat := [0x60, 0x43, 0x52, 0x60]
def escLF : List Nat := [0x60, 0x4C, 0x46, 0x60]
def escCRLF : List Nat := [0x60, 0x43, 0x52, 0x4C, 0x46, 0x60]

/-- loop variables of `unescapeBackTickSpecialStr` -/
structure UState where
  state : Nat
  hexCount : Nat
  buf : List Nat
  deriving Repr, DecidableEq

/-- the transitions of the `switch cch` for the letters: `(cch, admissible current states, new state)` -/
def unescLetterTable : List (Nat × List Nat × Nat) := [
  (0x43, [csBegin], csC),        -- C
  (0x4C, [csBegin, csR], csL),   -- L
  (0x54, [csBegin], csT),        -- T
  (0x53, [csBegin], csS),        -- S
  (0x42, [csBegin, csA], csB),   -- B
  (0x55, [csBegin], csU),        -- U
  (0x52, [csC], csR),            -- R
  (0x46, [csL], csF),            -- F
  (0x41, [csT], csA),            -- A
  (0x50, [csS], csP),            -- P
  (0x4B, [csB], csK),            -- K
  (0x2B, [csU], csmP)            -- +
]

/-- how the loop of `unescapeBackTickSpecialStr` is left: `return append(srcLiteral, …)` with the new literal, or
`goto UNDONE_end` with the `literalBuffer` collected so far -/
inductive UnescOut where
  | decoded (lit : List Nat)
  | undone (buf : List Nat)
  deriving Repr, DecidableEq

/-- the `case '`':` arm: `buf1` is the whole buffer including both back-ticks (repair 99ba0e9: a `U+…` that is out of range
or no valid rune is not unescaped) -/
def unescClose (src : List Nat) (u : UState) (buf1 : List Nat) : UnescOut :=
  if buf1 == escTAB then .decoded (src ++ [0x09])
  else if buf1 == escBK then .decoded (src ++ [0x60])
  else if buf1 == escSP then .decoded (src ++ [0x20])
  else if buf1 == escCR then .decoded (src ++ [0x0D])
  else if buf1 == escLF then .decoded (src ++ [0x0A])
  else if buf1 == escCRLF then .decoded (src ++ [0x0D, 0x0A])
  else if u.state == csHexNum && 1 ≤ u.hexCount && u.hexCount ≤ 8 then
    -- `hexStr := string(literalBuffer[3 : len(literalBuffer)-1])`
    let r := parseInt32Hex ((buf1.drop 3).take (buf1.length - 4))
    if r.2 && validRune r.1 then .decoded (src ++ [r.1]) else .undone buf1
  else .undone buf1

/-- the end of the text or of the line ends a back-tick text (repair 56b311d) -/
def endsBackTickText (c : Nat) : Bool := c == runeEOF || c == runeCR || c == runeLF

/-- the second half of a pass: `cch := l.Next()`, the hex-digit shortcut and the `switch cch` -/
def unescConsume (src : List Nat) (l : Lexer) (u : UState) : Step UnescOut UState × Lexer :=
  let l1 := l.adv
  let cch := l1.cur
  let buf1 := u.buf ++ [cch]
  if isUpperHex cch && u.state == csmP then (.cont ⟨csHexNum, 1, buf1⟩, l1)
  else if isUpperHex cch && u.state == csHexNum then (.cont ⟨csHexNum, u.hexCount + 1, buf1⟩, l1)
  else
    match unescLetterTable.lookup cch with
    | some (from_, to) =>
      if from_.contains u.state then (.cont ⟨to, u.hexCount, buf1⟩, l1) else (.done (.undone buf1), l1)
    | none =>
      if cch == cBackTick then (.done (unescClose src u buf1), l1) else (.done (.undone buf1), l1)

/-- one pass of the `for` loop of `unescapeBackTickSpecialStr` (with the repair 56b311d: `Peek() == EOF`
and `Peek() ∈ {CR, LF}` stop *before* the character) -/
def unescStep (src : List Nat) (l : Lexer) (u : UState) : Step UnescOut UState × Lexer :=
  let pk := l.peek
  if isQuoteChar pk then
    if l.cur == cBackTick && l.peek2 == cBackTick then (.done (.decoded (src ++ [pk])), l.adv.adv)
    else (.done (.undone u.buf), l)
  else if endsBackTickText pk then (.done (.undone u.buf), l)
  else unescConsume src l u

/-- the `switch cch` on a character other than the back-tick, without the lexer: the next loop variables, or `none` =
`goto UNDONE_end` -/
def uNext (u : UState) (c : Nat) : Option UState :=
  if isUpperHex c && u.state == csmP then some ⟨csHexNum, 1, u.buf ++ [c]⟩
  else if isUpperHex c && u.state == csHexNum then some ⟨csHexNum, u.hexCount + 1, u.buf ++ [c]⟩
  else
    match unescLetterTable.lookup c with
    | some (from_, to) => if from_.contains u.state then some ⟨to, u.hexCount, u.buf ++ [c]⟩ else none
    | none => none

theorem uNext_hex0 {c n : Nat} {buf : List Nat} (h : isUpperHex c = true) :
    uNext ⟨csmP, n, buf⟩ c = some ⟨csHexNum, 1, buf ++ [c]⟩ := by
  unfold uNext; rw [h]; rfl

theorem uNext_hex {c n : Nat} {buf : List Nat} (h : isUpperHex c = true) :
    uNext ⟨csHexNum, n, buf⟩ c = some ⟨csHexNum, n + 1, buf ++ [c]⟩ := by
  unfold uNext; rw [h]; rfl

theorem unescConsume_next {src : List Nat} {l : Lexer} {u : UState} (hb : l.peek ≠ cBackTick) :
    unescConsume src l u =
      match uNext u l.peek with
      | some u' => (.cont u', l.adv)
      | none => (.done (.undone (u.buf ++ [l.peek])), l.adv) := by
  unfold unescConsume uNext
  dsimp only
  rw [show l.adv.cur = l.peek from rfl]
  cases (isUpperHex l.peek && u.state == csmP) with
  | true => rfl
  | false =>
  cases (isUpperHex l.peek && u.state == csHexNum) with
  | true => rfl
  | false =>
  rw [if_neg Bool.false_ne_true, if_neg Bool.false_ne_true, if_neg Bool.false_ne_true, if_neg Bool.false_ne_true]
  cases unescLetterTable.lookup l.peek with
  | some p => dsimp only; cases p.1.contains u.state <;> rfl
  | none => dsimp only; rw [if_neg (by simpa using hb)]

theorem unescConsume_snd (src : List Nat) (l : Lexer) (u : UState) : (unescConsume src l u).2 = l.adv := by
  unfold unescConsume
  dsimp only
  cases (isUpperHex l.adv.cur && u.state == csmP) with
  | true => rfl
  | false =>
  cases (isUpperHex l.adv.cur && u.state == csHexNum) with
  | true => rfl
  | false =>
  cases unescLetterTable.lookup l.adv.cur with
  | some p => cases h : p.1.contains u.state <;> simp only [h, Bool.false_eq_true, ↓reduceIte]
  | none => cases (l.adv.cur == cBackTick) <;> simp only [Bool.false_eq_true, ↓reduceIte]

/-- what one pass of the loop of `unescapeBackTickSpecialStr` can do, by `Peek()`: a lone quote in back-ticks is decoded, a quote or the
end of the text / line stops the group before it, anything else is consumed (`unescConsume`) -/
def UnescPass (src : List Nat) (l : Lexer) (u : UState) (r : Step UnescOut UState × Lexer) : Prop :=
  (isQuoteChar l.peek = true ∧ l.cur = cBackTick ∧ l.peek2 = cBackTick ∧
    r = (.done (.decoded (src ++ [l.peek])), l.adv.adv)) ∨
  ((isQuoteChar l.peek = true ∨ endsBackTickText l.peek = true) ∧ r = (.done (.undone u.buf), l)) ∨
  (isQuoteChar l.peek = false ∧ endsBackTickText l.peek = false ∧ r = unescConsume src l u)

theorem unescStep_cases {src : List Nat} {l : Lexer} {u : UState} {r : Step UnescOut UState × Lexer}
    (hr : unescStep src l u = r) : UnescPass src l u r := by
  subst hr
  unfold unescStep
  dsimp only
  -- here and in the case lemmas below: one `iteInduction` per `if` of the definition, in the definition's order
  exact iteInduction
    (fun hq => iteInduction
      (fun h => .inl ⟨hq, eq_of_beq (Bool.and_eq_true _ _ ▸ h).1, eq_of_beq (Bool.and_eq_true _ _ ▸ h).2, rfl⟩)
      fun _ => .inr (.inl ⟨.inl hq, rfl⟩))
    fun hq => iteInduction (fun he => .inr (.inl ⟨.inr he, rfl⟩))
      fun he => .inr (.inr ⟨Bool.eq_false_iff.mpr hq, Bool.eq_false_iff.mpr he, rfl⟩)

theorem unescStep_consumes (src : List Nat) : Consumes (unescStep src) := by
  intro l s s' l' h
  rcases unescStep_cases h with ⟨-, -, -, e⟩ | ⟨-, e⟩ | ⟨-, he, e⟩
  · cases e
  · cases e
  · have hs := unescConsume_snd src l s
    rw [← e] at hs
    dsimp only at hs
    subst hs
    have hlt := Lexer.cursor_lt_of_cur_ne_zero (l := l.adv) (fun e0 => by
      change l.peek = 0 at e0; rw [e0] at he; exact absurd he (by decide))
    exact ⟨rfl, Nat.lt_succ_self _, Nat.lt_of_succ_lt hlt⟩

theorem LinesInv.quote_nb {c : Nat} (h : isQuoteChar c = true) : isBreak c = false :=
  nb_of_pred isQuoteChar (by decide) (by decide) h

theorem LinesInv.unescStep_frame1 (src : List Nat) (l : Lexer) (u : UState) : Frame 1 l (unescStep src l u).2 := by
  rcases unescStep_cases (rfl : unescStep src l u = _) with ⟨hq, -, hp2, e⟩ | ⟨-, e⟩ | ⟨-, he, e⟩
  · rw [e]
    exact (Frame.adv1 (LinesInv.quote_nb hq)).trans (Frame.adv1 (l := l.adv) (by show isBreak l.peek2 = false; rw [hp2]; decide))
  · rw [e]; exact Frame.refl 1 l
  · rw [e, unescConsume_snd]
    exact Frame.adv1 (nb_of_pred_false endsBackTickText (by decide) (by decide) he)

/-- what ends an undocumented back-tick group early: the end of the text, a line break, a quote character -/
def isGroupStop (p : Nat) : Bool := p == runeEOF || p == runeCR || p == runeLF || markQuotes.contains p

/-- one pass of the loop after `UNDONE_end:` (repair 421b244): the rest of the group,
up to and including its closing back-tick, joins the buffer -/
def groupStep (l : Lexer) (buf : List Nat) : Step (List Nat) (List Nat) × Lexer :=
  let p := l.peek
  if isGroupStop p then (.done buf, l)
  else if p == cBackTick then (.done (buf ++ [p]), l.adv)
  else (.cont (buf ++ [p]), l.adv)

theorem groupStep_consumes : Consumes groupStep := by
  intro l s s' l' h
  unfold groupStep at h
  dsimp only at h
  split at h
  · cases h
  · rename_i hz
    split at h
    · cases h
    · cases h
      have hne : l.adv.cur ≠ 0 := by
        intro h0
        apply hz
        have : l.peek = 0 := h0
        simp [this, isGroupStop, runeEOF]
      have := Lexer.cursor_lt_of_cur_ne_zero hne
      simp at this ⊢; omega

theorem LinesInv.groupStep_frame1 (l : Lexer) (buf : List Nat) : Frame 1 l (groupStep l buf).2 := by
  unfold groupStep
  dsimp only
  split
  · exact Frame.refl 1 l
  · rename_i hg
    have : Frame 1 l l.adv :=
      Frame.adv1 (nb_of_pred_false isGroupStop (by decide) (by decide) (by simpa using hg))
    split <;> exact this

/-- the code after label `UNDONE_end:` -/
def keepGroup (src : List Nat) (l : Lexer) (buf : List Nat) : List Nat × Lexer :=
  if buf.length == 1 || buf.getLast? != some cBackTick then
    let r := iterate groupStep groupStep_consumes l buf
    (src ++ r.1, r.2)
  else (src ++ buf, l)

/-- `unescapeBackTickSpecialStr(l, srcLiteral)`: cursor on the opening back-tick; answers the new literal -/
def unescapeBackTick (l : Lexer) (src : List Nat) : List Nat × Lexer :=
  let r := iterate (unescStep src) (unescStep_consumes src) l ⟨csBegin, 0, [l.cur]⟩
  match r.1 with
  | .decoded lit => (lit, r.2)
  | .undone buf => keepGroup src r.2 buf

theorem LinesInv.unescapeBackTick_frame1 (l : Lexer) (src : List Nat) : Frame 1 l (unescapeBackTick l src).2 := by
  unfold unescapeBackTick
  have h1 := iterate_rel (step := unescStep src) (hc := unescStep_consumes src) (Frame 1)
    (fun _ _ _ => Frame.trans) (LinesInv.unescStep_frame1 src) l ⟨csBegin, 0, [l.cur]⟩
  dsimp only
  split
  · exact h1
  · unfold keepGroup
    split
    · exact h1.trans (iterate_rel (step := groupStep) (hc := groupStep_consumes) (Frame 1)
        (fun _ _ _ => Frame.trans) LinesInv.groupStep_frame1 _ _)
    · exact h1

theorem unescapeBackTick_le (l : Lexer) (src : List Nat) : l.Le (unescapeBackTick l src).2 :=
  ⟨(LinesInv.unescapeBackTick_frame1 l src).src, (LinesInv.unescapeBackTick_frame1 l src).le⟩

/-! #### `parseString` -/

/-- one pass of the `for` loop of `parseString`; `sch` = opening quote; loop variables `(literal, quoteNum)` -/
def parseStringStep (sch startIdx tkType : Nat) (l : Lexer) (s : List Nat × Nat) :
    Step (LexRes Token) (List Nat × Nat) × Lexer :=
  let lit := s.1
  let quoteNum := s.2
  let l1 := l.adv
  let ch := l1.cur
  if ch == runeEOF then (.done (.err ⟨27, l1.cursor⟩), l1)
  else if ch == runeCR || ch == runeLF then
    let p := l1.peek
    let pair := (ch == runeCR && p == runeLF) || (ch == runeLF && p == runeCR)
    let lit1 := if pair then lit ++ [ch] else lit
    let l2 := if pair then l1.adv else l1
    let l3 := l2.pushLine { indents := 0, startIdx := l2.cursor + 1 }
    (.cont (lit1 ++ [l3.cur], quoteNum), l3)
  else if leftQuotes.contains ch then
    (.cont (lit ++ [ch], if sch == ch then quoteNum + 1 else quoteNum), l1)
  else if rightQuotes.contains ch then
    if quoteMatchMap.lookup sch == some ch then
      if quoteNum - 1 == 0 then
        (.done (.ok { type := tkType, literal := lit, startIdx := startIdx, endIdx := l1.cursor + 1 }), l1.adv)
      else (.cont (lit ++ [ch], quoteNum - 1), l1)
    else (.cont (lit ++ [ch], quoteNum), l1)
  else if ch == cBackTick then
    let r := unescapeBackTick l1 lit
    (.cont (r.1, quoteNum), r.2)
  else (.cont (lit ++ [ch], quoteNum), l1)

/-- what one pass of the loop of `parseString` can do, by the next character: one arm per shape of `parseStringStep`'s result, for
any state and any opening quote, with the facts that lead there.  (`strPass`, Proofs/Literal.lean, is the pass COMPUTED from the text
after the cursor, in a literal whose quote is known.) -/
inductive StringPass (s ty : Nat) (l : Lexer) (st : List Nat × Nat) : Step (LexRes Token) (List Nat × Nat) × Lexer → Prop
  | eof (h0 : l.adv.cur = 0) : StringPass s ty l st (.done (.err ⟨27, l.adv.cursor⟩), l.adv)
  | line (hb : (l.adv.cur == runeCR || l.adv.cur == runeLF) = true) (st' : List Nat × Nat) :
      StringPass s ty l st (.cont st', l.adv.afterBreak.pushLine { indents := 0, startIdx := l.adv.afterBreak.cursor + 1 })
  | char (h0 : l.adv.cur ≠ 0) (hnb : (l.adv.cur == runeCR || l.adv.cur == runeLF) = false) (st' : List Nat × Nat) :
      StringPass s ty l st (.cont st', l.adv)
  | close (h0 : l.adv.cur ≠ 0) (hnb : (l.adv.cur == runeCR || l.adv.cur == runeLF) = false) :
      StringPass s ty l st (.done (.ok { type := ty, literal := st.1, startIdx := s, endIdx := l.adv.cursor + 1 }), l.adv.adv)
  | tick (h0 : l.adv.cur ≠ 0) (hnb : (l.adv.cur == runeCR || l.adv.cur == runeLF) = false) (ht : l.adv.cur = cBackTick) :
      StringPass s ty l st (.cont ((unescapeBackTick l.adv st.1).1, st.2), (unescapeBackTick l.adv st.1).2)

theorem parseStringStep_cases {sch s ty : Nat} {l : Lexer} {st : List Nat × Nat}
    {r : Step (LexRes Token) (List Nat × Nat) × Lexer} (hr : parseStringStep sch s ty l st = r) :
    StringPass s ty l st r := by
  subst hr
  unfold parseStringStep
  dsimp only
  refine iteInduction (fun h0 => .eof (eq_of_beq h0)) fun h0 => iteInduction (fun hb => .line hb _) fun hb => ?_
  have h0 : l.adv.cur ≠ 0 := fun e => h0 (by rw [e]; rfl)
  have hb := Bool.eq_false_iff.mpr hb
  exact iteInduction (fun _ => .char h0 hb _) fun _ => iteInduction
    (fun _ => iteInduction (fun _ => iteInduction (fun _ => .close h0 hb) fun _ => .char h0 hb _) fun _ => .char h0 hb _)
    fun _ => iteInduction (fun h => .tick h0 hb (eq_of_beq h)) fun _ => .char h0 hb _

theorem breakPass_consumes {l : Lexer} {li : LineInfo} (hb : (l.adv.cur == runeCR || l.adv.cur == runeLF) = true) :
    (l.adv.afterBreak.pushLine li).src = l.src ∧ l.cursor < (l.adv.afterBreak.pushLine li).cursor ∧
      l.cursor < l.src.size := by
  have hlt := Lexer.cursor_lt_of_cur_ne_zero (l := l.adv) (fun e => by rw [e] at hb; exact absurd hb (by decide))
  unfold Lexer.afterBreak
  refine ⟨by split <;> rfl, ?_, Nat.lt_of_succ_lt hlt⟩
  show l.cursor < (if _ then l.adv.adv else l.adv).cursor
  split
  · exact Nat.lt_succ_of_lt (Nat.lt_succ_self _)
  · exact Nat.lt_succ_self _

theorem parseStringStep_consumes (sch s ty : Nat) : Consumes (parseStringStep sch s ty) := by
  intro l st st' l' h
  cases parseStringStep_cases h with
  | line hb => exact breakPass_consumes hb
  | char h0 => exact ⟨rfl, Nat.lt_succ_self _, Nat.lt_of_succ_lt (Lexer.cursor_lt_of_cur_ne_zero h0)⟩
  | tick h0 =>
    have hle := unescapeBackTick_le l.adv st.1
    exact ⟨hle.1, Nat.lt_of_lt_of_le (Nat.lt_succ_self _) hle.2, Nat.lt_of_succ_lt (Lexer.cursor_lt_of_cur_ne_zero h0)⟩

/-- the `for` loop of `parseString` -/
def parseStringLoop (sch startIdx tkType : Nat) (l : Lexer) (st : List Nat × Nat) : LexRes Token × Lexer :=
  iterate (parseStringStep sch startIdx tkType) (parseStringStep_consumes sch startIdx tkType) l st

theorem parseStringLoop_cont {sch s ty : Nat} {l l' : Lexer} {st st' : List Nat × Nat}
    (h : parseStringStep sch s ty l st = (.cont st', l')) :
    parseStringLoop sch s ty l st = parseStringLoop sch s ty l' st' := iterate_cont h

theorem parseStringLoop_done {sch s ty : Nat} {l l' : Lexer} {st : List Nat × Nat} {r : LexRes Token}
    (h : parseStringStep sch s ty l st = (.done r, l')) :
    parseStringLoop sch s ty l st = (r, l') := iterate_done h

/-- token type by opening quote -/
def stringTokenType (sch : Nat) : Nat :=
  if sch == cLeftSingleQuoteI || sch == cLeftSingleQuoteII then cTypeEnumString
  else if sch == cLeftLibQuoteI then cTypeLibString else cTypeString

/-- `parseString`: cursor on the opening quote -/
def parseString (l : Lexer) : LexRes Token × Lexer :=
  parseStringLoop l.cur l.cursor (stringTokenType l.cur) l ([], 1)

/-! #### `parseIdentifier` -/

def terminateMarkers : List Nat := identTerminatorsHead ++ markPunctuations

/-- the code after label `ID_end:` -/
def identEnd (startIdx : Nat) (l : Lexer) (lit : List Nat) : LexRes Token :=
  if lit.getLast? == some cSlashOp then .err ⟨25, l.cursor - 1⟩
  else .ok { type := cTypeIdentifier, startIdx := startIdx, endIdx := l.cursor, literal := lit }

/-- one pass of the `for` loop of `parseIdentifier`; loop variable: the literal -/
def parseIdentifierStep (startIdx : Nat) (l : Lexer) (lit : List Nat) : Step (LexRes Token) (List Nat) × Lexer :=
  let l1 := l.adv
  let ch := l1.cur
  if isWhiteSpace ch then (.done (identEnd startIdx l1 lit), l1)
  else if (matchKeyword l1).isSome then (.done (identEnd startIdx l1 lit), l1)
  else if ch == cSlashOp && [cSlashOp, cMultiplyOp, cEqualOp].contains l1.peek then
    (.done (identEnd startIdx l1 lit), l1)
  else if terminateMarkers.contains ch then (.done (identEnd startIdx l1 lit), l1)
  else if isIdentifierChar ch || IdRange.idContinue.contains ch then (.cont (lit ++ [ch]), l1)
  else (.done (.err ⟨25, l1.cursor⟩), l1)

/-- what one pass of the loop of `parseIdentifier` can do -/
inductive IdentPass (s : Nat) (l : Lexer) (lit : List Nat) : Step (LexRes Token) (List Nat) × Lexer → Prop
  | stop {r : LexRes Token} (hr : identEnd s l.adv lit = r) : IdentPass s l lit (.done r, l.adv)
  | char (hi : (isIdentifierChar l.adv.cur || IdRange.idContinue.contains l.adv.cur) = true)
      (ht : terminateMarkers.contains l.adv.cur = false) : IdentPass s l lit (.cont (lit ++ [l.adv.cur]), l.adv)
  | bad : IdentPass s l lit (.done (.err ⟨25, l.adv.cursor⟩), l.adv)

theorem parseIdentifierStep_cases {s : Nat} {l : Lexer} {lit : List Nat} {r : Step (LexRes Token) (List Nat) × Lexer}
    (hr : parseIdentifierStep s l lit = r) : IdentPass s l lit r := by
  subst hr
  unfold parseIdentifierStep
  dsimp only
  exact iteInduction (fun _ => .stop rfl) fun _ => iteInduction (fun _ => .stop rfl) fun _ => iteInduction (fun _ => .stop rfl) fun _ =>
    iteInduction (fun _ => .stop rfl) fun ht => iteInduction (fun hi => .char hi (Bool.eq_false_iff.mpr ht)) fun _ => .bad

theorem parseIdentifierStep_consumes (s : Nat) : Consumes (parseIdentifierStep s) := by
  intro l lit lit' l' h
  cases parseIdentifierStep_cases h with
  | char _ ht =>
    have hlt := Lexer.cursor_lt_of_cur_ne_zero (l := l.adv) (fun e0 => by rw [e0] at ht; exact absurd ht (by decide))
    exact ⟨rfl, Nat.lt_succ_self _, Nat.lt_of_succ_lt hlt⟩

/-- `parseIdentifier` -/
def parseIdentifier (l : Lexer) : LexRes Token × Lexer :=
  if !isIdentifierChar l.cur then (.err ⟨25, l.cursor⟩, l)
  else iterate (parseIdentifierStep l.cursor) (parseIdentifierStep_consumes l.cursor) l [l.cur]

/-! #### `parseComment` -/

def isPureNumber (c : Nat) : Bool := 0x30 ≤ c && c ≤ 0x39

/-- `for { if !isPureNumber(l.Next()) { break } }` -/
def skipDigits (l : Lexer) : Lexer :=
  if h : isPureNumber l.adv.cur then skipDigits l.adv else l.adv
termination_by l.src.size - l.cursor
decreasing_by
  have h2 : l.adv.cur ≠ 0 := by
    intro h0; rw [h0] at h; exact absurd h (by decide)
  have := Lexer.cursor_lt_of_cur_ne_zero h2
  simp at this ⊢; omega

theorem LinesInv.skipDigits_frame (l : Lexer) (h0 : isBreak l.cur = false) : Frame 0 l (skipDigits l) := by
  induction l using skipDigits.induct with
  | case1 l h ih =>
    rw [skipDigits]; simp only [h, ↓reduceDIte]
    exact (Frame.adv0 h0).trans (ih (nb_of_pred isPureNumber (by decide) (by decide) h))
  | case2 l h =>
    rw [skipDigits]; simp only [h]
    exact Frame.adv0 h0

/-- one pass of the content loop of `parseComment`; `cty` = comment type 1–4; loop variable `quoteCount` -/
def parseCommentStep (startIdx cty : Nat) (l : Lexer) (quoteCount : Nat) : Step Token Nat × Lexer :=
  let l1 := l.adv
  let ch := l1.cur
  let tok (l' : Lexer) : Token := { type := cTypeComment, startIdx := startIdx, endIdx := l'.cursor }
  if ch == runeEOF then (.done (tok l1), l1)
  else if ch == runeCR || ch == runeLF then
    if cty == ccommentTypeSingle then (.done (tok l1), l1)
    else
      let p := l1.peek
      let l2 := if (ch == runeCR && p == runeLF) || (ch == runeLF && p == runeCR) then l1.adv else l1
      (.cont quoteCount, l2.pushLine { indents := 0, startIdx := l2.cursor + 1 })
  else if ch == cLeftDoubleQuoteI then
    (.cont (if cty == ccommentTypeQuoteI then quoteCount + 1 else quoteCount), l1)
  else if ch == cLeftDoubleQuoteII then
    (.cont (if cty == ccommentTypeQuoteII then quoteCount + 1 else quoteCount), l1)
  else if ch == cRightDoubleQuoteI then
    if cty == ccommentTypeQuoteI then
      if quoteCount - 1 == 0 then (.done (tok l1.adv), l1.adv) else (.cont (quoteCount - 1), l1)
    else (.cont quoteCount, l1)
  else if ch == cRightDoubleQuoteII then
    if cty == ccommentTypeQuoteII then
      if quoteCount - 1 == 0 then (.done (tok l1.adv), l1.adv) else (.cont (quoteCount - 1), l1)
    else (.cont quoteCount, l1)
  else if ch == cMultiplyOp then
    if cty == ccommentTypeSlash && l1.peek == cSlashOp then (.done (tok l1.adv.adv), l1.adv.adv)
    else (.cont quoteCount, l1)
  else (.cont quoteCount, l1)

/-- what one pass of the content loop of `parseComment` can do, by the next character -/
inductive CommentPass (s : Nat) (l : Lexer) (q : Nat) : Step Token Nat × Lexer → Prop
  | stop : CommentPass s l q (.done { type := cTypeComment, startIdx := s, endIdx := l.adv.cursor }, l.adv)
  | line (hb : (l.adv.cur == runeCR || l.adv.cur == runeLF) = true) :
      CommentPass s l q (.cont q, l.adv.afterBreak.pushLine { indents := 0, startIdx := l.adv.afterBreak.cursor + 1 })
  | char (h0 : l.adv.cur ≠ 0) (hnb : (l.adv.cur == runeCR || l.adv.cur == runeLF) = false) (q' : Nat) :
      CommentPass s l q (.cont q', l.adv)
  | close (h0 : l.adv.cur ≠ 0) (hnb : (l.adv.cur == runeCR || l.adv.cur == runeLF) = false) :
      CommentPass s l q (.done { type := cTypeComment, startIdx := s, endIdx := l.adv.adv.cursor }, l.adv.adv)
  | starSlash (h0 : l.adv.cur ≠ 0) (hnb : (l.adv.cur == runeCR || l.adv.cur == runeLF) = false) (hp : l.adv.peek = cSlashOp) :
      CommentPass s l q (.done { type := cTypeComment, startIdx := s, endIdx := l.adv.adv.adv.cursor }, l.adv.adv.adv)

theorem parseCommentStep_cases {s cty : Nat} {l : Lexer} {q : Nat} {r : Step Token Nat × Lexer}
    (hr : parseCommentStep s cty l q = r) : CommentPass s l q r := by
  subst hr
  unfold parseCommentStep
  dsimp only
  refine iteInduction (fun _ => .stop) fun h0 => iteInduction
    (fun hb => iteInduction (fun _ => .stop) fun _ => .line hb) fun hb => ?_
  have h0 : l.adv.cur ≠ 0 := fun e => h0 (by rw [e]; rfl)
  have hb := Bool.eq_false_iff.mpr hb
  have close : ∀ {c : Prop} [Decidable c], CommentPass s l q (if c then (if (q - 1 == 0) = true then
      (.done { type := cTypeComment, startIdx := s, endIdx := l.adv.adv.cursor }, l.adv.adv)
      else (.cont (q - 1), l.adv)) else (.cont q, l.adv)) :=
    iteInduction (fun _ => iteInduction (fun _ => .close h0 hb) fun _ => .char h0 hb _) fun _ => .char h0 hb _
  exact iteInduction (fun _ => .char h0 hb _) fun _ => iteInduction (fun _ => .char h0 hb _) fun _ =>
    iteInduction (fun _ => close) fun _ => iteInduction (fun _ => close) fun _ => iteInduction
      (fun _ => iteInduction (fun h => .starSlash h0 hb (eq_of_beq (Bool.and_eq_true _ _ ▸ h).2)) fun _ => .char h0 hb _)
      fun _ => .char h0 hb _

theorem parseCommentStep_consumes (s cty : Nat) : Consumes (parseCommentStep s cty) := by
  intro l q q' l' h
  cases parseCommentStep_cases h with
  | line hb => exact breakPass_consumes hb
  | char h0 => exact ⟨rfl, Nat.lt_succ_self _, Nat.lt_of_succ_lt (Lexer.cursor_lt_of_cur_ne_zero h0)⟩

def parseCommentLoop (startIdx cty : Nat) (l : Lexer) (quoteCount : Nat) : Token × Lexer :=
  iterate (parseCommentStep startIdx cty) (parseCommentStep_consumes startIdx cty) l quoteCount

theorem parseCommentLoop_cont {s cty q q' : Nat} {l l' : Lexer} (h : parseCommentStep s cty l q = (.cont q', l')) :
    parseCommentLoop s cty l q = parseCommentLoop s cty l' q' := iterate_cont h

theorem parseCommentLoop_done {s cty q : Nat} {l l' : Lexer} {tk : Token} (h : parseCommentStep s cty l q = (.done tk, l')) :
    parseCommentLoop s cty l q = (tk, l') := iterate_done h

/-- `parseComment`: `(isComment, token)`; never errors.  With the repair 5adf4b0 the
character after `注：` is consumed before the content loop only when it opens a quoted multi-line comment. -/
def parseComment (l : Lexer) : Option Token × Lexer :=
  let startIdx := l.cursor
  let ch := l.cur
  if ch == cCharZHU then
    let l1 := skipDigits l
    if l1.cur == cColon then
      if l1.peek == cLeftDoubleQuoteI then
        let r := parseCommentLoop startIdx ccommentTypeQuoteI l1.adv 1; (some r.1, r.2)
      else if l1.peek == cLeftDoubleQuoteII then
        let r := parseCommentLoop startIdx ccommentTypeQuoteII l1.adv 1; (some r.1, r.2)
      else
        let r := parseCommentLoop startIdx ccommentTypeSingle l1 0; (some r.1, r.2)
    else (none, l1)
  else if ch == cSlashOp then
    if l.peek == cSlashOp then
      let r := parseCommentLoop startIdx ccommentTypeSingle l.adv 0; (some r.1, r.2)
    else if l.peek == cMultiplyOp then
      let r := parseCommentLoop startIdx ccommentTypeSlash l.adv 0; (some r.1, r.2)
    else (none, l)
  else (none, l)

/-- what `parseComment` can answer: the content loop run from where the comment's head (`注…：`, `注…：“`, `注…：「`, `//`, `/*`) ends,
or no comment with the cursor after the digits of a `注` or where it was -/
def CommentStart (l : Lexer) (r : Option Token × Lexer) : Prop :=
  (∃ cty q l1, r = (some (parseCommentLoop l.cursor cty l1 q).1, (parseCommentLoop l.cursor cty l1 q).2) ∧
    ((skipDigits l).cur = cColon ∧ (l1 = skipDigits l ∨
        l1 = (skipDigits l).adv ∧ ((skipDigits l).peek = cLeftDoubleQuoteI ∨ (skipDigits l).peek = cLeftDoubleQuoteII)) ∨
      l1 = l.adv ∧ (l.peek = cSlashOp ∨ l.peek = cMultiplyOp))) ∨
  r = (none, skipDigits l) ∨ r = (none, l)

theorem parseComment_cases (l : Lexer) : CommentStart l (parseComment l) := by
  unfold parseComment
  dsimp only
  exact iteInduction
    (fun _ => iteInduction
      (fun hc => iteInduction
        (fun h => .inl ⟨_, _, _, rfl, .inl ⟨eq_of_beq hc, .inr ⟨rfl, .inl (eq_of_beq h)⟩⟩⟩) fun _ => iteInduction
        (fun h => .inl ⟨_, _, _, rfl, .inl ⟨eq_of_beq hc, .inr ⟨rfl, .inr (eq_of_beq h)⟩⟩⟩)
        fun _ => .inl ⟨_, _, _, rfl, .inl ⟨eq_of_beq hc, .inl rfl⟩⟩)
      fun _ => .inr (.inl rfl))
    fun _ => iteInduction
      (fun _ => iteInduction (fun h => .inl ⟨_, _, _, rfl, .inr ⟨rfl, .inl (eq_of_beq h)⟩⟩) fun _ => iteInduction
        (fun h => .inl ⟨_, _, _, rfl, .inr ⟨rfl, .inr (eq_of_beq h)⟩⟩) fun _ => .inr (.inr rfl))
      fun _ => .inr (.inr rfl)

/-- `parseEOF` -/
def parseEOF (l : Lexer) : LexRes Token × Lexer :=
  match sliceLastLine l l.cursor with
  | none => (.panic, l)
  | some l' => (.ok { type := cTypeEOF, startIdx := l.cursor, endIdx := l.cursor }, l')

/-! #### `NextToken` -/

/-- `parseKeyword(l, true)`, then `parseIdentifier` -/
def keywordOrIdentifier (l : Lexer) : LexRes Token × Lexer :=
  match parseKeyword l true with
  | (some tk, l') => (.ok tk, l')
  | (none, l') => parseIdentifier l'

/-- the code of `NextToken` after the first `switch` (punctuation, operator, keyword, identifier) -/
def nextTokenTail (l : Lexer) : LexRes Token × Lexer :=
  let ch := l.cur
  if markPunctuations.contains ch then parsePunctuations l
  else if markOperators.contains ch then
    match parseOperators l with
    | (.ok (some tk), l') => (.ok tk, l')
    | (.ok none, l') => keywordOrIdentifier l'
    | (.err e, l') => (.err e, l')
    | (.panic, l') => (.panic, l')
  else keywordOrIdentifier l

/-- `NextToken` after `PreNextToken` succeeded -/
def dispatchToken (l1 : Lexer) : LexRes Token × Lexer :=
  let ch := l1.cur
  if ch == runeEOF then
    -- a NUL inside the text is an invalid character, not the end of input (repair 723b40e)
    if l1.cursor < l1.src.size then (.err ⟨25, l1.cursor⟩, l1) else parseEOF l1
  else if ch == cCharZHU || ch == cSlashOp then
    -- save-point: a failed comment attempt only restores the cursor
    match parseComment l1 with
    | (some tk, l2) => (.ok tk, l2)
    | (none, l2) => nextTokenTail (l2.setCursor l1.cursor)
  else if leftQuotes.contains ch then parseString l1
  else if ch == cBackTick then parseVarQuote l1
  else nextTokenTail l1

/-- which scanner `NextToken` hands a first character to -/
inductive Scanner where
  | eof | comment | string | varQuote | punct | op | word
  deriving DecidableEq

/-- the tests of `dispatchToken` and `nextTokenTail` on the first character, in their order -/
def scannerOf (c : Nat) : Scanner :=
  if c == runeEOF then .eof else if c == cCharZHU || c == cSlashOp then .comment
  else if leftQuotes.contains c then .string else if c == cBackTick then .varQuote
  else if markPunctuations.contains c then .punct else if markOperators.contains c then .op else .word

/-- `dispatchToken` by the class of the character under the cursor.  For a given character `scannerOf c = k` is
settled by `decide`, so this is how a proof enters the scanner of a known text. -/
theorem dispatchToken_eq (l : Lexer) :
    dispatchToken l =
      match scannerOf l.cur with
      | .eof => if l.cursor < l.src.size then (.err ⟨25, l.cursor⟩, l) else parseEOF l
      | .comment =>
        match parseComment l with
        | (some tk, l2) => (.ok tk, l2)
        | (none, l2) => nextTokenTail (l2.setCursor l.cursor)
      | .string => parseString l
      | .varQuote => parseVarQuote l
      | .punct => parsePunctuations l
      | .op =>
        match parseOperators l with
        | (.ok (some tk), l') => (.ok tk, l')
        | (.ok none, l') => keywordOrIdentifier l'
        | (.err e, l') => (.err e, l')
        | (.panic, l') => (.panic, l')
      | .word => keywordOrIdentifier l := by
  unfold dispatchToken scannerOf
  dsimp only
  cases (l.cur == runeEOF) with
  | true => rfl
  | false =>
  cases (l.cur == cCharZHU || l.cur == cSlashOp) with
  | true => rfl
  | false =>
  cases leftQuotes.contains l.cur with
  | true => rfl
  | false =>
  cases (l.cur == cBackTick) with
  | true => rfl
  | false =>
  unfold nextTokenTail
  dsimp only
  cases markPunctuations.contains l.cur with
  | true => rfl
  | false => cases markOperators.contains l.cur <;> rfl

/-- `zh.NextToken(l)` -/
def nextToken (l : Lexer) : LexRes Token × Lexer :=
  let r := preNextToken l
  match r.1 with
  | .err e => (.err e, r.2)
  | .panic => (.panic, r.2)
  | .ok _ => dispatchToken r.2

/-- lex `src` as one literal: literal, type and end index of the first token -/
def lexString (src : List Nat) : LexRes (List Nat × Nat × Nat) :=
  match (nextToken (mkLexer src)).1 with
  | .ok tk => .ok (tk.literal, tk.type, tk.endIdx)
  | .err e => .err e
  | .panic => .panic

/-- all tokens up to and including EOF, or up to the first error / panic; `fuel` bounds the number of tokens
(the harness op stops after `4·len + 16`).  Middle component `none` = fuel exhausted. -/
def lexAll : Nat → Lexer → List Token → List Token × Option (LexRes Unit) × Lexer
  | 0, l, acc => (acc.reverse, none, l)
  | fuel + 1, l, acc =>
    match nextToken l with
    | (.ok tk, l') =>
      if tk.type == cTypeEOF then ((tk :: acc).reverse, some (.ok ()), l')
      else lexAll fuel l' (tk :: acc)
    | (.err e, l') => (acc.reverse, some (.err e), l')
    | (.panic, l') => (acc.reverse, some .panic, l')

end ZnVerif.Model
