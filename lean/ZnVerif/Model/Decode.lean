/-
Model of pkg/io (input.go `readRune`, file_stream.go `FileStream.read/ReadAll`, byte_stream.go
`ByteStream.Read/ReadAll`) as repaired by commit f1b6b3d of the repository.

The reader is a script: a list of chunks, one per `r.Read(p)` call that returned `(len chunk, nil)` — empty
chunks allowed — followed by one last call that returned `(len last, io.EOF)` (`last = []` is the usual
`(0, io.EOF)`).  Nothing is assumed about where the chunk borders fall.  A reader error other than EOF is
outside the model (it is returned as is).

Go's `readRune` also returns the runes decoded before an error; every caller drops them
(`return []rune{}, err`), so the model's error carries no data.
Core Lean only.
-/
import ZnVerif.Model.Utf8

namespace ZnVerif.Model

/-- `*zerr.IOError` values pkg/io can produce while decoding (code 13 `ErrInvalidEncoding`) -/
inductive IOError where
  | invalidEncoding
  deriving DecidableEq, Repr

def IOError.code : IOError → Nat
  | .invalidEncoding => 13

theorem snd_ite_pos {c : Prop} [Decidable c] {a b : Nat × Nat} (ha : 0 < a.2) (hb : 0 < b.2) :
    0 < (if c then a else b).2 := by
  by_cases h : c
  · rw [if_pos h]; exact ha
  · rw [if_neg h]; exact hb

theorem utf8DecodeRune_size_pos (p0 : Nat) (rest : List Nat) : 0 < (utf8DecodeRune (p0 :: rest)).2 := by
  simp only [utf8DecodeRune]
  cases first p0 with
  | ascii | invalid => exact Nat.one_pos
  | lead sz lo hi =>
    refine snd_ite_pos Nat.one_pos ?_
    cases rest with
    | nil => exact Nat.one_pos
    | cons b1 rest2 =>
      refine snd_ite_pos Nat.one_pos (snd_ite_pos (Nat.succ_pos 1) ?_)
      cases rest2 with
      | nil => exact Nat.one_pos
      | cons b2 rest3 =>
        refine snd_ite_pos Nat.one_pos (snd_ite_pos (Nat.succ_pos 2) ?_)
        cases rest3 with
        | nil => exact Nat.one_pos
        | cons b3 _ => exact snd_ite_pos Nat.one_pos (Nat.succ_pos 3)

/-- the `for len(buf) > 0` loop of `readRune` on `buf = append(remains, p[:t]...)`:
returns (runes, new remains).
* `!utf8.FullRune(buf)`: an incomplete character — an error if the stream has ended, else carried;
* `ru == RuneError && size == 1`: invalid UTF-8 — an error (a legitimate U+FFFD has size 3);
* otherwise the rune is appended and `buf = buf[size:]`. -/
def decodeBuf (eof : Bool) (buf : List Nat) : Except IOError (List Nat × List Nat) :=
  match buf with
  | [] => .ok ([], [])
  | p0 :: rest =>
    if !fullRune (p0 :: rest) then
      if eof then .error .invalidEncoding else .ok ([], p0 :: rest)
    else
      let d := utf8DecodeRune (p0 :: rest)
      if d.1 = runeError ∧ d.2 = 1 then .error .invalidEncoding
      else
        match decodeBuf eof ((p0 :: rest).drop d.2) with
        | .ok (rs, rem) => .ok (d.1 :: rs, rem)
        | .error e => .error e
termination_by buf.length
decreasing_by
  have := utf8DecodeRune_size_pos p0 rest
  simp only [List.length_drop, List.length_cons]
  omega

/-- `readRune(r, remains, b)` for one scripted read: `chunk` = `p[:t]`, `eof` = `err == io.EOF` -/
def readRune (remains chunk : List Nat) (eof : Bool) : Except IOError (List Nat × List Nat) :=
  decodeBuf eof (remains ++ chunk)

/-! ### FileStream -/

def BOM : Nat := 0xFEFF

structure FileStream where
  encBuffer : List Nat
  hasRead : Bool
  deriving Repr, DecidableEq

/-- `NewFileStream` / `NewFileStreamFromReader` -/
def FileStream.new : FileStream := { encBuffer := [], hasRead := false }

/-- `(*FileStream).read(n)`: decoded runes (BOM removed if it is the first character of the stream —
`hasRead` turns true with the first rune, which may arrive only after several reads) and the new state -/
def FileStream.read (f : FileStream) (chunk : List Nat) (eof : Bool) : Except IOError (List Nat × FileStream) :=
  match readRune f.encBuffer chunk eof with
  | .error e => .error e
  | .ok (data, remains) =>
    if !f.hasRead then
      match data with
      | [] => .ok ([], { encBuffer := remains, hasRead := false })
      | c :: cs => .ok (if c = BOM then cs else c :: cs, { encBuffer := remains, hasRead := true })
    else .ok (data, { encBuffer := remains, hasRead := true })

/-- the loop of `(*FileStream).ReadAll()`: read blocks until the reader reports EOF -/
def FileStream.readAllLoop (f : FileStream) : List (List Nat) → List Nat → Except IOError (List Nat)
  | [], last =>
    match f.read last true with
    | .error e => .error e
    | .ok (res, _) => .ok res
  | c :: cs, last =>
    match f.read c false with
    | .error e => .error e
    | .ok (res, f') =>
      match f'.readAllLoop cs last with
      | .error e => .error e
      | .ok more => .ok (res ++ more)

/-- `NewFileStream(path).ReadAll()` over the read script `chunks` then `(last, EOF)` -/
def fileReadAllWith (chunks : List (List Nat)) (last : List Nat) : Except IOError (List Nat) :=
  FileStream.new.readAllLoop chunks last

/-- the usual script: data reads, then `(0, io.EOF)` -/
def readAll (chunks : List (List Nat)) : Except IOError (List Nat) := fileReadAllWith chunks []

/-! ### ByteStream (no BOM handling in the code) -/

structure ByteStream where
  encBuffer : List Nat
  deriving Repr, DecidableEq

def ByteStream.read (b : ByteStream) (chunk : List Nat) (eof : Bool) : Except IOError (List Nat × ByteStream) :=
  match readRune b.encBuffer chunk eof with
  | .error e => .error e
  | .ok (data, remains) => .ok (data, { encBuffer := remains })

/-- the loop of `(*ByteStream).ReadAll()`, and equally a caller's sequence of `Read(n)` calls up to the end -/
def ByteStream.readAllLoop (b : ByteStream) : List (List Nat) → List Nat → Except IOError (List Nat)
  | [], last =>
    match b.read last true with
    | .error e => .error e
    | .ok (res, _) => .ok res
  | c :: cs, last =>
    match b.read c false with
    | .error e => .error e
    | .ok (res, b') =>
      match b'.readAllLoop cs last with
      | .error e => .error e
      | .ok more => .ok (res ++ more)

/-- what `bytes.Reader` does with a buffer of `len(bytes)`: everything in one read (none if empty), then EOF -/
def bytesReaderScript (bytes : List Nat) : List (List Nat) := if bytes.isEmpty then [] else [bytes]

/-- `NewByteStream(bytes).ReadAll()` -/
def byteStreamReadAll (bytes : List Nat) : Except IOError (List Nat) :=
  ByteStream.readAllLoop { encBuffer := [] } (bytesReaderScript bytes) []

/-- a reader that hands out at most `n` bytes per call (`n ≥ 1`): the chunking `Read(n)` sequences and
block-limited readers produce -/
def splitEvery (n : Nat) (bytes : List Nat) : List (List Nat) :=
  if _h : n = 0 ∨ bytes = [] then [] else bytes.take n :: splitEvery n (bytes.drop n)
termination_by bytes.length
decreasing_by
  have : bytes ≠ [] := fun e => _h (Or.inr e)
  have : 0 < bytes.length := List.length_pos_iff.mpr this
  simp only [List.length_drop]; omega

end ZnVerif.Model
