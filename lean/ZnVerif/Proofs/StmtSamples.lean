/-
Sample programs rendered over ANY layout: the derivations (`LinN`, `LinProgram`) that the non-vacuity examples of the
round-trip theorems instantiate at their own layouts and token positions.  The side conditions of a derivation — token
types, what is glued, indentation, what may follow what — are one decidable predicate on the tokens, so that an instance
is `(by decide)`.
-/
import ZnVerif.Proofs.StmtBlock

namespace ZnVerif.Proofs.StmtRT
open ZnVerif.Model ZnVerif.Model.Parser ZnVerif.Generated.Tokens ZnVerif.Generated.ParserTables
open ZnVerif.Spec.StmtSyntax

variable {Y : Layout}

theorem plainBody {d : Nat} {body : List Stmt} {tb : List Token} (h : LinN Y d (.block body) tb) (hne : tb ≠ []) :
    LinN Y d (.exec (.mk [] (some body) [])) (tb ++ []) :=
  .execPlain d _ _ [] [] h (.handNil d) (Or.inl rfl) (by rwa [List.append_nil])

/-- `令 a2 设为 a4 ⏎ 每当 b2： ⏎ ⇥输出 c2 ⏎ ⇥结束循环 ⏎ e1 + e3`: a declaration, a loop whose block holds two statements, an expression -/
def prog5 (Y : Layout) (a1 a2 a3 a4 b1 b2 c1 c2 d1 e1 e2 e3 : Token) : Program :=
  { imports := [],
    exec := some (.mk [] (some
      [.varDecl (Y.sl a1) [(vdTypeOf a3, [Y.idOf a2], .id (Y.idOf a4))],
       .while (Y.sl b1) (.id (Y.idOf b2)) (some [.ret (Y.sl c1) (.id (Y.idOf c2)), .break (Y.sl d1)]),
       .expr (.arith (Y.sl e2) (lookupD addSubOverride e2.type addSubDefault) (.id (Y.idOf e1)) (.id (Y.idOf e3)))]) []) }

/-- what the derivation of `prog5` asks of the thirteen tokens (`b3` is the `：`) and their places -/
def Prog5OK (Y : Layout) (a1 a2 a3 a4 b1 b2 b3 c1 c2 d1 e1 e2 e3 : Token) : Prop :=
  (a1.type = cTypeDeclareW ∧ a2.type = cTypeIdentifier ∧ a3.type ∈ vdAssignKeywords ∧ a4.type = cTypeIdentifier) ∧
  (b1.type = cTypeWhileLoopW ∧ b2.type = cTypeIdentifier ∧ b3.type = cTypeFuncCall) ∧
  (c1.type = cTypeReturnW ∧ c2.type = cTypeIdentifier ∧ d1.type = cTypeBreakW) ∧
  (e1.type = cTypeIdentifier ∧ e2.type ∈ addSubTypes ∧ e3.type = cTypeIdentifier) ∧
  (Y.Glued [a1, a2, a3, a4] ∧ Y.Glued [b1, b2, b3] ∧ Y.Glued [c1, c2] ∧ Y.Glued [e1, e2, e3]) ∧
  (Y.ind a1 = 0 ∧ Y.ind b1 = 0 ∧ Y.ind b3 = 0 ∧ Y.ind c1 = 1 ∧ Y.ind d1 = 1 ∧ Y.ind e1 = 0) ∧
  (Y.jf (some a4) b1 = true ∧ Y.jf (some c2) d1 = true ∧ Y.jf (some d1) e1 = true)

instance (Y : Layout) (a1 a2 a3 a4 b1 b2 b3 c1 c2 d1 e1 e2 e3 : Token) :
    Decidable (Prog5OK Y a1 a2 a3 a4 b1 b2 b3 c1 c2 d1 e1 e2 e3) := by unfold Prog5OK; infer_instance

variable {a1 a2 a3 a4 b1 b2 b3 c1 c2 d1 e1 e2 e3 : Token}

theorem prog5_while (h : Prog5OK Y a1 a2 a3 a4 b1 b2 b3 c1 c2 d1 e1 e2 e3) :
    LinN Y 0 (.stmt (.while (Y.sl b1) (.id (Y.idOf b2)) (some [.ret (Y.sl c1) (.id (Y.idOf c2)), .break (Y.sl d1)])))
      (b1 :: [b2] ++ b3 :: ([c1, c2] ++ ([d1] ++ []))) := by
  obtain ⟨-, ⟨tb1, tb2, tb3⟩, ⟨tc1, tc2, td1⟩, -, ⟨-, gb, gc, -⟩, ⟨-, -, ib3, ic, id, -⟩, ⟨-, jcd, -⟩⟩ := h
  have hret : LinN Y 1 (.stmt (.ret (Y.sl c1) (.id (Y.idOf c2)))) [c1, c2] :=
    .simple 1 _ _ (.retStmt c1 _ [c2] tc1 (linE_id1 c2 tc2) gc)
  have hbrk : LinN Y 1 (.stmt (.break (Y.sl d1))) [d1] := .simple 1 _ _ (.breakStmt d1 td1)
  exact .whileStmt 0 b1 b3 _ [b2] _ _ tb1 (linE_id1 b2 tb2) tb3 gb ib3 (by simp)
    (.blockCons 1 _ _ _ _ hret ic (.blockCons 1 _ _ _ _ hbrk id (.blockNil 1) (Or.inl rfl)) (Or.inr jcd))

theorem prog5_rendered (h : Prog5OK Y a1 a2 a3 a4 b1 b2 b3 c1 c2 d1 e1 e2 e3) :
    LinProgram Y (prog5 Y a1 a2 a3 a4 b1 b2 c1 c2 d1 e1 e2 e3) [a1, a2, a3, a4, b1, b2, b3, c1, c2, d1, e1, e2, e3] := by
  have hwhile := prog5_while h
  obtain ⟨⟨ta1, ta2, ta3, ta4⟩, -, -, ⟨te1, te2, te3⟩, ⟨ga, -, -, ge⟩, ⟨ia, ib, -, -, -, ie⟩, ⟨jab, -, jde⟩⟩ := h
  have hdecl : LinN Y 0 (.stmt (.varDecl (Y.sl a1) [(vdTypeOf a3, [Y.idOf a2], .id (Y.idOf a4))])) [a1, a2, a3, a4] :=
    .simple 0 _ _ (.declStmt a1 a3 _ [a2] _ [a4] ta1 (.one a2 ta2) ta3 (linE_id1 a4 ta4) ga)
  have hadd : LinE Y 1 (.arith (Y.sl e2) (lookupD addSubOverride e2.type addSubDefault) (.id (Y.idOf e1)) (.id (Y.idOf e3)))
      ([e1] ++ e2 :: [e3]) :=
    .up 1 _ _ (by decide) (.up 2 _ _ (by decide) (.up 3 _ _ (by decide) (.up 4 _ _ (by decide)
      (.add e2 _ _ [e1] [e3] te2
        (.up 5 _ _ (by decide) (.up 6 _ _ (by decide) (.id e1 te1))) (.up 6 _ _ (by decide) (.id e3 te3))))))
  have hexpr : LinN Y 0 (.stmt (.expr (.arith (Y.sl e2) (lookupD addSubOverride e2.type addSubDefault) (.id (Y.idOf e1))
      (.id (Y.idOf e3))))) ([e1] ++ e2 :: [e3]) :=
    .simple 0 _ _ (.exprStmt _ _ hadd ge (by rw [show Y.peek ([e1] ++ e2 :: [e3]) = e1 from rfl, te1]; decide))
  exact .body 0 _ _ (plainBody
    (.blockCons 0 _ _ _ _ hdecl ia
      (.blockCons 0 _ _ _ _ hwhile ib (.blockCons 0 _ _ _ _ hexpr ie (.blockNil 0) (Or.inl rfl)) (Or.inr jde))
      (Or.inr jab)) (by simp))

end ZnVerif.Proofs.StmtRT
