/-
Bridge (A) ↔ (B), symbol table, at the level the evaluator actually calls (`findElement`, `findElementWithModule`,
`declareElement`, `setElement`, `beginBoundScope` / `endBoundScope` of `Model/Interp.lean` against the wrappers of
pkg/runtime/vm.go modelled in `Model/Scope.lean`: `VMScope.findElement`, …): the relation `RV` between the two states,
the outcome relation `RelVM`, and the lemma `relVM_finish` the state-changing wrappers share.  The bridge theorems
themselves are `vm_scope_bridge_*` in Properties/Bridges.lean.  Core Lean only.
-/
import ZnVerif.Proofs.BridgesScope
import ZnVerif.Proofs.Calls

namespace ZnVerif.Proofs.Bridges
open ZnVerif ZnVerif.Model ZnVerif.Proofs.Scope ZnVerif.Proofs.Calls
open ZnVerif.SymTab (GoRes VMScope globalLookup)

set_option linter.unusedSectionVars false

variable {ν : Type} [NumOps ν]

/-- (B)'s `GoRes` read as an outcome of the evaluator monad: Go `error` by code = runtime error of that code -/
def ofGo {β : Type} : GoRes β → Model.Res β
  | .ok v => .ok v
  | .err c => .err (.rt c)
  | .panic => .panic

/-- the current module's scope on both sides: both absent (no frame pushed yet), or related with (B)'s invariant -/
def ScopeRel : Option Model.Scope → Option (SymTab.Scope Addr) → Prop
  | some sc, some σ => R sc σ ∧ ∃ d, Sim σ d
  | none, none => True
  | _, _ => False

/-- evaluator state `s` and VM view `vm`: same predefined names, same current module, related current scope -/
structure RV (s : VM ν) (vm : VMScope Addr) : Prop where
  globals : s.globals = vm.globals
  mid : s.csModuleID = (vm.moduleID : Int)
  scope : ScopeRel (getScope s.csModuleID s) vm.scope

theorem RV.scope_cases {s : VM ν} {vm : VMScope Addr} (h : RV s vm) :
    (getScope s.csModuleID s = none ∧ vm.scope = none) ∨
    ∃ sc σ d, getScope s.csModuleID s = some sc ∧ vm.scope = some σ ∧ R sc σ ∧ Sim σ d := by
  have hsc := h.scope
  cases hI : getScope s.csModuleID s <;> cases hB : vm.scope <;> rw [hI, hB] at hsc
  · exact Or.inl ⟨rfl, rfl⟩
  · exact hsc.elim
  · exact hsc.elim
  · obtain ⟨hR, d, hsim⟩ := hsc
    exact Or.inr ⟨_, _, d, rfl, rfl, hR, hsim⟩

theorem lookup_eq_globalLookup (name : String) : ∀ g : List (String × Addr), lookup name g = globalLookup g name
  | [] => rfl
  | (k, v) :: rest => by
    by_cases h : name = k
    · simp [lookup, globalLookup, h]
    · have h' : ¬ k = name := fun e => h e.symm
      simp only [lookup, globalLookup, h, h', if_false]
      exact lookup_eq_globalLookup name rest

/-- outcome of a state-changing wrapper: success with related states, or the same error code and (A) unchanged;
(B) never panics on related states -/
def RelVM (s : VM ν) (r : Model.Res Unit × VM ν) (g : GoRes (VMScope Addr)) : Prop :=
  match g with
  | .ok vm' => r.1 = .ok () ∧ RV r.2 vm'
  | .err c => r = (.err (.rt c), s)
  | .panic => False

theorem RV.put {s : VM ν} {vm : VMScope Addr} (h : RV s vm) {sc' : Model.Scope} {σ' : SymTab.Scope Addr}
    (hR : R sc' σ') {d : Nat} (hs : Sim σ' d) :
    RV (putScope s.csModuleID sc' s) { vm with scope := some σ' } := by
  refine ⟨?_, ?_, ?_⟩
  · rw [putScope_globals]; exact h.globals
  · rw [putScope_cs]; exact h.mid
  · rw [putScope_cs, getScope_putScope_same]; exact ⟨hR, d, hs⟩

/-- what `DeclareElement` / `DeclareConstElement` / `DeclareExternalElement` / `SetElement` of the evaluator do with the
result of the scope-level operation: raise its error, or store the new scope as the current module's -/
def afterI (r : Except Err Model.Scope) : M ν Unit :=
  match r with
  | .error e => throwE e
  | .ok sc' => putCurrentScope sc'

/-- the same for the wrappers of vm.go: pass the error or panic on, or store the new scope -/
def afterB (vm : VMScope Addr) (g : GoRes (SymTab.Scope Addr)) : GoRes (VMScope Addr) :=
  match g with
  | .ok sp' => .ok { vm with scope := some sp' }
  | .err c => .err c
  | .panic => .panic

/-- once the scope-level results are related (`RelRes`), the wrappers' results are (`RelVM`): for any two terms that are case
by case `afterI` / `afterB` (Lean does not identify two stuck `match`es compiled in different declarations, so the use
sites discharge `hx`, `hy` by `cases … <;> rfl`) -/
theorem relVM_finish {s : VM ν} {vm : VMScope Addr} (h : RV s vm)
    {r : Except Err Model.Scope} {g : GoRes (SymTab.Scope Addr)} (hr : RelRes r g)
    (hsim : ∀ σ', g = .ok σ' → ∃ d, Sim σ' d) {x : Model.Res Unit × VM ν} {y : GoRes (VMScope Addr)}
    (hx : x = afterI r s) (hy : y = afterB vm g) : RelVM s x y := by
  subst hx hy
  cases r with
  | ok sc' =>
    cases g with
    | ok σ' =>
      obtain ⟨d, hd⟩ := hsim σ' rfl
      exact ⟨rfl, h.put hr.1 hd⟩
    | err c => exact hr.elim
    | panic => exact hr.elim
  | error e =>
    cases g with
    | ok σ' => exact hr.elim
    | err c => have he : e = .rt c := hr; subst he; rfl
    | panic => exact hr.elim

/-- (B)'s invariant after a successful scope-level operation, read off the frame-stack simulation of that operation -/
theorem sim_of_ofErr {σ σ' σ₁ : SymTab.Scope Addr} {g : GoRes (SymTab.Scope Addr)} {d : Nat}
    {r₁ : Spec.Scopes.Res Addr} (h1 : σ.ofErr g = .ok (σ₁, r₁)) (h2 : Sim σ₁ d) (hg : g = .ok σ') : ∃ d, Sim σ' d := by
  subst hg
  cases h1
  exact ⟨d, h2⟩

end ZnVerif.Proofs.Bridges
