/-
C03 at character level: what Spec/RenderChars.lean's own functions say — the items, the line table and the token list of a document
(`Item.type` / `Item.spelling`; `docLines` / `elLines` / `litLines`; `docTokens` / `elToks`; `renderDoc`).  No lexer function is run here;
the lexer side (Proofs/RenderGap*.lean) rests on this file.

Items: their types (`item_type_ne`) and the first character of their spelling (`spelling_head0`).  The line table from a point on has one
shape — `From s k pos L`: it begins with the current line `(s, k)` and goes on with lines that start beyond `pos`, in increasing order
(`elLines_from`; a token that spans lines: `From.span`, `litLines_cur`, `litLines_spec`).  Then the tokens of a document (`tokCount`,
`elToks_length`, `elToks_types`) and the first character of its text (`units_head`, `renderDoc_head_ne`).
-/
import ZnVerif.Spec.RenderChars
import ZnVerif.Proofs.LexSegment
import ZnVerif.Proofs.LexLines

namespace ZnVerif.Proofs.RenderLex
open ZnVerif.Model ZnVerif.Generated.Tokens
open ZnVerif.Spec ZnVerif.Spec.RenderChars

theorem documented_glyphs : ∀ k ∈ Keywords.documented, ∀ c ∈ k.1, SegChar c := by decide +kernel

instance (c : Nat) : Decidable (Solid c) := by unfold Solid; infer_instance

theorem wf0_of_wf (it : Item) (hw : it.WF) : it.WF0 := by
  cases it with
  | name cs => exact ⟨hw.1, hw.2.1⟩
  | cmt c => exact hw.elim
  | _ => exact hw

theorem item_type_ne (it : Item) (hw : it.WF0) : it.type ≠ cTypeEOF ∧ ((∀ c, it ≠ .cmt c) → it.type ≠ cTypeComment) := by
  cases it with
  | kw sp ty =>
    have : ∀ k ∈ Keywords.documented, k.2 ≠ cTypeEOF ∧ k.2 ≠ cTypeComment := by decide
    exact ⟨(this _ hw).1, fun _ => (this _ hw).2⟩
  | punct ch ty =>
    have : ∀ k ∈ punctuationTypeMap, k.2 ≠ cTypeEOF ∧ k.2 ≠ cTypeComment := by decide
    exact ⟨(this _ hw).1, fun _ => (this _ hw).2⟩
  | op sp ty =>
    have : ∀ k ∈ operatorTable, k.2 ≠ cTypeEOF ∧ k.2 ≠ cTypeComment := by decide
    exact ⟨(this _ hw).1, fun _ => (this _ hw).2⟩
  | name cs => exact (by decide : cTypeIdentifier ≠ cTypeEOF ∧ cTypeIdentifier ≠ cTypeComment).imp_right fun h _ => h
  | quoted cs => exact (by decide : cTypeIdentifier ≠ cTypeEOF ∧ cTypeIdentifier ≠ cTypeComment).imp_right fun h _ => h
  | text q t => exact (by cases q <;> decide : q.type ≠ cTypeEOF ∧ q.type ≠ cTypeComment).imp_right fun h _ => h
  | cmt c => exact ⟨(by decide : cTypeComment ≠ cTypeEOF), fun h => absurd rfl (h c)⟩

theorem spelling_head0 (it : Item) (hw : it.WF0) : ∃ c sp, it.spelling = c :: sp ∧ Solid c ∧ c ≠ 0 ∧ c ≠ runeTAB := by
  cases it with
  | kw sp ty =>
    obtain ⟨c, sp', rfl⟩ := List.exists_cons_of_ne_nil (documented_spellings_nonempty _ hw)
    have hs := documented_glyphs _ hw c List.mem_cons_self
    exact ⟨c, sp', rfl, hs.solid.1, hs.solid.2.1, by intro e; have := hs.2.1; rw [e] at this; revert this; decide⟩
  | punct ch ty =>
    have : ∀ p ∈ punctuationTypeMap, Solid p.1 ∧ p.1 ≠ 0 ∧ p.1 ≠ runeTAB := by decide
    exact ⟨ch, [], rfl, this _ hw⟩
  | op sp ty =>
    have : ∀ p ∈ operatorTable, p.1 ≠ [] ∧ Solid (p.1.headD 0) ∧ p.1.headD 0 ≠ 0 ∧ p.1.headD 0 ≠ runeTAB := by decide
    obtain ⟨h1, h2⟩ := this _ hw
    cases sp with
    | nil => exact absurd rfl h1
    | cons c sp' => exact ⟨c, sp', rfl, h2⟩
  | name cs =>
    obtain ⟨hne, hcs⟩ := hw
    obtain ⟨c, cs', rfl⟩ := List.exists_cons_of_ne_nil hne
    have hs : SegChar c := hcs c List.mem_cons_self
    exact ⟨c, cs', rfl, hs.solid.1, hs.solid.2.1, by intro e; have := hs.2.1; rw [e] at this; revert this; decide⟩
  | quoted cs => exact ⟨cBackTick, cs ++ [cBackTick], rfl, by decide, by decide, by decide⟩
  | text q t =>
    refine ⟨q.opener, Literal.encodeSafe q t ++ [q.closer], rfl, ?_⟩
    cases q <;> decide
  | cmt c =>
    cases c with
    | line b => exact ⟨cSlashOp, _, rfl, by decide, by decide, by decide⟩
    | block b => exact ⟨cSlashOp, _, rfl, by decide, by decide, by decide⟩
    | note ds b => exact ⟨cCharZHU, _, rfl, by decide, by decide, by decide⟩

theorem mcmt_len (c : MCmt) : c.chars.length = c.pre.length + c.body.length + c.suf.length ∧ 0 < c.suf.length := by
  cases c <;> simp [MCmt.chars, MCmt.suf] <;> omega

/-- a line whose `LineText` is not yet set -/
def openLine (s k : Nat) : LineInfo := { indents := k, startIdx := s }

theorem litLines_nil (s k : Nat) : litLines s k [] = ([], s, k) := rfl

theorem break_len_pos (b : Break) : 0 < b.chars.length := by cases b <;> simp [Break.chars]

/-- a line table seen from a point `pos` of the line `(s, k)`: it begins with that line and goes on with lines that start beyond
`pos`, in increasing order -/
def From (s k pos : Nat) (L : List LineInfo) : Prop :=
  ∃ hd T, L = hd :: T ∧ hd.startIdx = s ∧ hd.indents = k ∧
    T.Pairwise (fun a b => a.startIdx < b.startIdx) ∧ ∀ b ∈ T, pos < b.startIdx

theorem From.mono {s k pos pos' : Nat} {L : List LineInfo} (h : From s k pos' L) (hp : pos ≤ pos') : From s k pos L := by
  obtain ⟨hd, T, e, h1, h2, h3, h4⟩ := h
  exact ⟨hd, T, e, h1, h2, h3, fun b hb => Nat.lt_of_le_of_lt hp (h4 b hb)⟩

/-- one more line in front: the table went on from `pos'` on the line that starts at `s'`, beyond `pos` -/
theorem From.cons {s' k' pos pos' : Nat} {L : List LineInfo} (hd : LineInfo) (h : From s' k' pos' L) (h1 : pos < s') (h2 : s' ≤ pos') :
    From hd.startIdx hd.indents pos (hd :: L) := by
  obtain ⟨hd', T, rfl, rfl, _, h3, h4⟩ := h
  refine ⟨hd, _, rfl, rfl, rfl, List.pairwise_cons.mpr ⟨?_, h3⟩, ?_⟩
  · intro b hb; have := h4 b hb; omega
  · intro b hb
    rcases List.mem_cons.mp hb with rfl | hb
    · exact h1
    · have := h4 b hb; omega

theorem From.sorted {s k pos : Nat} {L : List LineInfo} (h : From s k pos L) (hs : s ≤ pos) :
    L.Pairwise (fun a b => a.startIdx < b.startIdx) := by
  obtain ⟨hd, T, rfl, rfl, _, h3, h4⟩ := h
  exact List.pairwise_cons.mpr ⟨fun b hb => Nat.lt_of_le_of_lt hs (h4 b hb), h3⟩

theorem From.span {q : Nat} {X : List LineInfo} : ∀ (ls : List Nat) (s k pos : Nat), ls.Pairwise (· < ·) →
    (∀ x ∈ ls, pos < x ∧ x ≤ q) → pos ≤ q → From (litLines s k ls).2.1 (litLines s k ls).2.2 q X →
    From s k pos ((litLines s k ls).1 ++ X)
  | [], _, _, _, _, _, hq, h => h.mono hq
  | x :: xs, s, k, pos, hs, hb, _, h => by
    obtain ⟨h1, h2⟩ := List.pairwise_cons.mp hs
    exact From.cons (openLine s k)
      (From.span xs x 0 x h2 (fun y hy => ⟨h1 y hy, (hb y (List.mem_cons_of_mem _ hy)).2⟩) (hb x List.mem_cons_self).2 h)
      (hb x List.mem_cons_self).1 (Nat.le_refl _)

theorem elLines_from (ind : Indent) : ∀ (els : List El) (pos s k : Nat), From s k pos (elLines ind pos s k els)
  | [], _, _, _ => ⟨_, [], rfl, rfl, rfl, .nil, by simp⟩
  | .tok _ :: es, pos, s, k => (elLines_from ind es _ s k).mono (Nat.le_add_right _ _)
  | .ws _ :: es, pos, s, k => (elLines_from ind es _ s k).mono (Nat.le_add_right _ _)
  | .br b k' :: es, pos, s, k =>
    From.cons (closedLineI ind s k pos) (elLines_from ind es _ _ k')
      (by have := break_len_pos b; omega) (Nat.le_add_right _ _)
  | .lit _ t :: es, pos, s, k =>
    From.span _ s k pos (lineStarts_sorted _ t)
      (fun x hx => by have := lineStarts_bound _ _ x hx; omega) (by omega) (elLines_from ind es _ _ _)
  | .mcmt c :: es, pos, s, k =>
    From.span _ s k pos (lineStarts_sorted _ c.body)
      (fun x hx => by have := lineStarts_bound _ _ x hx; have := (mcmt_len c).1; omega) (by omega) (elLines_from ind es _ _ _)

theorem litLines_cur : ∀ (ls : List Nat) (s k : Nat), (litLines s k ls).2 = (s, k) ∨ ∃ x ∈ ls, (litLines s k ls).2 = (x, 0)
  | [], _, _ => .inl rfl
  | x :: xs, _, _ => .inr <| (litLines_cur xs x 0).elim (fun h => ⟨x, List.mem_cons_self, h⟩)
      fun ⟨y, hy, h⟩ => ⟨y, List.mem_cons_of_mem _ hy, h⟩

theorem litLines_spec (s k : Nat) (ls : List Nat) :
    [openLine s k] ++ ls.map scannedLine = (litLines s k ls).1 ++ [openLine (litLines s k ls).2.1 (litLines s k ls).2.2] := by
  induction ls generalizing s k with
  | nil => rfl
  | cons x xs ih =>
    have := ih x 0
    simp only [litLines, List.map_cons, List.cons_append, List.nil_append] at this ⊢
    rw [← this]
    rfl

theorem docLines_sorted (ind : Indent) (k0 : Nat) (els : List El) :
    (docLines ind k0 els).Pairwise (fun a b => a.startIdx < b.startIdx) :=
  (elLines_from ind els _ 0 k0).sorted (Nat.zero_le _)

/-- number of tokens of an element list -/
def tokCount : List El → Nat
  | [] => 0
  | .tok _ :: es => tokCount es + 1
  | .lit _ _ :: es => tokCount es + 1
  | .mcmt _ :: es => tokCount es + 1
  | _ :: es => tokCount es

theorem elToks_length (ind : Indent) : ∀ (els : List El) (pos : Nat), (elToks ind pos els).length = tokCount els
  | [], _ => rfl
  | e :: es, pos => by cases e <;> simp [elToks, tokCount, elToks_length ind es]

theorem docTokens_length (ind : Indent) (k0 : Nat) (els : List El) : (docTokens ind k0 els).length = tokCount els :=
  elToks_length ind els _

theorem elToks_types (ind : Indent) : ∀ (els : List El) (pos : Nat), WFEls ind els →
    ∀ t ∈ elToks ind pos els, t.type ≠ cTypeEOF := by
  intro els
  induction els with
  | nil => intro _ _ t ht; simp [elToks] at ht
  | cons e es ih =>
    intro pos hw t ht
    cases e with
    | tok it =>
      simp only [elToks, List.mem_cons] at ht
      rcases ht with rfl | ht
      · exact (item_type_ne it hw.1).1
      · exact ih _ hw.2.2 t ht
    | ws x => exact ih _ hw.2 t ht
    | br b k => exact ih _ hw.2.2 t ht
    | lit q x =>
      simp only [elToks, List.mem_cons] at ht
      rcases ht with rfl | ht
      · cases q <;> simp [Literal.Quote.type] <;> decide
      · exact ih _ hw.2 t ht
    | mcmt m =>
      simp only [elToks, List.mem_cons] at ht
      rcases ht with rfl | ht
      · show cTypeComment ≠ cTypeEOF; decide
      · exact ih _ hw.2 t ht

theorem indent_char_facts (ind : Indent) : ind.char ≠ 0 ∧ (ind.char = runeSP ∨ ind.char = runeTAB) ∧ 0 < ind.width := by
  cases ind <;> decide

/-- the character the indentation of a line is judged by -/
theorem units_head (ind : Indent) (k : Nat) (tl : List Nat) :
    (units ind k ++ tl).headD 0 = if k = 0 then tl.headD 0 else ind.char := by
  by_cases hk : k = 0
  · subst hk; simp [units]
  · obtain ⟨j, hj⟩ : ∃ j, ind.width * k = j + 1 :=
      ⟨ind.width * k - 1, by have := Nat.mul_pos (indent_char_facts ind).2.2 (Nat.pos_of_ne_zero hk); omega⟩
    simp only [hk, ↓reduceIte, units, hj, List.replicate_succ, List.cons_append, List.headD_cons]

theorem renderEls_head_ne (ind : Indent) (els : List El) (hw : WFEls ind els) (hne : renderEls ind els ≠ []) :
    (renderEls ind els).headD 0 ≠ 0 := by
  cases els with
  | nil => exact absurd rfl hne
  | cons e es =>
    cases e with
    | tok it =>
      obtain ⟨c, sp, hsp, _, h0, _⟩ := spelling_head0 it hw.1
      simp [renderEls, El.chars, hsp]; exact h0
    | ws x =>
      simp [renderEls, El.chars]
      intro e; have := hw.1; rw [e] at this; revert this; decide
    | br b k => cases b <;> simp [renderEls, El.chars, Break.chars] <;> decide
    | lit q t => cases q <;> simp [renderEls, El.chars] <;> decide
    | mcmt m => cases m <;> simp [renderEls, El.chars, MCmt.chars, MCmt.pre] <;> decide

theorem renderDoc_head_ne (ind : Indent) (k0 : Nat) (els : List El) (hwf : DocWF ind k0 els) : (renderDoc ind k0 els).headD 0 ≠ 0 := by
  unfold renderDoc
  rw [units_head]
  split
  · rename_i hk
    exact renderEls_head_ne ind els hwf.2.2 (by simpa [renderDoc, units, hk] using hwf.1)
  · exact (indent_char_facts ind).1

end ZnVerif.Proofs.RenderLex
