/-
Helper lemmas for C14, one text value over a history: the byte-level `strings.Replace(…, 1)` of an encoded pattern
commutes with UTF-8 encoding (no occurrence starts inside a character), hence so does what 转换数值 stores back
into its receiver; from there the model's history on `encode t` is the encoded spec history on `t`.
-/
import ZnVerif.Proofs.TextOps

namespace ZnVerif.Proofs.TextHistory
open ZnVerif.Model ZnVerif.Spec
open ZnVerif.Proofs.TextUtf8
open ZnVerif.Proofs.TextOps (liftErr splitGo_encode splitGo_eq_splitOn join_splitOn splitOn_ne_nil
  encode_join)

theorem replaceFirstBytes_eq (pat rep : List Nat) :
    ∀ s, Model.TextOps.replaceFirstBytes pat rep s = Spec.TextOps.replaceFirst pat rep s
  | [] => rfl
  | c :: r => by rw [Model.TextOps.replaceFirstBytes, Spec.TextOps.replaceFirst, replaceFirstBytes_eq pat rep r]

/-- replacing the first occurrence = cutting at the pattern, the replacement behind the first piece, the pattern back
between the others -/
theorem replaceFirst_splitOn {pat : List Nat} (hp : pat ≠ []) (rep : List Nat) : ∀ (s cur : List Nat),
    cur ++ Spec.TextOps.replaceFirst pat rep s =
      match Spec.TextOps.splitOn pat 0 cur s with
      | p :: q :: r => p ++ rep ++ Spec.TextOps.join pat (q :: r)
      | ps => Spec.TextOps.join pat ps
  | [], cur => by simp [Spec.TextOps.replaceFirst, Spec.TextOps.splitOn, Spec.TextOps.join]
  | b :: s, cur => by
    rw [Spec.TextOps.replaceFirst, Spec.TextOps.splitOn]
    by_cases h : pat.isPrefixOf (b :: s) = true
    · rw [if_pos h, if_pos h]
      obtain ⟨r, hr⟩ := List.isPrefixOf_iff_prefix.1 h
      obtain ⟨p0, pat', rfl⟩ := List.exists_cons_of_ne_nil hp
      rw [List.cons_append, List.cons.injEq] at hr
      obtain ⟨rfl, rfl⟩ := hr
      have hj := join_splitOn (p0 :: pat') hp (pat' ++ r) pat'.length [] (by simp)
      obtain ⟨q, qs, hq⟩ := List.exists_cons_of_ne_nil (splitOn_ne_nil (p0 :: pat') (pat' ++ r) pat'.length [])
      simp only [List.length_cons, Nat.add_sub_cancel] at hj ⊢
      rw [hq] at hj ⊢
      simp only [hj]
      simp
    · rw [if_neg h, if_neg h, ← replaceFirst_splitOn hp rep s (cur ++ [b])]; simp

/-- `strings.Replace(s, old, new, 1)` on the bytes of a text, for the bytes of a non-empty `old` and of `new`, is the
encoding of the text in which the first occurrence of the characters `old` is replaced by the characters `new` -/
theorem replaceFirstBytes_encode (pat rep : List Nat) (hpat : pat ≠ []) (hvp : ValidText pat) (t : List Nat)
    (hvt : ValidText t) :
    Model.TextOps.replaceFirstBytes (Model.TextOps.encode pat) (Model.TextOps.encode rep) (Model.TextOps.encode t) =
      Model.TextOps.encode (Spec.TextOps.replaceFirst pat rep t) := by
  have hb := replaceFirst_splitOn (encode_ne_nil hpat) (Model.TextOps.encode rep) (Model.TextOps.encode t) []
  have hc := replaceFirst_splitOn hpat rep t []
  have hs := splitGo_encode pat hpat hvp t hvt
  rw [splitGo_eq_splitOn] at hs
  rw [List.nil_append] at hb hc
  rw [replaceFirstBytes_eq, hb, hc, hs]
  match Spec.TextOps.splitOn pat 0 [] t with
  | [] => rfl
  | [p] => rfl
  | p :: q :: r => simp only [List.map_cons, encode_append, encode_join]

theorem mem_replaceFirst (pat rep : List Nat) : ∀ (t : List Nat) (c : Nat),
    c ∈ Spec.TextOps.replaceFirst pat rep t → c ∈ rep ∨ c ∈ t := by
  intro t
  induction t with
  | nil => intro c h; simp [Spec.TextOps.replaceFirst] at h
  | cons a t ih =>
    intro c h
    rw [Spec.TextOps.replaceFirst] at h
    split at h
    · rcases List.mem_append.1 h with h | h
      · exact Or.inl h
      · exact Or.inr (List.mem_of_mem_drop h)
    · rcases List.mem_cons.1 h with h | h
      · exact Or.inr (by simp [h])
      · rcases ih c h with h | h
        · exact Or.inl h
        · exact Or.inr (List.mem_cons_of_mem _ h)

theorem validText_replaceFirst (pat rep t : List Nat) (hr : ValidText rep) (ht : ValidText t) :
    ValidText (Spec.TextOps.replaceFirst pat rep t) := by
  intro c hc
  rcases mem_replaceFirst pat rep t c hc with h | h
  · exact hr c h
  · exact ht c h

theorem validText_numberRewrite (t : List Nat) (ht : ValidText t) : ValidText (Spec.TextOps.numberRewrite t) :=
  have he : ValidText [0x65] := validText_ascii _ (by unfold Ascii; decide)
  validText_replaceFirst _ _ _ he (validText_replaceFirst _ _ _ he ht)

theorem replaceFirstBytes_ascii {pat rep : List Nat} (hp : pat ≠ []) (ha : Ascii pat) (hr : Ascii rep) (t : List Nat)
    (hv : ValidText t) :
    Model.TextOps.replaceFirstBytes pat rep (Model.TextOps.encode t) =
      Model.TextOps.encode (Spec.TextOps.replaceFirst pat rep t) := by
  have := replaceFirstBytes_encode pat rep hp (validText_ascii _ ha) t hv
  rwa [encode_ascii _ ha, encode_ascii _ hr] at this

/-- what `strExecAtoi` stores back into its receiver, on the bytes of a text, is the encoding of the spec's rewritten
text: the bytes of `*^` / `*10^` are found only where these characters stand -/
theorem atoiRewrite_encode (t : List Nat) (hv : ValidText t) :
    Model.TextOps.atoiRewrite (Model.TextOps.encode t) = Model.TextOps.encode (Spec.TextOps.numberRewrite t) := by
  have he : Ascii [0x65] := by unfold Ascii; decide
  rw [Model.TextOps.atoiRewrite, Spec.TextOps.numberRewrite,
    replaceFirstBytes_ascii (by simp) (by unfold Ascii; decide) he t hv,
    replaceFirstBytes_ascii (by simp) (by unfold Ascii; decide) he _ (validText_replaceFirst _ _ t (validText_ascii _ he) hv)]

/-- a spec observation as the model shows it: every text in it encoded, numbers and the exception class as they are -/
def encodeObs : Spec.TextOps.SpecObs → Model.TextOps.Obs
  | .len n => .len n
  | .chars cs => .chars (cs.map Model.TextOps.encode)
  | .slice (.ok r) => .slice (.ok (Model.TextOps.encode r))
  | .slice (.error e) => .slice (.error (liftErr e))
  | .text t => .text (Model.TextOps.encode t)
  | .converted => .converted

theorem validText_step (t : List Nat) (hv : ValidText t) (st : Model.TextOps.Step) :
    ValidText (Spec.TextOps.step t st).2 := by
  cases st <;> first | exact hv | exact validText_numberRewrite t hv

theorem step_encode (t : List Nat) (hv : ValidText t) (st : Model.TextOps.Step) :
    Model.TextOps.step (Model.TextOps.encode t) st =
      (encodeObs (Spec.TextOps.step t st).1, Model.TextOps.encode (Spec.TextOps.step t st).2) := by
  cases st with
  | len => simp [Model.TextOps.step, Spec.TextOps.step, encodeObs, length_encode t hv]
  | chars =>
    simp only [Model.TextOps.step, Spec.TextOps.step, encodeObs, chars_encode t hv, List.map_map]
    congr 2
    apply List.map_congr_left
    intro c _
    simp [Model.TextOps.encode]
  | slice i j =>
    simp only [Model.TextOps.step, Spec.TextOps.step, TextOps.slice_encode t hv i j]
    cases Spec.TextOps.slice t i j <;> rfl
  | text => rfl
  | toNumber => simp [Model.TextOps.step, Spec.TextOps.step, encodeObs, atoiRewrite_encode t hv]

theorem history_encode : ∀ (h : List Model.TextOps.Step) (t : List Nat), ValidText t →
    Model.TextOps.runHistory h (Model.TextOps.encode t) = (Spec.TextOps.runHistory h t).map encodeObs ∧
    Model.TextOps.stateAfter h (Model.TextOps.encode t) = Model.TextOps.encode (Spec.TextOps.stateAfter h t) ∧
    ValidText (Spec.TextOps.stateAfter h t)
  | [], _, hv => ⟨rfl, rfl, hv⟩
  | st :: h, t, hv => by
    obtain ⟨h1, h2, h3⟩ := history_encode h _ (validText_step t hv st)
    rw [Model.TextOps.runHistory, Model.TextOps.stateAfter, step_encode t hv st]
    exact ⟨by rw [h1]; rfl, h2, h3⟩

theorem runHistory_append : ∀ (h₁ h₂ : List Model.TextOps.Step) (s : List Nat),
    Model.TextOps.runHistory (h₁ ++ h₂) s =
      Model.TextOps.runHistory h₁ s ++ Model.TextOps.runHistory h₂ (Model.TextOps.stateAfter h₁ s) := by
  intro h₁
  induction h₁ with
  | nil => intro h₂ s; rfl
  | cons st h₁ ih =>
    intro h₂ s
    simp only [List.cons_append, Model.TextOps.runHistory, Model.TextOps.stateAfter, ih]

end ZnVerif.Proofs.TextHistory
