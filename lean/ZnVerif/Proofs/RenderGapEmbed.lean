/-
C03 at character level: the canonical rendering (`renderTokens`: one space between tokens, LF + TABs between lines, LF at the end) is
a document (`renderDoc .tab`), with the same tokens, the same line table, and well-formed when the token list is — so the theorems
about canonical renderings are corollaries of the theorems about documents.  First the one fact about single tokens: before the space
or line feed that follows it in a canonical rendering, a well-formed item ends (`item_ends_canonical`, hence `dispatch_item`).
-/
import ZnVerif.Proofs.RenderGapItems

namespace ZnVerif.Proofs.RenderLex
open ZnVerif.Model ZnVerif.Generated.Tokens
open ZnVerif.Spec ZnVerif.Spec.RenderChars
open ZnVerif.Spec.Segment (kwAt)

/-- a delimiter of the canonical rendering: the space between two tokens, or the line feed that ends a line -/
def CanonSep (d : Nat) : Prop := d = runeSP ∨ d = runeLF

theorem canonSep_not_seg {d : Nat} (hd : CanonSep d) : ¬ SegChar d := by
  rcases hd with rfl | rfl
  · intro h; exact absurd h.2.1 (by decide)
  · intro h; exact absurd h.2.2.2.2.2.2.2 (by decide)

theorem kwAt_none_append (s : List Nat) (d : Nat) (r : List Nat) (hd : CanonSep d)
    (h : kwAt Keywords.documented s = none) : kwAt Keywords.documented (s ++ d :: r) = none := by
  unfold kwAt at h ⊢
  cases hf : Keywords.documented.find? (fun k => k.1.isPrefixOf (s ++ d :: r)) with
  | none => rfl
  | some x =>
    exfalso
    have hx := List.mem_of_find?_eq_some hf
    have hp : x.1 <+: s ++ d :: r :=
      List.isPrefixOf_iff_prefix.mp (List.find?_some (p := fun (x : List Nat × Nat) => x.1.isPrefixOf (s ++ d :: r)) hf)
    have hnone : Keywords.documented.find? (fun k => k.1.isPrefixOf s) = none := by
      cases h' : Keywords.documented.find? (fun k => k.1.isPrefixOf s) with
      | none => rfl
      | some y => rw [h'] at h; simp at h
    have hns := List.find?_eq_none.mp hnone x hx
    rcases List.prefix_or_prefix_of_prefix hp (List.prefix_append s (d :: r)) with h1 | h1
    · exact hns (List.isPrefixOf_iff_prefix.mpr h1)
    · -- `s` is a proper prefix of the keyword, so `d` is one of its glyphs
      obtain ⟨t, ht⟩ := h1
      obtain ⟨u, hu⟩ := hp
      have hlen : s.length < x.1.length ∨ s.length = x.1.length := by
        have := congrArg List.length ht; simp at this; omega
      rcases hlen with hl | hl
      · have hdmem : d ∈ x.1 := by
          rw [← ht] at hu
          rw [List.append_assoc] at hu
          have h2 := List.append_cancel_left hu
          cases t with
          | nil => simp at ht; rw [ht] at hl; omega
          | cons a t' =>
            simp at h2
            rw [← ht, ← h2.1]; simp
        exact canonSep_not_seg hd (documented_glyphs x hx d hdmem)
      · have : t = [] := by
          have := congrArg List.length ht; simp at this
          exact List.length_eq_zero_iff.mp (by omega)
        subst this
        simp at ht
        apply hns
        rw [ht]
        exact List.isPrefixOf_iff_prefix.mpr (List.prefix_refl _)

theorem item_ends_canonical (it : Item) (hw : it.WF) (d : Nat) (t : List Nat)
    (hd : d = runeSP ∨ (d = runeLF ∧ it.tight = false)) : it.WF0 ∧ it.Ends (d :: t) := by
  have hdel : CanonSep d := hd.imp id (·.1)
  cases it with
  | kw sp ty => exact ⟨hw, trivial⟩
  | punct ch ty => exact ⟨hw, trivial⟩
  | quoted cs => exact ⟨hw, trivial⟩
  | text q x => exact ⟨hw, trivial⟩
  | cmt c => exact hw.elim
  | op sp ty =>
    refine ⟨hw, ?_, ?_⟩
    · show tightMarks.contains sp = true → isDelim d = true
      intro ht
      rcases hd with rfl | ⟨_, h2⟩
      · decide
      · simp only [Item.tight] at h2
        rw [ht] at h2; cases h2
    · show eqLeaders.contains sp = true → d ≠ cEqualOp
      intro _
      rcases hdel with rfl | rfl <;> decide
  | name cs =>
    obtain ⟨hne, hcs, hkf⟩ := hw
    clear hd
    refine ⟨⟨hne, hcs⟩, ?_, ?_⟩
    · rw [kwFreeBefore_iff]
      intro i hi
      apply kwAt_none_append _ d t hdel
      -- `kwFree` says it of every suffix
      clear hne hcs
      induction cs generalizing i with
      | nil => simp at hi
      | cons c cs ih =>
        have hkf' : (kwAt Keywords.documented (c :: cs)).isNone = true ∧ kwFree cs = true := by simpa [kwFree] using hkf
        cases i with
        | zero => simpa using hkf'.1
        | succ i => exact ih hkf'.2 i (by simpa using hi)
    · unfold nameStop
      simp only [List.headD_cons]
      rcases hdel with rfl | rfl
      · have : isWhiteSpace runeSP = true := by decide
        simp [this]
      · have : terminateMarkers.contains runeLF = true := by decide
        rw [this]; simp

theorem dispatch_item (it : Item) (hw : it.WF) (l : Lexer) (d : Nat) (r : List Nat)
    (hd : d = runeSP ∨ (d = runeLF ∧ it.tight = false)) (h : here l = it.spelling ++ d :: r) :
    dispatchToken l = (.ok (it.token l.cursor), l.setCursor (l.cursor + it.spelling.length)) :=
  have ⟨h0, he⟩ := item_ends_canonical it hw d r hd
  dispatch_item_ends it h0 (d :: r) he l h

theorem lead_false_length (nl : Option Nat) : (lead false nl).length = 1 + nl.getD 0 := by
  cases nl <;> simp [lead, Nat.add_comm]

theorem renderFrom_head (rs : List RTok) : ∃ d r, renderFrom false rs = d :: r ∧ (d = runeSP ∨ d = runeLF) ∧
    ((∃ r' rs', rs = r' :: rs' ∧ r'.nl = none) → d = runeSP) := by
  cases rs with
  | nil => exact ⟨runeLF, [], rfl, Or.inr rfl, by rintro ⟨_, _, h, _⟩; cases h⟩
  | cons r' rs' =>
    cases hnl : r'.nl with
    | none =>
      exact ⟨runeSP, r'.item.spelling ++ renderFrom false rs', by simp [renderFrom, lead, hnl], Or.inl rfl, fun _ => rfl⟩
    | some k =>
      refine ⟨runeLF, List.replicate k runeTAB ++ (r'.item.spelling ++ renderFrom false rs'),
        by simp [renderFrom, lead, hnl], Or.inr rfl, ?_⟩
      rintro ⟨r'', rs'', h, h2⟩
      cases h
      rw [hnl] at h2; cases h2

theorem toksFrom_item_types : ∀ (rs : List RTok) (first : Bool) (pos : Nat), WFFrom rs →
    ∀ t ∈ toksFrom first pos rs, t.type ≠ cTypeEOF ∧ t.type ≠ cTypeComment
  | [], _, _, _, t, ht => by simp [toksFrom] at ht
  | r :: rs, _, _, hw, t, ht => by
    simp only [toksFrom, List.mem_cons] at ht
    rcases ht with rfl | ht
    · exact (item_type_ne r.item (wf0_of_wf _ hw.1)).imp_right
        (· fun c e => by have h := hw.1; rw [e] at h; exact h)
    · exact toksFrom_item_types rs false _ hw.2.2 t ht

theorem toksFrom_types : ∀ (rs : List RTok) (first : Bool) (pos : Nat), WFFrom rs →
    ∀ t ∈ toksFrom first pos rs, t.type ≠ cTypeEOF :=
  fun rs first pos hw t ht => (toksFrom_item_types rs first pos hw t ht).1

theorem tokCount_ofRToks : ∀ rs : List RTok, tokCount (ofRToks rs) = rs.length
  | [] => rfl
  | r :: rs => by cases hnl : r.nl <;> simp [ofRToks, hnl, tokCount, tokCount_ofRToks rs]

theorem units_tab (k : Nat) : units .tab k = List.replicate k runeTAB := by simp [units, Indent.width, Indent.char]

theorem closedLineI_tab (s k e : Nat) : closedLineI .tab s k e = closedLine s k e := by
  simp [closedLineI, closedLine, Indent.width]

theorem renderFrom_eq : ∀ rs : List RTok, renderFrom false rs = renderEls .tab (ofRToks rs) := by
  intro rs
  induction rs with
  | nil => simp [renderFrom, ofRToks, renderEls, El.chars, Break.chars, units_tab]
  | cons r rs ih =>
    cases hnl : r.nl with
    | none => simp [renderFrom, ofRToks, hnl, renderEls, El.chars, lead, ih]
    | some k => simp [renderFrom, ofRToks, hnl, renderEls, El.chars, lead, ih, Break.chars, units_tab]

theorem toksFrom_eq : ∀ (rs : List RTok) (pos : Nat), toksFrom false pos rs = elToks .tab pos (ofRToks rs) := by
  intro rs
  induction rs with
  | nil => intro pos; simp [toksFrom, ofRToks, elToks]
  | cons r rs ih =>
    intro pos
    cases hnl : r.nl with
    | none => simp [toksFrom, ofRToks, hnl, elToks, El.chars, lead, ih]
    | some k =>
      simp [toksFrom, ofRToks, hnl, elToks, El.chars, lead, ih, Break.chars, units_tab]

theorem linesFrom_eq : ∀ (rs : List RTok) (pos s k : Nat), linesFrom pos s k rs = elLines .tab pos s k (ofRToks rs) := by
  intro rs
  induction rs with
  | nil => intro pos s k; simp [linesFrom, ofRToks, elLines, closedLineI_tab, Break.chars, Indent.width]
  | cons r rs ih =>
    intro pos s k
    cases hnl : r.nl with
    | none =>
      simp only [linesFrom, hnl, ofRToks, List.cons_append, List.nil_append, elLines, El.chars, List.length_singleton]
      rw [ih]
    | some k' =>
      simp only [linesFrom, hnl, ofRToks, List.cons_append, List.nil_append, elLines, El.chars, closedLineI_tab, Break.chars,
        List.length_singleton, Indent.width, Nat.one_mul]
      rw [ih]

/-- a canonical token list as a document: the first token's indentation, then the token, then the rest -/
def docOf : List RTok → Nat × List El
  | [] => (0, [])
  | r0 :: rs => (r0.nl.getD 0, .tok r0.item :: ofRToks rs)

theorem renderTokens_eq (r0 : RTok) (rs : List RTok) (k0 : Nat) (h : r0.nl = some k0) :
    renderTokens (r0 :: rs) = renderDoc .tab k0 (.tok r0.item :: ofRToks rs) := by
  simp [renderTokens, renderFrom, lead, h, renderDoc, renderEls, El.chars, units_tab, renderFrom_eq]

theorem tokensOf_eq (r0 : RTok) (rs : List RTok) (k0 : Nat) (h : r0.nl = some k0) :
    tokensOf (r0 :: rs) = docTokens .tab k0 (.tok r0.item :: ofRToks rs) := by
  simp [tokensOf, toksFrom, lead, h, docTokens, elToks, toksFrom_eq, Indent.width]

theorem lineTable_eq (r0 : RTok) (rs : List RTok) (k0 : Nat) (h : r0.nl = some k0) :
    lineTable (r0 :: rs) = docLines .tab k0 (.tok r0.item :: ofRToks rs) := by
  simp [lineTable, h, docLines, elLines, El.chars, linesFrom_eq, Indent.width]

theorem renderEls_ofRToks_head (rs : List RTok) : ∃ d t, renderEls .tab (ofRToks rs) = d :: t ∧ (d = runeSP ∨ d = runeLF) ∧
    ((∃ r' rs', rs = r' :: rs' ∧ r'.nl = none) → d = runeSP) := by
  rw [← renderFrom_eq]
  exact renderFrom_head rs

/-- the second part carries the induction: whatever well-formed item is put in front ends there, because what `ofRToks rs` renders
begins with a space or, for an item that may end a line, a line feed (`renderEls_ofRToks_head`, `item_ends_canonical`) -/
theorem wfEls_ofRToks : ∀ rs : List RTok, WFFrom rs → WFEls .tab (ofRToks rs) ∧
    ∀ (it : Item), it.WF → (it.tight = true → ∃ r' rs', rs = r' :: rs' ∧ r'.nl = none) →
      it.WF0 ∧ it.Ends (renderEls .tab (ofRToks rs)) := by
  intro rs
  induction rs with
  | nil =>
    intro _
    refine ⟨⟨by simp [PairOK, units, renderEls]; decide, by simp [IndentOK, renderEls]; decide, trivial⟩, ?_⟩
    intro it hw ht
    have : renderEls .tab (ofRToks []) = runeLF :: [] := by simp [ofRToks, renderEls, El.chars, Break.chars, units_tab]
    rw [this]
    apply item_ends_canonical it hw
    right
    refine ⟨rfl, ?_⟩
    cases h : it.tight
    · rfl
    · obtain ⟨_, _, e, _⟩ := ht h; cases e
  | cons r rs ih =>
    intro hw
    obtain ⟨ihw, ihe⟩ := ih hw.2.2
    obtain ⟨hwf0, hends⟩ := ihe r.item hw.1 hw.2.1
    obtain ⟨c, sp, hsp, hsolid, h0, htab⟩ := spelling_head0 r.item hwf0
    have hspc : c ≠ runeSP := by intro e; have := hsolid.1; rw [e] at this; revert this; decide
    constructor
    · cases hnl : r.nl with
      | none =>
        simp only [ofRToks, hnl, List.cons_append, List.nil_append]
        exact ⟨by decide, hwf0, hends, ihw⟩
      | some k =>
        simp only [ofRToks, hnl, List.cons_append, List.nil_append]
        refine ⟨?_, ?_, hwf0, hends, ihw⟩
        · show (units .tab k ++ renderEls .tab (.tok r.item :: ofRToks rs)).headD 0 ≠ runeCR
          rw [units_tab]
          cases k with
          | zero => simp [renderEls, El.chars, hsp]; exact hsolid.2.1
          | succ k => simp [List.replicate_succ]; decide
        · refine ⟨?_, fun _ => ⟨?_, ?_⟩⟩ <;> simp [renderEls, El.chars, hsp, Indent.char] <;> assumption
    · intro it hwi hti
      obtain ⟨d, t, h1, h2, h3⟩ := renderEls_ofRToks_head (r :: rs)
      rw [h1]
      apply item_ends_canonical it hwi
      rcases h2 with h2 | h2
      · exact Or.inl h2
      · by_cases ht : it.tight = true
        · exact Or.inl (h3 (hti ht))
        · exact Or.inr ⟨h2, by simpa using ht⟩

theorem docWF_of_WF (r0 : RTok) (rs : List RTok) (k0 : Nat) (hw : WFFrom (r0 :: rs)) :
    DocWF .tab k0 (.tok r0.item :: ofRToks rs) := by
  obtain ⟨ihw, ihe⟩ := wfEls_ofRToks rs hw.2.2
  obtain ⟨hwf0, hends⟩ := ihe r0.item hw.1 hw.2.1
  obtain ⟨c, sp, hsp, hsolid, h0, htab⟩ := spelling_head0 r0.item hwf0
  have hspc : c ≠ runeSP := by intro e; have := hsolid.1; rw [e] at this; revert this; decide
  refine ⟨?_, ?_, hwf0, hends, ihw⟩
  · simp [renderDoc, renderEls, El.chars, hsp]
  · refine ⟨?_, fun _ => ⟨?_, ?_⟩⟩ <;> simp [renderEls, El.chars, hsp, Indent.char] <;> assumption

end ZnVerif.Proofs.RenderLex
