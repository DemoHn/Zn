/-
The copying sites of the evaluator — 令 declarations, assignment, loop variables, object construction, the default
values of a type declaration — stated against the heap vocabulary of Proofs/Heap.lean: each site hands a `dup` of the
value on.  Before them: `resolve` (what `vm.FindElement` answers, as a function of the state) under declaration and
assignment, and the inversions of successful `getCell` / `setCell` / `pure` / `matchIDName` runs.
-/
import ZnVerif.Proofs.HeapFrames
import ZnVerif.Proofs.EvalArms
set_option linter.unusedSectionVars false

namespace ZnVerif.Model
open ZnVerif.Proofs.Calls (getScope_putScope_same putScope_heap putScope_globals putScope_cs matchIDName_ok_inv)

variable {ν : Type} [NumOps ν]

/-- the address a name denotes: predefined names first, then the current module's scope, innermost symbol first -/
def resolve (nm : String) (s : VM ν) : Option Addr :=
  match lookup nm s.globals with
  | some a => some a
  | none => (getScope s.csModuleID s).bind fun sc => (sc.find nm).map (·.val)

theorem findElement_eq (nm : String) (s : VM ν) :
    findElement nm s = (match resolve nm s with | some a => Res.ok a | none => Res.err (.rt 42), s) := by
  rw [Proofs.Calls.findElement_eq]
  unfold resolve
  cases lookup nm s.globals with
  | some a => rfl
  | none =>
    cases getScope s.csModuleID s with
    | none => rfl
    | some sc => dsimp only [Option.bind]; cases sc.find nm <;> rfl

theorem resolve_sameBut {s s' : VM ν} (h : SameBut s s') (nm : String) : resolve nm s' = resolve nm s := by
  unfold SameBut at h
  rw [h]
  rfl

theorem resolve_putScope (nm : String) (sc' : Scope) (s : VM ν) :
    resolve nm (putScope s.csModuleID sc' s) =
      match lookup nm s.globals with
      | some a => some a
      | none => (sc'.find nm).map (·.val) := by
  unfold resolve
  rw [putScope_globals, putScope_cs, getScope_putScope_same]
  rfl

theorem declareElement_ok_inv {name : String} {v : Addr} {c : Bool} {ext : Option Int} {s s' : VM ν}
    (h : declareElement name v c ext s = (.ok (), s')) :
    ∃ sc, getScope s.csModuleID s = some sc ∧ lookup name s.globals = none ∧
      s' = putScope s.csModuleID { sc with syms := { name, depth := sc.depth, isConst := c, ext, val := v } :: sc.syms } s := by
  rcases Proofs.Calls.declareElement_cases name v c ext s with ⟨k, he⟩ | ⟨sc, sc', h1, hg, h2, h3⟩
  · rw [he] at h; cases h
  · rw [h3] at h; cases h
    exact ⟨sc, h1, hg, by rw [Proofs.Calls.declare_ok h2]⟩

theorem declareElement_heap {name : String} {v : Addr} {c : Bool} {ext : Option Int} {s s' : VM ν}
    (h : declareElement name v c ext s = (.ok (), s')) : s'.heap = s.heap := by
  rcases declareElement_ok_inv h with ⟨sc, _, _, rfl⟩
  exact putScope_heap _ _ _

theorem resolve_declare_self {name : String} {v : Addr} {c : Bool} {ext : Option Int} {s s' : VM ν}
    (h : declareElement name v c ext s = (.ok (), s')) : resolve name s' = some v := by
  rcases declareElement_ok_inv h with ⟨sc, _, hg, rfl⟩
  rw [resolve_putScope, hg]
  simp [Scope.find]

theorem resolve_declare_other {name : String} {v : Addr} {c : Bool} {ext : Option Int} {s s' : VM ν}
    (h : declareElement name v c ext s = (.ok (), s')) {nm : String} (hne : nm ≠ name) : resolve nm s' = resolve nm s := by
  rcases declareElement_ok_inv h with ⟨sc, hs, hg, rfl⟩
  rw [resolve_putScope]
  unfold resolve
  rw [hs]
  cases lookup nm s.globals with
  | some a => rfl
  | none => simp [Scope.find, Ne.symm hne]

theorem set_go_spec (name : String) (v : Addr) : ∀ (syms syms' : List Sym), Scope.set.go name v syms = some (.ok syms') →
    (syms'.find? (·.name == name)).map (·.val) = some v ∧
    ∀ nm, nm ≠ name → (syms'.find? (·.name == nm)).map (·.val) = (syms.find? (·.name == nm)).map (·.val) := by
  intro syms
  induction syms with
  | nil => intro syms' h; simp [Scope.set.go] at h
  | cons sy rest ih =>
    intro syms' h
    simp only [Scope.set.go] at h
    by_cases hn : (sy.name == name) = true
    · rw [if_pos hn] at h
      by_cases hc : sy.isConst = true
      · simp [hc] at h
      · simp [hc] at h
        subst h
        have hn' : sy.name = name := by simpa using hn
        refine ⟨by simp [hn'], fun nm hne => ?_⟩
        have : ¬ sy.name = nm := by rw [hn']; exact Ne.symm hne
        simp [this]
    · rw [if_neg hn] at h
      cases hg : Scope.set.go name v rest with
      | none => rw [hg] at h; simp at h
      | some r =>
        rw [hg] at h
        cases r with
        | error e => simp at h
        | ok rest' =>
          simp at h
          subst h
          rcases ih rest' hg with ⟨q1, q2⟩
          have hn' : ¬ sy.name = name := by simpa using hn
          refine ⟨by simpa [hn'] using q1, fun nm hne => ?_⟩
          by_cases hm : sy.name = nm
          · simp [hm]
          · simpa [hm] using q2 nm hne

theorem setElement_ok_inv {name : String} {v : Addr} {s s' : VM ν} (h : setElement name v s = (.ok (), s')) :
    ∃ sc syms', getScope s.csModuleID s = some sc ∧ Scope.set.go name v sc.syms = some (.ok syms') ∧
      s' = putScope s.csModuleID { sc with syms := syms' } s := by
  rcases Proofs.Calls.setElement_cases name v s with ⟨k, he⟩ | ⟨sc, sc', h1, h2, h3⟩
  · rw [he] at h; cases h
  · rw [h3] at h; cases h
    unfold Scope.set at h2
    cases hg : Scope.set.go name v sc.syms with
    | none => rw [hg] at h2; cases h2
    | some r =>
      rw [hg] at h2
      cases r with
      | error e => cases h2
      | ok syms' => cases h2; exact ⟨sc, syms', h1, hg, rfl⟩

theorem setElement_heap {name : String} {v : Addr} {s s' : VM ν} (h : setElement name v s = (.ok (), s')) :
    s'.heap = s.heap := by
  rcases setElement_ok_inv h with ⟨sc, syms', _, _, rfl⟩
  exact putScope_heap _ _ _

theorem resolve_set_self {name : String} {v : Addr} {s s' : VM ν} (h : setElement name v s = (.ok (), s'))
    (hg : lookup name s.globals = none) : resolve name s' = some v := by
  rcases setElement_ok_inv h with ⟨sc, syms', _, hgo, rfl⟩
  rw [resolve_putScope, hg]
  exact (set_go_spec name v _ _ hgo).1

theorem resolve_set_other {name : String} {v : Addr} {s s' : VM ν} (h : setElement name v s = (.ok (), s'))
    {nm : String} (hne : nm ≠ name) : resolve nm s' = resolve nm s := by
  rcases setElement_ok_inv h with ⟨sc, syms', hs, hgo, rfl⟩
  rw [resolve_putScope]
  unfold resolve
  rw [hs]
  cases lookup nm s.globals with
  | some a => rfl
  | none => exact (set_go_spec name v _ _ hgo).2 nm hne

theorem pure_ok_inv {α} {a b : α} {s s' : VM ν} (h : (pure a : M ν α) s = (.ok b, s')) : b = a ∧ s' = s :=
  (Proofs.Calls.pure_inv h).imp (fun e => (Res.ok.inj e)) id

theorem Disj.ext {h h' : Array (Cell ν)} (e : Ext h h') {a b : Addr} (va : Valid h a) (vb : Valid h b) (d : Disj h a b) :
    Disj h' a b := (Sep.grow ⟨va, vb, d⟩ e).disj

/-- one `names 为 expr` group of a 令 statement -/
def declPair (n : Nat) (p : Nat × List Ident × Expr) : M ν Unit :=
  if p.1 == 1 || p.1 == 3 then do
    let obj ← evalExpr n p.2.2
    let _ ← p.2.1.foldlM (declStep n (p.1 == 3)) obj
  else pure ()

/-- the model's 令 statement, with the two loops named -/
theorem evalStmt_varDecl (n ln : Nat) (pairs : List (Nat × List Ident × Expr)) :
    evalStmt (ν := ν) (n+1) (.varDecl ln pairs) = (do
      setTopFrame fun fr => { fr with line := ln, started := true }
      pairs.forM (declPair n)
      newNull) := Proofs.EvalArms.evalStmt_varDecl n ln pairs

theorem declStep_ok_inv {n : Nat} {c : Bool} {cur b : Addr} {v : Ident} {s s' : VM ν}
    (h : declStep n c cur v s = (.ok b, s')) :
    ∃ s1, dup n cur s = (.ok b, s1) ∧ declareElement v.lit b c none s1 = (.ok (), s') := by
  unfold declStep at h
  rcases Proofs.Calls.bind_ok_inv h with ⟨name, s0, hname, h1⟩
  rcases matchIDName_ok_inv hname with ⟨rfl, rfl⟩
  rcases Proofs.Calls.bind_ok_inv h1 with ⟨b', s1, hdup, h2⟩
  rcases Proofs.Calls.bind_ok_inv h2 with ⟨u, s2, hdecl, h3⟩
  rcases pure_ok_inv h3 with ⟨rfl, rfl⟩
  exact ⟨s1, hdup, hdecl⟩

theorem varDecl_ok_inv {n ln ty : Nat} {vars : List Ident} {e : Expr} {s s' : VM ν} {r : Addr} (hty : ty = 1 ∨ ty = 3)
    (h : evalStmt (n+1) (.varDecl ln [(ty, vars, e)]) s = (.ok r, s')) :
    ∃ s0 obj s1 last s2, setTopFrame (fun fr => { fr with line := ln, started := true }) s = (.ok (), s0) ∧
      evalExpr n e s0 = (.ok obj, s1) ∧ vars.foldlM (declStep n (ty == 3)) obj s1 = (.ok last, s2) ∧
      s' = { s2 with heap := s2.heap.push .null } := by
  rw [evalStmt_varDecl] at h
  rcases Proofs.Calls.bind_ok_inv h with ⟨u, s0, h0, h1⟩
  rcases Proofs.Calls.bind_ok_inv h1 with ⟨u', s2, hfor, hnull⟩
  simp only [List.forM] at hfor
  rcases Proofs.Calls.bind_ok_inv hfor with ⟨u'', s2', hpair, hp0⟩
  rcases pure_ok_inv hp0 with ⟨_, rfl⟩
  unfold declPair at hpair
  rw [if_pos (by rcases hty with rfl | rfl <;> rfl)] at hpair
  rcases Proofs.Calls.bind_ok_inv hpair with ⟨obj, s1, hobj, hpair1⟩
  rcases Proofs.Calls.bind_ok_inv hpair1 with ⟨last, s2'', hchain, hp1⟩
  rcases pure_ok_inv hp1 with ⟨_, rfl⟩
  injection hnull with _ e
  exact ⟨s0, obj, s1, last, s2, h0, hobj, hchain, e.symm⟩

/-- what a run of the declaration chain established: one address per name, each reading as `t`, valid, with every
copied-kind cell allocated at or after `old`, pairwise without a common copied-kind cell, and bound to its name -/
structure Copies (n : Nat) (old : Nat) (t : Tree ν) (names : List String) (bs : List Addr) (s' : VM ν) : Prop where
  len : bs.length = names.length
  each : ∀ b ∈ bs, content n s'.heap b = some t ∧ Valid s'.heap b ∧ Fresh old s'.heap b
  apart : bs.Pairwise (Disj s'.heap)
  bound : names.Nodup → ∀ p ∈ names.zip bs, resolve p.1 s' = some p.2

theorem Copies.grow {n old : Nat} {t : Tree ν} {names : List String} {bs : List Addr} {s s' : VM ν}
    (c : Copies n old t names bs s) (hs : SameBut s s') (e : Ext s.heap s'.heap) : Copies n old t names bs s' := by
  refine ⟨c.len, fun b hb => ?_, ?_, fun hnd p hp => ?_⟩
  · rcases c.each b hb with ⟨h1, h2, h3⟩
    exact ⟨content_ext e n b t h1, h2.ext e, h3.ext e h2⟩
  · exact c.apart.imp_of_mem fun ha hb d => Disj.ext e (c.each _ ha).2.1 (c.each _ hb).2.1 d
  · rw [resolve_sameBut hs]; exact c.bound hnd p hp

theorem declChain_spec (n : Nat) (c : Bool) :
    ∀ (vars : List Ident) (cur : Addr) (s s' : VM ν) (t : Tree ν) (last : Addr),
      content n s.heap cur = some t →
      vars.foldlM (declStep n c) cur s = (.ok last, s') →
      ∃ bs, Ext s.heap s'.heap ∧ Copies n s.heap.size t (vars.map (·.lit)) bs s' ∧
        (∀ nm, nm ∉ vars.map (·.lit) → resolve nm s' = resolve nm s) ∧ content n s'.heap last = some t := by
  intro vars
  induction vars with
  | nil =>
    intro cur s s' t last ht h
    rw [List.foldlM_nil] at h
    rcases pure_ok_inv h with ⟨rfl, rfl⟩
    exact ⟨[], Ext.refl _, ⟨rfl, by simp, .nil, by simp⟩, fun _ _ => rfl, ht⟩
  | cons v vs ih =>
    intro cur s s' t last ht h
    rw [List.foldlM_cons] at h
    rcases Proofs.Calls.bind_ok_inv h with ⟨b, s2, hstep, hrest⟩
    rcases declStep_ok_inv hstep with ⟨s1, hdup, hdecl⟩
    -- `declStep` hands the copy `b` on: the next name gets a duplicate of `b`, not of `cur`.  So each later copy is new with
    -- respect to a heap in which `b` was complete, which is what sets them apart (`sep_child_of_fresh`)
    have hp := dup_post ht hdup
    have hheap : s2.heap = s1.heap := declareElement_heap hdecl
    have hcb : content n s2.heap b = some t := by rw [hheap]; exact hp.cont
    rcases ih b s2 s' t last hcb hrest with ⟨bs, hext, hc, hoth, hlast⟩
    have hvb : Valid s2.heap b := by rw [hheap]; exact hp.valid
    have e02 : Ext s.heap s2.heap := by rw [hheap]; exact hp.ext
    refine ⟨b :: bs, e02.trans hext, ⟨by simp [hc.len], ?_, ?_, ?_⟩, ?_, hlast⟩
    · intro x hx
      rcases List.mem_cons.1 hx with rfl | hx
      · refine ⟨content_ext hext n _ t hcb, hvb.ext hext, ?_⟩
        have : Fresh s.heap.size s2.heap x := by rw [hheap]; exact hp.fresh
        exact this.ext hext hvb
      · rcases hc.each x hx with ⟨h1, h2, h3⟩
        exact ⟨h1, h2, h3.mono e02.1⟩
    · refine .cons (fun b' hb' => ?_) hc.apart
      rcases hc.each b' hb' with ⟨_, h2, h3⟩
      exact (sep_child_of_fresh hext hvb h2 h3).2
    · intro hnd p hp'
      simp only [List.map_cons, List.zip_cons_cons] at hp' hnd
      rw [List.nodup_cons] at hnd
      rcases List.mem_cons.1 hp' with rfl | hp'
      · show resolve v.lit s' = some b
        rw [hoth v.lit hnd.1]
        exact resolve_declare_self hdecl
      · exact hc.bound hnd.2 p hp'
    · intro nm hnm
      simp only [List.map_cons, List.mem_cons, not_or] at hnm
      rw [hoth nm hnm.2, resolve_declare_other hdecl hnm.1, resolve_sameBut hp.same]

/-- **令 stores copies.**  After `令 x₁、…、x_k 为 e` (or 恒为) succeeded, where `e` evaluated to a readable value `t` at
`obj`: there is one address per name, all reading as `t`; every number / text / boolean / list / dictionary cell below any
of them was allocated after `e` was evaluated; no two of them — and none of them and `obj` — have such a cell in common;
and (for distinct names) each name denotes its own address. -/
theorem varDecl_spec {n ln ty : Nat} {vars : List Ident} {e : Expr} {s s' : VM ν} {r : Addr}
    (hty : ty = 1 ∨ ty = 3)
    (h : evalStmt (n+1) (.varDecl ln [(ty, vars, e)]) s = (.ok r, s')) :
    ∃ s0 obj s1, setTopFrame (fun fr => { fr with line := ln, started := true }) s = (.ok (), s0) ∧ evalExpr n e s0 = (.ok obj, s1) ∧
      ∀ t, content n s1.heap obj = some t →
        ∃ bs, Ext s1.heap s'.heap ∧ Copies n s1.heap.size t (vars.map (·.lit)) bs s' ∧ ∀ b ∈ bs, Disj s'.heap obj b := by
  rcases varDecl_ok_inv hty h with ⟨s0, obj, s1, last, s2, h0, hobj, hchain, rfl⟩
  have hg : Grow s2 { s2 with heap := s2.heap.push .null } := ⟨SameBut.push _ _, Ext.push _ _⟩
  refine ⟨s0, obj, s1, h0, hobj, ?_⟩
  intro t ht
  rcases declChain_spec n _ vars obj s1 s2 t last ht hchain with ⟨bs, hext, hc, _, _⟩
  refine ⟨bs, hext.trans hg.2, hc.grow hg.1 hg.2, fun b hb => ?_⟩
  rcases (hc.grow hg.1 hg.2).each b hb with ⟨_, h2, h3⟩
  exact (sep_child_of_fresh (hext.trans hg.2) (content_valid n ht) h2 h3).2

theorem getCell_ok_inv {a : Addr} {c : Cell ν} {s s' : VM ν} (h : getCell a s = (.ok c, s')) : s.heap[a]? = some c ∧ s' = s := by
  unfold getCell at h
  cases hc : s.heap[a]? with
  | none => rw [hc] at h; simp at h
  | some c0 => rw [hc] at h; simp at h; exact ⟨by rw [h.1], h.2.symm⟩

theorem setCell_ok_inv {a : Addr} {c : Cell ν} {s s' : VM ν} (h : setCell a c s = (.ok (), s')) :
    a < s.heap.size ∧ s' = { s with heap := s.heap.set! a c } := by
  unfold setCell at h
  by_cases hlt : a < s.heap.size
  · rw [if_pos hlt] at h; injection h with _ h2; exact ⟨hlt, h2.symm⟩
  · rw [if_neg hlt] at h; injection h with h1 _; cases h1

theorem assign_id_spec {n ln : Nat} {i : Ident} {rhs : Expr} {s s' : VM ν} {r : Addr}
    (h : evalExpr (n+1) (.assign ln (.id i) rhs) s = (.ok r, s')) :
    ∃ vr s1 s2, evalExpr n rhs s = (.ok vr, s1) ∧ dup n vr s1 = (.ok r, s2) ∧ s'.heap = s2.heap ∧
      (lookup i.lit s2.globals = none → resolve i.lit s' = some r) ∧
      (∀ nm, nm ≠ i.lit → resolve nm s' = resolve nm s2) := by
  rw [Proofs.evalExpr_assign] at h
  rcases Proofs.Calls.bind_ok_inv h with ⟨vr, s1, hrhs, h1⟩
  rcases Proofs.Calls.bind_ok_inv h1 with ⟨r', s2, hdup, h2⟩
  simp only at h2
  rcases Proofs.Calls.bind_ok_inv h2 with ⟨name, s3, hname, h3⟩
  rcases matchIDName_ok_inv hname with ⟨e1, e2⟩
  subst e1
  rw [e2] at h3
  rcases Proofs.Calls.bind_ok_inv h3 with ⟨u, s4, hset, h4⟩
  rcases pure_ok_inv h4 with ⟨e3, e4⟩
  subst e3
  rw [e4]
  exact ⟨vr, s1, s2, hrhs, hdup, setElement_heap hset, fun hg => resolve_set_self hset hg,
    fun nm hne => resolve_set_other hset hne⟩

theorem assign_member_spec {n ln l rt mt : Nat} {root : Expr} {mid : Option Ident} {idx rhs : Expr} {s s' : VM ν} {r : Addr}
    (h : evalExpr (n+1) (.assign ln (.member l rt root mt mid idx) rhs) s = (.ok r, s')) :
    ∃ vr s1 s2 iv s3, evalExpr n rhs s = (.ok vr, s1) ∧ dup n vr s1 = (.ok r, s2) ∧
      memberIV n (.member l rt root mt mid idx) s2 = (.ok iv, s3) ∧ reduceLHS iv r s3 = (.ok (), s') := by
  rw [Proofs.evalExpr_assign] at h
  rcases Proofs.Calls.bind_ok_inv h with ⟨vr, s1, hrhs, h1⟩
  rcases Proofs.Calls.bind_ok_inv h1 with ⟨r', s2, hdup, h2⟩
  simp only at h2
  by_cases hmt : (mt == 1 || mt == 2) = true
  · rw [if_pos hmt] at h2
    rcases Proofs.Calls.bind_ok_inv h2 with ⟨iv, s3, hiv, h3⟩
    rcases Proofs.Calls.bind_ok_inv h3 with ⟨u, s4, hred, h4⟩
    rcases pure_ok_inv h4 with ⟨e3, e4⟩
    subst e3
    rw [e4]
    exact ⟨vr, s1, s2, iv, s3, hrhs, hdup, hiv, hred⟩
  · rw [if_neg hmt] at h2
    simp [rtErr, throwE] at h2

theorem reduceLHS_arr_spec {root : Addr} {nm : String} {idx : Int} {v : Addr} {s s' : VM ν}
    (h : reduceLHS (1, root, nm, idx) v s = (.ok (), s')) :
    ∃ items, s.heap[root]? = some (.arr items) ∧ ¬ (idx - 1 < 0 ∨ idx - 1 ≥ items.length) ∧
      s' = { s with heap := s.heap.set! root (.arr (items.set (idx - 1).toNat v)) } := by
  simp only [reduceLHS] at h
  rw [if_pos (by rfl)] at h
  rcases Proofs.Calls.bind_ok_inv h with ⟨c, s1, hc, h1⟩
  rcases getCell_ok_inv hc with ⟨hc', e⟩
  rw [e] at h1
  cases c <;> simp only [rtErr, throwE] at h1 <;> try (injection h1 with h1 _; cases h1)
  rename_i items
  by_cases hb : (idx - 1 < 0 ∨ idx - 1 ≥ items.length)
  · rw [if_pos hb] at h1; injection h1 with h1 _; cases h1
  · rw [if_neg hb] at h1
    exact ⟨items, hc', hb, (setCell_ok_inv h1).2⟩

theorem reduceLHS_hm_spec {root : Addr} {key : String} {idx : Int} {v : Addr} {s s' : VM ν}
    (h : reduceLHS (2, root, key, idx) v s = (.ok (), s')) :
    ∃ vals order, s.heap[root]? = some (.hm vals order) ∧
      s' = { s with heap := s.heap.set! root (.hm (hmAppend vals order key v).1 (hmAppend vals order key v).2) } := by
  simp only [reduceLHS] at h
  rw [if_neg (by decide), if_pos (by rfl)] at h
  rcases Proofs.Calls.bind_ok_inv h with ⟨c, s1, hc, h1⟩
  rcases getCell_ok_inv hc with ⟨hc', e⟩
  rw [e] at h1
  cases c <;> simp only [rtErr, throwE] at h1 <;> try (injection h1 with h1 _; cases h1)
  rename_i vals order
  exact ⟨vals, order, hc', (setCell_ok_inv h1).2⟩

/-- what the loop does with the outcome of one pass (`true` = stop) -/
def iterOutcome (r : Res Unit) : M ν Bool :=
  match r with
  | .err .sigContinue => pure false
  | .err .sigBreak => pure true
  | .ok _ => do
    match ← getReturnValue with
    | some _ => pure true
    | none => pure false
  | .err e => throwE e
  | .panic => goPanic
  | .fuel => outOfFuel
  | .unmodelled => notModelled

/-- one pass of `以 x 遍历 …` -/
def iterPass1 (n : Nat) (vn : String) (body : Option (List Stmt)) (v : Addr) : M ν Bool :=
  tryCatch (do
    let b ← dup n v
    setElement vn b
    let _ ← evalPureStmtBlock n body
    pure ()) iterOutcome

/-- one pass of `以 k、x 遍历 …` -/
def iterPass2 (n : Nat) (kn vn : String) (body : Option (List Stmt)) (key v : Addr) : M ν Bool :=
  tryCatch (do
    let b ← dup n v
    setElement kn key
    setElement vn b
    let _ ← evalPureStmtBlock n body
    pure ()) iterOutcome

theorem evalStmt_iterate2 (n ln : Nat) (e : Expr) (k x : Ident) (body : Option (List Stmt)) :
    evalStmt (ν := ν) (n+1) (.iterate ln e [k, x] body) = (do
      setTopFrame fun fr => { fr with line := ln, started := true }
      withScope do
        let target ← evalExpr n e
        let kn ← matchIDName k.lit
        let vn ← matchIDName x.lit
        let n1 ← newNull
        declareElement kn n1 false
        let n2 ← newNull
        declareElement vn n2 false
        match ← getCell target with
        | .arr items =>
          untilIdxM (fun i v => do
            let idx ← newNum (NumOps.ofInt (i + 1))
            iterPass2 n kn vn body idx v) 0 items
        | .hm _ order =>
          untilM (fun k => do
            match ← getCell target with
            | .hm vals _ =>
              match lookup k vals with
              | some v => do
                let ks ← newStr k
                iterPass2 n kn vn body ks v
              | none => pure false
            | _ => goPanic) order
        | _ => rtErr 80
      newNull) := by
  rw [Proofs.EvalArms.evalStmt_iterate]
  rfl

theorem iterPass1_spec (n : Nat) (vn : String) (body : Option (List Stmt)) (v : Addr) (s : VM ν) (t : Tree ν)
    (ht : content n s.heap v = some t) :
    ∃ b s1, dup n v s = (.ok b, s1) ∧ DupPost n s t b s1 ∧
      iterPass1 n vn body v s = tryCatch (do
        setElement vn b
        let _ ← evalPureStmtBlock n body
        pure ()) iterOutcome s1 := by
  rcases dup_spec n v s t ht with ⟨b, s1, hd, hp⟩
  refine ⟨b, s1, hd, hp, ?_⟩
  simp only [iterPass1, tryCatch, bind, hd]

theorem iterPass2_spec (n : Nat) (kn vn : String) (body : Option (List Stmt)) (key v : Addr) (s : VM ν) (t : Tree ν)
    (ht : content n s.heap v = some t) :
    ∃ b s1, dup n v s = (.ok b, s1) ∧ DupPost n s t b s1 ∧
      iterPass2 n kn vn body key v s = tryCatch (do
        setElement kn key
        setElement vn b
        let _ ← evalPureStmtBlock n body
        pure ()) iterOutcome s1 := by
  rcases dup_spec n v s t ht with ⟨b, s1, hd, hp⟩
  refine ⟨b, s1, hd, hp, ?_⟩
  simp only [iterPass2, tryCatch, bind, hd]

/-- what `construct` does after the instance cell exists -/
def constructTail (n : Nat) (ctor : Ctor) (params : List Addr) (inst : Addr) : M ν Addr :=
  match ctor with
  | .default => pure inst
  | .exception => do
    validateExact params ["string"]
    match params with
    | [m] =>
      match ← getCell m with
      | .str msg => alloc (.exc msg)
      | _ => goPanic
    | _ => goPanic
  | .user mid exec => do
    pushFrame { moduleId := mid, callType := 2, this := some inst }
    let _ ← evalExecBlock n exec params
    popFrame
    pure inst

theorem construct_eq (n : Nat) (cv : Addr) (params : List Addr) (s : VM ν) (nm : String) (ctor : Ctor)
    (props meths : List (String × Addr)) (hc : s.heap[cv]? = some (.cls nm ctor props meths)) :
    construct (n+1) cv params s = ((do
      let props' ← props.mapM fun (p : String × Addr) => do let v ← dup n p.2; pure (p.1, v)
      let inst ← alloc (.obj cv props')
      constructTail n ctor params inst) : M ν Addr) s := by
  simp only [construct, bind, getCell, hc]
  rfl

theorem pairs_mapM_ok (F : Addr → M ν Addr) : ∀ (props : List (String × Addr)) (s s' : VM ν) (vs : List Addr),
    List.mapM F (props.map Prod.snd) s = (.ok vs, s') →
    List.mapM (m := M ν) (fun (p : String × Addr) => do let v ← F p.2; pure (p.1, v)) props s = (Res.ok ((props.map Prod.fst).zip vs), s') := by
  intro props
  induction props with
  | nil => intro s s' vs h; simp [pure] at h ⊢; exact h.2
  | cons p ps ih =>
    intro s s' vs h
    rcases mapM_cons_inv F _ _ _ _ _ h with ⟨b, bs, s1, h1, h2, rfl⟩
    refine mapM_cons_ok _ _ _ _ s1 _ _ _ ?_ (ih s1 s' bs h2)
    simp [bind, h1, pure]

/-- **`新建` copies the defaults.**  Every default property value is duplicated: the new object's property values read
like the type's defaults, and every copied-kind cell below them is freshly allocated (so no earlier object of the
type, and not the type itself, has such a cell in common with the new object). -/
theorem construct_spec (n : Nat) (cv : Addr) (params : List Addr) (s : VM ν) (nm : String) (ctor : Ctor)
    (props meths : List (String × Addr)) (hc : s.heap[cv]? = some (.cls nm ctor props meths))
    (ts : List (Tree ν)) (hts : (props.map Prod.snd).mapM (content n s.heap) = some ts) :
    ∃ vs s1, Grow s s1 ∧ vs.mapM (content n s1.heap) = some ts ∧
      (∀ v ∈ vs, Valid s1.heap v ∧ Fresh s.heap.size s1.heap v) ∧
      construct (n+1) cv params s =
        constructTail n ctor params s1.heap.size { s1 with heap := s1.heap.push (.obj cv ((props.map Prod.fst).zip vs)) } := by
  rcases dup_list n (dup_spec n) (props.map Prod.snd) s ts hts with ⟨vs, s1, hmap, hsame, hext, hcont, hall⟩
  refine ⟨vs, s1, ⟨hsame, hext⟩, hcont, hall, ?_⟩
  rw [construct_eq n cv params s nm ctor props meths hc]
  have := pairs_mapM_ok (dup n) props s s1 vs hmap
  simp only [bind] at this ⊢
  erw [this]
  rfl

theorem setProperty_obj_spec {o : Addr} {name : String} {v : Addr} {s s' : VM ν} {cls : Addr} {props : List (String × Addr)}
    (hc : s.heap[o]? = some (.obj cls props)) (h : setProperty o name v s = (.ok (), s')) :
    s' = { s with heap := s.heap.set! o (.obj cls (assocSet name v props)) } := by
  unfold setProperty at h
  simp only [bind, getCell, hc] at h
  cases hl : lookup name props with
  | none => rw [hl] at h; simp [rtErr, throwE] at h
  | some old => rw [hl] at h; exact (setCell_ok_inv h).2

theorem getProperty_obj (n : Nat) (o : Addr) (name : String) (v : Addr) (s : VM ν) (cls : Addr) (props : List (String × Addr))
    (hc : s.heap[o]? = some (.obj cls props)) (hn : name ≠ "自身") (hl : lookup name props = some v) :
    getProperty n o name s = (.ok v, s) := by
  unfold getProperty
  simp only [bind, getCell, hc]
  rw [hl]
  rfl

/-! ## the default values of a type declaration (`compileClass`) -/

/-- one `其 ‹名› 为 ‹值›` line of a type declaration (verbatim from `evalClassDecl`): the value is evaluated, and the type
keeps a copy of it (`ref.DefineProperty(propID, value.DuplicateValue(element))`) -/
def propDefault (n : Nat) (p : Option Ident × Expr) : M ν (String × Addr) :=
        match p.1 with
        | some pid => do
          let v ← evalExpr n p.2
          let v' ← dup n v
          pure (pid.lit, v')
        | none => goPanic

/-- what `evalClassDecl` does with the evaluated defaults (verbatim) -/
def classTail (cm : Option (Nat × Module)) (cname : String) (methods : List Stmt) (propVals : List (String × Addr)) :
    M ν Unit := do
      let propMap := propVals.foldl (fun acc kv => assocSet kv.1 kv.2 acc) []
      let meths ← methods.mapM fun m =>
        match m with
        | .funcDecl _ (some mn) _ exec => do let f ← alloc (.fn (.user exec)); pure (mn.lit, f)
        | _ => goPanic
      let methMap := meths.foldl (fun acc kv => assocSet kv.1 kv.2 acc) []
      let cv ← alloc (.cls cname .default propMap methMap)
      declareElement cname cv true
      match cm with
      | some (i, _) => addExport i cname cv
      | none => goPanic

end ZnVerif.Model
