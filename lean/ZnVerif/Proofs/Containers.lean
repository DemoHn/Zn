/-
Helper lemmas for C12 (container core): the list algorithms of array.go / iv.go against `Spec.Seq`, the Go-map
association list, the in-place delete loop, the HashMap invariant and its abstraction to `Spec.OrderedMap`.
Property theorems are in Properties/C12.lean.  Core Lean only.
-/
import ZnVerif.Model.Containers
import ZnVerif.Spec.CollHistory

namespace ZnVerif.Proofs.Containers
open ZnVerif.Model.Containers
open ZnVerif.Spec

variable {α : Type}

theorem insertNth_eq (x : α) : ∀ (n : Nat) (l : List α), Seq.insertNth x n l = l.take n ++ x :: l.drop n
  | 0, l => by simp [Seq.insertNth]
  | n + 1, [] => by simp [Seq.insertNth]
  | n + 1, h :: t => by simp [Seq.insertNth, insertNth_eq x n t]

theorem insertNth_ge (x : α) (n : Nat) (l : List α) (h : l.length ≤ n) : Seq.insertNth x n l = l ++ [x] := by
  rw [insertNth_eq, List.take_of_length_le h, List.drop_eq_nil_of_le h]

theorem mem_insertNth {x y : α} {n : Nat} {l : List α} (h : y ∈ Seq.insertNth x n l) : y ∈ l ∨ y = x := by
  rw [insertNth_eq, List.mem_append, List.mem_cons] at h
  rcases h with h | rfl | h
  · exact .inl (List.mem_of_mem_take h)
  · exact .inr rfl
  · exact .inl (List.mem_of_mem_drop h)

/-- the raw helper panics (Go: slice bounds out of range) exactly before the first item; everywhere else it puts the
element at 0-based position `idx`, counted from the end when `idx` is negative -/
theorem insertArrayValue_eq (v : List α) (idx : Int) (x : α) :
    insertArrayValue v idx x =
      if idx < 0 ∧ (v.length : Int) + idx < 0 then .panic
      else .ok (Seq.insertNth x (if idx < 0 then (v.length : Int) + idx else idx).toNat v) := by
  unfold insertArrayValue
  by_cases h1 : idx ≥ (v.length : Int)
  · rw [if_pos h1, if_neg (by omega), if_neg (by omega), insertNth_ge]; omega
  · by_cases h2 : idx < 0
    · by_cases h3 : (v.length : Int) + idx < 0
      · simp only [h1, h2, h3, if_true, if_false, and_self]
      · simp only [h1, h2, h3, if_true, if_false, and_false, insertNth_eq, List.append_assoc, List.singleton_append]
    · simp only [h1, h2, if_false, false_and, insertNth_eq, List.append_assoc, List.singleton_append]

theorem insertArrayValue_panic_iff (v : List α) (idx : Int) (x : α) :
    insertArrayValue v idx x = .panic ↔ (idx < 0 ∧ (v.length : Int) + idx < 0) := by
  rw [insertArrayValue_eq]
  split <;> simp [*]

theorem arrayInsert_eq (v : List α) (x : α) (idx : Int) :
    arrayInsert v x idx = match Seq.insertAt v idx x with
      | some l => .ok l
      | none => .err errIndexOutOfRange := by
  unfold arrayInsert Seq.insertAt
  rw [insertArrayValue_eq]
  by_cases h0 : 0 ≤ idx
  · rw [if_neg (by omega), if_neg (by omega), if_pos h0, if_neg (by omega)]
  · by_cases h2 : 0 ≤ (v.length : Int) + idx
    · rw [if_neg (by omega), if_neg (by omega), if_neg h0, if_pos h2, if_pos (by omega)]
    · rw [if_pos (by omega), if_neg h0, if_neg h2]

theorem arrayPrepend_eq (v : List α) (x : α) : arrayPrepend v x = .ok (x :: v) := by
  unfold arrayPrepend
  rw [insertArrayValue_eq, if_neg (by omega)]
  rfl

theorem arrayAppend_eq (v : List α) (x : α) : arrayAppend v x = .ok (v ++ [x]) := by
  unfold arrayAppend
  rw [insertArrayValue_eq, if_neg (by omega), if_neg (by omega), insertNth_ge]
  omega

theorem arrayGetFirst_eq (v : List α) : arrayGetFirst v = v.head? := by
  unfold arrayGetFirst
  cases v <;> simp

theorem arrayGetLast_eq (v : List α) : arrayGetLast v = v.getLast? := by
  unfold arrayGetLast
  cases v with
  | nil => simp
  | cons h t => rw [List.getLast?_eq_getElem?]; simp

theorem reverse_fold (v : List α) : ∀ n, n ≤ v.length →
    (List.range n).foldl (reverseStep v) (Res.ok []) = .ok ((v.drop (v.length - n)).reverse)
  | 0, _ => by simp
  | n + 1, h => by
    rw [List.range_succ, List.foldl_append, reverse_fold v n (by omega)]
    have hlt : v.length - 1 - n < v.length := by omega
    have hd : v.drop (v.length - (n + 1)) = v[v.length - 1 - n] :: v.drop (v.length - n) := by
      have : v.length - (n + 1) = v.length - 1 - n := by omega
      rw [this, List.drop_eq_getElem_cons hlt]
      congr 2; omega
    simp only [List.foldl_cons, List.foldl_nil, reverseStep, List.getElem?_eq_getElem hlt, hd, List.reverse_cons]

theorem arrayGetReverse_eq (v : List α) : arrayGetReverse v = .ok v.reverse := by
  unfold arrayGetReverse
  rw [reverse_fold v v.length (Nat.le_refl _)]
  simp

theorem arraySetFirst_eq (v : List α) (x : α) : arraySetFirst v x = Seq.setFirst v x := by
  unfold arraySetFirst
  cases v <;> simp [Seq.setFirst]

theorem set_last (x : α) : ∀ (l : List α), l ≠ [] → l.set (l.length - 1) x = l.dropLast ++ [x]
  | [], h => absurd rfl h
  | [a], _ => by simp
  | a :: b :: t, _ => by
    have := set_last x (b :: t) (by simp)
    simp only [List.length_cons, Nat.add_sub_cancel] at this ⊢
    simp [this]

theorem arraySetLast_eq (v : List α) (x : α) : arraySetLast v x = Seq.setLast v x := by
  unfold arraySetLast
  cases v with
  | nil => simp [Seq.setLast]
  | cons h t =>
    have := set_last x (h :: t) (by simp)
    simp only [List.length_cons, Nat.add_sub_cancel] at this
    simp [Seq.setLast, this]

theorem shiftLeft_eq (v : List α) : shiftArrayValue v true = Seq.shiftLeft v := by
  cases v <;> simp [shiftArrayValue, Seq.shiftLeft]

theorem shiftRight_eq (v : List α) : shiftArrayValue v false = Seq.shiftRight v := by
  cases v with
  | nil => simp [shiftArrayValue, Seq.shiftRight]
  | cons h t =>
    simp only [shiftArrayValue, Seq.shiftRight, Bool.false_eq_true, if_false]
    rw [List.getLast?_eq_getElem?, List.dropLast_eq_take]

theorem foldl_append_flatten (args : List (List α)) : ∀ acc : List α,
    args.foldl (fun acc a => acc ++ a) acc = acc ++ args.flatten := by
  induction args with
  | nil => simp
  | cons a rest ih => intro acc; simp [ih]

theorem arrayMerge_eq (v : List α) (args : List (List α)) : arrayMerge v args = Seq.merge v args := by
  unfold arrayMerge Seq.merge
  rw [foldl_append_flatten]; simp

theorem arrayContains_eq (eq : α → α → Bool) (x : α) (v : List α) :
    arrayContains eq x v = Seq.contains eq v x := by
  fun_induction arrayContains eq x v with
  | case1 => rfl
  | case2 h t hx => simp [Seq.contains, hx]
  | case3 h t hx ih => simpa [Seq.contains, hx] using ih

theorem arrayFindFrom_eq (eq : α → α → Bool) (x : α) (v : List α) (i : Nat) :
    arrayFindFrom eq x i v = match v.findIdx? (fun item => eq item x) with
      | some j => ((i + j : Nat) : Int)
      | none => -1 := by
  fun_induction arrayFindFrom eq x i v with
  | case1 => rfl
  | case2 i h t hx => simp [List.findIdx?_cons, hx]
  | case3 i h t hx ih =>
    simp only [List.findIdx?_cons, hx, ih]
    cases t.findIdx? (fun item => eq item x) with
    | none => simp
    | some j => simp only [Option.map_some]; congr 1; omega

theorem arrayFind_eq (eq : α → α → Bool) (x : α) (v : List α) : arrayFind eq x v = Seq.find eq v x := by
  unfold arrayFind Seq.find
  rw [arrayFindFrom_eq]
  cases v.findIdx? (fun item => eq item x) <;> simp

theorem inRange_toNat {v : List α} {i : Int} (h : Seq.InRange v i) : (i - 1).toNat < v.length := by
  unfold Seq.InRange at h; omega

/-- the bounds test of iv.go / 交换 (`realIndex < 0 || realIndex >= len`) answers IndexOutOfRange exactly outside 1 … 长度 -/
theorem outOfRange_iff (v : List α) (i : Int) : (i - 1 < 0 ∨ i - 1 ≥ (v.length : Int)) ↔ ¬ Seq.InRange v i := by
  unfold Seq.InRange; omega

theorem get1_inRange {v : List α} {i : Int} (hi : Seq.InRange v i) :
    Seq.get1 v i = some (v[(i - 1).toNat]'(inRange_toNat hi)) := by
  unfold Seq.get1
  rw [if_pos hi, List.getElem?_eq_getElem]

theorem get1_set {v : List α} {i : Int} (hi : Seq.InRange v i) (x : α) (p : Int) :
    Seq.get1 (v.set (i - 1).toNat x) p = if p = i then some x else Seq.get1 v p := by
  have hlen : Seq.InRange (v.set (i - 1).toNat x) p ↔ Seq.InRange v p := by unfold Seq.InRange; rw [List.length_set]
  unfold Seq.get1
  by_cases hp : Seq.InRange v p
  · rw [if_pos (hlen.2 hp), if_pos hp, List.getElem?_set]
    have := hi.1; have := hp.1; have := inRange_toNat hi
    by_cases e : p = i
    · subst e; rw [if_pos rfl, if_pos this, if_pos rfl]
    · rw [if_neg (by omega), if_neg e]
  · rw [if_neg (fun h => hp (hlen.1 h)), if_neg hp, if_neg (fun e : p = i => hp (e ▸ hi))]

theorem ivArrayRead_eq (v : List α) (i : Int) :
    ivArrayRead v i = match Seq.get1 v i with
      | some x => .ok x
      | none => .err errIndexOutOfRange := by
  unfold ivArrayRead Seq.get1
  simp only [outOfRange_iff]
  by_cases h : Seq.InRange v i
  · simp only [h, not_true, if_true, if_false, List.getElem?_eq_getElem (inRange_toNat h)]
  · simp only [h, not_false_eq_true, if_true, if_false]

theorem ivArrayWrite_eq (v : List α) (i : Int) (x : α) :
    ivArrayWrite v i x = match Seq.set1 v i x with
      | some l => .ok l
      | none => .err errIndexOutOfRange := by
  unfold ivArrayWrite Seq.set1
  simp only [outOfRange_iff]
  by_cases h : Seq.InRange v i <;> simp only [h, not_true, not_false_eq_true, if_true, if_false]

theorem arraySwap_eq (v : List α) (i j : Int) :
    arraySwap v i j = match Seq.swap v i j with
      | some l => .ok l
      | none => .err errIndexOutOfRange := by
  unfold arraySwap Seq.swap Seq.get1
  simp only [outOfRange_iff]
  by_cases hi : Seq.InRange v i
  · by_cases hj : Seq.InRange v j
    · simp only [hi, hj, and_self, not_true, if_true, if_false, List.getElem?_eq_getElem (inRange_toNat hi),
        List.getElem?_eq_getElem (inRange_toNat hj)]
    · simp only [hi, hj, and_false, not_true, not_false_eq_true, if_true, if_false]
  · simp only [hi, false_and, not_false_eq_true, if_true, if_false]
theorem listStep_eq (eq : α → α → Bool) (v : List α) (op : ListOp α) :
    listStep eq v op = .ok (CollHistory.listStep eq v op) := by
  cases op with
  | getFirst => simp [listStep, CollHistory.listStep, arrayGetFirst_eq, Seq.first]; rfl
  | getLast => simp [listStep, CollHistory.listStep, arrayGetLast_eq, Seq.last]; rfl
  | getLength => simp [listStep, CollHistory.listStep, arrayGetLength]
  | getReverse => simp [listStep, CollHistory.listStep, arrayGetReverse_eq, Seq.reverse]
  | setFirst x => simp [listStep, CollHistory.listStep, arraySetFirst_eq]
  | setLast x => simp [listStep, CollHistory.listStep, arraySetLast_eq]
  | insert x idx =>
    simp only [listStep, CollHistory.listStep, arrayInsert_eq]
    cases Seq.insertAt v idx x <;> rfl
  | prepend x => simp [listStep, CollHistory.listStep, arrayPrepend_eq, Seq.prepend]
  | append x => simp [listStep, CollHistory.listStep, arrayAppend_eq, Seq.append]
  | shiftLeft => simp [listStep, CollHistory.listStep, shiftLeft_eq]; rfl
  | shiftRight => simp [listStep, CollHistory.listStep, shiftRight_eq]; rfl
  | merge args => simp [listStep, CollHistory.listStep, arrayMerge_eq]
  | contains x => simp [listStep, CollHistory.listStep, arrayContains_eq]
  | find x => simp [listStep, CollHistory.listStep, arrayFind_eq]
  | swap i j =>
    simp only [listStep, CollHistory.listStep, arraySwap_eq]
    cases Seq.swap v i j <;> rfl
  | ivRead i =>
    simp only [listStep, CollHistory.listStep, ivArrayRead_eq]
    cases Seq.get1 v i <;> rfl
  | ivWrite i x =>
    simp only [listStep, CollHistory.listStep, ivArrayWrite_eq]
    cases Seq.set1 v i x <;> rfl

def dom (m : List (String × α)) : List String := m.map (·.1)

theorem mapGet_none_iff (m : List (String × α)) (k : String) : mapGet m k = none ↔ k ∉ dom m := by
  fun_induction mapGet m k with
  | case1 => simp [dom]
  | case2 k v rest => simp [dom]
  | case3 k' v rest k h ih =>
    have h' : ¬ k = k' := fun e => h e.symm
    simp only [ih, dom, List.map_cons, List.mem_cons, h', false_or]

theorem mapGet_some_of_mem {m : List (String × α)} {k : String} (h : k ∈ dom m) : ∃ v, mapGet m k = some v := by
  cases hg : mapGet m k with
  | none => exact absurd h ((mapGet_none_iff m k).mp hg)
  | some v => exact ⟨v, rfl⟩

theorem mem_dom_of_mapGet {m : List (String × α)} {k : String} {v : α} (h : mapGet m k = some v) : k ∈ dom m := by
  by_cases hm : k ∈ dom m
  · exact hm
  · rw [(mapGet_none_iff m k).mpr hm] at h; cases h

theorem mapGet_mapDelete (m : List (String × α)) (k k' : String) :
    mapGet (mapDelete m k) k' = if k' = k then none else mapGet m k' := by
  induction m with
  | nil => simp [mapGet, mapDelete]
  | cons p rest ih =>
    obtain ⟨a, v⟩ := p
    unfold mapDelete at ih ⊢
    by_cases ha : a = k
    · subst ha
      simp only [List.filter_cons, ne_eq, not_true_eq_false, decide_false, Bool.false_eq_true, if_false, ih, mapGet]
      by_cases hk : k' = a
      · simp [hk]
      · have : ¬ a = k' := fun e => hk e.symm
        simp [hk, this]
    · simp only [List.filter_cons, ne_eq, ha, not_false_eq_true, decide_true, if_true, mapGet, ih]
      by_cases hk : a = k'
      · subst hk; simp [ha]
      · simp [hk]

theorem mapGet_mapSet (m : List (String × α)) (k : String) (v : α) (k' : String) :
    mapGet (mapSet m k v) k' = if k' = k then some v else mapGet m k' := by
  unfold mapSet
  simp only [mapGet, mapGet_mapDelete]
  by_cases h : k = k'
  · subst h; simp
  · have : ¬ k' = k := fun e => h e.symm
    simp [h, this]

theorem dom_mapDelete (m : List (String × α)) (k : String) : dom (mapDelete m k) = (dom m).filter (fun x => x ≠ k) := by
  unfold dom mapDelete
  rw [List.filter_map]; rfl

theorem mem_dom_mapDelete (m : List (String × α)) (k k' : String) : k' ∈ dom (mapDelete m k) ↔ k' ∈ dom m ∧ k' ≠ k := by
  rw [dom_mapDelete, List.mem_filter]; simp

theorem nodup_dom_mapDelete {m : List (String × α)} (k : String) (h : (dom m).Nodup) : (dom (mapDelete m k)).Nodup := by
  rw [dom_mapDelete]; exact List.Sublist.nodup List.filter_sublist h

theorem dom_mapSet (m : List (String × α)) (k : String) (v : α) : dom (mapSet m k v) = k :: dom (mapDelete m k) := rfl

theorem mem_dom_mapSet (m : List (String × α)) (k : String) (v : α) (k' : String) :
    k' ∈ dom (mapSet m k v) ↔ k' = k ∨ k' ∈ dom m := by
  rw [dom_mapSet, List.mem_cons, mem_dom_mapDelete]
  by_cases h : k' = k <;> simp [h]

theorem nodup_dom_mapSet {m : List (String × α)} (k : String) (v : α) (h : (dom m).Nodup) : (dom (mapSet m k v)).Nodup := by
  rw [dom_mapSet, List.nodup_cons]
  refine ⟨?_, nodup_dom_mapDelete k h⟩
  rw [mem_dom_mapDelete]; simp

/-- slots that do not hold `k` are passed over: nothing is spliced, `buf` and `len` stay -/
theorem deleteLoopFrom_advance (k : String) (buf : List String) (len : Nat) : ∀ (m fuel idx : Nat),
    idx + m ≤ buf.length → (∀ x ∈ (buf.drop idx).take m, x ≠ k) →
    deleteLoopFrom k (m + fuel) idx buf len = deleteLoopFrom k fuel (idx + m) buf len
  | 0, _, _, _, _ => by rw [Nat.zero_add, Nat.add_zero]
  | m + 1, fuel, idx, hlen, hne => by
    have hlt : idx < buf.length := by omega
    rw [List.drop_eq_getElem_cons hlt, List.take_succ_cons] at hne
    rw [show m + 1 + fuel = m + fuel + 1 by omega]
    simp only [deleteLoopFrom, List.getElem?_eq_getElem hlt, hne _ List.mem_cons_self, if_false]
    rw [deleteLoopFrom_advance k buf len m fuel (idx + 1) (by omega) fun x hx => hne x (List.mem_cons_of_mem _ hx)]
    congr 1; omega

theorem spliceOut_at (pre post : List String) (k : String) :
    spliceOut (pre ++ k :: post) (pre.length + (post.length + 1)) pre.length
      = .ok (pre ++ post ++ (k :: post).drop post.length, pre.length + post.length) := by
  unfold spliceOut
  have h1 : ¬ (pre.length + 1 > pre.length + (post.length + 1)) := by omega
  have e1 : pre.length + (post.length + 1) - (pre.length + 1) = post.length := by omega
  have e2 : pre.length + (post.length + 1) - 1 = pre.length + post.length := by omega
  have t1 : (pre ++ k :: post).take pre.length = pre := List.take_left' rfl
  have t2 : (pre ++ k :: post).drop (pre.length + 1) = post := by
    have : pre ++ k :: post = (pre ++ [k]) ++ post := by simp
    rw [this]; exact List.drop_left' (by simp)
  have t3 : (pre ++ k :: post).drop (pre.length + post.length) = (k :: post).drop post.length := by
    rw [List.drop_append]; simp
  simp only [h1, if_false, e1, e2, t1, t2, t3, List.take_length]

/-- the loop is correct *because* keyOrder has no duplicates -/
theorem deleteLoop_eq_erase (ks : List String) (k : String) (hnd : ks.Nodup) : deleteLoop ks k = .ok (ks.erase k) := by
  unfold deleteLoop
  by_cases hmem : k ∈ ks
  · obtain ⟨pre, post, rfl⟩ := List.append_of_mem hmem
    have hnd' := List.nodup_append.mp hnd
    have hpre : k ∉ pre := fun h => hnd'.2.2 k h k List.mem_cons_self rfl
    have hpost : k ∉ post := (List.nodup_cons.mp hnd'.2.1).1
    have hlen : (pre ++ k :: post).length = pre.length + (post.length + 1) := by simp
    -- up to the hit
    rw [List.erase_append_right _ hpre, List.erase_cons_head, hlen,
      deleteLoopFrom_advance k _ _ pre.length (post.length + 1) 0 (by omega)
        (by rw [List.drop_zero, List.take_left' rfl]; exact fun x hx e => hpre (e ▸ hx)), Nat.zero_add]
    have hget : (pre ++ k :: post)[pre.length]? = some k := by simp
    simp only [deleteLoopFrom, hget, if_true, spliceOut_at]
    -- after the splice every slot still visited holds an element of `post` (its last one twice)
    rw [← Nat.add_zero post.length, deleteLoopFrom_advance k _ _ post.length 0 (pre.length + 1)
      (by simp only [List.length_append, List.length_drop, List.length_cons]; omega) (fun x hx e => by
        cases post with
        | nil => simp at hx
        | cons p ps =>
          have hx := List.mem_of_mem_drop (List.mem_of_mem_take hx)
          rw [List.append_assoc, List.mem_append, List.mem_append] at hx
          rcases hx with h | h | h
          · exact hpre (e ▸ h)
          · exact hpost (e ▸ h)
          · exact hpost (e ▸ List.mem_of_mem_drop (by simpa using h)))]
    simp only [deleteLoopFrom, Nat.add_zero]
    rw [← List.length_append, List.take_left' rfl]
  · rw [← Nat.add_zero ks.length, deleteLoopFrom_advance k ks _ ks.length 0 0 (by omega)
      (fun x (hx : x ∈ (ks.drop 0).take ks.length) e => hmem (e ▸ List.mem_of_mem_take hx))]
    simp only [deleteLoopFrom, Nat.add_zero, List.take_length, List.erase_of_not_mem hmem]

/-- what `hm_inv` maintains: keyOrder has no duplicates, holds exactly the keys of the Go map, and the association
list standing for the Go map has one entry per key (so that its length is Go's `len`).  The evaluator's own form of it is `dictWF` (Proofs/AssocList.lean);
`Bridges.inv_of_dictWF` relates the two. -/
def Inv (hm : HashMap α) : Prop :=
  hm.keyOrder.Nodup ∧ (∀ k, k ∈ hm.keyOrder ↔ k ∈ dom hm.value) ∧ (dom hm.value).Nodup

def absOf (value : List (String × α)) (ks : List String) : OrderedMap.OMap α :=
  ks.filterMap (fun k => (mapGet value k).map (fun v => (k, v)))

/-- the ordered map a HashMap stands for: its keys in keyOrder, each with the value the Go map holds -/
def abs (hm : HashMap α) : OrderedMap.OMap α := absOf hm.value hm.keyOrder

theorem absOf_cons (value : List (String × α)) (k : String) (ks : List String) :
    absOf value (k :: ks) = match mapGet value k with
      | some v => (k, v) :: absOf value ks
      | none => absOf value ks := by
  unfold absOf
  rw [List.filterMap_cons]
  cases mapGet value k <;> rfl

theorem absOf_append (value : List (String × α)) (ks ks' : List String) :
    absOf value (ks ++ ks') = absOf value ks ++ absOf value ks' := by
  unfold absOf; exact List.filterMap_append

theorem keys_absOf (value : List (String × α)) : ∀ ks : List String, (∀ k ∈ ks, k ∈ dom value) →
    OrderedMap.keys (absOf value ks) = ks
  | [], _ => rfl
  | k :: ks, h => by
    obtain ⟨v, hv⟩ := mapGet_some_of_mem (h k List.mem_cons_self)
    rw [absOf_cons, hv]
    have := keys_absOf value ks (fun k' hk' => h k' (List.mem_cons_of_mem _ hk'))
    simp only [OrderedMap.keys, List.map_cons] at this ⊢
    rw [this]

theorem vals_absOf (value : List (String × α)) : ∀ ks : List String, (∀ k ∈ ks, k ∈ dom value) →
    (OrderedMap.vals (absOf value ks)).map some = ks.map (mapGet value)
  | [], _ => rfl
  | k :: ks, h => by
    obtain ⟨v, hv⟩ := mapGet_some_of_mem (h k List.mem_cons_self)
    rw [absOf_cons, hv]
    have := vals_absOf value ks (fun k' hk' => h k' (List.mem_cons_of_mem _ hk'))
    simp only [OrderedMap.vals, List.map_cons, List.map_map] at this ⊢
    rw [this, hv]

theorem display_absOf (value : List (String × α)) : ∀ ks : List String, (∀ k ∈ ks, k ∈ dom value) →
    ks.foldr (displayStep value) (.ok []) = .ok (absOf value ks)
  | [], _ => rfl
  | k :: ks, h => by
    obtain ⟨v, hv⟩ := mapGet_some_of_mem (h k List.mem_cons_self)
    rw [List.foldr_cons, display_absOf value ks (fun k' hk' => h k' (List.mem_cons_of_mem _ hk')), absOf_cons, hv]
    simp [displayStep, hv]

theorem lookup_absOf (value : List (String × α)) (k : String) : ∀ ks : List String,
    OrderedMap.lookup (absOf value ks) k = if k ∈ ks then mapGet value k else none
  | [] => by simp [absOf, OrderedMap.lookup]
  | k' :: ks => by
    have ih := lookup_absOf value k ks
    rw [absOf_cons]
    by_cases h : k' = k
    · subst h
      cases hv : mapGet value k' with
      | none => simp only [ih, hv]; simp
      | some v => simp [OrderedMap.lookup]
    · have h' : ¬ k = k' := fun e => h e.symm
      cases hv : mapGet value k' with
      | none => simp only [ih, List.mem_cons, h', false_or]
      | some v =>
        simp only [OrderedMap.lookup, List.find?_cons, h, decide_false, List.mem_cons, h', false_or] at ih ⊢
        exact ih

theorem absOf_overwrite (value : List (String × α)) (k : String) (v old : α) (hold : mapGet value k = some old) :
    ∀ ks : List String, absOf (mapSet value k v) ks = (absOf value ks).map (fun p => if p.1 = k then (k, v) else p)
  | [] => rfl
  | k' :: ks => by
    rw [absOf_cons, absOf_cons, mapGet_mapSet, absOf_overwrite value k v old hold ks]
    by_cases h : k' = k
    · subst h; simp [hold]
    · simp only [h, if_false]
      cases mapGet value k' with
      | none => rfl
      | some w => simp [h]

theorem absOf_other (value : List (String × α)) (k : String) (v : α) :
    ∀ ks : List String, (∀ k' ∈ ks, k' ≠ k) → absOf (mapSet value k v) ks = absOf value ks
  | [], _ => rfl
  | k' :: ks, h => by
    have hk : k' ≠ k := h k' List.mem_cons_self
    rw [absOf_cons, absOf_cons, mapGet_mapSet, absOf_other value k v ks (fun x hx => h x (List.mem_cons_of_mem _ hx))]
    simp [hk]

theorem absOf_delete (value : List (String × α)) (k : String) :
    ∀ ks : List String, absOf (mapDelete value k) (ks.filter (fun x => x != k)) = (absOf value ks).filter (fun p => p.1 ≠ k)
  | [] => rfl
  | k' :: ks => by
    have ih := absOf_delete value k ks
    by_cases h : k' = k
    · subst h
      rw [absOf_cons]
      cases mapGet value k' <;> simp [ih]
    · have hb : (k' != k) = true := by simp [h]
      rw [List.filter_cons, hb, if_pos rfl, absOf_cons, absOf_cons, mapGet_mapDelete, ih]
      simp only [h, if_false]
      cases mapGet value k' <;> simp [h]

theorem keys_abs {hm : HashMap α} (h : Inv hm) : OrderedMap.keys (abs hm) = hm.keyOrder :=
  keys_absOf hm.value hm.keyOrder (fun k hk => (h.2.1 k).mp hk)

theorem lookup_abs {hm : HashMap α} (h : Inv hm) (k : String) : OrderedMap.lookup (abs hm) k = mapGet hm.value k := by
  unfold abs
  rw [lookup_absOf]
  by_cases hk : k ∈ hm.keyOrder
  · simp [hk]
  · have : k ∉ dom hm.value := fun hd => hk ((h.2.1 k).mpr hd)
    simp [hk, (mapGet_none_iff _ _).mpr this]

theorem inv_empty : Inv (emptyHashMap : HashMap α) := by
  simp [Inv, emptyHashMap, dom]

theorem abs_empty : abs (emptyHashMap : HashMap α) = [] := rfl

theorem appendKVPair_spec {hm : HashMap α} (h : Inv hm) (k : String) (v : α) :
    Inv (appendKVPair hm k v) ∧ abs (appendKVPair hm k v) = OrderedMap.insert (abs hm) k v := by
  obtain ⟨hnd, hmem, hdn⟩ := h
  have hkeys := keys_abs ⟨hnd, hmem, hdn⟩
  -- a present key keeps its place in `keyOrder` and its pair is overwritten where it stands (`absOf_overwrite`); an absent one
  -- goes to the end of `keyOrder`, and the pairs of the old keys do not change (`absOf_append`, `absOf_other`)
  unfold appendKVPair OrderedMap.insert
  cases hg : mapGet hm.value k with
  | some old =>
    have hk : k ∈ hm.keyOrder := (hmem k).mpr (mem_dom_of_mapGet hg)
    refine ⟨⟨hnd, ?_, nodup_dom_mapSet k v hdn⟩, ?_⟩
    · intro k'
      show k' ∈ hm.keyOrder ↔ k' ∈ dom (mapSet hm.value k v)
      rw [mem_dom_mapSet, hmem]
      constructor
      · exact Or.inr
      · rintro (e | e)
        · exact e ▸ mem_dom_of_mapGet hg
        · exact e
    · show absOf (mapSet hm.value k v) hm.keyOrder = _
      rw [hkeys, if_pos hk]
      exact absOf_overwrite hm.value k v old hg hm.keyOrder
  | none =>
    have hkd : k ∉ dom hm.value := (mapGet_none_iff _ _).mp hg
    have hk : k ∉ hm.keyOrder := fun hk => hkd ((hmem k).mp hk)
    have hne : ∀ k' ∈ hm.keyOrder, k' ≠ k := fun k' hk' e => hk (e ▸ hk')
    refine ⟨⟨?_, ?_, nodup_dom_mapSet k v hdn⟩, ?_⟩
    · show (hm.keyOrder ++ [k]).Nodup
      rw [List.nodup_append]
      refine ⟨hnd, by simp, ?_⟩
      intro a ha b hb
      have : b = k := by simpa using hb
      exact this ▸ hne a ha
    · intro k'
      show k' ∈ hm.keyOrder ++ [k] ↔ k' ∈ dom (mapSet hm.value k v)
      rw [mem_dom_mapSet, List.mem_append, hmem]
      simp only [List.mem_singleton]
      exact Or.comm
    · show absOf (mapSet hm.value k v) (hm.keyOrder ++ [k]) = _
      rw [hkeys, if_neg hk, absOf_append, absOf_other _ _ _ _ hne, absOf_cons, mapGet_mapSet]
      simp [abs, absOf]

theorem newHashMapStep_eq (hm : HashMap α) (kv : String × α) : newHashMapStep hm kv = appendKVPair hm kv.1 kv.2 := by
  unfold newHashMapStep appendKVPair
  cases mapGet hm.value kv.1 <;> rfl

theorem newHashMap_fold_spec : ∀ (kvs : List (String × α)) (hm : HashMap α), Inv hm →
    Inv (kvs.foldl newHashMapStep hm) ∧
      abs (kvs.foldl newHashMapStep hm) = kvs.foldl (fun m kv => OrderedMap.insert m kv.1 kv.2) (abs hm)
  | [], _, h => ⟨h, rfl⟩
  | kv :: kvs, hm, h => by
    have hs := appendKVPair_spec h kv.1 kv.2
    rw [List.foldl_cons, List.foldl_cons, newHashMapStep_eq, ← hs.2]
    exact newHashMap_fold_spec kvs _ hs.1

theorem newHashMap_spec (kvs : List (String × α)) :
    Inv (newHashMap kvs) ∧ abs (newHashMap kvs) = OrderedMap.ofList kvs :=
  newHashMap_fold_spec kvs emptyHashMap inv_empty

theorem hmDelete_spec {hm : HashMap α} (h : Inv hm) (k : String) :
    ∃ hm', hmDelete hm k = .ok (mapGet hm.value k, hm') ∧ Inv hm' ∧ abs hm' = OrderedMap.erase (abs hm) k ∧
      hm'.keyOrder = hm.keyOrder.erase k := by
  obtain ⟨hnd, hmem, hdn⟩ := h
  unfold hmDelete
  cases hg : mapGet hm.value k with
  | none =>
    have hkd : k ∉ dom hm.value := (mapGet_none_iff _ _).mp hg
    have hk : k ∉ hm.keyOrder := fun hk => hkd ((hmem k).mp hk)
    refine ⟨hm, rfl, ⟨hnd, hmem, hdn⟩, ?_, (List.erase_of_not_mem hk).symm⟩
    have hkk : k ∉ OrderedMap.keys (abs hm) := by rw [keys_abs ⟨hnd, hmem, hdn⟩]; exact hk
    unfold OrderedMap.erase
    symm
    rw [List.filter_eq_self]
    intro p hp
    have : p.1 ∈ OrderedMap.keys (abs hm) := List.mem_map_of_mem hp
    have : p.1 ≠ k := fun e => hkk (e ▸ this)
    simp [this]
  | some old =>
    -- the loop leaves `keyOrder.erase k`, which without duplicates is the filter that `absOf_delete` speaks of
    rw [deleteLoop_eq_erase _ _ hnd]
    refine ⟨_, rfl, ⟨List.Nodup.erase k hnd, ?_, nodup_dom_mapDelete k hdn⟩, ?_, rfl⟩
    · intro k'
      show k' ∈ hm.keyOrder.erase k ↔ k' ∈ dom (mapDelete hm.value k)
      rw [List.Nodup.mem_erase_iff hnd, mem_dom_mapDelete, hmem]
      exact And.comm
    · show absOf (mapDelete hm.value k) (hm.keyOrder.erase k) = _
      rw [List.Nodup.erase_eq_filter hnd, absOf_delete]
      rfl

def specObs (m : OrderedMap.OMap α) : DictObs α :=
  { display := .ok m, length := OrderedMap.size m, allIndexes := OrderedMap.keys m,
    allValues := (OrderedMap.vals m).map some }

theorem length_abs {hm : HashMap α} (h : Inv hm) : hmLength hm = OrderedMap.size (abs hm) := by
  have h1 : (OrderedMap.keys (abs hm)).length = hm.keyOrder.length := by rw [keys_abs h]
  have hp : hm.keyOrder.Perm (dom hm.value) := (List.perm_ext_iff_of_nodup h.1 h.2.2).mpr h.2.1
  have h2 := hp.length_eq
  simp only [OrderedMap.keys, List.length_map, dom] at h1 h2
  simp only [hmLength, mapLen, OrderedMap.size]
  omega

theorem observe_abs {hm : HashMap α} (h : Inv hm) : observe hm = specObs (abs hm) := by
  have hsub : ∀ k ∈ hm.keyOrder, k ∈ dom hm.value := fun k hk => (h.2.1 k).mp hk
  unfold observe specObs
  congr 1
  · exact display_absOf hm.value hm.keyOrder hsub
  · exact length_abs h
  · exact (keys_abs h).symm
  · exact (vals_absOf hm.value hm.keyOrder hsub).symm

theorem chainRest_eq (sub : α → String → Option α) : ∀ (ks : List String) (v : α),
    getResult (chainRest sub v ks) = CollHistory.optResult (CollHistory.descend sub v ks)
  | [], _ => rfl
  | k :: ks, v => by
    simp only [chainRest, CollHistory.descend]
    cases sub v k with
    | none => rfl
    | some v' => exact chainRest_eq sub ks v'

theorem dictStep_spec (sub : α → String → Option α) {hm : HashMap α} (h : Inv hm) (op : DictOp α) :
    ∃ hm' r, dictStep sub hm op = .ok (hm', r) ∧ Inv hm' ∧ CollHistory.dictStep sub (abs hm) op = (abs hm', r) := by
  cases op with
  | get keys =>
    refine ⟨hm, _, rfl, h, ?_⟩
    cases keys with
    | nil => rfl
    | cons k ks =>
      simp only [CollHistory.dictStep, hmGet, lookup_abs h]
      cases mapGet hm.value k with
      | none => rfl
      | some v => simp only [chainRest_eq]
  | set k v | ivWrite k v =>
    have hs := appendKVPair_spec h k v
    exact ⟨_, _, rfl, hs.1, by simp [CollHistory.dictStep, hmSet, ivMapWrite, hs.2]⟩
  | delete k =>
    obtain ⟨hm', he, hi, ha, _⟩ := hmDelete_spec h k
    refine ⟨hm', optResult (mapGet hm.value k), by simp only [dictStep, he], hi, ?_⟩
    simp only [CollHistory.dictStep, lookup_abs h, ha]
    cases mapGet hm.value k <;> rfl
  | ivRead k =>
    simp only [dictStep, ivMapRead, CollHistory.dictStep, lookup_abs h]
    cases mapGet hm.value k with
    | none => exact ⟨hm, _, rfl, h, rfl⟩
    | some v => exact ⟨hm, _, rfl, h, rfl⟩

/-- the dictionary after an operation; the fall-back for `.panic` is never taken on a state with the invariant
(`dictStep_spec`) -/
def dictNext (sub : α → String → Option α) (hm : HashMap α) (op : DictOp α) : HashMap α :=
  match dictStep sub hm op with
  | .ok (hm', _) => hm'
  | _ => hm

theorem dictNext_inv (sub : α → String → Option α) {hm : HashMap α} (h : Inv hm) (op : DictOp α) :
    Inv (dictNext sub hm op) := by
  obtain ⟨hm', r, hs, hi, _⟩ := dictStep_spec sub h op
  simp only [dictNext, hs]; exact hi

theorem appendKVPair_value (hm : HashMap α) (k : String) (v : α) :
    (appendKVPair hm k v).value = mapSet hm.value k v := by
  unfold appendKVPair
  cases mapGet hm.value k <;> rfl

theorem ivMapRead_write (hm : HashMap α) (k : String) (v : α) (k' : String) :
    ivMapRead (ivMapWrite hm k v) k' = if k' = k then .ok v else ivMapRead hm k' := by
  simp only [ivMapRead, ivMapWrite, appendKVPair_value, mapGet_mapSet]
  by_cases h : k' = k <;> simp [h]

end ZnVerif.Proofs.Containers
