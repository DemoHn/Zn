/-
C03 at character level, free layout: the tokens that may span lines, between two tokens — a verbatim text literal (`nextToken_lit`)
and a comment (`nextToken_mcmt`): `NextToken` answers ONE token; every line break inside it appends a line to the table (indentation
0, `LineText` never set — also not for the line the token started on), and the last of them is the current line afterwards.
(The string scanner's own theorem: `strRun_verbatim`, Proofs/Literal.lean; the comment scanner's: `dispatch_mcmt`,
Proofs/RenderGapComments.lean.)
-/
import ZnVerif.Proofs.RenderGapLayout

namespace ZnVerif.Proofs.RenderLex
open ZnVerif.Model ZnVerif.Generated.Tokens
open ZnVerif.Spec ZnVerif.Spec.RenderChars ZnVerif.Spec.Literal ZnVerif.Spec.Lines

theorem dispatch_lit (q : Quote) (t : List Nat) (hv : Verbatim q t) (l : Lexer) (rest : List Nat)
    (h : here l = q.opener :: (t ++ q.closer :: rest)) :
    dispatchToken l = (.ok { type := q.type, literal := t, startIdx := l.cursor, endIdx := l.cursor + (t.length + 2) },
      l.grownTo l.lines (l.cursor + (t.length + 2)) (lineStarts (l.cursor + 1) t)) := by
  obtain ⟨hbal, hbt, h0⟩ := hv
  obtain ⟨hc, hr⟩ := here_cons h
  rw [dispatchToken_eq, hc, (quote_scanner q).1]
  show parseString l = _
  rw [parseString_quote q l hc, hr,
    strRun_verbatim q l.cursor q.type (q.closer :: rest) (closer_ordinary q).2.1 _ t rfl _ _ 0 0 _ hbt h0
      ((balanced_iff_depth q 0 t).mp hbal), strRun_closer]
  simp [strEnd, Lexer.grownTo, Nat.add_assoc]

theorem grown_state (src : Array Nat) (c : GCtx) (off : Nat) (body : List Nat) (len : Nat) :
    (c.state src).grownTo (c.state src).lines (c.pos + len) (lineStarts (c.pos + off) body) = (c.span off body len).state src := by
  have := litLines_spec c.s c.k (lineStarts (c.pos + off) body)
  simp only [Lexer.grownTo, GCtx.state, GCtx.span, bst, lx, List.append_toArray, Lexer.mk.injEq, true_and, and_true]
  rw [List.append_assoc, this, List.append_assoc]

theorem nextToken_lit {ind : Indent} {src : Array Nat} {c : GCtx} {q : Quote} {t : List Nat} {es : List El}
    (h : GInv ind src c (.lit q t :: es)) :
    nextToken (c.state src) = (.ok (litTok q t c.pos), (c.next ind (.lit q t)).state src) := by
  have ht : here (c.state src) = q.opener :: (t ++ q.closer :: renderEls ind es) :=
    h.text.trans (by simp [renderEls, El.chars])
  have hsolid : Solid q.opener := by cases q <;> decide
  rw [nextToken_later _ rfl (by rw [(here_cons ht).1]; exact hsolid), dispatch_lit q t h.wf.1 _ _ ht]
  exact congrArg (Prod.mk _) (grown_state src c 1 t (t.length + 2))

theorem nextToken_mcmt {ind : Indent} {src : Array Nat} {c : GCtx} {m : MCmt} {es : List El}
    (h : GInv ind src c (.mcmt m :: es)) :
    nextToken (c.state src) = (.ok (mcmtTok m c.pos), (c.next ind (.mcmt m)).state src) := by
  have ht : here (c.state src) = m.pre ++ (m.body ++ (m.suf ++ renderEls ind es)) :=
    h.text.trans (by simp [renderEls, El.chars, MCmt.chars])
  have hsolid : Solid (m.pre.headD 0) := by
    cases m with
    | block b => show Solid cSlashOp; decide
    | quoted curly ds b => show Solid cCharZHU; decide
  have hcur : (c.state src).cur = m.pre.headD 0 := by
    rw [here_headD ht]
    cases m <;> rfl
  rw [nextToken_later _ rfl (by rw [hcur]; exact hsolid), dispatch_mcmt m h.wf.1 _ _ ht]
  exact congrArg (Prod.mk _) (grown_state src c m.pre.length m.body m.chars.length)

end ZnVerif.Proofs.RenderLex
