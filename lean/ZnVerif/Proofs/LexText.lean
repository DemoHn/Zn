/-
The lexer state seen from the text: `Lexer.rest l`, the characters after the current one — the view of the loops, whose passes
begin with `Next()` — and `here l = l.cur :: l.rest` as long as the cursor is inside the text — the view of statements that begin
with the character under the cursor (`Proofs/Render*`).  How `peek`, `adv`, `setCursor`, `pushLine` read in each.
-/
import ZnVerif.Model.Lexer

namespace ZnVerif.Model

namespace Lexer

/-- the characters after the current one -/
def rest (l : Lexer) : List Nat := l.src.toList.drop (l.cursor + 1)

theorem getChar_of_getElem? {l : Lexer} {i a : Nat} (h : l.src.toList[i]? = some a) : l.getChar i = a := by
  obtain ⟨hi, ha⟩ := List.getElem?_eq_some_iff.mp h
  have hi' : i < l.src.size := by simpa using hi
  unfold getChar
  simp only [hi', ↓reduceDIte]
  simpa using ha

theorem getChar_of_ge {l : Lexer} {i : Nat} (h : l.src.size ≤ i) : l.getChar i = 0 := LinesInv.charAt_ge h

theorem drop_cons {α : Type} {xs : List α} {n : Nat} {a : α} {r : List α} (h : xs.drop n = a :: r) :
    xs[n]? = some a ∧ xs.drop (n + 1) = r := by
  constructor
  · have := congrArg List.head? h
    simpa [List.head?_drop] using this
  · have := congrArg List.tail h
    simpa [List.tail_drop] using this

theorem rest_cons {l : Lexer} {a : Nat} {r : List Nat} (h : l.rest = a :: r) :
    l.peek = a ∧ l.adv.rest = r := by
  obtain ⟨h1, h2⟩ := drop_cons h
  exact ⟨getChar_of_getElem? h1, h2⟩

theorem adv_cur (l : Lexer) : l.adv.cur = l.peek := rfl
theorem adv_peek (l : Lexer) : l.adv.peek = l.peek2 := rfl

theorem rest_cons2 {l : Lexer} {a b : Nat} {r : List Nat} (h : l.rest = a :: b :: r) :
    l.peek = a ∧ l.peek2 = b ∧ l.adv.adv.rest = r := by
  obtain ⟨h1, h2⟩ := rest_cons h
  obtain ⟨h3, h4⟩ := rest_cons h2
  exact ⟨h1, h3, h4⟩

theorem rest_nil {l : Lexer} (h : l.rest = []) : l.peek = 0 := by
  unfold rest at h
  have : l.src.toList.length ≤ l.cursor + 1 := List.drop_eq_nil_iff.mp h
  exact getChar_of_ge (by simpa using this)

theorem peek_eq_head (l : Lexer) : l.peek = l.rest.head?.getD 0 := by
  cases h : l.rest with
  | nil => simp [rest_nil h]
  | cons a r => simp [(rest_cons h).1]

theorem rest_of_peek_ne_zero {l : Lexer} (h : l.peek ≠ 0) : l.rest = l.peek :: l.adv.rest := by
  cases hr : l.rest with
  | nil => exact absurd (rest_nil hr) h
  | cons a r => obtain ⟨h1, h2⟩ := rest_cons hr; rw [h1, h2]

@[simp] theorem pushLine_rest (l : Lexer) (li : LineInfo) : (l.pushLine li).rest = l.rest := rfl
@[simp] theorem pushLine_cur (l : Lexer) (li : LineInfo) : (l.pushLine li).cur = l.cur := rfl
@[simp] theorem pushLine_peek (l : Lexer) (li : LineInfo) : (l.pushLine li).peek = l.peek := rfl

theorem rest_setCursor (l : Lexer) (k : Nat) : (l.setCursor (l.cursor + k)).rest = l.rest.drop k := by
  unfold rest
  rw [List.drop_drop, Nat.add_right_comm]
  rfl

theorem rest_skip {l : Lexer} {a b : List Nat} (h : l.rest = a ++ b) :
    (l.setCursor (l.cursor + a.length)).rest = b := by
  rw [rest_setCursor, h, List.drop_left]

theorem mkLexer_rest (a : Nat) (r : List Nat) : (mkLexer (a :: r)).rest = r := by
  simp [rest, mkLexer]

theorem mkLexer_cur (a : Nat) (r : List Nat) : (mkLexer (a :: r)).cur = a := by
  simp [cur, getChar, mkLexer]

end Lexer

theorem Lexer.rest_length (l : Lexer) : l.rest.length = l.src.size - (l.cursor + 1) := by
  simp [Lexer.rest]

end ZnVerif.Model

namespace ZnVerif.Proofs.RenderLex
open ZnVerif.Model

/-- the characters from the current one on -/
def here (l : Lexer) : List Nat := l.src.toList.drop l.cursor

theorem here_cons {l : Lexer} {c : Nat} {r : List Nat} (h : here l = c :: r) : l.cur = c ∧ l.rest = r := by
  obtain ⟨h1, h2⟩ := Lexer.drop_cons h
  exact ⟨Lexer.getChar_of_getElem? h1, h2⟩

theorem here_nil {l : Lexer} (h : here l = []) : l.cur = 0 ∧ l.src.size ≤ l.cursor := by
  have : l.src.toList.length ≤ l.cursor := List.drop_eq_nil_iff.mp h
  have h2 : l.src.size ≤ l.cursor := by simpa using this
  exact ⟨Lexer.getChar_of_ge h2, h2⟩

theorem here_headD {l : Lexer} {tl : List Nat} (h : here l = tl) : l.cur = tl.headD 0 := by
  cases tl with
  | nil => exact (here_nil h).1
  | cons c r => exact (here_cons h).1

theorem rest_headD {l : Lexer} {tl : List Nat} (h : l.rest = tl) : l.peek = tl.headD 0 := by
  rw [Lexer.peek_eq_head, h]
  cases tl <;> rfl

theorem here_setCursor (l : Lexer) (n : Nat) : here (l.setCursor (l.cursor + n)) = (here l).drop n := by
  simp [here, List.drop_drop, Nat.add_comm]

theorem here_append {l : Lexer} {a b : List Nat} (h : here l = a ++ b) : here (l.setCursor (l.cursor + a.length)) = b := by
  rw [here_setCursor, h]; simp

theorem here_le {l : Lexer} {a b : List Nat} (h : here l = a ++ b) (hl : l.cursor ≤ l.src.size) : l.cursor + a.length ≤ l.src.size := by
  have := congrArg List.length h
  simp only [here, List.length_drop, List.length_append, Array.length_toList] at this
  omega

theorem here_adv (l : Lexer) : here l.adv = l.rest := rfl

theorem adv_eq_setCursor (l : Lexer) : l.adv = l.setCursor (l.cursor + 1) := rfl
theorem adv_adv_eq_setCursor (l : Lexer) : l.adv.adv = l.setCursor (l.cursor + 2) := rfl

theorem here_peek {l : Lexer} {tl : List Nat} (h : here l = tl) : l.peek = tl.getD 1 0 := by
  have : l.rest = tl.tail := by rw [← h]; simp [here, Lexer.rest]
  rw [Lexer.peek_eq_head, this]
  cases tl with
  | nil => rfl
  | cons a r => cases r <;> rfl

theorem rest_of_here {l : Lexer} {a b : List Nat} {n : Nat} (h : here l = a ++ b) (hn : a.length = n + 1) :
    (l.setCursor (l.cursor + n)).rest = b := by
  have := here_append h
  rw [hn] at this
  exact this

end ZnVerif.Proofs.RenderLex
