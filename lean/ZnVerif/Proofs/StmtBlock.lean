/-
Token-level round trip with layout, part 4: the loop over the statements of a block (`CLoop`, for every loop that collects
statements), `ParseBlockStmt`, a header expression with its `：` and block, and the statements 每当, 遍历, 以 … 遍历; `CTail` is the
claim about the tail of 如果, whose lemmas are in Proofs/StmtBranch.lean.

Every lemma here is one production: "if the claims hold for the parts, the claim holds for the whole".  The induction over the
rendering relation is in Proofs/StmtMain.lean.
-/
import ZnVerif.Proofs.StmtSimple

namespace ZnVerif.Proofs.StmtRT
open ZnVerif.Model ZnVerif.Model.Parser ZnVerif.Generated.Tokens ZnVerif.Generated.ParserTables
open ZnVerif.Spec.StmtSyntax

variable {Y : Layout} {v : Variant}

/-- the first token of a non-empty run has one of the types `H` and starts a line indented by `d` -/
def Heads (Y : Layout) (d : Nat) (H : List Nat) (ts : List Token) : Prop :=
  ts ≠ [] → (Y.peek ts).type ∈ H ∧ Y.ind (Y.peek ts) = d

theorem heads_nil (d : Nat) (H : List Nat) : Heads Y d H [] := fun h => absurd rfl h

theorem Heads.cons {d c : Nat} {H : List Nat} {kw : Token} {r : List Token} (hk : kw.type = c) (hik : Y.ind kw = d)
    (h : c ∈ H := by decide) : Heads Y d H (kw :: r) := fun _ => ⟨hk ▸ h, hik⟩

section
variable {d : Nat} {H : List Nat} {t1 t2 : List Token} {s s1 s' : PState (List Token)}

theorem Heads.at (hH : Heads Y d H t2) (h2 : Walk Y false s1 t2 s') (hne : t2 ≠ []) :
    s1.p2.type ∈ H ∧ peekIndentOf (layoutOps Y) s1 = d := by
  obtain ⟨hp, hi⟩ := h2.peek hne
  exact ⟨hp ▸ (hH hne).1, hi.trans (hH hne).2⟩

/-- between two items: the flag is set after the item `t1` when the items `t2` come next -/
theorem flag_mid (h1 : Walk Y false s t1 s1) (h2 : Walk Y false s1 t2 s') (hne : t1 ≠ []) (hsep : Y.Sep t1 t2)
    (hb : t1 ++ t2 ≠ [] → s'.flag = true) : s1.flag = true := by
  by_cases hn2 : t2 = []
  · subst hn2; obtain rfl := h2.nil
    exact hb (by simp [hne])
  · rw [h1.flag hne, (h2.peek hn2).1]; exact hsep.resolve_left hn2

/-- … and the statement `t1` ends there: the next item starts a line indented alike with a token that is not 再如 / 否则 -/
theorem stmtEnd_mid (h2 : Walk Y false s1 t2 s') (hH : Heads Y d H t2) (hHs : ∀ ty ∈ H, ty ≠ cTypeCommaSep ∧ ty ∉ condKeywords)
    (hf : StmtEnd Y d s') : StmtEnd Y d s1 := by
  by_cases hn2 : t2 = []
  · subst hn2; obtain rfl := h2.nil
    exact hf
  · obtain ⟨hty, hi⟩ := hH.at h2 hn2
    exact ⟨(hHs _ hty).1, Or.inr (Or.inr ⟨hi, (hHs _ hty).2⟩)⟩

/-- … and a block one step deeper ends there -/
theorem blockEnd_mid (h2 : Walk Y false s1 t2 s') (hH : Heads Y d H t2) (hHs : ∀ ty ∈ H, ty ≠ cTypeCommaSep)
    (hf : BlockEnd Y (d + 1) s') : BlockEnd Y (d + 1) s1 := by
  by_cases hn2 : t2 = []
  · subst hn2; obtain rfl := h2.nil
    exact hf
  · obtain ⟨hty, hi⟩ := hH.at h2 hn2
    exact ⟨hHs _ hty, Or.inr (by omega)⟩

end

/-- `L acc` is a loop of the parser that collects the statements of a block indented by `d`: where a statement starts on such a
line it runs `ParseStatement` and goes on with the statement appended.  (`ParseBlockStmt`'s loop; `ParseExecBlock`'s loop in its
statement state, which resets the flag first — as `ParseStatement` does anyway.) -/
def StmtLoop (v : Variant) (Y : Layout) (d : Nat) {α : Type} (L : List Stmt → Nat → PM (List Token) α) : Prop :=
  ∀ m acc s, s.p2.type ∈ stmtHeads → peekIndentOf (layoutOps Y) s = d →
    L acc (m + 1) s = (parse v (layoutOps Y) m .statement >>= fun st => L (acc ++ [st]) m) s

theorem blockLoop_loop (d : Nat) : StmtLoop v Y d (fun acc n => parse v (layoutOps Y) n (.blockLoop d acc)) := by
  intro m acc s hh hi
  refine andThen (getS_S _) ?_
  rw [if_pos (blockCond_peek (stmtHeads_spec _ hh).1 hi)]

theorem statement_flag (m : Nat) (s : PState (List Token)) :
    parse v (layoutOps Y) m .statement { s with flag := false } = parse v (layoutOps Y) m .statement s := by
  cases m <;> rfl

theorem execLoop_loop (d : Nat) (inputs : List Ident) :
    StmtLoop v Y d (fun acc n => parse v (layoutOps Y) n (.execLoop d .stmt inputs acc [])) := by
  intro m acc s hh hi
  refine andThen (getS_S _) ?_
  rw [if_pos (blockCond_peek (stmtHeads_spec _ hh).1 hi)]
  exact andThen rfl (andThen (tryConsume_stops (s := { s with flag := false }) m (.of_mem (H := stmtHeads) hh))
    (bind_congr (statement_flag m s)))

/-- a loop that collects statements, on a move over a rendering of the statements `ss` after which the block's last statement is
complete and ends: it comes to the same loop after them, with `ss` collected -/
def CLoop (v : Variant) (Y : Layout) (d : Nat) (ss : List Stmt) (ts : List Token) : Prop :=
  ∀ {α : Type} (L : List Stmt → Nat → PM (List Token) α), StmtLoop v Y d L →
    ∀ s s' acc (r : Res (List Token) α) n, Walk Y false s ts s' → (ts ≠ [] → s'.flag = true) → StmtEnd Y d s' →
      StableR (L (acc ++ ss)) s' r n → StableR (L acc) s r (n + (16 * ts.length + 21))

/-- `ParseBranchStmt`'s loop after a block, on a rendering of the 再如 / 否则 tail -/
def CTail (v : Variant) (Y : Layout) (d : Nat) (os : List (Expr × Option (List Stmt))) (he : Bool) (eb : Option (List Stmt))
    (ts : List Token) : Prop :=
  ∀ s s' st (acc : BranchAcc), (st = .ifB ∨ st = .other) → acc.hasElse = false → acc.elseB = none →
    Walk Y false s ts s' → s.flag = true → s'.flag = true → StmtEnd Y d s' →
    Stable v Y (.branchLoop d st acc) s
      (.ok (BranchAcc.toStmt { acc with others := acc.others ++ os, hasElse := he, elseB := eb }) s') (16 * ts.length + 22)

theorem loop_nil (d : Nat) : CLoop v Y d [] [] := by
  intro α L _ s s' acc r n hw _ _ h n' hn
  obtain rfl := hw.nil
  rw [List.append_nil] at h
  exact h n' (by omega)

/-- one more statement in front: `ParseStatement` on it, then the loop on the rest -/
theorem loop_step {d : Nat} {st : Stmt} {ss : List Stmt} {t1 t2 : List Token} (Ft : StmtFacts Y t1) (hind : Y.ind (Y.peek t1) = d)
    (hB : CLoop v Y d ss t2)
    (hs : ∀ s s1 s', Walk Y false s t1 s1 → Walk Y false s1 t2 s' → s'.flag = true → StmtEnd Y d s' →
      Stable v Y .statement s (.ok st s1) (16 * t1.length + 20)) :
    CLoop v Y d (st :: ss) (t1 ++ t2) := by
  intro α L hL s s' acc r n h hb hf K
  refine stable_of 1 (by omega) fun m hn => ?_
  obtain ⟨s1, h1, h2⟩ := h.append
  simp only [List.length_append] at hn
  have hpos := List.length_pos_iff.mpr Ft.ne
  have hfl := hb (by simp [Ft.ne])
  obtain ⟨hp, hi⟩ := h1.peek Ft.ne
  rw [hL m acc s (hp ▸ Ft.head) (hi.trans hind)]
  refine andThen (hs s s1 s' h1 h2 hfl hf m (by omega)) (hB L hL s1 s' (acc ++ [st]) r n h2 (fun _ => hfl) hf ?_ m (by omega))
  rwa [List.append_assoc]

theorem loop_cons {d : Nat} {st : Stmt} {ss : List Stmt} {t1 t2 : List Token} (hs : CStmt v Y d st t1) (Ft : StmtFacts Y t1)
    (hind : Y.ind (Y.peek t1) = d) (hB : CLoop v Y d ss t2) (F2 : Heads Y d stmtHeads t2) (hsep : Y.Sep t1 t2) :
    CLoop v Y d (st :: ss) (t1 ++ t2) :=
  loop_step Ft hind hB fun s s1 _ h1 h2 hb hf =>
    hs s s1 h1 (flag_mid h1 h2 Ft.ne hsep fun _ => hb)
      (stmtEnd_mid h2 F2 (fun ty h => (stmtHeads_spec ty h).2) hf)

/-- a simple statement directly followed by `；`: the flag is what the layout makes it, the `；` completes the statement -/
theorem loop_consSemi {d : Nat} {st : Stmt} {ss : List Stmt} {t1 t2 : List Token} (hs : CSimple v Y st t1) (Ft : StmtFacts Y t1)
    (hind : Y.ind (Y.peek t1) = d) (hB : CLoop v Y d ss t2) (h2 : t2 ≠ []) (hsemi : (Y.peek t2).type = cTypeStmtSep) :
    CLoop v Y d (st :: ss) (t1 ++ t2) :=
  loop_step Ft hind hB fun s s1 _ h1 hw _ _ =>
    have hp : s1.p2.type = cTypeStmtSep := (hw.peek h2).1 ▸ hsemi
    hs s s1 h1 ⟨by rw [hp]; decide, Or.inr hp⟩

theorem statement_semi {semi : Token} {s s1 : PState (List Token)} (hs : semi.type = cTypeStmtSep) (h : Walk Y false s [semi] s1) :
    Stable v Y .statement s (.ok (.empty 0) s1) 2 := by
  refine stable_of 2 (by omega) fun m hn => andThen rfl (andThen (tryConsume_tok m hs h.unset) ?_)
  simp only [hs, if_true]
  rfl

theorem loop_empty {d : Nat} {semi : Token} {ss : List Stmt} {t2 : List Token} (hs : semi.type = cTypeStmtSep)
    (hind : Y.ind semi = d) (hB : CLoop v Y d ss t2) : CLoop v Y d (.empty 0 :: ss) (semi :: t2) :=
  loop_step (t1 := [semi]) ⟨by simp, by show semi.type ∈ _; rw [hs]; decide⟩ hind hB fun _ _ _ h1 _ _ _ =>
    (statement_semi hs h1).mono (by simp)

/-- `ParseBlockStmt`'s loop on a move over the statements of a block that ends there -/
theorem block_run {d : Nat} {ss : List Stmt} {ts : List Token} (hB : CLoop v Y d ss ts) {s s' : PState (List Token)}
    (acc : List Stmt) (h : Walk Y false s ts s') (hb : ts ≠ [] → s'.flag = true) (hf : BlockEnd Y d s') :
    Stable v Y (.blockLoop d acc) s (.ok (acc ++ ss) s') (16 * ts.length + 22) := by
  refine fun n' hn => hB _ (blockLoop_loop d) s s' acc _ 1 h hb hf.toStmt (fun k hk => ?_) n' (by omega)
  obtain ⟨m, rfl⟩ : ∃ m, k = m + 1 := ⟨k - 1, by omega⟩
  refine andThen (getS_S _) ?_
  rw [if_neg (by simp [hf.cond])]
  rfl

/-- `：`, the indentation check, and the block -/
theorem colon_block {d : Nat} {colon : Token} {b : List Stmt} {tb : List Token} (hcol : colon.type = cTypeFuncCall)
    (hind : Y.ind colon = d) (hne : tb ≠ []) (hH : Heads Y (d + 1) stmtHeads tb) (hB : CLoop v Y (d + 1) b tb)
    {s1 s2 s3 : PState (List Token)} (h2 : Reads Y s1 [colon] s2) (h3 : Walk Y false s2 tb s3) (hb : s3.flag = true)
    (hf : BlockEnd Y (d + 1) s3) (m : Nat) (hm : 16 * tb.length + 23 ≤ m) :
    consume v (layoutOps Y) m [cTypeFuncCall] s1 = .ok () s2 ∧
    expectBlockIndent (layoutOps Y) s2 = .ok (some (d + 1)) s2 ∧
    parse v (layoutOps Y) m (.block (d + 1)) s2 = .ok b s3 := by
  obtain ⟨m, rfl⟩ : ∃ k, m = k + 1 := ⟨m - 1, by omega⟩
  exact ⟨consume_tok m hcol h2, expectBlockIndent_reads h2 hind (hH.at h3 hne).2,
    block_run hB [] h3 (fun _ => hb) hf m (by omega)⟩

/-- the common shape of `ParseWhileLoopStmt` and `parseIteratorStmtRest`: a header expression, `：`, a block one step deeper.  The model
writes the text twice (`pWhileLoop`, `pIteratorRest`, differing in the node built at the end); both unfold to this by `rfl`, so
`header_block` is proved once and given where either production is the goal. -/
def headerBlock {σ : Type} (v : Variant) (ops : LexOps σ) (fuel : Nat) (rec : Rec σ) (mk : Expr → Option (List Stmt) → Stmt) :
    PM σ Stmt := do
  let e ← rec (.expr true)
  consume v ops fuel [cTypeFuncCall]
  match ← expectBlockIndent ops with
  | none => errPeek v 20
  | some bi => do
    let b ← rec (.block bi)
    pure (mk e (some b))

theorem header_block {d : Nat} {colon : Token} {e : Expr} {te : List Token} {b : List Stmt} {tb : List Token}
    (he : LinE Y 1 e te) (hcol : colon.type = cTypeFuncCall) (hind : Y.ind colon = d)
    (hne : tb ≠ []) (hH : Heads Y (d + 1) stmtHeads tb) (hB : CLoop v Y (d + 1) b tb)
    {s s2 s' : PState (List Token)} (h : Reads Y s (te ++ [colon]) s2) (h3 : Walk Y false s2 tb s') (hb : s'.flag = true)
    (hf : BlockEnd Y (d + 1) s') (m : Nat) (hm : 16 * te.length + 16 ≤ m) (hm2 : 16 * tb.length + 23 ≤ m)
    (mk : Expr → Option (List Stmt) → Stmt) :
    headerBlock v (layoutOps Y) m (parse v (layoutOps Y) m) mk s = .ok (mk e (some b)) s' := by
  obtain ⟨s1, h1, h2⟩ := h.append
  obtain ⟨k2, k3, k4⟩ := colon_block (v := v) hcol hind hne hH hB h2 h3 hb hf m hm2
  exact andThen (expr_reads (v := v) he h1 (h2.stops_tok hcol) m hm) (andThen k2 (andThen k3 (andThen k4 rfl)))

theorem stmt_while {d : Nat} {kw colon : Token} {c : Expr} {tc : List Token} {b : List Stmt} {tb : List Token}
    (hk : kw.type = cTypeWhileLoopW) (hc : LinE Y 1 c tc) (hcol : colon.type = cTypeFuncCall)
    (hg : Y.Glued (kw :: tc ++ [colon])) (hind : Y.ind colon = d) (hne : tb ≠ []) (hH : Heads Y (d + 1) stmtHeads tb)
    (hB : CLoop v Y (d + 1) b tb) :
    CStmt v Y d (.while (Y.sl kw) c (some b)) (kw :: tc ++ colon :: tb) := by
  intro s s' h hfl ha
  refine stable_of 3 (by omega) fun m hn => ?_
  simp only [List.length_cons, List.length_append] at hn
  obtain ⟨s0, s2, h0, hr, h3⟩ := Walk.header (tc ++ [colon]) (b := tb) (by simpa using h) hg
  exact statement_kw (v := v) (m + 1) (.while 0 c (some b)) hk h0 (Or.inl hfl)
    (header_block hc hcol hind hne hH hB hr h3 hfl ha.inner (m + 1) (by omega) (by omega) (fun e b => .while 0 e b))

/-- `parseIteratorStmtRest` -/
theorem iterRest {d : Nat} {colon : Token} {e : Expr} {te : List Token} {b : List Stmt} {tb : List Token}
    (he : LinE Y 1 e te) (hcol : colon.type = cTypeFuncCall) (hind : Y.ind colon = d)
    (hne : tb ≠ []) (hH : Heads Y (d + 1) stmtHeads tb) (hB : CLoop v Y (d + 1) b tb)
    (ids : List Ident) {s s2 s' : PState (List Token)} (h : Reads Y s (te ++ [colon]) s2) (h3 : Walk Y false s2 tb s')
    (hb : s'.flag = true) (hf : BlockEnd Y (d + 1) s') (m : Nat)
    (hm : 16 * te.length + 16 ≤ m) (hm2 : 16 * tb.length + 23 ≤ m) :
    parse v (layoutOps Y) (m + 1) (.iteratorRest ids) s = .ok (.iterate 0 e ids (some b)) s' :=
  header_block he hcol hind hne hH hB h h3 hb hf m hm hm2 (fun e b => .iterate 0 e ids b)

theorem stmt_iter0 {d : Nat} {kw colon : Token} {e : Expr} {te : List Token} {b : List Stmt} {tb : List Token}
    (hk : kw.type = cTypeIteratorW) (he : LinE Y 1 e te) (hcol : colon.type = cTypeFuncCall)
    (hg : Y.Glued (kw :: te ++ [colon])) (hind : Y.ind colon = d) (hne : tb ≠ []) (hH : Heads Y (d + 1) stmtHeads tb)
    (hB : CLoop v Y (d + 1) b tb) :
    CStmt v Y d (.iterate (Y.sl kw) e [] (some b)) (kw :: te ++ colon :: tb) := by
  intro s s' h hfl ha
  refine stable_of 3 (by omega) fun m hn => ?_
  simp only [List.length_cons, List.length_append] at hn
  obtain ⟨s0, s2, h0, hr, h3⟩ := Walk.header (te ++ [colon]) (b := tb) (by simpa using h) hg
  exact statement_kw (v := v) (m + 1) (.iterate 0 e [] (some b)) hk h0 (Or.inl hfl)
    (iterRest he hcol hind hne hH hB [] hr h3 hfl ha.inner (m + 1) (by omega) (by omega))

theorem linE_id1 (a : Token) (ha : a.type = cTypeIdentifier) : LinE Y 1 (.id (Y.idOf a)) [a] :=
  .up 1 _ _ (by decide) (.up 2 _ _ (by decide) (.up 3 _ _ (by decide) (.up 4 _ _ (by decide) (.up 5 _ _ (by decide)
    (.up 6 _ _ (by decide) (.id a ha))))))

/-- the loop variable `a` of `以 a 遍历` / `以 a、b 遍历`, read as an expression, up to the token `u` that stops it -/
theorem iter_var {a u : Token} {x : List Token} (hat : a.type = cTypeIdentifier) (huc : u.type ≠ cTypeCommaSep)
    (hu : u.type ∉ B1 true) {s s1 s2 : PState (List Token)} (h1 : Reads Y s [a] s1) (h2 : Reads Y s1 (u :: x) s2)
    (m : Nat) (hm : 32 ≤ m) : parse v (layoutOps Y) m (.expr true) s = .ok (.id (Y.idOf a)) s1 :=
  expr_reads_open (v := v) (linE_id1 (Y := Y) a hat) h1 (h2.stops huc (by show u.type ∉ B1 true ++ []; rwa [List.append_nil])) m hm

-- Fuel in `stmt_iter1` / `stmt_iter2`: the loop variable is read by `ParseExpression` (`iter_var`), which asks for `16 * 1 + 16 = 32`
-- units whatever the rest is.  So the proof is set at the fuels `m + 36` (the bound `16 * tokens + 20` is at least that): `ParseStatement`
-- and its dispatch take 2, and all that `ParseVarOneLeadStmt` calls runs at `m + 34 ≥ 32` — written `m + 33` where a step lemma is
-- stated for the fuel `n + 1`.
theorem stmt_iter1 {d : Nat} {kw a it colon : Token} {e : Expr} {te : List Token} {b : List Stmt} {tb : List Token}
    (hk : kw.type = cTypeVarOneW) (hat : a.type = cTypeIdentifier) (hit : it.type = cTypeIteratorW) (he : LinE Y 1 e te)
    (hcol : colon.type = cTypeFuncCall) (hg : Y.Glued (kw :: a :: it :: te ++ [colon])) (hind : Y.ind colon = d)
    (hne : tb ≠ []) (hH : Heads Y (d + 1) stmtHeads tb) (hB : CLoop v Y (d + 1) b tb) :
    CStmt v Y d (.iterate (Y.sl kw) e [Y.idOf a] (some b)) (kw :: a :: it :: te ++ colon :: tb) := by
  intro s s' h hfl ha
  refine stable_of 36 (by simp only [List.length_append, List.length_cons]; omega) fun m hn => ?_
  simp only [List.length_cons, List.length_append] at hn
  obtain ⟨s0, s4, h0, hr, h5⟩ := Walk.header (a :: it :: te ++ [colon]) (b := tb) (by simpa using h) hg
  obtain ⟨s1, h1, hr⟩ := Walk.cons (ts := it :: te ++ [colon]) hr
  obtain ⟨s2, h2, hr⟩ := Walk.cons (ts := te ++ [colon]) hr
  refine statement_kw (v := v) (m + 34) (.iterate 0 e [Y.idOf a] (some b)) hk h0 (Or.inl hfl)
    (andThen (iter_var hat (by rw [hit]; decide) (by rw [hit]; decide) h1 h2 (m + 34) (by omega))
      (andThen (tryConsume_tok (m + 33) hit h2) ?_))
  simp only [hit, if_true]
  exact iterRest he hcol hind hne hH hB [Y.idOf a] hr h5 hfl ha.inner (m + 33) (by omega) (by omega)

theorem stmt_iter2 {d : Nat} {kw a p a2 it colon : Token} {e : Expr} {te : List Token} {b : List Stmt} {tb : List Token}
    (hk : kw.type = cTypeVarOneW) (hat : a.type = cTypeIdentifier) (hp : p.type = cTypePauseCommaSep)
    (hat2 : a2.type = cTypeIdentifier) (hit : it.type = cTypeIteratorW) (he : LinE Y 1 e te)
    (hcol : colon.type = cTypeFuncCall) (hg : Y.Glued (kw :: a :: p :: a2 :: it :: te ++ [colon])) (hind : Y.ind colon = d)
    (hne : tb ≠ []) (hH : Heads Y (d + 1) stmtHeads tb) (hB : CLoop v Y (d + 1) b tb) :
    CStmt v Y d (.iterate (Y.sl kw) e [Y.idOf a, Y.idOf a2] (some b)) (kw :: a :: p :: a2 :: it :: te ++ colon :: tb) := by
  intro s s' h hfl ha
  refine stable_of 36 (by simp only [List.length_append, List.length_cons]; omega) fun m hn => ?_
  simp only [List.length_cons, List.length_append] at hn
  obtain ⟨s0, s6, h0, hr, h7⟩ := Walk.header (a :: p :: a2 :: it :: te ++ [colon]) (b := tb) (by simpa using h) hg
  obtain ⟨s1, h1, hr⟩ := Walk.cons (ts := p :: a2 :: it :: te ++ [colon]) hr
  obtain ⟨s2, h2, hr⟩ := Walk.cons (ts := a2 :: it :: te ++ [colon]) hr
  obtain ⟨s3, h3, hr⟩ := Walk.cons (ts := it :: te ++ [colon]) hr
  obtain ⟨s4, h4, hr⟩ := Walk.cons (ts := te ++ [colon]) hr
  have hpc : p.type ≠ cTypeCommaSep := by rw [hp]; decide
  -- `ParseVarOneLeadStmt`: `a` as an expression, neither 遍历 nor `（` after it; then `、`, `a2` as an expression, 遍历
  exact statement_kw (v := v) (m + 34) (.iterate 0 e [Y.idOf a, Y.idOf a2] (some b)) hk h0 (Or.inl hfl)
    (andThen (iter_var hat hpc (by rw [hp]; decide) h1 h2 (m + 34) (by omega))
      (andThen (tryConsume_stops (m + 34) (h2.stops_tok hp))
        (andThen (consume_tok (m + 33) hp h2)
          (andThen (iter_var hat2 (by rw [hit]; decide) (by rw [hit]; decide) h3 h4 (m + 34) (by omega))
            (andThen (tryConsume_tok (m + 33) hit h4)
              (iterRest he hcol hind hne hH hB [Y.idOf a, Y.idOf a2] hr h7 hfl ha.inner (m + 33) (by omega) (by omega)))))))

end ZnVerif.Proofs.StmtRT
