/-
The control flow of the evaluator model, run by run (C02, and every proof that follows one run of `evalStmt`).  The pieces
of `evalStmt` (`condNode`, `whileStep` / `whileTurn`, `passHandler`, `iterSlots` … `iterLoop`, `branchOther` / `branchElse`,
`hoistDecls`, `execPrelude`) and the equations that tie them to the model are in Proofs/EvalArms; here is what a run of them
does: one turn of each loop, what a loop makes of the end of a pass (`passVerdict`), and for each construct what it does
once a prefix has run (`block_after`, `branch_after`, `while_after`, `iterate_run`; bodies: `evalExecBlock_ok`).  `Steps`,
`CondsFalse`, `WhilePasses`, `ListPasses`, `DictPasses` say "this prefix ran to the end without 输出"; `RetPath` is the way from
the beginning of a block into a 输出 (that it is exactly that: Proofs/RetPathComplete).

Two forms of the same arm: `EvalArms.evalStmt_while` … `_break` are equations of computations with the line step `lineStep ln`
(= `setTopFrame fun fr => { fr with line := ln, started := true }`) in front; `ControlFlow.evalStmt_while` … `_break` here are
their pointwise readings, with that step done: the rest of the arm run from `setLine ln s` (`setLine_bind`).
-/
import ZnVerif.Proofs.EvalArms
set_option linter.unusedSectionVars false

namespace ZnVerif.Proofs.ControlFlow
open ZnVerif.Model ZnVerif.Proofs.Calls
open ZnVerif.Proofs.EvalArms

variable {ν : Type} [NumOps ν]

export ZnVerif.Proofs.Calls (bind_ok bind_err)

theorem bind_eq_of_eq {α β} {m m' : M ν α} {f : α → M ν β} {s s' : VM ν} (h : m s = m' s') :
    (m >>= f) s = (m' >>= f) s' := by
  rw [M_bind_def, M_bind_def, h]

export Calls (getCell_ok)

section
variable {β : Type} {ec : M ν Addr} {kt kf : M ν β} {s s1 : VM ν} {a : Addr}

theorem condNode_true (hc : ec s = (.ok a, s1)) (ht : s1.heap[a]? = some (.bool true)) :
    condNode ec kt kf s = kt s1 := by
  unfold condNode; rw [bind_ok hc, bind_ok (getCell_ok ht)]; rfl

theorem condNode_false (hc : ec s = (.ok a, s1)) (hf : s1.heap[a]? = some (.bool false)) :
    condNode ec kt kf s = kf s1 := by
  unfold condNode; rw [bind_ok hc, bind_ok (getCell_ok hf)]; rfl

theorem condNode_non_bool {cell : Cell ν} (hc : ec s = (.ok a, s1)) (hcell : s1.heap[a]? = some cell)
    (hnb : ∀ b, cell ≠ .bool b) : condNode ec kt kf s = (.err (.rt 80), s1) := by
  unfold condNode; rw [bind_ok hc, bind_ok (getCell_ok hcell)]
  cases cell <;> first | rfl | exact absurd rfl (hnb _)

theorem condNode_bind {γ} (g : β → M ν γ) : condNode ec kt kf >>= g = condNode ec (kt >>= g) (kf >>= g) := by
  unfold condNode
  simp only [bind_assoc]
  refine congrArg _ (funext fun a => congrArg _ (funext fun cell => ?_))
  unfold boolCell
  split <;> rfl

end

theorem setLine_cons (ln : Nat) (s : VM ν) (fr : Frame) (rest : List Frame) (h : s.stack = fr :: rest) :
    setLine ln s = { s with stack := { fr with line := ln, started := true } :: rest } := by
  simp [setLine, h]

/-- the loop sets its line again at the top of every pass -/
theorem setLine_idem (ln : Nat) (s : VM ν) : setLine ln (setLine ln s) = setLine ln s := by
  unfold setLine
  cases h : s.stack <;> simp [h]

/-- the top frame's return slot holds a value: `retSlot s = some _` (`returnSet_iff`) -/
def ReturnSet (s : VM ν) : Prop := ∃ fr rest v, s.stack = fr :: rest ∧ fr.ret = some v

theorem returnSet_iff (s : VM ν) : ReturnSet s ↔ ∃ v, retSlot s = some v := by
  constructor
  · rintro ⟨fr, rest, v, h, hv⟩; exact ⟨v, by simp [retSlot, h, hv]⟩
  · rintro ⟨v, h⟩
    unfold retSlot at h
    cases hs : s.stack with
    | nil => simp [hs] at h
    | cons fr rest => simp [hs] at h; exact ⟨fr, rest, v, hs, h⟩

theorem retSlot_setLine (ln : Nat) (s : VM ν) : retSlot (setLine ln s) = retSlot s := by
  unfold setLine retSlot
  cases h : s.stack <;> simp [h]

theorem retSlot_newNull (s : VM ν) : retSlot (newNull s).2 = retSlot s := rfl
theorem out_newNull (s : VM ν) : (newNull s).2.out = s.out := rfl
theorem newNull_eq (s : VM ν) : newNull s = (.ok s.heap.size, { s with heap := s.heap.push .null }) := rfl

/-! ## scopes: `endScope := vm.BeginBoundScope(); defer endScope()`

`enterScope` has the body of `Calls.enterScope` (Proofs/Handlers) and `leaveScope (some mid)` that of `Calls.endScopeOf mid`
(Proofs/Calls), each pair equal by `rfl`; they stand here under the names that the statements of C02 use, `leaveScope` with
the handle that `BeginBoundScope` returns as an argument.  The lemmas below are taken from there. -/

/-- what `BeginBoundScope` hands back: the module whose scope was begun (none if it has no scope) -/
def scopeHandle (s : VM ν) : Option Int := (getScope s.csModuleID s).map fun _ => s.csModuleID

def enterScope (s : VM ν) : VM ν :=
  match getScope s.csModuleID s with
  | none => s
  | some sc => putScope s.csModuleID sc.beginScope s

def leaveScope (h : Option Int) (s : VM ν) : VM ν :=
  match h with
  | none => s
  | some mid =>
    match getScope mid s with
    | none => s
    | some sc => putScope mid sc.endScope s

theorem leaveScope_handle (s t : VM ν) : leaveScope (scopeHandle s) t = exitScope s t := by
  unfold leaveScope scopeHandle exitScope
  cases getScope s.csModuleID s <;> rfl

theorem withScope_eq {α} (body : M ν α) (s : VM ν) :
    withScope body s = ((body (enterScope s)).1, leaveScope (scopeHandle s) (body (enterScope s)).2) := by
  rw [leaveScope_handle]; exact withScope_run body s

theorem withScope_of {α} {body : M ν α} {s s' : VM ν} {r : Res α} (h : body (enterScope s) = (r, s')) :
    withScope body s = (r, leaveScope (scopeHandle s) s') := by
  rw [withScope_eq, h]

theorem withScope_inv {α} {body : M ν α} {s s' : VM ν} {r : Res α} (h : withScope body s = (r, s')) :
    ∃ s0, body (enterScope s) = (r, s0) ∧ s' = leaveScope (scopeHandle s) s0 := by
  rw [withScope_eq] at h
  have h1 : (body (enterScope s)).1 = r := congrArg Prod.fst h
  exact ⟨_, Prod.ext h1 rfl, (congrArg Prod.snd h).symm⟩

theorem enterScope_stack (s : VM ν) : (enterScope s).stack = s.stack := (congrArg VM.stack (enterScope_state s) :)
theorem enterScope_out (s : VM ν) : (enterScope s).out = s.out := (congrArg VM.out (enterScope_state s) :)
theorem enterScope_heap (s : VM ν) : (enterScope s).heap = s.heap := (congrArg VM.heap (enterScope_state s) :)
theorem leaveScope_stack (h : Option Int) (s : VM ν) : (leaveScope h s).stack = s.stack := by
  cases h <;> first | rfl | exact endScopeOf_stack _ s
theorem leaveScope_out (h : Option Int) (s : VM ν) : (leaveScope h s).out = s.out := by
  cases h <;> first | rfl | exact endScopeOf_out _ s
theorem leaveScope_heap (h : Option Int) (s : VM ν) : (leaveScope h s).heap = s.heap := by
  cases h <;> first | rfl | exact endScopeOf_heap _ s
theorem leaveScope_globals (h : Option Int) (s : VM ν) : (leaveScope h s).globals = s.globals := by
  cases h <;> first | rfl | exact endScopeOf_globals _ s

theorem retSlot_enterScope (s : VM ν) : retSlot (enterScope s) = retSlot s := by
  unfold retSlot; rw [enterScope_stack]
theorem retSlot_leaveScope (h : Option Int) (s : VM ν) : retSlot (leaveScope h s) = retSlot s := by
  unfold retSlot; rw [leaveScope_stack]

/-- `Steps ev last pre s last' s'`: the statements `pre` were run one after the other from `s` (declarations
skipped), every one ended normally and left the return slot empty; `last'` is the value of the last one run -/
inductive Steps (ev : Stmt → M ν Addr) : Option Addr → List Stmt → VM ν → Option Addr → VM ν → Prop
  | nil (last : Option Addr) (s : VM ν) : Steps ev last [] s last s
  | decl {last last' : Option Addr} {st : Stmt} {rest : List Stmt} {s s' : VM ν} :
      isDecl st = true → retSlot s = none → Steps ev last rest s last' s' → Steps ev last (st :: rest) s last' s'
  | stmt {last last' : Option Addr} {st : Stmt} {rest : List Stmt} {s s1 s' : VM ν} {v : Addr} :
      isDecl st = false → ev st s = (.ok v, s1) → retSlot s1 = none → Steps ev (some v) rest s1 last' s' →
      Steps ev last (st :: rest) s last' s'

theorem stmtsLoop_stmt {ev : Stmt → M ν Addr} {last : Option Addr} {st : Stmt} {rest : List Stmt}
    (hd : isDecl st = false) :
    stmtsLoop ev last (st :: rest) = ev st >>= fun v => getReturnValue >>= fun o =>
      match o with
      | some rv => pure (some rv)
      | none => stmtsLoop ev (some v) rest := by
  simp [stmtsLoop, hd]; rfl

/-- a definition in a block is skipped (it was executed when the body started) -/
theorem stmtsLoop_decl {ev : Stmt → M ν Addr} {last : Option Addr} {st : Stmt} {rest : List Stmt} {s : VM ν}
    (hd : isDecl st = true) (hr : retSlot s = none) :
    stmtsLoop ev last (st :: rest) s = stmtsLoop ev last rest s := by
  simp [stmtsLoop, hd, bind_ok (getReturnValue_eq s), hr]

theorem stmtsLoop_next {ev : Stmt → M ν Addr} {last : Option Addr} {st : Stmt} {rest : List Stmt} {s s' : VM ν}
    {v : Addr} (hd : isDecl st = false) (he : ev st s = (.ok v, s')) (hr : retSlot s' = none) :
    stmtsLoop ev last (st :: rest) s = stmtsLoop ev (some v) rest s' := by
  rw [stmtsLoop_stmt hd, bind_ok he, bind_ok (getReturnValue_eq s'), hr]

theorem stmtsLoop_hit {ev : Stmt → M ν Addr} {last : Option Addr} {st : Stmt} {rest : List Stmt} {s s' : VM ν}
    {v rv : Addr} (hd : isDecl st = false) (he : ev st s = (.ok v, s')) (hr : retSlot s' = some rv) :
    stmtsLoop ev last (st :: rest) s = (.ok (some rv), s') := by
  rw [stmtsLoop_stmt hd, bind_ok he, bind_ok (getReturnValue_eq s'), hr]; rfl

theorem stmtsLoop_fail {ev : Stmt → M ν Addr} {last : Option Addr} {st : Stmt} {rest : List Stmt} {s s' : VM ν}
    {e : Err} (hd : isDecl st = false) (he : ev st s = (.err e, s')) :
    stmtsLoop ev last (st :: rest) s = (.err e, s') := by
  rw [stmtsLoop_stmt hd, bind_err he]

theorem stmtsLoop_steps {ev : Stmt → M ν Addr} {last last' : Option Addr} {pre : List Stmt} {s s' : VM ν}
    (h : Steps ev last pre s last' s') (rest : List Stmt) :
    stmtsLoop ev last (pre ++ rest) s = stmtsLoop ev last' rest s' := by
  induction h with
  | nil => rfl
  | decl hd hr _ ih => rw [← ih]; exact stmtsLoop_decl hd hr
  | stmt hd he hr _ ih => rw [← ih]; exact stmtsLoop_next hd he hr

theorem Steps.append {ev : Stmt → M ν Addr} {l0 l1 l2 : Option Addr} {a b : List Stmt} {s0 s1 s2 : VM ν}
    (h1 : Steps ev l0 a s0 l1 s1) (h2 : Steps ev l1 b s1 l2 s2) : Steps ev l0 (a ++ b) s0 l2 s2 := by
  induction h1 with
  | nil => exact h2
  | decl hd hr _ ih => exact .decl hd hr (ih h2)
  | stmt hd he hr _ ih => exact .stmt hd he hr (ih h2)

theorem Steps.decls {ev : Stmt → M ν Addr} (last : Option Addr) (ds : List Stmt) (s : VM ν)
    (hd : ∀ st ∈ ds, isDecl st = true) (hr : retSlot s = none) : Steps ev last ds s last s := by
  induction ds with
  | nil => exact .nil _ _
  | cons d ds ih =>
    exact .decl (hd d (by simp)) hr (ih fun st hst => hd st (by simp [hst]))

theorem block_after {n : Nat} {pre : List Stmt} {s s1 s2 : VM ν} {last : Option Addr} {r : Res (Option Addr)}
    (hpre : Steps (evalStmt n) none pre (enterScope s) last s1) {rest : List Stmt}
    (hrest : stmtsLoop (evalStmt n) last rest s1 = (r, s2)) :
    evalPureStmtBlock (n+1) (some (pre ++ rest)) s = (r, leaveScope (scopeHandle s) s2) := by
  rw [evalPureStmtBlock_some]
  exact withScope_of ((stmtsLoop_steps hpre rest).trans hrest)

/-! ## the loops the evaluator is built from: one turn -/

theorem whileM_go {step : M ν Bool} {k : Nat} {s s' : VM ν} (h : step s = (.ok true, s')) :
    whileM (k+1) step s = whileM k step s' := by
  simp only [whileM]; rw [bind_ok h]; rfl

theorem whileM_stop {step : M ν Bool} {k : Nat} {s s' : VM ν} (h : step s = (.ok false, s')) :
    whileM (k+1) step s = (.ok (), s') := by
  simp only [whileM]; rw [bind_ok h]; rfl

theorem untilM_go {α} {f : α → M ν Bool} {x : α} {xs : List α} {s s' : VM ν} (h : f x s = (.ok false, s')) :
    untilM f (x :: xs) s = untilM f xs s' := by
  simp only [untilM]; rw [bind_ok h]; rfl

theorem untilM_stop {α} {f : α → M ν Bool} {x : α} {xs : List α} {s s' : VM ν}
    (h : f x s = (.ok true, s')) : untilM f (x :: xs) s = (.ok (), s') := by
  simp only [untilM]; rw [bind_ok h]; rfl

theorem untilIdxM_go {α} {f : Nat → α → M ν Bool} {i : Nat} {x : α} {xs : List α} {s s' : VM ν}
    (h : f i x s = (.ok false, s')) : untilIdxM f i (x :: xs) s = untilIdxM f (i + 1) xs s' := by
  simp only [untilIdxM]; rw [bind_ok h]; rfl

theorem untilIdxM_stop {α} {f : Nat → α → M ν Bool} {i : Nat} {x : α} {xs : List α} {s s' : VM ν}
    (h : f i x s = (.ok true, s')) : untilIdxM f i (x :: xs) s = (.ok (), s') := by
  simp only [untilIdxM]; rw [bind_ok h]; rfl

/-! ## loops: what a pass tells the loop -/

theorem passHandler_verdict {α} {go b : Bool} {r : Res α} {s : VM ν} (hv : passVerdict r s = some b) :
    passHandler go r s = (.ok (if go then b else !b), s) := by
  cases r with
  | ok x =>
    simp only [passVerdict, Option.some.injEq] at hv
    subst hv
    cases hrs : retSlot s <;> cases go <;> simp [passHandler, bind_ok (getReturnValue_eq s), hrs, M_pure_def]
  | err e => cases e <;> simp [passVerdict] at hv <;> subst hv <;> cases go <;> rfl
  | _ => simp [passVerdict] at hv

theorem passHandler_err {α} {go : Bool} {e : Err} {s : VM ν} (h1 : e ≠ .sigBreak) (h2 : e ≠ .sigContinue) :
    passHandler go (.err e : Res α) s = (.err e, s) := by
  cases e <;> first | rfl | contradiction

theorem whileTurn_eq (n ln : Nat) (c : Expr) (body : Option (List Stmt)) (s : VM ν) :
    whileTurn n ln c body s = whileStep n c body (setLine ln s) := by
  unfold whileTurn
  rw [setLine_bind]

theorem evalStmt_while (n ln : Nat) (c : Expr) (body : Option (List Stmt)) (s : VM ν) :
    evalStmt (n+1) (.while ln c body) s = (do whileM n (whileTurn n ln c body); newNull) (setLine ln s) := by
  rw [EvalArms.evalStmt_while, lineStep, setLine_bind]

theorem whileStep_pass {n : Nat} {c : Expr} {body : Option (List Stmt)} {s s1 s2 : VM ν} {a : Addr}
    {r : Res (Option Addr)} {b : Bool}
    (hc : evalExpr n c s = (.ok a, s1)) (ht : s1.heap[a]? = some (.bool true))
    (hb : evalPureStmtBlock n body s1 = (r, s2)) (hv : passVerdict r s2 = some b) :
    whileStep n c body s = (.ok b, s2) := by
  rw [whileStep_eq, condNode_true hc ht]
  simp only [Model.tryCatch, hb]
  exact passHandler_verdict hv

/-- `WhilePasses n ln c body k s s'`: from `s`, k complete passes of the loop: each time the condition was
evaluated *first* — with the loop's own line `ln` current again — and was 真, the body ran and ended normally with
the slot empty or with 继续循环 -/
inductive WhilePasses (n ln : Nat) (c : Expr) (body : Option (List Stmt)) : Nat → VM ν → VM ν → Prop
  | zero (s : VM ν) : WhilePasses n ln c body 0 s s
  | succ {k : Nat} {s s1 s2 s3 : VM ν} {a : Addr} {r : Res (Option Addr)} :
      evalExpr n c (setLine ln s) = (.ok a, s1) → s1.heap[a]? = some (.bool true) →
      evalPureStmtBlock n body s1 = (r, s2) → passVerdict r s2 = some true →
      WhilePasses n ln c body k s2 s3 → WhilePasses n ln c body (k+1) s s3

theorem whileM_passes {n ln : Nat} {c : Expr} {body : Option (List Stmt)} {k : Nat} {s s' : VM ν}
    (h : WhilePasses n ln c body k s s') (j : Nat) :
    whileM (k + j) (whileTurn n ln c body) s = whileM j (whileTurn n ln c body) s' := by
  induction h with
  | zero => simp
  | @succ k' _ _ _ _ _ _ hc ht hb hv _ ih =>
    rw [← ih, show k' + 1 + j = (k' + j) + 1 by omega]
    exact whileM_go (by rw [whileTurn_eq]; exact whileStep_pass hc ht hb hv)

theorem WhilePasses.snoc {n ln : Nat} {c : Expr} {body : Option (List Stmt)} {k : Nat} {s s0 s1 s2 : VM ν} {a : Addr}
    {r : Res (Option Addr)} (h : WhilePasses n ln c body k s s0)
    (hc : evalExpr n c (setLine ln s0) = (.ok a, s1)) (ht : s1.heap[a]? = some (.bool true))
    (hb : evalPureStmtBlock n body s1 = (r, s2)) (hv : passVerdict r s2 = some true) :
    WhilePasses n ln c body (k+1) s s2 := by
  induction h with
  | zero => exact .succ hc ht hb hv (.zero _)
  | succ hc' ht' hb' hv' _ ih => exact .succ hc' ht' hb' hv' (ih hc)

theorem while_after {n ln : Nat} {c : Expr} {body : Option (List Stmt)} {k : Nat} {s s1 s2 : VM ν} {r : Res Bool}
    (hp : WhilePasses n ln c body k (setLine ln s) s1) (hk : k < n)
    (hstep : whileStep n c body (setLine ln s1) = (r, s2)) (hr : r ≠ .ok true) :
    evalStmt (n+1) (.while ln c body) s = (liftRes r >>= fun _ => newNull) s2 := by
  rw [evalStmt_while]
  obtain ⟨j, rfl⟩ : ∃ j, n = k + (j + 1) := ⟨n - k - 1, by omega⟩
  rw [M_bind_def, whileM_passes hp]
  simp only [whileM]
  rw [M_bind_def, whileTurn_eq, hstep]
  rcases r with (_ | _) | e | _ | _ | _ <;> first | rfl | exact absurd rfl hr

theorem while_stops_after {n ln : Nat} {c : Expr} {body : Option (List Stmt)} {k : Nat} {s s1 s2 : VM ν}
    (hp : WhilePasses n ln c body k (setLine ln s) s1) (hk : k < n)
    (hstep : whileStep n c body (setLine ln s1) = (.ok false, s2)) :
    evalStmt (n+1) (.while ln c body) s = newNull s2 :=
  while_after hp hk hstep (by intro h; cases h)

theorem while_fails_after {n ln : Nat} {c : Expr} {body : Option (List Stmt)} {k : Nat} {s s1 s2 : VM ν} {e : Err}
    (hp : WhilePasses n ln c body k (setLine ln s) s1) (hk : k < n)
    (hstep : whileStep n c body (setLine ln s1) = (.err e, s2)) :
    evalStmt (n+1) (.while ln c body) s = (.err e, s2) :=
  while_after hp hk hstep (by intro h; cases h)

theorem evalStmt_iterate (n ln : Nat) (e : Expr) (names : List Ident) (body : Option (List Stmt)) (s : VM ν) :
    evalStmt (n+1) (.iterate ln e names body) s =
      (do withScope (do
            let target ← evalExpr n e
            let slots ← iterSlots names
            iterLoop (iterPass n names.length slots body) target)
          newNull) (setLine ln s) := by
  rw [EvalArms.evalStmt_iterate, lineStep, setLine_bind]
  simp only [withIterSlots_eq]

theorem iterPass_pass {n nameLen : Nat} {slots : Option String × Option String} {body : Option (List Stmt)}
    {key v : Addr} {s s1 s2 : VM ν} {r : Res (Option Addr)} {b : Bool}
    (hbind : iterBind n nameLen slots key v s = (.ok (), s1))
    (hb : evalPureStmtBlock n body s1 = (r, s2)) (hv : passVerdict r s2 = some b) :
    iterPass n nameLen slots body key v s = (.ok (!b), s2) := by
  rw [iterPass_eq]
  simp only [Model.tryCatch]
  rw [bind_ok hbind, hb]
  exact passHandler_verdict hv

/-- the state after the key of a pass is allocated: `NewNumber(float64(i+1))` over a list, `NewString(k)` over a dictionary -/
def pushCell (c : Cell ν) (s : VM ν) : VM ν := { s with heap := s.heap.push c }

/-- `ListPasses … i items s s'`: complete passes over `items`, in order, starting at 0-based position `i`:
for each element a fresh number cell holding `i+1` is the key, the element is copied and bound (`iterBind`),
the body runs and ends normally with the slot empty or with 继续循环 -/
inductive ListPasses (n nameLen : Nat) (slots : Option String × Option String) (body : Option (List Stmt)) :
    Nat → List Addr → VM ν → VM ν → Prop
  | nil (i : Nat) (s : VM ν) : ListPasses n nameLen slots body i [] s s
  | cons {i : Nat} {x : Addr} {xs : List Addr} {s s1 s2 s3 : VM ν} {r : Res (Option Addr)} :
      iterBind n nameLen slots s.heap.size x (pushCell (.num (NumOps.ofInt ((i : Int) + 1))) s) = (.ok (), s1) →
      evalPureStmtBlock n body s1 = (r, s2) → passVerdict r s2 = some true →
      ListPasses n nameLen slots body (i+1) xs s2 s3 → ListPasses n nameLen slots body i (x :: xs) s s3

theorem iterListStep_pass {n nameLen : Nat} {slots : Option String × Option String} {body : Option (List Stmt)}
    {i : Nat} {x : Addr} {s s1 s2 : VM ν} {r : Res (Option Addr)} {b : Bool}
    (hbind : iterBind n nameLen slots s.heap.size x (pushCell (.num (NumOps.ofInt ((i : Int) + 1))) s) = (.ok (), s1))
    (hb : evalPureStmtBlock n body s1 = (r, s2)) (hv : passVerdict r s2 = some b) :
    iterListStep n nameLen slots body i x s = (.ok (!b), s2) := by
  exact iterPass_pass hbind hb hv

theorem untilIdxM_passes {n nameLen : Nat} {slots : Option String × Option String} {body : Option (List Stmt)}
    {i : Nat} {pre : List Addr} {s s' : VM ν}
    (h : ListPasses n nameLen slots body i pre s s') (rest : List Addr) :
    untilIdxM (iterListStep n nameLen slots body) i (pre ++ rest) s =
      untilIdxM (iterListStep n nameLen slots body) (i + pre.length) rest s' := by
  induction h with
  | nil => simp
  | @cons i x xs _ _ _ _ _ hbind hb hv _ ih =>
    rw [show i + (x :: xs).length = i + 1 + xs.length by simp; omega, ← ih]
    exact untilIdxM_go (iterListStep_pass hbind hb hv)

theorem ListPasses.append {n nameLen : Nat} {slots : Option String × Option String} {body : Option (List Stmt)}
    {i : Nat} {a b : List Addr} {s0 s1 s2 : VM ν}
    (h1 : ListPasses n nameLen slots body i a s0 s1) (h2 : ListPasses n nameLen slots body (i + a.length) b s1 s2) :
    ListPasses n nameLen slots body i (a ++ b) s0 s2 := by
  induction h1 with
  | nil => simpa using h2
  | @cons i x xs _ _ _ _ _ hbind hb hv _ ih =>
    refine .cons hbind hb hv (ih ?_)
    rw [show i + 1 + xs.length = i + (x :: xs).length by simp; omega]; exact h2

/-- `DictPasses … target keys s s'`: complete passes for `keys`, in that order; the value of each key is read
from the dictionary cell *at the time of the pass*, the key is a fresh text cell.  A key that is no longer in the
dictionary when its turn comes (an earlier pass removed it) is skipped: nothing is bound, the body does not run, the
machine is unchanged (`skip`). -/
inductive DictPasses (n nameLen : Nat) (slots : Option String × Option String) (body : Option (List Stmt))
    (target : Addr) : List String → VM ν → VM ν → Prop
  | nil (s : VM ν) : DictPasses n nameLen slots body target [] s s
  | cons {k : String} {ks : List String} {vals : List (String × Addr)} {ord : List String} {v : Addr}
      {s s1 s2 s3 : VM ν} {r : Res (Option Addr)} :
      s.heap[target]? = some (.hm vals ord) → lookup k vals = some v →
      iterBind n nameLen slots s.heap.size v (pushCell (.str k) s) = (.ok (), s1) →
      evalPureStmtBlock n body s1 = (r, s2) → passVerdict r s2 = some true →
      DictPasses n nameLen slots body target ks s2 s3 → DictPasses n nameLen slots body target (k :: ks) s s3
  | skip {k : String} {ks : List String} {vals : List (String × Addr)} {ord : List String} {s s3 : VM ν} :
      s.heap[target]? = some (.hm vals ord) → lookup k vals = none →
      DictPasses n nameLen slots body target ks s s3 → DictPasses n nameLen slots body target (k :: ks) s s3

theorem iterDictStep_skip {n nameLen : Nat} {slots : Option String × Option String} {body : Option (List Stmt)}
    {target : Addr} {k : String} {vals : List (String × Addr)} {ord : List String} {s : VM ν}
    (hcell : s.heap[target]? = some (.hm vals ord)) (hl : lookup k vals = none) :
    iterDictStep n nameLen slots body target k s = (.ok false, s) := by
  unfold iterDictStep
  rw [bind_ok (getCell_ok hcell)]
  simp only [hl]
  rfl

theorem iterDictStep_pass {n nameLen : Nat} {slots : Option String × Option String} {body : Option (List Stmt)}
    {target : Addr} {k : String} {vals : List (String × Addr)} {ord : List String} {v : Addr}
    {s s1 s2 : VM ν} {r : Res (Option Addr)} {b : Bool}
    (hcell : s.heap[target]? = some (.hm vals ord)) (hl : lookup k vals = some v)
    (hbind : iterBind n nameLen slots s.heap.size v (pushCell (.str k) s) = (.ok (), s1))
    (hb : evalPureStmtBlock n body s1 = (r, s2)) (hv : passVerdict r s2 = some b) :
    iterDictStep n nameLen slots body target k s = (.ok (!b), s2) := by
  unfold iterDictStep
  rw [bind_ok (getCell_ok hcell)]
  simp only [hl]
  exact iterPass_pass hbind hb hv

theorem untilM_passes {n nameLen : Nat} {slots : Option String × Option String} {body : Option (List Stmt)}
    {target : Addr} {pre : List String} {s s' : VM ν}
    (h : DictPasses n nameLen slots body target pre s s') (rest : List String) :
    untilM (iterDictStep n nameLen slots body target) (pre ++ rest) s =
      untilM (iterDictStep n nameLen slots body target) rest s' := by
  induction h with
  | nil => simp
  | cons hcell hl hbind hb hv _ ih =>
    rw [← ih]; exact untilM_go (iterDictStep_pass hcell hl hbind hb hv)
  | skip hcell hl _ ih => rw [← ih]; exact untilM_go (iterDictStep_skip hcell hl)

theorem DictPasses.append {n nameLen : Nat} {slots : Option String × Option String} {body : Option (List Stmt)}
    {target : Addr} {a b : List String} {s0 s1 s2 : VM ν}
    (h1 : DictPasses n nameLen slots body target a s0 s1) (h2 : DictPasses n nameLen slots body target b s1 s2) :
    DictPasses n nameLen slots body target (a ++ b) s0 s2 := by
  induction h1 with
  | nil => exact h2
  | cons hcell hl hbind hb hv _ ih => exact .cons hcell hl hbind hb hv (ih h2)
  | skip hcell hl _ ih => exact .skip hcell hl (ih h2)

theorem iterate_run {n ln : Nat} {e : Expr} {names : List Ident} {body : Option (List Stmt)}
    {s s1 s2 s3 : VM ν} {target : Addr} {slots : Option String × Option String} {r : Res Unit}
    (hT : evalExpr n e (enterScope (setLine ln s)) = (.ok target, s1))
    (hS : iterSlots names s1 = (.ok slots, s2))
    (hloop : iterLoop (iterPass n names.length slots body) target s2 = (r, s3)) :
    evalStmt (n+1) (.iterate ln e names body) s =
      (liftRes r >>= fun _ => newNull) (leaveScope (scopeHandle (setLine ln s)) s3) := by
  rw [evalStmt_iterate, M_bind_def, withScope_of (r := r) (s' := s3) (by rw [bind_ok hT, bind_ok hS]; exact hloop)]
  cases r <;> rfl

theorem iterLoop_arr {n nameLen : Nat} {slots : Option String × Option String} {body : Option (List Stmt)}
    {target : Addr} {s : VM ν} {items : List Addr} (hcell : s.heap[target]? = some (.arr items)) :
    iterLoop (iterPass n nameLen slots body) target s = untilIdxM (iterListStep n nameLen slots body) 0 items s := by
  unfold iterLoop; rw [bind_ok (getCell_ok hcell)]; rfl

theorem iterLoop_hm {n nameLen : Nat} {slots : Option String × Option String} {body : Option (List Stmt)}
    {target : Addr} {s : VM ν} {vals : List (String × Addr)} {order : List String}
    (hcell : s.heap[target]? = some (.hm vals order)) :
    iterLoop (iterPass n nameLen slots body) target s = untilM (iterDictStep n nameLen slots body target) order s := by
  unfold iterLoop; rw [bind_ok (getCell_ok hcell)]; rfl

theorem iterLoop_other {pass : Addr → Addr → M ν Bool} {target : Addr} {s : VM ν} {cell : Cell ν}
    (hcell : s.heap[target]? = some cell) (ha : ∀ xs, cell ≠ .arr xs) (hh : ∀ v o, cell ≠ .hm v o) :
    iterLoop pass target s = (.err (.rt 80), s) := by
  unfold iterLoop; rw [bind_ok (getCell_ok hcell)]
  cases cell <;> first | rfl | exact absurd rfl (ha _) | exact absurd rfl (hh _ _)

theorem iterate_list_err {n ln : Nat} {e : Expr} {names : List Ident} {body : Option (List Stmt)}
    {s s1 s2 s3 : VM ν} {target : Addr} {slots : Option String × Option String} {items : List Addr} {er : Err}
    (hT : evalExpr n e (enterScope (setLine ln s)) = (.ok target, s1))
    (hS : iterSlots names s1 = (.ok slots, s2)) (hcell : s2.heap[target]? = some (.arr items))
    (hloop : untilIdxM (iterListStep n names.length slots body) 0 items s2 = (.err er, s3)) :
    evalStmt (n+1) (.iterate ln e names body) s = (.err er, leaveScope (scopeHandle (setLine ln s)) s3) :=
  iterate_run hT hS ((iterLoop_arr hcell).trans hloop)

theorem iterate_list_stops {n ln : Nat} {e : Expr} {names : List Ident} {body : Option (List Stmt)}
    {s s1 s2 s3 s4 s5 : VM ν} {target x : Addr} {slots : Option String × Option String} {pre post : List Addr}
    {r : Res (Option Addr)}
    (hT : evalExpr n e (enterScope (setLine ln s)) = (.ok target, s1))
    (hS : iterSlots names s1 = (.ok slots, s2)) (hcell : s2.heap[target]? = some (.arr (pre ++ x :: post)))
    (hp : ListPasses n names.length slots body 0 pre s2 s3)
    (hbind : iterBind n names.length slots s3.heap.size x
      (pushCell (.num (NumOps.ofInt ((pre.length : Int) + 1))) s3) = (.ok (), s4))
    (hb : evalPureStmtBlock n body s4 = (r, s5)) (hv : passVerdict r s5 = some false) :
    evalStmt (n+1) (.iterate ln e names body) s = newNull (leaveScope (scopeHandle (setLine ln s)) s5) := by
  refine iterate_run (r := .ok ()) hT hS ?_
  rw [iterLoop_arr hcell, untilIdxM_passes hp]
  exact untilIdxM_stop (iterListStep_pass (i := 0 + pre.length) (by simpa using hbind) hb hv)

theorem iterate_dict_stops {n ln : Nat} {e : Expr} {names : List Ident} {body : Option (List Stmt)}
    {s s1 s2 s3 s4 s5 : VM ν} {target v : Addr} {slots : Option String × Option String}
    {vals vals' : List (String × Addr)} {ord' pre post : List String} {k : String} {r : Res (Option Addr)}
    (hT : evalExpr n e (enterScope (setLine ln s)) = (.ok target, s1))
    (hS : iterSlots names s1 = (.ok slots, s2)) (hcell : s2.heap[target]? = some (.hm vals (pre ++ k :: post)))
    (hp : DictPasses n names.length slots body target pre s2 s3)
    (hcell' : s3.heap[target]? = some (.hm vals' ord')) (hl : lookup k vals' = some v)
    (hbind : iterBind n names.length slots s3.heap.size v (pushCell (.str k) s3) = (.ok (), s4))
    (hb : evalPureStmtBlock n body s4 = (r, s5)) (hv : passVerdict r s5 = some false) :
    evalStmt (n+1) (.iterate ln e names body) s = newNull (leaveScope (scopeHandle (setLine ln s)) s5) := by
  refine iterate_run (r := .ok ()) hT hS ?_
  rw [iterLoop_hm hcell, untilM_passes hp]
  exact untilM_stop (iterDictStep_pass hcell' hl hbind hb hv)

theorem evalStmt_branch (n ln : Nat) (ifE : Expr) (ifB : Option (List Stmt)) (others : List (Expr × Option (List Stmt)))
    (hasElse : Bool) (elseB : Option (List Stmt)) (s : VM ν) :
    evalStmt (n+1) (.branch ln ifE ifB others hasElse elseB) s =
      condNode (evalExpr n ifE) (do let _ ← evalPureStmtBlock n ifB; newNull)
        (do firstM (branchOther n) (branchElse n hasElse elseB) others; newNull) (setLine ln s) := by
  rw [EvalArms.evalStmt_branch, lineStep, setLine_bind]

/-- the conditions of the alternatives `os` were evaluated in order and every one was 假 -/
inductive CondsFalse (n : Nat) : List (Expr × Option (List Stmt)) → VM ν → VM ν → Prop
  | nil (s : VM ν) : CondsFalse n [] s s
  | cons {o : Expr × Option (List Stmt)} {os : List (Expr × Option (List Stmt))} {s s1 s2 : VM ν} {a : Addr} :
      evalExpr n o.1 s = (.ok a, s1) → s1.heap[a]? = some (.bool false) → CondsFalse n os s1 s2 →
      CondsFalse n (o :: os) s s2

theorem CondsFalse.append {n : Nat} {a b : List (Expr × Option (List Stmt))} {s0 s1 s2 : VM ν}
    (h1 : CondsFalse n a s0 s1) (h2 : CondsFalse n b s1 s2) : CondsFalse n (a ++ b) s0 s2 := by
  induction h1 with
  | nil => exact h2
  | cons hc hf _ ih => exact .cons hc hf (ih h2)

theorem firstM_condsFalse {n : Nat} {pre : List (Expr × Option (List Stmt))} {s s' : VM ν}
    (h : CondsFalse n pre s s') (d : M ν Unit) (rest : List (Expr × Option (List Stmt))) :
    firstM (branchOther n) d (pre ++ rest) s = firstM (branchOther n) d rest s' := by
  induction h with
  | nil => rfl
  | cons hc hf _ ih =>
    rw [← ih]; exact firstM_cons_none (by rw [branchOther_eq, condNode_false hc hf]; rfl)

theorem branch_after {n ln : Nat} {c : Expr} {ifB elseB : Option (List Stmt)}
    {others pre rest : List (Expr × Option (List Stmt))} {he : Bool} {s s1 s2 : VM ν} {a : Addr}
    (hc : evalExpr n c (setLine ln s) = (.ok a, s1)) (hf : s1.heap[a]? = some (.bool false))
    (hpre : CondsFalse n pre s1 s2) (hsplit : others = pre ++ rest) :
    evalStmt (n+1) (.branch ln c ifB others he elseB) s =
      ((do firstM (branchOther n) (branchElse n he elseB) rest; newNull) : M ν Addr) s2 := by
  rw [hsplit, evalStmt_branch, condNode_false hc hf]
  exact bind_eq_of_eq (firstM_condsFalse hpre _ rest)

theorem firstM_branchOther_true {n : Nat} {oc : Expr} {ob : Option (List Stmt)} {s2 s3 : VM ν} {b : Addr}
    (hoc : evalExpr n oc s2 = (.ok b, s3)) (hot : s3.heap[b]? = some (.bool true)) (d : M ν Unit)
    (post : List (Expr × Option (List Stmt))) :
    firstM (branchOther n) d ((oc, ob) :: post) s2 = ((do let _ ← evalPureStmtBlock n ob; pure ()) : M ν Unit) s3 := by
  simp only [firstM]
  rw [branchOther_eq, bind_eq_of_eq (condNode_true hoc hot)]
  simp only [bind_assoc, pure_bind]

theorem evalStmtBlock_eq (n : Nat) (stmts : List Stmt) (s : VM ν) :
    evalStmtBlock (n+1) (some stmts) s = (do hoistDecls n stmts; evalPureStmtBlock n (some stmts)) s :=
  congrFun (evalStmtBlock_some n stmts) s

theorem hoistDecls_no_decl (n : Nat) (stmts : List Stmt) (h : ∀ st ∈ stmts, isDecl st = false) (s : VM ν) :
    hoistDecls n stmts s = (.ok (), s) := by
  unfold hoistDecls
  induction stmts generalizing s with
  | nil => rfl
  | cons st rest ih =>
    have h1 : isDecl st = false := h st (by simp)
    have h2 := ih (fun x hx => h x (by simp [hx]))
    rw [List.forM_eq_forM, List.forM_cons]
    cases st <;> simp [isDecl] at h1 <;> exact h2 s

theorem evalExecBlock_ok {n : Nat} {inputs : List Ident} {body : Option (List Stmt)}
    {catches : List (Option Ident × Option (List Stmt))} {params : List Addr} {s s1 s3 : VM ν} {o : Option Addr}
    (hpre : execPrelude inputs params (enterScope s) = (.ok (), s1)) (hb : evalStmtBlock n body s1 = (.ok o, s3)) :
    evalExecBlock (n+1) (some (.mk inputs body catches)) params s =
      match o with
      | some v => (.ok v, leaveScope (scopeHandle s) s3)
      | none => (.ok s3.heap.size, leaveScope (scopeHandle s) (newNull s3).2) := by
  rw [evalExecBlock_eq]
  cases o <;>
  · refine withScope_of ?_
    rw [bind_ok (rfl : getVM (enterScope s) = (.ok (enterScope s), enterScope s)), bind_ok hpre]
    simp only [Model.tryCatch, hb]
    rfl

theorem execDirectFunction_enter (n : Nat) {fname : String} (params : List Addr) {s : VM ν} {fv : Addr} {mid : Int}
    {c : Cell ν} (hfind : findElementWithModule fname s = (.ok (fv, mid), s)) (hcell : s.heap[fv]? = some c) :
    execDirectFunction (n+1) fname params s =
      runFn n none params (rtErr 81) c (pushFrame { moduleId := mid, callType := 2 } s).2 := by
  rw [execDirectFunction_eq, bind_ok hfind]
  simp only
  rw [bind_ok (pushFrame_ok _ s),
    bind_ok (getCell_ok (by rw [(congrArg VM.heap (pushFrame_state _ s) :)]; exact hcell))]

/-- `Function.Exec` on a method of the program: the outcome of its body through `fnResult` -/
theorem execFunction_user_run {n : Nat} {exec : Option ExecBlock} {this : Option Addr} {params : List Addr}
    {s s' : VM ν} {r : Res Addr} (hbody : evalExecBlock n exec params s = (r, s')) :
    execFunction (n+1) (.user exec) this params s = fnResult r s' := by
  rw [execFunction_user, tryCatch_run hbody]

/-- the machine when the main program's body starts: module 主模块 allocated, script frame pushed -/
def programStart (s : VM ν) : VM ν :=
  (pushFrame { moduleId := 0, callType := 1 }
    { s with modules := s.modules.push { name := "主模块", hasProgram := true }, csModuleID := 0 }).2

theorem runProgram_eq (fuel : Nat) (body : Option (List Stmt)) (catches : List (Option Ident × Option (List Stmt)))
    (inputs : List (String × Cell ν)) (s : VM ν) :
    runProgram fuel ⟨[], some (.mk [] body catches)⟩ inputs s =
      ((do let r ← evalExecBlock fuel (some (.mk [] body catches)) []; popFrame; pure r) : M ν Addr) (programStart s) := by
  unfold runProgram runProgramWith evalProgram
  simp [bind, modifyVM, pushFrame, programStart, pure]

/-- `Quiet sr s'`: from `sr` to `s'` nothing was displayed, no frame was pushed, popped or changed, no global
changed, no existing heap cell was written: the heap only grew by 空 cells (the values of the constructs that
ended).  (Scopes: see `leaveScope` — blocks that end pop their names.) -/
def Quiet (sr s' : VM ν) : Prop :=
  s'.out = sr.out ∧ s'.stack = sr.stack ∧ s'.globals = sr.globals ∧
  ∃ k, s'.heap.toList = sr.heap.toList ++ List.replicate k Cell.null

theorem Quiet.refl (s : VM ν) : Quiet s s := ⟨rfl, rfl, rfl, 0, by simp⟩

theorem Quiet.leaveScope {sr s' : VM ν} (h : Quiet sr s') (hd : Option Int) : Quiet sr (leaveScope hd s') := by
  obtain ⟨h1, h2, h3, k, h4⟩ := h
  exact ⟨by rw [leaveScope_out, h1], by rw [leaveScope_stack, h2], by rw [leaveScope_globals, h3],
    k, by rw [leaveScope_heap, h4]⟩

theorem Quiet.newNull {sr s' : VM ν} (h : Quiet sr s') : Quiet sr (newNull s').2 := by
  obtain ⟨h1, h2, h3, k, h4⟩ := h
  refine ⟨h1, h2, h3, k + 1, ?_⟩
  show (s'.heap.push Cell.null).toList = _
  rw [Array.toList_push, h4, List.replicate_succ', List.append_assoc]

theorem evalStmt_ret (n ln : Nat) (e : Expr) (s : VM ν) :
    evalStmt (n+1) (.ret ln e) s =
      ((do let v ← evalExpr n e; setTopFrame fun fr => { fr with ret := some v }; pure v) : M ν Addr) (setLine ln s) := by
  rw [EvalArms.evalStmt_ret]; exact setLine_bind ..

theorem evalStmt_ret_ok {n ln : Nat} {e : Expr} {s s1 : VM ν} {v : Addr} {fr : Frame} {rest : List Frame}
    (he : evalExpr n e (setLine ln s) = (.ok v, s1)) (hst : s1.stack = fr :: rest) :
    evalStmt (n+1) (.ret ln e) s = (.ok v, { s1 with stack := { fr with ret := some v } :: rest }) := by
  rw [evalStmt_ret, bind_ok he]
  simp [bind, setTopFrame, modifyVM, hst, pure]

theorem evalStmt_continue (n ln : Nat) (s : VM ν) :
    evalStmt (n+1) (.continue ln) s = (.err .sigContinue, setLine ln s) := by
  rw [EvalArms.evalStmt_continue]; exact setLine_bind ..

theorem evalStmt_break (n ln : Nat) (s : VM ν) :
    evalStmt (n+1) (.break ln) s = (.err .sigBreak, setLine ln s) := by
  rw [EvalArms.evalStmt_break]; exact setLine_bind ..

/-- a statement or a block (tag instead of a mutual inductive) -/
inductive Node where
  | stmt (st : Stmt)
  | block (b : Option (List Stmt))

/-- `RetPath n nd s rv sr s'`: evaluating `nd` with fuel `n` from `s` runs — through statements that end
normally with the slot empty, conditions that are 假, complete loop passes — into a `输出` statement that stores
`rv`; `sr` is the state right after that 输出 statement, `s'` the state when `nd` is finished.
Nothing is assumed about what *follows* the path: the statements after it in each block (`post`), the later
alternatives of a branch, the remaining elements / passes of each loop are arbitrary. -/
inductive RetPath : Nat → Node → VM ν → Addr → VM ν → VM ν → Prop
  | ret {n ln : Nat} {e : Expr} {s s1 : VM ν} {v : Addr} {fr : Frame} {rest : List Frame} :
      evalExpr n e (setLine ln s) = (.ok v, s1) → s1.stack = fr :: rest →
      RetPath (n+1) (.stmt (.ret ln e)) s v
        { s1 with stack := { fr with ret := some v } :: rest } { s1 with stack := { fr with ret := some v } :: rest }
  | block {n : Nat} {pre post : List Stmt} {st : Stmt} {s s1 sr s2 : VM ν} {last : Option Addr} {rv : Addr} :
      Steps (evalStmt n) none pre (enterScope s) last s1 → isDecl st = false →
      RetPath n (.stmt st) s1 rv sr s2 →
      RetPath (n+1) (.block (some (pre ++ st :: post))) s rv sr (leaveScope (scopeHandle s) s2)
  | branchIf {n ln : Nat} {c : Expr} {ifB elseB : Option (List Stmt)} {others : List (Expr × Option (List Stmt))}
      {he : Bool} {s s1 sr s2 : VM ν} {a rv : Addr} :
      evalExpr n c (setLine ln s) = (.ok a, s1) → s1.heap[a]? = some (.bool true) →
      RetPath n (.block ifB) s1 rv sr s2 →
      RetPath (n+1) (.stmt (.branch ln c ifB others he elseB)) s rv sr (newNull s2).2
  | branchOther {n ln : Nat} {c oc : Expr} {ifB elseB ob : Option (List Stmt)}
      {pre post : List (Expr × Option (List Stmt))} {he : Bool} {s s1 s2 s3 sr s4 : VM ν} {a b rv : Addr} :
      evalExpr n c (setLine ln s) = (.ok a, s1) → s1.heap[a]? = some (.bool false) →
      CondsFalse n pre s1 s2 →
      evalExpr n oc s2 = (.ok b, s3) → s3.heap[b]? = some (.bool true) →
      RetPath n (.block ob) s3 rv sr s4 →
      RetPath (n+1) (.stmt (.branch ln c ifB (pre ++ (oc, ob) :: post) he elseB)) s rv sr (newNull s4).2
  | branchElse {n ln : Nat} {c : Expr} {ifB elseB : Option (List Stmt)} {others : List (Expr × Option (List Stmt))}
      {s s1 s2 sr s3 : VM ν} {a rv : Addr} :
      evalExpr n c (setLine ln s) = (.ok a, s1) → s1.heap[a]? = some (.bool false) →
      CondsFalse n others s1 s2 →
      RetPath n (.block elseB) s2 rv sr s3 →
      RetPath (n+1) (.stmt (.branch ln c ifB others true elseB)) s rv sr (newNull s3).2
  | while {n ln k : Nat} {c : Expr} {body : Option (List Stmt)} {s s1 s2 sr s3 : VM ν} {a rv : Addr} :
      WhilePasses n ln c body k (setLine ln s) s1 → k < n →
      evalExpr n c (setLine ln s1) = (.ok a, s2) → s2.heap[a]? = some (.bool true) →
      RetPath n (.block body) s2 rv sr s3 →
      RetPath (n+1) (.stmt (.while ln c body)) s rv sr (newNull s3).2
  | iterList {n ln : Nat} {e : Expr} {names : List Ident} {body : Option (List Stmt)} {s s1 s2 s3 s4 sr s5 : VM ν}
      {target x rv : Addr} {slots : Option String × Option String} {pre post : List Addr} :
      evalExpr n e (enterScope (setLine ln s)) = (.ok target, s1) → iterSlots names s1 = (.ok slots, s2) →
      s2.heap[target]? = some (.arr (pre ++ x :: post)) →
      ListPasses n names.length slots body 0 pre s2 s3 →
      iterBind n names.length slots s3.heap.size x
        (pushCell (.num (NumOps.ofInt ((pre.length : Int) + 1))) s3) = (.ok (), s4) →
      RetPath n (.block body) s4 rv sr s5 →
      RetPath (n+1) (.stmt (.iterate ln e names body)) s rv sr
        (newNull (leaveScope (scopeHandle (setLine ln s)) s5)).2
  | iterDict {n ln : Nat} {e : Expr} {names : List Ident} {body : Option (List Stmt)} {s s1 s2 s3 s4 sr s5 : VM ν}
      {target v rv : Addr} {slots : Option String × Option String} {vals vals' : List (String × Addr)}
      {ord' pre post : List String} {k : String} :
      evalExpr n e (enterScope (setLine ln s)) = (.ok target, s1) → iterSlots names s1 = (.ok slots, s2) →
      s2.heap[target]? = some (.hm vals (pre ++ k :: post)) →
      DictPasses n names.length slots body target pre s2 s3 →
      s3.heap[target]? = some (.hm vals' ord') → lookup k vals' = some v →
      iterBind n names.length slots s3.heap.size v (pushCell (.str k) s3) = (.ok (), s4) →
      RetPath n (.block body) s4 rv sr s5 →
      RetPath (n+1) (.stmt (.iterate ln e names body)) s rv sr
        (newNull (leaveScope (scopeHandle (setLine ln s)) s5)).2

end ZnVerif.Proofs.ControlFlow
