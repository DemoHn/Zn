/-
The list members of `builtinMethod` in `Model/Interp.lean` (the evaluator's own code for pkg/value/array.go, working on
a heap cell `.arr items`) against the pure, element-generic model of the same Go code in `Model/Containers.lean`,
instantiated with `α := Addr`.  Here: the methods that store a copy of an argument (前增 后增
新增/添加 合并), the argument checks, and the list expressions of `Interp.lean` as `Containers` operations; the methods
that look into the element cells are in `BridgesListSearch.lean`.

Shape of every bridge: for a receiver cell `.arr items`, the evaluator's computation *is* (equation between state
transformers, all outcomes included) "validate the arguments, copy what is stored (`dup`), apply the `Containers`
operation to `items`, store the resulting list into the receiver's cell, answer".  Each equation is the definition of
`builtinMethod` read on a list cell, run past the checks that leave the state alone.
-/
import ZnVerif.Proofs.BridgesLift
import ZnVerif.Proofs.InsertArray
import ZnVerif.Proofs.HeapStores

namespace ZnVerif.Proofs.Bridges
open ZnVerif ZnVerif.Model
open ZnVerif.Proofs.Calls (getCell_bind)

variable {ν : Type} [NumOps ν]

theorem arrayInsert_guard (t : List Addr) (idx : Int) (x : Addr) :
    Containers.arrayInsert t x idx =
      if idx < 0 ∧ (t.length : Int) + idx < 0 then .err 40 else Containers.insertArrayValue t idx x := rfl

/-- the range check of 新增 does not look at the element; past it the evaluator's `insertArrayValue` and the one of
`Containers` answer the same list -/
theorem insert_guard_cases (t : List Addr) (idx : Int) :
    (idx < 0 ∧ (t.length : Int) + idx < 0) ∧ (∀ y, Containers.arrayInsert t y idx = .err 40) ∨
    ¬ (idx < 0 ∧ (t.length : Int) + idx < 0) ∧
      ∀ y, ∃ l, Containers.arrayInsert t y idx = .ok l ∧ Model.insertArrayValue t idx y = .ok l := by
  by_cases hg : idx < 0 ∧ (t.length : Int) + idx < 0
  · exact .inl ⟨hg, fun y => if_pos hg⟩
  · exact .inr ⟨hg, fun y => ⟨_, (if_neg hg).trans ((Containers.insertArrayValue_eq t idx y).trans (if_neg hg)),
      insertArrayValue_eq_insertNth t idx y hg⟩⟩

theorem shiftLeft_bridge (items : List Addr) :
    Containers.shiftArrayValue items true = (match items with | [] => (none, []) | x :: rest => (some x, rest)) := by
  cases items <;> rfl

theorem shiftRight_bridge (items : List Addr) :
    Containers.shiftArrayValue items false = (items.getLast?, items.dropLast) := by
  rw [Containers.shiftRight_eq]; rfl

section methods
variable (n : Nat) (a : Addr) (items : List Addr) (s : VM ν)

theorem bm_prepend (x : Addr) (hc : s.heap[a]? = some (.arr items)) :
    builtinMethod n a "前增" [x] s =
      (do validateExact [x] ["any"]
          let x' ← dup n x
          storeArr a (Containers.arrayPrepend items x')
          pure a) s := by
  simp only [Containers.arrayPrepend_eq]
  unfold builtinMethod
  rw [getCell_bind _ hc]
  rfl

theorem bm_append (x : Addr) (hc : s.heap[a]? = some (.arr items)) :
    builtinMethod n a "后增" [x] s =
      (do validateExact [x] ["any"]
          let x' ← dup n x
          storeArr a (Containers.arrayAppend items x')
          pure a) s := by
  simp only [Containers.arrayAppend_eq]
  unfold builtinMethod
  rw [getCell_bind _ hc]
  rfl

/-- what 新增 / 添加 does once the position argument has been read as `idx = int(p)`: the range check needs no copy,
so the evaluator makes it first; `Containers.arrayInsert` makes the same check on any element -/
def insertCore (x : Addr) (idx : Int) : M ν Addr :=
  match Containers.arrayInsert items x idx with
  | .err c => rtErr c
  | _ => do
    let x' ← dup n x
    storeArr a (Containers.arrayInsert items x' idx)
    pure a

theorem bm_insert (name : String) (hname : name = "新增" ∨ name = "添加") (x p : Addr) (pv : ν)
    (hc : s.heap[a]? = some (.arr items)) (hp : s.heap[p]? = some (.num pv)) :
    builtinMethod n a name [x, p] s =
      (do validateExact [x, p] ["any", "number"]
          insertCore n a items x (NumOps.toInt pv)) s := by
  unfold builtinMethod
  rw [getCell_bind _ hc]
  rcases hname with rfl | rfl <;>
  · refine bind_same_congr (validateExact_same _ _) fun _ => (getCell_bind _ hp).trans ?_
    unfold insertCore
    rcases insert_guard_cases items (NumOps.toInt pv) with ⟨hg, he⟩ | ⟨hg, hok⟩
    · rw [he x]; exact congrFun (if_pos hg) s
    · obtain ⟨l0, h0, _⟩ := hok x
      rw [h0]
      refine (congrFun (if_neg hg) s).trans (bind_congr_fun (fun x' s' => ?_) s)
      obtain ⟨l, h1, h2⟩ := hok x'
      simp only [h1, h2]
      rfl

theorem bm_merge (vals : List Addr) (hc : s.heap[a]? = some (.arr items)) :
    builtinMethod n a "合并" vals s =
      (do validateAll vals "array"
          let extra ← vals.mapM (copyItems n)
          setCell a (.arr (Containers.arrayMerge items extra))
          alloc (.arr (Containers.arrayMerge items extra))) s := by
  simp only [Containers.arrayMerge_eq, Spec.Seq.merge]
  exact builtinMethod_merge_eq n a vals items s hc

/-- the argument types of the methods that take a fixed number of arguments (左移 右移 look at none, 合并 takes any number
of lists, 拼接 checks the elements first) -/
def argTypes : List (String × List String) :=
  [("新增", ["any", "number"]), ("添加", ["any", "number"]), ("前增", ["any"]), ("后增", ["any"]), ("包含", ["any"]),
   ("寻找", ["any"]), ("交换", ["number", "number"])]

theorem bm_check_fails (name : String) (tys : List String) (vals : List Addr) (e : Err)
    (hc : s.heap[a]? = some (.arr items)) (hname : (name, tys) ∈ argTypes)
    (hv : validateExact vals tys s = (.err e, s)) : builtinMethod n a name vals s = (.err e, s) := by
  simp only [argTypes, List.mem_cons, Prod.mk.injEq, List.not_mem_nil, or_false] at hname
  unfold builtinMethod
  rw [getCell_bind _ hc]
  rcases hname with ⟨rfl, rfl⟩ | ⟨rfl, rfl⟩ | ⟨rfl, rfl⟩ | ⟨rfl, rfl⟩ | ⟨rfl, rfl⟩ | ⟨rfl, rfl⟩ | ⟨rfl, rfl⟩ <;>
    exact Proofs.Calls.bind_err hv

theorem sp_unknown (name : String) (v : Addr) (hc : s.heap[a]? = some (.arr items))
    (hn : name ∉ ["首项", "末项"]) :
    setProperty a name v s = (.err (.rt 45), s) := by
  simp only [List.mem_cons, List.not_mem_nil, or_false, not_or] at hn
  obtain ⟨h1, h2⟩ := hn
  unfold setProperty
  rw [getCell_bind _ hc]
  simp only
  rfl

theorem copy_store_inv (x : Addr) (f : Addr → Containers.Res (List Addr)) (s' : VM ν) (r : Addr)
    (h : (do let x' ← dup n x; storeArr a (f x'); pure a : M ν Addr) s = (.ok r, s')) :
    ∃ x' s1 l, dup n x s = (.ok x', s1) ∧ f x' = .ok l ∧ a < s1.heap.size ∧
      s' = { s1 with heap := s1.heap.set! a (.arr l) } ∧ r = a := by
  obtain ⟨x', s1, hd, h⟩ := Calls.bind_ok_inv h
  obtain ⟨u, s2, hs, h⟩ := Calls.bind_ok_inv h
  obtain ⟨l, hl, hlt, rfl⟩ := storeArr_ok_inv hs
  obtain ⟨rfl, rfl⟩ := pure_ok_inv h
  exact ⟨x', s1, l, hd, hl, hlt, rfl, rfl⟩

variable (s' : VM ν) (r : Addr)

theorem bm_merge_ok (vals : List Addr) (hc : s.heap[a]? = some (.arr items))
    (h : builtinMethod n a "合并" vals s = (.ok r, s')) :
    ∃ extra s1, vals.mapM (copyItems n) s = (.ok extra, s1) ∧ a < s1.heap.size ∧
      s' = { s1 with heap := (Array.push (s1.heap.set! a (.arr (Containers.arrayMerge items extra)))
                (.arr (Containers.arrayMerge items extra))) } ∧
      r = s1.heap.size := by
  rw [bm_merge n a items s vals hc] at h
  obtain ⟨_, _, h⟩ := bind_same_ok_inv (validateAll_same _ _) h
  obtain ⟨extra, s1, hm, h⟩ := Calls.bind_ok_inv h
  obtain ⟨u, s2, hs, h⟩ := Calls.bind_ok_inv h
  obtain ⟨hlt, rfl⟩ := setCell_ok_inv hs
  cases h
  exact ⟨extra, s1, hm, hlt, rfl, by simp [Array.set!]⟩

end methods

end ZnVerif.Proofs.Bridges
