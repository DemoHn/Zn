/-
The frame discipline of expression evaluation (used by C02 `return_path_complete`).

`Keep m` — whenever `m` ends normally, the call stack is the one `m` started from, frame by frame, up to the `line`
marker and the `started` mark of the top frame (in particular the caller's return slot, its `this`, and every frame below are untouched);
and `m` never ends with a loop signal.

Holds for `evalExpr`, `memberIV` and the three kinds of calls (`execDirectFunction`, `execMethodFunction`, `construct`)
at every fuel: they are `Fr .lit true` (`allFr`, Proofs/StackBalBlock) — a call pushes one frame and runs code that pops
exactly that frame on a normal end, so the stack is then *literally* the caller's.  The statements that are neither
输出 nor a loop signal and contain no block write `line` and `started` only.
-/
import ZnVerif.Proofs.StackBalBlock
set_option linter.unusedSectionVars false

namespace ZnVerif.Proofs.RetKeep
open ZnVerif.Model ZnVerif.Proofs.StackBal

variable {ν : Type} [NumOps ν]

/-- a frame without its line marker and its `started` mark (what a statement that is not 输出 writes in its frame) -/
def coreL (fr : Frame) : Frame := { fr with line := 0, started := false }

def normL : List Frame → List Frame
  | [] => []
  | f :: r => coreL f :: r

/-- the same stack up to `line` / `started` of the top frame: same return slot, same `this`, same module, same frames
below -/
def SameL (st st' : List Frame) : Prop := normL st' = normL st

theorem SameL.refl (st : List Frame) : SameL st st := rfl
theorem SameL.of_eq {a b : List Frame} (h : b = a) : SameL a b := by rw [h]; exact SameL.refl _

theorem coreL_eq_iff {f f' : Frame} :
    coreL f' = coreL f ↔ f'.moduleId = f.moduleId ∧ f'.callType = f.callType ∧ f'.this = f.this ∧ f'.ret = f.ret := by
  cases f; cases f'; simp [coreL]

/-- only `line` and `started` are written -/
def lineRel : FrameRel :=
  ⟨fun f f' => coreL f' = coreL f, fun _ => rfl, fun h1 h2 => h2.trans h1,
   fun h => (coreL_eq_iff.1 h).1⟩

/-- `SameL` is `Top` along `lineRel`, as `SameStack` is along `.marks` and equality along `.lit` -/
theorem top_line {a b : List Frame} : Top lineRel a b ↔ SameL a b := by
  cases a with
  | nil => cases b <;> simp [Top, SameL, normL]
  | cons f r =>
    refine ⟨fun ⟨f', e, h⟩ => by rw [e]; exact congrArg (· :: r) h, fun h => ?_⟩
    cases b with
    | nil => cases h
    | cons f' r' =>
      simp only [SameL, normL, List.cons.injEq] at h
      exact ⟨f', by rw [h.2], h.1⟩

theorem sameL_iff (st st' : List Frame) :
    SameL st st' ↔ (st = [] ∧ st' = []) ∨
      ∃ f f' r, st = f :: r ∧ st' = f' :: r ∧ f'.moduleId = f.moduleId ∧ f'.callType = f.callType ∧
        f'.this = f.this ∧ f'.ret = f.ret := by
  rw [← top_line, top_iff]
  simp only [lineRel, coreL_eq_iff]

theorem SameL.slot {s s' : VM ν} (h : SameL s.stack s'.stack) : ControlFlow.retSlot s' = ControlFlow.retSlot s := by
  unfold ControlFlow.retSlot
  rcases (sameL_iff _ _).1 h with ⟨h1, h2⟩ | ⟨f, f', r, h1, h2, _, _, _, h4⟩
  · rw [h1, h2]
  · rw [h1, h2]; exact h4

theorem SameL.length_eq {st st' : List Frame} (h : SameL st st') : st'.length = st.length := (top_line.2 h).length_eq

theorem SameL.tail_eq {st st' : List Frame} (h : SameL st st') : st'.tail = st.tail := by
  rcases (sameL_iff st st').1 h with ⟨rfl, rfl⟩ | ⟨f, f', r, rfl, rfl, _⟩ <;> rfl

/-- a normal end leaves the starting stack (up to `line` / `started` of the top frame); never a loop signal -/
structure Keep {α} (m : M ν α) : Prop where
  same : ∀ s, resIsOk (m s).1 = true → SameL s.stack (m s).2.stack
  nosig : ∀ s, resIsSig (m s).1 = false

theorem Keep.ofQuiet {α} {m : M ν α} (h : Quiet m) : Keep m :=
  { same := fun s _ => SameL.of_eq (h.stack s)
    nosig := h.nosig }

theorem Keep.ofFr {α} {R : FrameRel} {m : M ν α} (hR : R.le lineRel) (h : Fr R true m) : Keep m :=
  ⟨fun s hok => top_line.1 (((h.run s).top (okOrSig_of_ok hok)).mono hR), h.nosig rfl⟩

theorem Keep.run {α} {m : M ν α} (hk : Keep m) {s s' : VM ν} {r : Res α} (h : m s = (r, s')) :
    (resIsOk r = true → ControlFlow.retSlot s' = ControlFlow.retSlot s) ∧ resIsSig r = false := by
  have h1 := hk.same s; have h2 := hk.nosig s
  rw [h] at h1 h2
  exact ⟨fun hok => (h1 hok).slot, h2⟩

structure AllKeep (n : Nat) : Prop where
  evalExpr : ∀ e, Keep (evalExpr (ν := ν) n e)
  memberIV : ∀ e, Keep (memberIV (ν := ν) n e)
  execDirectFunction : ∀ f ps, Keep (execDirectFunction (ν := ν) n f ps)
  execMethodFunction : ∀ r f ps, Keep (execMethodFunction (ν := ν) n r f ps)
  construct : ∀ c ps, Keep (construct (ν := ν) n c ps)

theorem allKeep (n : Nat) : AllKeep (ν := ν) n :=
  have h := allFr (ν := ν) n
  have lit := FrameRel.lit_le lineRel
  { evalExpr := fun e => .ofFr lit (h.evalExpr e)
    memberIV := fun e => .ofFr lit (h.memberIV e)
    execDirectFunction := fun f ps => .ofFr lit (h.execDirectFunction f ps)
    execMethodFunction := fun r f ps => .ofFr lit (h.execMethodFunction r f ps)
    construct := fun c ps => .ofFr lit (h.construct c ps) }

/-- the statements that are not 输出, not a loop signal and contain no block -/
def noRetStmt : Stmt → Bool
  | .varDecl .. => true
  | .empty _ => true
  | .funcDecl .. => true
  | .classDecl .. => true
  | .throw .. => true
  | .expr _ => true
  | .nil => true
  | _ => false

theorem keep_evalStmt (n : Nat) (st : Stmt) (h : noRetStmt st = true) : Keep (evalStmt (ν := ν) n st) := by
  cases n with
  | zero => exact Keep.ofQuiet Quiet.outOfFuel
  | succ n =>
    have ih := allFr (ν := ν) n
    refine .ofFr (FrameRel.le_refl _) ?_
    cases st <;> first
      | (cases h; done)
      | (rw [Model.evalStmt]
         refine .bind (.setTopFrame _ fun _ => rfl) fun _ => ?_
         fr_tac ih)

end ZnVerif.Proofs.RetKeep
