/-
C03 at character level, free layout, lexer part 2: what `PreNextToken` does on blanks and line breaks of any kind.

 * `skipBlank_ws`     — a white-space character is skipped: `skipBlank l = skipBlank l.adv`;
 * `skipBlank_brk`    — a line break LF / CR / CR LF / LF CR followed by `k'` steps of the text's indentation (TABs or groups of four
                        spaces): the line just left gets its `LineText`, the new line is appended with indentation `k'`, `IndentType`
                        is set at the first indented line, and the scan goes on from the first character after the indentation —
                        whether `parseLine` loops (`goto head`) or `PreNextToken`'s loop comes round again;
 * `nextToken_item`, `nextToken_end`, `nextToken_end_again`, `nextToken_begin` — where a token is read.

First the lexer by its fields with the line table as a list (`lx`), the lexer between two tokens (`bst src ity dn s k pos`: the lines
`dn` are behind, the current line starts at `s` with indentation `k` and its `LineText` is still nil, the cursor is at `pos`), and
small facts about `lastLineStart`, `parseLine`.
The lexer between two tokens of a document is `c.state src` for an account `c : GCtx` (lines done, current line, position); the lemmas are
stated from the invariant `GInv ind src c (e :: es)` — the text from the cursor on is what the elements render — to the account after `e`.
-/
import ZnVerif.Proofs.RenderGapItems

namespace ZnVerif.Proofs.RenderLex
open ZnVerif.Model ZnVerif.Generated.Tokens
open ZnVerif.Spec ZnVerif.Spec.RenderChars

/-- a lexer by its fields, the line table as a list -/
def lx (src : Array Nat) (ity : Nat) (lines : List LineInfo) (pos : Nat) (bl : Bool) : Lexer :=
  { src := src, indentType := ity, lines := lines.toArray, cursor := pos, beginLex := bl }

/-- the lexer between two tokens -/
def bst (src : Array Nat) (ity : Nat) (dn : List LineInfo) (s k pos : Nat) : Lexer :=
  lx src ity (dn ++ [openLine s k]) pos false

theorem modify_last {α : Type} (xs : List α) (c : α) (f : α → α) : (xs ++ [c]).modify xs.length f = xs ++ [f c] := by
  induction xs with
  | nil => rfl
  | cons x xs ih => simp [ih]

theorem lastLineStart_lx (src : Array Nat) (ity : Nat) (dn : List LineInfo) (c : LineInfo) (pos : Nat) (bl : Bool) :
    lastLineStart (lx src ity (dn ++ [c]) pos bl) =
      some (if ity == cIndentSpace then c.startIdx + 4 * c.indents
        else if ity == cIndentTab then c.startIdx + c.indents else c.startIdx) := by
  unfold lastLineStart lx
  simp

theorem parseLine_once (ch : Nat) (l l' : Lexer) (h : parseLineBody ch true l = (.ok (), l'))
    (hc : (l'.cur == runeCR || l'.cur == runeLF) = false) : parseLine ch true l = (.ok (), l') := by
  unfold parseLine
  apply iterate_done
  unfold parseLineStep
  rw [h]
  simp only [hc, Bool.false_eq_true, ↓reduceIte]

theorem iterate_congr {ρ σ : Type} {step : Lexer → σ → Step ρ σ × Lexer} {hc : Consumes step} {l l' : Lexer} {s s' : σ}
    (h : step l s = step l' s') : iterate step hc l s = iterate step hc l' s' := by
  cases hs : step l' s' with
  | mk r l2 =>
    cases r with
    | done r => rw [iterate_done (h.trans hs), iterate_done hs]
    | cont s2 => rw [iterate_cont (h.trans hs), iterate_cont hs]

theorem skipBlank_ws (l : Lexer) (h : isWhiteSpace l.cur = true) : skipBlank l = skipBlank l.adv := by
  have h1 : skipBlank l = skipBlank (parseSpaces l) := by
    unfold skipBlank
    apply iterate_cont
    unfold skipBlankStep
    simp only [h, ↓reduceIte]
  have h2 : parseSpaces l = parseSpaces l.adv := by
    conv => lhs; rw [parseSpaces]
    simp only [h, ↓reduceDIte]
  rw [h1, h2]
  by_cases h3 : isWhiteSpace l.adv.cur = true
  · symm
    unfold skipBlank
    apply iterate_cont
    unfold skipBlankStep
    simp only [h3, ↓reduceIte]
  · have : parseSpaces l.adv = l.adv := by
      rw [parseSpaces]; simp [h3]
    rw [this]

theorem parseLineBody_eq (ch : Nat) (l l3 r1 r2 : Lexer) (n' n : Nat)
    (hslice : sliceLastLine (l.pastBreak ch) l.cursor = some l3)
    (hcount : (if (l.pastBreak ch).cur == runeSP || (l.pastBreak ch).cur == runeTAB
        then countSame (l.pastBreak ch).cur (l3.pushLine { indents := 0, startIdx := l3.cursor }) 1
        else (l3.pushLine { indents := 0, startIdx := l3.cursor }, 0)) = (r1, n'))
    (hset : setIndentType r1 n' (l.pastBreak ch).cur = (.ok n, r2)) :
    parseLineBody ch true l = (.ok (), setLastIndents r2 n) := by
  unfold parseLineBody
  unfold Lexer.pastBreak at hslice hcount hset
  simp only [hslice, hcount, hset, ↓reduceIte]

/-- a line break is passed: the scan goes on after it, in whichever loop -/
theorem skipBlank_of_body (ch : Nat) (l l' : Lexer) (hcur : l.cur = ch) (hbrk : ch = runeCR ∨ ch = runeLF)
    (hbody : parseLineBody ch true l = (.ok (), l')) : skipBlank l = skipBlank l' := by
  have hws : isWhiteSpace ch = false := by rcases hbrk with rfl | rfl <;> decide
  have hb : (ch == runeCR || ch == runeLF) = true := by rcases hbrk with rfl | rfl <;> decide
  by_cases hnext : (l'.cur == runeCR || l'.cur == runeLF) = true
  · -- `goto head`: the same pass is the first pass of the next round
    have hpl : parseLine ch true l = parseLine l'.cur true l' := by
      unfold parseLine
      apply iterate_cont
      unfold parseLineStep
      rw [hbody]
      simp only [hnext, ↓reduceIte]
    have hws' : isWhiteSpace l'.cur = false := by
      have : l'.cur = runeCR ∨ l'.cur = runeLF := by simpa using hnext
      rcases this with e | e <;> rw [e] <;> decide
    unfold skipBlank
    apply iterate_congr
    unfold skipBlankStep
    rw [hcur]
    simp only [hws, hb, hws', hnext, Bool.false_eq_true, ↓reduceIte, hpl]
  · have hpl := parseLine_once ch l l' hbody (by simpa using hnext)
    unfold skipBlank
    apply iterate_cont
    unfold skipBlankStep
    rw [hcur]
    simp only [hws, hb, Bool.false_eq_true, ↓reduceIte, hpl]

/-- the indent type after a line with `k` steps -/
def ityAfter (ind : Indent) (ity k : Nat) : Nat := if k = 0 then ity else ind.code

/-- `IndentType` is the text's, or still unknown and the current line is not indented -/
def ItyOK (ind : Indent) (ity k : Nat) : Prop := ity = ind.code ∨ (ity = cIndentUnknown ∧ k = 0)

theorem ItyOK.after {ind : Indent} {ity k : Nat} (h : ItyOK ind ity k) (k' : Nat) : ItyOK ind (ityAfter ind ity k') k' := by
  unfold ityAfter
  by_cases hk : k' = 0
  · simp only [hk, ↓reduceIte]
    rcases h with h | ⟨h, _⟩
    · exact Or.inl h
    · exact Or.inr ⟨h, rfl⟩
  · simp only [hk, ↓reduceIte]; exact Or.inl rfl

theorem ItyOK.cases {ind : Indent} {ity k : Nat} (h : ItyOK ind ity k) : ity = ind.code ∨ ity = cIndentUnknown :=
  h.imp id (·.1)

/-- the token of a verbatim literal at `pos` -/
def litTok (q : Literal.Quote) (t : List Nat) (pos : Nat) : Token :=
  { type := q.type, literal := t, startIdx := pos, endIdx := pos + (t.length + 2) }

/-- the token of a comment that may span lines, at `pos` -/
def mcmtTok (m : MCmt) (pos : Nat) : Token := { type := cTypeComment, startIdx := pos, endIdx := pos + m.chars.length }

/-- the account kept while walking along the elements of a document: indent type, completed lines, the current line (start,
indentation), the position -/
structure GCtx where
  ity : Nat
  dn : List LineInfo
  s : Nat
  k : Nat
  pos : Nat

namespace GCtx

/-- the lexer between two tokens -/
def state (src : Array Nat) (c : GCtx) : Lexer := bst src c.ity c.dn c.s c.k c.pos

/-- the lexer after the EOF token: the last line complete -/
def final (ind : Indent) (src : Array Nat) (c : GCtx) : Lexer :=
  lx src c.ity (c.dn ++ [closedLineI ind c.s c.k c.pos]) c.pos false

/-- after a token of `len` characters that may span lines, its body starting `off` characters in: the lines that start inside it
are behind, the last of them (if any) is the current line -/
def span (c : GCtx) (off : Nat) (body : List Nat) (len : Nat) : GCtx :=
  ⟨c.ity, c.dn ++ (litLines c.s c.k (Lines.lineStarts (c.pos + off) body)).1,
    (litLines c.s c.k (Lines.lineStarts (c.pos + off) body)).2.1, (litLines c.s c.k (Lines.lineStarts (c.pos + off) body)).2.2,
    c.pos + len⟩

def next (ind : Indent) (c : GCtx) : El → GCtx
  | .br b k' =>
    ⟨ityAfter ind c.ity k', c.dn ++ [closedLineI ind c.s c.k c.pos], c.pos + b.chars.length, k',
      c.pos + b.chars.length + ind.width * k'⟩
  | .lit _ t => c.span 1 t (t.length + 2)
  | .mcmt m => c.span m.pre.length m.body m.chars.length
  | e => { c with pos := c.pos + (e.chars ind).length }

end GCtx

/-- the invariant between two elements -/
structure GInv (ind : Indent) (src : Array Nat) (c : GCtx) (els : List El) : Prop where
  text : here (c.state src) = renderEls ind els
  ity : ItyOK ind c.ity c.k
  sk : c.s + ind.width * c.k ≤ c.pos
  le : c.pos ≤ src.size
  wf : WFEls ind els

theorem GInv.size {ind : Indent} {src : Array Nat} {c : GCtx} (h : GInv ind src c []) : src.size = c.pos :=
  Nat.le_antisymm (here_nil h.text).2 h.le

theorem countSame_run (ch : Nat) (hch : ch ≠ 0) (j : Nat) : ∀ (l : Lexer) (n : Nat) (tl : List Nat),
    l.rest = List.replicate j ch ++ tl → tl.headD 0 ≠ ch → countSame ch l n = (l.setCursor (l.cursor + 1 + j), n + j) := by
  induction j with
  | zero =>
    intro l n tl h ht
    have hp : l.adv.cur = tl.headD 0 := rest_headD (by simpa using h)
    rw [countSame]
    have : (l.adv.cur == ch && l.adv.cur != 0) = false := by
      rw [hp]
      have : (tl.headD 0 == ch) = false := by simpa using ht
      rw [this]; rfl
    simp only [this, Bool.false_eq_true, ↓reduceDIte]
    rfl
  | succ j ih =>
    intro l n tl h ht
    have h' : l.rest = ch :: (List.replicate j ch ++ tl) := by simpa [List.replicate_succ] using h
    obtain ⟨hp, hr⟩ := Lexer.rest_cons h'
    have hcur : l.adv.cur = ch := hp
    rw [countSame]
    have : (l.adv.cur == ch && l.adv.cur != 0) = true := by rw [hcur]; simp [hch]
    simp only [this, ↓reduceDIte]
    rw [ih l.adv (n + 1) tl hr ht]
    simp [Lexer.setCursor, Lexer.adv]
    omega

theorem count_units (ind : Indent) (l : Lexer) (k' : Nat) (tl : List Nat) (h : here l = units ind k' ++ tl)
    (htl : IndentOK ind k' tl) :
    (if l.cur == runeSP || l.cur == runeTAB then countSame l.cur l 1 else (l, 0)) =
      (l.setCursor (l.cursor + ind.width * k'), ind.width * k') := by
  obtain ⟨hc0, hc1, hw⟩ := indent_char_facts ind
  by_cases hk : k' = 0
  · subst hk
    have hc : l.cur = tl.headD 0 := here_headD (by simpa [units] using h)
    obtain ⟨h1, h2⟩ := htl.2 rfl
    have : (l.cur == runeSP || l.cur == runeTAB) = false := by
      rw [hc]
      generalize tl.headD 0 = x at h1 h2
      simp [h1, h2]
    simp only [this, Bool.false_eq_true, ↓reduceIte]
    rfl
  · obtain ⟨j, hj⟩ : ∃ j, ind.width * k' = j + 1 := ⟨ind.width * k' - 1, by
      have : 0 < ind.width * k' := Nat.mul_pos hw (by omega)
      omega⟩
    have h' : here l = ind.char :: (List.replicate j ind.char ++ tl) := by
      rw [h]; unfold units; rw [hj]; simp [List.replicate_succ]
    obtain ⟨hc, hr⟩ := here_cons h'
    rw [hc]
    have : (ind.char == runeSP || ind.char == runeTAB) = true := by
      rcases hc1 with e | e <;> rw [e] <;> decide
    simp only [this, ↓reduceIte]
    rw [countSame_run ind.char hc0 j l 1 tl hr htl.1, hj]
    congr 1
    · apply setCursor_congr; omega
    · omega

theorem setIndentType_units (ind : Indent) (l : Lexer) (k c : Nat)
    (hity : l.indentType = ind.code ∨ l.indentType = cIndentUnknown) (hc : k = 0 → c ≠ runeTAB ∧ c ≠ runeSP) :
    setIndentType l (ind.width * k) (if k = 0 then c else ind.char) =
      (.ok k, { l with indentType := ityAfter ind l.indentType k }) := by
  obtain ⟨src, ity, lines, cursor, bl⟩ := l
  dsimp only at hity
  by_cases hk : k = 0
  · subst hk
    have hkind : indentKind c = cIndentUnknown := by
      unfold indentKind
      have a1 : (c == runeTAB) = false := by simpa using (hc rfl).1
      have a2 : (c == runeSP) = false := by simpa using (hc rfl).2
      simp [a1, a2]
    unfold setIndentType setIndentTypeLexer
    simp only [↓reduceIte, hkind, ityAfter, Nat.mul_zero]
    cases ind <;> rcases hity with h | h <;> subst h <;>
      simp [cIndentUnknown, cIndentTab, cIndentSpace, Indent.code]
  · cases ind with
    | tab =>
      have hkind : indentKind runeTAB = cIndentTab := by decide
      unfold setIndentType setIndentTypeLexer
      simp only [hk, ↓reduceIte, Indent.char, hkind, ityAfter, Indent.width, Nat.one_mul, Indent.code]
      rcases hity with h | h <;> subst h <;> simp [cIndentUnknown, cIndentTab, cIndentSpace, Indent.code]
    | sp4 =>
      have hkind : indentKind runeSP = cIndentSpace := by decide
      unfold setIndentType setIndentTypeLexer
      simp only [hk, ↓reduceIte, Indent.char, hkind, ityAfter, Indent.width, Indent.code]
      rcases hity with h | h <;> subst h <;> simp [cIndentUnknown, cIndentTab, cIndentSpace, Indent.code]

theorem sliceLastLine_lx (ind : Indent) (src : Array Nat) (ity : Nat) (dn : List LineInfo) (li : LineInfo) (pos e : Nat) (bl : Bool)
    (hity : ItyOK ind ity li.indents) (h1 : li.startIdx + ind.width * li.indents ≤ e) (h2 : e ≤ src.size) :
    sliceLastLine (lx src ity (dn ++ [li]) pos bl) e =
      some (lx src ity (dn ++ [{ li with text := some (li.startIdx + ind.width * li.indents, e) }]) pos bl) := by
  have hstart : lastLineStart (lx src ity (dn ++ [li]) pos bl) = some (li.startIdx + ind.width * li.indents) := by
    rw [lastLineStart_lx]
    rcases hity with h | ⟨h, hk⟩
    · subst h; cases ind <;> simp [cIndentTab, cIndentSpace, Indent.code, Indent.width]
    · subst h; rw [hk]; simp [cIndentUnknown, cIndentTab, cIndentSpace]
  unfold sliceLastLine
  rw [hstart]
  have hcond : (decide (li.startIdx + ind.width * li.indents > e) || decide (e > (lx src ity (dn ++ [li]) pos bl).src.size)) = false := by
    simp [lx]; omega
  simp only [hcond, Bool.false_eq_true, ↓reduceIte]
  simp only [lx, List.size_toArray, List.length_append, List.length_cons, List.length_nil, Nat.zero_add,
    Nat.add_one_sub_one, List.modify_toArray, modify_last]

theorem sliceLastLine_bst (ind : Indent) (src : Array Nat) (ity : Nat) (dn : List LineInfo) (s k pos e : Nat) (bl : Bool)
    (hity : ItyOK ind ity k) (h1 : s + ind.width * k ≤ e) (h2 : e ≤ src.size) :
    sliceLastLine (lx src ity (dn ++ [openLine s k]) pos bl) e = some (lx src ity (dn ++ [closedLineI ind s k e]) pos bl) :=
  sliceLastLine_lx ind src ity dn (openLine s k) pos e bl hity h1 h2

theorem break_facts (b : Break) : ∃ ch tl, b.chars = ch :: tl ∧ (ch = runeCR ∨ ch = runeLF) := by
  cases b
  · exact ⟨_, _, rfl, Or.inr rfl⟩
  · exact ⟨_, _, rfl, Or.inl rfl⟩
  · exact ⟨_, _, rfl, Or.inl rfl⟩
  · exact ⟨_, _, rfl, Or.inr rfl⟩

theorem pastBreak_eq (b : Break) (l : Lexer) (tl : List Nat) (h : here l = b.chars ++ tl) (hp : PairOK b tl) :
    l.pastBreak l.cur = l.setCursor (l.cursor + b.chars.length) := by
  unfold Lexer.pastBreak
  cases b with
  | lf =>
    have h' : here l = runeLF :: tl := by simpa [Break.chars] using h
    obtain ⟨hc, hr⟩ := here_cons h'
    have hn : l.adv.cur = tl.headD 0 := rest_headD hr
    have hne : (l.adv.cur == runeCR) = false := by rw [hn]; simpa [PairOK] using hp
    rw [hc, hne]
    rfl
  | cr =>
    have h' : here l = runeCR :: tl := by simpa [Break.chars] using h
    obtain ⟨hc, hr⟩ := here_cons h'
    have hn : l.adv.cur = tl.headD 0 := rest_headD hr
    have hne : (l.adv.cur == runeLF) = false := by rw [hn]; simpa [PairOK] using hp
    rw [hc, hne]
    rfl
  | crlf =>
    have h' : here l = runeCR :: runeLF :: tl := by simpa [Break.chars] using h
    obtain ⟨hc, hr⟩ := here_cons h'
    have hn : l.adv.cur = runeLF := (Lexer.rest_cons hr).1
    rw [hc, hn]
    rfl
  | lfcr =>
    have h' : here l = runeLF :: runeCR :: tl := by simpa [Break.chars] using h
    obtain ⟨hc, hr⟩ := here_cons h'
    have hn : l.adv.cur = runeCR := (Lexer.rest_cons hr).1
    rw [hc, hn]
    rfl

theorem skipBlank_brk {ind : Indent} {src : Array Nat} {c : GCtx} {b : Break} {k' : Nat} {es : List El}
    (hi : GInv ind src c (.br b k' :: es)) : skipBlank (c.state src) = skipBlank ((c.next ind (.br b k')).state src) := by
  obtain ⟨ity, dn, s, k, pos⟩ := c
  show skipBlank (bst src ity dn s k pos) = skipBlank (bst src (ityAfter ind ity k') (dn ++ [closedLineI ind s k pos])
    (pos + b.chars.length) k' (pos + b.chars.length + ind.width * k'))
  have hity : ItyOK ind ity k := hi.ity
  have h : here (bst src ity dn s k pos) = b.chars ++ (units ind k' ++ renderEls ind es) :=
    hi.text.trans (by simp [renderEls, El.chars])
  have hp : PairOK b (units ind k' ++ renderEls ind es) := hi.wf.1
  have htl : IndentOK ind k' (renderEls ind es) := hi.wf.2.1
  generalize renderEls ind es = tl at h hp htl
  obtain ⟨ch, btl, hb, hbrk⟩ := break_facts b
  have hcur : (bst src ity dn s k pos).cur = ch := (here_cons (r := btl ++ (units ind k' ++ tl)) (by rw [h, hb]; rfl)).1
  have hsize : pos + b.chars.length ≤ src.size := here_le h hi.le
  have hab : Lexer.pastBreak ch (bst src ity dn s k pos) = lx src ity (dn ++ [openLine s k]) (pos + b.chars.length) false := by
    rw [← hcur, pastBreak_eq b _ _ h hp]; rfl
  have hslice : sliceLastLine (Lexer.pastBreak ch (bst src ity dn s k pos)) (bst src ity dn s k pos).cursor =
      some (lx src ity (dn ++ [closedLineI ind s k pos]) (pos + b.chars.length) false) := by
    rw [hab]
    exact sliceLastLine_bst ind src ity dn s k (pos + b.chars.length) pos false hity hi.sk (by omega)
  have hdrop : src.toList.drop (pos + b.chars.length) = units ind k' ++ tl := by
    rw [← List.drop_drop, show src.toList.drop pos = _ from h]
    exact List.drop_left' rfl
  -- from here on: the new line `D ++ [line at P]`, its indentation still to be counted
  generalize dn ++ [closedLineI ind s k pos] = D at hslice ⊢
  generalize pos + b.chars.length = P at hslice hdrop hab ⊢
  have hnew : (lx src ity D P false).pushLine { indents := 0, startIdx := (lx src ity D P false).cursor } = bst src ity D P 0 P := by
    simp [Lexer.pushLine, bst, lx, openLine]
  have hhere : here (bst src ity D P 0 P) = units ind k' ++ tl := hdrop
  have hchn : (Lexer.pastBreak ch (bst src ity dn s k pos)).cur = (bst src ity D P 0 P).cur := by rw [hab]; rfl
  have hcount := count_units ind _ k' tl hhere htl
  have hset := setIndentType_units ind (bst src ity D P 0 (P + ind.width * k')) k' (tl.headD 0) hity.cases
    (fun hk => ⟨(htl.2 hk).2, (htl.2 hk).1⟩)
  -- the character the indentation is judged by
  rw [← units_head, ← here_headD hhere, ← hchn] at hset
  rw [← hchn] at hcount
  have hbody := parseLineBody_eq ch (bst src ity dn s k pos) _ _ _ (ind.width * k') k' hslice (by rw [hnew]; exact hcount) hset
  have hfinal : setLastIndents { bst src ity D P 0 (P + ind.width * k') with indentType := ityAfter ind ity k' } k' =
      bst src (ityAfter ind ity k') D P k' (P + ind.width * k') := by
    simp only [setLastIndents, bst, lx, List.size_toArray, List.length_append, List.length_cons, List.length_nil,
      Nat.add_one_sub_one, List.modify_toArray, modify_last]
    rfl
  rw [show (bst src ity D P 0 (P + ind.width * k')).indentType = ity from rfl, hfinal] at hbody
  exact skipBlank_of_body ch _ _ hcur hbrk hbody

theorem nextToken_skip (l l' : Lexer) (hb : l.beginLex = false) (hb' : l'.beginLex = false)
    (h : skipBlank l = skipBlank l') : nextToken l = nextToken l' := by
  unfold nextToken preNextToken
  simp only [hb, hb', Bool.false_eq_true, ↓reduceIte, h]

theorem nextToken_item {ind : Indent} {src : Array Nat} {c : GCtx} {it : Item} {es : List El} (h : GInv ind src c (.tok it :: es)) :
    nextToken (c.state src) = (.ok (it.token c.pos), (c.next ind (.tok it)).state src) := by
  obtain ⟨d, sp, hsp, hsolid, _, _⟩ := spelling_head0 it h.wf.1
  have hc : (c.state src).cur = d := (here_cons (h.text.trans (by rw [renderEls, El.chars, hsp]; rfl))).1
  rw [nextToken_later _ rfl (by rw [hc]; exact hsolid)]
  exact dispatch_item_ends it h.wf.1 (renderEls ind es) h.wf.2.1 (c.state src) h.text

theorem nextToken_end {ind : Indent} {src : Array Nat} {c : GCtx} (h : GInv ind src c []) :
    nextToken (c.state src) = (.ok (eofTok c.pos), c.final ind src) := by
  rw [nextToken_eof _ rfl (here_nil h.text).2]
  unfold parseEOF
  rw [show sliceLastLine (c.state src) (c.state src).cursor = _ from
    sliceLastLine_bst ind src c.ity c.dn c.s c.k c.pos c.pos false h.ity h.sk h.le]
  rfl

theorem nextToken_end_again {ind : Indent} {src : Array Nat} {c : GCtx} (h : GInv ind src c []) :
    nextToken (c.final ind src) = (.ok (eofTok c.pos), c.final ind src) := by
  have hh : here (c.final ind src) = [] := h.text
  rw [nextToken_eof _ rfl (here_nil hh).2]
  unfold parseEOF
  rw [show sliceLastLine (c.final ind src) (c.final ind src).cursor = _ from
    sliceLastLine_lx ind src c.ity c.dn (closedLineI ind c.s c.k c.pos) c.pos c.pos false h.ity h.sk h.le]
  rfl

/-- the account after `parseBeginLex` -/
def gctx0 (ind : Indent) (k0 : Nat) : GCtx := ⟨ityAfter ind cIndentUnknown k0, [], 0, k0, ind.width * k0⟩

/-- **the beginning of the text**: `parseBeginLex` records the first line and its indentation; from there on the fresh lexer does what
the lexer between two tokens does -/
theorem nextToken_begin (ind : Indent) (src : List Nat) (k0 : Nat) (tl : List Nat) (h0 : src.headD 0 ≠ 0)
    (h : src = units ind k0 ++ tl) (htl : IndentOK ind k0 tl) :
    nextToken (mkLexer src) = nextToken ((gctx0 ind k0).state src.toArray) := by
  show _ = nextToken (bst src.toArray (ityAfter ind cIndentUnknown k0) [] 0 k0 (ind.width * k0))
  have hl1 : ({ mkLexer src with beginLex := false } : Lexer).pushLine { indents := 0, startIdx := 0 } =
      bst src.toArray cIndentUnknown [] 0 0 0 := rfl
  have hhere : here (bst src.toArray cIndentUnknown [] 0 0 0) = units ind k0 ++ tl := by
    show src.toArray.toList.drop 0 = _
    simp [h]
  have hch : ({ mkLexer src with beginLex := false } : Lexer).getChar 0 = (bst src.toArray cIndentUnknown [] 0 0 0).cur := rfl
  have hcur0 : (bst src.toArray cIndentUnknown [] 0 0 0).cur = src.headD 0 := by
    apply here_headD
    show src.toArray.toList.drop 0 = _
    simp
  have hcount := count_units ind (bst src.toArray cIndentUnknown [] 0 0 0) k0 tl hhere htl
  have hr1 : (bst src.toArray cIndentUnknown [] 0 0 0).setCursor ((bst src.toArray cIndentUnknown [] 0 0 0).cursor + ind.width * k0) =
      bst src.toArray cIndentUnknown [] 0 0 (ind.width * k0) := by
    simp [bst, lx, Lexer.setCursor]
  rw [hr1] at hcount
  have hjudge : (bst src.toArray cIndentUnknown [] 0 0 0).cur = (if k0 = 0 then tl.headD 0 else ind.char) := by
    rw [here_headD hhere, units_head]
  have hset := setIndentType_units ind (bst src.toArray cIndentUnknown [] 0 0 (ind.width * k0)) k0 (tl.headD 0)
    (Or.inr rfl) (fun hk => ⟨(htl.2 hk).2, (htl.2 hk).1⟩)
  rw [← hjudge] at hset
  have hbegin : parseBeginLex { mkLexer src with beginLex := false } =
      (.ok (), bst src.toArray (ityAfter ind cIndentUnknown k0) [] 0 k0 (ind.width * k0)) := by
    unfold parseBeginLex
    simp only [hch, hl1]
    have hne : ((bst src.toArray cIndentUnknown [] 0 0 0).cur == runeEOF) = false := by
      rw [hcur0]; simpa [runeEOF] using h0
    simp only [hne, Bool.false_eq_true, ↓reduceIte]
    by_cases hk : k0 = 0
    · subst hk
      have : ((bst src.toArray cIndentUnknown [] 0 0 0).cur == runeTAB || (bst src.toArray cIndentUnknown [] 0 0 0).cur == runeSP) = false := by
        rw [hjudge]
        obtain ⟨a, b⟩ := htl.2 rfl
        generalize tl.headD 0 = x at a b
        simp [a, b]
      simp only [this, Bool.false_eq_true, ↓reduceIte]
      rfl
    · have hc : (bst src.toArray cIndentUnknown [] 0 0 0).cur = ind.char := by rw [hjudge]; simp [hk]
      have hor : ((bst src.toArray cIndentUnknown [] 0 0 0).cur == runeTAB || (bst src.toArray cIndentUnknown [] 0 0 0).cur == runeSP) = true := by
        rw [hc]; cases ind <;> decide
      have hor' : ((bst src.toArray cIndentUnknown [] 0 0 0).cur == runeSP || (bst src.toArray cIndentUnknown [] 0 0 0).cur == runeTAB) = true := by
        rw [hc]; cases ind <;> decide
      simp only [hor', ↓reduceIte] at hcount
      simp only [hor, ↓reduceIte, hcount, hset]
      rfl
  have hpre : preNextToken (mkLexer src) = skipBlank (bst src.toArray (ityAfter ind cIndentUnknown k0) [] 0 k0 (ind.width * k0)) := by
    unfold preNextToken
    have : (mkLexer src).beginLex = true := rfl
    simp only [this, ↓reduceIte, hbegin]
  unfold nextToken
  rw [hpre]
  unfold preNextToken
  have hb : (bst src.toArray (ityAfter ind cIndentUnknown k0) [] 0 k0 (ind.width * k0)).beginLex = false := rfl
  simp only [hb, Bool.false_eq_true, ↓reduceIte]

end ZnVerif.Proofs.RenderLex
