/- For the line-table theorems (C18): where `lineStarts` can lie. -/
import ZnVerif.Proofs.LineStarts

namespace ZnVerif.Model
open Spec.Lines

theorem lineStarts_bound (pos : Nat) (t : List Nat) : ∀ x ∈ lineStarts pos t, pos < x ∧ x ≤ pos + t.length := by
  fun_induction lineStarts pos t
  · intro x hx; simp at hx
  · intro x hx; simp at hx; subst hx; simp
  · intro x hx; simp at hx
  · rename_i pos a b r h ih
    intro x hx
    rcases List.mem_cons.mp hx with e | e
    · subst e; simp
    · have := ih x e; simp; omega
  · rename_i pos a b r h1 h2 ih
    intro x hx
    rcases List.mem_cons.mp hx with e | e
    · subst e; simp
    · have := ih x e; simp at this ⊢; omega
  · rename_i pos a b r h1 h2 ih
    intro x hx
    have := ih x hx; simp at this ⊢; omega

theorem lineStarts_sorted (pos : Nat) (t : List Nat) : (lineStarts pos t).Pairwise (· < ·) := by
  fun_induction lineStarts pos t
  · exact .nil
  · exact List.pairwise_singleton _ _
  · exact .nil
  · rename_i ih; exact List.pairwise_cons.mpr ⟨fun x hx => (lineStarts_bound _ _ x hx).1, ih⟩
  · rename_i ih; exact List.pairwise_cons.mpr ⟨fun x hx => (lineStarts_bound _ _ x hx).1, ih⟩
  · rename_i ih; exact ih

end ZnVerif.Model
