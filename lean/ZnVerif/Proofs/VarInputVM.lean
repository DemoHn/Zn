/-
Helper lemmas for the input-variable theorems (Properties/C05VarInput.lean, Properties/C10VarInput.lean): the invariant.

The invariant `VI s` of a VM in which input-variable texts are evaluated:
  * the heap is well-formed (`HeapOk`, Proofs/Builtins.lean);
  * every cell is `Plain`: no user-defined method, no type with a user-defined constructor or with methods — an
    input-variable text cannot define any (definitions are statements), so the evaluator never enters `evalExecBlock`;
  * every root — predefined name, symbol of any scope, `this` of any frame — is the address of a cell.
The judgment is `Hoare VI Ext s Q (m s)` (Proofs/Builtins.lean; `VPost s Q` is the same by cases on the outcome): the run does
not panic, ends in a state that satisfies `VI`, the heap only grew / classes stayed classes (`Ext`), a value satisfies `Q`.

The totality results for the built-in members (Proofs/BuiltinMembers.lean: `post_builtinMethod`, `post_getProperty`,
`post_reduceRHS`, …) speak about the heap only; `VI` survives whatever keeps the roots (`vi_laws`: the two laws of Proofs/InvLaws.lean), so
`Hoare.lift` carries them over.

Then the VM accessors (name lookup, declaration, assignment, frames): the places where the Go code before commit e955303
indexed an empty call stack.
-/
import ZnVerif.Proofs.InvLaws
import ZnVerif.Proofs.Balance
set_option linter.unusedSectionVars false

namespace ZnVerif.Proofs.VarInput
open ZnVerif.Model ZnVerif.Proofs.Builtins ZnVerif.Proofs.Balance ZnVerif.Proofs.Calls

variable {ν : Type} [NumOps ν]

theorem plain_newHashMapCell (kvs : List (String × Addr)) : Plain (newHashMapCell kvs : Cell ν) := by
  unfold newHashMapCell
  split
  trivial

theorem kr_emit (l : String) : Pres KR (emit (ν := ν) l) := ⟨fun _ => ⟨rfl, rfl, rfl, rfl, id⟩⟩

structure VI (s : VM ν) : Prop where
  heap : HeapOk s.heap
  plain : PlainHeap s.heap
  globals : ∀ p ∈ s.globals, p.2 < s.heap.size
  scopes : ∀ p ∈ s.scopes, ∀ sy ∈ p.2.syms, sy.val < s.heap.size
  frames : ∀ fr ∈ s.stack, ∀ t, fr.this = some t → t < s.heap.size

theorem VI.ofKR {s s' : VM ν} (hvi : VI s) (hk : KR s s') (hh : HeapOk s'.heap) (he : Ext s.heap s'.heap) : VI s' := by
  obtain ⟨k1, k2, k3, k4, k5⟩ := hk
  refine ⟨hh, k5 hvi.plain, ?_, ?_, ?_⟩
  · rw [k1]; exact fun p hp => Nat.lt_of_lt_of_le (hvi.globals p hp) he.size
  · rw [k2]; exact fun p hp sy hsy => Nat.lt_of_lt_of_le (hvi.scopes p hp sy hsy) he.size
  · rw [k3]; exact fun fr hfr t ht => Nat.lt_of_lt_of_le (hvi.frames fr hfr t ht) he.size

def VPost {α} (s : VM ν) (Q : α → VM ν → Prop) : Res α × VM ν → Prop
  | (.ok a, s') => VI s' ∧ Ext s.heap s'.heap ∧ Q a s'
  | (.panic, _) => False
  | (_, s') => VI s' ∧ Ext s.heap s'.heap

theorem vi_laws : InvLaws (VI (ν := ν)) := ⟨VI.heap, VI.ofKR⟩

section rules
variable {α β : Type} {s : VM ν}

theorem vpost_iff {Q : α → VM ν → Prop} {p : Res α × VM ν} : VPost s Q p ↔ Hoare VI Ext s Q p := by
  rcases p with ⟨r, s'⟩
  cases r <;> first
    | exact ⟨fun h => .ok h.1 h.2.1 h.2.2, fun h => ⟨h.inv, h.rel, h.val rfl⟩⟩
    | exact ⟨False.elim, fun h => h.ne_panic rfl⟩
    | exact ⟨fun h => ⟨nofun, h.1, h.2, nofun⟩, fun h => ⟨h.inv, h.rel⟩⟩

/-- an error answered in the start state (`throwE e`, `rtErr c`) -/
theorem VPost.err {Q : α → VM ν → Prop} (e : Err) (h : VI s) : VPost s Q ((.err e : Res α), s) := ⟨h, Ext.refl _⟩
theorem VPost.notModelled {Q : α → VM ν → Prop} (h : VI s) : VPost s Q ((notModelled : M ν α) s) := ⟨h, Ext.refl _⟩

end rules

theorem inHeap_stable (b : Nat) (s s' : VM ν) (h : b < s.heap.size) (e : Ext s.heap s'.heap) : b < s'.heap.size :=
  Nat.lt_of_lt_of_le h e.size

theorem vpost_alloc_lt {s : VM ν} (hs : VI s) {c : Cell ν} (hc : CellOk s.heap c) (hp : Plain c) :
    Hoare VI Ext s (fun a s' => a < s'.heap.size) (alloc c s) :=
  post_allocI vi_laws hs hc hp

theorem vpost_newNull {s : VM ν} (hs : VI s) : VPost s (fun a s' => a < s'.heap.size) ((newNull : M ν Addr) s) :=
  vpost_iff.2 (vpost_alloc_lt hs (c := .null) trivial trivial)

theorem ro_matchIDType (lit : String) (s : VM ν) : RO (matchIDType (ν := ν) lit) s (fun _ => True) := by
  unfold matchIDType
  split
  · exact ⟨.err (.sem 30), rfl, trivial⟩
  · exact RO.pure trivial
  · exact RO.pure trivial

theorem ro_matchIDName (lit : String) (s : VM ν) : RO (matchIDName (ν := ν) lit) s (fun _ => True) := by
  unfold matchIDName
  refine RO.bind (ro_matchIDType lit s) (fun t _ => ?_)
  cases t with
  | name n => exact RO.pure trivial
  | number x => exact ⟨.err (.sem 32), rfl, trivial⟩

theorem getScope_mem {mid : Int} {s : VM ν} {sc : Scope} (h : getScope mid s = some sc) : ∃ p ∈ s.scopes, p.2 = sc := by
  unfold getScope at h
  cases hf : s.scopes.find? (·.1 == mid) with
  | none => rw [hf] at h; cases h
  | some p =>
    rw [hf] at h
    injection h with h
    exact ⟨p, List.mem_of_find?_eq_some hf, h⟩

theorem mem_putL {l : List (Int × Scope)} {mid : Int} {sc : Scope} {p : Int × Scope} (h : p ∈ putL l mid sc) :
    p ∈ l ∨ p = (mid, sc) := by
  unfold putL at h
  split at h
  · obtain ⟨q, hq, he⟩ := List.mem_map.mp h
    split at he
    · exact .inr he.symm
    · exact .inl (he ▸ hq)
  · rcases List.mem_append.mp h with h | h
    · exact .inl h
    · exact .inr (by simpa using h)

theorem VI.putScope {s : VM ν} (hs : VI s) (mid : Int) {sc : Scope} (hsc : ∀ sy ∈ sc.syms, sy.val < s.heap.size) :
    VI (putScope mid sc s) := by
  refine ⟨by rw [putScope_heap]; exact hs.heap, by rw [putScope_heap]; exact hs.plain, ?_, ?_, ?_⟩
  · rw [putScope_globals, putScope_heap]; exact hs.globals
  · rw [putScope_scopes, putScope_heap]
    intro p hp sy hsy
    rcases mem_putL hp with hp | rfl
    · exact hs.scopes p hp sy hsy
    · exact hsc sy hsy
  · rw [putScope_stack, putScope_heap]; exact hs.frames

theorem VI.scope_syms {s : VM ν} (hs : VI s) {mid : Int} {sc : Scope} (h : getScope mid s = some sc) :
    ∀ sy ∈ sc.syms, sy.val < s.heap.size := by
  obtain ⟨p, hp, rfl⟩ := getScope_mem h
  exact hs.scopes p hp

/-- `vm.FindElementWithModule`: a predefined name, else a symbol of the current scope — when there is one; no scope is
    NameNotDefined (42), not an index into an empty call stack -/
theorem ro_findElementWithModule {s0 : VM ν} (hs : VI s0) (name : String) :
    RO (findElementWithModule name) s0 (fun p => p.1 < s0.heap.size) := by
  unfold findElementWithModule
  refine RO.bind ⟨.ok s0, rfl, rfl⟩ (fun s1 hs1 => ?_)
  subst hs1
  cases hg : lookup name s0.globals with
  | some a => exact RO.pure (hs.globals (name, a) (mem_of_lookup hg))
  | none =>
    refine RO.bind ⟨.ok (getScope s0.csModuleID s0), rfl, rfl⟩ (fun o ho => ?_)
    subst ho
    cases hc : getScope s0.csModuleID s0 with
    | none => exact RO.rtErr _
    | some sc =>
      dsimp only
      cases hf : sc.find name with
      | none => exact RO.rtErr _
      | some sy =>
        refine RO.pure (hs.scope_syms hc sy ?_)
        unfold Scope.find at hf
        exact List.mem_of_find?_eq_some hf

theorem ro_findElement {s0 : VM ν} (hs : VI s0) (name : String) : RO (findElement name) s0 (fun a => a < s0.heap.size) := by
  rw [findElement_eq_withModule]
  exact RO.bind (ro_findElementWithModule hs name) fun _ hp => RO.pure hp

/-- `vm.GetThisValue`: no frame, no `this` (Go: `getCurrentCallFrame() == nil`) -/
theorem ro_getThis {s : VM ν} (hs : VI s) : RO (getThis (ν := ν)) s (fun o => ∀ t, o = some t → t < s.heap.size) := by
  unfold getThis
  refine RO.bind ⟨.ok s.stack.head?, rfl, rfl⟩ (fun o ho => ?_)
  subst ho
  cases hst : s.stack with
  | nil => exact RO.pure (fun t ht => by cases ht)
  | cons fr rest =>
    refine RO.pure (fun t ht => hs.frames fr (by rw [hst]; exact List.mem_cons_self) t ht)

/-- `vm.DeclareConstElement` / `DeclareElement` (得到): no scope → 42, a predefined name → 43, else `Scope.declareValue` -/
theorem vpost_declareElement {s : VM ν} (hs : VI s) (name : String) {v : Addr} (hv : v < s.heap.size) (c : Bool)
    (ext : Option Int) : Hoare VI Ext s (fun _ _ => True) (declareElement name v c ext s) := by
  rcases declareElement_cases name v c ext s with ⟨k, h⟩ | ⟨sc, sc', hc, _, hd, h⟩ <;> rw [h]
  · exact .err _ hs
  · refine .ok (hs.putScope _ fun sy hsy => ?_) (.of_eq (putScope_heap _ _ _)) trivial
    rw [declare_ok hd] at hsy
    rcases List.mem_cons.mp hsy with rfl | hsy
    · exact hv
    · exact hs.scope_syms hc sy hsy

theorem set_go_vals (name : String) (v : Addr) :
    ∀ (l l' : List Sym), Scope.set.go name v l = some (.ok l') → ∀ sy ∈ l', sy.val = v ∨ sy ∈ l
  | [], l', h => by simp [Scope.set.go] at h
  | sy :: rest, l', h => by
    unfold Scope.set.go at h
    split at h
    · split at h
      · cases h
      · cases h
        intro y hy
        rcases List.mem_cons.mp hy with rfl | hy
        · exact .inl rfl
        · exact .inr (List.mem_cons_of_mem _ hy)
    · split at h
      · cases h
      · cases h
      · rename_i rest' hr
        cases h
        intro y hy
        rcases List.mem_cons.mp hy with rfl | hy
        · exact .inr List.mem_cons_self
        · rcases set_go_vals name v rest rest' hr y hy with h | h
          · exact .inl h
          · exact .inr (List.mem_cons_of_mem _ h)

/-- `vm.SetElement` (`X = …` inside an expression): no scope → 42 -/
theorem vpost_setElement {s : VM ν} (hs : VI s) (name : String) {v : Addr} (hv : v < s.heap.size) :
    Hoare VI Ext s (fun _ _ => True) (setElement name v s) := by
  rcases setElement_cases name v s with ⟨k, h⟩ | ⟨sc, sc', hc, hd, h⟩ <;> rw [h]
  · exact .err _ hs
  · refine .ok (hs.putScope _ fun sy hsy => ?_) (.of_eq (putScope_heap _ _ _)) trivial
    unfold Scope.set at hd
    split at hd
    · cases hd
    · cases hd
    · rename_i syms hg
      cases hd
      rcases set_go_vals name v _ _ hg sy hsy with h | h
      · rw [h]; exact hv
      · exact hs.scope_syms hc sy h

theorem pushFrame_apply (fr : Frame) (s : VM ν) :
    pushFrame fr s = (.ok (),
      match getScope fr.moduleId { s with stack := fr :: s.stack, csModuleID := fr.moduleId } with
      | some _ => { s with stack := fr :: s.stack, csModuleID := fr.moduleId }
      | none => putScope fr.moduleId {} { s with stack := fr :: s.stack, csModuleID := fr.moduleId }) := rfl

/-- `PushCallFrame` of a frame whose `this` (if any) is a value: the frame is on top -/
theorem vpost_pushFrame {s : VM ν} (hs : VI s) (fr : Frame) (ht : ∀ t, fr.this = some t → t < s.heap.size) :
    Hoare VI Ext s (fun _ s' => s'.stack = fr :: s.stack) (pushFrame fr s) := by
  rw [pushFrame_apply]
  have h1 : VI ({ s with stack := fr :: s.stack, csModuleID := fr.moduleId } : VM ν) := by
    refine ⟨hs.heap, hs.plain, hs.globals, hs.scopes, ?_⟩
    intro f hf t htt
    rcases List.mem_cons.mp hf with rfl | hf
    · exact ht t htt
    · exact hs.frames f hf t htt
  split
  · exact .ok h1 (Ext.refl _) rfl
  · exact .ok (h1.putScope _ nofun) (.of_eq (putScope_heap _ _ _)) (putScope_stack _ _ _)

/-- `PopCallFrame` with a frame to pop -/
theorem vpost_popFrame {s : VM ν} (hs : VI s) {fr : Frame} {rest : List Frame} (hst : s.stack = fr :: rest) :
    Hoare VI Ext s (fun _ s' => s'.stack = rest) (popFrame s) := by
  rw [popFrame_cons s fr rest hst]
  refine .ok ⟨hs.heap, hs.plain, hs.globals, hs.scopes, ?_⟩ (Ext.refl _) rfl
  intro f hf t ht
  exact hs.frames f (by rw [hst]; exact List.mem_cons_of_mem _ hf) t ht

/-- `Function.Exec` of a predefined function (显示; 取随机数 and library functions are `notModelled`): the call stack is as before -/
theorem vpost_execFunction_plain (n : Nat) {s : VM ν} (hs : VI s) (f : FnRef) (hf : Plain (Cell.fn f : Cell ν))
    (this : Option Addr) {params : List Addr} (hp : ∀ v ∈ params, v < s.heap.size) :
    Hoare VI Ext s (fun r s' => r < s'.heap.size ∧ s'.stack = s.stack) (execFunction n f this params s) := by
  cases n with
  | zero => exact Hoare.fuel hs
  | succ n =>
    cases f with
    | user ex => exact hf.elim
    | random => exact Hoare.notModelled hs
    | lib nm => exact Hoare.notModelled hs
    | display => exact (post_displayFn vi_laws (n+1) this params hs hp).weaken fun _ _ _ _ q => ⟨q.1, q.2.2.2.1⟩

end ZnVerif.Proofs.VarInput
