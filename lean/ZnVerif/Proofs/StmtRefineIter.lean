/-
C02 refinement: 遍历 — its own scope, the loop variables declared as 空 and re-bound before every pass,
list elements in order with 1-based indices, dictionary entries in key order; a pass consumes the loop
signals of its body and stops the loop when the body has executed 输出.
-/
import ZnVerif.Proofs.StmtRefineCtl
import ZnVerif.Proofs.StmtRefineDisplay

set_option linter.unusedSectionVars false

namespace ZnVerif.Proofs
open ZnVerif.Model ZnVerif.Spec StmtNodes EvalArms

variable {ν : Type} [NumOps ν]

section
variable {ω : Addr → Option (SVal ν)} {mid D : Int} {ds : List Int} {h0 : Array (Cell ν)}

/-- the relations of one pass: Boolean answers equal; after a 输出 the model answers "stop" -/
abbrev PassSim (ω : Addr → Option (SVal ν)) (mid : Int) (D : Int) (ds : List Int) (h0 : Array (Cell ν))
    (s : VM ν) (σ : SState ν) (m : M ν Bool) (m' : SM ν Bool) : Prop :=
  SimS (VRel ω mid D ds h0 (fun _ (x y : Bool) => x = y)) (fun s σ a v => TRel ω mid D ds h0 s σ a v ∧ a = true)
    (NoB (ν := ν)) s σ m m'

theorem passSim_step {α : Type} {s s1 : VM ν} {σ : SState ν} {mP : M ν α} {a : α} (f : α → M ν Unit) (m' : SM ν Bool)
    (h : mP s = (.ok a, s1)) (hK : PassSim ω mid D ds h0 s1 σ (Model.tryCatch (f a) (ControlFlow.passHandler false)) m') :
    PassSim ω mid D ds h0 s σ (Model.tryCatch (mP >>= f) (ControlFlow.passHandler false)) m' := by
  refine simS_step (s0 := s1) (m2 := Model.tryCatch (f a) (ControlFlow.passHandler false)) ?_ hK
  simp only [Model.tryCatch, Calls.M_bind_def, h]

/-- a step on both sides inside the protected part: its errors pass through the handler unchanged -/
theorem passSim_prefix {α α' : Type} {mP : M ν α} {mP' : SM ν α'}
    {VP : VM ν → SState ν → α → α' → Prop} (f : α → M ν Unit) (f' : α' → SM ν Bool)
    (hP : SimS VP (NoT (ν := ν)) (NoB (ν := ν)) s σ mP mP')
    (hK : ∀ s1 σ1 a v, VP s1 σ1 a v → PassSim ω mid D ds h0 s1 σ1 (Model.tryCatch (f a) (ControlFlow.passHandler false)) (f' v)) :
    PassSim ω mid D ds h0 s σ (Model.tryCatch (mP >>= f) (ControlFlow.passHandler false)) (mP' >>= f') := by
  obtain ⟨r, s1, r', σ1, e1, e2, hout⟩ := simS_elim hP
  unfold PassSim SimS
  simp only [Model.tryCatch, Calls.M_bind_def, SM.bind_def, e1, e2]
  rcases hout with rfl | rfl | rfl | hout
  · exact .inl rfl
  · exact .inr (.inl rfl)
  · exact .inr (.inr (.inl rfl))
  · cases hout with
    | ok hv =>
      have := hK _ _ _ _ hv
      unfold PassSim SimS at this
      simpa only [Model.tryCatch] using this
    | ret h | brk h | cont h => exact h.elim
    | rt c => exact .inr (.inr (.inr (.rt c)))
    | sem c => exact .inr (.inr (.inr (.sem c)))

theorem passSim_body {n m : Nat} (hB : BlockSim ω mid n m) (body : Option (List Stmt))
    (hb : PureBlock body) (hinv : Inv ω mid D ds h0 s σ) :
    PassSim ω mid D ds h0 s σ (Model.tryCatch (do let _ ← evalPureStmtBlock n body; pure ()) (ControlFlow.passHandler false))
      (catchR (runBlock m body) (passHandlerS false)) := by
  rw [tryCatch_passHandler_void]
  exact sim_passBody false (hB body s σ D ds h0 hb hinv)

theorem VRel.rebase {α α' : Type} {P : Array (Cell ν) → α → α' → Prop} {h1 : Array (Cell ν)} (hle : HeapLe h0 h1)
    {a : α} {v : α'} (h : VRel ω mid D ds h1 P s σ a v) : VRel ω mid D ds h0 P s σ a v :=
  ⟨h.1, hle.trans h.2.1, h.2.2.1, h.2.2.2⟩

theorem TRel.rebase {α : Type} {h1 : Array (Cell ν)} (hle : HeapLe h0 h1)
    {a : α} {v : SVal ν} (h : TRel ω mid D ds h1 s σ a v) : TRel ω mid D ds h0 s σ a v :=
  ⟨h.1, hle.trans h.2.1, h.2.2⟩

theorem sim_until {ι κ : Type} (f : ι → M ν Bool) (f' : κ → SM ν Bool) (R : Array (Cell ν) → ι → κ → Prop)
    (hR : ∀ h h' i k, HeapLe h h' → R h i k → R h' i k)
    (hstep : ∀ (h0' : Array (Cell ν)) (s : VM ν) (σ : SState ν) (i : ι) (k : κ), Inv ω mid D ds h0' s σ → R s.heap i k →
      PassSim ω mid D ds h0' s σ (f i) (f' k)) :
    ∀ (is : List ι) (ks : List κ) (s : VM ν) (σ : SState ν), Inv ω mid D ds s.heap s σ → Forall2 (R s.heap) is ks →
      SimS (VRel ω mid D ds s.heap (fun _ (_ _ : Unit) => True)) (TRel ω mid D ds s.heap) (NoB (ν := ν)) s σ
        (untilM f is) (untilS f' ks)
  | _, _, s, σ, hinv, .nil => by
    simp only [untilM, untilS]; exact simS_pure ⟨hinv.1, hinv.2.1, hinv.2.2, trivial⟩
  | i :: is, k :: ks, s, σ, hinv, .cons hr hrest => by
    simp only [untilM, untilS]
    refine simS_bind (hstep s.heap s σ i k hinv hr) (fun s1 σ1 x y ⟨g1, g2, g3, g4⟩ => ?_) (fun s1 σ1 x v ⟨ht, hx⟩ => ?_)
      (fun _ _ h => h)
    · subst g4
      cases x
      · have ih := sim_until f f' R hR hstep is ks s1 σ1 ⟨g1, HeapLe.refl _, g3⟩ (hrest.imp fun _ _ h => hR _ _ _ _ g2 h)
        exact simS_weaken (fun _ _ _ _ h => h.rebase g2) (fun _ _ _ _ h => h.rebase g2) (fun _ _ h => h) ih
      · exact simS_pure ⟨g1, g2, g3, trivial⟩
    · subst hx
      exact ⟨(), s1, rfl, ht⟩

/-- the spec's indexed element list -/
def idxList {κ : Type} (j : Nat) (ks : List κ) : List (Nat × κ) := (ks.zipIdx j).map fun p => (p.2, p.1)

theorem idxList_cons {κ : Type} (j : Nat) (k : κ) (ks : List κ) : idxList j (k :: ks) = (j, k) :: idxList (j+1) ks := by
  simp [idxList, List.zipIdx_cons]

theorem idxList_nil {κ : Type} (j : Nat) : idxList j ([] : List κ) = [] := rfl

theorem untilIdxM_eq {ι : Type} (f : Nat → ι → M ν Bool) : ∀ (j : Nat) (is : List ι),
    untilIdxM f j is = untilM (fun (p : Nat × ι) => f p.1 p.2) (idxList j is)
  | _, [] => rfl
  | j, i :: is => by
    rw [idxList_cons]
    exact bind_congr fun b => by
      cases b
      · exact untilIdxM_eq f (j+1) is
      · rfl

theorem Forall2.idxList {ι κ : Type} {R : ι → κ → Prop} : ∀ {is ks}, Forall2 R is ks → ∀ (j : Nat),
    Forall2 (fun (p : Nat × ι) (q : Nat × κ) => p.1 = q.1 ∧ R p.2 q.2) (idxList j is) (idxList j ks)
  | _, _, .nil, _ => .nil
  | _, _, .cons r rest, j => by rw [idxList_cons, idxList_cons]; exact .cons ⟨rfl, r⟩ (rest.idxList (j+1))

theorem simS_assignName (hinv : Inv ω mid D ds h0 s σ) (name : String)
    (hpre : predefined.contains name = false) (a : Addr) (v : SVal ν) (hv : contentW ω 1 s.heap a = some v) :
    SimS (fun s' σ' (_ _ : Unit) => Inv ω mid D ds h0 s' σ' ∧ s'.heap = s.heap) (NoT (ν := ν)) (NoB (ν := ν)) s σ
      (setElement name a) (assignName name v) := by
  have h := simS_assign (T := NoT (ν := ν)) (B := NoB (ν := ν)) hinv name a v hv
  simpa only [hpre, Bool.false_eq_true, if_false] using h

theorem passSim_modelFuel (f : Addr → M ν Unit) (a : Addr) (m' : SM ν Bool) :
    PassSim ω mid D ds h0 s σ (Model.tryCatch (dup 0 a >>= f) (ControlFlow.passHandler false)) m' :=
  .inr (.inr (.inl rfl))

/-- the loop variables of 遍历 as the two sides hold them: the model a count and a pair of optional names, the spec the
list of names; none of them is a predefined name (their declaration has succeeded) -/
inductive LoopVars : Nat → Option String × Option String → List String → Prop
  | none : LoopVars 0 (none, none) []
  | val {vn} : predefined.contains vn = false → LoopVars 1 (none, some vn) [vn]
  | keyVal {kn vn} : predefined.contains kn = false → predefined.contains vn = false →
      LoopVars 2 (some kn, some vn) [kn, vn]

theorem sim_pass {n m : Nat} {len : Nat} {slots : Option String × Option String} {names' : List String}
    (hB : BlockSim ω mid n m) (body : Option (List Stmt)) (hb : PureBlock body) (hl : LoopVars len slots names')
    (hinv : Inv ω mid D ds h0 s σ) (ka : Addr) (kv : SVal ν) (hk : contentW ω 1 s.heap ka = some kv)
    (va : Addr) (vv : SVal ν) (hv : contentW ω 1 s.heap va = some vv) :
    PassSim ω mid D ds h0 s σ (Model.tryCatch (ControlFlow.iterRunBody n len slots body ka va) (ControlFlow.passHandler false))
      (iterPassS m names' body kv vv) := by
  cases n with
  | zero => exact passSim_modelFuel _ _ _
  | succ n =>
    obtain ⟨a', s2, hdup, hF, hc⟩ := dup_shallow (ω := ω) n hv
    have hi2 := hinv.frame hF
    refine passSim_step _ _ hdup ?_
    cases hl with
    | none => exact passSim_body hB body hb hi2
    | val hvn =>
      exact passSim_prefix _ _ (simS_assignName hi2 _ hvn a' vv hc) fun s3 σ3 _ _ ⟨hi3, _⟩ => passSim_body hB body hb hi3
    | keyVal hkn hvn =>
      refine passSim_prefix _ _ (simS_assignName hi2 _ hkn ka kv (contentW_heap hF.le hk)) fun s3 σ3 _ _ ⟨hi3, hh3⟩ => ?_
      exact passSim_prefix _ _ (simS_assignName hi3 _ hvn a' vv (by rw [hh3]; exact hc))
        fun s4 σ4 _ _ ⟨hi4, _⟩ => passSim_body hB body hb hi4

theorem iterLoopS_opaque (pass' : SVal ν → SVal ν → SM ν Bool) {tv : SVal ν} (h : isOpaque tv = true) :
    iterLoopS pass' tv = fault 80 := by
  cases tv <;> first | rfl | cases h

theorem sim_iterLoop (pass : Addr → Addr → M ν Bool) (pass' : SVal ν → SVal ν → SM ν Bool)
    (hpass : ∀ (h0' : Array (Cell ν)) (s : VM ν) (σ : SState ν) (ka : Addr) (kv : SVal ν) (va : Addr) (vv : SVal ν),
      Inv ω mid D ds h0' s σ → contentW ω 1 s.heap ka = some kv → contentW ω 1 s.heap va = some vv →
      PassSim ω mid D ds h0' s σ (pass ka va) (pass' kv vv))
    (hinv : Inv ω mid D ds h0 s σ) (target : Addr) (tv : SVal ν) (htgt : contentW ω 2 s.heap target = some tv) :
    SimS (VRel ω mid D ds h0 (fun _ (_ _ : Unit) => True)) (TRel ω mid D ds h0) (BRel ω mid D ds h0) s σ
      (iterLoop pass target) (iterLoopS pass' tv) := by
  refine simS_weaken (fun _ _ _ _ h => VRel.rebase hinv.2.1 h) (fun _ _ _ _ h => TRel.rebase hinv.2.1 h)
    (fun _ _ h => False.elim h) ?_
  have hinv := hinv.rebase
  obtain ⟨c, hcell, hlay⟩ := (contentW_succ_iff ω 1 _ _ _).1 htgt
  refine simS_getCell hcell ?_
  cases hlay with
  | @arr items xs hall =>
    show SimS _ _ _ s σ (untilIdxM _ 0 items) (untilS _ (idxList 0 xs))
    rw [untilIdxM_eq]
    refine sim_until _ _ (fun h (p : Nat × Addr) (q : Nat × SVal ν) => p.1 = q.1 ∧ contentW ω 1 h p.2 = some q.2)
      (fun _ _ _ _ hle h => ⟨h.1, contentW_heap hle h.2⟩) (fun h0' s1 σ1 p q hi ⟨hj, hr⟩ => ?_) _ _ s σ hinv (hall.idxList 0)
    -- the index cell
    rw [← hj]
    refine simS_after rfl ?_
    have hF := Frame.push s1 (Cell.num (NumOps.ofInt ((p.1 : Int) + 1)) : Cell ν)
    exact hpass h0' _ σ1 _ _ _ _ (hi.frame hF) (contentW_push_new 0 s1.heap _ _ (.num _)) (contentW_heap hF.le hr)
  | @hm vals order kvs ho hall =>
    refine sim_until _ _ (fun h key (kv : String × SVal ν) => h[target]? = some (.hm vals order) ∧ kv.1 = key ∧
        ∃ a, lookup key vals = some a ∧ contentW ω 1 h a = some kv.2)
      (fun _ _ _ _ hle ⟨g0, g1, a, g2, g3⟩ => ⟨hle _ _ g0, g1, a, g2, contentW_heap hle g3⟩)
      (fun h0' s1 σ1 key kv hi ⟨g0, g1, a, g2, g3⟩ => ?_) order kvs s σ hinv
      (hall.imp fun key kv ⟨g1, a, g2, g3⟩ => ⟨hcell, g1, a, g2, g3⟩)
    -- the model reads the target's cell again at every pass: the relation of the elements carries it along
    subst g1
    refine simS_getCell g0 ?_
    simp only [g2]
    refine simS_after rfl ?_
    have hF := Frame.push s1 (Cell.str kv.1 : Cell ν)
    exact hpass h0' _ σ1 _ _ _ _ (hi.frame hF) (contentW_push_new 0 s1.heap _ _ (.str _)) (contentW_heap hF.le g3)
  | obj _ hop | fn _ hop | cls _ hop | exc _ hop => rw [iterLoopS_opaque _ hop]; exact simS_rt 80 80 rfl
  | _ => exact simS_rt 80 80 rfl

/-- `newNull` then declare it under `name` (a loop variable starts as 空) -/
theorem sim_declNull {α α' : Type} {V : VM ν → SState ν → α → α' → Prop} {T B}
    (hinv : Inv ω mid D ds h0 s σ) (name : String) (K : M ν α) (K' : SM ν α')
    (hK : ∀ s1 σ1, Inv ω mid D ds h0 s1 σ1 → HeapLe s.heap s1.heap → predefined.contains name = false → SimS V T B s1 σ1 K K') :
    SimS V T B s σ (do let nl ← newNull; declareElement name nl false; K) (do Spec.declare name SVal.null false; K') := by
  have hF := Frame.push s (Cell.null : Cell ν)
  have hi1 := hinv.frame hF
  refine simS_after rfl ?_
  exact simS_seq (simS_declare hi1 name s.heap.size .null false (contentW_push_new 0 s.heap .null .null .null))
    fun s2 σ2 _ _ ⟨g1, g2, g4⟩ => hK s2 σ2 g1 (by rw [g2]; exact hF.le) g4

/-- the loop variables are declared as 空; what follows gets them in the form of each side -/
theorem sim_iterVars {α α' : Type} {V : VM ν → SState ν → α → α' → Prop} {T B}
    (hinv : Inv ω mid D ds h0 s σ) (names : List Ident) (h2 : names.length ≤ 2)
    (K : Option String × Option String → M ν α) (K' : List String → SM ν α')
    (hK : ∀ slots names' s1 σ1, LoopVars names.length slots names' → Inv ω mid D ds h0 s1 σ1 → HeapLe s.heap s1.heap →
      SimS V T B s1 σ1 (K slots) (K' names')) :
    SimS V T B s σ (withIterSlots names K) (do
      let names' ← names.mapM fun x => idName x.lit
      if names'.length > 2 then fault 52 else
      names'.forM fun nm => Spec.declare nm SVal.null false
      K' names') := by
  match names, h2 with
  | [], _ =>
    simp only [List.mapM_nil, pure_bind, List.length_nil, gt_iff_lt, Nat.not_lt_zero, if_false, listForM_nil]
    exact hK _ _ s σ .none hinv (HeapLe.refl _)
  | [v], _ =>
    simp only [List.mapM_cons, List.mapM_nil, bind_assoc, pure_bind, List.length_cons, List.length_nil, gt_iff_lt,
      Nat.reduceAdd, Nat.reduceLT, if_false, listForM_cons, listForM_nil]
    refine simS_seq (simS_idName v.lit) fun s3 σ3 vn vn' ⟨e1, e2, e3⟩ => ?_
    subst e1 e2 e3
    exact sim_declNull hinv vn _ _ fun s5 σ5 hi5 hle5 hvn => hK _ _ s5 σ5 (.val hvn) hi5 hle5
  | [k, v], _ =>
    simp only [List.mapM_cons, List.mapM_nil, bind_assoc, pure_bind, List.length_cons, List.length_nil, gt_iff_lt,
      Nat.reduceAdd, Nat.lt_irrefl, if_false, listForM_cons, listForM_nil]
    refine simS_seq (simS_idName k.lit) fun s3 σ3 kn kn' ⟨e1, e2, e3⟩ => ?_
    subst e1 e2 e3
    refine simS_seq (simS_idName v.lit) fun s3 σ3 vn vn' ⟨e1, e2, e3⟩ => ?_
    subst e1 e2 e3
    refine sim_declNull hinv kn _ _ fun s4 σ4 hi4 hle4 hkn => ?_
    exact sim_declNull hi4 vn _ _ fun s5 σ5 hi5 hle5 hvn => hK _ _ s5 σ5 (.keyVal hkn hvn) hi5 (hle4.trans hle5)
  | _ :: _ :: _ :: _, h => simp at h

/-- line, own scope, target; `K`, `K'` are the parts that declare the loop variables and run the loop -/
theorem sim_iterateWith {n m : Nat} (hle : m ≤ n) (ln : Nat) (e : Expr) (h1 : IterTarget e)
    (hinv : Inv ω mid D ds h0 s σ) (K : Addr → M ν Unit) (K' : SVal ν → SM ν Unit)
    (hK : ∀ s2 σ2 target tv, Inv ω mid (D+1) (D :: ds) h0 s2 σ2 → contentW ω 2 s2.heap target = some tv →
      SimS (VRel ω mid (D+1) (D :: ds) h0 (fun _ (_ _ : Unit) => True)) (TRel ω mid (D+1) (D :: ds) h0)
        (BRel ω mid (D+1) (D :: ds) h0) s2 σ2 (K target) (K' tv)) :
    SSim ω mid D ds h0 s σ (do lineStep ln; withScope (do let target ← evalExpr n e; K target); newNull)
      (do withBlock (do let target ← evalE m e; K' target); pure SVal.null) := by
  refine sSim_line _ _ _ hinv fun s0 hinv0 => ?_
  refine sim_then_null (P := fun _ (_ _ : Unit) => True) ?_ (fun _ _ _ _ h => h) (fun _ _ h => h)
  refine simS_withScope hinv0 fun s1 σ1 hinv1 => ?_
  exact simS_seq (simS_expr_target hinv1 hle h1) fun s2 σ2 target tv ⟨hi2, htgt⟩ => hK s2 σ2 target tv hi2 htgt

theorem sim_iterate {n m : Nat} (hle : m ≤ n) (hB : BlockSim ω mid n m)
    (ln : Nat) (e : Expr) (names : List Ident) (body : Option (List Stmt)) (h1 : IterTarget e) (h2 : names.length ≤ 2)
    (h3 : PureBlock body) (hinv : Inv ω mid D ds h0 s σ) :
    SSim ω mid D ds h0 s σ (evalStmt (n+1) (.iterate ln e names body)) (execS (m+1) (.iterate ln e names body)) := by
  rw [evalStmt_iterate, execS_iterate]
  simp only [iterPass_handler]
  refine sim_iterateWith hle ln e h1 hinv _ _ fun s2 σ2 target tv hi2 htgt => ?_
  refine sim_iterVars hi2 names h2 _ _ fun slots names' s5 σ5 hl hi5 hle5 => ?_
  exact sim_iterLoop _ _ (fun h0' s σ ka kv va vv hi hk hv => sim_pass hB body h3 hl hi ka kv hk va vv hv)
    hi5 target tv (contentW_heap hle5 htgt)

end

end ZnVerif.Proofs
