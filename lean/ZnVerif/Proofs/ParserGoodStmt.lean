/-
The production lemmas of `step_good`, part 3: ParseStatement, 令 (one pair, and the block form).
-/
import ZnVerif.Proofs.ParserGood

namespace ZnVerif.Proofs.ParserGood
open ZnVerif.Model ZnVerif.Model.Parser ZnVerif.Generated.Tokens ZnVerif.Generated.ParserTables
open ZnVerif.Spec.Grammar ZnVerif.Proofs.ParserHoare

variable {σ : Type} {ops : LexOps σ} {B : Nat} {μ : σ → Nat} {I : σ → Prop}

variable (hl : LexOK ops B μ I) {n : Nat} {rec : Rec σ} (hg : Good ops B μ I n rec)
include hl hg

theorem pStatement_good : GoodAt ops B μ I (n + 1) .statement (pStatement Variant.fixed ops n rec) := by
  intro s hs _
  refine sat_bind.mpr ?_
  apply tryConsume_bind hl ((At.refl hs).flag false) (by decide)
  · intro s1 a1 _
    apply hg.bindS a1 (.expr true) rfl trivial (Or.inr (by simp [rank]))
    intro e s2 a2 hc2
    exact endOfStmt_bind a2.inv (a2.post (.expr _ hc2))
  · intro tk s1 a1 hmem
    refine sat_ite.mpr ⟨fun _ => a1.post (.empty _), fun _ => ?_⟩
    -- whatever the keyword's production returns gets the keyword's line, and the statement has to end there
    have fin : ∀ st s2, At ops B μ I s s2 true → CStmt st →
        Sat ((do let l ← lineOf ops tk; endOfStmt Variant.fixed; pure (st.setLine l) : PM σ Stmt) s2)
          (Post ops B μ I .statement s) (ErrOK B) (n + 1 < need μ .statement s) :=
      fun st s2 a2 hc => lineOf_bind fun l => endOfStmt_bind a2.inv (a2.post (cstmt_setLine l hc))
    refine sat_bind.mpr ?_
    refine sat_ite.mpr ⟨fun _ => ?_, fun _ => sat_ite.mpr ⟨fun _ => ?_, fun _ => sat_ite.mpr ⟨fun _ => ?_, fun _ =>
      sat_ite.mpr ⟨fun _ => ?_, fun _ => sat_ite.mpr ⟨fun _ => ?_, fun _ => sat_ite.mpr ⟨fun _ => ?_, fun _ =>
      sat_ite.mpr ⟨fun _ => ?_, fun _ => sat_ite.mpr ⟨fun _ => ?_, fun _ => sat_ite.mpr ⟨fun _ => ?_, fun _ =>
      sat_ite.mpr ⟨fun _ => fin _ s1 a1 (.break _), fun _ => sat_ite.mpr ⟨fun _ => fin _ s1 a1 (.continue _), fun _ => ?_⟩⟩⟩⟩⟩⟩⟩⟩⟩⟩⟩
    · exact hg.callS a1 .varDecl rfl trivial (Or.inl rfl) fin
    · exact hg.callS a1 .branch rfl trivial (Or.inl rfl) fin
    · apply tryConsume_bind hl a1 (by decide)
      · intro s2 a2 _
        apply hg.bindS a2 .functionBlock rfl trivial (Or.inl rfl)
        intro r s3 a3 hc3
        exact fin _ s3 a3 (.funcDecl _ _ _ _ (by decide) hc3)
      · intro tk2 s2 a2 _
        apply hg.bindS a2 .functionBlock rfl trivial (Or.inl rfl)
        intro r s3 a3 hc3
        exact fin _ s3 a3 (.funcDecl _ _ _ _ (by decide) hc3)
    · apply hg.bindS a1 (.expr true) rfl trivial (Or.inl rfl)
      intro e s2 a2 hc2
      exact fin _ s2 a2 (.ret _ _ hc2)
    · exact hg.callS a1 .whileLoop rfl trivial (Or.inl rfl) fin
    · exact hg.callS a1 .varOneLead rfl trivial (Or.inl rfl) fin
    · exact hg.callS a1 (.iteratorRest []) rfl (by simp [PreC]) (Or.inl rfl) fin
    · exact hg.callS a1 .classDecl rfl trivial (Or.inl rfl) fin
    · exact hg.callS a1 .throwStmt rfl trivial (Or.inl rfl) fin
    · -- unreachable: the token type is one of the twelve
      exfalso
      simp only [stmtValidTypes, List.mem_cons, List.not_mem_nil, or_false] at hmem
      simp only [cTypeStmtSep, cTypeDeclareW, cTypeCondW, cTypeFuncW, cTypeReturnW, cTypeWhileLoopW, cTypeVarOneW,
        cTypeIteratorW, cTypeObjDefineW, cTypeThrowErrorW, cTypeBreakW, cTypeContinueW] at *
      omega

theorem pVdPair_good : GoodAt ops B μ I (n + 1) .vdPair (pVdPair Variant.fixed ops n rec) := by
  intro s hs _
  apply hg.bindS (.refl hs) (.commaIds []) rfl trivial (Or.inr (by simp [rank]))
  intro ids s1 a1 hc1
  apply tryConsume_bind hl a1 (by decide)
  · intro s2 a2 _
    exact errPeek_sat a2.inv (by decide)
  · intro tk s2 a2 _
    apply hg.bindS a2 (.expr true) rfl trivial (Or.inl rfl)
    intro e s3 a3 hc3
    refine a3.post ⟨?_, hc1, hc3⟩
    show (if tk.type = cTypeAssignConstW then cVDTypeAssignConst else cVDTypeAssign) = 1 ∨
      (if tk.type = cTypeAssignConstW then cVDTypeAssignConst else cVDTypeAssign) = 3
    split <;> decide

theorem pVarDecl_good : GoodAt ops B μ I (n + 1) .varDecl (pVarDecl Variant.fixed ops n rec) := by
  intro s hs _
  apply tryConsume_bind hl (.refl hs) (by decide)
  · intro s1 a1 _
    apply hg.bindS a1 .vdPair rfl trivial (Or.inr (by simp [rank]))
    intro p s2 a2 hc2
    exact a2.post (.varDecl _ _ (List.forall_mem_singleton.mpr ⟨hc2.1, hc2.2.1⟩) (List.forall_mem_singleton.mpr hc2.2.2))
  · intro tk s1 a1 _
    apply blockIndent_bind a1 (errCurr_sat a1.inv)
    intro bi
    apply hg.bindN a1 (.varDeclLoop bi []) (by intro p hp; simp at hp) (Or.inl rfl)
    intro ps s2 a2 hc2
    exact a2.post (.varDecl _ _ (fun p hp => ⟨(hc2 p hp).1, (hc2 p hp).2.1⟩) (fun p hp => (hc2 p hp).2.2))

theorem pVarDeclLoop_good (indent : Nat) (pairs : List (Nat × List Ident × Expr)) :
    GoodAt ops B μ I (n + 1) (.varDeclLoop indent pairs) (pVarDeclLoop Variant.fixed ops n rec indent pairs) := by
  intro s hs (hpre : ∀ p ∈ pairs, PairOK p)
  refine sat_bind.mpr (sat_ite.mpr ⟨fun _ => sat_bind.mpr ?_, fun _ => (At.refl hs).post_le rfl (fun h => h.elim) hpre⟩)
  apply tryConsume_bind hl ((At.refl hs).flag false) (by decide)
  · intro s1 a1 _
    apply hg.bindS a1 .vdPair rfl trivial (Or.inr (by simp [rank]))
    intro p s2 a2 hc2
    apply endOfStmt_bind a2.inv
    apply hg.callN a2 (.varDeclLoop indent _) (mem_snoc hpre hc2) (Or.inl rfl)
    intro r s3 a3 hc3
    exact a3.post hc3
  · intro tk s1 a1 _
    apply hg.callN a1 (.varDeclLoop indent pairs) hpre (Or.inl rfl)
    intro r s2 a2 hc2
    exact a2.post hc2

end ZnVerif.Proofs.ParserGood
