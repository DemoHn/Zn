/-
Helper lemmas for C15: reading the scope shapes `ImpScope` / `HomeScope` — which names resolve to what
(`ImpScope.resolve`, `HomeScope.own`, `HomeScope.imported`, `entries_below`), which import statement brought them
(`Brings`, `brought_iff`), `count_body_eq` (body events counted in the log or in `bodiesOf`), and `run_view`: the scope of any loaded
module of a completed run, as the C15 scope theorems read it.
-/
import ZnVerif.Proofs.ModulesEnv

namespace ZnVerif.Proofs.Modules
open ZnVerif.Model.Modules

variable {files : Files} {mainSrc : ModuleSrc} {O : Oracle} {libs : Libs}

theorem findIn_append (n : Name) : ∀ (A B : List Sym), Scope.findIn n (A ++ B) =
    match Scope.findIn n A with
    | some (y, i) => some (y, i + B.length)
    | none => Scope.findIn n B
  | [], B => rfl
  | a :: A, B => by
    simp only [List.cons_append, Scope.findIn]
    by_cases h : a.name = n
    · simp [h]
    · simp only [h, if_false]; exact findIn_append n A B

theorem findIn_none_of_notin {n : Name} : ∀ {L : List Sym}, (∀ y, y ∈ L → y.name ≠ n) → Scope.findIn n L = none
  | [], _ => rfl
  | a :: L, h => by
    simp only [Scope.findIn]
    have := h a (List.mem_cons_self ..)
    simp only [this, if_false]
    exact findIn_none_of_notin (fun y hy => h y (List.mem_cons_of_mem _ hy))

theorem findIn_rev_map {α} (f : α → Sym) (key : α → Name) (hk : ∀ e, (f e).name = key e) :
    ∀ (L : List α), (L.map key).Nodup → ∀ (i : Nat) (e : α), L[i]? = some e →
      Scope.findIn (key e) ((L.map f).reverse) = some (f e, i)
  | [], _, i, e, h => by simp at h
  | a :: L, hnd, i, e, h => by
    simp only [List.map_cons, List.reverse_cons]
    rw [findIn_append]
    have hnd' : key a ∉ L.map key ∧ (L.map key).Nodup := List.nodup_cons.1 hnd
    cases i with
    | zero =>
      simp at h; subst h
      have : Scope.findIn (key a) ((L.map f).reverse) = none := by
        apply findIn_none_of_notin
        intro y hy
        simp only [List.mem_reverse, List.mem_map] at hy
        obtain ⟨b, hb, rfl⟩ := hy
        rw [hk]
        intro heq
        exact hnd'.1 (List.mem_map.2 ⟨b, hb, heq⟩)
      rw [this]
      simp [Scope.findIn, hk]
    | succ j =>
      simp at h
      rw [findIn_rev_map f key hk L hnd'.2 j e h]
      simp

theorem mem_selectExports {ex : List (Name × Val)} {n : Name} {v : Val} : ∀ {items : List Name},
    (n, v) ∈ selectExports ex items ↔ n ∈ items ∧ assoc n ex = some v
  | [] => by simp [selectExports]
  | a :: r => by
    unfold selectExports
    cases ha : assoc a ex <;> simp only [List.mem_cons, mem_selectExports (items := r), Prod.mk.injEq]
    · constructor
      · exact fun h => ⟨Or.inr h.1, h.2⟩
      · rintro ⟨rfl | h1, h2⟩
        · rw [ha] at h2; cases h2
        · exact ⟨h1, h2⟩
    · constructor
      · rintro (⟨rfl, rfl⟩ | h)
        · exact ⟨Or.inl rfl, ha⟩
        · exact ⟨Or.inr h.1, h.2⟩
      · rintro ⟨rfl | h1, h2⟩
        · rw [ha] at h2; cases h2; exact Or.inl ⟨rfl, rfl⟩
        · exact Or.inr ⟨h1, h2⟩

theorem mem_chosenOf (hρ : ExportOrderOK O) {ex : List (Name × Val)}
    (hnd : (ex.map (fun p => p.1)).Nodup) {items : List Name} {n : Name} {v : Val} :
    (n, v) ∈ chosenOf O ex items ↔ (n, v) ∈ ex ∧ (items = [] ∨ n ∈ items) := by
  unfold chosenOf
  cases items with
  | nil => simp [(hρ ex).mem_iff]
  | cons a r =>
    dsimp only
    rw [mem_selectExports, assoc_iff_mem hnd]
    constructor
    · exact fun h => ⟨h.2, Or.inr h.1⟩
    · rintro ⟨h1, h2 | h2⟩
      · cases h2
      · exact ⟨h2, h1⟩

theorem EntriesOK.of_mem {vm : VM} {imps : List Imp} {IS : List Entry} (h : EntriesOK O files mainSrc libs vm imps IS)
    {e : Entry} (he : e ∈ IS) : ∃ imp, imp ∈ imps ∧ ∃ mid ex, assoc imp.name vm.nameMap = some mid ∧
      ExOK files mainSrc libs imp.name mid ex ∧ (e.1, e.2.1) ∈ chosenOf O ex imp.items ∧ e.2.2 = mid := by
  induction h with
  | nil => cases he
  | @snoc imps IS imp mid ex _ hn hex ih =>
    rcases List.mem_append.1 he with he | he
    · obtain ⟨i, hi, rest⟩ := ih he
      exact ⟨i, List.mem_append_left _ hi, rest⟩
    · obtain ⟨p, hp, rfl⟩ := List.mem_map.1 he
      exact ⟨imp, List.mem_append_right _ (List.mem_singleton.2 rfl), mid, ex, hn, hex, hp, rfl⟩

theorem EntriesOK.exists_of_mem {vm : VM} {imps : List Imp} {IS : List Entry}
    (h : EntriesOK O files mainSrc libs vm imps IS) {imp : Imp} (hi : imp ∈ imps) :
    ∃ mid ex, assoc imp.name vm.nameMap = some mid ∧ ExOK files mainSrc libs imp.name mid ex ∧
      ∀ p, p ∈ chosenOf O ex imp.items → (p.1, p.2, mid) ∈ IS := by
  induction h with
  | nil => cases hi
  | @snoc imps IS imp' mid ex _ hn hex ih =>
    rcases List.mem_append.1 hi with hi | hi
    · obtain ⟨mid', ex', h1, h2, h3⟩ := ih hi
      exact ⟨mid', ex', h1, h2, fun p hp => List.mem_append_left _ (h3 p hp)⟩
    · cases List.mem_singleton.1 hi
      exact ⟨mid, ex, hn, hex, fun p hp => List.mem_append_right _ (List.mem_map.2 ⟨p, hp, rfl⟩)⟩

theorem toSym0_name (e : Entry) : (toSym0 e).name = e.1 := rfl
theorem toSym1_name (p : Name × Val) : (toSym1 p).name = p.1 := rfl

theorem ImpScope.resolve {s : Scope} {IS : List Entry} (h : ImpScope s IS) {e : Entry} (he : e ∈ IS) :
    s.getValueWithModuleID e.1 = some (e.2.1, some e.2.2) := by
  obtain ⟨i, hi⟩ := List.getElem?_of_mem he
  unfold Scope.getValueWithModuleID Scope.find
  rw [h.locals, findIn_rev_map toSym0 (fun e => e.1) toSym0_name IS h.nodup i e hi]
  dsimp only
  rw [h.ext i, hi]; rfl

theorem HomeScope.own (hρ : ExportOrderOK O) {s : Scope} {ex : List (Name × Val)} {IS : List Entry}
    (hnd : (ex.map (fun p => p.1)).Nodup) (h : HomeScope O s ex IS) {n : Name} {v : Val} (hm : (n, v) ∈ ex) :
    s.getValueWithModuleID n = some (v, none) := by
  have hm' : (n, v) ∈ O.exportOrder ex := (hρ ex).mem_iff.2 hm
  have hnd' : ((O.exportOrder ex).map (fun p => p.1)).Nodup :=
    ((hρ ex).map (fun p => p.1)).nodup_iff.2 hnd
  obtain ⟨i, hi⟩ := List.getElem?_of_mem hm'
  unfold Scope.getValueWithModuleID Scope.find
  rw [h.locals, findIn_append,
    findIn_rev_map toSym1 (fun p => p.1) toSym1_name (O.exportOrder ex) hnd' i (n, v) hi]
  dsimp only
  rw [h.ext]
  have : IS.length ≤ i + ((IS.map toSym0).reverse).length := by simp
  rw [List.getElem?_eq_none this]; rfl

theorem HomeScope.imported {O : Oracle} (hρ : ExportOrderOK O) {s : Scope} {ex : List (Name × Val)} {IS : List Entry}
    (h : HomeScope O s ex IS) {e : Entry} (he : e ∈ IS) (hns : e.1 ∉ ex.map (fun p => p.1)) :
    s.getValueWithModuleID e.1 = some (e.2.1, some e.2.2) := by
  obtain ⟨i, hi⟩ := List.getElem?_of_mem he
  have hnone : Scope.findIn e.1 (((O.exportOrder ex).map toSym1).reverse) = none := by
    apply findIn_none_of_notin
    intro y hy
    simp only [List.mem_reverse, List.mem_map] at hy
    obtain ⟨p, hp, rfl⟩ := hy
    intro heq
    exact hns (List.mem_map.2 ⟨p, (hρ ex).mem_iff.1 hp, heq⟩)
  unfold Scope.getValueWithModuleID Scope.find
  rw [h.locals, findIn_append, hnone]
  dsimp only
  rw [findIn_rev_map toSym0 (fun e => e.1) toSym0_name IS h.nodup i e hi]
  dsimp only
  rw [h.ext i, hi]; rfl

/-- reading a loaded module's scope, the entries of its imports at depth 0 below its own exports (if any) at depth 1:
    the names at depth 0 are the entries' names, and every symbol is a constant -/
theorem entries_below {s : Scope} {IS : List Entry} {top : List (Name × Val)}
    (hl : s.locals = (top.map toSym1).reverse ++ (IS.map toSym0).reverse) :
    (∀ n, (∃ y, y ∈ s.locals ∧ y.depth = 0 ∧ y.name = n) ↔ ∃ e, e ∈ IS ∧ e.1 = n) ∧
    ∀ y, y ∈ s.locals → y.isConst = true := by
  simp only [hl, List.mem_append, List.mem_reverse, List.mem_map]
  refine ⟨fun n => ⟨?_, fun ⟨e, he, hn⟩ => ⟨toSym0 e, Or.inr ⟨e, he, rfl⟩, rfl, hn⟩⟩, ?_⟩
  · rintro ⟨y, ⟨p, _, rfl⟩ | ⟨e, he, rfl⟩, hd, hn⟩
    · cases hd
    · exact ⟨e, he, hn⟩
  · rintro y (⟨p, _, rfl⟩ | ⟨e, _, rfl⟩) <;> rfl

theorem setValueCode_const {s : Scope} (hc : ∀ y, y ∈ s.locals → y.isConst = true) {n : Name}
    (hn : ∃ y, y ∈ s.locals ∧ y.name = n) : s.setValueCode n = some 44 := by
  unfold Scope.setValueCode Scope.find
  generalize s.locals = L at hc hn
  induction L with
  | nil => obtain ⟨y, hy, _⟩ := hn; cases hy
  | cons a L ih =>
    by_cases ha : a.name = n
    · simp [Scope.findIn, ha, hc a (List.mem_cons_self ..)]
    · simp only [Scope.findIn, ha, if_false]
      refine ih (fun y hy => hc y (List.mem_cons_of_mem _ hy)) ?_
      obtain ⟨y, hy, hyn⟩ := hn
      rcases List.mem_cons.1 hy with rfl | hy
      · exact absurd hyn ha
      · exact ⟨y, hy, hyn⟩

end ZnVerif.Proofs.Modules

namespace ZnVerif.Proofs.Modules
open ZnVerif.Model.Modules
open ZnVerif.Spec.ModuleSem (exportNames selected)

/-- what an import statement brings: the selected definitions of the module's source, or the selected registered
    names of the library -/
def Brings (files : Files) (mainSrc : ModuleSrc) (libs : Libs) (imp : Imp) (n : Name) : Prop :=
  ((parseLibName imp.name).libType = .custom ∧
    ∃ srcI, msrc files mainSrc imp.name = some srcI ∧ selected (exportNames srcI) imp.items n) ∨
  ((parseLibName imp.name).libType = .std ∧
    ∃ names, assoc imp.name libs = some names ∧ selected names imp.items n)

theorem brought_iff (hρ : ExportOrderOK O) {vm : VM}
    {imps : List Imp} {IS : List Entry} (hE : EntriesOK O files mainSrc libs vm imps IS) (n : Name) :
    (∃ e, e ∈ IS ∧ e.1 = n) ↔ ∃ imp, imp ∈ imps ∧ Brings files mainSrc libs imp n := by
  constructor
  · rintro ⟨e, he, rfl⟩
    obtain ⟨imp, hi, mid, ex, _, hex, hch, _⟩ := hE.of_mem he
    have hm := (mem_chosenOf hρ hex.nodup).1 hch
    refine ⟨imp, hi, ?_⟩
    rcases libType_cases imp.name with hs | hc
    · obtain ⟨names, e1, i1, _⟩ := hex.std hs
      exact Or.inr ⟨hs, names, e1, (i1 e.1).1 (List.mem_map.2 ⟨_, hm.1, rfl⟩), hm.2⟩
    · obtain ⟨srcI, hsrc, hexeq⟩ := hex.custom hc
      refine Or.inl ⟨hc, srcI, hsrc, ?_, hm.2⟩
      have := hm.1
      rw [hexeq] at this
      obtain ⟨d, hd, hdn⟩ := List.mem_map.1 this
      injection hdn with hdn _
      unfold exportNames
      exact List.mem_map.2 ⟨d, hd, hdn⟩
  · rintro ⟨imp, hi, hbr⟩
    obtain ⟨mid, ex, hn, hex, hall⟩ := hE.exists_of_mem hi
    rcases hbr with ⟨hc, srcI, hsrc, hsel⟩ | ⟨hs, names, hl, hsel⟩
    · obtain ⟨srcI', hsrc', hexeq⟩ := hex.custom hc
      rw [hsrc] at hsrc'; injection hsrc' with hsrc'; subst hsrc'
      obtain ⟨d, hd, hdn⟩ := List.mem_map.1 hsel.1
      have hmem : (n, valOfDef d mid) ∈ ex := by
        rw [hexeq]; exact List.mem_map.2 ⟨d, hd, by rw [hdn]⟩
      have hch := (mem_chosenOf hρ hex.nodup).2 ⟨hmem, hsel.2⟩
      exact ⟨(n, valOfDef d mid, mid), hall _ hch, rfl⟩
    · obtain ⟨names', e1, i1, _⟩ := hex.std hs
      rw [hl] at e1; injection e1 with e1; subst e1
      obtain ⟨p, hp, hpn⟩ := List.mem_map.1 ((i1 n).2 hsel.1)
      have hch : (p.1, p.2) ∈ chosenOf O ex imp.items :=
        (mem_chosenOf hρ hex.nodup).2 ⟨hp, by rw [hpn]; exact hsel.2⟩
      exact ⟨(p.1, p.2, mid), hall _ hch, hpn⟩

theorem count_body_eq (m : Nat) : ∀ log : List Ev, log.count (Ev.body m) = (bodiesOf log).count m
  | [] => rfl
  | e :: r => by cases e <;> simp [bodiesOf, count_body_eq m r, List.count_cons]

theorem run_view (hO : OracleOK O) (hρ : ExportOrderOK O) {cf : Nat}
    {mainPath : Path} (hmain : assoc mainPath files = some mainSrc)
    (hok : (run .repaired O files libs cf mainPath).err = none) {M : Nat} {nm : Name} {src : ModuleSrc}
    (hd : Ev.done M ∈ (run .repaired O files libs cf mainPath).vm.log)
    (hn : (namesOf (run .repaired O files libs cf mainPath).vm)[M]? = some nm) (hsrc : msrc files mainSrc nm = some src) :
    BInv O files mainSrc libs (run .repaired O files libs cf mainPath).vm ∧
    ∃ s IS, lookS (run .repaired O files libs cf mainPath).vm M = some s ∧
      EntriesOK O files mainSrc libs (run .repaired O files libs cf mainPath).vm src.imports IS ∧
      (∀ n, (∃ y, y ∈ s.locals ∧ y.depth = 0 ∧ y.name = n) ↔ ∃ e, e ∈ IS ∧ e.1 = n) ∧
      (∀ y, y ∈ s.locals → y.isConst = true) ∧
      (M ≠ 0 → HomeScope O s ((run .repaired O files libs cf mainPath).vm.exportsOf M) IS) := by
  have hS := run_sinv (libs := libs) (cf := cf) hO hmain
  rw [run_eq hmain] at hok hd hn hS ⊢
  have hF := (runWith_specB (libs := libs) (cf := cf) hO hρ).finish_ok hok
  refine ⟨hF.binv, ?_⟩
  by_cases h0 : M = 0
  · subst h0
    obtain ⟨s, IS, h1, h2, h3⟩ := hF.main
    rw [hS.main0] at hn; cases hn
    rw [msrc_main] at hsrc; cases hsrc
    obtain ⟨d0, hc⟩ := entries_below (top := []) h2.locals
    exact ⟨s, IS, h1, h3, d0, hc, fun h => absurd rfl h⟩
  · obtain ⟨s, IS, h1, h2, h3⟩ := hF.binv.closedScope M nm src hd (by rw [hF.stack]; nofun) h0 hn hsrc
    obtain ⟨d0, hc⟩ := entries_below h2.locals
    exact ⟨s, IS, h1, h3, d0, hc, fun _ => h2⟩

end ZnVerif.Proofs.Modules
