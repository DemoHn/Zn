/-
Continues `namespace ZnVerif.Proofs.Calls` (the names below are `Calls.bindThis`, `Calls.finishBlock` …).
`evalExecBlock` and `handleException` of the evaluator model cut into named pieces, each proved equal to the model
text by unfolding (`evalExecBlock_eq`, `handleException_eq`); and what the primitives on the call stack and the scope
table do, each said once: as an equation `…_state` naming the fields it writes (`pushFrame_state`, `setTopFrame_state`,
`enterScope_state`, `exitScope_state`, `excOf_state`; that a field is untouched is `by rw [pushFrame_state]` or a
`congrArg`), as a run equation (`unwindTo_run`, `popFrame_cons`, `ControlFlow.getReturnValue_eq` over the return slot `ControlFlow.retSlot`,
which the control-flow modules speak of and which is stated first, `findElement_eq`, `withScope_run` / `withScope_frame`)
or, where it branches, by cases (`declareElement_cases`, `setElement_cases`: a runtime error and nothing changed, or the
new scope put; `set_after_const_declare`: a constant just declared rejects assignment).
-/
import ZnVerif.Proofs.Calls
import ZnVerif.Proofs.ScopeOps
set_option linter.unusedSectionVars false
set_option linter.unusedSimpArgs false

namespace ZnVerif.Proofs.ControlFlow
open ZnVerif.Model

variable {ν : Type} [NumOps ν]

/-- the return slot of the top frame (`vm.GetCurrentReturnValue()`; no frame: nil) -/
def retSlot (s : VM ν) : Option Addr :=
  match s.stack with
  | [] => none
  | fr :: _ => fr.ret

theorem getReturnValue_eq (s : VM ν) : getReturnValue s = (.ok (retSlot s), s) := by
  unfold getReturnValue retSlot
  cases h : s.stack <;> simp [bind, topFrame, h, pure]

end ZnVerif.Proofs.ControlFlow

namespace ZnVerif.Proofs.Calls
open ZnVerif.Model

variable {ν : Type} [NumOps ν]

/-- `vm.DeclareConstElement(此, thisValue)` for method frames; its error is ignored -/
def bindThis (vm : VM ν) : M ν Unit :=
  match vm.stack.head? with
  | some fr =>
    if fr.callType == 2 then
      match fr.this with
      | some t => Model.tryCatch (declareElement "此" t true) fun _ => pure ()
      | none => pure ()
    else pure ()
  | none => pure ()

def bindInputs (inputs : List Ident) (params : List Addr) : M ν Unit :=
  (inputs.zip params).forM fun p => do
    let name ← matchIDName p.1.lit
    declareElement name p.2 true

/-- the handler of `evalExecBlock`'s `tryCatch` around the body: a value is the block's value, an error goes to the catch
blocks (loop signals first turned into exceptions), the other outcomes pass -/
def finishBlock (n : Nat) (blockModule : Int) (blockDepth : Nat)
    (catches : List (Option Ident × Option (List Stmt))) (r : Res (Option Addr)) : M ν Addr :=
  match r with
  | .ok (some v) => pure v
  | .ok none => newNull
  | .err e => do
    let e ← loopSignalToException e
    Model.tryCatch (handleException n blockModule blockDepth catches e) fun r =>
      match r with
      | .err e2 => do let e2 ← loopSignalToException e2; throwE e2
      | r => liftRes r
  | .panic => goPanic
  | .fuel => outOfFuel
  | .unmodelled => notModelled

/-- the part of `evalExecBlock` inside the scope bracket; `blockModule` / `blockDepth` are read from the state at entry -/
def execBlockBody (n : Nat) (inputs : List Ident) (body : Option (List Stmt))
    (catches : List (Option Ident × Option (List Stmt))) (params : List Addr) : M ν Addr := fun s =>
  (do
    bindThis s
    if params.length ≠ inputs.length then rtErr 51 else
    bindInputs inputs params
    Model.tryCatch (evalStmtBlock n body) (finishBlock n s.csModuleID s.stack.length catches)) s

/-- `evalExecBlock` cut at `bindThis` / `bindInputs` / `finishBlock`: the cut the frame, stack and scope judgments read.
`ControlFlow.evalExecBlock_eq` (Proofs/EvalArms.lean) is the same function cut at `execPrelude`, for the run lemmas;
`ControlFlow.execPrelude_run` joins the two cuts. -/
theorem evalExecBlock_eq (n : Nat) (inputs : List Ident) (body : Option (List Stmt))
    (catches : List (Option Ident × Option (List Stmt))) (params : List Addr) :
    evalExecBlock (ν := ν) (n+1) (some (.mk inputs body catches)) params =
      withScope (execBlockBody n inputs body catches params) := by
  simp only [evalExecBlock]
  congr 1
  funext s
  -- the same handler, written as the model writes it
  have hfb : finishBlock (ν := ν) n s.csModuleID s.stack.length catches = fun r =>
      match r with
      | .ok (some v) => pure v
      | .ok none => newNull
      | .err e => do
        let e ← loopSignalToException e
        Model.tryCatch (handleException n s.csModuleID s.stack.length catches e) fun r =>
          match r with
          | .err e2 => do let e2 ← loopSignalToException e2; throwE e2
          | r => liftRes r
      | .panic => goPanic
      | .fuel => outOfFuel
      | .unmodelled => notModelled := by
    funext r; cases r <;> (try rfl) <;> (rename_i x; cases x <;> rfl)
  unfold execBlockBody bindThis
  rw [bind_ok (rfl : getVM s = (.ok s, s)), hfb]
  -- the do-block of the model repeats what follows the binding of 此 in every arm
  cases s.stack.head? with
  | none => rfl
  | some fr =>
    simp only
    by_cases hct : (fr.callType == 2) = true
    · simp only [hct, if_true]
      cases fr.this <;> rfl
    · simp only [hct, if_false]
      rfl

/-- which errors are exceptions for a handler: thrown signals, exceptions that crossed a method boundary, runtime faults -/
def excOf (e : Err) : M ν (Option Addr) :=
  match e with
  | .sigExc a => pure (some a)
  | .excErr a => pure (some a)
  | .rt code => do let a ← alloc (.exc ("‹rt:" ++ toString code ++ "›")); pure (some a)
  | _ => pure none

/-- class name of the exception value (`""` for a value that is neither an exception nor an object) -/
def classNameOf (ex : Addr) : M ν String := do
  match ← getCell ex with
  | .exc _ => pure exceptionClassName
  | .obj c _ => do match ← getCell c with | .cls name _ _ _ => pure name | _ => goPanic
  | _ => pure ""

theorem classNameOf_bind {β : Type} (ex : Addr) (k : String → M ν β) :
    (classNameOf ex >>= k) = (getCell ex >>= fun (c : Cell ν) =>
      match c with
      | .exc _ => k exceptionClassName
      | .obj c _ => getCell c >>= fun (cc : Cell ν) =>
        match cc with
        | .cls name _ _ _ => k name
        | _ => goPanic
      | _ => k "") := by
  funext s
  unfold classNameOf
  simp only [M_bind_def]
  rcases hg : getCell ex s with ⟨r, s1⟩
  cases r <;> simp only <;> try rfl
  rename_i c
  cases c <;> simp only <;> try rfl
  rename_i c props
  simp only [M_bind_def]
  rcases hg2 : getCell c s1 with ⟨r2, s2⟩
  cases r2 <;> simp only <;> try rfl
  rename_i c2
  cases c2 <;> rfl

/-- run one handler block: unwind to the protected block's frame depth, push the exception frame, run, pop -/
def runHandler (n : Nat) (blockModule : Int) (blockDepth : Nat) (ex : Addr) (blk : Option (List Stmt)) :
    M ν (Option Addr) := do
  unwindTo blockDepth
  if blockModule < 0 then goPanic else
  pushFrame { moduleId := blockModule, callType := 3, this := some ex }
  let _ ← evalPureStmtBlock n blk
  let rv ← getReturnValue
  popFrame
  match rv with
  | some v => pure (some v)
  | none => do let nl ← newNull; pure (some nl)

def tryHandler (n : Nat) (blockModule : Int) (blockDepth : Nat) (ex : Addr) (clsName : String)
    (c : Option Ident × Option (List Stmt)) : M ν (Option Addr) := do
  let cname ← matchIDNameOpt c.1
  if clsName ≠ "" && cname == clsName then runHandler n blockModule blockDepth ex c.2 else pure none

theorem handleException_eq (n : Nat) (bm : Int) (bd : Nat) (catches : List (Option Ident × Option (List Stmt)))
    (e : Err) :
    handleException (ν := ν) (n+1) bm bd catches e = (do
      let exc? ← excOf e
      match exc? with
      | none => throwE e
      | some ex => do
        let clsName ← classNameOf ex
        firstM (tryHandler n bm bd ex clsName) (throwE e) catches) := by
  simp only [handleException]
  funext s
  cases e with
  | sigExc a =>
    show _ = (classNameOf a >>= _) s
    rw [classNameOf_bind]; rfl
  | excErr a =>
    show _ = (classNameOf a >>= _) s
    rw [classNameOf_bind]; rfl
  | rt code =>
    show _ = ((alloc _ >>= fun a => pure (some a)) >>= _) s
    rw [bind_assoc]
    simp only [M_bind_def, alloc]
    show _ = (classNameOf _ >>= _) _
    rw [classNameOf_bind]; rfl
  | sem c => rfl
  | sigBreak => rfl
  | sigContinue => rfl
  | other => rfl

theorem findElement_eq (name : String) (s : VM ν) :
    findElement name s =
      (match lookup name s.globals with
        | some a => .ok a
        | none =>
          match getScope s.csModuleID s with
          | none => .err (.rt 42)
          | some sc =>
            match sc.find name with
            | some sy => .ok sy.val
            | none => .err (.rt 42), s) := by
  unfold findElement
  rw [bind_ok (rfl : getVM s = (.ok s, s))]
  cases lookup name s.globals with
  | some a => rfl
  | none =>
    dsimp only
    rw [bind_ok (rfl : currentScope s = (.ok (getScope s.csModuleID s), s))]
    cases getScope s.csModuleID s with
    | none => rfl
    | some sc => dsimp only; cases sc.find name <;> rfl

theorem findElement_eq_withModule (name : String) :
    findElement (ν := ν) name = (do let p ← findElementWithModule name; pure p.1) := by
  funext s
  unfold findElement findElementWithModule
  simp only [M_bind_def, getVM]
  cases lookup name s.globals with
  | some a => rfl
  | none =>
    simp only [M_bind_def, currentScope]
    cases getScope s.csModuleID s with
    | none => rfl
    | some sc =>
      dsimp only
      cases sc.find name <;> rfl

def topModule : List Frame → Int
  | [] => -1
  | fr :: _ => fr.moduleId

theorem unwindTo_run (d : Nat) (s : VM ν) :
    unwindTo d s = (.ok (), if s.stack.length ≤ d then s else
      { s with stack := s.stack.drop (s.stack.length - d),
               csModuleID := topModule (s.stack.drop (s.stack.length - d)) }) := by
  unfold unwindTo modifyVM topModule
  simp only
  split <;> rfl

theorem unwindTo_stack (d : Nat) (s : VM ν) (extra st0 : List Frame) (hs : s.stack = extra ++ st0)
    (hl : st0.length = d) : (unwindTo d s).2.stack = st0 := by
  rw [unwindTo_run]
  simp only
  split
  · rename_i h
    rw [hs, List.length_append] at h
    have : extra.length = 0 := by omega
    have : extra = [] := List.eq_nil_of_length_eq_zero this
    simp [hs, this]
  · simp only [hs, List.length_append]
    have : extra.length + st0.length - d = extra.length := by omega
    rw [this, List.drop_left]

theorem unwindTo_other (d : Nat) (s : VM ν) :
    (unwindTo d s).1 = .ok () ∧ (unwindTo d s).2.heap = s.heap ∧ (unwindTo d s).2.out = s.out ∧
    (unwindTo d s).2.scopes = s.scopes ∧ (unwindTo d s).2.globals = s.globals ∧
    (unwindTo d s).2.modules = s.modules := by
  rw [unwindTo_run]
  simp only
  split <;> simp

/-- `pushFrame` writes the call stack, the current module and — for a module that has none yet — the scope table -/
theorem pushFrame_state (fr : Frame) (s : VM ν) :
    (pushFrame fr s).2 =
      { s with stack := fr :: s.stack, csModuleID := fr.moduleId, scopes := (pushFrame fr s).2.scopes } := by
  unfold pushFrame modifyVM
  simp only
  split
  · rfl
  · rw [putScope_state]

theorem pushFrame_stack (fr : Frame) (s : VM ν) : (pushFrame fr s).2.stack = fr :: s.stack :=
  congrArg VM.stack (pushFrame_state fr s)

/-- `PushCallFrame` keeps the scope of every module that has one (it makes an empty scope for a module that has none) -/
theorem _root_.ZnVerif.Model.pushFrame_scope {fr : Frame} {s : VM ν} {cs : Int} {sc : Scope} (h : getScope cs s = some sc) :
    getScope cs (pushFrame fr s).2 = some sc := by
  unfold pushFrame modifyVM
  simp only
  split
  · exact h
  · rename_i hnone
    by_cases hcs : cs = fr.moduleId
    · subst hcs
      have : getScope fr.moduleId s = none := hnone
      rw [this] at h; cases h
    · rw [getScope_putScope_other _ _ _ _ hcs]; exact h

theorem setTopFrame_state (f : Frame → Frame) (s : VM ν) :
    (setTopFrame f s).2 = { s with stack := (setTopFrame f s).2.stack } := by
  unfold setTopFrame modifyVM
  simp only
  split <;> rfl

theorem popFrame_cons (s : VM ν) (fr : Frame) (rest : List Frame) (hs : s.stack = fr :: rest) :
    popFrame s = (.ok (), { s with stack := rest, csModuleID := topModule rest }) := by
  unfold popFrame topModule
  rw [hs]
  rfl

theorem getReturnValue_cons (s : VM ν) (fr : Frame) (rest : List Frame) (hs : s.stack = fr :: rest) :
    getReturnValue s = (.ok fr.ret, s) := by
  rw [ControlFlow.getReturnValue_eq, ControlFlow.retSlot, hs]

theorem getThis_cons (s : VM ν) (fr : Frame) (rest : List Frame) (hs : s.stack = fr :: rest) :
    getThis s = (.ok fr.this, s) := by
  simp [getThis, topFrame, bind, hs, pure]

/-- the state in which a handler block starts -/
def handlerEntry (bm : Int) (bd : Nat) (ex : Addr) (s : VM ν) : VM ν :=
  (pushFrame { moduleId := bm, callType := 3, this := some ex } (unwindTo bd s).2).2

/-- the exception value `ex` has class `name` in state `s`: a built-in 异常 value, or an object of a user class -/
def HasClass (s : VM ν) (ex : Addr) (name : String) : Prop :=
  (∃ msg, s.heap[ex]? = some (.exc msg) ∧ name = exceptionClassName) ∨
  (∃ c props ct ps ms, s.heap[ex]? = some (.obj c props) ∧ s.heap[c]? = some (.cls name ct ps ms))

theorem classNameOf_of_hasClass {s : VM ν} {ex : Addr} {name : String} (h : HasClass s ex name) :
    classNameOf ex s = (.ok name, s) := by
  unfold classNameOf
  rcases h with ⟨msg, h1, h2⟩ | ⟨c, props, ct, ps, ms, h1, h2⟩
  · simp [bind, getCell, h1, h2, pure]
  · simp [bind, getCell, h1, h2, pure]

/-- `runHandler` with the `some` stripped: the value of the handled block -/
def runHandlerA (n : Nat) (blockModule : Int) (blockDepth : Nat) (ex : Addr) (blk : Option (List Stmt)) :
    M ν Addr := do
  unwindTo blockDepth
  if blockModule < 0 then goPanic else
  pushFrame { moduleId := blockModule, callType := 3, this := some ex }
  let _ ← evalPureStmtBlock n blk
  let rv ← getReturnValue
  popFrame
  match rv with
  | some v => pure v
  | none => newNull

theorem runHandler_eq (n : Nat) (bm : Int) (bd : Nat) (ex : Addr) (blk : Option (List Stmt)) :
    runHandler (ν := ν) n bm bd ex blk = (runHandlerA n bm bd ex blk >>= fun v => pure (some v)) := by
  unfold runHandler runHandlerA
  rw [bind_assoc]
  congr 1; funext _
  by_cases hbm : bm < 0
  · simp only [hbm, if_true]; rfl
  · simp only [hbm, if_false]
    simp only [bind_assoc]
    congr 1; funext _
    congr 1; funext _
    congr 1; funext rv
    congr 1; funext _
    cases rv
    · simp only [bind_pure]
    · simp only [pure_bind]

theorem runHandlerA_run (n : Nat) (bm : Int) (bd : Nat) (ex : Addr) (blk : Option (List Stmt)) (s : VM ν)
    (hbm : 0 ≤ bm) :
    runHandlerA n bm bd ex blk s =
      (do let _ ← evalPureStmtBlock n blk
          let rv ← getReturnValue
          popFrame
          match rv with
          | some v => pure v
          | none => newNull : M ν Addr) (handlerEntry bm bd ex s) := by
  unfold runHandlerA handlerEntry
  rw [bind_ok (by rw [unwindTo_run] : unwindTo bd s = (.ok (), (unwindTo bd s).2))]
  simp only [show ¬ bm < 0 by omega, if_false]
  rw [bind_ok (pushFrame_ok _ _)]

theorem tryHandler_hit (n : Nat) (bm : Int) (bd : Nat) (ex : Addr) (i : Ident) (blk : Option (List Stmt))
    (hi : IsName i.lit) (hne : i.lit ≠ "") :
    tryHandler (ν := ν) n bm bd ex i.lit (some i, blk) = (runHandlerA n bm bd ex blk >>= fun v => pure (some v)) := by
  rw [← runHandler_eq]
  funext s
  unfold tryHandler
  rw [bind_ok (matchIDNameOpt_name i hi s)]
  simp [hne]

theorem tryHandler_miss (n : Nat) (bm : Int) (bd : Nat) (ex : Addr) (name : String) (j : Ident)
    (blk : Option (List Stmt)) (hj : IsName j.lit) (hne : j.lit ≠ name) (s : VM ν) :
    tryHandler n bm bd ex name (some j, blk) s = (.ok none, s) := by
  unfold tryHandler
  rw [bind_ok (matchIDNameOpt_name j hj s)]
  simp [hne, pure]

theorem excOf_sigExc (a : Addr) (s : VM ν) : excOf (.sigExc a) s = (.ok (some a), s) := rfl
theorem excOf_excErr (a : Addr) (s : VM ν) : excOf (.excErr a) s = (.ok (some a), s) := rfl
theorem excOf_rt (code : Nat) (s : VM ν) :
    excOf (.rt code) s = (.ok (some s.heap.size),
      { s with heap := s.heap.push (.exc ("‹rt:" ++ toString code ++ "›")) }) := rfl

/-- the state in which the bracketed body starts.  `ControlFlow.enterScope` (Proofs/ControlFlow.lean) is a second definition with
this body, equal by `rfl`; its `leaveScope (scopeHandle s)` is `exitScope s` below (`ControlFlow.leaveScope_handle`). -/
def enterScope (s : VM ν) : VM ν :=
  match getScope s.csModuleID s with
  | none => s
  | some sc => putScope s.csModuleID sc.beginScope s

/-- the deferred `endScope()` of the bracket opened in state `s`, applied to the body's final state `t` -/
def exitScope (s t : VM ν) : VM ν :=
  match getScope s.csModuleID s with
  | none => t
  | some _ => endScopeOf s.csModuleID t

theorem enterScope_state (s : VM ν) : enterScope s = { s with scopes := (enterScope s).scopes } := by
  unfold enterScope
  cases getScope s.csModuleID s with
  | none => rfl
  | some sc => dsimp only; rw [putScope_state]

theorem exitScope_state (s t : VM ν) : exitScope s t = { t with scopes := (exitScope s t).scopes } := by
  unfold exitScope
  cases getScope s.csModuleID s with
  | none => rfl
  | some _ => exact endScopeOf_state _ t

theorem withScope_run {α} (body : M ν α) (s : VM ν) :
    withScope body s = ((body (enterScope s)).1, exitScope s (body (enterScope s)).2) := by
  unfold enterScope exitScope
  cases h : getScope s.csModuleID s with
  | none => rw [withScope_none body s h]
  | some sc => rw [withScope_some body s sc h]

/-- the bracket for whoever does not look at the scope table: the body runs from the entry state with another scope table and
its final state gets another scope table, so every other field is, by definition, the body's -/
theorem withScope_frame {α} (body : M ν α) (s : VM ν) : ∃ sc1 sc2,
    withScope body s = ((body { s with scopes := sc1 }).1, { (body { s with scopes := sc1 }).2 with scopes := sc2 }) :=
  ⟨_, _, by rw [withScope_run, exitScope_state, ← enterScope_state]⟩

theorem excOf_state (e : Err) (s : VM ν) : (excOf e s).2 = { s with heap := (excOf e s).2.heap } := by
  cases e <;> rfl

theorem declareElement_cases (name : String) (v : Addr) (c : Bool) (ext : Option Int) (t : VM ν) :
    (∃ k, declareElement name v c ext t = (.err (.rt k), t)) ∨
    (∃ sc sc', getScope t.csModuleID t = some sc ∧ lookup name t.globals = none ∧ sc.declare name v c ext = .ok sc' ∧
      declareElement name v c ext t = (.ok (), putScope t.csModuleID sc' t)) := by
  unfold declareElement
  have hcs : currentScope t = (.ok (getScope t.csModuleID t), t) := rfl
  rw [bind_ok hcs]
  cases hsc : getScope t.csModuleID t with
  | none => exact Or.inl ⟨_, rfl⟩
  | some sc =>
    simp only
    have hg : getVM t = (.ok t, t) := rfl
    rw [bind_ok hg]
    cases hl : lookup name t.globals with
    | some _ => exact Or.inl ⟨_, rfl⟩
    | none =>
      simp only
      cases hd : sc.declare name v c ext with
      | error e => exact Or.inl ⟨43, by rw [declare_error hd]; rfl⟩
      | ok sc' => exact Or.inr ⟨sc, sc', rfl, trivial, hd, rfl⟩

theorem setElement_cases (name : String) (v : Addr) (t : VM ν) :
    (∃ k, setElement name v t = (.err (.rt k), t)) ∨
    (∃ sc sc', getScope t.csModuleID t = some sc ∧ sc.set name v = .ok sc' ∧
      setElement name v t = (.ok (), putScope t.csModuleID sc' t)) := by
  unfold setElement
  rw [bind_ok (rfl : currentScope t = (.ok (getScope t.csModuleID t), t))]
  cases hsc : getScope t.csModuleID t with
  | none => exact Or.inl ⟨_, rfl⟩
  | some sc =>
    simp only
    cases hd : sc.set name v with
    | error e => obtain ⟨k, rfl⟩ := set_error hd; exact Or.inl ⟨k, rfl⟩
    | ok sc' => exact Or.inr ⟨sc, sc', rfl, hd, rfl⟩

theorem bindThis_cases (t : VM ν) :
    bindThis t t = (.ok (), t) ∨
    (∃ sc sc' v, getScope t.csModuleID t = some sc ∧ sc.declare "此" v true none = .ok sc' ∧
      bindThis t t = (.ok (), putScope t.csModuleID sc' t)) := by
  unfold bindThis
  cases t.stack.head? with
  | none => exact Or.inl rfl
  | some fr =>
    simp only
    by_cases hc : (fr.callType == 2) = true
    · simp only [hc, if_true]
      cases fr.this with
      | none => exact Or.inl rfl
      | some v =>
        simp only
        unfold Model.tryCatch
        rcases declareElement_cases "此" v true none t with ⟨e, he⟩ | ⟨sc, sc', h1, -, h2, h3⟩
        · rw [he]; exact Or.inl rfl
        · rw [h3]; exact Or.inr ⟨sc, sc', v, h1, h2, rfl⟩
    · simp only [hc, if_false]
      exact Or.inl rfl

/-- a symbol declared constant (输入, 得到, 此, methods, types) cannot be assigned: error 44, nothing changes -/
theorem set_after_const_declare (name : String) (v w : Addr) (ext : Option Int) (s s' : VM ν)
    (h : declareElement name v true ext s = (.ok (), s')) : setElement name w s' = (.err (.rt 44), s') := by
  rcases declareElement_cases name v true ext s with ⟨e, he⟩ | ⟨sc, sc', h1, -, h2, h3⟩
  · rw [he] at h; cases h
  · rw [h3] at h
    cases h
    unfold setElement
    have hcs : currentScope (putScope s.csModuleID sc' s) = (.ok (some sc'), putScope s.csModuleID sc' s) := by
      unfold currentScope
      rw [putScope_cs, getScope_putScope_same]
    rw [bind_ok hcs]
    simp only
    rw [declare_ok h2]
    simp [Scope.set, Scope.set.go, throwE]

end ZnVerif.Proofs.Calls
