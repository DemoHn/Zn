/-
Token-level round trip with layout, part 7: the induction over the rendering relation `LinN`, and the loops of the program (the
program itself is `C03.parse_statements_roundtrip`).  At the end `oneLine`: the layout of which the one-line lexer `tokenOps` of
Model/Parser.lean is the instance (`tokenOps_eq`), for Proofs/ParserRoundtrip.lean.
-/
import ZnVerif.Proofs.StmtBranch
import ZnVerif.Proofs.StmtDecl
import ZnVerif.Proofs.StmtExtra

namespace ZnVerif.Proofs.StmtRT
open ZnVerif.Model ZnVerif.Model.Parser ZnVerif.Generated.Tokens ZnVerif.Generated.ParserTables
open ZnVerif.Spec.StmtSyntax

variable {Y : Layout} {v : Variant}

/-- token types a body can start with -/
def execHeads : List Nat := cTypeInputW :: cTypeCatchErrorW :: stmtHeads

theorem execHeads_spec : ∀ ty ∈ execHeads, ty ≠ cTypeEOF := by decide

/-- what the induction carries for each kind of node: where a rendering starts, and what its production does on it -/
def NodeClaim (v : Variant) (Y : Layout) (d : Nat) : Node → List Token → Prop
  | .stmt s, ts => StmtFacts Y ts ∧ CStmt v Y d s ts
  | .block ss, ts => (ss ≠ [] → ts ≠ []) ∧ Heads Y d stmtHeads ts ∧ CLoop v Y d ss ts
  | .btail os he eb, ts => Heads Y d condKeywords ts ∧ CTail v Y d os he eb ts
  | .handlers cs, ts => Heads Y d [cTypeCatchErrorW] ts ∧ CHandlers v Y d cs ts
  | .exec x, ts => ts ≠ [] ∧ ((Y.peek ts).type ∈ execHeads ∧ Y.ind (Y.peek ts) = d) ∧ CExec v Y d x ts
  | .members ps ms gs, ts => Heads Y d classChildTypes ts ∧ CMembers v Y d ps ms gs ts

theorem exec_hpx {d : Nat} {tx : List Token} (h : (Y.peek tx).type ∈ execHeads ∧ Y.ind (Y.peek tx) = d) :
    (Y.peek tx).type ≠ cTypeEOF ∧ Y.ind (Y.peek tx) = d := ⟨execHeads_spec _ h.1, h.2⟩

theorem linN_claim {d : Nat} {nd : Node} {ts : List Token} (h : LinN Y d nd ts) : NodeClaim v Y d nd ts := by
  induction h with
  | simple d s ts hs => exact ⟨(linSimple_claim (v := v) hs).1, (linSimple_claim hs).2.toCStmt⟩
  | declBlockStmt d kw colon ps tp hk hcol hg hind hne hp =>
    exact ⟨kwFacts hk, stmt_declBlock hk hcol hg hind hne hp⟩
  | whileStmt d kw colon c tc b tb hk hc hcol hg hind hbne _ ih =>
    exact ⟨kwFacts hk, stmt_while hk hc hcol hg hind (ih.1 hbne) ih.2.1 ih.2.2⟩
  | iter0Stmt d kw colon e te b tb hk he hcol hg hind hbne _ ih =>
    exact ⟨kwFacts hk, stmt_iter0 hk he hcol hg hind (ih.1 hbne) ih.2.1 ih.2.2⟩
  | iter1Stmt d kw a it colon e te b tb hk ha hit he hcol hg hind hbne _ ih =>
    exact ⟨kwFacts hk, stmt_iter1 hk ha hit he hcol hg hind (ih.1 hbne) ih.2.1 ih.2.2⟩
  | iter2Stmt d kw a p a2 it colon e te b tb hk ha hp ha2 hit he hcol hg hind hbne _ ih =>
    exact ⟨kwFacts hk, stmt_iter2 hk ha hp ha2 hit he hcol hg hind (ih.1 hbne) ih.2.1 ih.2.2⟩
  | branchStmt d kw colon c tc b tb os he eb tt hk hc hcol hg hik hind hbne _ _ hsep ihb iht =>
    exact ⟨kwFacts hk,
      stmt_branch hk hc hcol hg hik hind (ihb.1 hbne) ihb.2.1 ihb.2.2 iht.2 iht.1 hsep⟩
  | tailNil d => exact ⟨heads_nil d _, tail_nil d⟩
  | tailElse d kw colon b tb hk hcol hg hik hind hbne _ ih =>
    exact ⟨.cons hk hik, tail_else hk hcol hg hik hind (ih.1 hbne) ih.2.1 ih.2.2⟩
  | tailOther d kw colon c tc b tb os he eb tt hk hc hcol hg hik hind hbne _ _ hsep ihb iht =>
    exact ⟨.cons hk hik,
      tail_other hk hc hcol hg hik hind (ihb.1 hbne) ihb.2.1 ihb.2.2 iht.2 iht.1 hsep⟩
  | blockNil d => exact ⟨fun h => absurd rfl h, heads_nil d _, loop_nil d⟩
  | blockCons d s ss t1 t2 _ hind _ hsep ihs ihb =>
    refine ⟨fun _ => by simp [ihs.1.ne], fun _ => ?_, loop_cons ihs.2 ihs.1 hind ihb.2.2 ihb.2.1 hsep⟩
    rw [peek_append ihs.1.ne]
    exact ⟨ihs.1.head, hind⟩
  | blockConsSemi d s ss t1 t2 hs hind _ h2 hsemi ihb =>
    have hc := linSimple_claim (v := v) hs
    refine ⟨fun _ => by simp [hc.1.ne], fun _ => ?_, loop_consSemi hc.2 hc.1 hind ihb.2.2 h2 hsemi⟩
    rw [peek_append hc.1.ne]
    exact ⟨hc.1.head, hind⟩
  | blockEmpty d semi ss t2 hs hind _ ihb =>
    exact ⟨fun _ => by simp, .cons hs hind, loop_empty hs hind ihb.2.2⟩
  | funcStmt d kw name q x tx hk hname hq hg hind _ ih =>
    exact ⟨kwFacts hk, stmt_func hk hname hq hg hind ih.1 (exec_hpx ih.2.1) ih.2.2⟩
  | ctorStmt d kw nw name q x tx hk hnw hname hq hg hind _ ih =>
    exact ⟨kwFacts hk, stmt_ctor hk hnw hname hq hg hind ih.1 (exec_hpx ih.2.1) ih.2.2⟩
  | classStmt d kw name colon ps ms gs tm hk hname hcol hg hind hne _ ih =>
    exact ⟨kwFacts hk, stmt_class hk hname hcol hg hind hne ih.2 ih.1⟩
  | execPlain d body tb cs tc _ _ hsep hne ihb ihc =>
    have hh := body_head ihb.2.1 ihc.1 hne
    exact ⟨hne, ⟨List.mem_cons_of_mem _ hh.1, hh.2⟩, exec_plain ihb.2.2 ihb.2.1 ihc.2 ihc.1 hsep hne⟩
  | execInput d kw ids ti body tb cs tc hk hi hg hik _ _ hsep0 hsep hne ihb ihc =>
    exact ⟨by simp, ⟨by show kw.type ∈ _; rw [hk]; decide, hik⟩,
      exec_input hk hi hg hik ihb.2.2 ihb.2.1 ihc.2 ihc.1 hsep0 hsep hne⟩
  | handNil d => exact ⟨heads_nil d _, hand_nil d⟩
  | handCons d kw cls colon b tb cs tc hk hcls hcol hg hik hind hbne _ _ hsep ihb ihc =>
    exact ⟨.cons hk hik,
      hand_cons hk hcls hcol hg hik hind (ihb.1 hbne) ihb.2.1 ihb.2.2 ihc.2 ihc.1 hsep⟩
  | memNil d => exact ⟨heads_nil d _, mem_nil d⟩
  | memProp d kw name asg e te ps ms gs tm hk hname hasg he hg hik _ hsep ih =>
    exact ⟨.cons hk hik, mem_prop hk hname hasg he hg hik ih.2 ih.1 hsep⟩
  | memMethod d kw name q x tx ps ms gs tm hk hname hq hg hik hind _ _ hsep ihx ihm =>
    exact ⟨.cons hk hik,
      mem_func false hk hname hq hg hik hind ihx.1 (exec_hpx ihx.2.1) ihx.2.2 ihm.2 ihm.1 hsep⟩
  | memGetter d kw name q x tx ps ms gs tm hk hname hq hg hik hind _ _ hsep ihx ihm =>
    exact ⟨.cons hk hik,
      mem_func true hk hname hq hg hik hind ihx.1 (exec_hpx ihx.2.1) ihx.2.2 ihm.2 ihm.1 hsep⟩

/-- `ParseProgram`'s loop from the first token of the body on (the imports are in), given what `ParseExecBlock` does there: the body
runs to the end of the text -/
theorem programLoop_body {d : Nat} {x : ExecBlock} {s s' : PState (List Token)} (ims : List Import)
    (hhd : s.p2.type ∈ execHeads ∧ peekIndentOf (layoutOps Y) s = d) (hend : s'.p2.type = cTypeEOF) (m : Nat)
    (hexec : parse v (layoutOps Y) (m + 1) (.execBlock d) { s with flag := false } = .ok x s') :
    parse v (layoutOps Y) (m + 3) (.programLoop d false ims none) s = .ok { imports := ims, exec := some x } s' := by
  have hhs := execHeads_spec _ hhd.1
  have hbc : blockCond (layoutOps Y) d { s with flag := false } = true := blockCond_peek (s := { s with flag := false }) hhs hhd.2
  -- the loop once the imports are over: `ParseExecBlock`, then the loop again, at the end of input
  have hpl2 : parse v (layoutOps Y) (m + 2) (.programLoop d true ims none) { s with flag := false } =
      .ok { imports := ims, exec := some x } s' := by
    refine andThen (getS_S _) ?_
    rw [if_pos hbc]
    refine andThen rfl (andThen hexec (andThen (getS_S _) ?_))
    rw [if_neg (by simp [blockCond, hend])]
    rfl
  refine andThen (getS_S _) ?_
  rw [if_pos (blockCond_peek (s := s) hhs hhd.2)]
  exact andThen rfl (andThen (tryConsume_stops (s := { s with flag := false }) (m + 2) (.of_mem (H := execHeads) hhd.1)) hpl2)

theorem programLoop_exec {d : Nat} {x : ExecBlock} {tx : List Token} (hx : LinN Y d (.exec x) tx) {s s' : PState (List Token)}
    (ims : List Import) (hw : Walk Y false s tx s') (hend : s'.p2.type = cTypeEOF) (m : Nat) (hm : 16 * tx.length + 48 ≤ m + 1) :
    parse v (layoutOps Y) (m + 3) (.programLoop d false ims none) s = .ok { imports := ims, exec := some x } s' := by
  obtain ⟨hne, hhd, hX⟩ := linN_claim (v := v) hx
  obtain ⟨hp, hi⟩ := hw.peek hne
  exact programLoop_body ims ⟨hp ▸ hhd.1, hi.trans hhd.2⟩ hend m
    (hX _ s' (hw.reset hne) rfl (hw.flag_eof hne hend) ⟨by rw [hend]; decide, Or.inl hend⟩ (m + 1) hm)

theorem execHeads_afterImport : ∀ ty ∈ execHeads, ty ∈ afterImport := by decide

/-- the one-line token lexer of Model/Parser.lean is the layout of one line without indentation -/
def oneLine : Layout := { lines := #[{ indents := 0, startIdx := 0 }], eofIdx := 0, ne := by decide }

theorem tokenOps_eq : tokenOps = layoutOps oneLine := rfl

end ZnVerif.Proofs.StmtRT
