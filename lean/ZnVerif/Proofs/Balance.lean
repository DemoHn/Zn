/-
A frame-rule style induction over the evaluator model: `Pres R m` says that running `m` relates every start state
to its end state by the preorder `R`, whatever the outcome (ok, error, panic, out of fuel, unmodelled).
`allPres` (Proofs/BalanceMutual.lean) proves by induction on fuel that every function of the mutual block is `Pres R`,
for every `R` that tolerates allocation / stack / export-list changes and for which the scope primitives, `emit` and the
four places that overwrite a heap cell are `Pres R` (`ScopePrims0`).  The relations it is used with: `ScopeGrow`,
`WellScopedRel` (Proofs/ScopeGrow.lean), `KS` (Proofs/FnStable.lean), `ModKept` (Proofs/LoaderInv.lean), `OutGrows`
(Proofs/OutGrows.lean).
-/
import ZnVerif.Proofs.LeafEffects
import ZnVerif.Proofs.Handlers
set_option linter.unusedSectionVars false
set_option linter.unusedVariables false

namespace ZnVerif.Proofs.Balance
open ZnVerif.Model ZnVerif.Proofs.Calls

variable {ν : Type} [NumOps ν]

class PreRel (R : VM ν → VM ν → Prop) : Prop where
  refl : ∀ s, R s s
  trans : ∀ {a b c}, R a b → R b c → R a c

/-- `R` does not look at the heap, the call stack / current module, the export lists of the module table (the only part of the
module table the evaluator writes: `addExport`; modules are allocated by the loader, `LoaderPrims`) -/
class Stable (R : VM ν → VM ν → Prop) : Prop extends PreRel R where
  heap : ∀ s h, R s { s with heap := h }
  stack : ∀ s st cs, R s { s with stack := st, csModuleID := cs }
  exports : ∀ (s : VM ν) (i : Nat) (md : Module) (e : List (String × Addr)), s.modules[i]? = some md →
    R s { s with modules := s.modules.set! i { md with exports := e } }

/-- the weaker requirement that suffices for everything that never overwrites a heap cell: `R` tolerates allocation
(a cell appended to the heap), call stack / current module and module table changes.  Relations that do look at
existing heap cells (e.g. "method cells are never altered") are `Stable0` but not `Stable`. -/
class Stable0 (R : VM ν → VM ν → Prop) : Prop extends PreRel R where
  alloc : ∀ (s : VM ν) (c : Cell ν), R s { s with heap := s.heap.push c }
  stack : ∀ s st cs, R s { s with stack := st, csModuleID := cs }
  exports : ∀ (s : VM ν) (i : Nat) (md : Module) (e : List (String × Addr)), s.modules[i]? = some md →
    R s { s with modules := s.modules.set! i { md with exports := e } }

instance (R : VM ν → VM ν → Prop) [h : Stable R] : Stable0 R where
  refl := h.refl
  trans := h.trans
  alloc s c := h.heap s _
  stack := h.stack
  exports := h.exports

structure Pres (R : VM ν → VM ν → Prop) {α} (m : M ν α) : Prop where
  run : ∀ s, R s (m s).2

/- `Pres R m` is looked up by instance resolution: the operations of the machine are instances, so the leaves of a
frame argument are found by their head symbol and no list of lemmas has to be tried. -/
attribute [class] Pres

section combinators
variable {R : VM ν → VM ν → Prop} [PreRel R] {α β : Type}

instance Pres.pure (a : α) : Pres R (pure a : M ν α) := ⟨fun s => PreRel.refl s⟩
theorem Pres.bind {m : M ν α} {f : α → M ν β} (hm : Pres R m) (hf : ∀ a, Pres R (f a)) : Pres R (m >>= f) := by
  constructor; intro s
  rw [M_bind_def]
  have := hm.run s
  rcases h : m s with ⟨r, s'⟩
  rw [h] at this
  cases r <;> simp only <;> try exact this
  exact PreRel.trans this ((hf _).run s')
theorem Pres.tryCatch {m : M ν α} {k : Res α → M ν β} (hm : Pres R m) (hk : ∀ r, Pres R (k r)) :
    Pres R (Model.tryCatch m k) := by
  constructor; intro s
  exact PreRel.trans (hm.run s) ((hk _).run _)
instance Pres.liftRes (r : Res α) : Pres R (liftRes r : M ν α) := ⟨fun s => PreRel.refl s⟩
instance Pres.throwE (e : Err) : Pres R (throwE e : M ν α) := ⟨fun s => PreRel.refl s⟩
instance Pres.rtErr (c : Nat) : Pres R (rtErr c : M ν α) := ⟨fun s => PreRel.refl s⟩
theorem Pres.goPanic : Pres R (goPanic : M ν α) := ⟨fun s => PreRel.refl s⟩
theorem Pres.outOfFuel : Pres R (outOfFuel : M ν α) := ⟨fun s => PreRel.refl s⟩
theorem Pres.notModelled : Pres R (notModelled : M ν α) := ⟨fun s => PreRel.refl s⟩
attribute [instance] Pres.goPanic Pres.outOfFuel Pres.notModelled
instance Pres.getVM : Pres R (getVM : M ν _) := ⟨fun s => PreRel.refl s⟩
theorem Pres.modifyVM {f : VM ν → VM ν} (h : ∀ s, R s (f s)) : Pres R (modifyVM f) := ⟨fun s => h s⟩

theorem Pres.closed : Closed (fun {α} (m : M ν α) => Pres R m) := ⟨Pres.pure, Pres.bind⟩

/- The rules `pres_prim` applies, under names of their own. -/
theorem Pres.ite {c : Prop} [Decidable c] {a b : M ν α} (ha : Pres R a) (hb : Pres R b) : Pres R (if c then a else b) :=
  Pres.closed.ite ha hb
theorem Pres.mapM {f : α → M ν β} (h : ∀ a, Pres R (f a)) (l : List α) : Pres R (l.mapM f) := Pres.closed.mapM fun a _ => h a
theorem Pres.forM {f : α → M ν PUnit} (h : ∀ a, Pres R (f a)) (l : List α) : Pres R (l.forM f) := Pres.closed.forM fun a _ => h a
theorem Pres.foldlM {f : β → α → M ν β} (h : ∀ b a, Pres R (f b a)) (l : List α) (b : β) : Pres R (l.foldlM f b) :=
  Pres.closed.foldlM h l b

end combinators

/-- One step of a frame argument: split a `bind` (the commonest shape, tried first), close an operation of the machine
by instance resolution (hypotheses `∀ x, Pres R (f x)` in the context count as instances), or open one of the other
combinators.  The loops of the statements (`whileM`, `untilM`, `untilIdxM`, `firstM`, `stmtsLoop`) and the scope bracket are
not among them: each occurs once or twice and takes its rule from `Pres.closed` where it stands. -/
macro "pres_prim" : tactic => `(tactic| with_reducible (first
  | apply Pres.bind | infer_instance | apply Pres.ite | apply Pres.tryCatch | apply Pres.mapM | apply Pres.forM | apply Pres.foldlM))

/-- Repeats `pres_prim`, `intro`, `split` (on the `match`es of the program; `if`s go by `Pres.ite`) and `assumption`
until nothing applies.  What it leaves open: the arms of a `match` that `split` proves unreachable only by a hypothesis
`∀ …, x = ctor … → False` in the context (callers close them with `<;> contradiction`), and operations for which no
instance or hypothesis `Pres R (op ..)` is in scope — such a goal names the missing fact. -/
macro "pres_tac" : tactic => `(tactic| repeat' (first | intro _ | pres_prim | split | assumption | dsimp only))

/-! ## functions outside the mutual block

Those that touch nothing but the heap are `Leaf` (Proofs/LeafEffects.lean); what remains here are the operations on the
call stack and the module table. -/

section leaves
variable {R : VM ν → VM ν → Prop} [Stable0 R] {α β : Type}

theorem Stable0.append (s : VM ν) : ∀ (l : List (Cell ν)) (h : Array (Cell ν)),
    R s { s with heap := h } → R s { s with heap := h ++ l.toArray }
  | [], h, hr => by simpa using hr
  | c :: l, h, hr => by
    have := Stable0.append s l (h.push c) (PreRel.trans hr (Stable0.alloc { s with heap := h } c))
    simpa using this

theorem Stable0.ofLeafStep {s s' : VM ν} (h : Leaf.LeafStep none s s') : R s s' := by
  have hp : s'.heap = s.heap ++ (s'.heap.toList.drop s.heap.size).toArray := by
    apply Array.ext_getElem?
    intro i
    rcases Nat.lt_or_ge i s.heap.size with hi | hi
    · obtain ⟨c', h1, _, h3⟩ := h.old i _ (Array.getElem?_eq_getElem hi)
      rcases h3 with rfl | ⟨h3, _⟩
      · rw [h1, Array.getElem?_append_left hi]; exact (Array.getElem?_eq_getElem hi).symm
      · cases h3
    · rw [Array.getElem?_append_right hi]
      simp [List.getElem?_drop, Nat.add_sub_cancel' hi]
  rw [h.frame, hp]
  exact Stable0.append s _ _ (PreRel.refl s)

omit [Stable0 R] in
theorem Pres.ofRuns {w : Option Addr} {m : M ν α} (hR : ∀ s s', Leaf.LeafStep w s s' → R s s')
    (h : Leaf.Runs w m) : Pres R m := ⟨fun s => hR _ _ (h.step s)⟩

omit [Stable0 R] in
instance (priority := low) Pres.ofLeaf {m : M ν α} [h : Leaf.Leaf none m] [Stable0 R] : Pres R m :=
  .ofRuns (fun _ _ => Stable0.ofLeafStep) (h.runs none)

instance Pres.alloc (c : Cell ν) : Pres R (alloc c) := ⟨fun s => Stable0.alloc s c⟩
theorem Pres.stackDepth : Pres R (stackDepth (ν := ν)) := inferInstance
instance Pres.setTopFrame (f : Frame → Frame) : Pres R (setTopFrame (ν := ν) f) := by
  unfold Model.setTopFrame
  apply Pres.modifyVM
  intro s
  cases h : s.stack with
  | nil => simp only; exact PreRel.refl _
  | cons fr rest => exact Stable0.stack s (f fr :: rest) s.csModuleID
instance Pres.popFrame : Pres R (popFrame (ν := ν)) := by
  constructor; intro s; unfold Model.popFrame; split
  · exact PreRel.refl _
  · exact Stable0.stack s _ _
theorem Pres.unwindTo (d : Nat) : Pres R (unwindTo (ν := ν) d) := by
  unfold Model.unwindTo
  apply Pres.modifyVM
  intro s
  simp only
  split
  · exact PreRel.refl _
  · exact Stable0.stack s _ _
attribute [instance] Pres.unwindTo
instance Pres.addExport (i : Nat) (name : String) (v : Addr) : Pres R (addExport (ν := ν) i name v) := by
  constructor; intro s; unfold Model.addExport; split
  · exact PreRel.refl _
  · rename_i m hm
    split
    · exact PreRel.refl _
    · exact Stable0.exports s _ _ _ hm

theorem Pres.display : ∀ (n : Nat) (a : Addr), Pres R (display (ν := ν) n a) := fun _ _ => inferInstance
theorem Pres.getProperty (n : Nat) (a : Addr) (name : String) : Pres R (getProperty (ν := ν) n a name) :=
  inferInstance

end leaves

section strongLeaves
variable {R : VM ν → VM ν → Prop} [Stable R] {α β : Type}

theorem Stable.ofLeafStep {w : Option Addr} {s s' : VM ν} (h : Leaf.LeafStep w s s') : R s s' :=
  h.frame ▸ Stable.heap s _

theorem Pres.setProperty (a : Addr) (name : String) (v : Addr) : Pres R (setProperty (ν := ν) a name v) :=
  .ofRuns (fun _ _ => Stable.ofLeafStep) (Leaf.runs_setProperty a name v)

theorem Pres.builtinMethod (n : Nat) (a : Addr) (name : String) (vals : List Addr) :
    Pres R (builtinMethod (ν := ν) n a name vals) :=
  .ofRuns (fun _ _ => Stable.ofLeafStep) (Leaf.runs_builtinMethod n a name vals)

theorem Pres.reduceLHS (iv : Nat × Addr × String × Int) (v : Addr) : Pres R (reduceLHS (ν := ν) iv v) :=
  .ofRuns (fun _ _ => Stable.ofLeafStep) (Leaf.runs_reduceLHS iv v)

instance Pres.setCell (a : Addr) (c : Cell ν) : Pres R (setCell a c) := by
  constructor; intro s; unfold Model.setCell; split
  · exact Stable.heap s _
  · exact PreRel.refl _

theorem Pres.evalCtorDecl : ∀ (n : Nat) (st : Stmt), Pres R (evalCtorDecl (ν := ν) n st)
  | 0, st => Pres.outOfFuel
  | n+1, st => by cases st <;> rw [Model.evalCtorDecl] <;> pres_tac <;> contradiction

end strongLeaves


/-! ## the scope primitives, one `putScope` at a time

`pushFrame`, `declareElement`, `setElement` and the scope bracket change the scope table by single `putScope` steps (and
`pushFrame` the call stack): a relation that holds along each kind of step the operation can take holds along the
operation. -/

section putSteps
variable {R : VM ν → VM ν → Prop} {α : Type}

theorem Pres.pushFrame_of_put [Stable0 R] (h : ∀ (s : VM ν) mid, getScope mid s = none → R s (putScope mid {} s))
    (fr : Frame) : Pres R (pushFrame (ν := ν) fr) := by
  unfold Model.pushFrame
  refine Pres.modifyVM fun s => ?_
  simp only
  split
  · exact Stable0.stack s _ _
  · exact PreRel.trans (Stable0.stack s _ _) (h _ _ ‹_›)

theorem Pres.declareElement_of_put [PreRel R] {name : String} {v : Addr} {c : Bool} {ext : Option Int}
    (h : ∀ (s : VM ν) sc sc', getScope s.csModuleID s = some sc → sc.declare name v c ext = .ok sc' →
      R s (putScope s.csModuleID sc' s)) : Pres R (declareElement (ν := ν) name v c ext) :=
  ⟨fun s => by
    rcases declareElement_cases name v c ext s with ⟨e, he⟩ | ⟨sc, sc', h1, -, h2, h3⟩
    · rw [he]; exact PreRel.refl s
    · rw [h3]; exact h s sc sc' h1 h2⟩

theorem Pres.setElement_of_put [PreRel R] {name : String} {v : Addr}
    (h : ∀ (s : VM ν) sc sc', getScope s.csModuleID s = some sc → sc.set name v = .ok sc' →
      R s (putScope s.csModuleID sc' s)) : Pres R (setElement (ν := ν) name v) :=
  ⟨fun s => by
    rcases setElement_cases name v s with ⟨e, he⟩ | ⟨sc, sc', h1, h2, h3⟩
    · rw [he]; exact PreRel.refl s
    · rw [h3]; exact h s sc sc' h1 h2⟩

theorem Pres.beginBoundScope_of_put [PreRel R]
    (h : ∀ (s : VM ν) sc, getScope s.csModuleID s = some sc → R s (putScope s.csModuleID sc.beginScope s)) :
    Pres R (beginBoundScope (ν := ν)) :=
  ⟨fun s => by
    unfold Model.beginBoundScope
    split
    · exact PreRel.refl s
    · exact h s _ ‹_›⟩

theorem Pres.withScope_of_put [PreRel R]
    (hb : ∀ (s : VM ν) sc, getScope s.csModuleID s = some sc → R s (putScope s.csModuleID sc.beginScope s))
    (he : ∀ (s : VM ν) mid sc, getScope mid s = some sc → R s (putScope mid sc.endScope s))
    (body : M ν α) (h : Pres R body) : Pres R (withScope body) :=
  ⟨fun s => by
    cases hsc : getScope s.csModuleID s with
    | none => rw [withScope_none body s hsc]; exact h.run s
    | some sc =>
      rw [withScope_some body s sc hsc]
      refine PreRel.trans (hb s sc hsc) (PreRel.trans (h.run _) ?_)
      simp only
      unfold endScopeOf
      split
      · exact PreRel.refl _
      · exact he _ _ _ ‹_›⟩

end putSteps

/-- what `R` has to allow besides `Stable0`: output, frame push (creates the module's scope), declaration,
assignment, and the scope bracket -/
class ScopePrims0 (R : VM ν → VM ν → Prop) : Prop extends Stable0 R where
  emit : ∀ l, Pres R (emit (ν := ν) l)
  pushFrame : ∀ fr, Pres R (pushFrame (ν := ν) fr)
  declareElement : ∀ name v c ext, Pres R (declareElement (ν := ν) name v c ext)
  setElement : ∀ name v, Pres R (setElement (ν := ν) name v)
  withScope : ∀ {α : Type} (body : M ν α), Pres R body → Pres R (withScope body)
  /-- the four places where an existing heap cell is overwritten (`setCell`) -/
  setProperty : ∀ a name v, Pres R (setProperty (ν := ν) a name v)
  builtinMethod : ∀ n a name vals, Pres R (builtinMethod (ν := ν) n a name vals)
  reduceLHS : ∀ iv v, Pres R (reduceLHS (ν := ν) iv v)
  evalCtorDecl : ∀ n st, Pres R (evalCtorDecl (ν := ν) n st)

/-- the same five scope fields over `Stable` instead of `Stable0`, for relations that do not look at heap cells at all:
the four `setCell` fields of `ScopePrims0` are then theorems (`Pres.setProperty` … above), see the instance below -/
class ScopePrims (R : VM ν → VM ν → Prop) : Prop extends Stable R where
  emit : ∀ l, Pres R (emit (ν := ν) l)
  pushFrame : ∀ fr, Pres R (pushFrame (ν := ν) fr)
  declareElement : ∀ name v c ext, Pres R (declareElement (ν := ν) name v c ext)
  setElement : ∀ name v, Pres R (setElement (ν := ν) name v)
  withScope : ∀ {α : Type} (body : M ν α), Pres R body → Pres R (withScope body)

instance (R : VM ν → VM ν → Prop) [h : ScopePrims R] : ScopePrims0 R where
  refl := h.refl
  trans := h.trans
  alloc s c := h.heap s _
  stack := h.stack
  exports := h.exports
  emit := h.emit
  pushFrame := h.pushFrame
  declareElement := h.declareElement
  setElement := h.setElement
  withScope := h.withScope
  setProperty := Pres.setProperty
  builtinMethod := Pres.builtinMethod
  reduceLHS := Pres.reduceLHS
  evalCtorDecl := Pres.evalCtorDecl

structure AllPres (R : VM ν → VM ν → Prop) (n : Nat) : Prop where
  evalExpr : ∀ e, Pres R (evalExpr (ν := ν) n e)
  memberIV : ∀ e, Pres R (memberIV (ν := ν) n e)
  execFunction : ∀ f t ps, Pres R (execFunction (ν := ν) n f t ps)
  execDirectFunction : ∀ f ps, Pres R (execDirectFunction (ν := ν) n f ps)
  execMethodFunction : ∀ r f ps, Pres R (execMethodFunction (ν := ν) n r f ps)
  construct : ∀ c ps, Pres R (construct (ν := ν) n c ps)
  evalExecBlock : ∀ b ps, Pres R (evalExecBlock (ν := ν) n b ps)
  handleException : ∀ bm bd cs e, Pres R (handleException (ν := ν) n bm bd cs e)
  evalStmtBlock : ∀ b, Pres R (evalStmtBlock (ν := ν) n b)
  evalPureStmtBlock : ∀ b, Pres R (evalPureStmtBlock (ν := ν) n b)
  evalStmt : ∀ st, Pres R (evalStmt (ν := ν) n st)
  evalClassDecl : ∀ st, Pres R (evalClassDecl (ν := ν) n st)
  evalFuncDecl : ∀ st, Pres R (evalFuncDecl (ν := ν) n st)
  evalCtorDecl : ∀ st, Pres R (evalCtorDecl (ν := ν) n st)

/- the induction hypothesis of `allPres` is found by instance resolution, like the operations -/
attribute [class] AllPres

section calls
variable {R : VM ν → VM ν → Prop} {n : Nat} [h : AllPres R n]

instance (e) : Pres R (evalExpr (ν := ν) n e) := h.evalExpr e
instance (e) : Pres R (memberIV (ν := ν) n e) := h.memberIV e
instance (f t ps) : Pres R (execFunction (ν := ν) n f t ps) := h.execFunction f t ps
instance (f ps) : Pres R (execDirectFunction (ν := ν) n f ps) := h.execDirectFunction f ps
instance (r f ps) : Pres R (execMethodFunction (ν := ν) n r f ps) := h.execMethodFunction r f ps
instance (c ps) : Pres R (construct (ν := ν) n c ps) := h.construct c ps
instance (b ps) : Pres R (evalExecBlock (ν := ν) n b ps) := h.evalExecBlock b ps
instance (bm bd cs e) : Pres R (handleException (ν := ν) n bm bd cs e) := h.handleException bm bd cs e
instance (b) : Pres R (evalStmtBlock (ν := ν) n b) := h.evalStmtBlock b
instance (b) : Pres R (evalPureStmtBlock (ν := ν) n b) := h.evalPureStmtBlock b
instance (st) : Pres R (evalStmt (ν := ν) n st) := h.evalStmt st
instance (st) : Pres R (evalClassDecl (ν := ν) n st) := h.evalClassDecl st
instance (st) : Pres R (evalFuncDecl (ν := ν) n st) := h.evalFuncDecl st

end calls

section mutualBlock
variable {R : VM ν → VM ν → Prop} [ScopePrims0 R]

theorem Pres.stmtsLoop {evalOne : Stmt → M ν Addr} (h : ∀ st, Pres R (evalOne st)) (l : List Stmt) (last : Option Addr) :
    Pres R (stmtsLoop evalOne last l) := Pres.closed.stmtsLoop inferInstance (fun st _ => h st) last

theorem Pres.reduceRHS (n : Nat) (iv : Nat × Addr × String × Int) : Pres R (reduceRHS (ν := ν) n iv) := inferInstance

attribute [instance] ScopePrims0.emit ScopePrims0.pushFrame ScopePrims0.declareElement ScopePrims0.setElement
  ScopePrims0.setProperty ScopePrims0.builtinMethod ScopePrims0.reduceLHS ScopePrims0.evalCtorDecl

end mutualBlock

end ZnVerif.Proofs.Balance
