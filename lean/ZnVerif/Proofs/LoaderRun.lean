/-
Run equations of the loader of `Model/Interp.lean`, one per primitive and per branch of `evalImport`: what `allocateModule`
writes, that `checkDependency` decides `HasCycle`, the two failures before anything runs (`importStd` without the library,
`loadModule` without the file), and `evalImport` after `vm.SetCurrentLine`.  Each gives the whole machine state, so what a
step leaves alone is read off by `congrArg` or by unfolding a projection.  `loadStart` is the machine in which the program
of a module that is being loaded starts.  (The abstract loader of `Model/Modules.lean` has an `evalImport` of its own: the lemmas about
that one are `evalImport_spec` / `evalImport_specB` in Proofs/ModulesLoad, ModulesEnv.)
Declares into `namespace ZnVerif.Proofs.Balance`, like Proofs/LoaderInv.lean.
-/
import ZnVerif.Proofs.LoaderInv
import ZnVerif.Proofs.ModulesDfs
set_option linter.unusedSectionVars false

namespace ZnVerif.Proofs.Balance
open ZnVerif.Model ZnVerif.Proofs.Calls
open ZnVerif.Spec.ModuleSem (Walk HasCycle)

variable {ν : Type} [NumOps ν]

theorem allocateModule_fresh {name : String} {hp : Bool} {s : VM ν} (h : findModuleByName name s = none) :
    allocateModule name hp s = (.ok s.modules.size,
      { s with modules := s.modules.push { name := name, hasProgram := hp },
               graph := if s.csModuleID ≥ 0 then s.graph ++ [(s.csModuleID, (s.modules.size : Int))] else s.graph,
               csModuleID := s.modules.size }) := by
  unfold allocateModule; rw [h]

/-- in both cases `allocateModule` writes the module table, the dependency graph and the current module only -/
theorem allocateModule_state (name : String) (hp : Bool) (s : VM ν) :
    (allocateModule name hp s).2 =
      { s with modules := (allocateModule name hp s).2.modules, graph := (allocateModule name hp s).2.graph,
               csModuleID := (allocateModule name hp s).2.csModuleID } := by
  unfold allocateModule; split <;> rfl

theorem allocateModule_ok (name : String) (hp : Bool) (s : VM ν) :
    ∃ i, allocateModule name hp s = (.ok i, (allocateModule name hp s).2) := by
  unfold allocateModule
  split <;> exact ⟨_, rfl⟩

theorem importStd_missing {libs : LibTable} {name : String} (hlib : lookup name libs = none) (s : VM ν) :
    importStd libs name s = (.err (.rt 64), (allocateModule name false s).2) := by
  unfold importStd
  obtain ⟨i, hi⟩ := allocateModule_ok name false s
  rw [bind_ok hi, hlib]
  rfl

theorem loadModule_no_file {files : FileTable} {name : String}
    (hfile : ∀ path, modulePath name = some path → lookup path files = none) (libs : LibTable) (fuel k : Nat) (s : VM ν) :
    loadModule files libs fuel (k+1) name s = (.err (.rt 60), s) := by
  rw [loadModule]
  unfold execAnotherModule
  cases hp : modulePath name with
  | none => rfl
  | some path => simp only [hfile path hp]; rfl

/-- for an allocated name `CheckDepedency` decides whether the dependency graph has a cycle: it starts the DFS of
`Model/Modules` from every node of the graph (`ModulesDfs.checkCircular_spec`) -/
theorem checkDependency_found {name : String} {s : VM ν} {i : Nat} (h : findModuleByName name s = some i) :
    (HasCycle (natGraph s.graph) → checkDependency name s = (.err (.rt 63), s)) ∧
    (¬ HasCycle (natGraph s.graph) → checkDependency name s = (.ok (), s)) := by
  unfold checkDependency
  simp only [h]
  obtain ⟨b, hb, ht, hf⟩ := ModulesDfs.checkCircular_spec (natGraph s.graph) (Modules.nodes (natGraph s.graph))
  rw [hb]
  cases b with
  | true => exact ⟨fun _ => rfl, fun hn => absurd (ht rfl) hn⟩
  | false => exact ⟨fun hc => absurd hc (hf rfl fun _ hv => hv), fun _ => rfl⟩

/-- the edge `a → b` closes a cycle when the graph leads from `b` to `a` -/
theorem natGraph_closes {g : List (Int × Int)} {a b : Int} (h : Walk (natGraph g) (b + 1).toNat (a + 1).toNat) :
    HasCycle (natGraph (g ++ [(a, b)])) := by
  unfold natGraph at h ⊢
  rw [List.map_append]
  exact ⟨_, _, List.mem_append_right _ (List.mem_singleton.2 rfl), ModulesDfs.Walk.mono (fun _ => List.mem_append_left _) h⟩

section evalImport
variable (libs : LibTable) (load : String → M ν Nat) {im : Import} {name : String} (s : VM ν)

theorem evalImport_std (hn : im.name = some name) (hstd : isStdName name = true) :
    evalImport libs load im s = (importStd libs name >>= fun ext => bindImports ext im.items)
      { s with stack := (setTopFrame (fun fr => { fr with line := im.line, started := true }) s).2.stack } := by
  unfold evalImport
  rw [bind_ok (m := setTopFrame _) (a := ()) (s' := (setTopFrame _ s).2) rfl, setTopFrame_state]
  simp only [hn, hstd, if_true]

/-- an import of a program module (a name without `@`): find the module or load it, record the edge, check for a cycle,
bind the names; `vm.SetCurrentLine` has written the top frame -/
theorem evalImport_custom (hn : im.name = some name) (hstd : isStdName name = false) :
    evalImport libs load im s =
      (do let ext ← match findModuleByName name s with
            | none => load name
            | some i => do
              addModuleDependency i
              pure i
          checkDependency name
          bindImports ext im.items : M ν Unit)
      { s with stack := (setTopFrame (fun fr => { fr with line := im.line, started := true }) s).2.stack } := by
  unfold evalImport
  rw [bind_ok (m := setTopFrame _) (a := ()) (s' := (setTopFrame _ s).2) rfl]
  simp only [hn, hstd, Bool.false_eq_true, if_false]
  rw [bind_ok (m := getVM) (a := (setTopFrame _ s).2) rfl, setTopFrame_state]
  rfl

/-- … of an allocated module: the loader is not reached; the edge `current → i` is recorded before the check -/
theorem evalImport_found {i : Nat} (hn : im.name = some name) (hstd : isStdName name = false)
    (hf : findModuleByName name s = some i) :
    evalImport libs load im s =
      (do checkDependency name
          bindImports i im.items : M ν Unit)
      { s with stack := (setTopFrame (fun fr => { fr with line := im.line, started := true }) s).2.stack,
               graph := s.graph ++ [(s.csModuleID, (i : Int))] } := by
  rw [evalImport_custom libs load s hn hstd, hf]
  rfl

end evalImport

/-- the machine in which the program of a freshly allocated module starts: entry appended, script frame pushed -/
def loadStart (name : String) (s : VM ν) : VM ν :=
  (pushFrame { moduleId := (s.modules.size : Int), callType := 1 } (allocateModule name true s).2).2

theorem loadStart_facts {name : String} {s : VM ν} (hfresh : findModuleByName name s = none) :
    (∀ n, findModuleByName n (loadStart name s) =
      (findModuleByName n s).or (if name == n then some s.modules.size else none)) ∧
    (loadStart name s).csModuleID = (s.modules.size : Int) ∧
    (loadStart name s).graph = (if s.csModuleID ≥ 0 then s.graph ++ [(s.csModuleID, (s.modules.size : Int))] else s.graph) := by
  unfold loadStart
  rw [pushFrame_state, allocateModule_fresh hfresh]
  exact ⟨findModuleByName_push (s := s) (m := { name := name, hasProgram := true }) rfl, rfl, rfl⟩

end ZnVerif.Proofs.Balance
