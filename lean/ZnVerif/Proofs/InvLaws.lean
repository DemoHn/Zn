/-
The two invariants under which the operations outside the evaluator are total — `WfHeap` (Proofs/Builtins.lean) and `VI`
(Proofs/VarInputVM.lean: `WfHeap`, every cell `Plain`, every root a cell) — differ only in what they say of the roots.
`KR s s'`: predefined names, scopes, call stack and current module are the same in `s'`, and a plain heap stays plain
(module table, import graph and output are not constrained); it holds of every `LeafStep` (Proofs/LeafEffects.lean): what
the built-in operations allocate is data, what they overwrite keeps its sort.  `InvLaws I`: `I` gives `WfHeap` and
survives a `KR` step that ends in a well-formed, grown heap.  A heap-level result of a run that keeps the roots then holds
under either invariant (`Hoare.lift`), and the two operations that are not `LeafStep`s — `construct` allocates an object,
显示 emits a line — are proved once for both.
-/
import ZnVerif.Proofs.BuiltinMembers
set_option linter.unusedSectionVars false

namespace ZnVerif.Proofs.VarInput
open ZnVerif.Model ZnVerif.Proofs.Builtins ZnVerif.Proofs.Leaf

variable {ν : Type} [NumOps ν]

/-- a cell that an input-variable text can meet: not a user-defined method, not a type with a user-defined constructor or
    with methods -/
def Plain : Cell ν → Prop
  | .fn (.user _) => False
  | .cls _ (.user _ _) _ _ => False
  | .cls _ _ _ methods => methods = []
  | _ => True

def PlainHeap (h : Heap ν) : Prop := ∀ (a : Nat) (c : Cell ν), h[a]? = some c → Plain c

theorem plainHeap_push {h : Heap ν} (hp : PlainHeap h) {c : Cell ν} (hc : Plain c) : PlainHeap (h.push c) := by
  intro a c' hc'
  rw [Array.getElem?_push] at hc'
  split at hc'
  · cases hc'; exact hc
  · exact hp a c' hc'

def KR (s s' : VM ν) : Prop :=
  s'.globals = s.globals ∧ s'.scopes = s.scopes ∧ s'.stack = s.stack ∧ s'.csModuleID = s.csModuleID ∧
  (PlainHeap s.heap → PlainHeap s'.heap)

theorem KR.alloc (s : VM ν) {c : Cell ν} (hc : Plain c) : KR s (alloc c s).2 :=
  ⟨rfl, rfl, rfl, rfl, fun hp => plainHeap_push hp hc⟩

theorem plain_of_sort {c : Cell ν} (h : (sortOf c).data = true ∨ (sortOf c).mutable = true) : Plain c := by
  cases c <;> first | trivial | (rcases h with h | h <;> cases h)

theorem KR.ofLeafStep {w : Option Addr} {s s' : VM ν} (h : LeafStep w s s') : KR s s' := by
  refine ⟨by rw [h.frame], by rw [h.frame], by rw [h.frame], by rw [h.frame], fun hp a c' hc' => ?_⟩
  rcases Nat.lt_or_ge a s.heap.size with hlt | hge
  · obtain ⟨c'', h1, h2, h3⟩ := h.old a _ (Array.getElem?_eq_getElem hlt)
    rw [h1] at hc'; cases hc'
    rcases h3 with rfl | ⟨_, hm⟩
    · exact hp a _ (Array.getElem?_eq_getElem hlt)
    · exact plain_of_sort (.inr (h2 ▸ hm))
  · exact plain_of_sort (.inl (h.new a c' hge hc'))

/-- what `Hoare.lift` needs of an invariant to carry a `WfHeap` result over to it; `WfHeap` and `VI` have both laws -/
structure InvLaws (I : VM ν → Prop) : Prop where
  wf : ∀ {s}, I s → WfHeap s
  step : ∀ {s s'}, I s → KR s s' → WfHeap s' → Ext s.heap s'.heap → I s'

theorem wfHeap_laws : InvLaws (WfHeap (ν := ν)) := ⟨id, fun _ _ h _ => h⟩

variable {I : VM ν → Prop} {α : Type} {s : VM ν}

theorem _root_.ZnVerif.Proofs.Builtins.Hoare.lift {m : M ν α} {Q : α → VM ν → Prop} (hI : InvLaws I) (hs : I s)
    (k : KR s (m s).2) (hp : Hoare WfHeap Ext s Q (m s)) : Hoare I Ext s (fun a s' => Q a s' ∧ KR s s') (m s) :=
  ⟨hp.ne_panic, hI.step hs k hp.inv hp.rel, hp.rel, fun e => ⟨hp.val e, k⟩⟩

theorem _root_.ZnVerif.Proofs.Builtins.Hoare.liftLeaf {m : M ν α} {Q : α → VM ν → Prop} (hI : InvLaws I) (hs : I s)
    (hl : Leaf none m) (hp : Hoare WfHeap Ext s Q (m s)) : Hoare I Ext s Q (m s) :=
  (hp.lift hI hs (.ofLeafStep (hl.step s trivial))).weaken fun _ _ _ _ q => q.1

theorem post_allocI (hI : InvLaws I) (hs : I s) {c : Cell ν} (hc : CellOk s.heap c) (hp : Plain c) :
    Hoare I Ext s (fun a s' => a < s'.heap.size) (alloc c s) :=
  ((post_alloc (hI.wf hs) hc).ofPre.lift hI hs (KR.alloc s hp)).weaken fun _ _ _ _ q => q.1

/-- `ClassModel.Construct` with the default constructor or the constructor of 异常 (a user-defined constructor
    runs user code: evaluator) -/
theorem post_construct (hI : InvLaws I) (n : Nat) {cv : Nat} (params : List Addr) {nm : String} {ctor : Ctor}
    {props methods : List (String × Addr)}
    (hs : I s) (hc : s.heap[cv]? = some (.cls nm ctor props methods))
    (hctor : ∀ mid exec, ctor ≠ .user mid exec) (hp : ∀ v ∈ params, v < s.heap.size) :
    Hoare I Ext s (fun r s' => r < s'.heap.size) (construct n cv params s) := by
  cases n with
  | zero => exact .fuel hs
  | succ n =>
    have hok := hI.wf hs cv _ hc
    refine .getCell hc ?_
    dsimp only
    -- copying the defaults touches the heap only
    have hcopy := (post_copyProps n (hI.wf hs) props hok.1).ofPre.liftLeaf hI hs
      (Leaf.mapM (fun p => .bind (.dup n p.2) fun _ => .pure _) props)
    refine .bind hcopy (fun props' s1 hs1 e1 hprops => ?_)
    have hcls : IsCls s1.heap cv := e1.cls cv ⟨nm, ctor, props, methods, hc⟩
    refine .bind (post_allocI hI hs1 (c := .obj cv props') ⟨hcls, hprops⟩ trivial) (fun inst s2 hs2 e2 hinst => ?_)
    cases ctor with
    | default => exact .pure hs2 hinst
    | user mid exec => exact absurd rfl (hctor mid exec)
    | exception =>
      dsimp only
      have hp2 : ∀ v ∈ params, v < s2.heap.size :=
        fun v hv => Nat.lt_of_lt_of_le (hp v hv) (Nat.le_trans e1.size e2.size)
      exact Hoare.arg1 hs2 hp2 fun m hm => Hoare.str hm fun msg => post_allocI hI hs2 (c := .exc msg) trivial trivial

/-- 显示 (the predefined display function): every argument is displayed, one line is emitted, 空 is answered -/
theorem post_displayFn (hI : InvLaws I) (n : Nat) (this : Option Addr) (params : List Addr)
    (hs : I s) (hp : ∀ v ∈ params, v < s.heap.size) :
    Hoare I Ext s (fun r s' => r < s'.heap.size ∧ KR s s') (execFunction n .display this params s) := by
  cases n with
  | zero => exact .fuel hs
  | succ n =>
    refine RO.post_bind hs (RO.mapM (P := fun _ => True) (fun v hv => ro_display n (hI.wf hs) (hp v hv))) (fun ss _ => ?_)
    have hh : HeapOk s.heap := hI.wf hs
    exact Hoare.lift (m := do emit (joinWith " " ss); newNull) hI hs ⟨rfl, rfl, rfl, rfl, fun h => plainHeap_push h trivial⟩
      (Hoare.start (s := s) (t := { s with out := joinWith " " ss :: s.out }) rfl (post_alloc (c := .null) (by exact hh) trivial)).ofPre

end ZnVerif.Proofs.VarInput
