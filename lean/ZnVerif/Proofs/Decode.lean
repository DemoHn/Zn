/-
Helper lemmas for C17: the `readRune` loop of pkg/io (Model/Decode.lean) against the chunk-free spec decoder.

* `decodeBuf_append`  cutting the input changes nothing: a read that is not the last, followed by the rest of the
                      stream, decodes what one pass over all the bytes decodes (a fact of the model alone),
* `byteLoop_batch`    hence `ReadAll` over any read script is one pass over the concatenated bytes,
* `fileLoop_byte`     and a fresh `FileStream` reads what a `ByteStream` reads, less one leading byte order mark;
* `decodeBuf_eof`     at the end of the stream the loop is the spec's strict decoder: the only place the spec enters,
* `byteLoop_eq` / `fileLoop_fresh`  the two `ReadAll` loops against the spec;
* `decodeStrict_sound` / `decodeStrict_complete`  the spec alone: the strict decoder accepts exactly the encodings of lists of
                      scalar values (what Properties/C17 reads its corollaries off).
-/
import ZnVerif.Model.Decode
import ZnVerif.Proofs.Utf8

namespace ZnVerif.Proofs.Decode
open ZnVerif ZnVerif.Model ZnVerif.Spec ZnVerif.Proofs.Utf8

theorem decodeStrict_nil : decodeStrict [] = .ok [] := by
  rw [decodeStrict]; simp

theorem decodeStrict_none {bytes : List Nat} (hne : bytes ≠ []) (h : decodeOne bytes = none) :
    decodeStrict bytes = .error .invalidUtf8 := by
  rw [decodeStrict]
  simp only [hne, if_false]
  split
  · rfl
  · rename_i h'; rw [h] at h'; cases h'

theorem decodeStrict_some {bytes : List Nat} {c : Nat} {r : List Nat} (h : decodeOne bytes = some (c, r)) :
    decodeStrict bytes = match decodeStrict r with
      | .ok cs => .ok (c :: cs)
      | .error e => .error e := by
  have hne : bytes ≠ [] := by
    intro e; subst e; simp [decodeOne] at h
  rw [decodeStrict]
  simp only [hne, if_false]
  split
  · rename_i h'; rw [h] at h'; cases h'
  · rename_i c' r' h'
    rw [h] at h'
    cases h'
    rfl

theorem decodeBuf_nil (eof : Bool) : decodeBuf eof [] = .ok ([], []) := by
  rw [decodeBuf]

theorem decodeBuf_incomplete (eof : Bool) {buf : List Nat} (hne : buf ≠ []) (h : fullRune buf = false) :
    decodeBuf eof buf = if eof then .error .invalidEncoding else .ok ([], buf) := by
  match buf, hne with
  | p0 :: rest, _ => rw [decodeBuf]; simp [h]

theorem decodeBuf_invalid (eof : Bool) {buf : List Nat} (h : fullRune buf = true)
    (hd : (utf8DecodeRune buf).1 = runeError ∧ (utf8DecodeRune buf).2 = 1) :
    decodeBuf eof buf = .error .invalidEncoding := by
  match buf, h with
  | p0 :: rest, h => rw [decodeBuf]; simp [h, hd]

theorem decodeBuf_step (eof : Bool) {buf : List Nat} (h : fullRune buf = true)
    (hd : ¬ ((utf8DecodeRune buf).1 = runeError ∧ (utf8DecodeRune buf).2 = 1)) :
    decodeBuf eof buf = match decodeBuf eof (buf.drop (utf8DecodeRune buf).2) with
      | .ok (rs, rem) => .ok ((utf8DecodeRune buf).1 :: rs, rem)
      | .error e => .error e := by
  match buf, h with
  | p0 :: rest, h => rw [decodeBuf]; simp [h, hd]; rfl

theorem fullRune_ne_nil {buf : List Nat} (h : fullRune buf = true) : buf ≠ [] := by
  intro e; subst e; simp [fullRune] at h

def specErr : Model.IOError → Spec.DecodeError
  | .invalidEncoding => .invalidUtf8

def asSpec {α : Type} : Except Model.IOError α → Except Spec.DecodeError α
  | .ok a => .ok a
  | .error e => .error (specErr e)

theorem asSpec_ok {α : Type} {x : Except IOError α} {a : α} (h : asSpec x = .ok a) : x = .ok a := by
  cases x <;> cases h; rfl

theorem asSpec_error {α : Type} {x : Except IOError α} {e : DecodeError} (h : asSpec x = .error e) :
    x = .error .invalidEncoding := by
  cases x with
  | ok a => cases h
  | error e' => cases e'; rfl

theorem decodeBuf_eof (buf : List Nat) :
    decodeBuf true buf = match decodeStrict buf with
      | .ok cs => .ok (cs, [])
      | .error _ => .error .invalidEncoding := by
  induction h : buf.length using Nat.strongRecOn generalizing buf with
  | _ n ih =>
    match buf, h with
    | [], _ => rw [decodeBuf_nil, decodeStrict_nil]
    | p0 :: rest, h =>
      -- the loop's three branches (full and decodable, full and wrong, cut short at the end) are the three answers of the
      -- spec's reader, by `decodeOne_model`
      have hm := decodeOne_model p0 rest
      by_cases hf : fullRune (p0 :: rest) = true
      · by_cases hd : (utf8DecodeRune (p0 :: rest)).1 = runeError ∧ (utf8DecodeRune (p0 :: rest)).2 = 1
        · rw [decodeBuf_invalid true hf hd]
          rw [if_pos hd] at hm
          rw [decodeStrict_none (by simp) hm]
        · rw [decodeBuf_step true hf hd]
          rw [if_neg hd] at hm
          rw [decodeStrict_some hm]
          have hlt := decodeOne_length hm
          rw [ih _ (by omega) _ rfl]
          cases decodeStrict (List.drop (utf8DecodeRune (p0 :: rest)).snd (p0 :: rest)) <;> rfl
      · have hf' : fullRune (p0 :: rest) = false := by simpa using hf
        rw [decodeBuf_incomplete true (by simp) hf']
        have hd := not_full_decode hf'
        rw [hd] at hm
        simp only [and_self, if_true] at hm
        rw [decodeStrict_none (by simp) hm]
        rfl

/-- runes decoded so far go in front of whatever the rest of the stream gives -/
def andThen (rs : List Nat) : Except IOError (List Nat × List Nat) → Except IOError (List Nat × List Nat)
  | .ok (cs, r) => .ok (rs ++ cs, r)
  | .error e => .error e

theorem andThen_nil (x : Except IOError (List Nat × List Nat)) : andThen [] x = x := by
  cases x <;> rfl

theorem decodeBuf_append (eof : Bool) (buf more : List Nat) :
    decodeBuf eof (buf ++ more) = match decodeBuf false buf with
      | .ok (rs, rem) => andThen rs (decodeBuf eof (rem ++ more))
      | .error e => .error e := by
  induction h : buf.length using Nat.strongRecOn generalizing buf with
  | _ n ih =>
    by_cases hf : fullRune buf = true
    · obtain ⟨hf2, hd2⟩ := fullRune_append buf more hf
      by_cases hd : (utf8DecodeRune buf).1 = runeError ∧ (utf8DecodeRune buf).2 = 1
      · rw [decodeBuf_invalid false hf hd, decodeBuf_invalid eof hf2 (hd2 ▸ hd)]
      · obtain ⟨p0, rest, rfl⟩ := List.exists_cons_of_ne_nil (fullRune_ne_nil hf)
        have hpos := utf8DecodeRune_size_pos p0 rest
        rw [decodeBuf_step false hf hd, decodeBuf_step eof hf2 (hd2 ▸ hd), hd2,
          List.drop_append_of_le_length (decode_size_le _),
          ih _ (by simp only [List.length_drop, List.length_cons] at h ⊢; omega) _ rfl]
        cases decodeBuf false (List.drop (utf8DecodeRune (p0 :: rest)).snd (p0 :: rest)) with
        | error e => rfl
        | ok v => obtain ⟨rs, rem⟩ := v; simp only []; cases decodeBuf eof (rem ++ more) <;> rfl
    · have hf' : fullRune buf = false := by simpa using hf
      by_cases hne : buf = []
      · subst hne; rw [decodeBuf_nil]; exact (andThen_nil _).symm
      · rw [decodeBuf_incomplete false hne hf']; exact (andThen_nil _).symm

theorem byteLoop_batch (rem : List Nat) (chunks : List (List Nat)) (last : List Nat) :
    ByteStream.readAllLoop { encBuffer := rem } chunks last =
      match decodeBuf true (rem ++ chunks.flatten ++ last) with
      | .ok (cs, _) => .ok cs
      | .error e => .error e := by
  induction chunks generalizing rem with
  | nil =>
    simp only [ByteStream.readAllLoop, ByteStream.read, readRune, List.flatten_nil, List.append_nil]
    cases decodeBuf true (rem ++ last) <;> rfl
  | cons c cs ih =>
    simp only [ByteStream.readAllLoop, ByteStream.read, readRune, List.flatten_cons]
    rw [show rem ++ (c ++ cs.flatten) ++ last = rem ++ c ++ (cs.flatten ++ last) by simp, decodeBuf_append true (rem ++ c)]
    cases decodeBuf false (rem ++ c) with
    | error e => rfl
    | ok v =>
      simp only [ih v.2, List.append_assoc]
      cases decodeBuf true (v.2 ++ (cs.flatten ++ last)) <;> rfl

theorem byteLoop_eq (rem : List Nat) (chunks : List (List Nat)) (last : List Nat) :
    asSpec (ByteStream.readAllLoop { encBuffer := rem } chunks last) =
      decodeStrict (rem ++ chunks.flatten ++ last) := by
  rw [byteLoop_batch, decodeBuf_eof]
  cases decodeStrict (rem ++ chunks.flatten ++ last) with
  | ok cs => rfl
  | error e => cases e; rfl

theorem fileLoop_started (rem : List Nat) (chunks : List (List Nat)) (last : List Nat) :
    FileStream.readAllLoop { encBuffer := rem, hasRead := true } chunks last =
      ByteStream.readAllLoop { encBuffer := rem } chunks last := by
  induction chunks generalizing rem with
  | nil =>
    simp only [FileStream.readAllLoop, ByteStream.readAllLoop, FileStream.read, ByteStream.read]
    cases readRune rem last true <;> rfl
  | cons c cs ih =>
    simp only [FileStream.readAllLoop, ByteStream.readAllLoop, FileStream.read, ByteStream.read]
    cases readRune rem c false with
    | error e => rfl
    | ok v => obtain ⟨rs, rem'⟩ := v; simp only [Bool.not_true, Bool.false_eq_true, if_false, ih rem']

/-- one leading byte order mark removed -/
def dropBom : List Nat → List Nat
  | c :: cs => if c = BOM then cs else c :: cs
  | [] => []

theorem dropBom_append (rs more : List Nat) (h : rs ≠ []) : dropBom (rs ++ more) = dropBom rs ++ more := by
  match rs, h with
  | c :: cs, _ => by_cases hc : c = BOM <;> simp [dropBom, hc]

theorem fileLoop_byte (rem : List Nat) (chunks : List (List Nat)) (last : List Nat) :
    FileStream.readAllLoop { encBuffer := rem, hasRead := false } chunks last =
      match ByteStream.readAllLoop { encBuffer := rem } chunks last with
      | .ok cs => .ok (dropBom cs)
      | .error e => .error e := by
  induction chunks generalizing rem with
  | nil =>
    simp only [FileStream.readAllLoop, ByteStream.readAllLoop, FileStream.read, ByteStream.read]
    cases readRune rem last true with
    | error e => rfl
    | ok v => obtain ⟨_ | ⟨d, ds⟩, rem'⟩ := v <;> rfl
  | cons c cs ih =>
    simp only [FileStream.readAllLoop, ByteStream.readAllLoop, FileStream.read, ByteStream.read]
    cases readRune rem c false with
    | error e => rfl
    | ok v =>
      obtain ⟨_ | ⟨d, ds⟩, rem'⟩ := v
      · simp only [Bool.not_false, if_true, ih rem']
        cases ByteStream.readAllLoop { encBuffer := rem' } cs last <;> rfl
      · simp only [Bool.not_false, if_true, fileLoop_started]
        cases ByteStream.readAllLoop { encBuffer := rem' } cs last with
        | error e => rfl
        | ok more => simp only [dropBom_append (d :: ds) more (List.cons_ne_nil _ _)]; rfl

theorem fileLoop_fresh (rem : List Nat) (chunks : List (List Nat)) (last : List Nat) :
    asSpec (FileStream.readAllLoop { encBuffer := rem, hasRead := false } chunks last) =
      decodeAll (rem ++ chunks.flatten ++ last) := by
  have hb := byteLoop_eq rem chunks last
  rw [fileLoop_byte, decodeAll, ← hb]
  cases ByteStream.readAllLoop { encBuffer := rem } chunks last with
  | error e => rfl
  | ok cs =>
    obtain _ | ⟨d, ds⟩ := cs
    · rfl
    · exact apply_ite Except.ok _ _ _

theorem decodeStrict_sound (bytes : List Nat) : ∀ cps, decodeStrict bytes = .ok cps →
    (∀ c ∈ cps, IsScalar c) ∧ encodeAll cps = bytes := by
  induction h : bytes.length using Nat.strongRecOn generalizing bytes with
  | _ n ih =>
    intro cps hd
    by_cases hne : bytes = []
    · subst hne
      rw [decodeStrict_nil] at hd
      cases hd
      exact ⟨by simp, rfl⟩
    · cases ho : decodeOne bytes with
      | none => rw [decodeStrict_none hne ho] at hd; cases hd
      | some v =>
        obtain ⟨c, rest⟩ := v
        rw [decodeStrict_some ho] at hd
        have hlt := decodeOne_length ho
        obtain ⟨hsc, hb⟩ := decodeOne_sound ho
        cases hr : decodeStrict rest with
        | error e => rw [hr] at hd; cases hd
        | ok cs =>
          rw [hr] at hd
          cases hd
          obtain ⟨h1, h2⟩ := ih rest.length (by omega) rest rfl cs hr
          refine ⟨?_, ?_⟩
          · intro x hx
            rcases List.mem_cons.mp hx with rfl | hx
            · exact hsc
            · exact h1 x hx
          · rw [hb, ← h2]; simp [encodeAll]

theorem encode_ne_nil (c : Nat) : encode c ≠ [] := by
  rcases encode_cases c with ⟨_, he⟩ | ⟨_, _, he⟩ | ⟨_, _, he⟩ | ⟨_, he⟩ <;> rw [he] <;> exact List.cons_ne_nil _ _

theorem decodeStrict_complete (cps : List Nat) (h : ∀ c ∈ cps, IsScalar c) :
    decodeStrict (encodeAll cps) = .ok cps := by
  induction cps with
  | nil => exact decodeStrict_nil
  | cons c cs ih =>
    have hc : IsScalar c := h c (by simp)
    have e : encodeAll (c :: cs) = encode c ++ encodeAll cs := by simp [encodeAll]
    rw [e, decodeStrict_some (decodeOne_encode hc _), ih (fun x hx => h x (by simp [hx]))]

end ZnVerif.Proofs.Decode
