/-
Basic facts about the evaluator model (Model/Interp.lean) that every proof about the evaluator imports: the monad `M`
(`bind` unfolded, `LawfulMonad`), the closure of a judgment under the model's loops (`Closed`), what `putScope` / `getScope` do
to the scope table, the scope bracket (`withScope_some` / `withScope_none`, `endScopeOf`), identifier matching, `firstM`, and
the evaluator at fuel 0.  (What the operations on one `Scope` value do is in Proofs/ScopeOps.lean.)
-/
import ZnVerif.Model.Interp
set_option linter.unusedSectionVars false
set_option linter.unusedSimpArgs false

namespace ZnVerif.Proofs.Calls
open ZnVerif.Model

variable {ν : Type} [NumOps ν]

theorem M_bind_def {α β} (m : M ν α) (f : α → M ν β) (s : VM ν) :
    (m >>= f) s = match m s with
      | (.ok a, s') => f a s'
      | (.err e, s') => (.err e, s')
      | (.panic, s') => (.panic, s')
      | (.fuel, s') => (.fuel, s')
      | (.unmodelled, s') => (.unmodelled, s') := rfl

theorem M_pure_def {α} (a : α) (s : VM ν) : (pure a : M ν α) s = (.ok a, s) := rfl

theorem bind_ok {α β} {m : M ν α} {f : α → M ν β} {s s' : VM ν} {a : α} (h : m s = (.ok a, s')) :
    (m >>= f) s = f a s' := by rw [M_bind_def, h]

theorem bind_err {α β} {m : M ν α} {f : α → M ν β} {s s' : VM ν} {e : Err} (h : m s = (.err e, s')) :
    (m >>= f) s = (.err e, s') := by rw [M_bind_def, h]

theorem tryCatch_run {α β} {m : M ν α} {k : Res α → M ν β} {s s' : VM ν} {r : Res α} (h : m s = (r, s')) :
    Model.tryCatch m k s = k r s' := by unfold Model.tryCatch; rw [h]

theorem fst_err_bind {α β : Type} {m : M ν α} {f : α → M ν β} {s : VM ν} {e : Err} (h : (m s).1 = .err e) :
    ((m >>= f) s).1 = .err e := by
  rw [M_bind_def]
  rcases hm : m s with ⟨r, s'⟩
  rw [hm] at h
  simp only at h
  subst h
  rfl

theorem getCell_ok {a : Addr} {c : Cell ν} {s : VM ν} (h : s.heap[a]? = some c) : getCell a s = (.ok c, s) := by
  unfold getCell; rw [h]

theorem getCell_bind {α} {s : VM ν} {a : Addr} {c : Cell ν} (K : Cell ν → M ν α) (hc : s.heap[a]? = some c) :
    (getCell a >>= K) s = K c s :=
  bind_ok (getCell_ok hc)

/-- a run of `m >>= f` read back: `m` ended normally and `f` went on from there, or `m` failed and that failure — the same
error, if it is one — is the outcome -/
theorem bind_inv {α β} {m : M ν α} {f : α → M ν β} {s s' : VM ν} {r : Res β} (h : (m >>= f) s = (r, s')) :
    (∃ a s1, m s = (.ok a, s1) ∧ f a s1 = (r, s')) ∨
    (∃ rb, m s = (rb, s') ∧ (∀ a, rb ≠ .ok a) ∧ (∀ b, r ≠ .ok b) ∧ ∀ e, r = .err e ↔ rb = .err e) := by
  rw [M_bind_def] at h
  rcases hm : m s with ⟨rb, s1⟩
  rw [hm] at h
  cases rb with
  | ok a => exact .inl ⟨a, s1, rfl, h⟩
  | err e0 =>
    cases h
    exact .inr ⟨_, rfl, nofun, nofun, fun e => ⟨fun h => by cases h; rfl, fun h => by cases h; rfl⟩⟩
  | _ => cases h; exact .inr ⟨_, rfl, nofun, nofun, fun e => ⟨nofun, nofun⟩⟩

theorem bind_ok_inv {α β} {m : M ν α} {f : α → M ν β} {s s' : VM ν} {b : β} (h : (m >>= f) s = (.ok b, s')) :
    ∃ a s1, m s = (.ok a, s1) ∧ f a s1 = (.ok b, s') := by
  rcases bind_inv h with h | ⟨_, _, _, hnok, _⟩
  · exact h
  · exact absurd rfl (hnok b)

theorem pure_inv {α} {a : α} {s s' : VM ν} {r : Res α} (h : (pure a : M ν α) s = (r, s')) : r = .ok a ∧ s' = s := by
  cases h; exact ⟨rfl, rfl⟩

theorem getCell_bind_inv {β} {a : Addr} {k : Cell ν → M ν β} {s s' : VM ν} {r : Res β}
    (h : (getCell a >>= k) s = (r, s')) :
    (∃ c, s.heap[a]? = some c ∧ k c s = (r, s')) ∨ (r = .panic ∧ s' = s) := by
  cases hc : s.heap[a]? with
  | some c => rw [bind_ok (getCell_ok hc)] at h; exact .inl ⟨c, rfl, h⟩
  | none =>
    have hg : getCell a s = (.panic, s) := by simp [getCell, hc]
    rw [M_bind_def, hg] at h; cases h
    exact .inr ⟨rfl, rfl⟩

theorem pushFrame_ok (fr : Frame) (s : VM ν) : pushFrame fr s = (.ok (), (pushFrame fr s).2) := by
  unfold pushFrame modifyVM; rfl

instance : LawfulMonad (M ν) := LawfulMonad.mk'
  (id_map := by
    intro α x; funext s
    show (x >>= fun a => pure (id a)) s = x s
    rw [M_bind_def]
    rcases h : x s with ⟨r, s'⟩
    cases r <;> rfl)
  (pure_bind := by intros; rfl)
  (bind_assoc := by
    intro α β γ x f g; funext s
    simp only [M_bind_def]
    rcases h : x s with ⟨r, s'⟩
    cases r <;> rfl)

theorem mapM_cons {α β} (f : α → M ν β) (a : α) (l : List α) :
    (a :: l).mapM f = (do let b ← f a; let bs ← l.mapM f; pure (b :: bs)) := by
  simp

theorem mapM_nil {α β} (f : α → M ν β) : ([] : List α).mapM f = pure [] := by simp

/-- A predicate on computations that `pure` satisfies and `bind` keeps is kept by every loop of the model.  The judgments with
which an induction is run — `Leaf rc`, `Quiet`, `Fr R ns`, `Balance.Pres R`, `Model.Pres R`, `SigOnly P`, `TextTotal.Ends`,
`ZoneStep` — supply their two rules once (`X.closed`) and take the loop rules from here. -/
structure Closed (J : ∀ {α : Type}, M ν α → Prop) : Prop where
  pure : ∀ {α} (a : α), J (pure a)
  bind : ∀ {α β} {m : M ν α} {f : α → M ν β}, J m → (∀ a, J (f a)) → J (m >>= f)

namespace Closed
variable {J : ∀ {α : Type}, M ν α → Prop} {α β : Type}

theorem ite (_ : Closed J) {c : Prop} [Decidable c] {a b : M ν α} (ha : J a) (hb : J b) : J (if c then a else b) := by
  split <;> assumption

theorem mapM (hJ : Closed J) {f : α → M ν β} : ∀ {l : List α}, (∀ a ∈ l, J (f a)) → J (l.mapM f)
  | [], _ => by rw [mapM_nil]; exact hJ.pure _
  | a :: l, h => by
    rw [mapM_cons]
    exact hJ.bind (h a List.mem_cons_self) fun _ =>
      hJ.bind (hJ.mapM fun x hx => h x (List.mem_cons_of_mem _ hx)) fun _ => hJ.pure _

theorem forM (hJ : Closed J) {f : α → M ν PUnit} : ∀ {l : List α}, (∀ a ∈ l, J (f a)) → J (l.forM f)
  | [], _ => hJ.pure _
  | a :: l, h =>
    show J (f a >>= fun _ => l.forM f) from
      hJ.bind (h a List.mem_cons_self) fun _ => hJ.forM fun x hx => h x (List.mem_cons_of_mem _ hx)

theorem foldlM (hJ : Closed J) {f : β → α → M ν β} (h : ∀ b a, J (f b a)) : ∀ (l : List α) (b : β), J (l.foldlM f b)
  | [], b => by rw [List.foldlM_nil]; exact hJ.pure _
  | a :: l, b => by rw [List.foldlM_cons]; exact hJ.bind (h b a) fun _ => hJ.foldlM h l _

theorem allM (hJ : Closed J) {f : α → M ν Bool} : ∀ {l : List α}, (∀ a ∈ l, J (f a)) → J (allM f l)
  | [], _ => hJ.pure _
  | a :: l, h =>
    show J (f a >>= fun b => if b then Model.allM f l else Pure.pure false) from
      hJ.bind (h a List.mem_cons_self) fun _ =>
        hJ.ite (hJ.allM fun x hx => h x (List.mem_cons_of_mem _ hx)) (hJ.pure _)

theorem untilM (hJ : Closed J) {f : α → M ν Bool} (h : ∀ a, J (f a)) : ∀ l : List α, J (untilM f l)
  | [] => hJ.pure _
  | a :: l =>
    show J (f a >>= fun b => if b then Pure.pure () else Model.untilM f l) from
      hJ.bind (h a) fun _ => hJ.ite (hJ.pure _) (hJ.untilM h l)

theorem untilIdxM (hJ : Closed J) {f : Nat → α → M ν Bool} (h : ∀ i a, J (f i a)) :
    ∀ (l : List α) (i : Nat), J (untilIdxM f i l)
  | [], _ => hJ.pure _
  | a :: l, i =>
    show J (f i a >>= fun b => if b then Pure.pure () else Model.untilIdxM f (i + 1) l) from
      hJ.bind (h i a) fun _ => hJ.ite (hJ.pure _) (hJ.untilIdxM h l _)

theorem whileM (hJ : Closed J) {step : M ν Bool} (h : J step) (h0 : J (outOfFuel : M ν Unit)) :
    ∀ k : Nat, J (whileM k step)
  | 0 => h0
  | k+1 =>
    show J (step >>= fun b => if b then Model.whileM k step else Pure.pure ()) from
      hJ.bind h fun _ => hJ.ite (hJ.whileM h h0 k) (hJ.pure _)

theorem firstM (hJ : Closed J) {f : α → M ν (Option β)} {d : M ν β} (hd : J d) :
    ∀ {l : List α}, (∀ a ∈ l, J (f a)) → J (firstM f d l)
  | [], _ => hd
  | a :: l, h =>
    show J (f a >>= fun | some b => Pure.pure b | none => Model.firstM f d l) from
      hJ.bind (h a List.mem_cons_self) fun
        | some _ => hJ.pure _
        | none => hJ.firstM hd fun x hx => h x (List.mem_cons_of_mem _ hx)

theorem stmtsLoop (hJ : Closed J) {evalOne : Stmt → M ν Addr} (hg : J (getReturnValue : M ν _)) :
    ∀ {l : List Stmt}, (∀ st ∈ l, J (evalOne st)) → ∀ (last : Option Addr), J (stmtsLoop evalOne last l)
  | [], _, _ => hJ.pure _
  | st :: rest, h, last => by
    have next : ∀ last', J (getReturnValue >>= fun rv =>
        match rv with | some rv => Pure.pure (some rv) | none => Model.stmtsLoop evalOne last' rest) :=
      fun _ => hJ.bind hg fun
        | some _ => hJ.pure _
        | none => hJ.stmtsLoop hg (fun x hx => h x (List.mem_cons_of_mem _ hx)) _
    unfold Model.stmtsLoop
    exact hJ.ite (hJ.bind (hJ.pure _) next) (hJ.bind (h st List.mem_cons_self) fun _ => hJ.bind (hJ.pure _) next)

end Closed

/-- the list operation of `putScope` -/
def putL (l : List (Int × Scope)) (mid : Int) (sc : Scope) : List (Int × Scope) :=
  if l.any (·.1 == mid) then l.map (fun p => if p.1 == mid then (mid, sc) else p) else l ++ [(mid, sc)]

theorem find_map_put (l : List (Int × Scope)) (mid mid' : Int) (sc : Scope) :
    (l.map (fun p => if p.1 == mid then (mid, sc) else p)).find? (·.1 == mid') =
      if mid' = mid then (l.find? (·.1 == mid)).map (fun _ => (mid, sc)) else l.find? (·.1 == mid') := by
  induction l with
  | nil => simp
  | cons p l ih =>
    rw [List.map_cons, List.find?_cons, List.find?_cons, List.find?_cons, ih]
    by_cases hp : p.1 = mid
    · by_cases hm : mid' = mid
      · subst hm; simp [hp]
      · have : (mid == mid') = false := by simpa using (Ne.symm hm)
        simp [hp, hm, this]
    · have hp' : (p.1 == mid) = false := by simpa using hp
      by_cases hm : mid' = mid
      · subst hm; simp [hp']
      · simp only [hp', hm, if_false, Bool.false_eq_true]

theorem find_putL_same (l : List (Int × Scope)) (mid : Int) (sc : Scope) :
    (putL l mid sc).find? (·.1 == mid) = some (mid, sc) := by
  unfold putL
  split
  · rename_i h
    rw [find_map_put]
    simp only [if_true]
    obtain ⟨x, hx, hxm⟩ := List.any_eq_true.mp h
    cases hf : l.find? (·.1 == mid) with
    | none =>
      have := List.find?_eq_none.mp hf x hx
      simp [hxm] at this
    | some y => rfl
  · rename_i h
    rw [List.find?_append]
    have : l.find? (·.1 == mid) = none := by
      apply List.find?_eq_none.mpr
      intro x hx hxm
      exact h (List.any_eq_true.mpr ⟨x, hx, hxm⟩)
    simp [this]

theorem find_putL_other (l : List (Int × Scope)) (mid mid' : Int) (sc : Scope) (hne : mid' ≠ mid) :
    (putL l mid sc).find? (·.1 == mid') = l.find? (·.1 == mid') := by
  unfold putL
  split
  · rw [find_map_put]; simp [hne]
  · rw [List.find?_append]
    have : (mid == mid') = false := by simpa using (Ne.symm hne)
    simp [List.find?_cons, this]

theorem putScope_state (mid : Int) (sc : Scope) (s : VM ν) : putScope mid sc s = { s with scopes := putL s.scopes mid sc } := by
  unfold putScope putL; split <;> rfl

theorem putScope_scopes (mid : Int) (sc : Scope) (s : VM ν) : (putScope mid sc s).scopes = putL s.scopes mid sc :=
  congrArg VM.scopes (putScope_state mid sc s)

@[simp] theorem getScope_putScope_same (mid : Int) (sc : Scope) (s : VM ν) :
    getScope mid (putScope mid sc s) = some sc := by
  unfold getScope
  rw [putScope_scopes, find_putL_same]; rfl

theorem getScope_putScope_other (mid mid' : Int) (sc : Scope) (s : VM ν) (hne : mid' ≠ mid) :
    getScope mid' (putScope mid sc s) = getScope mid' s := by
  unfold getScope
  rw [putScope_scopes, find_putL_other _ _ _ _ hne]

@[simp] theorem putScope_heap (mid : Int) (sc : Scope) (s : VM ν) : (putScope mid sc s).heap = s.heap :=
  (congrArg VM.heap (putScope_state mid sc s) :)
@[simp] theorem putScope_stack (mid : Int) (sc : Scope) (s : VM ν) : (putScope mid sc s).stack = s.stack :=
  (congrArg VM.stack (putScope_state mid sc s) :)
@[simp] theorem putScope_cs (mid : Int) (sc : Scope) (s : VM ν) : (putScope mid sc s).csModuleID = s.csModuleID :=
  (congrArg VM.csModuleID (putScope_state mid sc s) :)
@[simp] theorem putScope_out (mid : Int) (sc : Scope) (s : VM ν) : (putScope mid sc s).out = s.out :=
  (congrArg VM.out (putScope_state mid sc s) :)
@[simp] theorem putScope_globals (mid : Int) (sc : Scope) (s : VM ν) : (putScope mid sc s).globals = s.globals :=
  (congrArg VM.globals (putScope_state mid sc s) :)
@[simp] theorem putScope_modules (mid : Int) (sc : Scope) (s : VM ν) : (putScope mid sc s).modules = s.modules :=
  (congrArg VM.modules (putScope_state mid sc s) :)
@[simp] theorem putScope_graph (mid : Int) (sc : Scope) (s : VM ν) : (putScope mid sc s).graph = s.graph :=
  (congrArg VM.graph (putScope_state mid sc s) :)

/-- the state after the deferred `endScope()` of module `mid` -/
def endScopeOf (mid : Int) (s : VM ν) : VM ν :=
  match getScope mid s with
  | none => s
  | some sc => putScope mid sc.endScope s

theorem endBoundScope_some (mid : Int) (s : VM ν) : endBoundScope (some mid) s = (.ok (), endScopeOf mid s) := by
  unfold endBoundScope modifyVM endScopeOf
  rfl

theorem endBoundScope_none (s : VM ν) : endBoundScope none s = (.ok (), s) := rfl

theorem withScope_some {α} (body : M ν α) (s : VM ν) (sc : Scope) (h : getScope s.csModuleID s = some sc) :
    withScope body s =
      ((body (putScope s.csModuleID sc.beginScope s)).1,
       endScopeOf s.csModuleID (body (putScope s.csModuleID sc.beginScope s)).2) := by
  have hb : beginBoundScope s = (.ok (some s.csModuleID), putScope s.csModuleID sc.beginScope s) := by
    unfold beginBoundScope; rw [h]
  unfold withScope
  rw [bind_ok hb]
  unfold Model.tryCatch
  rcases hbody : body (putScope s.csModuleID sc.beginScope s) with ⟨r, s2⟩
  simp only
  rw [bind_ok (endBoundScope_some _ _)]
  rfl

theorem withScope_none {α} (body : M ν α) (s : VM ν) (h : getScope s.csModuleID s = none) :
    withScope body s = body s := by
  have hb : beginBoundScope s = (.ok none, s) := by
    unfold beginBoundScope; rw [h]
  unfold withScope
  rw [bind_ok hb]
  unfold Model.tryCatch
  rcases hbody : body s with ⟨r, s2⟩
  simp only
  rw [bind_ok (endBoundScope_none _)]
  rfl

theorem endScopeOf_state (mid : Int) (t : VM ν) : endScopeOf mid t = { t with scopes := (endScopeOf mid t).scopes } := by
  unfold endScopeOf
  cases getScope mid t with
  | none => rfl
  | some sc => dsimp only; rw [putScope_state]

@[simp] theorem endScopeOf_heap (mid : Int) (s : VM ν) : (endScopeOf mid s).heap = s.heap :=
  (congrArg VM.heap (endScopeOf_state mid s) :)
@[simp] theorem endScopeOf_stack (mid : Int) (s : VM ν) : (endScopeOf mid s).stack = s.stack :=
  (congrArg VM.stack (endScopeOf_state mid s) :)
@[simp] theorem endScopeOf_cs (mid : Int) (s : VM ν) : (endScopeOf mid s).csModuleID = s.csModuleID :=
  (congrArg VM.csModuleID (endScopeOf_state mid s) :)
@[simp] theorem endScopeOf_out (mid : Int) (s : VM ν) : (endScopeOf mid s).out = s.out :=
  (congrArg VM.out (endScopeOf_state mid s) :)
@[simp] theorem endScopeOf_globals (mid : Int) (s : VM ν) : (endScopeOf mid s).globals = s.globals :=
  (congrArg VM.globals (endScopeOf_state mid s) :)
@[simp] theorem endScopeOf_modules (mid : Int) (s : VM ν) : (endScopeOf mid s).modules = s.modules :=
  (congrArg VM.modules (endScopeOf_state mid s) :)

theorem getScope_endScopeOf_same (mid : Int) (s : VM ν) :
    getScope mid (endScopeOf mid s) = (getScope mid s).map Scope.endScope := by
  unfold endScopeOf
  cases h : getScope mid s with
  | none => simp [h]
  | some sc => simp

theorem getScope_endScopeOf_other (mid mid' : Int) (s : VM ν) (hne : mid' ≠ mid) :
    getScope mid' (endScopeOf mid s) = getScope mid' s := by
  unfold endScopeOf
  cases h : getScope mid s with
  | none => rfl
  | some sc => exact getScope_putScope_other _ _ _ _ hne

/-- the literal is an identifier (not a number, not a malformed number) for `MatchIDName` -/
def IsName (lit : String) : Prop := tryParseNumber (strCps lit) = .name

instance (lit : String) : Decidable (IsName lit) := by unfold IsName; infer_instance

theorem matchIDName_name (lit : String) (h : IsName lit) (s : VM ν) : matchIDName lit s = (.ok lit, s) := by
  unfold IsName at h
  simp [matchIDName, matchIDType, bind, h, pure]

theorem matchIDName_state (lit : String) (s : VM ν) : (matchIDName lit s).2 = s := by
  simp only [matchIDName, matchIDType, bind]
  cases tryParseNumber (strCps lit) <;> rfl

theorem matchIDName_ok_inv {lit x : String} {s s' : VM ν} (h : matchIDName lit s = (.ok x, s')) : x = lit ∧ s' = s := by
  simp only [matchIDName, matchIDType, bind] at h
  cases hp : tryParseNumber (strCps lit) <;> rw [hp] at h <;> cases h
  exact ⟨rfl, rfl⟩

theorem matchIDNameOpt_name (i : Ident) (h : IsName i.lit) (s : VM ν) :
    matchIDNameOpt (some i) s = (.ok i.lit, s) := matchIDName_name _ h s

theorem firstM_cons_some {α β} {f : α → M ν (Option β)} {d : M ν β} {x : α} {xs : List α} {s s' : VM ν} {b : β}
    (h : f x s = (.ok (some b), s')) : firstM f d (x :: xs) s = (.ok b, s') := by
  unfold firstM; rw [bind_ok h]; rfl

theorem firstM_cons_none {α β} {f : α → M ν (Option β)} {d : M ν β} {x : α} {xs : List α} {s s' : VM ν}
    (h : f x s = (.ok none, s')) : firstM f d (x :: xs) s = firstM f d xs s' := by
  conv => lhs; unfold firstM
  rw [bind_ok h]

theorem firstM_skip {α β} {f : α → M ν (Option β)} {d : M ν β} (s : VM ν) :
    ∀ (pre l : List α), (∀ x ∈ pre, f x s = (.ok none, s)) → firstM f d (pre ++ l) s = firstM f d l s
  | [], l, _ => rfl
  | x :: pre, l, h => by
    rw [List.cons_append, firstM_cons_none (h x List.mem_cons_self)]
    exact firstM_skip s pre l fun y hy => h y (List.mem_cons_of_mem _ hy)

theorem firstM_cons_hit {α β} {f : α → M ν (Option β)} {d : M ν β} {x : α} {xs : List α} (m : M ν β)
    (h : f x = (m >>= fun v => pure (some v))) : firstM f d (x :: xs) = m := by
  unfold firstM
  rw [h, bind_assoc]
  simp only [pure_bind, bind_pure]

/-! ## the evaluator without fuel

These fourteen lemmas have one reader by name (Proofs/StmtRefineDisplay.lean, `execDirectFunction_zero`).  They stand here, ahead
of every module that unfolds the evaluator, because stating them makes Lean derive the unfolding equations of the mutual block in
this module, where every importer finds them. -/

theorem evalExpr_zero (e : Expr) : evalExpr (ν := ν) 0 e = outOfFuel := by rw [evalExpr]
theorem memberIV_zero (e : Expr) : memberIV (ν := ν) 0 e = outOfFuel := by rw [memberIV]
theorem execFunction_zero (f : FnRef) (t : Option Addr) (ps : List Addr) :
    execFunction (ν := ν) 0 f t ps = outOfFuel := by rw [execFunction]
theorem execDirectFunction_zero (f : String) (ps : List Addr) : execDirectFunction (ν := ν) 0 f ps = outOfFuel := by
  rw [execDirectFunction]
theorem execMethodFunction_zero (r : Addr) (f : String) (ps : List Addr) :
    execMethodFunction (ν := ν) 0 r f ps = outOfFuel := by rw [execMethodFunction]
theorem construct_zero (c : Addr) (ps : List Addr) : construct (ν := ν) 0 c ps = outOfFuel := by rw [construct]
theorem evalExecBlock_zero (b : Option ExecBlock) (ps : List Addr) : evalExecBlock (ν := ν) 0 b ps = outOfFuel := by
  rw [evalExecBlock]
theorem handleException_zero (bm : Int) (bd : Nat) (cs : List (Option Ident × Option (List Stmt))) (e : Err) :
    handleException (ν := ν) 0 bm bd cs e = outOfFuel := by rw [handleException]
theorem evalStmtBlock_zero (b : Option (List Stmt)) : evalStmtBlock (ν := ν) 0 b = outOfFuel := by rw [evalStmtBlock]
theorem evalPureStmtBlock_zero (b : Option (List Stmt)) : evalPureStmtBlock (ν := ν) 0 b = outOfFuel := by
  rw [evalPureStmtBlock]
theorem evalStmt_zero (st : Stmt) : evalStmt (ν := ν) 0 st = outOfFuel := by rw [evalStmt]
theorem evalClassDecl_zero (st : Stmt) : evalClassDecl (ν := ν) 0 st = outOfFuel := by rw [evalClassDecl]
theorem evalFuncDecl_zero (st : Stmt) : evalFuncDecl (ν := ν) 0 st = outOfFuel := by rw [evalFuncDecl]
theorem evalCtorDecl_zero (st : Stmt) : evalCtorDecl (ν := ν) 0 st = outOfFuel := by rw [evalCtorDecl]

end ZnVerif.Proofs.Calls
