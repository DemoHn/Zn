/-
Helper lemmas for C15: what the loader leaves in the scope of every module.

`ImpScope s IS`   — scope of a module while its imports are processed: exactly the entries `IS` (name, value, id of
                    the exporting module), in order, all constants at depth 0, `externalRefs` = their module ids.
`HomeScope …`     — scope of a module loaded by an import, after its body: its own exports one level above `IS`.
`EntriesOK … IS`  — `IS` is what the import statements bring: for every statement, the chosen names (all, or the
                    listed ones that exist) of an export table that is exactly the definitions of the imported
                    module's source (or the registered names of the library).
`BInv`            — invariant: scopes well formed; export table of a closed module = its definitions; scope of a
                    closed module that is no longer on the call stack = `HomeScope`, the main module excepted (`H ≠ 0` in
                    `closedScope`: `runWith` pops it without the `redeclareExports` level that `loadModule` adds, so its scope
                    stays an `ImpScope`, `FinalB.main`).  What it says about one module
                    (`ClosedAt`) depends on that module's name, export table, scope and events only, so a loader step
                    has to be examined at the one module it touches (`ClosedAt.transfer` for the others).
`KeptM vm vm' m`  — the modules of `vm` keep their export tables and, except `m`, their scopes.
`InImportsB … vm m pre` — scope side of `InImports`: inside the import loop of module `m`, the statements `pre` done:
                    `BInv` and `Disc` hold and the scope of `m` is `ImpScope` of entries that are `EntriesOK` for `pre`.
`OkPostB … vm vm' m pre` — postcondition of processing the import statements `pre` of module `m` (second traversal of
                    the loader, `*_specB`; the first is Proofs/ModulesLoad): `InImportsB … vm' m pre` (fields `binv disc
                    scope`) and `KeptM vm vm' m` (there as the fields `kept exports len`; `KeptM`'s own are `scopes exports len`).
`LoadSpecB load`  — what `evalImport_specB` assumes about the function that loads a module, proved for `loadModule` by
                    induction on its fuel (`loadModule_specB`).
-/
import ZnVerif.Proofs.ModulesScope

namespace ZnVerif.Proofs.Modules
open ZnVerif.Model.Modules
open ZnVerif.Spec.ModuleSem (defsOf)

variable {files : Files} {mainSrc : ModuleSrc} {O : Oracle} {libs : Libs}

abbrev Entry := Name × Val × Nat

/-- the export-order oracle only permutes -/
def ExportOrderOK (O : Oracle) : Prop := ∀ l, (O.exportOrder l).Perm l

def toSym0 (e : Entry) : Sym := ⟨e.1, 0, true, e.2.1⟩
def toSym1 (p : Name × Val) : Sym := ⟨p.1, 1, true, p.2⟩

structure ImpScope (s : Scope) (IS : List Entry) : Prop where
  depth : s.depth = 0
  locals : s.locals = (IS.map toSym0).reverse
  ext : ∀ i, assoc i s.extRefs = (IS[i]?).map (fun e => e.2.2)
  nodup : (IS.map (fun e => e.1)).Nodup

structure HomeScope (O : Oracle) (s : Scope) (exports : List (Name × Val)) (IS : List Entry) : Prop where
  depth : s.depth = 1
  locals : s.locals = ((O.exportOrder exports).map toSym1).reverse ++ (IS.map toSym0).reverse
  ext : ∀ i, assoc i s.extRefs = (IS[i]?).map (fun e => e.2.2)
  nodup : (IS.map (fun e => e.1)).Nodup

/-- the list of names an import statement declares, given the export table -/
def chosenOf (O : Oracle) (ex : List (Name × Val)) (items : List Name) : List (Name × Val) :=
  match items with
  | [] => O.exportOrder ex
  | _ :: _ => selectExports ex items

theorem bindImports_eq (O : Oracle) (vm : VM) (mid : Nat) (items : List Name) :
    bindImports O vm mid items = declareExternals mid vm (chosenOf O (vm.exportsOf mid) items) := by
  cases items <;> rfl

/-- the export table `ex` of the module `mid` registered as `n` is what its source (or the library table) says -/
structure ExOK (files : Files) (mainSrc : ModuleSrc) (libs : Libs) (n : Name) (mid : Nat) (ex : List (Name × Val)) :
    Prop where
  nodup : (ex.map (fun p => p.1)).Nodup
  custom : (parseLibName n).libType = .custom →
    ∃ src, msrc files mainSrc n = some src ∧ ex = (defsOf src.body).map (fun d => (d.name, valOfDef d mid))
  std : (parseLibName n).libType = .std →
    ∃ names, assoc n libs = some names ∧ (∀ x, x ∈ ex.map (fun p => p.1) ↔ x ∈ names) ∧
      ∀ p, p ∈ ex → p.2 = Val.native

inductive EntriesOK (O : Oracle) (files : Files) (mainSrc : ModuleSrc) (libs : Libs) (vm : VM) :
    List Imp → List Entry → Prop
  | nil : EntriesOK O files mainSrc libs vm [] []
  | snoc {imps : List Imp} {IS : List Entry} {imp : Imp} {mid : Nat} {ex : List (Name × Val)} :
      EntriesOK O files mainSrc libs vm imps IS → assoc imp.name vm.nameMap = some mid →
      ExOK files mainSrc libs imp.name mid ex →
      EntriesOK O files mainSrc libs vm (imps ++ [imp])
        (IS ++ (chosenOf O ex imp.items).map (fun p => (p.1, p.2, mid)))

theorem EntriesOK.mono {vm vm' : VM}
    (hm : ∀ n id, assoc n vm.nameMap = some id → assoc n vm'.nameMap = some id) {imps : List Imp} {IS : List Entry}
    (h : EntriesOK O files mainSrc libs vm imps IS) : EntriesOK O files mainSrc libs vm' imps IS := by
  induction h with
  | nil => exact EntriesOK.nil
  | snoc _ hn hex ih => exact EntriesOK.snoc ih (hm _ _ hn) hex

structure BInv (O : Oracle) (files : Files) (mainSrc : ModuleSrc) (libs : Libs) (vm : VM) : Prop where
  wf : AllWF vm
  fresh : ∀ k, vm.modules.length ≤ k → lookS vm k = none ∨ lookS vm k = some Scope.new
  expNodup : ∀ k, ((vm.exportsOf k).map (fun p => p.1)).Nodup
  closedExports : ∀ H nm src, Ev.done H ∈ vm.log → (namesOf vm)[H]? = some nm → msrc files mainSrc nm = some src →
    vm.exportsOf H = (defsOf src.body).map (fun d => (d.name, valOfDef d H))
  closedScope : ∀ H nm src, Ev.done H ∈ vm.log → H ∉ vm.stack → H ≠ 0 → (namesOf vm)[H]? = some nm →
    msrc files mainSrc nm = some src →
    ∃ s IS, lookS vm H = some s ∧ HomeScope O s (vm.exportsOf H) IS ∧ EntriesOK O files mainSrc libs vm src.imports IS
  libOK : ∀ L ln names, (namesOf vm)[L]? = some ln → (parseLibName ln).libType = .std → assoc ln libs = some names →
    (∀ p, p ∈ vm.exportsOf L → p.2 = Val.native ∧ p.1 ∈ names) ∧
    (Ev.lib L ∈ vm.log → ∀ n, n ∈ names → n ∈ (vm.exportsOf L).map (fun p => p.1))

/-- what `BInv` says about the module `H` -/
structure ClosedAt (O : Oracle) (files : Files) (mainSrc : ModuleSrc) (libs : Libs) (vm : VM) (H : Nat) : Prop where
  exports : ∀ nm src, Ev.done H ∈ vm.log → (namesOf vm)[H]? = some nm → msrc files mainSrc nm = some src →
    vm.exportsOf H = (defsOf src.body).map (fun d => (d.name, valOfDef d H))
  scope : ∀ nm src, Ev.done H ∈ vm.log → H ∉ vm.stack → H ≠ 0 → (namesOf vm)[H]? = some nm →
    msrc files mainSrc nm = some src →
    ∃ s IS, lookS vm H = some s ∧ HomeScope O s (vm.exportsOf H) IS ∧ EntriesOK O files mainSrc libs vm src.imports IS
  lib : ∀ ln names, (namesOf vm)[H]? = some ln → (parseLibName ln).libType = .std → assoc ln libs = some names →
    (∀ p, p ∈ vm.exportsOf H → p.2 = Val.native ∧ p.1 ∈ names) ∧
    (Ev.lib H ∈ vm.log → ∀ n, n ∈ names → n ∈ (vm.exportsOf H).map (fun p => p.1))

theorem BInv.closedAt {vm : VM}
    (h : BInv O files mainSrc libs vm) (H : Nat) : ClosedAt O files mainSrc libs vm H :=
  ⟨h.closedExports H, h.closedScope H, h.libOK H⟩

theorem BInv.of_at {vm : VM} (hwf : AllWF vm)
    (hfresh : ∀ k, vm.modules.length ≤ k → lookS vm k = none ∨ lookS vm k = some Scope.new)
    (hnd : ∀ k, ((vm.exportsOf k).map (fun p => p.1)).Nodup) (h : ∀ H, ClosedAt O files mainSrc libs vm H) :
    BInv O files mainSrc libs vm :=
  ⟨hwf, hfresh, hnd, fun H => (h H).exports, fun H => (h H).scope, fun H => (h H).lib⟩

/-- a step that leaves the module `H` alone: its name, its export table, its events, and — once it is off the call
    stack — its scope -/
theorem ClosedAt.transfer {vm vm' : VM} {H : Nat}
    (h : ClosedAt O files mainSrc libs vm H) (hn : (namesOf vm')[H]? = (namesOf vm)[H]?)
    (hex : vm'.exportsOf H = vm.exportsOf H) (hdone : Ev.done H ∈ vm'.log → Ev.done H ∈ vm.log)
    (hlib : Ev.lib H ∈ vm'.log → Ev.lib H ∈ vm.log)
    (hmap : ∀ n id, assoc n vm.nameMap = some id → assoc n vm'.nameMap = some id)
    (hsc : H ∉ vm'.stack → H ≠ 0 → H ∉ vm.stack ∧ ∀ s, lookS vm H = some s → lookS vm' H = some s) :
    ClosedAt O files mainSrc libs vm' H := by
  refine ⟨fun nm src hd hnm hsrc => ?_, fun nm src hd hns h0 hnm hsrc => ?_, fun ln names hnm hstd hl => ?_⟩
  · rw [hex]; exact h.exports nm src (hdone hd) (hn ▸ hnm) hsrc
  · obtain ⟨hns', hkeep⟩ := hsc hns h0
    obtain ⟨s, IS, h1, h2, h3⟩ := h.scope nm src (hdone hd) hns' h0 (hn ▸ hnm) hsrc
    exact ⟨s, IS, hkeep s h1, hex ▸ h2, h3.mono hmap⟩
  · rw [hex]
    obtain ⟨l1, l2⟩ := h.lib ln names (hn ▸ hnm) hstd hl
    exact ⟨l1, fun hh => l2 (hlib hh)⟩

theorem ClosedAt.of_none {vm : VM} {H : Nat}
    (h : (namesOf vm)[H]? = none) : ClosedAt O files mainSrc libs vm H := by
  refine ⟨fun _ _ _ hn => ?_, fun _ _ _ _ _ hn => ?_, fun _ _ hn => ?_⟩ <;> rw [h] at hn <;> cases hn

theorem ClosedAt.of_open {vm : VM} {H : Nat} {n : Name}
    (hn : (namesOf vm)[H]? = some n) (hty : (parseLibName n).libType = .custom) (hd : Ev.done H ∉ vm.log) :
    ClosedAt O files mainSrc libs vm H :=
  ⟨fun _ _ h => absurd h hd, fun _ _ h => absurd h hd,
    fun ln _ hln hstd => by rw [hn] at hln; cases hln; rw [hty] at hstd; cases hstd⟩

theorem BInv.transfer {O : Oracle} {files : Files} {mainSrc : ModuleSrc} {libs : Libs} {vm vm' : VM}
    (h : BInv O files mainSrc libs vm) (hnames : namesOf vm' = namesOf vm)
    (hlog : ∀ H, Ev.done H ∈ vm'.log → Ev.done H ∈ vm.log)
    (hlib : ∀ L, Ev.lib L ∈ vm'.log → Ev.lib L ∈ vm.log)
    (hmap : ∀ n id, assoc n vm.nameMap = some id → assoc n vm'.nameMap = some id)
    (hmods : vm'.modules = vm.modules)
    (hstack : vm'.stack = vm.stack) (hwf : AllWF vm')
    (hfresh : ∀ k, vm.modules.length ≤ k → lookS vm' k = none ∨ lookS vm' k = some Scope.new)
    (hkeep : ∀ k s, k ∉ vm.stack → lookS vm k = some s → lookS vm' k = some s) : BInv O files mainSrc libs vm' :=
  BInv.of_at hwf (hmods ▸ hfresh) (fun k => exportsOf_congr hmods k ▸ h.expNodup k) fun H =>
    (h.closedAt H).transfer (hnames ▸ rfl) (exportsOf_congr hmods H) (hlog H) (hlib H) hmap
      (fun hns _ => ⟨hstack ▸ hns, fun s => hkeep H s (hstack ▸ hns)⟩)

theorem redeclaredIn_false_of_notin {d : Int} {n : Name} : ∀ {l : List Sym}, (∀ y, y ∈ l → y.name ≠ n) →
    Scope.redeclaredIn d n l = false
  | [], _ => rfl
  | y :: r, h => by
    unfold Scope.redeclaredIn
    have hy := h y (List.mem_cons_self ..)
    by_cases hd : y.depth < d
    · simp [hd]
    · simp only [hd, if_false]
      have : ¬ (y.name = n ∧ y.depth = d) := fun hh => hy hh.1
      simp only [this, if_false]
      exact redeclaredIn_false_of_notin (fun z hz => h z (List.mem_cons_of_mem _ hz))

theorem nodup_reverse {α} {l : List α} : l.reverse.Nodup ↔ l.Nodup := (List.reverse_perm l).nodup_iff

theorem impScope_new : ImpScope Scope.new [] :=
  ⟨rfl, rfl, fun i => by simp [Scope.new, assoc], by simp⟩

theorem ImpScope.all_depth {s : Scope} {IS : List Entry} (h : ImpScope s IS) : ∀ y, y ∈ s.locals → y.depth = s.depth := by
  intro y hy
  rw [h.locals] at hy
  simp only [List.mem_reverse, List.mem_map] at hy
  obtain ⟨e, _, rfl⟩ := hy
  rw [h.depth]; rfl

theorem ImpScope.wf {s : Scope} {IS : List Entry} (h : ImpScope s IS) : WF s :=
  fun y hy => Int.le_of_eq (h.all_depth y hy)

theorem ImpScope.names {s : Scope} {IS : List Entry} (h : ImpScope s IS) :
    s.locals.map Sym.name = (IS.map (fun e => e.1)).reverse := by
  rw [h.locals, List.map_reverse, List.map_map]; rfl

theorem ImpScope.length {s : Scope} {IS : List Entry} (h : ImpScope s IS) : s.locals.length = IS.length := by
  rw [h.locals]; simp

def KeptExports (vm vm' : VM) : Prop := ∀ k, k < vm.modules.length → vm'.exportsOf k = vm.exportsOf k

/-- the modules of `vm` keep their export tables and, except `m`, their scopes -/
structure KeptM (vm vm' : VM) (m : Nat) : Prop where
  scopes : ∀ k sc, k < vm.modules.length → k ≠ m → lookS vm k = some sc → lookS vm' k = some sc
  exports : KeptExports vm vm'
  len : vm.modules.length ≤ vm'.modules.length

theorem KeptM.trans {a b c : VM} {m : Nat} (h1 : KeptM a b m) (h2 : KeptM b c m) : KeptM a c m :=
  ⟨fun k sc hk hkm h => h2.scopes k sc (Nat.lt_of_lt_of_le hk h1.len) hkm (h1.scopes k sc hk hkm h),
    fun k hk => (h2.exports k (Nat.lt_of_lt_of_le hk h1.len)).trans (h1.exports k hk), Nat.le_trans h1.len h2.len⟩

theorem KeptM.of_scopes {vm vm' : VM} {m : Nat} (hmods : vm'.modules = vm.modules)
    (h : ∀ k sc, k ≠ m → lookS vm k = some sc → lookS vm' k = some sc) : KeptM vm vm' m :=
  ⟨fun k sc _ => h k sc, fun k _ => exportsOf_congr hmods k, Nat.le_of_eq (congrArg _ hmods.symm)⟩

structure OkPostB (O : Oracle) (files : Files) (mainSrc : ModuleSrc) (libs : Libs) (vm vm' : VM) (m : Nat)
    (pre : List Imp) : Prop where
  binv : BInv O files mainSrc libs vm'
  disc : Disc vm'
  kept : ∀ k sc, k < vm.modules.length → k ≠ m → lookS vm k = some sc → lookS vm' k = some sc
  exports : KeptExports vm vm'
  len : vm.modules.length ≤ vm'.modules.length
  scope : ∃ s' IS', lookS vm' m = some s' ∧ ImpScope s' IS' ∧ EntriesOK O files mainSrc libs vm' pre IS'

theorem OkPostB.keptM {vm vm' : VM} {m : Nat}
    {pre : List Imp} (h : OkPostB O files mainSrc libs vm vm' m pre) : KeptM vm vm' m := ⟨h.kept, h.exports, h.len⟩

/-- scope side of `InImports`: inside the import loop of the module `m`, with the statements `pre` carried out, the scope of
    `m` holds exactly what they brought -/
structure InImportsB (O : Oracle) (files : Files) (mainSrc : ModuleSrc) (libs : Libs) (vm : VM) (m : Nat)
    (pre : List Imp) : Prop where
  binv : BInv O files mainSrc libs vm
  disc : Disc vm
  scope : ∃ s IS, lookS vm m = some s ∧ ImpScope s IS ∧ EntriesOK O files mainSrc libs vm pre IS

theorem OkPostB.inImports {vm vm' : VM} {m : Nat} {pre : List Imp} (h : OkPostB O files mainSrc libs vm vm' m pre) :
    InImportsB O files mainSrc libs vm' m pre := ⟨h.binv, h.disc, h.scope⟩

theorem bind_stepB {vm0 vm : VM} {m mid : Nat}
    {s : Scope} {IS : List Entry} {pre : List Imp} {imp : Imp} (hK : KeptM vm0 vm m)
    (hB : BInv O files mainSrc libs vm) (hD : Disc vm) (hcs : vm.cs = some m) (hmstack : m ∈ vm.stack)
    (hmlt : m < vm.modules.length) (hs : lookS vm m = some s) (hI : ImpScope s IS)
    (hE : EntriesOK O files mainSrc libs vm pre IS) (hn : assoc imp.name vm.nameMap = some mid)
    (hex : ExOK files mainSrc libs imp.name mid (vm.exportsOf mid)) :
    (bindImports O vm mid imp.items).Sat (fun vm' => OkPostB O files mainSrc libs vm0 vm' m (pre ++ [imp]))
      (fun _ _ => True) := by
  rw [bindImports_eq]
  generalize hl : chosenOf O (vm.exportsOf mid) imp.items = l
  refine (declareExternals_effect mid l vm m s hcs hs).mono ?_ (fun _ _ _ => trivial)
  -- the new state is `vm` with other scopes: what `BInv` reads of it apart from the scopes is `vm`'s by computation
  rintro _ ⟨sc, s', rfl, e1, e2, e3, e4, e5, e7⟩
  have hnames : s'.locals.map Sym.name = ((IS ++ l.map (fun p => (p.1, p.2, mid))).map (fun e => e.1)).reverse := by
    rw [e3, hI.locals]
    simp only [List.map_append, List.map_reverse, List.map_map, List.reverse_append]
    rfl
  have hI' : ImpScope s' (IS ++ l.map (fun p => (p.1, p.2, mid))) := by
    refine ⟨e2.trans hI.depth, ?_, fun i => ?_, ?_⟩
    · rw [e3, hI.locals, hI.depth]
      simp only [List.map_append, List.reverse_append, List.map_map]
      rfl
    · rw [e4 i, hI.length, hI.ext i]
      by_cases h1 : IS.length ≤ i ∧ i < IS.length + l.length
      · rw [if_pos h1, List.getElem?_append_right h1.1,
          List.getElem?_eq_getElem (by simp only [List.length_map]; omega)]
        simp
      · rw [if_neg h1]
        by_cases h2 : i < IS.length
        · rw [List.getElem?_append_left h2]
        · have e1' : (IS ++ l.map (fun p => ((p.1, p.2, mid) : Entry)))[i]? = none :=
            List.getElem?_eq_none (by simp only [List.length_append, List.length_map]; omega)
          rw [e1', List.getElem?_eq_none (Nat.le_of_not_lt h2)]
    · exact nodup_reverse.1 (hnames ▸ e7 hI.all_depth (hI.names ▸ nodup_reverse.2 hI.nodup))
  obtain ⟨hD', hwf'⟩ := Disc.update (vm' := { vm with scopes := sc }) hD hB.wf rfl rfl e1 hI'.wf e5
  refine ⟨?_, hD', fun k sc' hk hkm hsc => (e5 k hkm).trans (hK.scopes k sc' hk hkm hsc), hK.exports, hK.len, s', _, e1, hI', ?_⟩
  · refine hB.transfer rfl (fun _ h => h) (fun _ h => h) (fun _ _ h => h) rfl rfl hwf' (fun k hk => ?_)
      (fun k sc' hk hsc => (e5 k (fun h => hk (h ▸ hmstack))).trans hsc)
    show assoc k sc = none ∨ assoc k sc = some Scope.new
    rw [e5 k (by omega)]; exact hB.fresh k hk
  · rw [← hl]
    refine EntriesOK.snoc (EntriesOK.mono ?_ hE) hn hex
    exact fun _ _ h => h

/-- loading a custom module that is not registered yet, from a state with the invariants: they hold again, the modules
    that existed keep their scopes and export tables -/
def LoadSpecB (O : Oracle) (files : Files) (mainSrc : ModuleSrc) (libs : Libs)
    (load : VM → LibNameInfo → Res (VM × Nat)) : Prop :=
  ∀ (vm : VM) (m : Nat) (rest : List Nat) (nm : Name) (src : ModuleSrc) (imp : Imp),
    InImports files mainSrc vm m rest nm src →
    imp ∈ src.imports → assoc imp.name vm.nameMap = none → (parseLibName imp.name).libType = .custom →
    BInv O files mainSrc libs vm → Disc vm →
    (load vm (parseLibName imp.name)).Sat (fun p => BInv O files mainSrc libs p.1 ∧ Disc p.1 ∧
        (∀ k s, k < vm.modules.length → lookS vm k = some s → lookS p.1 k = some s) ∧ KeptExports vm p.1 ∧
        vm.modules.length ≤ p.1.modules.length) (fun _ _ => True)

theorem exOK_of_done {vm : VM} {n : Name} {mid : Nat}
    (hS : SInv files mainSrc vm) (hB : BInv O files mainSrc libs vm) (hn : assoc n vm.nameMap = some mid)
    (hd : Ev.done mid ∈ vm.log) : ExOK files mainSrc libs n mid (vm.exportsOf mid) := by
  obtain ⟨n', hn', hreach, src, hsrc⟩ := hS.doneReach mid hd
  rw [hS.regName n mid hn] at hn'
  cases hn'
  refine ⟨hB.expNodup mid, fun _ => ⟨src, hsrc, hB.closedExports mid n src hd (hS.regName n mid hn) hsrc⟩, fun hstd => ?_⟩
  rw [hreach.custom] at hstd; cases hstd

theorem exOK_of_lib {n : Name} {mid : Nat} {ex : List (Name × Val)}
    {names : List Name} (hnd : (ex.map (fun p => p.1)).Nodup) (hty : (parseLibName n).libType = .std)
    (hlib : assoc n libs = some names) (h1 : ∀ p, p ∈ ex → p.2 = Val.native ∧ p.1 ∈ names)
    (h2 : ∀ x, x ∈ names → x ∈ ex.map (fun p => p.1)) : ExOK files mainSrc libs n mid ex := by
  refine ⟨hnd, fun hc => ?_, fun _ => ⟨names, hlib, fun x => ⟨fun hx => ?_, h2 x⟩, fun p hp => (h1 p hp).1⟩⟩
  · rw [hty] at hc; cases hc
  · obtain ⟨p, hp, rfl⟩ := List.mem_map.1 hx
    exact (h1 p hp).2

theorem exportsOf_append_lt {vm vm' : VM} {x : Module} (h : vm'.modules = vm.modules ++ [x]) {k : Nat}
    (hk : k < vm.modules.length) : vm'.exportsOf k = vm.exportsOf k := by
  simp [VM.exportsOf, h, List.getElem?_append_left hk]

theorem exportsOf_append_new {vm vm' : VM} {x : Module} (h : vm'.modules = vm.modules ++ [x]) :
    vm'.exportsOf vm.modules.length = x.exports := by
  simp [VM.exportsOf, h]

theorem exportsOf_ge {vm : VM} {k : Nat} (hk : vm.modules.length ≤ k) : vm.exportsOf k = [] := by
  simp [VM.exportsOf, List.getElem?_eq_none hk]

theorem mem_stack_lt {vm : VM} {st : List Nat} (hL : LInv files mainSrc vm st)
    {x : Nat} (hx : x ∈ st) : x < vm.modules.length :=
  namesOf_length vm ▸ hL.lt_of_stack hx

theorem SInv.done_lt {vm : VM} (hS : SInv files mainSrc vm) {H : Nat}
    (hd : Ev.done H ∈ vm.log) : H < vm.modules.length := by
  obtain ⟨k, hk, _⟩ := hS.doneReach H hd
  exact namesOf_length vm ▸ getElem?_lt hk

theorem alloc_push_B {vm : VM} {n : Name} {top : Nat}
    (hB : BInv O files mainSrc libs vm) (hreg : assoc n vm.nameMap = none) (hcs : vm.cs = some top) :
    (∀ k, lookS ((vm.allocateModule n).1.pushFrame vm.modules.length) k =
      if k = vm.modules.length then some Scope.new else lookS vm k) ∧
    ((vm.allocateModule n).1.pushFrame vm.modules.length).modules = vm.modules ++ [⟨n, []⟩] := by
  rw [allocate_fresh hreg hcs]
  refine ⟨fun k => ?_, rfl⟩
  rw [lookS_pushFrame]
  split
  · have : ∀ o : Option Scope, o = none ∨ o = some Scope.new → some (o.getD Scope.new) = some Scope.new := by
      rintro _ (rfl | rfl) <;> rfl
    exact this _ (hB.fresh _ (Nat.le_refl _))
  · rfl

theorem BInv.alloc {vm vm' : VM} {n : Name}
    (hB : BInv O files mainSrc libs vm) (hnames : namesOf vm' = namesOf vm ++ [n])
    (hlen : vm'.modules.length = vm.modules.length + 1)
    (hex : ∀ k, k < vm.modules.length → vm'.exportsOf k = vm.exportsOf k)
    (hlook : ∀ k, lookS vm' k = if k = vm.modules.length then some Scope.new else lookS vm k)
    (hmap : ∀ k id, assoc k vm.nameMap = some id → assoc k vm'.nameMap = some id)
    (hdone : ∀ H, Ev.done H ∈ vm'.log → Ev.done H ∈ vm.log)
    (hlib : ∀ H, H < vm.modules.length → Ev.lib H ∈ vm'.log → Ev.lib H ∈ vm.log)
    (hstack : ∀ H, H ∉ vm'.stack → H ∉ vm.stack)
    (hnd : ((vm'.exportsOf vm.modules.length).map (fun p => p.1)).Nodup)
    (hN : ClosedAt O files mainSrc libs vm' vm.modules.length) : BInv O files mainSrc libs vm' := by
  have hNlen := namesOf_length vm
  refine BInv.of_at (fun k sc hk => ?_) (fun k hk => ?_) (fun k => ?_) (fun H => ?_)
  · rw [hlook] at hk
    split at hk
    · cases hk; exact wf_new
    · exact hB.wf k sc hk
  · rw [hlook, if_neg (by omega)]; exact hB.fresh k (by omega)
  · rcases Nat.lt_trichotomy k vm.modules.length with hk | rfl | hk
    · rw [hex k hk]; exact hB.expNodup k
    · exact hnd
    · rw [exportsOf_ge (by omega)]; exact List.nodup_nil
  · rcases Nat.lt_trichotomy H vm.modules.length with hH | rfl | hH
    · refine (hB.closedAt H).transfer ?_ (hex H hH) (hdone H) (hlib H hH) hmap
        (fun hns _ => ⟨hstack H hns, fun s hs => by rw [hlook, if_neg (by omega)]; exact hs⟩)
      rw [hnames, List.getElem?_append_left (by omega)]
    · exact hN
    · exact ClosedAt.of_none (List.getElem?_eq_none (by rw [hnames, List.length_append, List.length_singleton]; omega))

/-- The second case analysis of `evalImport`; the first is `evalImport_spec` (Proofs/ModulesLoad).  That one fixes the graph, the log
    and the registry at every exit, failures included, under `OracleOK` alone, and is used here through `hin : InImports …` and
    `.and`.  This one adds scopes and export tables, for steps that succeed only, and needs `ExportOrderOK`, which the results about
    the graph do not assume: hence two.  A new branch of `evalImport` needs a case in both. -/
theorem evalImport_specB {f : Nat}
    {load : VM → LibNameInfo → Res (VM × Nat)} (hO : OracleOK O) (hload : LoadSpec files mainSrc f load)
    (hloadB : LoadSpecB O files mainSrc libs load)
    {vm : VM} {m : Nat} {rest : List Nat} {nm : Name} {src : ModuleSrc} {imp : Imp} {pre : List Imp}
    (hin : InImports files mainSrc vm m rest nm src) (himp : imp ∈ src.imports) (hρ : ExportOrderOK O)
    (hb : InImportsB O files mainSrc libs vm m pre) :
    (evalImport O libs load vm imp).Sat (fun vm' => OkPostB O files mainSrc libs vm vm' m (pre ++ [imp]))
      (fun _ _ => True) := by
  have hS := hin.sinv
  have hL := hin.linv
  obtain ⟨hB, hD, s, IS, hs, hI, hE⟩ := hb
  have hmlt : m < vm.modules.length := mem_stack_lt hL (List.mem_cons_self ..)
  have hmem : m ∈ m :: rest := List.mem_cons_self ..
  unfold evalImport
  dsimp only
  rcases libType_cases imp.name with hty | hty
  · -- a library
    rw [hty]
    dsimp only
    cases hlib : assoc imp.name libs with
    | none => trivial
    | some names =>
      dsimp only
      generalize hexl : O.exportOrder (names.map (fun n => (n, Val.native))) = exl
      have hexl_mem : ∀ p, p ∈ exl ↔ p ∈ names.map (fun n => (n, Val.native)) := fun p => hexl ▸ (hρ _).mem_iff
      cases hreg : assoc imp.name vm.nameMap with
      | none =>
        -- allocated by this import
        obtain ⟨ha, hN⟩ := Alloc.of_allocate hreg hin.cs
        rw [hN, namesOf_length]
        obtain ⟨look1, mods1⟩ := alloc_push_B hB hreg hin.cs
        obtain ⟨f1, f2, f3, f4, f5, f6, f7⟩ := addExportsIgnoringDup_effect vm.modules.length exl
          ((vm.allocateModule imp.name).1.pushFrame vm.modules.length) (by rw [mods1]; simp)
        have k2 := kept_addExportsIgnoringDup vm.modules.length exl
          ((vm.allocateModule imp.name).1.pushFrame vm.modules.length)
        have hst2 : (addExportsIgnoringDup vm.modules.length ((vm.allocateModule imp.name).1.pushFrame vm.modules.length)
            exl).stack = vm.modules.length :: m :: rest := by
          rw [k2.stack, pushFrame_stack, allocate_fresh hreg hin.cs]; exact congrArg _ hin.stack
        rw [popFrame_cons hst2]
        dsimp only
        generalize addExportsIgnoringDup vm.modules.length ((vm.allocateModule imp.name).1.pushFrame vm.modules.length)
          exl = vm2 at f1 f2 f3 f4 f5 f6 f7 k2 ⊢
        -- the names are bound in `vm2` with the library's frame popped and the event `lib` recorded: its components are `vm2`'s
        have log2 : vm2.log = vm.log := k2.same.log.trans ha.log
        have map2 : vm2.nameMap = aset imp.name vm.modules.length vm.nameMap :=
          k2.same.nameMap.trans (ha.nameMap.trans (by rw [namesOf_length]))
        have hex0 : ((vm.allocateModule imp.name).1.pushFrame vm.modules.length).exportsOf vm.modules.length = [] :=
          exportsOf_append_new mods1
        have hexlt : ∀ k, k < vm.modules.length → vm2.exportsOf k = vm.exportsOf k := fun k hk =>
          (f2 k (by omega)).trans (exportsOf_append_lt mods1 hk)
        have hmap : ∀ k id, assoc k vm.nameMap = some id → assoc k vm2.nameMap = some id := fun k id hk =>
          map2 ▸ assoc_aset_fresh hreg _ hk
        have hlook : ∀ k, lookS vm2 k = if k = vm.modules.length then some Scope.new else lookS vm k :=
          fun k => (f1 k).trans (look1 k)
        have hExpN : ∀ p, p ∈ vm2.exportsOf vm.modules.length → p.2 = Val.native ∧ p.1 ∈ names := by
          intro p hp
          rcases f6 p hp with h | h
          · rw [hex0] at h; cases h
          · obtain ⟨n, hn, rfl⟩ := List.mem_map.1 ((hexl_mem p).1 h)
            exact ⟨rfl, hn⟩
        have hFullN : ∀ n, n ∈ names → n ∈ (vm2.exportsOf vm.modules.length).map (fun p => p.1) := fun n hn =>
          f5 (n, Val.native) ((hexl_mem _).2 (List.mem_map.2 ⟨n, hn, rfl⟩))
        have hndN : ((vm2.exportsOf vm.modules.length).map (fun p => p.1)).Nodup := f4 (by rw [hex0]; exact List.nodup_nil)
        have hnotdone : Ev.done vm.modules.length ∉ vm2.log := fun hd => Nat.lt_irrefl _ (hS.done_lt (log2 ▸ hd))
        have hmN : m ≠ vm.modules.length := Nat.ne_of_lt hmlt
        have len2 : vm2.modules.length = vm.modules.length + 1 := by rw [f3, mods1]; simp
        refine bind_stepB ⟨fun k sc hk _ hsc => (hlook k).trans (by rw [if_neg (Nat.ne_of_lt hk)]; exact hsc), hexlt,
            (len2 ▸ Nat.le_succ _ : vm.modules.length ≤ vm2.modules.length)⟩ ?_
          ⟨rfl, fun k hk => ?_⟩ rfl hmem (len2 ▸ Nat.lt_succ_of_lt hmlt : m < vm2.modules.length) ((hlook m).trans (by rw [if_neg hmN]; exact hs)) hI (EntriesOK.mono ?_ hE)
          (map2 ▸ assoc_aset_same _ _ _) (exOK_of_lib hndN hty hlib hExpN hFullN)
        · refine BInv.alloc (vm' := VM.record { vm2 with stack := m :: rest, cs := (m :: rest).head? } (.lib vm.modules.length)) hB
            (k2.same.names.trans ha.names) len2 hexlt hlook hmap
            (fun H hd => log2 ▸ (List.mem_cons.1 hd).resolve_left nofun)
            (fun H hH hl => log2 ▸ (List.mem_cons.1 hl).resolve_left (fun e => by cases e; exact Nat.lt_irrefl _ hH))
            (fun H hns => hin.stack ▸ hns) hndN
            ⟨fun _ _ hd => absurd ((List.mem_cons.1 hd).resolve_left nofun) hnotdone,
              fun _ _ hd => absurd ((List.mem_cons.1 hd).resolve_left nofun) hnotdone, fun ln names' hn' _ hl => ?_⟩
          replace hn' : (namesOf vm2)[vm.modules.length]? = some ln := hn'
          rw [k2.same.names.trans ha.names, ← namesOf_length] at hn'
          simp at hn'
          rw [← hn', hlib] at hl; cases hl
          exact ⟨hExpN, fun _ => hFullN⟩
        · show lookS vm2 k ≠ none
          rw [hlook]
          split
          · nofun
          · exact hD.hasScope k (hin.stack ▸ hk)
        · exact hmap
      | some id =>
        -- a library that is registered already: all its names are present, nothing is added
        rw [allocate_existing hreg]
        dsimp only
        have hidn : (namesOf vm)[id]? = some imp.name := hS.regName _ _ hreg
        have hidlt : id < vm.modules.length := namesOf_length vm ▸ getElem?_lt hidn
        have hlibev : Ev.lib id ∈ vm.log := by
          rcases hL.reg _ _ hreg with h | h
          · obtain ⟨nx, h1, h2, _⟩ := hL.sreach id h
            rw [hidn] at h1; cases h1
            rw [h2.custom] at hty; cases hty
          · refine (mem_closedOf.1 h).resolve_left (fun hd => ?_)
            obtain ⟨nx, h1, h2, _⟩ := hS.doneReach id hd
            rw [hidn] at h1; cases h1
            rw [h2.custom] at hty; cases hty
        obtain ⟨q1, q2⟩ := hB.libOK id imp.name names hidn hty hlib
        rw [addExportsIgnoringDup_idem id (vm.pushFrame id) hidlt exl (fun p hp => by
          obtain ⟨n, hn, rfl⟩ := List.mem_map.1 ((hexl_mem p).1 hp)
          exact q2 hlibev n hn),
          popFrame_cons (show (vm.pushFrame id).stack = id :: m :: rest from congrArg _ hin.stack)]
        dsimp only
        -- the names are bound in `vm` with (possibly) one more empty scope and the event `lib id`: every other component is `vm`'s
        have sameR := scopesSame_pushFrame vm id
        refine bind_stepB (KeptM.of_scopes rfl (fun k sc _ h => sameR.keep h)) ?_
          ⟨congrArg List.head? hin.stack.symm ▸ rfl, fun k hk => sameR.nonnone k (hD.hasScope k (hin.stack ▸ hk))⟩ rfl hmem hmlt
          (sameR.keep hs) hI (EntriesOK.mono ?_ hE) hreg (exOK_of_lib (hB.expNodup id) hty hlib q1 (q2 hlibev))
        · refine hB.transfer rfl (fun H hd => (List.mem_cons.1 hd).resolve_left nofun) (fun H hl => ?_) (fun _ _ h => h) rfl
            hin.stack.symm (hB.wf.of_same sameR) (fun k hk => ?_) (fun k sc _ hk => sameR.keep hk)
          · exact (List.mem_cons.1 hl).elim (fun e => by cases e; exact hlibev) fun h => h
          · rcases sameR k with e | ⟨_, e⟩
            · exact e ▸ hB.fresh k hk
            · exact Or.inr e
        · exact fun _ _ h => h
  · -- a module
    rw [hty]
    dsimp only
    unfold VM.findModuleByName
    cases hreg : assoc imp.name vm.nameMap with
    | none =>
      have hl := hload vm m rest nm src imp hin himp hreg hty
      have hlB := hloadB vm m rest nm src imp hin himp hreg hty hB hD
      cases hr : load vm (parseLibName imp.name) with
      | err e vm' => trivial
      | ok p =>
        obtain ⟨vm1, mid⟩ := p
        rw [hr] at hl hlB
        obtain ⟨hin1, hE1, h1, h2, _⟩ := hl
        obtain ⟨hB1, hD1, hks, hke, hlen⟩ := hlB
        refine (checkDependency_cases O vm1 imp.name).bind (fun _ _ _ => trivial) ?_
        rintro vm2 ⟨rfl, _⟩
        exact bind_stepB ⟨fun k sc hk _ => hks k sc hk, hke, hlen⟩ hB1 hD1 hin1.cs (hin1.stack ▸ hmem)
          (Nat.lt_of_lt_of_le hmlt hlen) (hks m s hmlt hs) hI (hE.mono hE1.nameMap) h1
          (exOK_of_done hin1.sinv hB1 h1 h2)
    | some mid =>
      dsimp only
      have hcd := checkDependency_cases O (vm.addModuleDependency imp.name) imp.name
      cases hc : checkDependency O (vm.addModuleDependency imp.name) imp.name with
      | err e vm' => trivial
      | ok vm2 =>
        have hdone := existing_import_done hO hS hL hin.cs hreg hty hc
        rw [hc] at hcd
        obtain ⟨rfl, _⟩ := hcd
        have hmap := (ext_addDep hreg hin.cs).nameMap
        rw [addDep_eq hreg hin.cs] at hmap ⊢
        exact bind_stepB (KeptM.of_scopes rfl (fun _ _ _ h => h))
          (hB.transfer rfl (fun _ h => h) (fun _ h => h) hmap rfl rfl hB.wf hB.fresh (fun _ _ _ h => h))
          ⟨hD.cs, hD.hasScope⟩ hin.cs (hin.stack ▸ hmem) hmlt hs hI (hE.mono hmap) (hmap _ _ hreg)
          (exOK_of_done hS hB hreg hdone : ExOK files mainSrc libs imp.name mid (vm.exportsOf mid))

theorem evalImports_specB {f : Nat}
    {load : VM → LibNameInfo → Res (VM × Nat)} (hO : OracleOK O) (hload : LoadSpec files mainSrc f load)
    (hloadB : LoadSpecB O files mainSrc libs load) (hρ : ExportOrderOK O)
    {m : Nat} {rest : List Nat} {nm : Name} {src : ModuleSrc} :
    ∀ (imps : List Imp) (vm : VM) (pre : List Imp), InImports files mainSrc vm m rest nm src →
      (∀ i, i ∈ imps → i ∈ src.imports) → InImportsB O files mainSrc libs vm m pre →
      (evalImports O libs load vm imps).Sat (fun vm' => OkPostB O files mainSrc libs vm vm' m (pre ++ imps))
        (fun _ _ => True)
  | [], vm, pre, _, _, hb =>
    ⟨hb.binv, hb.disc, fun _ _ _ _ h => h, fun _ _ => rfl, Nat.le_refl _, by simpa using hb.scope⟩
  | i :: r, vm, pre, hin, hsub, hb => by
    unfold evalImports
    have hi := hsub i (List.mem_cons_self ..)
    refine ((evalImport_spec (libs := libs) hO hload hin hi).and
      (evalImport_specB (libs := libs) hO hload hloadB hin hi hρ hb)).bind (fun _ _ _ => trivial) ?_
    rintro vm1 ⟨⟨hin1, _⟩, b1⟩
    refine (evalImports_specB hO hload hloadB hρ r vm1 (pre ++ [i]) hin1
      (fun j hj => hsub j (List.mem_cons_of_mem _ hj)) b1.inImports).mono (fun vm2 b2 => ?_) (fun _ _ _ => trivial)
    have hk := b1.keptM.trans b2.keptM
    exact ⟨b2.binv, b2.disc, hk.scopes, hk.exports, hk.len, by simpa [List.append_assoc] using b2.scope⟩

theorem evalProgram_specB {cf f : Nat}
    {load : VM → LibNameInfo → Res (VM × Nat)} (hO : OracleOK O) (hload : LoadSpec files mainSrc f load)
    (hloadB : LoadSpecB O files mainSrc libs load) (hρ : ExportOrderOK O)
    {vm : VM} {m : Nat} {rest : List Nat} {nm : Name} {src : ModuleSrc}
    (hin : InImports files mainSrc vm m rest nm src) (hb : InImportsB O files mainSrc libs vm m [])
    (hex0 : vm.exportsOf m = []) :
    (evalProgram O libs cf load vm m src).Sat (fun vm' => InImportsB O files mainSrc libs vm' m src.imports ∧
        (∀ k sc, k < vm.modules.length → k ≠ m → lookS vm k = some sc → lookS vm' k = some sc) ∧
        (∀ k, k < vm.modules.length → k ≠ m → vm'.exportsOf k = vm.exportsOf k) ∧
        vm.modules.length ≤ vm'.modules.length)
      (fun _ _ => True) := by
  have hmlt : m < vm.modules.length := mem_stack_lt hin.linv (List.mem_cons_self ..)
  unfold evalProgram
  refine ((evalImports_spec (libs := libs) hO hload src.imports vm hin (fun _ h => h)).and
    (evalImports_specB (libs := libs) hO hload hloadB hρ src.imports vm [] hin (fun _ h => h) hb)).bind
    (fun _ _ _ => trivial) ?_
  rintro vm1 ⟨⟨hin1, _⟩, b1⟩
  obtain ⟨s1, IS1, hs1, hI1, hE1⟩ := b1.scope
  rw [List.nil_append] at hE1
  have hDb : Disc (vm1.record (.body m)) := ⟨b1.disc.cs, b1.disc.hasScope⟩
  refine ((evalBody_frame cf (vm1.record (.body m)) src.body).and
    (evalBody_effect cf hDb b1.binv.wf hin1.cs hs1 src.body)).bind (fun _ _ _ => trivial) ?_
  rintro vm2 ⟨⟨hsame, hst, hcs⟩, hsc, hexm, hexo, hnd⟩
  have hmap : ∀ n id, assoc n vm1.nameMap = some id → assoc n (vm2.record (.done m)).nameMap = some id :=
    fun n id hh => (hsame.nameMap ▸ hh : assoc n vm2.nameMap = some id)
  have hlen2 : vm2.modules.length = vm1.modules.length := same_length (vm := vm1.record (.body m)) hsame
  have hnames2 : namesOf (vm2.record (.done m)) = namesOf vm1 := hsame.names
  have hlog2 : (vm2.record (.done m)).log = .done m :: .body m :: vm1.log := congrArg _ hsame.log
  have hlogmem : ∀ {e : Ev}, e ∈ (vm2.record (.done m)).log → e = .done m ∨ e = .body m ∨ e ∈ vm1.log := fun h => by
    simpa [hlog2] using h
  -- with `done m` recorded, `m` is closed: its export table is what the body added to an empty one (`hexm`, `hex0`); it is still on
  -- the call stack, so nothing is claimed of its scope yet; every other module is left alone
  have hBd : BInv O files mainSrc libs (vm2.record (.done m)) := by
    refine BInv.of_at (b1.binv.wf.of_same hsc) (fun k hk => ?_) (fun k => ?_) (fun H => ?_)
    · rcases hsc k with e | ⟨_, e⟩
      · exact e ▸ b1.binv.fresh k (hlen2 ▸ hk)
      · exact Or.inr e
    · by_cases hkm : k = m
      · exact hkm ▸ hnd (b1.binv.expNodup m)
      · exact (hexo k hkm).symm ▸ b1.binv.expNodup k
    · by_cases hHm : H = m
      · subst hHm
        refine ⟨fun nm' src' _ hn hsrc => ?_, fun _ _ _ hns => absurd (hst ▸ hin1.stack ▸ List.mem_cons_self ..) hns,
          fun ln _ hn hstd => ?_⟩
        · rw [hnames2, hin1.name] at hn
          cases hn
          rw [hin1.src] at hsrc; cases hsrc
          exact hexm.trans (by rw [show (vm1.record _).exportsOf H = vm1.exportsOf H from rfl, b1.exports H hmlt, hex0]; rfl)
        · rw [hnames2, hin1.name] at hn
          cases hn
          rw [hin1.reach.custom] at hstd; cases hstd
      · exact (b1.binv.closedAt H).transfer (congrArg (·[H]?) hnames2) (hexo H hHm)
          (fun hd => (hlogmem hd).elim (fun e => by cases e; exact absurd rfl hHm) (·.resolve_left nofun))
          (fun hl => (hlogmem hl).elim nofun (·.resolve_left nofun)) hmap
          (fun hns _ => ⟨hst ▸ hns, fun _ h => hsc.keep h⟩)
  exact ⟨⟨hBd, disc_of_step hDb hst (hcs hDb.cs) hsc.nonnone, s1, IS1, hsc.keep hs1, hI1, hE1.mono hmap⟩,
    fun k sc hk hkm hk0 => hsc.keep (b1.kept k sc hk hkm hk0), fun k hk hkm => (hexo k hkm).trans (b1.exports k hk),
    hlen2 ▸ b1.len⟩

/-- `execAnotherModule` up to the point where the new module's program starts, scope side -/
theorem load_entryB {vm : VM} {m : Nat}
    {rest : List Nat} {nm : Name} {src : ModuleSrc} {n : Name}
    (hin : InImports files mainSrc vm m rest nm src) (hB : BInv O files mainSrc libs vm) (hD : Disc vm)
    (hreg : assoc n vm.nameMap = none) (hty : (parseLibName n).libType = .custom) :
    (vm.allocateModule n).2 = vm.modules.length ∧ BInv O files mainSrc libs (entered vm n) ∧ Disc (entered vm n) ∧
    (∀ k, lookS (entered vm n) k = if k = vm.modules.length then some Scope.new else lookS vm k) ∧
    (entered vm n).modules = vm.modules ++ [⟨n, []⟩] := by
  obtain ⟨ha, hN⟩ := Alloc.of_allocate hreg hin.cs
  have hN' : (vm.allocateModule n).2 = vm.modules.length := hN.trans (namesOf_length vm)
  unfold entered
  rw [hN']
  obtain ⟨look1, mods1⟩ := alloc_push_B hB hreg hin.cs
  have hst : ((vm.allocateModule n).1.pushFrame vm.modules.length).stack = vm.modules.length :: m :: rest := by
    rw [pushFrame_stack, allocate_fresh hreg hin.cs]; exact congrArg _ hin.stack
  have hnew : (namesOf (vm.allocateModule n).1)[vm.modules.length]? = some n := namesOf_length vm ▸ ha.names_new
  have mods1' : (((vm.allocateModule n).1.pushFrame vm.modules.length).record (.enter vm.modules.length)).modules =
      vm.modules ++ [⟨n, []⟩] := mods1
  refine ⟨rfl, ?_, ⟨by rw [record_cs, record_stack, hst]; rfl, fun k hk => ?_⟩, look1, mods1⟩
  · refine hB.alloc ha.names (by rw [mods1']; simp) (fun k hk => exportsOf_append_lt mods1' hk) look1 ha.ext.nameMap
      (fun H hd => ha.log ▸ (List.mem_cons.1 hd).resolve_left nofun)
      (fun H _ hl => ha.log ▸ (List.mem_cons.1 hl).resolve_left nofun) (fun H hns => ?_)
      (by rw [exportsOf_append_new mods1']; exact List.nodup_nil) (ClosedAt.of_open hnew hty fun hd => ?_)
    · exact hin.stack ▸ fun h => hns (hst ▸ List.mem_cons_of_mem _ h)
    · exact Nat.lt_irrefl _ (hin.sinv.done_lt (ha.log ▸ (List.mem_cons.1 hd).resolve_left nofun))
  · rw [lookS_record, look1]
    split
    · nofun
    · exact hD.hasScope k (hin.stack ▸ (List.mem_cons.1 (hst ▸ hk)).resolve_left (by assumption))

theorem loadModule_specB {cf : Nat}
    (hO : OracleOK O) (hρ : ExportOrderOK O) :
    ∀ f, LoadSpecB O files mainSrc libs (loadModule .repaired O files libs cf f)
  | 0 => fun _ _ _ _ _ _ _ _ _ _ _ _ => trivial
  | f + 1 => by
    intro vm m rest nm src imp hin himp hreg hty hB hD
    unfold loadModule
    cases hfind : finder .repaired files (parseLibName imp.name) with
    | panic => trivial
    | notFound => trivial
    | emptySrc => trivial
    | src s =>
      dsimp only
      rw [parseLibName_originalName]
      obtain ⟨hE1, -, -, hin1⟩ := load_entry hin himp hreg hty hfind
      obtain ⟨hN, hB1, hD1, look1, mods1⟩ := load_entryB hin hB hD hreg hty
      have hNst : vm.modules.length ∉ m :: rest := fun h => Nat.lt_irrefl _ (mem_stack_lt hin.linv h)
      refine ((evalProgram_spec (libs := libs) (cf := cf) hO (loadModule_spec hO f) hin1).and
        (evalProgram_specB (libs := libs) (cf := cf) hO (loadModule_spec hO f) (loadModule_specB hO hρ f) hρ hin1
          ⟨hB1, hD1, _, [], by rw [look1, hN, if_pos rfl], impScope_new, EntriesOK.nil⟩
          (by rw [hN]; exact (exportsOf_append_new mods1)))).bind (fun _ _ _ => trivial) ?_
      rintro vm2 ⟨⟨hS2, hL2, hst2, hcs2, hE2, hdone2⟩, ⟨hB2, hD2, s2, IS2, hs2, hI2, hEn2⟩, hk2, hx2, hlen2⟩
      rw [hN] at hst2 hcs2 hs2 hk2 hx2 hdone2 ⊢
      have hlenN : vm.modules.length < vm2.modules.length := by rw [mods1] at hlen2; simp at hlen2; omega
      rw [beginScope_of hcs2 hs2]
      refine (redeclareExports_effect (O.exportOrder (vm2.exportsOf vm.modules.length)) (vm2.setScope vm.modules.length s2.begin) vm.modules.length s2.begin hcs2
        (by rw [lookS_setScope, if_pos rfl])).bind (fun _ _ _ => trivial) ?_
      rintro _ ⟨sc, rfl, lookN, r2⟩
      -- the state that is returned is `vm2` with the scopes `sc`, the frame popped
      rw [popFrame_cons (vm := { vm2.setScope vm.modules.length s2.begin with scopes := sc }) hst2]
      have look3 : ∀ k, k ≠ vm.modules.length → assoc k sc = lookS vm2 k := fun k hk => by
        rw [r2 k hk, lookS_setScope, if_neg hk]
      have hd1 : s2.begin.depth = 1 := by show s2.depth + 1 = 1; rw [hI2.depth]; rfl
      have hnameN : (namesOf vm2)[vm.modules.length]? = some imp.name := hN ▸ hE2.names_get hin1.name
      refine ⟨BInv.of_at (fun k sc' hk => ?_) (fun k hk => ?_) hB2.expNodup (fun H => ?_), ⟨rfl, fun k hk => ?_⟩,
        fun k sc' hk hsc => ?_, fun k hk => ?_, Nat.le_of_lt hlenN⟩
      · by_cases hkN : k = vm.modules.length
        · rw [hkN] at hk
          cases lookN.symm.trans hk
          intro y hy
          rcases List.mem_append.1 hy with h | h
          · simp only [List.mem_reverse, List.mem_map] at h
            obtain ⟨p, _, rfl⟩ := h
            exact Int.le_refl _
          · exact Int.le_trans (Int.le_of_eq ((hI2.all_depth y h).trans hI2.depth)) (hd1 ▸ by decide)
        · exact hB2.wf k sc' ((look3 k hkN).symm.trans hk)
      · show assoc k sc = none ∨ assoc k sc = some Scope.new
        rw [look3 k (Nat.ne_of_gt (Nat.lt_of_lt_of_le hlenN hk))]; exact hB2.fresh k hk
      · by_cases hHN : H = vm.modules.length
        · subst hHN
          refine ⟨hB2.closedExports _, fun nm' src' _ _ _ hn hsrc => ?_, hB2.libOK _⟩
          cases hnameN.symm.trans hn
          rw [hin1.src] at hsrc; cases hsrc
          refine ⟨_, IS2, lookN, ⟨hd1, ?_, hI2.ext, hI2.nodup⟩, EntriesOK.mono ?_ hEn2⟩
          · rw [hd1]
            exact congrArg _ hI2.locals
          · exact fun _ _ h => h
        · exact (hB2.closedAt H).transfer rfl rfl id id (fun _ _ h => h)
            (fun hns _ => ⟨fun h => (List.mem_cons.1 (hst2 ▸ h)).elim hHN hns, fun sc' h => (look3 H hHN).trans h⟩)
      · exact fun h => hD2.hasScope k (hst2 ▸ List.mem_cons_of_mem _ hk) ((look3 k (fun e => hNst (e ▸ hk))).symm.trans h)
      · have hkN : k ≠ vm.modules.length := Nat.ne_of_lt hk
        exact (look3 k hkN).trans (hk2 k sc' (by rw [mods1]; simp; omega) hkN (by rw [look1, if_neg hkN]; exact hsc))
      · have hkN : k ≠ vm.modules.length := Nat.ne_of_lt hk
        exact (hx2 k (by rw [mods1]; simp; omega) hkN).trans (exportsOf_append_lt mods1 hk)

theorem start_invariantsB (O : Oracle) (files : Files) (mainSrc : ModuleSrc) (libs : Libs) :
    InImportsB O files mainSrc libs vmStart 0 [] ∧ vmStart.exportsOf 0 = [] := by
  have hlook : ∀ k, lookS vmStart k = if k = 0 then some Scope.new else none := fun k => by
    cases k with
    | zero => rfl
    | succ j => show assoc (j + 1) [(0, Scope.new)] = _; simp [assoc]
  have hex : ∀ k, vmStart.exportsOf k = [] := fun k => by
    cases k with
    | zero => rfl
    | succ j => simp [VM.exportsOf, show vmStart.modules = [⟨mainName, []⟩] from rfl]
  have hnolog : ∀ {e : Ev}, e ∈ vmStart.log → e = .enter 0 := fun h => List.mem_singleton.1 h
  refine ⟨⟨⟨fun k sc hk => ?_, fun k hk => ?_, fun k => hex k ▸ List.nodup_nil, fun _ _ _ hd => (nomatch hnolog hd),
    fun _ _ _ hd => (nomatch hnolog hd), fun L ln names hn hstd _ => ?_⟩, ⟨rfl, fun k hk => ?_⟩, _, [], rfl, impScope_new,
    EntriesOK.nil⟩, rfl⟩
  · rw [hlook] at hk
    split at hk <;> cases hk
    exact wf_new
  · rw [hlook, if_neg (fun h => by subst h; exact absurd hk (by decide))]; exact Or.inl rfl
  · cases L with
    | zero => cases hn; exact absurd hstd (by rw [mainName_custom]; nofun)
    | succ j => cases hn
  · cases List.mem_singleton.1 hk; nofun

/-- what a completed run leaves behind, scope side -/
structure FinalB (O : Oracle) (files : Files) (mainSrc : ModuleSrc) (libs : Libs) (vm : VM) : Prop where
  binv : BInv O files mainSrc libs vm
  stack : vm.stack = []
  main : ∃ s IS, lookS vm 0 = some s ∧ ImpScope s IS ∧ EntriesOK O files mainSrc libs vm mainSrc.imports IS

theorem runWith_specB {lf cf : Nat}
    (hO : OracleOK O) (hρ : ExportOrderOK O) :
    (runWith .repaired O files libs lf cf mainSrc).Sat (FinalB O files mainSrc libs) (fun _ _ => True) := by
  have hin := start_invariants files mainSrc
  obtain ⟨hb, hex0⟩ := start_invariantsB O files mainSrc libs
  rw [runWith_eq]
  refine ((evalProgram_spec (libs := libs) (cf := cf) hO (loadModule_spec hO lf) hin).and
    (evalProgram_specB (libs := libs) (cf := cf) hO (loadModule_spec hO lf) (loadModule_specB hO hρ lf) hρ hin hb
      hex0)).bind (fun _ _ _ => trivial) ?_
  rintro vm2 ⟨⟨_, _, hst2, _, _, _⟩, ⟨hB2, _, s2, IS2, hs2, hI2, hE2⟩, _, _, _⟩
  rw [popFrame_cons hst2]
  refine ⟨BInv.of_at hB2.wf hB2.fresh hB2.expNodup fun H => (hB2.closedAt H).transfer rfl rfl id id (fun _ _ h => h)
      (fun _ h0 => ⟨by rw [hst2]; simpa using h0, fun _ h => h⟩), rfl, s2, IS2, hs2, hI2,
    EntriesOK.mono (vm := vm2) (vm' := { vm2 with stack := [], cs := ([] : List Nat).head? }) (fun _ _ h => h) hE2⟩

end ZnVerif.Proofs.Modules
