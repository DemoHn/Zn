/-
Which part of the machine state each operation of the model may change ("frames"): a small relational
Hoare calculus over the monad `M ν` — `Pres R m` says every run of `m`, whatever its outcome, relates the initial
and the final state by `R` — and its instances: read-only operations (`Same`, proved here), operations that only
allocate (`Grow`) and mutators that write only the receiver's own cell (`FrameAt a`), both read off Proofs/LeafEffects.lean.
The same judgment over the evaluator's mutual block is `Balance.Pres` (Proofs/Balance.lean); `pres_iff_balance`
(Proofs/HeapMono.lean) passes between the two.
-/
import ZnVerif.Proofs.Heap
import ZnVerif.Proofs.LeafEffects
set_option linter.unusedSectionVars false

namespace ZnVerif.Model

variable {ν : Type} [NumOps ν]

/-- every run of `m`, whatever its outcome (value, error, panic, out of fuel), relates initial and final state by `R`.
This is the form the C07 statements are written in (a run `m s = (r, s')` is named); `Balance.Pres` (Proofs/Balance.lean) says
the same of `(m s).2` and is the one to use over the evaluator's mutual block — `pres_iff_balance` (Proofs/HeapMono.lean) -/
structure Pres (R : VM ν → VM ν → Prop) {α : Type} (m : M ν α) : Prop where
  run : ∀ s r s', m s = (r, s') → R s s'

class StateRel (R : VM ν → VM ν → Prop) : Prop where
  refl : ∀ s, R s s
  trans : ∀ {a b c}, R a b → R b c → R a c

section combinators
variable {R : VM ν → VM ν → Prop} [StateRel R] {α β : Type}

theorem Pres.mono {R' : VM ν → VM ν → Prop} (hrr : ∀ s s', R s s' → R' s s') {m : M ν α} (p : Pres R m) : Pres R' m :=
  ⟨fun s r s' h => hrr _ _ (p.run s r s' h)⟩

theorem pres_of_const {m : M ν α} (hm : ∀ s, (m s).2 = s) : Pres R m := by
  constructor
  intro s r s' h
  have := hm s
  rw [h] at this
  subst this
  exact StateRel.refl _

theorem pres_pure (a : α) : Pres R (pure a : M ν α) := pres_of_const (fun _ => rfl)
theorem pres_rtErr (c : Nat) : Pres R (rtErr c : M ν α) := pres_of_const (fun _ => rfl)
theorem pres_goPanic : Pres R (goPanic : M ν α) := pres_of_const (fun _ => rfl)
theorem pres_outOfFuel : Pres R (outOfFuel : M ν α) := pres_of_const (fun _ => rfl)
theorem pres_getCell (a : Addr) : Pres R (getCell a : M ν (Cell ν)) :=
  pres_of_const (fun s => by unfold getCell; cases s.heap[a]? <;> rfl)
theorem pres_stackDepth : Pres R (stackDepth : M ν Nat) := pres_of_const (fun _ => rfl)

theorem pres_bind {m : M ν α} {f : α → M ν β} (hm : Pres R m) (hf : ∀ a, Pres R (f a)) : Pres R (m >>= f) := by
  constructor
  intro s r s' h
  rcases Proofs.Calls.bind_inv h with ⟨a, s1, h1, h2⟩ | ⟨r1, h1, _⟩
  · exact StateRel.trans (hm.run s _ s1 h1) ((hf a).run s1 r s' h2)
  · exact hm.run s r1 s' h1

theorem pres_modifyVM {f : VM ν → VM ν} (hf : ∀ s, R s (f s)) : Pres R (modifyVM f) := by
  constructor
  intro s r s' h
  simp only [modifyVM] at h
  injection h with _ h2
  rw [← h2]; exact hf s

theorem pres_closed : Proofs.Calls.Closed (fun {α} (m : M ν α) => Pres R m) := ⟨pres_pure, pres_bind⟩

theorem pres_ite {c : Prop} [Decidable c] {m1 m2 : M ν α} (h1 : Pres R m1) (h2 : Pres R m2) :
    Pres R (if c then m1 else m2) := by
  split <;> assumption

end combinators

/-- the state after equals the state before -/
def Same (s s' : VM ν) : Prop := s' = s
instance : StateRel (Same (ν := ν)) := ⟨fun _ => rfl, fun h1 h2 => by unfold Same at *; rw [h2, h1]⟩

theorem Pres.of_same {R : VM ν → VM ν → Prop} [StateRel R] {α : Type} {m : M ν α} (p : Pres Same m) : Pres R m :=
  p.mono (fun s s' h => by unfold Same at h; rw [h]; exact StateRel.refl _)

theorem display_same : ∀ (n : Nat) (a : Addr), Pres Same (display n a : M ν String)
  | 0, _ => pres_outOfFuel
  | n+1, a => by
    have ih := display_same n
    unfold display
    refine pres_bind (pres_getCell a) fun c => ?_
    cases c with
    | arr items => exact pres_bind (pres_closed.mapM fun x _ => ih x) fun _ => pres_pure _
    | hm vals order =>
      refine pres_bind (pres_closed.mapM fun k _ => ?_) fun _ => pres_pure _
      split
      · exact pres_bind (ih _) fun _ => pres_pure _
      · exact pres_goPanic
    | obj c _ => exact pres_bind (pres_getCell c) fun d => by split <;> first | exact pres_pure _ | exact pres_goPanic
    | _ => exact pres_pure _

theorem compareXEQ_same : ∀ (n : Nat) (l r : Addr), Pres Same (compareXEQ n l r : M ν Bool)
  | 0, _, _ => pres_outOfFuel
  | n+1, l, r => by
    have ih := compareXEQ_same n
    unfold compareXEQ
    refine pres_bind (pres_getCell l) fun cl => pres_bind (pres_getCell r) fun cr => ?_
    cases cl with
    | arr xs => cases cr <;> first | exact pres_pure _ | exact pres_ite (pres_pure _) (pres_closed.allM fun p _ => ih _ _)
    | hm lv lo =>
      cases cr <;> first | exact pres_pure _ | refine pres_ite (pres_pure _) (pres_closed.allM fun k _ => ?_)
      split
      · exact pres_pure _
      · split
        · exact pres_goPanic
        · exact ih _ _
    | null | num _ | str _ | bool _ => exact pres_pure _
    | _ => exact pres_rtErr _

theorem validateOne_same (a : Addr) (ty : String) : Pres Same (validateOne a ty : M ν Unit) :=
  pres_bind (pres_getCell a) fun _ => pres_ite (pres_pure _) (pres_rtErr _)

/-! a parameter check on a cell of the kind it asks for succeeds (the run equations the container bridges rewrite with) -/

theorem validateOne_any {x : Addr} {c : Cell ν} {s : VM ν} (hx : s.heap[x]? = some c) :
    validateOne x "any" s = (.ok (), s) := by
  unfold validateOne
  simp only [bind, getCell, hx]
  cases c <;> rfl

theorem validateOne_string {x : Addr} {k : String} {s : VM ν} (hx : s.heap[x]? = some (.str k)) :
    validateOne x "string" s = (.ok (), s) := by
  unfold validateOne
  simp only [bind, getCell, hx]
  rfl

theorem validateOne_number {x : Addr} {y : ν} {s : VM ν} (hx : s.heap[x]? = some (.num y)) :
    validateOne x "number" s = (.ok (), s) := by
  unfold validateOne
  simp only [bind, getCell, hx]
  rfl

theorem validateOne_array {x : Addr} {xs : List Addr} {s : VM ν} (hx : s.heap[x]? = some (.arr xs)) :
    validateOne x "array" s = (.ok (), s) := by
  unfold validateOne
  simp only [bind, getCell, hx]
  rfl

theorem validateExact_same (vals : List Addr) (tys : List String) : Pres Same (validateExact vals tys : M ν Unit) :=
  pres_ite (pres_rtErr _) (pres_closed.forM fun _ _ => validateOne_same _ _)

theorem validateAll_same (vals : List Addr) (ty : String) : Pres Same (validateAll vals ty : M ν Unit) :=
  pres_closed.forM fun _ _ => validateOne_same _ _

section
variable {R : VM ν → VM ν → Prop} [StateRel R]
theorem pres_validateOne (a : Addr) (ty : String) : Pres R (validateOne a ty : M ν Unit) := (validateOne_same a ty).of_same
end

theorem goContains_same (n : Nat) (x : Addr) : ∀ l, Pres Same (builtinMethod.goContains n x l : M ν Bool)
  | [] => pres_pure _
  | i :: rest => by
    unfold builtinMethod.goContains
    exact pres_bind (compareXEQ_same n i x) fun b => pres_ite (pres_pure _) (goContains_same n x rest)

theorem goFind_same (n : Nat) (x : Addr) : ∀ l k, Pres Same (builtinMethod.goFind n x l k : M ν Int)
  | [], _ => pres_pure _
  | i :: rest, k => by
    unfold builtinMethod.goFind
    exact pres_bind (compareXEQ_same n i x) fun b => pres_ite (pres_pure _) (goFind_same n x rest _)

theorem goArith_same (op : ν → ν → ν) (cz : Bool) : ∀ l acc, Pres Same (builtinMethod.goArith op cz acc l : M ν ν)
  | [], _ => pres_pure _
  | v :: rest, acc => by
    unfold builtinMethod.goArith
    refine pres_bind (pres_getCell v) fun c => ?_
    split
    · exact pres_ite (pres_rtErr _) (goArith_same op cz rest _)
    · exact pres_goPanic

/-- nothing but the heap differs, and the heap only grew -/
def Grow (s s' : VM ν) : Prop := SameBut s s' ∧ Ext s.heap s'.heap

instance : StateRel (Grow (ν := ν)) := ⟨fun s => ⟨SameBut.refl s, Ext.refl _⟩, fun h1 h2 => ⟨h1.1.trans h2.1, h1.2.trans h2.2⟩⟩

/-- relations that every allocation-only step satisfies -/
class GrowRel (R : VM ν → VM ν → Prop) : Prop extends StateRel R where
  ofGrow : ∀ {s s'}, Grow s s' → R s s'

instance : GrowRel (Grow (ν := ν)) := ⟨fun h => h⟩

/-- nothing but the heap differs; the heap did not shrink; every old cell other than `a` is unchanged -/
def FrameAt (a : Addr) (s s' : VM ν) : Prop :=
  SameBut s s' ∧ s.heap.size ≤ s'.heap.size ∧ ∀ i, i < s.heap.size → i ≠ a → s'.heap[i]? = s.heap[i]?

instance (a : Addr) : GrowRel (FrameAt (ν := ν) a) where
  refl s := ⟨SameBut.refl s, Nat.le_refl _, fun _ _ _ => rfl⟩
  trans h1 h2 := ⟨h1.1.trans h2.1, Nat.le_trans h1.2.1 h2.2.1, fun i hi hne => by
    rw [h2.2.2 i (Nat.lt_of_lt_of_le hi h1.2.1) hne, h1.2.2 i hi hne]⟩
  ofGrow h := ⟨h.1, h.2.1, fun i hi _ => h.2.2 i hi⟩

section leaf
open Proofs.Leaf

theorem leafStep_old_eq {w : Option Addr} {s s' : VM ν} (h : LeafStep w s s') {i : Addr} (hi : i < s.heap.size)
    (hw : w ≠ some i) : s'.heap[i]? = s.heap[i]? := by
  obtain ⟨c', h1, _, h3⟩ := h.old i _ (Array.getElem?_eq_getElem hi)
  rcases h3 with rfl | ⟨e, _⟩
  · rw [h1, Array.getElem?_eq_getElem hi]
  · exact absurd e hw

theorem Pres.ofRuns {R : VM ν → VM ν → Prop} {w : Option Addr} (hR : ∀ s s', LeafStep w s s' → R s s') {α : Type}
    {m : M ν α} (h : Runs w m) : Pres R m :=
  ⟨fun s r s' e => hR s s' (by have := h.step s; rwa [e] at this)⟩

theorem GrowRel.ofLeafStep {R : VM ν → VM ν → Prop} [GrowRel R] {s s' : VM ν} (st : LeafStep none s s') : R s s' :=
  GrowRel.ofGrow ⟨st.frame, st.size, fun i hi => leafStep_old_eq st hi (by simp)⟩

theorem FrameAt.ofLeafStep {a : Addr} {s s' : VM ν} (st : LeafStep (some a) s s') : FrameAt a s s' :=
  ⟨st.frame, st.size, fun _ hi hne => leafStep_old_eq st hi fun e => hne (Option.some.inj e).symm⟩

theorem Pres.ofLeaf {R : VM ν → VM ν → Prop} [GrowRel R] {α : Type} {m : M ν α} [h : Leaf none m] : Pres R m :=
  Pres.ofRuns (fun _ _ => GrowRel.ofLeafStep) (h.runs none)

theorem alloc_grow (c : Cell ν) : Pres Grow (alloc c) :=
  ⟨fun s r s' h => by
    injection h with _ h2
    subst h2
    exact ⟨SameBut.push s c, Ext.push _ _⟩⟩

theorem dup_grow (n : Nat) (a : Addr) : Pres Grow (dup n a : M ν Addr) := Pres.ofLeaf

theorem setProperty_frame (a : Addr) (name : String) (v : Addr) : Pres (FrameAt a) (setProperty a name v : M ν Unit) :=
  Pres.ofRuns (fun _ _ => FrameAt.ofLeafStep) (runs_setProperty a name v)

theorem builtinMethod_frame (n : Nat) (a : Addr) (name : String) (vals : List Addr) :
    Pres (FrameAt a) (builtinMethod n a name vals : M ν Addr) :=
  Pres.ofRuns (fun _ _ => FrameAt.ofLeafStep) (runs_builtinMethod n a name vals)

theorem reduceLHS_frame (kind : Nat) (root : Addr) (name : String) (idx : Int) (v : Addr) :
    Pres (FrameAt (ν := ν) root) (reduceLHS (ν := ν) (kind, root, name, idx) v) :=
  Pres.ofRuns (fun _ _ => FrameAt.ofLeafStep) (runs_reduceLHS (kind, root, name, idx) v)

end leaf

end ZnVerif.Model
