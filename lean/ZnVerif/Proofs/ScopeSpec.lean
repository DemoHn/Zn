/-
Helper lemmas about the spec of block scoping alone (`Spec/Scopes.lean`): how a block body acts on the
frames below it.  `step_cases` says what one operation can do to the stack, `step_split` what that is on
`pre ++ base` (the frames a body has pushed, above the frames it found), and `run_split` lifts any property
of the two parts that every such action keeps to histories.  Its two uses are the frame rules of a block body:

* `reads_same`        — a body that never declares/assigns `name` leaves the visible binding of `name` alone;
* `shielded_segment`  — while a frame of the block binds `name`, nothing below that frame changes for `name`.

The block facts of C06 (`block_forgets`, `block_shadows`, `block_keeps_binding`, `const_stays`) are each a declaration
followed by one of the two.  Last, the domain of the spec: `run_defined_iff` (a history has a meaning exactly when it never
closes a block that is not open), from `step_length`.
Core Lean only.
-/
import ZnVerif.Spec.Scopes

namespace ZnVerif.Proofs.ScopeSpec
open ZnVerif.Spec.Scopes

variable {α : Type}

/-- the name an operation declares or assigns -/
def writes : Op α → Option String
  | .declare n _ => some n
  | .declareConst n _ => some n
  | .declareExternal n _ _ => some n
  | .assign n _ => some n
  | _ => none

/-- the operation declares or assigns `name` -/
def touches (name : String) (op : Op α) : Prop := writes op = some name

theorem find_none_iff (f : Frame α) (name : String) : f.find name = none ↔ f.binds name = false := by
  simp [Frame.find, Frame.binds]

theorem find_isSome (f : Frame α) (name : String) : (f.find name).isSome = f.binds name := by
  unfold Frame.find Frame.binds
  rw [Bool.eq_iff_iff]; simp

/-- the names each frame binds: what declarations and block structure determine, and assignment leaves alone -/
def names (st : Stack α) : List (List String) := st.map (·.map (·.name))

theorem binds_iff (f : Frame α) (n : String) : f.binds n = true ↔ n ∈ f.map (·.name) := by
  simp [Frame.binds]

theorem names_set (f : Frame α) (y : String) (v : α) : (f.set y v).map (·.name) = f.map (·.name) := by
  induction f with
  | nil => rfl
  | cons b f ih =>
    simp only [Frame.set]
    split
    · rfl
    · simp only [List.map_cons, ih]

theorem names_setB (st : Stack α) (y : String) (v : α) : names (setB st y v) = names st := by
  induction st with
  | nil => rfl
  | cons f st ih =>
    simp only [setB]
    split
    · simp only [names, List.map_cons, names_set]
    · simp only [names, List.map_cons] at ih ⊢; rw [ih]

theorem not_binds_iff (st : Stack α) (n : String) : (∀ f ∈ st, Frame.binds f n = false) ↔ ∀ l ∈ names st, n ∉ l := by
  simp [names, ← binds_iff]

theorem binds_set (f : Frame α) (y : String) (v : α) (n : String) : (f.set y v).binds n = f.binds n := by
  rw [Bool.eq_iff_iff, binds_iff, binds_iff, names_set]

theorem find_set_other (f : Frame α) (y : String) (v : α) (n : String) (h : y ≠ n) :
    (f.set y v).find n = f.find n := by
  induction f with
  | nil => rfl
  | cons b f ih =>
    by_cases hb : b.name = y
    · have : ¬ b.name = n := by rw [hb]; exact h
      simp [Frame.set, hb, Frame.find, List.find?, h]
    · by_cases hn : b.name = n
      · have hb' : ¬ n = y := fun e => h e.symm
        simp [Frame.set, hb', Frame.find, List.find?, hn]
      · simp only [Frame.set, hb, if_false, Frame.find, List.find?, hn, decide_false] at ih ⊢
        exact ih

theorem lookupB_append_of_not_binds (pre base : Stack α) (name : String)
    (h : ∀ f ∈ pre, Frame.binds f name = false) : lookupB (pre ++ base) name = lookupB base name := by
  induction pre with
  | nil => rfl
  | cons f pre ih =>
    have hf := (find_none_iff f name).2 (h f (by simp))
    simp only [List.cons_append, lookupB, hf]
    exact ih (fun g hg => h g (by simp [hg]))

theorem lookupB_cons_binds (f : Frame α) (rest : Stack α) (name : String) (h : f.binds name = true) :
    lookupB (f :: rest) name = f.find name := by
  obtain ⟨b, hb⟩ := Option.isSome_iff_exists.1 ((find_isSome f name).trans h)
  simp [lookupB, hb]

theorem lookupB_top (b : Binding α) (f : Frame α) (rest : Stack α) :
    lookupB ((b :: f) :: rest) b.name = some b := by
  simp [lookupB, Frame.find]

theorem length_setB (st : Stack α) (y : String) (v : α) : (setB st y v).length = st.length := by
  simpa [names] using congrArg List.length (names_setB st y v)

theorem setB_append (a b : Stack α) (y : String) (v : α) :
    setB (a ++ b) y v = if a.any (fun f => f.binds y) then setB a y v ++ b else a ++ setB b y v := by
  induction a with
  | nil => simp
  | cons f a ih =>
    by_cases hb : f.binds y = true
    · simp [setB, hb]
    · simp only [List.cons_append, setB, hb, Bool.false_eq_true, if_false, List.any, Bool.false_or, ih]
      split <;> rfl

theorem setB_binds_frames (st : Stack α) (y : String) (v : α) (n : String)
    (h : ∀ f ∈ st, Frame.binds f n = false) : ∀ f ∈ setB st y v, Frame.binds f n = false := by
  rw [not_binds_iff, names_setB, ← not_binds_iff]; exact h

theorem lookupB_setB_other (st : Stack α) (y : String) (v : α) (n : String) (h : y ≠ n) :
    lookupB (setB st y v) n = lookupB st n := by
  induction st with
  | nil => rfl
  | cons f st ih =>
    by_cases hb : f.binds y = true
    · simp [setB, hb, lookupB, find_set_other f y v n h]
    · simp only [setB, hb, Bool.false_eq_true, if_false, lookupB, ih]

theorem lookupB_declare_other (b : Binding α) (f : Frame α) (rest : Stack α) (n : String) (h : b.name ≠ n) :
    lookupB ((b :: f) :: rest) n = lookupB (f :: rest) n := by
  simp [lookupB, Frame.find, List.find?, h]

/-- a body at relative depth `pre.length` never closes frames of `base`.  (`relOK` / `relNext` are `opOK` without its import
clause / `nextDepth` of Proofs/Scope.lean, said again here because this file is about the spec alone and does not import the
model; the two meet in Proofs/ScopeBridge.lean.) -/
def relOK (k : Nat) : Op α → Prop
  | .endScope => 0 < k
  | _ => True

/-- the relative depth after the operation -/
def relNext (k : Nat) : Op α → Nat
  | .beginScope => k + 1
  | .endScope => k - 1
  | _ => k

theorem rel_cons {k k' : Nat} {op : Op α} {ops : List (Op α)} (h : finalDepth k (op :: ops) = some k') :
    relOK k op ∧ finalDepth (relNext k op) ops = some k' := by
  cases op with
  | endScope =>
    cases k with
    | zero => cases h
    | succ k => exact ⟨Nat.succ_pos k, h⟩
  | _ => exact ⟨trivial, h⟩

/-- what an operation other than `begin` / `end` can do to the stack: nothing, a binding in front of the innermost frame,
or a new value for the visible binding of a name.  (A relation between stacks; `touches name op` above is the syntactic
"`op` declares or assigns `name`", which the cases here carry as `writes op = some _`.) -/
inductive Touch (op : Op α) : Stack α → Stack α → Prop
  | same {st : Stack α} : Touch op st st
  | push {bd : Binding α} {f : Frame α} {rest : Stack α} : writes op = some bd.name →
      Touch op (f :: rest) ((bd :: f) :: rest)
  | set {st : Stack α} {y : String} {v : α} : writes op = some y → Touch op st (setB st y v)

/-- what one operation can do to the stack -/
inductive StepCase : Stack α → Op α → Stack α → Prop
  | opens {st : Stack α} : StepCase st .beginScope ([] :: st)
  | closes {f : Frame α} {st' : Stack α} : StepCase (f :: st') .endScope st'
  | touch {st st' : Stack α} {op : Op α} : op ≠ .beginScope → op ≠ .endScope → Touch op st st' → StepCase st op st'

theorem step_cases {st st' : Stack α} {op : Op α} {r : Res α} (hs : step st op = some (st', r)) : StepCase st op st' := by
  have hdecl : ∀ bd : Binding α, writes op = some bd.name → declareB st bd = some (st', r) → Touch op st st' := by
    intro bd hw hd
    cases st with
    | nil => cases hd
    | cons f rest =>
      simp only [declareB] at hd
      split at hd <;> cases hd
      · exact .same
      · exact .push hw
  cases op with
  | beginScope => cases hs; exact .opens
  | endScope =>
    cases st with
    | nil => cases hs
    | cons f rest =>
      cases rest with
      | nil => cases hs
      | cons g rest' => cases hs; exact .closes
  | declare n v => exact .touch nofun nofun (hdecl _ rfl hs)
  | declareConst n v => exact .touch nofun nofun (hdecl _ rfl hs)
  | declareExternal n v m => exact .touch nofun nofun (hdecl _ rfl hs)
  | assign y v =>
    refine .touch nofun nofun ?_
    simp only [step] at hs
    cases hl : lookupB st y with
    | none => rw [hl] at hs; cases hs; exact .same
    | some b =>
      rw [hl] at hs
      dsimp only at hs
      split at hs <;> cases hs
      · exact .same
      · exact .set rfl
  | lookup n =>
    simp only [step] at hs
    cases hl : lookupB st n <;> rw [hl] at hs <;> cases hs <;> exact .touch nofun nofun .same
  | lookupM n =>
    simp only [step] at hs
    cases hl : lookupB st n <;> rw [hl] at hs <;> cases hs <;> exact .touch nofun nofun .same

/-- the ways one operation can act on `pre ++ base`: on the frames the body pushed, or on the frames it found -/
inductive SplitCase (op : Op α) : Stack α → Stack α → Stack α → Stack α → Prop
  | same {pre base : Stack α} : SplitCase op pre base pre base
  | opens {pre base : Stack α} : SplitCase op pre base ([] :: pre) base
  | closes {f : Frame α} {pre' base : Stack α} : SplitCase op (f :: pre') base pre' base
  | push {bd : Binding α} {f : Frame α} {p base : Stack α} : writes op = some bd.name →
      SplitCase op (f :: p) base ((bd :: f) :: p) base
  | set {pre base : Stack α} {y : String} {v : α} : writes op = some y → SplitCase op pre base (setB pre y v) base
  | pushBase {pre : Stack α} {bd : Binding α} {f : Frame α} {rr : Stack α} : writes op = some bd.name →
      SplitCase op pre (f :: rr) pre ((bd :: f) :: rr)
  | setBase {pre base : Stack α} {y : String} {v : α} : writes op = some y → SplitCase op pre base pre (setB base y v)

theorem step_split (pre base : Stack α) (op : Op α) (hok : relOK pre.length op)
    (st' : Stack α) (r : Res α) (hs : step (pre ++ base) op = some (st', r)) :
    ∃ pre' base', st' = pre' ++ base' ∧ pre'.length = relNext pre.length op ∧ SplitCase op pre base pre' base' := by
  generalize hst : pre ++ base = st at hs
  cases step_cases hs with
  | opens => subst hst; exact ⟨[] :: pre, base, rfl, rfl, .opens⟩
  | closes =>
    cases pre with
    | nil => exact absurd hok (Nat.lt_irrefl 0)
    | cons g p => cases hst; exact ⟨p, base, rfl, rfl, .closes⟩
  | touch h1 h2 ht =>
    have hn : relNext pre.length op = pre.length := by cases op <;> first | rfl | exact absurd rfl h1 | exact absurd rfl h2
    rw [hn]
    cases ht with
    | same => subst hst; exact ⟨pre, base, rfl, rfl, .same⟩
    | @push bd _ _ hw =>
      cases pre with
      | nil => cases hst; exact ⟨[], _, rfl, rfl, .pushBase hw⟩
      | cons g p => cases hst; exact ⟨(bd :: _) :: p, base, rfl, rfl, .push hw⟩
    | @set _ y v hw =>
      subst hst
      rw [setB_append]
      split
      · exact ⟨setB pre y v, base, rfl, length_setB pre y v, .set hw⟩
      · exact ⟨pre, setB base y v, rfl, rfl, .setBase hw⟩

theorem run_cons {st st' : Stack α} {op : Op α} {ops : List (Op α)} {rs : List (Res α)}
    (h : run st (op :: ops) = some (st', rs)) :
    ∃ st₁ r rs', step st op = some (st₁, r) ∧ run st₁ ops = some (st', rs') ∧ rs = r :: rs' := by
  simp only [run] at h
  cases hs : step st op with
  | none => simp [hs] at h
  | some p =>
    obtain ⟨st₁, r⟩ := p
    simp only [hs] at h
    cases hr : run st₁ ops with
    | none => simp [hr] at h
    | some q =>
      obtain ⟨st₂, rs'⟩ := q
      simp only [hr, Option.some.injEq, Prod.mk.injEq] at h
      exact ⟨st₁, r, rs', rfl, by rw [hr, h.1], h.2.symm⟩

theorem run_append {a b : List (Op α)} : ∀ {st st'' : Stack α} {rs : List (Res α)},
    run st (a ++ b) = some (st'', rs) →
    ∃ st' rs₁ rs₂, run st a = some (st', rs₁) ∧ run st' b = some (st'', rs₂) ∧ rs = rs₁ ++ rs₂ := by
  induction a with
  | nil => intro st st'' rs h; exact ⟨st, [], rs, rfl, h, rfl⟩
  | cons op a ih =>
    intro st st'' rs h
    obtain ⟨st₁, r, rs', hs, hr, hrs⟩ := run_cons (by simpa using h)
    obtain ⟨st', rs₁, rs₂, h1, h2, h3⟩ := ih hr
    exact ⟨st', r :: rs₁, rs₂, by simp [run, hs, h1], h2, by simp [hrs, h3]⟩

/-- a history on `pre ++ base`: a property of the two parts that is kept by every way an operation of the history can
act on them (`SplitCase`) holds at the end; the body's frames are then as many as its bracketing says -/
theorem run_split (I : Stack α → Stack α → Prop) (ops : List (Op α)) :
    (∀ op ∈ ops, ∀ pre base pre' base', SplitCase op pre base pre' base' → I pre base → I pre' base') →
    ∀ (pre base : Stack α) (k' : Nat) (st' : Stack α) (rs : List (Res α)), I pre base →
    finalDepth pre.length ops = some k' → run (pre ++ base) ops = some (st', rs) →
    ∃ pre' base', st' = pre' ++ base' ∧ pre'.length = k' ∧ I pre' base' := by
  induction ops with
  | nil =>
    intro _ pre base k' st' rs hI hfd hrun
    simp only [finalDepth, Option.some.injEq] at hfd
    simp only [run, Option.some.injEq, Prod.mk.injEq] at hrun
    exact ⟨pre, base, hrun.1.symm, hfd, hI⟩
  | cons op ops ih =>
    intro hstep pre base k' st' rs hI hfd hrun
    obtain ⟨st₁, r, rs', hs, hr, _⟩ := run_cons hrun
    obtain ⟨hok, hfd'⟩ := rel_cons hfd
    obtain ⟨pre₁, base₁, rfl, hlen, hcase⟩ := step_split pre base op hok st₁ r hs
    rw [← hlen] at hfd'
    exact ih (fun o ho => hstep o (by simp [ho])) pre₁ base₁ k' st' rs'
      (hstep op (by simp) pre base pre₁ base₁ hcase hI) hfd' hr

/-- none of the frames the body has open binds `name`, and `name` reads in `base` as it did in `base₀` -/
def Untouched (name : String) (base₀ pre base : Stack α) : Prop :=
  (∀ f ∈ pre, Frame.binds f name = false) ∧ lookupB base name = lookupB base₀ name

theorem untouched_step (name : String) {base₀ pre base pre' base' : Stack α} {op : Op α}
    (hc : SplitCase op pre base pre' base') (hnt : ¬ touches name op) (h : Untouched name base₀ pre base) :
    Untouched name base₀ pre' base' := by
  obtain ⟨hpre, hl⟩ := h
  have hne : ∀ {y}, writes op = some y → y ≠ name := fun hw e => hnt (by rw [touches, hw, e])
  cases hc with
  | same => exact ⟨hpre, hl⟩
  | opens => exact ⟨List.forall_mem_cons.2 ⟨rfl, hpre⟩, hl⟩
  | closes => exact ⟨fun g hg => hpre g (List.mem_cons_of_mem _ hg), hl⟩
  | @push bd f p _ hw =>
    refine ⟨List.forall_mem_cons.2 ⟨?_, fun g hg => hpre g (List.mem_cons_of_mem _ hg)⟩, hl⟩
    have := hpre f (List.mem_cons_self ..)
    simp only [Frame.binds, List.any, hne hw, decide_false, Bool.false_or] at this ⊢
    exact this
  | set hw => exact ⟨setB_binds_frames _ _ _ name hpre, hl⟩
  | pushBase hw => exact ⟨hpre, (lookupB_declare_other _ _ _ name (hne hw)).trans hl⟩
  | setBase hw => exact ⟨hpre, (lookupB_setB_other _ _ _ name (hne hw)).trans hl⟩

theorem reads_same (name : String) (ops : List (Op α)) (base : Stack α) (k' : Nat) (st' : Stack α)
    (rs : List (Res α)) (hnt : ∀ op ∈ ops, ¬ touches name op)
    (hfd : finalDepth 0 ops = some k') (hrun : run base ops = some (st', rs)) :
    lookupB st' name = lookupB base name := by
  obtain ⟨pre', base', rfl, _, h3, h5⟩ := run_split (Untouched name base) ops
    (fun op hop _ _ _ _ hc => untouched_step name hc (hnt op hop)) [] base k' st' rs ⟨nofun, rfl⟩ hfd hrun
  rw [lookupB_append_of_not_binds pre' base' name h3, h5]

/-- the block's own frame, on top of `B`, binds `name`; below it `name` reads as it did in `base₀` -/
def Shielded (name : String) (base₀ B : Stack α) : Prop :=
  ∃ fx base, B = fx :: base ∧ Frame.binds fx name = true ∧ lookupB base name = lookupB base₀ name

theorem shielded_step (name : String) {base₀ pre B pre' B' : Stack α} {op : Op α}
    (hc : SplitCase op pre B pre' B') (h : Shielded name base₀ B) : Shielded name base₀ B' := by
  cases hc with
  | same | opens | closes | push _ | set _ => exact h
  | pushBase _ =>
    obtain ⟨_, _, heq, hfx, hl⟩ := h
    cases heq
    refine ⟨_, _, rfl, ?_, hl⟩
    simp only [Frame.binds, List.any] at hfx ⊢
    simp [hfx]
  | @setBase _ _ y v _ =>
    obtain ⟨fx, base, rfl, hfx, hl⟩ := h
    by_cases hy : fx.binds y = true
    · exact ⟨fx.set y v, base, by simp [setB, hy], by rw [binds_set]; exact hfx, hl⟩
    · have hne : y ≠ name := by
        intro e; rw [e] at hy; exact hy hfx
      exact ⟨fx, setB base y v, by simp [setB, hy], hfx, (lookupB_setB_other base y v name hne).trans hl⟩

theorem shielded_segment (name : String) (ops : List (Op α)) (fx : Frame α) (base₀ : Stack α)
    (st' : Stack α) (rs : List (Res α)) (hfx : fx.binds name = true)
    (hseg : Segment ops) (hrun : run (fx :: base₀) ops = some (st', rs)) : Shielded name base₀ st' := by
  obtain ⟨pre', B', rfl, h2, h⟩ := run_split (fun _ => Shielded name base₀) ops
    (fun _ _ _ _ _ _ hc => shielded_step name hc) [] (fx :: base₀) 0 st' rs ⟨fx, base₀, rfl, hfx, rfl⟩ hseg hrun
  rw [List.eq_nil_of_length_eq_zero h2]; exact h

/-- the declaring operations of the property -/
def declOf (name : String) (v : α) (c : Bool) : Op α := if c then .declareConst name v else .declare name v

theorem step_declOf_fresh (st : Stack α) (name : String) (v : α) (c : Bool) :
    step ([] :: st) (declOf name v c) = some ([⟨name, v, c, none⟩] :: st, .done) := by
  cases c <;> simp [declOf, step, declareB, Frame.binds]

theorem block_forgets (st₀ : Stack α) (name : String) (v : α) (c : Bool) (body : List (Op α))
    (hseg : Segment body) (st' : Stack α) (rs : List (Res α))
    (hrun : run st₀ (.beginScope :: declOf name v c :: (body ++ [.endScope])) = some (st', rs)) :
    lookupB st' name = lookupB st₀ name := by
  obtain ⟨st₁, _, rs₁, hs₁, hr₁, _⟩ := run_cons hrun
  cases hs₁
  obtain ⟨st₂, _, rs₂, hs₂, hr₂, _⟩ := run_cons hr₁
  rw [step_declOf_fresh] at hs₂
  cases hs₂
  obtain ⟨st₃, rs₃, rs₄, hr₃, hr₄, _⟩ := run_append hr₂
  obtain ⟨fx', base', rfl, _, h5⟩ := shielded_segment name body _ st₀ st₃ rs₃ (by simp [Frame.binds]) hseg hr₃
  cases base' with
  | nil => cases hr₄
  | cons g r => cases hr₄; exact h5

theorem block_shadows (st₀ : Stack α) (name : String) (v : α) (c : Bool) (body : List (Op α)) (k : Nat)
    (hfd : finalDepth 0 body = some k) (hnt : ∀ op ∈ body, ¬ touches name op) (st' : Stack α) (rs : List (Res α))
    (hrun : run st₀ (.beginScope :: declOf name v c :: body) = some (st', rs)) :
    lookupB st' name = some ⟨name, v, c, none⟩ := by
  obtain ⟨st₁, _, rs₁, hs₁, hr₁, _⟩ := run_cons hrun
  cases hs₁
  obtain ⟨st₂, _, rs₂, hs₂, hr₂, _⟩ := run_cons hr₁
  rw [step_declOf_fresh] at hs₂
  cases hs₂
  rw [reads_same name body _ k st' rs₂ hnt hfd hr₂]
  exact lookupB_top ⟨name, v, c, none⟩ [] st₀

theorem step_declOf (st : Stack α) (name : String) (v : α) (c : Bool) :
    step st (declOf name v c) = declareB st ⟨name, v, c, none⟩ := by
  cases c <;> rfl

/-- spec level: once `name` has been declared (or found declared) in the current block, then after any well
bracketed continuation the current block still binds `name` — so declaring it again there is error 43 -/
theorem block_keeps_binding (st₀ : Stack α) (name : String) (v : α) (c : Bool) (body : List (Op α))
    (hseg : Segment body) (st' : Stack α) (rs : List (Res α))
    (hrun : run st₀ (declOf name v c :: body) = some (st', rs)) (v' : α) (c' : Bool) :
    step st' (declOf name v' c') = some (st', .err 43) := by
  obtain ⟨st₁, _, rs₁, hs₁, hr₁, _⟩ := run_cons hrun
  rw [step_declOf] at hs₁
  cases st₀ with
  | nil => cases hs₁
  | cons f rest =>
    have : ∃ fx, st₁ = fx :: rest ∧ Frame.binds fx name = true := by
      simp only [declareB] at hs₁
      split at hs₁ <;> cases hs₁
      · exact ⟨f, rfl, by assumption⟩
      · exact ⟨_, rfl, by simp [Frame.binds]⟩
    obtain ⟨fx, rfl, hfx⟩ := this
    obtain ⟨fx', base', rfl, h3, _⟩ := shielded_segment name body fx rest st' rs₁ hfx hseg hr₁
    rw [step_declOf]
    simp [declareB, h3]

theorem const_stays (st₀ : Stack α) (name : String) (w : α) (body : List (Op α)) (k : Nat)
    (hfd : finalDepth 0 body = some k) (hnt : ∀ op ∈ body, ¬ touches name op) (st' : Stack α) (rs : List (Res α))
    (hrun : run st₀ (.declareConst name w :: body) = some (st', .done :: rs)) :
    lookupB st' name = some ⟨name, w, true, none⟩ := by
  obtain ⟨st₁, r, rs₁, hs₁, hr₁, hrs⟩ := run_cons hrun
  cases hrs
  cases st₀ with
  | nil => cases hs₁
  | cons f rest =>
    simp only [step, declareB] at hs₁
    split at hs₁ <;> cases hs₁
    rw [reads_same name body _ k st' rs hnt hfd hr₁]
    exact lookupB_top ⟨name, w, true, none⟩ f rest

theorem step_length (st : Stack α) (hne : st ≠ []) (op : Op α) (h1 : op ≠ .beginScope) (h2 : op ≠ .endScope) :
    ∃ st' r, step st op = some (st', r) ∧ st'.length = st.length := by
  have hdef : ∃ p, step st op = some p := by
    have hdecl : ∀ bd : Binding α, ∃ p, declareB st bd = some p := fun bd => by
      cases st with
      | nil => exact absurd rfl hne
      | cons f rest => simp only [declareB]; split <;> exact ⟨_, rfl⟩
    cases op with
    | beginScope => exact absurd rfl h1
    | endScope => exact absurd rfl h2
    | declare n v => exact hdecl _
    | declareConst n v => exact hdecl _
    | declareExternal n v m => exact hdecl _
    | assign n v =>
      simp only [step]
      cases lookupB st n with
      | none => exact ⟨_, rfl⟩
      | some b => dsimp only; split <;> exact ⟨_, rfl⟩
    | lookup n => simp only [step]; cases lookupB st n <;> exact ⟨_, rfl⟩
    | lookupM n => simp only [step]; cases lookupB st n <;> exact ⟨_, rfl⟩
  obtain ⟨⟨st', r⟩, hs⟩ := hdef
  refine ⟨st', r, hs, ?_⟩
  cases step_cases hs with
  | opens => exact absurd rfl h1
  | closes => exact absurd rfl h2
  | touch _ _ ht =>
    cases ht with
    | same => rfl
    | push _ => rfl
    | set _ => exact length_setB ..

theorem run_defined_iff (ops : List (Op α)) : ∀ (st : Stack α), st ≠ [] →
    ((run st ops).isSome ↔ (finalDepth (st.length - 1) ops).isSome) := by
  induction ops with
  | nil => intro st _; simp [run, finalDepth]
  | cons op ops ih =>
    -- the depth is the stack's length − 1: `begin` / `end` move both together, any other operation is defined and keeps
    -- the length (`step_length`)
    intro st hne
    by_cases h1 : op = .beginScope
    · subst h1
      have := ih ([] :: st) (by simp)
      have hl : ([] :: st).length - 1 = st.length - 1 + 1 := by
        cases st with
        | nil => exact absurd rfl hne
        | cons _ _ => simp
      rw [hl] at this
      simp only [run, step, finalDepth]
      rw [← this]
      cases run ([] :: st) ops with
      | none => simp
      | some p => simp
    · by_cases h2 : op = .endScope
      · subst h2
        cases st with
        | nil => exact absurd rfl hne
        | cons f rest =>
          cases rest with
          | nil => simp [run, step, finalDepth]
          | cons g r =>
            have := ih (g :: r) (by simp)
            simp only [List.length_cons, Nat.add_sub_cancel] at this ⊢
            simp only [run, step, finalDepth]
            rw [← this]
            cases run (g :: r) ops with
            | none => simp
            | some p => simp
      · obtain ⟨st', r, hs, hlen⟩ := step_length st hne op h1 h2
        have hne' : st' ≠ [] := by
          intro e; rw [e] at hlen
          cases st with
          | nil => exact hne rfl
          | cons _ _ => simp at hlen
        have := ih st' hne'
        rw [hlen] at this
        have hfd : finalDepth (st.length - 1) (op :: ops) = finalDepth (st.length - 1) ops := by
          cases op <;> first | rfl | exact absurd rfl h1 | exact absurd rfl h2
        rw [hfd, ← this]
        simp only [run, hs]
        cases run st' ops with
        | none => simp
        | some p => simp

end ZnVerif.Proofs.ScopeSpec
