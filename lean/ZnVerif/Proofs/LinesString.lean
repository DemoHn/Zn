/-
C18, line table — the string scanner `parseString` with the back-tick machine `unescapeBackTickSpecialStr`:
every line break inside a text literal is recorded (also right after a back-tick group: the back-tick machine stops
before a line break), for arbitrary contents — nested quotes, back-tick escapes, undocumented back-tick groups.
Invariant: `LinesInv.Good` (Proofs/LinesInv.lean).  Core Lean only.
-/
import ZnVerif.Proofs.LinesInv

namespace ZnVerif.Model
open ZnVerif.Generated.Tokens
open Spec.Lines

namespace LinesInv
variable {S : Array Nat}

theorem parseStringStep_cont (sch s ty : Nat) (l : Lexer) (st st' : List Nat × Nat) (l' : Lexer) (g : Good S 1 l)
    (hs : parseStringStep sch s ty l st = (.cont st', l')) : Good S 1 l' := by
  cases parseStringStep_cases hs with
  | line hbr => exact g.break1 hbr
  | char _ hnb => exact g.adv1 hnb
  | tick _ hnb => exact (unescapeBackTick_frame1 l.adv st.1).good (g.adv1 hnb)

theorem parseStringStep_done (sch s ty : Nat) (l : Lexer) (st : List Nat × Nat) (tk : Token) (l' : Lexer)
    (g : Good S 1 l) (hs : parseStringStep sch s ty l st = (.done (.ok tk), l')) :
    Good S 0 l' ∧ tk.type = ty := by
  cases parseStringStep_cases hs with
  | close _ hnb => exact ⟨(g.adv1 hnb).adv, rfl⟩

theorem parseStringLoop_good (sch s ty : Nat) (l : Lexer) (st : List Nat × Nat) (g : Good S 1 l)
    (tk : Token) (h : (parseStringLoop sch s ty l st).1 = .ok tk) :
    Good S 0 (parseStringLoop sch s ty l st).2 ∧ tk.type = ty := by
  unfold parseStringLoop at h ⊢
  exact iterate_inv (step := parseStringStep sch s ty) (hc := parseStringStep_consumes sch s ty)
    (I := fun l _ => Good S 1 l) (Q := fun r l' => ∀ tk, r = .ok tk → Good S 0 l' ∧ tk.type = ty)
    (fun l st st' l' g hs => parseStringStep_cont sch s ty l st st' l' g hs)
    (fun l st r l' g hs tk hr => by subst hr; exact parseStringStep_done sch s ty l st tk l' g hs) l st g tk h

theorem stringTokenType_ne_eof (c : Nat) : stringTokenType c ≠ cTypeEOF := by
  unfold stringTokenType
  split
  · decide
  · split <;> decide

theorem parseString_good (l : Lexer) (g : Good S 0 l) (h0 : isBreak l.cur = false) (tk : Token) (l' : Lexer)
    (h : parseString l = (.ok tk, l')) : Good S 0 l' ∧ tk.type ≠ cTypeEOF := by
  unfold parseString at h
  have := parseStringLoop_good l.cur l.cursor (stringTokenType l.cur) l ([], 1) (g.to1 h0) tk (by rw [h])
  rw [h] at this
  exact ⟨this.1, by rw [this.2]; exact stringTokenType_ne_eof _⟩

end LinesInv
end ZnVerif.Model
