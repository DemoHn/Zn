/-
The initial machine (`initVM`: the predefined names of exec/globals.go) and the initial spec state are
related by `EnvRel`, so the refinement theorem applies to real states (non-vacuity of its hypothesis).
-/
import ZnVerif.Proofs.ExprBase

namespace ZnVerif.Proofs
open ZnVerif.Model ZnVerif.Spec

variable {ν : Type} [NumOps ν]

/-- how the non-plain predefined cells read: the type 异常 and the two built-in methods -/
def initω : Addr → Option (SVal ν)
  | 3 => some (.cls "异常")
  | 4 => some (.builtinFn "显示")
  | 5 => some (.builtinFn "取随机数")
  | _ => none

theorem envRel_init : EnvRel (ν := ν) initω 0 (initVM ()) ({} : SState ν) := by
  intro name
  have hscope : getScope (initVM (ν := ν) ()).csModuleID (initVM (ν := ν) ()) = none := rfl
  by_cases h1 : name = "真"
  · subst h1; exact (rfl : contentW initω 1 (initVM (ν := ν) ()).heap 0 = some _)
  by_cases h2 : name = "假"
  · subst h2; exact (rfl : contentW initω 1 (initVM (ν := ν) ()).heap 1 = some _)
  by_cases h3 : name = "空"
  · subst h3; exact (rfl : contentW initω 1 (initVM (ν := ν) ()).heap 2 = some _)
  by_cases h4 : name = "异常"
  · subst h4; exact (rfl : contentW initω 1 (initVM (ν := ν) ()).heap 3 = some _)
  by_cases h5 : name = "显示"
  · subst h5; exact (rfl : contentW initω 1 (initVM (ν := ν) ()).heap 4 = some _)
  by_cases h6 : name = "取随机数"
  · subst h6; exact (rfl : contentW initω 1 (initVM (ν := ν) ()).heap 5 = some _)
  by_cases h7 : name = "数值"
  · subst h7; exact (rfl : contentW initω 1 (initVM (ν := ν) ()).heap 6 = some _)
  · have hv : visible (initVM (ν := ν) ()) name = none := by
      simp only [visible, hscope]
      simp [initVM, lookup, h1, h2, h3, h4, h5, h6, h7]
    have hp : predefVal (ν := ν) name = none := by
      unfold predefVal
      split <;> simp_all
    simp [hv, specVisible, hp, findB]

end ZnVerif.Proofs
