/-
Call-stack discipline: `handleException` (relative to the protected body's entry stack) and `evalExecBlock`; a few
facts about bodies and handlers that Properties/C08.lean and C09.lean use (`execBlockBody_run`, `getThis_of_norm`); then
the induction `allFr` and what `SameStack` / `Ext` see of it, `allBal`.
-/
import ZnVerif.Proofs.StackBalExpr
import ZnVerif.Proofs.StackBalStmt
set_option linter.unusedSectionVars false

namespace ZnVerif.Proofs.StackBal
open ZnVerif.Model ZnVerif.Proofs.Calls

variable {ν : Type} [NumOps ν]

theorem unwindTo_inv (d : Nat) (s : VM ν) (hi : CsInv s) : CsInv (unwindTo d s).2 := by
  rw [unwindTo_run]
  simp only
  split
  · exact hi
  · rfl

theorem Quiet.excOf (e : Err) : Quiet (excOf (ν := ν) e) := by unfold Calls.excOf; quiet_tac

theorem Quiet.classNameOf (ex : Addr) : Quiet (classNameOf (ν := ν) ex) := by unfold Calls.classNameOf; quiet_tac

theorem handler_entry_stack (bm : Int) (bd : Nat) (ex : Addr) (s : VM ν) :
    (handlerEntry bm bd ex s).stack = { moduleId := bm, callType := 3, this := some ex } :: (unwindTo bd s).2.stack ∧
    (handlerEntry bm bd ex s).csModuleID = bm := by
  have h := pushFrame_state (ν := ν) { moduleId := bm, callType := 3, this := some ex } (unwindTo bd s).2
  exact ⟨congrArg VM.stack h, congrArg VM.csModuleID h⟩

theorem Quiet.bindThis (vm : VM ν) : Quiet (bindThis vm) := by
  unfold Calls.bindThis
  split
  · refine .ite ?_ (.pure _)
    split
    · exact .tryCatch (.declareElement ..) fun _ => .pure _
    · exact .pure _
  · exact .pure _

theorem Quiet.bindInputs (inputs : List Ident) (params : List Addr) : Quiet (bindInputs (ν := ν) inputs params) :=
  .forM (fun _ => .bind (.ofLeaf (.matchIDName _)) fun _ => .declareElement ..) _

/-- an outcome that is not a value, with the frames of failed calls still above `st0` -/
theorem RelTo.fail {β} {st0 : List Frame} {s t : VM ν} (r : Res β) (hr : resIsOk r = false)
    (ht : Ends .stmt st0 t.stack false) (hi : CsInv s → CsInv t) :
    Ends .stmt st0 (r, t).2.stack (resIsOk (r, t).1) ∧ (CsInv s → CsInv (r, t).2) :=
  ⟨hr ▸ ht, hi⟩

theorem quiet_prefix {α β} {P : M ν α} {m : α → M ν β} (hP : Quiet P) (s : VM ν)
    (Q : Res β × VM ν → Prop)
    (hfail : ∀ (r : Res β) t, t.stack = s.stack → t.csModuleID = s.csModuleID → resIsOk r = false →
      resIsSig r = false → Q (r, t))
    (hm : ∀ a t, t.stack = s.stack → t.csModuleID = s.csModuleID → Q (m a t)) : Q ((P >>= m) s) := by
  rw [M_bind_def]
  have h1 := hP.stack s; have h2 := hP.cs s; have h3 := hP.nosig s
  rcases h : P s with ⟨r, s'⟩
  rw [h] at h1 h2 h3
  cases r with
  | ok a => exact hm a s' h1 h2
  | err e => exact hfail _ s' h1 h2 rfl h3
  | _ => exact hfail _ s' h1 h2 rfl rfl

theorem RelTo.quiet_bind {α β} {m : M ν α} {f : α → M ν β} {st0 : List Frame} (hm : Quiet m)
    (hf : ∀ a, RelTo st0 (f a)) : RelTo st0 (m >>= f) := fun s hab =>
  quiet_prefix hm s (fun o => Ends .stmt st0 o.2.stack (resIsOk o.1) ∧ (CsInv s → CsInv o.2))
    (fun r _ h1 h2 hr _ => RelTo.fail r hr (h1 ▸ hab) (CsInv.of_same h1 h2))
    fun a t h1 h2 => ((hf a t (h1 ▸ hab)).imp_right fun q hi => q (CsInv.of_same h1 h2 hi))

/-- one handler block, started above `st0`: the frames of the failed calls are dropped, the block runs in a frame of
its own, which is popped when it ends normally -/
theorem runHandler_rel (n : Nat) (hb : ∀ blk, Fr .stmt false (evalPureStmtBlock (ν := ν) n blk)) (bm : Int)
    (ex : Addr) (blk : Option (List Stmt)) (st0 : List Frame) : RelTo st0 (runHandlerA (ν := ν) n bm st0.length ex blk) := by
  intro s hab
  obtain ⟨extra, base, hs, hbase, _⟩ := hab
  have hun := unwindTo_stack st0.length s extra base hs hbase.length_eq
  by_cases hbm : bm < 0
  · -- `blockModule == nil` would be a Go nil dereference
    have : runHandlerA n bm st0.length ex blk s = (.panic, (unwindTo st0.length s).2) := by
      unfold runHandlerA
      rw [bind_ok (by rw [unwindTo_run] : unwindTo st0.length s = (.ok (), (unwindTo st0.length s).2))]
      simp only [hbm, if_true]; rfl
    rw [this]
    exact RelTo.fail _ rfl (hun ▸ hbase.ends _) (unwindTo_inv _ s)
  · rw [runHandlerA_run n bm st0.length ex blk s (by omega), M_bind_def]
    have hent := handler_entry_stack bm st0.length ex s
    rw [hun] at hent
    have h3 := (hb blk).run (handlerEntry bm st0.length ex s)
    have hinv3 := (hb blk).inv (handlerEntry bm st0.length ex s) (by unfold CsInv; rw [hent.1, hent.2]; rfl)
    rcases hrun : evalPureStmtBlock n blk (handlerEntry bm st0.length ex s) with ⟨r, s3⟩
    rw [hrun, hent.1] at h3
    rw [hrun] at hinv3
    obtain ⟨e, _, he, hb, _⟩ := h3.below
    have hfail : Ends .stmt st0 s3.stack false := ⟨e, base, top_lit.1 hb ▸ he, hbase, fun h => nomatch h⟩
    cases r with
    | ok x =>
      obtain ⟨fr', hs3, _⟩ := h3.top rfl
      simp only
      rw [bind_ok (getReturnValue_cons s3 fr' base hs3), bind_ok (popFrame_cons s3 fr' base hs3)]
      cases fr'.ret <;> exact ⟨hbase.ends _, fun _ => rfl⟩
    | _ => exact RelTo.fail _ rfl hfail fun _ => hinv3

/-- the handlers are tried in order; one that does not match leaves the state alone -/
theorem tryHandlers_rel (n : Nat) (hb : ∀ blk, Fr .stmt false (evalPureStmtBlock (ν := ν) n blk)) (bm : Int)
    (ex : Addr) (clsName : String) (e : Err) (st0 : List Frame) :
    ∀ catches : List (Option Ident × Option (List Stmt)),
      RelTo st0 (firstM (tryHandler (ν := ν) n bm st0.length ex clsName) (throwE e) catches)
  | [] => fun s hab => RelTo.fail _ rfl hab id
  | c :: cs => by
    unfold firstM tryHandler
    rw [bind_assoc]
    refine .quiet_bind (.ofLeaf (.matchIDNameOpt c.1)) fun cname => ?_
    split
    · -- a handler that matched always answers: the handlers after it play no role
      rw [runHandler_eq, bind_assoc]
      simp only [pure_bind, bind_pure]
      exact runHandler_rel n hb bm ex c.2 st0
    · exact tryHandlers_rel n hb bm ex clsName e st0 cs

theorem fr_handleException_succ (n : Nat) (ih : AllFr (ν := ν) n) : HFr (ν := ν) (n+1) := by
  intro bm catches e st0
  rw [handleException_eq]
  refine .quiet_bind (Quiet.excOf e) fun exc? => ?_
  cases exc? with
  | none => exact fun s hab => RelTo.fail _ rfl hab id
  | some ex => exact .quiet_bind (Quiet.classNameOf ex) fun clsName =>
      tryHandlers_rel n ih.evalPureStmtBlock bm ex clsName e st0 catches

theorem loopSignalToException_run (e : Err) (t : VM ν) :
    ∃ e' t', loopSignalToException e t = (.ok e', t') ∧ t'.stack = t.stack ∧ t'.csModuleID = t.csModuleID ∧
      isSig e' = false := by
  unfold loopSignalToException
  cases e <;> exact ⟨_, _, rfl, rfl, rfl, rfl⟩

/-- what `finishBlock` makes of the outcome `r` of the body's statements, which ran above `st0` -/
theorem finishBlock_rel (n : Nat) (hH : HFr (ν := ν) n) (bm : Int) (st0 : List Frame)
    (catches : List (Option Ident × Option (List Stmt))) (r : Res (Option Addr)) (t : VM ν)
    (hends : Ends .stmt st0 t.stack (okOrSig r)) :
    Ends .stmt st0 (finishBlock n bm st0.length catches r t).2.stack
      (okOrSig (finishBlock n bm st0.length catches r t).1) ∧
    (CsInv t → CsInv (finishBlock n bm st0.length catches r t).2) ∧
    resIsSig (finishBlock n bm st0.length catches r t).1 = false := by
  unfold finishBlock
  cases r with
  | ok o => cases o <;> exact ⟨hends, id, rfl⟩
  | err e =>
    simp only
    obtain ⟨e', t', hc, hs, hcs, hsig⟩ := loopSignalToException_run e t
    rw [bind_ok hc]
    unfold Model.tryCatch
    obtain ⟨p, q⟩ := hH bm catches e' st0 t' (hs ▸ hends.any)
    have hI : CsInv t → CsInv t' := CsInv.of_same hs hcs
    rcases hh : handleException n bm st0.length catches e' t' with ⟨r3, t3⟩
    rw [hh] at p q
    cases r3 with
    | err e2 =>
      simp only
      obtain ⟨e2', t3', hc2, hs2, hcs2, hsig2⟩ := loopSignalToException_run e2 t3
      rw [bind_ok hc2]
      refine ⟨?_, fun hi => CsInv.of_same hs2 hcs2 (q (hI hi)), hsig2⟩
      show Ends .stmt st0 t3'.stack (okOrSig (Res.err e2' : Res Addr))
      rw [hs2, show okOrSig (Res.err e2' : Res Addr) = false by simp [okOrSig, resIsOk, resIsSig, hsig2]]
      exact p
    | _ => exact ⟨p, fun hi => q (hI hi), rfl⟩
  | _ => exact ⟨hends, id, rfl⟩

theorem fr_execBlockBody (n : Nat) (ih : AllFr (ν := ν) n) (inputs : List Ident) (body : Option (List Stmt))
    (catches : List (Option Ident × Option (List Stmt))) (params : List Addr) :
    Fr .stmt true (execBlockBody (ν := ν) n inputs body catches params) := by
  -- the outcome property, relative to the entry state `s`
  let Q : VM ν → Res Addr × VM ν → Prop := fun s o =>
    Ends .stmt s.stack o.2.stack (okOrSig o.1) ∧ (CsInv s → CsInv o.2) ∧ resIsSig o.1 = false
  have hQ : ∀ s, Q s (execBlockBody n inputs body catches params s) := by
    intro s
    unfold execBlockBody
    have hfail : ∀ (r : Res Addr) t, t.stack = s.stack → t.csModuleID = s.csModuleID → resIsOk r = false →
        resIsSig r = false → Q s (r, t) := fun r t h1 h2 h3 h4 =>
      ⟨by show Ends .stmt s.stack t.stack _; rw [h1]; exact (Top.refl _ _).ends _, CsInv.of_same h1 h2, h4⟩
    refine quiet_prefix (Quiet.bindThis s) s (Q s) hfail fun _ t1 ht1 hc1 => ?_
    by_cases hlen : params.length ≠ inputs.length
    · simp only [hlen, ne_eq, not_false_eq_true, if_true]
      exact hfail _ t1 ht1 hc1 rfl rfl
    · simp only [hlen, if_false]
      refine quiet_prefix (Quiet.bindInputs inputs params) t1 (Q s)
        (fun r t h1 h2 => hfail r t (h1.trans ht1) (h2.trans hc1)) fun _ t2 ht2 hc2 => ?_
      have hst : t2.stack = s.stack := ht2.trans ht1
      unfold Model.tryCatch
      have hB := ih.evalStmtBlock body
      have hE := hB.run t2
      rw [hst] at hE
      obtain ⟨p, q, ns⟩ := finishBlock_rel n ih.handleException s.csModuleID s.stack catches
        (evalStmtBlock n body t2).1 (evalStmtBlock n body t2).2 hE
      exact ⟨p, fun hi => q (hB.inv t2 (CsInv.of_same hst (hc2.trans hc1) hi)), ns⟩
  exact ⟨fun s => (hQ s).1, fun s => (hQ s).2.1, fun _ s => (hQ s).2.2⟩

theorem fr_evalExecBlock_succ (n : Nat) (ih : AllFr (ν := ν) n) (b : Option ExecBlock) (ps : List Addr) :
    Fr .stmt true (evalExecBlock (ν := ν) (n+1) b ps) := by
  cases b with
  | none => rw [Model.evalExecBlock]; exact .quiet
  | some b =>
    cases b
    rw [evalExecBlock_eq]
    exact .withScope (fr_execBlockBody n ih _ _ _ _)

theorem execBlockBody_run {n : Nat} {inputs : List Ident} {body : Option (List Stmt)}
    {catches : List (Option Ident × Option (List Stmt))} {params : List Addr} {s s1 : VM ν}
    (hlen : params.length = inputs.length)
    (hpro : (do bindThis s; bindInputs inputs params : M ν Unit) s = (.ok (), s1)) :
    execBlockBody n inputs body catches params s =
      finishBlock n s.csModuleID s.stack.length catches (evalStmtBlock n body s1).1 (evalStmtBlock n body s1).2 := by
  unfold execBlockBody
  have hne : ¬ params.length ≠ inputs.length := by simp [hlen]
  rw [M_bind_def] at hpro ⊢
  rcases hb : bindThis s s with ⟨r, s'⟩
  rw [hb] at hpro
  cases r <;> simp only at hpro ⊢ <;> try (cases hpro)
  simp only [hne, if_false]
  rw [bind_ok hpro]
  rfl

theorem getThis_of_norm {t : VM ν} {st0 : List Frame} (h : norm t.stack = norm st0) :
    getThis t = (.ok (st0.head?.bind (·.this)), t) := by
  cases st0 with
  | nil =>
    cases hst : t.stack with
    | nil => simp [getThis, topFrame, bind, hst, pure]
    | cons _ _ => rw [hst] at h; cases h
  | cons f r =>
    obtain ⟨f', hs, hc⟩ := norm_cons_eq h
    rw [getThis_cons t f' r hs]
    have : (core f').this = (core f).this := by rw [hc]
    exact congrArg (fun x => (Res.ok x, t)) this

theorem Bal.restores_caller {α} {m : M ν α} (hb : Bal m) {s s' : VM ν} {v : α} (hi : CsInv s) (h : m s = (.ok v, s')) :
    SameStack s.stack s'.stack ∧ s'.csModuleID = s.csModuleID ∧
    getThis s' = (.ok (s.stack.head?.bind (·.this)), s') := by
  have h1 := hb.ok_same h
  have h2 := hb.inv s hi
  rw [h] at h2
  exact ⟨h1, by rw [hi, ← topModule_norm h1]; exact h2, getThis_of_norm h1⟩

theorem SameStack.length_eq {st st' : List Frame} (h : SameStack st st') : st'.length = st.length :=
  (top_marks.2 h).length_eq

theorem allFr : ∀ n : Nat, AllFr (ν := ν) n
  | 0 =>
    { evalExpr := fun _ => .ofQuiet .outOfFuel
      memberIV := fun _ => .ofQuiet .outOfFuel
      execFunction := fun _ _ _ => .ofQuiet .outOfFuel
      execDirectFunction := fun _ _ => .ofQuiet .outOfFuel
      execMethodFunction := fun _ _ _ => .ofQuiet .outOfFuel
      construct := fun _ _ => .ofQuiet .outOfFuel
      evalExecBlock := fun _ _ => .ofQuiet .outOfFuel
      handleException := fun _ _ _ _ _ hab => RelTo.fail _ rfl hab id
      evalStmtBlock := fun _ => .ofQuiet .outOfFuel
      evalPureStmtBlock := fun _ => .ofQuiet .outOfFuel
      evalStmt := fun _ => .ofQuiet .outOfFuel
      evalClassDecl := fun _ => .ofQuiet .outOfFuel }
  | n+1 =>
    have ih := allFr n
    { evalExpr := fr_evalExpr_succ n ih
      memberIV := fr_memberIV_succ n ih
      execFunction := fr_execFunction_succ n ih
      execDirectFunction := fr_execDirectFunction_succ n ih
      execMethodFunction := fr_execMethodFunction_succ n ih
      construct := fr_construct_succ n ih
      evalExecBlock := fr_evalExecBlock_succ n ih
      handleException := fr_handleException_succ n ih
      evalStmtBlock := fr_evalStmtBlock_succ n ih
      evalPureStmtBlock := fr_evalPureStmtBlock_succ n ih
      evalStmt := fr_evalStmt_succ n ih
      evalClassDecl := fr_evalClassDecl_succ n ih }

/-- something balanced relative to whatever stack has the depth it is given, as `Ext` / `SameStack` see it -/
theorem RelTo.postRel {β} {m : Nat → M ν β} (h : ∀ st0, RelTo st0 (m st0.length)) {st0 : List Frame} {s : VM ν}
    {bd : Nat} (hext : Ext st0 s.stack) (hl : st0.length = bd) :
    PostRel st0 (m bd s) ∧ (CsInv s → CsInv (m bd s).2) := by
  obtain ⟨extra, base, hs, hbase⟩ := hext
  have hlen : base.length = bd := hl ▸ SameStack.length_eq hbase
  obtain ⟨p, q⟩ := hlen ▸ h base s ⟨extra, base, hs, Top.refl _ _, fun h => nomatch h⟩
  have hm : Top .marks st0 base := top_marks.2 hbase
  refine ⟨⟨ends_marks.1 ?_, fun hok => top_marks.1 (hm.trans ((p.top hok).mono FrameRel.stmt_le_marks))⟩, q⟩
  obtain ⟨e', b', h1, h2, _⟩ := p
  exact ⟨e', b', h1, hm.trans (h2.mono FrameRel.stmt_le_marks), fun h => nomatch h⟩

theorem HFr.hSpec {n : Nat} (h : HFr (ν := ν) n) : HSpec (ν := ν) n :=
  fun bm _ catches e _ _ hext hl =>
    RelTo.postRel (m := fun bd => handleException n bm bd catches e) (h bm catches e) hext hl

theorem allBal (n : Nat) : AllBal (ν := ν) n :=
  have h := allFr (ν := ν) n
  have lit := FrameRel.lit_le .marks
  { evalExpr := fun e => (h.evalExpr e).balNS lit
    memberIV := fun e => (h.memberIV e).balNS lit
    execFunction := fun f t ps => (h.execFunction f t ps).balNS FrameRel.stmt_le_marks
    execDirectFunction := fun f ps => (h.execDirectFunction f ps).balNS lit
    execMethodFunction := fun r f ps => (h.execMethodFunction r f ps).balNS lit
    construct := fun c ps => (h.construct c ps).balNS lit
    evalExecBlock := fun b ps => (h.evalExecBlock b ps).balNS FrameRel.stmt_le_marks
    handleException := h.handleException.hSpec
    evalStmtBlock := fun b => (h.evalStmtBlock b).bal FrameRel.stmt_le_marks
    evalPureStmtBlock := fun b => (h.evalPureStmtBlock b).bal FrameRel.stmt_le_marks
    evalStmt := fun st => (h.evalStmt st).bal FrameRel.stmt_le_marks
    evalClassDecl := fun st => (h.evalClassDecl st).balNS lit
    evalFuncDecl := fun _ => Fr.quiet.balNS lit
    evalCtorDecl := fun _ => Fr.quiet.balNS lit }

end ZnVerif.Proofs.StackBal
