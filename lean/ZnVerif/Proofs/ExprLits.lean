/-
C01 refinement: list and dictionary literals.
-/
import ZnVerif.Proofs.ExprBase
import ZnVerif.Proofs.HashMapCell

namespace ZnVerif.Proofs
open ZnVerif.Model ZnVerif.Spec

variable {ν : Type} [NumOps ν] {ω : Addr → Option (SVal ν)}

theorem sim_arr' {d n k : Nat} (ln : Nat) (items : List Expr) (s : VM ν) (σ : SState ν)
    (hitem : ∀ e ∈ items, ∀ s1, Frame s s1 → Sim d (Reads ω k) s1 σ (evalExpr n e) (evalE n e)) :
    Sim d (Reads ω (k + 1)) s σ (evalExpr (n+1) (.arr ln items)) (evalE (n+1) (.arr ln items)) := by
  rw [evalExpr_arr, evalE_arr]
  refine sim_bind (sim_mapM (Q := Reads ω k) (fun _ _ _ _ hF h => h.frame hF) items s hitem) fun s1 as vs hF hall => ?_
  refine sim_alloc (k := k) _ _ ?_
  exact .arr (hall.imp fun a v h => contentW_heap (HeapLe.push _ _) h)

theorem sim_hmEntry {d k : Nat} {s : VM ν} {σ : SState ν} (key : Expr)
    {ev : M ν Addr} {ev' : SM ν (SVal ν)} (h : ∀ s1, Frame s s1 → Sim d (Reads ω k) s1 σ ev ev') :
    Sim d (fun s => PairRel (contentW ω k s.heap)) s σ (hmEntry key ev) (hmEntryS key ev') := by
  have hv : ∀ (key : String) s1, Frame s s1 →
      Sim d (fun s => PairRel (contentW ω k s.heap)) s1 σ (do let v ← ev; pure (key, v)) (do let v ← ev'; pure (key, v)) := fun key s1 hF1 =>
    sim_bind (h s1 hF1) fun s2 a v _ hq => sim_pure ⟨rfl, hq⟩
  cases key
  case str ln t =>
    exact sim_bind (sim_pure (Q := fun _ (x y : String) => x = y) rfl) fun s1 k k' hF1 hk => by
      subst hk; exact hv _ s1 hF1
  case id i =>
    refine sim_bind (sim_matchID i.lit) fun s1 _ _ hF1 _ => ?_
    exact sim_bind (sim_pure (Q := fun _ (x y : String) => x = y) rfl) fun s2 k k' hF2 hk => by
      subst hk; exact hv _ s2 (hF1.trans hF2)
  all_goals
    exact sim_bind (Q := fun _ (_ _ : String) => False) (sim_rt' 80 80 rfl) fun _ _ _ _ h => h.elim

theorem sim_hm' {d n k : Nat} (ln : Nat) (kvs : List (Expr × Expr)) (s : VM ν) (σ : SState ν)
    (hitem : ∀ kv ∈ kvs, ∀ s1, Frame s s1 → Sim d (Reads ω k) s1 σ (evalExpr n kv.2) (evalE n kv.2)) :
    Sim d (Reads ω (k + 1)) s σ (evalExpr (n+1) (.hm ln kvs)) (evalE (n+1) (.hm ln kvs)) := by
  rw [evalExpr_hm, evalE_hm]
  refine sim_bind (sim_mapM (Q := fun s => PairRel (contentW ω k s.heap)) (fun _ _ _ _ hF h => ⟨h.1, Reads.frame h.2 hF⟩) kvs s fun kv hkv s1 hF1 =>
    sim_hmEntry kv.1 fun s2 hF2 => hitem kv hkv s2 (hF1.trans hF2)) fun s1 ps ps' hF hall => ?_
  refine sim_alloc (k := k) _ _ ?_
  exact newHashMapCell_layer ω _ _ ps ps' (hall.imp fun p p' h => ⟨h.1, contentW_heap (HeapLe.push _ _) h.2⟩)

end ZnVerif.Proofs
