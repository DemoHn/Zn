/-
Helper lemmas for C19 (JSON), reference codec: strings in every spelling, the number automaton, the mutual induction
`rt_value / rt_tail / rt_mtail` (the parser reads back a printed value and stops right after it), the fuel bound
`size_le_length`, `refParse_refPrint`; the repository's encoder writes what the reference printer writes in Go's style
when every number is finite, and the error otherwise (`write_eq`).  Core Lean only.
-/
import ZnVerif.Model.Json
namespace ZnVerif.Proofs.Json
open ZnVerif.Model.Json

theorem succ_of_pos {n : Nat} (h : 1 ≤ n) : ∃ m, n = m + 1 := ⟨n - 1, by omega⟩

theorem skipWs_ws_append (w s : Text) (h : w.all isWs = true) : skipWs (w ++ s) = skipWs s := by
  induction w with
  | nil => rfl
  | cons c w ih =>
    simp only [List.all_cons, Bool.and_eq_true] at h
    simp [skipWs, h.1, ih h.2]

theorem skipWs_cons (c : Nat) (r : Text) (h : isWs c = false) : skipWs (c :: r) = c :: r := by
  simp [skipWs, h]

theorem hexVal_hexChar (up : Bool) (d : Nat) (h : d < 16) : hexVal (hexChar up d) = some d := by
  unfold hexChar hexVal
  by_cases h10 : d < 10
  · rw [if_pos h10, if_pos (by omega), Nat.add_sub_cancel_left]
  · rw [if_neg h10]
    cases up
    · rw [if_neg Bool.false_ne_true, if_neg (by omega), if_pos (by omega)]; congr 1; omega
    · rw [if_pos rfl, if_neg (by omega), if_neg (by omega), if_pos (by omega)]; congr 1; omega

theorem hex4?_hex4 (up : Bool) (n : Nat) (r : Text) (h : n < 65536) : hex4? (hex4 up n ++ r) = some (n, r) := by
  simp only [hex4, List.cons_append, List.nil_append, hex4?]
  rw [hexVal_hexChar up _ (Nat.mod_lt _ (by decide)), hexVal_hexChar up _ (Nat.mod_lt _ (by decide)),
    hexVal_hexChar up _ (Nat.mod_lt _ (by decide)), hexVal_hexChar up _ (Nat.mod_lt _ (by decide))]
  simp only [Option.some.injEq, Prod.mk.injEq, and_true]
  omega

theorem ite_some {α : Type} {p : Prop} [Decidable p] {b x : α} {r : Option α}
    (h : (if p then some b else r) = some x) : (p ∧ b = x) ∨ (¬ p ∧ r = some x) := by
  by_cases hp : p
  · rw [if_pos hp] at h; exact .inl ⟨hp, Option.some.inj h⟩
  · rw [if_neg hp] at h; exact .inr ⟨hp, h⟩

/-- the eight two-character escapes: the second character is ASCII and not `u`, and `unShort` reads it back -/
theorem unShort_shortCode (c x : Nat) (h : shortCode c = some x) : x < 0x80 ∧ x ≠ 0x75 ∧ unShort x = some c := by
  unfold shortCode at h
  repeat (rcases ite_some h with ⟨rfl, rfl⟩ | ⟨-, h⟩; · decide)
  cases h

theorem escChar_length_pos (f : EscForm) (c : Nat) : 1 ≤ (escChar f c).length := by
  unfold escChar
  cases f with
  | lit => simp
  | short => cases shortCode c <;> simp
  | uni up => simp only []; split <;> simp [hex4]

theorem parseStrBody_esc_lit (c : Nat) (hf : formOk c .lit = true) (k : Nat) (rest acc : Text) :
    parseStrBody (k + 1) (escChar .lit c ++ rest) acc = parseStrBody k rest (c :: acc) := by
  simp only [formOk, decide_eq_true_eq] at hf
  simp only [escChar, List.cons_append, List.nil_append, parseStrBody]
  have h1 : ¬ c = 0x22 := hf.2.1
  have h2 : ¬ c = 0x5C := hf.2.2
  have h3 : ¬ c < 0x20 := by omega
  simp [h1, h2, h3]

theorem parseStrBody_esc_short (c : Nat) (hf : formOk c .short = true) (k : Nat) (rest acc : Text) :
    parseStrBody (k + 1) (escChar .short c ++ rest) acc = parseStrBody k rest (c :: acc) := by
  simp only [formOk, Option.isSome_iff_exists] at hf
  obtain ⟨x, hx⟩ := hf
  obtain ⟨_, hne, hun⟩ := unShort_shortCode c x hx
  simp only [escChar, hx, List.cons_append, List.nil_append, parseStrBody]
  simp [hne, hun]

theorem parseStrBody_esc_bmp (up : Bool) (c : Nat) (hb : c < 0x10000) (hns : ¬ (0xD800 ≤ c ∧ c < 0xE000))
    (k : Nat) (rest acc : Text) :
    parseStrBody (k + 1) (escChar (.uni up) c ++ rest) acc = parseStrBody k rest (c :: acc) := by
  simp only [escChar, hb, if_true, List.cons_append, parseStrBody]
  simp only [show ¬ (0x5C = 0x22) by decide, if_false, hex4?_hex4 up c rest hb]
  simp [isSurrogate, hns]

theorem getu4_hex4 (up : Bool) (n : Nat) (rest : Text) (h : n < 65536) :
    getu4 (0x5C :: 0x75 :: (hex4 up n ++ rest)) = some (n, rest) := by
  simp only [getu4, and_self, if_true, hex4?_hex4 up _ _ h]

theorem parseStrBody_esc_astral (up : Bool) (c : Nat) (hb : ¬ c < 0x10000) (hlt : c < 0x110000)
    (k : Nat) (rest acc : Text) :
    parseStrBody (k + 1) (escChar (.uni up) c ++ rest) acc = parseStrBody k rest (c :: acc) := by
  simp only [escChar, hb, if_false, List.cons_append, List.append_assoc, parseStrBody]
  have hhi : 0xD800 + (c - 0x10000) / 0x400 < 65536 := by omega
  have hlo : 0xDC00 + (c - 0x10000) % 0x400 < 65536 := by omega
  simp only [show ¬ (0x5C = 0x22) by decide, if_false, if_true, hex4?_hex4 up _ _ hhi]
  have hs : isSurrogate (0xD800 + (c - 0x10000) / 0x400) = true := by
    simp only [isSurrogate, decide_eq_true_eq]; omega
  simp only [hs, if_true]
  rw [getu4_hex4 up _ _ hlo]
  have hc : (0xD800 + (c - 0x10000) / 0x400 < 0xDC00 ∧ 0xDC00 ≤ 0xDC00 + (c - 0x10000) % 0x400
      ∧ 0xDC00 + (c - 0x10000) % 0x400 < 0xE000) := by omega
  simp only [hc, and_self, if_true]
  have he : (0xD800 + (c - 0x10000) / 0x400 - 0xD800) * 0x400 + (0xDC00 + (c - 0x10000) % 0x400 - 0xDC00) + 0x10000 = c := by
    omega
  rw [he]

theorem parseStrBody_esc (f : EscForm) (c : Nat) (hf : formOk c f = true) (k : Nat) (rest acc : Text) :
    parseStrBody (k + 1) (escChar f c ++ rest) acc = parseStrBody k rest (c :: acc) := by
  cases f with
  | lit => exact parseStrBody_esc_lit c hf k rest acc
  | short => exact parseStrBody_esc_short c hf k rest acc
  | uni up =>
    simp only [formOk, Bool.and_eq_true, decide_eq_true_eq, Bool.not_eq_true', isSurrogate, decide_eq_false_iff_not] at hf
    by_cases hb : c < 0x10000
    · exact parseStrBody_esc_bmp up c hb hf.2 k rest acc
    · exact parseStrBody_esc_astral up c hb hf.1 k rest acc

theorem printStrBody_length (st : Style) (s : Text) : s.length ≤ (printStrBody st s).length := by
  induction s with
  | nil => simp [printStrBody]
  | cons c s ih =>
    have := escChar_length_pos (st.esc c) c
    simp only [printStrBody, List.length_append, List.length_cons]
    omega

theorem parseStrBody_print (st : Style) (hst : ∀ c, formOk c (st.esc c) = true) (rest : Text) :
    ∀ (s acc : Text) (k : Nat), s.length + 1 ≤ k →
      parseStrBody k (printStrBody st s ++ 0x22 :: rest) acc = .ok (acc.reverse ++ s, rest) := by
  intro s
  induction s with
  | nil =>
    intro acc k hk
    obtain ⟨k, rfl⟩ := succ_of_pos (n := k) (by omega)
    simp [printStrBody, parseStrBody]
  | cons c s ih =>
    intro acc k hk
    obtain ⟨k, rfl⟩ := succ_of_pos (n := k) (by omega)
    simp only [printStrBody, List.append_assoc]
    rw [parseStrBody_esc _ _ (hst c), ih (c :: acc) k (by simp at hk ⊢; omega)]
    simp

theorem parseStr_print (st : Style) (hst : ∀ c, formOk c (st.esc c) = true) (s rest : Text) :
    parseStr (printStrBody st s ++ 0x22 :: rest) = .ok (s, rest) := by
  unfold parseStr
  rw [parseStrBody_print st hst rest s [] _ (by
    have := printStrBody_length st s
    simp only [List.length_append, List.length_cons]; omega)]
  simp

theorem numStep_dead (s : NumState) (c : Nat) (h : isNumChar c = false) : numStep s c = .dead := by
  simp only [isNumChar, Bool.or_eq_false_iff, decide_eq_false_iff_not] at h
  have h0 : ¬ c = 0x30 := by rintro rfl; exact absurd h.1.1.1.1.1 (by decide)
  cases s <;> simp only [numStep, h, h0, Bool.false_eq_true, if_false, false_or]

theorem numFold_dead (t : Text) : t.foldl numStep .dead = .dead := by
  induction t with
  | nil => rfl
  | cons c t ih => simpa [numStep] using ih

theorem numFold_all (t : Text) : ∀ s, numAccepting (t.foldl numStep s) = true → t.all isNumChar = true := by
  induction t with
  | nil => intro _ _; rfl
  | cons c t ih =>
    intro s h
    simp only [List.foldl_cons] at h
    cases hc : isNumChar c with
    | false => rw [numStep_dead s c hc, numFold_dead] at h; cases h
    | true => simp [hc, ih _ h]

theorem isJsonNumber_all (t : Text) (h : isJsonNumber t = true) : t.all isNumChar = true :=
  numFold_all t _ h

theorem isJsonNumber_head (t : Text) (h : isJsonNumber t = true) :
    ∃ c r, t = c :: r ∧ (c = 0x2D ∨ isDigit c = true) := by
  cases t with
  | nil => simp [isJsonNumber, numAccepting] at h
  | cons c r =>
    refine ⟨c, r, rfl, ?_⟩
    simp only [isJsonNumber, List.foldl_cons] at h
    by_cases hd : numStep .start c = .dead
    · rw [hd, numFold_dead] at h; simp [numAccepting] at h
    · simp only [numStep] at hd
      repeat' split at hd
      all_goals simp_all [isDigit]

/-- the text after a value never continues a number: empty, or a character outside the number alphabet -/
def restOk (rest : Text) : Prop := rest.takeWhile isNumChar = []

theorem scanNumber_fmt {ν : Type} (C : NumCodec ν) (hC : C.Lawful) (x : ν) (hx : C.isFinite x = true) (rest : Text)
    (hr : restOk rest) : scanNumber C (C.fmtNum x ++ rest) = .ok (.num x, rest) := by
  have htok := hC.token x hx
  have hall := List.all_eq_true.1 (isJsonNumber_all _ htok)
  have hd := List.takeWhile_append_dropWhile (p := isNumChar) (l := rest)
  rw [show rest.takeWhile isNumChar = [] from hr, List.nil_append] at hd
  simp [scanNumber, List.takeWhile_append_of_pos hall, List.dropWhile_append_of_pos hall,
    show rest.takeWhile isNumChar = [] from hr, hd, htok, hC.roundtrip x hx]

variable {ν : Type}

/-- what parses as a value does not begin, after white space, with a closing bracket: the parser's look-ahead behind `[` -/
theorem parse_ok_ne_close {C : NumCodec ν} {f d : Nat} {s : Text} {x : PV ν × Text} (h : parse C f .value d s = .ok x) :
    ∃ c t, skipWs s = c :: t ∧ c ≠ 0x5D := by
  cases f with
  | zero => cases h
  | succ f =>
    rw [parse] at h
    cases hs : skipWs s with
    | nil => rw [hs] at h; cases h
    | cons c t =>
      refine ⟨c, t, rfl, ?_⟩
      rintro rfl
      rw [hs] at h
      simp [isDigit] at h

theorem parse_skip (C : NumCodec ν) (w : Text) (hw : w.all isWs = true) (f : Nat) (m : Mode ν) (d : Nat) (s : Text) :
    parse C f m d (w ++ s) = parse C f m d s := by
  cases f with
  | zero => simp [parse]
  | succ f => cases m <;> simp only [parse, skipWs_ws_append w s hw]

theorem parseKey_print (st : Style) (hst : StyleOk st) (w : Text) (hw : w.all isWs = true) (k rest : Text) :
    parseKey (w ++ (printStr st k ++ (st.beforeColon ++ 0x3A :: rest))) = .ok (k, rest) := by
  unfold parseKey
  rw [skipWs_ws_append _ _ hw]
  simp only [printStr, List.cons_append, List.append_assoc, List.nil_append]
  rw [skipWs_cons _ _ (by decide)]
  simp only [if_true, parseStr_print st hst.esc]
  rw [skipWs_ws_append _ _ hst.beforeColon, skipWs_cons _ _ (by decide)]
  simp

theorem restOk_nil : restOk [] := rfl

theorem restOk_cons (c : Nat) (s : Text) (h : isNumChar c = false) : restOk (c :: s) :=
  List.takeWhile_cons_of_neg (by simp [h])

theorem isWs_not_num (c : Nat) (h : isWs c = true) : isNumChar c = false := by
  simp only [isWs, Bool.or_eq_true, decide_eq_true_eq] at h
  simp only [isNumChar, isDigit, Bool.or_eq_false_iff, decide_eq_false_iff_not]
  omega

theorem restOk_ws_append (w s : Text) (hw : w.all isWs = true) (hs : restOk s) : restOk (w ++ s) := by
  cases w with
  | nil => exact hs
  | cons a w =>
    simp only [List.all_cons, Bool.and_eq_true] at hw
    exact restOk_cons _ _ (isWs_not_num a hw.1)

theorem printTail_restOk (C : NumCodec ν) (st : Style) (hst : StyleOk st) (xs : List (PV ν)) (close : Nat)
    (hclose : isNumChar close = false) (rest : Text) :
    restOk (printTail C st xs ++ (st.beforeClose ++ close :: rest)) := by
  cases xs with
  | nil => simp only [printTail, List.nil_append]; exact restOk_ws_append _ _ hst.beforeClose (restOk_cons _ _ hclose)
  | cons x xs =>
    simp only [printTail, List.append_assoc]
    exact restOk_ws_append _ _ hst.beforeComma (restOk_cons _ _ (by decide))

theorem printMTail_restOk (C : NumCodec ν) (st : Style) (hst : StyleOk st) (kvs : List (Text × PV ν)) (close : Nat)
    (hclose : isNumChar close = false) (rest : Text) :
    restOk (printMTail C st kvs ++ (st.beforeClose ++ close :: rest)) := by
  cases kvs with
  | nil => simp only [printMTail, List.nil_append]; exact restOk_ws_append _ _ hst.beforeClose (restOk_cons _ _ hclose)
  | cons kv kvs =>
    obtain ⟨k, v⟩ := kv
    simp only [printMTail, List.append_assoc]
    exact restOk_ws_append _ _ hst.beforeComma (restOk_cons _ _ (by decide))

theorem stripPrefix_append (l s : Text) : stripPrefix l (l ++ s) = some s := by
  induction l with
  | nil => cases s <;> rfl
  | cons a l ih => simp [stripPrefix, ih]

theorem num_start_facts (c : Nat) (hc : c = 0x2D ∨ isDigit c = true) :
    ¬ c = 0x5B ∧ ¬ c = 0x7B ∧ ¬ c = 0x22 ∧ ¬ c = 0x74 ∧ ¬ c = 0x66 ∧ ¬ c = 0x6E := by
  simp only [isDigit, decide_eq_true_eq] at hc
  omega

theorem num_start_ws (c : Nat) (hc : c = 0x2D ∨ isDigit c = true) : isWs c = false := by
  simp only [isDigit, decide_eq_true_eq] at hc
  simp only [isWs, Bool.or_eq_false_iff, decide_eq_false_iff_not]
  omega

theorem size_pos (p : PV ν) : 1 ≤ p.size := by
  cases p <;> simp [PV.size]

theorem sizeL_pos : ∀ xs : List (PV ν), 1 ≤ sizeL xs
  | [] => by simp [sizeL]
  | x :: xs => by have := size_pos x; simp only [sizeL]; omega

theorem sizeM_pos : ∀ kvs : List (Text × PV ν), 1 ≤ sizeM kvs
  | [] => by simp [sizeM]
  | (_, v) :: kvs => by have := size_pos v; simp only [sizeM]; omega

mutual
/-- the parser reads back a printed value and stops right after it -/
theorem rt_value (C : NumCodec ν) (hC : C.Lawful) (st : Style) (hst : StyleOk st) :
    ∀ (p : PV ν) (f d : Nat) (rest : Text), p.finite C = true → p.size ≤ f → p.depth ≤ d → restOk rest →
      parse C f .value d (print C st p ++ rest) = .ok (p, rest)
  | .null, f, d, rest, _, hf, _, _ | .bool true, f, d, rest, _, hf, _, _ | .bool false, f, d, rest, _, hf, _, _ => by
    -- a keyword: the parser's comparisons are between concrete characters
    obtain ⟨f, rfl⟩ := succ_of_pos (n := f) (by simpa [PV.size] using hf)
    simp [print, parse, skipWs, isWs, stripPrefix]
  | .num x, f, d, rest, hfin, hf, _, hr => by
    obtain ⟨f, rfl⟩ := succ_of_pos (n := f) (by simpa [PV.size] using hf)
    have hx : C.isFinite x = true := by simpa [PV.finite] using hfin
    obtain ⟨c, t, hct, hc⟩ := isJsonNumber_head _ (hC.token x hx)
    have hscan := scanNumber_fmt C hC x hx rest hr
    simp only [print, parse]
    rw [hct] at hscan ⊢
    have hws := num_start_ws c hc
    simp only [List.cons_append] at hscan ⊢
    rw [skipWs_cons _ _ hws]
    obtain ⟨h1, h2, h3, h4, h5, h6⟩ := num_start_facts c hc
    simp only [h1, h2, h3, h4, h5, h6, if_false, hc, if_true, hscan]
  | .str s, f, d, rest, _, hf, _, _ => by
    obtain ⟨f, rfl⟩ := succ_of_pos (n := f) (by simpa [PV.size] using hf)
    simp only [print, printStr, List.cons_append, List.append_assoc, List.nil_append, parse]
    rw [skipWs_cons _ _ (by decide)]
    simp [parseStr_print st hst.esc]
  | .arr [], f, d, rest, _, hf, hd, _ => by
    obtain ⟨f, rfl⟩ := succ_of_pos (n := f) (by simp [PV.size, sizeL] at hf; omega)
    obtain ⟨d, rfl⟩ := succ_of_pos (n := d) (by simpa [PV.depth, depthL] using hd)
    simp only [print, List.cons_append, List.append_assoc, List.nil_append, parse]
    rw [skipWs_cons _ _ (by decide)]
    simp only [if_true, Nat.succ_ne_zero, if_false]
    rw [skipWs_ws_append _ _ hst.inEmpty, skipWs_cons _ _ (by decide)]
    simp
  | .arr (x :: xs), f, d, rest, hfin, hf, hd, hr => by
    simp only [PV.size, sizeL] at hf
    simp only [PV.depth, depthL] at hd
    simp only [PV.finite, finiteL, Bool.and_eq_true] at hfin
    obtain ⟨f, rfl⟩ := succ_of_pos (n := f) (by omega)
    obtain ⟨d, rfl⟩ := succ_of_pos (n := d) (by omega)
    have ih1 := rt_value C hC st hst x f d (printTail C st xs ++ (st.beforeClose ++ 0x5D :: rest)) hfin.1
      (by omega) (by omega) (printTail_restOk C st hst xs 0x5D (by decide) rest)
    have ih2 := rt_tail C hC st hst xs [x] f d rest hfin.2 (by omega) (by omega)
    -- behind `[` the parser peeks for `]`: the element parses (`ih1`), so it does not start with one
    obtain ⟨c, t, hs, h5d⟩ := parse_ok_ne_close ih1
    simp only [print, List.cons_append, List.append_assoc, List.nil_append, parse]
    rw [skipWs_cons _ _ (by decide)]
    simp only [if_true, Nat.add_one_ne_zero, if_false, Nat.add_sub_cancel]
    rw [skipWs_ws_append _ _ hst.afterOpen, hs, parse_skip C _ hst.afterOpen, ih1]
    simp only [h5d, if_false]
    exact ih2
  | .obj [], f, d, rest, _, hf, hd, _ => by
    obtain ⟨f, rfl⟩ := succ_of_pos (n := f) (by simp [PV.size, sizeM] at hf; omega)
    obtain ⟨d, rfl⟩ := succ_of_pos (n := d) (by simpa [PV.depth, depthM] using hd)
    simp only [print, List.cons_append, List.append_assoc, List.nil_append, parse]
    rw [skipWs_cons _ _ (by decide)]
    simp only [show ¬ (0x7B = 0x5B) by decide, if_true, Nat.add_one_ne_zero, if_false]
    rw [skipWs_ws_append _ _ hst.inEmpty, skipWs_cons _ _ (by decide)]
    simp
  | .obj ((k, v) :: kvs), f, d, rest, hfin, hf, hd, hr => by
    simp only [PV.size, sizeM] at hf
    simp only [PV.depth, depthM] at hd
    simp only [PV.finite, finiteM, Bool.and_eq_true] at hfin
    obtain ⟨f, rfl⟩ := succ_of_pos (n := f) (by omega)
    obtain ⟨d, rfl⟩ := succ_of_pos (n := d) (by omega)
    have ih1 := rt_value C hC st hst v f d (printMTail C st kvs ++ (st.beforeClose ++ 0x7D :: rest)) hfin.1
      (by omega) (by omega) (printMTail_restOk C st hst kvs 0x7D (by decide) rest)
    have ih2 := rt_mtail C hC st hst kvs [(k, v)] f d rest hfin.2 (by omega) (by omega)
    simp only [print, List.cons_append, List.append_assoc, List.nil_append, parse]
    rw [skipWs_cons _ _ (by decide)]
    simp only [show ¬ (0x7B = 0x5B) by decide, if_true, Nat.add_one_ne_zero, if_false, Nat.add_sub_cancel]
    rw [skipWs_ws_append _ _ hst.afterOpen, parseKey_print st hst _ hst.afterOpen]
    simp only [printStr, List.cons_append]
    rw [skipWs_cons _ _ (by decide)]
    simp only [show ¬ (0x22 = 0x7D) by decide, if_false]
    rw [parse_skip C _ hst.afterColon, ih1]
    exact ih2
/-- the parser reads back the remaining elements of a printed list, up to and including `]` -/
theorem rt_tail (C : NumCodec ν) (hC : C.Lawful) (st : Style) (hst : StyleOk st) :
    ∀ (xs acc : List (PV ν)) (f d : Nat) (rest : Text), finiteL C xs = true → sizeL xs ≤ f → depthL xs ≤ d →
      parse C f (.elems acc) d (printTail C st xs ++ (st.beforeClose ++ 0x5D :: rest)) = .ok (.arr (acc.reverse ++ xs), rest)
  | [], acc, f, d, rest, _, hf, _ => by
    obtain ⟨f, rfl⟩ := succ_of_pos (n := f) (by simpa [sizeL] using hf)
    simp only [printTail, List.nil_append, parse]
    rw [skipWs_ws_append _ _ hst.beforeClose, skipWs_cons _ _ (by decide)]
    simp
  | x :: xs, acc, f, d, rest, hfin, hf, hd => by
    simp only [sizeL] at hf
    simp only [depthL] at hd
    simp only [finiteL, Bool.and_eq_true] at hfin
    have hx := size_pos x
    obtain ⟨f, rfl⟩ := succ_of_pos (n := f) (by omega)
    have ih1 := rt_value C hC st hst x f d (printTail C st xs ++ (st.beforeClose ++ 0x5D :: rest)) hfin.1
      (by have := sizeL_pos xs; omega) (by omega) (printTail_restOk C st hst xs 0x5D (by decide) rest)
    have ih2 := rt_tail C hC st hst xs (x :: acc) f d rest hfin.2 (by omega) (by omega)
    simp only [printTail, List.cons_append, List.append_assoc, parse]
    rw [skipWs_ws_append _ _ hst.beforeComma, skipWs_cons _ _ (by decide)]
    simp only [if_true]
    rw [parse_skip C _ hst.afterComma, ih1]
    simp only []
    rw [ih2]
    simp
/-- the parser reads back the remaining members of a printed object, up to and including `}` -/
theorem rt_mtail (C : NumCodec ν) (hC : C.Lawful) (st : Style) (hst : StyleOk st) :
    ∀ (kvs acc : List (Text × PV ν)) (f d : Nat) (rest : Text), finiteM C kvs = true → sizeM kvs ≤ f → depthM kvs ≤ d →
      parse C f (.members acc) d (printMTail C st kvs ++ (st.beforeClose ++ 0x7D :: rest)) = .ok (.obj (acc.reverse ++ kvs), rest)
  | [], acc, f, d, rest, _, hf, _ => by
    obtain ⟨f, rfl⟩ := succ_of_pos (n := f) (by simpa [sizeM] using hf)
    simp only [printMTail, List.nil_append, parse]
    rw [skipWs_ws_append _ _ hst.beforeClose, skipWs_cons _ _ (by decide)]
    simp
  | (k, v) :: kvs, acc, f, d, rest, hfin, hf, hd => by
    simp only [sizeM] at hf
    simp only [depthM] at hd
    simp only [finiteM, Bool.and_eq_true] at hfin
    have hx := size_pos v
    obtain ⟨f, rfl⟩ := succ_of_pos (n := f) (by omega)
    have ih1 := rt_value C hC st hst v f d (printMTail C st kvs ++ (st.beforeClose ++ 0x7D :: rest)) hfin.1
      (by have := sizeM_pos kvs; omega) (by omega) (printMTail_restOk C st hst kvs 0x7D (by decide) rest)
    have ih2 := rt_mtail C hC st hst kvs ((k, v) :: acc) f d rest hfin.2 (by omega) (by omega)
    simp only [printMTail, List.cons_append, List.append_assoc, parse]
    rw [skipWs_ws_append _ _ hst.beforeComma, skipWs_cons _ _ (by decide)]
    simp only [if_true]
    rw [parseKey_print st hst _ hst.afterComma]
    simp only []
    rw [parse_skip C _ hst.afterColon, ih1]
    simp only []
    rw [ih2]
    simp
end

theorem fmtNum_length_pos (C : NumCodec ν) (hC : C.Lawful) (x : ν) (hx : C.isFinite x = true) : 1 ≤ (C.fmtNum x).length := by
  obtain ⟨c, r, h, _⟩ := isJsonNumber_head _ (hC.token x hx)
  simp [h]

mutual
theorem size_le_length (C : NumCodec ν) (hC : C.Lawful) (st : Style) :
    ∀ p : PV ν, p.finite C = true → p.size ≤ (print C st p).length
  | .null, _ | .bool true, _ | .bool false, _ => by simp [PV.size, print]
  | .num x, h => by simpa [PV.size, print] using fmtNum_length_pos C hC x (by simpa [PV.finite] using h)
  | .str s, _ => by simp [PV.size, print, printStr]
  | .arr [], _ => by simp [PV.size, sizeL, print]
  | .arr (x :: xs), h => by
    simp only [PV.finite, finiteL, Bool.and_eq_true] at h
    have h1 := size_le_length C hC st x h.1
    have h2 := sizeL_le_length C hC st xs h.2
    simp only [PV.size, sizeL, print, List.length_cons, List.length_append, List.length_nil]
    omega
  | .obj [], _ => by simp [PV.size, sizeM, print]
  | .obj ((k, v) :: kvs), h => by
    simp only [PV.finite, finiteM, Bool.and_eq_true] at h
    have h1 := size_le_length C hC st v h.1
    have h2 := sizeM_le_length C hC st kvs h.2
    simp only [PV.size, sizeM, print, List.length_cons, List.length_append, List.length_nil]
    omega
theorem sizeL_le_length (C : NumCodec ν) (hC : C.Lawful) (st : Style) :
    ∀ xs : List (PV ν), finiteL C xs = true → sizeL xs ≤ 1 + (printTail C st xs).length
  | [], _ => by simp [sizeL, printTail]
  | x :: xs, h => by
    simp only [finiteL, Bool.and_eq_true] at h
    have h1 := size_le_length C hC st x h.1
    have h2 := sizeL_le_length C hC st xs h.2
    simp only [sizeL, printTail, List.length_cons, List.length_append]
    omega
theorem sizeM_le_length (C : NumCodec ν) (hC : C.Lawful) (st : Style) :
    ∀ kvs : List (Text × PV ν), finiteM C kvs = true → sizeM kvs ≤ 1 + (printMTail C st kvs).length
  | [], _ => by simp [sizeM, printMTail]
  | (k, v) :: kvs, h => by
    simp only [finiteM, Bool.and_eq_true] at h
    have h1 := size_le_length C hC st v h.1
    have h2 := sizeM_le_length C hC st kvs h.2
    simp only [sizeM, printMTail, List.length_cons, List.length_append]
    omega
end

theorem skipWs_all (w : Text) (hw : w.all isWs = true) : skipWs w = [] := by
  have := skipWs_ws_append w [] hw
  simpa [skipWs] using this

theorem refParse_refPrint (C : NumCodec ν) (hC : C.Lawful) (st : Style) (hst : StyleOk st) (p : PV ν)
    (hfin : p.finite C = true) (d : Nat) (hd : p.depth ≤ d) : refParse C d (refPrint C st p) = .ok p := by
  unfold refParse refPrint
  have hsz := size_le_length C hC st p hfin
  rw [List.append_assoc, parse_skip C _ hst.outerLead,
    rt_value C hC st hst p _ d st.outerTrail hfin (by simp only [List.length_append]; omega) hd
      (by simpa using restOk_ws_append st.outerTrail [] hst.outerTrail restOk_nil)]
  simp [skipWs_all _ hst.outerTrail]

theorem goStyle_ok : StyleOk goStyle := by
  refine ⟨?_, rfl, rfl, rfl, rfl, rfl, rfl, rfl, rfl, rfl⟩
  intro c
  simp only [goStyle, goEsc]
  split
  · rename_i h
    rcases h with h | h | h | h | h | h | h <;> subst h <;> decide
  · split
    · rename_i h1 h2
      simp only [formOk, isSurrogate, Bool.and_eq_true, decide_eq_true_eq, Bool.not_eq_true', decide_eq_false_iff_not]
      omega
    · rename_i h1 h2
      simp only [formOk, decide_eq_true_eq]
      omega

/-- what `writePlainValue` returns for a value / the tail of a list / of an object written by the reference printer as `t` -/
def written (fin : Bool) (t : Text) : Except MarshalErr Text := if fin then .ok t else .error .unsupportedValue

mutual
theorem write_eq (C : NumCodec ν) : ∀ p : PV ν, writePlainValue C p = written (p.finite C) (print C goStyle p)
  | .null | .bool true | .bool false | .str _ => rfl
  | .num x => by cases h : C.isFinite x <;> simp [writePlainValue, marshalScalar, print, PV.finite, written, h]
  | .arr xs => by
    rw [writePlainValue, write_eqL C xs true, PV.finite]
    cases xs <;> cases finiteL C _ <;> simp [written, print, printTail, goStyle]
  | .obj kvs => by
    rw [writePlainValue, write_eqM C kvs true, PV.finite]
    obtain _ | ⟨⟨k, v⟩, kvs⟩ := kvs <;> cases finiteM C _ <;> simp [written, print, printMTail, goStyle]
theorem write_eqL (C : NumCodec ν) : ∀ (xs : List (PV ν)) (first : Bool),
    writeElems C xs first = written (finiteL C xs) ((printTail C goStyle xs).drop first.toNat)
  | [], first => by cases first <;> rfl
  | x :: xs, first => by
    rw [writeElems, write_eq C x, write_eqL C xs false, finiteL, printTail]
    cases x.finite C <;> cases finiteL C xs <;> cases first <;> rfl
theorem write_eqM (C : NumCodec ν) : ∀ (kvs : List (Text × PV ν)) (first : Bool),
    writeMembers C kvs first = written (finiteM C kvs) ((printMTail C goStyle kvs).drop first.toNat)
  | [], first => by cases first <;> rfl
  | (k, v) :: kvs, first => by
    rw [writeMembers, write_eq C v, write_eqM C kvs false, finiteM, printMTail]
    cases v.finite C <;> cases finiteM C kvs <;> cases first <;> simp [written, goStyle]
end

theorem write_value (C : NumCodec ν) (p : PV ν) (h : p.finite C = true) : writePlainValue C p = .ok (print C goStyle p) := by
  rw [write_eq, h]; rfl
theorem write_nonfinite (C : NumCodec ν) (p : PV ν) (h : p.finite C = false) : writePlainValue C p = .error .unsupportedValue := by
  rw [write_eq, h]; rfl
theorem write_tail (C : NumCodec ν) : ∀ xs : List (PV ν), finiteL C xs = true →
    writeElems C xs false = .ok (printTail C goStyle xs) := fun xs h => by
  rw [write_eqL, h]; rfl
theorem write_mtail (C : NumCodec ν) : ∀ kvs : List (Text × PV ν), finiteM C kvs = true →
    writeMembers C kvs false = .ok (printMTail C goStyle kvs) := fun kvs h => by
  rw [write_eqM, h]; rfl
theorem write_nonfiniteM (C : NumCodec ν) : ∀ kvs : List (Text × PV ν), finiteM C kvs = false →
    ∀ first, writeMembers C kvs first = .error .unsupportedValue := fun kvs h first => by
  rw [write_eqM, h]; rfl

end ZnVerif.Proofs.Json
