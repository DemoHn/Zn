/-
Helper lemmas for C15: scopes of modules.

* scope discipline: every symbol of a scope is at most as deep as the scope (`WF`); a `begin … end` bracket around a
  step that keeps the scopes restores a well-formed scope exactly (`scopesSame_bracket`), so a method or constructor
  call leaves every scope as it found it (`useName_scopes`);
* what the declaring loops of the loader leave behind in the current scope and in the export tables.
-/
import ZnVerif.Proofs.ModulesLoad
import ZnVerif.Proofs.SortedByKey

namespace ZnVerif.Proofs.Modules
open ZnVerif.Model.Modules
open ZnVerif.Spec.ModuleSem (defsOf)

def WF (s : Scope) : Prop := ∀ y, y ∈ s.locals → y.depth ≤ s.depth

theorem wf_new : WF Scope.new := nofun

theorem wf_begin {s : Scope} (h : WF s) : WF s.begin := fun y hy => by
  have := h y hy
  simp only [Scope.begin] at hy ⊢
  omega

theorem end_pops {s : Scope} (h : WF s) (top : List Sym) (htop : ∀ y, y ∈ top → y.depth = s.depth + 1) :
    ({ s with locals := top ++ s.locals, depth := s.depth + 1 } : Scope).end = s := by
  have hd : s.depth + 1 - 1 = s.depth := by omega
  simp only [Scope.end, hd]
  rw [List.dropWhile_append_of_pos, dropWhile_eq_self]
  · intro y hy
    have := h y hy
    simp; omega
  · intro y hy
    have := htop y hy
    simp; omega

theorem end_begin {s : Scope} (h : WF s) : s.begin.end = s := end_pops h [] nofun

def lookS (vm : VM) (k : Nat) : Option Scope := assoc k vm.scopes

theorem lookS_setScope (vm : VM) (m : Nat) (s : Scope) (k : Nat) :
    lookS (vm.setScope m s) k = if k = m then some s else lookS vm k :=
  assoc_aset m k s vm.scopes

theorem lookS_pushFrame (vm : VM) (m k : Nat) :
    lookS (vm.pushFrame m) k = if k = m then some ((lookS vm m).getD Scope.new) else lookS vm k := by
  unfold lookS VM.pushFrame
  dsimp only
  cases h : assoc m vm.scopes with
  | some s => split <;> simp_all
  | none => exact assoc_aset ..

theorem curScope_of {vm : VM} {m : Nat} {s : Scope} (hcs : vm.cs = some m) (hs : lookS vm m = some s) :
    vm.curScope = some (m, s) := by
  unfold VM.curScope
  unfold lookS at hs
  rw [hcs]; dsimp only; rw [hs]

theorem curScope_some {vm : VM} {m : Nat} {s : Scope} (h : vm.curScope = some (m, s)) :
    vm.cs = some m ∧ lookS vm m = some s := by
  unfold VM.curScope at h
  unfold lookS
  cases hcs : vm.cs with
  | none => rw [hcs] at h; cases h
  | some m' =>
    rw [hcs] at h
    dsimp only at h
    cases hs : assoc m' vm.scopes with
    | none => rw [hs] at h; cases h
    | some s' => rw [hs] at h; cases h; exact ⟨rfl, hs⟩

theorem beginScope_of {vm : VM} {m : Nat} {s : Scope} (hcs : vm.cs = some m) (hs : lookS vm m = some s) :
    vm.beginScope = vm.setScope m s.begin := by
  unfold VM.beginScope; rw [curScope_of hcs hs]

theorem endScope_of {vm : VM} {m : Nat} {s : Scope} (hcs : vm.cs = some m) (hs : lookS vm m = some s) :
    vm.endScope = vm.setScope m s.end := by
  unfold VM.endScope; rw [curScope_of hcs hs]

@[simp] theorem lookS_record (vm : VM) (e : Ev) (k : Nat) : lookS (vm.record e) k = lookS vm k := rfl

@[simp] theorem modules_beginScope (vm : VM) : vm.beginScope.modules = vm.modules := by
  unfold VM.beginScope; split <;> rfl
@[simp] theorem modules_endScope (vm : VM) : vm.endScope.modules = vm.modules := by
  unfold VM.endScope; split <;> rfl
@[simp] theorem modules_pushFrame (vm : VM) (m : Nat) : (vm.pushFrame m).modules = vm.modules := rfl
@[simp] theorem modules_display (vm : VM) (k : Nat) : (vm.display k).modules = vm.modules := rfl
@[simp] theorem modules_record (vm : VM) (e : Ev) : (vm.record e).modules = vm.modules := rfl
@[simp] theorem modules_setScope (vm : VM) (m : Nat) (s : Scope) : (vm.setScope m s).modules = vm.modules := rfl

theorem exportsOf_congr {vm vm' : VM} (h : vm'.modules = vm.modules) (k : Nat) : vm'.exportsOf k = vm.exportsOf k := by
  simp [VM.exportsOf, h]

theorem same_length {vm vm' : VM} (h : Same vm vm') : vm'.modules.length = vm.modules.length := by
  simpa [namesOf] using congrArg List.length h.names

/-- scopes that exist stay as they are; a scope that did not exist may have been created empty -/
def ScopesSame (vm vm' : VM) : Prop :=
  ∀ k, lookS vm' k = lookS vm k ∨ (lookS vm k = none ∧ lookS vm' k = some Scope.new)

theorem ScopesSame.rfl' (vm : VM) : ScopesSame vm vm := fun _ => Or.inl rfl

theorem ScopesSame.trans {a b c : VM} (h1 : ScopesSame a b) (h2 : ScopesSame b c) : ScopesSame a c := by
  intro k
  rcases h1 k with e1 | ⟨n1, e1⟩ <;> rcases h2 k with e2 | ⟨n2, e2⟩
  · exact Or.inl (e2.trans e1)
  · exact Or.inr ⟨e1 ▸ n2, e2⟩
  · exact Or.inr ⟨n1, e2.trans e1⟩
  · rw [e1] at n2; cases n2

theorem ScopesSame.of_eq {vm vm' : VM} (h : ∀ k, lookS vm' k = lookS vm k) : ScopesSame vm vm' :=
  fun k => Or.inl (h k)

theorem ScopesSame.keep {vm vm' : VM} (h : ScopesSame vm vm') {k : Nat} {s : Scope} (hs : lookS vm k = some s) :
    lookS vm' k = some s := by
  rcases h k with e | ⟨n, _⟩
  · rw [e, hs]
  · rw [hs] at n; cases n

theorem ScopesSame.nonnone {vm vm' : VM} (h : ScopesSame vm vm') (k : Nat) (hk : lookS vm k ≠ none) :
    lookS vm' k ≠ none := by
  rcases h k with e | ⟨_, e⟩ <;> rw [e]
  · exact hk
  · nofun

theorem scopesSame_pushFrame (vm : VM) (m : Nat) : ScopesSame vm (vm.pushFrame m) := by
  intro k
  rw [lookS_pushFrame]
  by_cases hk : k = m
  · subst hk
    rw [if_pos rfl]
    cases hl : lookS vm k with
    | none => exact Or.inr ⟨rfl, rfl⟩
    | some s => exact Or.inl rfl
  · rw [if_neg hk]; exact Or.inl rfl

def AllWF (vm : VM) : Prop := ∀ k s, lookS vm k = some s → WF s

theorem AllWF.of_same {vm vm' : VM} (h : AllWF vm) (hs : ScopesSame vm vm') : AllWF vm' := by
  intro k s hk
  rcases hs k with e | ⟨_, e⟩
  · exact h k s (e ▸ hk)
  · rw [e] at hk; cases hk; exact wf_new

theorem AllWF.setScope {vm : VM} (h : AllWF vm) {m : Nat} {s : Scope} (hs : WF s) : AllWF (vm.setScope m s) := by
  intro k s' hk
  rw [lookS_setScope] at hk
  split at hk
  · cases hk; exact hs
  · exact h k s' hk

/-- the current module is the one on top of the call stack and every frame's module has a scope -/
structure Disc (vm : VM) : Prop where
  cs : vm.cs = vm.stack.head?
  hasScope : ∀ m, m ∈ vm.stack → lookS vm m ≠ none

theorem Disc.cur {vm : VM} (h : Disc vm) {m : Nat} (hcs : vm.cs = some m) : ∃ s, lookS vm m = some s := by
  have hm : m ∈ vm.stack := List.mem_of_mem_head? (h.cs ▸ hcs)
  cases hl : lookS vm m with
  | none => exact absurd hl (h.hasScope m hm)
  | some s => exact ⟨s, rfl⟩

theorem disc_of_step {vm vm' : VM} (hd : Disc vm) (hst : vm'.stack = vm.stack) (hcs : vm'.cs = vm.cs)
    (hs : ∀ k, lookS vm k ≠ none → lookS vm' k ≠ none) : Disc vm' :=
  ⟨by rw [hcs, hst]; exact hd.cs, fun m hm => hs m (hd.hasScope m (hst ▸ hm))⟩

theorem Disc.update {vm vm' : VM} (hd : Disc vm) (hw : AllWF vm) (hst : vm'.stack = vm.stack) (hcs : vm'.cs = vm.cs)
    {m : Nat} {s : Scope} (hm : lookS vm' m = some s) (hs : WF s) (ho : ∀ k, k ≠ m → lookS vm' k = lookS vm k) :
    Disc vm' ∧ AllWF vm' := by
  refine ⟨disc_of_step hd hst hcs fun k hk => ?_, fun k sc hk => ?_⟩ <;> by_cases hkm : k = m
  · rw [hkm, hm]; nofun
  · rw [ho k hkm]; exact hk
  · rw [hkm, hm] at hk; cases hk; exact hs
  · exact hw k sc (ho k hkm ▸ hk)

theorem Disc.setScope {vm : VM} (h : Disc vm) (m : Nat) (s : Scope) : Disc (vm.setScope m s) :=
  disc_of_step h rfl rfl fun k hk => by rw [lookS_setScope]; split <;> simp [hk]

theorem disc_pushFrame {vm : VM} (m : Nat) (h : ∀ x, x ∈ vm.stack → lookS vm x ≠ none) : Disc (vm.pushFrame m) := by
  refine ⟨rfl, fun x hx => ?_⟩
  rw [lookS_pushFrame]
  split
  · nofun
  · exact h x ((List.mem_cons.1 hx).resolve_left (by assumption))

theorem Disc.beginScope {vm : VM} (hd : Disc vm) (hw : AllWF vm) : Disc vm.beginScope ∧ AllWF vm.beginScope := by
  unfold VM.beginScope
  split
  · exact ⟨hd, hw⟩
  · rename_i m s hc
    exact ⟨hd.setScope m _, hw.setScope (wf_begin (hw m s (curScope_some hc).2))⟩

theorem scopesSame_bracket {vm vm' : VM} {m : Nat} {s : Scope} (hcs : vm.cs = some m) (hs : lookS vm m = some s)
    (hwf : WF s) (h : ScopesSame vm.beginScope vm') (hcs' : vm'.cs = some m) : ScopesSame vm vm'.endScope := by
  rw [beginScope_of hcs hs] at h
  have hm : lookS vm' m = some s.begin := h.keep (by rw [lookS_setScope, if_pos rfl])
  rw [endScope_of hcs' hm]
  intro k
  rw [lookS_setScope]
  split
  · subst_vars; rw [end_begin hwf, hs]; exact Or.inl rfl
  · have := h k
    rwa [lookS_setScope, if_neg (by assumption)] at this

/-- scope part of the frame property of a step that may fail -/
def StepScopes (vm : VM) (r : Res VM) : Prop :=
  r.Sat (fun vm' => ScopesSame vm vm' ∧ vm'.modules = vm.modules) (fun _ _ => True)

theorem Disc.step {vm vm' : VM} (hd : Disc vm) (hw : AllWF vm) (hf : StepFrame vm (.ok vm'))
    (hs : StepScopes vm (.ok vm')) : Disc vm' ∧ AllWF vm' :=
  ⟨disc_of_step hd hf.2.1 (hf.2.2 hd.cs) hs.1.nonnone, hw.of_same hs.1⟩

theorem StepScopes.bind {vm : VM} {r : Res VM} {k : VM → Res VM} (hd : Disc vm) (hw : AllWF vm) (hf : StepFrame vm r)
    (h : StepScopes vm r) (hk : ∀ vm1, Disc vm1 → AllWF vm1 → StepScopes vm1 (k vm1)) :
    StepScopes vm (match (generalizing := false) r with
      | .err e vm' => .err e vm'
      | .ok vm1 => k vm1) := by
  cases r with
  | err e vm' => trivial
  | ok vm1 =>
    obtain ⟨hd1, hw1⟩ := hd.step hw hf h
    exact Res.Sat.mono (hk vm1 hd1 hw1) (fun vm2 h2 => ⟨h.1.trans h2.1, h2.2.trans h.2⟩) (fun _ _ _ => trivial)

theorem runUses_scopes (rec : VM → Use → Res VM)
    (hrec : ∀ vm u, Disc vm → AllWF vm → StepScopes vm (rec vm u))
    (hfr : ∀ vm u, StepFrame vm (rec vm u)) :
    ∀ (us : List Use) (vm : VM), Disc vm → AllWF vm → StepScopes vm (runUses rec vm us)
  | [], vm, _, _ => ⟨ScopesSame.rfl' _, rfl⟩
  | u :: us, vm, hd, hw => by
    unfold runUses
    exact StepScopes.bind hd hw (hfr vm u) (hrec vm u hd hw) (runUses_scopes rec hrec hfr us)

theorem call_tail_scopes {vm : VM} {home : Nat} {us : List Use} (rec : VM → Use → Res VM)
    (hrec : ∀ vm u, Disc vm → AllWF vm → StepScopes vm (rec vm u))
    (hfr : ∀ vm u, StepFrame vm (rec vm u)) (mark : Nat) (conv : Err → Err)
    (hd : Disc vm) (hw : AllWF vm) :
    StepScopes vm (match runUses rec (((vm.pushFrame home).beginScope.beginScope).display mark) us with
      | .err e vm' => .err (conv e) vm'
      | .ok vm3 => match (vm3.endScope.endScope).popFrame with
        | none => .err .panic vm3
        | some vm4 => .ok vm4) := by
  have hdA : Disc (vm.pushFrame home) := disc_pushFrame home hd.hasScope
  have hwA : AllWF (vm.pushFrame home) := hw.of_same (scopesSame_pushFrame vm home)
  obtain ⟨s, hs⟩ := hdA.cur (pushFrame_cs vm home)
  obtain ⟨hdX, hwX⟩ := hdA.beginScope hwA
  have hsX : lookS (vm.pushFrame home).beginScope home = some s.begin := by
    rw [beginScope_of (pushFrame_cs vm home) hs, lookS_setScope, if_pos rfl]
  obtain ⟨hdB, hwB⟩ := hdX.beginScope hwX
  have hdB' : Disc (((vm.pushFrame home).beginScope.beginScope).display mark) :=
    disc_of_step hdB rfl rfl (fun _ h => h)
  have h3 := runUses_scopes rec hrec hfr us _ hdB' hwB
  have f3 := runUses_frame rec hfr us (((vm.pushFrame home).beginScope.beginScope).display mark)
  cases hr : runUses rec (((vm.pushFrame home).beginScope.beginScope).display mark) us with
  | err e vm' => trivial
  | ok vm3 =>
    rw [hr] at h3 f3
    have hcs3 : vm3.cs = some home := (f3.2.2 hdB'.cs).trans (by simp)
    have hst3 : (vm3.endScope.endScope).stack = home :: vm.stack := by simp [f3.2.1]
    dsimp only
    rw [popFrame_cons hst3]
    have hin := scopesSame_bracket (by simp) hsX (wf_begin (hwA home s hs)) h3.1 hcs3
    have hout := scopesSame_bracket (pushFrame_cs vm home) hs (hwA home s hs) hin (by simp [hcs3])
    exact ⟨(scopesSame_pushFrame vm home).trans hout, by show vm3.endScope.endScope.modules = _; simp [h3.2]⟩

theorem useName_scopes : ∀ (f : Nat) (vm : VM) (u : Use), Disc vm → AllWF vm → StepScopes vm (useName f vm u)
  | 0, vm, u, _, _ => trivial
  | f + 1, vm, .call n, hd, hw => by
    unfold useName
    cases vm.findWithModule n with
    | none => trivial
    | some p =>
      obtain ⟨v, home⟩ := p
      cases v with
      | fn d => exact call_tail_scopes (useName f) (useName_scopes f) (useName_frame f) d.mark methodErr hd hw
      | cls d h => trivial
      | native => trivial
  | f + 1, vm, .new n, hd, hw => by
    unfold useName
    cases vm.findElement n with
    | none => trivial
    | some v =>
      cases v with
      | cls d home => exact call_tail_scopes (useName f) (useName_scopes f) (useName_frame f) d.mark id hd hw
      | fn d => trivial
      | native => trivial

theorem runItems_scopes (cf : Nat) : ∀ (items : List Item) (vm : VM), Disc vm → AllWF vm →
    StepScopes vm (runItems cf vm items)
  | [], vm, _, _ => ⟨ScopesSame.rfl' _, rfl⟩
  | .marker k :: r, vm, hd, hw => by
    unfold runItems
    exact runItems_scopes cf r (vm.display k) (disc_of_step hd rfl rfl (fun _ h => h)) hw
  | .defn _ :: r, vm, hd, hw => by
    unfold runItems; exact runItems_scopes cf r vm hd hw
  | .use u :: r, vm, hd, hw => by
    unfold runItems
    exact StepScopes.bind hd hw (useName_frame cf vm u) (useName_scopes cf vm u hd hw) (runItems_scopes cf r)
  | .assign n :: r, vm, hd, hw => by
    unfold runItems
    cases vm.curScope with
    | none => trivial
    | some p =>
      dsimp only
      cases p.2.setValueCode n with
      | some c => trivial
      | none => exact runItems_scopes cf r vm hd hw

theorem exportsOf_addExport {vm vm' : VM} {m : Nat} {n : Name} {v : Val} (h : vm.addExport m n v = some vm') :
    vm'.exportsOf m = vm.exportsOf m ++ [(n, v)] ∧ (∀ k, k ≠ m → vm'.exportsOf k = vm.exportsOf k) ∧
      (∀ k, lookS vm' k = lookS vm k) ∧ assoc n (vm.exportsOf m) = none := by
  obtain ⟨md, hmd, hnone, rfl⟩ := addExport_ok h
  have hlt : m < vm.modules.length := getElem?_lt hmd
  refine ⟨?_, fun k hk => ?_, fun _ => rfl, ?_⟩
  · simp [VM.exportsOf, hmd, List.getElem?_set_self hlt]
  · simp [VM.exportsOf, List.getElem?_set_ne (Ne.symm hk)]
  · simp [VM.exportsOf, hmd, hnone]

theorem declareConst_effect {vm vm' : VM} {m : Nat} {s : Scope} {n : Name} {v : Val} (hcs : vm.cs = some m)
    (hs : lookS vm m = some s) (h : vm.declareConst n v = .ok vm') :
    vm' = vm.setScope m { s with locals := ⟨n, s.depth, true, v⟩ :: s.locals } ∧
      Scope.redeclaredIn s.depth n s.locals = false := by
  obtain ⟨m', s0, s', hc, hd, rfl⟩ := declareConst_ok h
  rw [curScope_of hcs hs] at hc
  cases hc
  unfold Scope.declare at hd
  split at hd <;> cases hd
  exact ⟨rfl, Bool.eq_false_iff.2 ‹_›⟩

theorem declareExternal_effect {vm vm' : VM} {m mid : Nat} {s : Scope} {n : Name} {v : Val} (hcs : vm.cs = some m)
    (hs : lookS vm m = some s) (h : vm.declareExternal n v mid = .ok vm') :
    vm' = vm.setScope m ⟨⟨n, s.depth, true, v⟩ :: s.locals, s.depth, aset s.locals.length mid s.extRefs⟩ ∧
      Scope.redeclaredIn s.depth n s.locals = false := by
  obtain ⟨m', s0, s', hc, hd, rfl⟩ := declareExternal_ok h
  rw [curScope_of hcs hs] at hc
  cases hc
  unfold Scope.declareExternal Scope.declare at hd
  by_cases hr : Scope.redeclaredIn s.depth n s.locals = true
  · simp [hr] at hd
  · simp only [hr] at hd
    cases hd
    exact ⟨rfl, Bool.eq_false_iff.2 hr⟩

def symOfDef (depth : Int) (m : Nat) (d : Def) : Sym := ⟨d.name, depth, true, valOfDef d m⟩

theorem nodup_addExport {vm vm' : VM} {m : Nat} {n : Name} {v : Val} (h : vm.addExport m n v = some vm')
    (hn : ((vm.exportsOf m).map (fun p => p.1)).Nodup) : ((vm'.exportsOf m).map (fun p => p.1)).Nodup := by
  obtain ⟨e1, _, _, e4⟩ := exportsOf_addExport h
  have := assoc_none_notin e4
  simp only [List.mem_map, not_exists, not_and] at this
  simpa [e1, List.nodup_append, hn] using fun a b hab heq => this (a, b) hab heq

theorem hoistDefs_effect : ∀ (items : List Item) (vm : VM) (m : Nat) (s : Scope), vm.cs = some m →
    lookS vm m = some s →
    (hoistDefs vm items).Sat (fun vm' =>
      lookS vm' m = some { s with locals := ((defsOf items).map (symOfDef s.depth m)).reverse ++ s.locals } ∧
      (∀ k, k ≠ m → lookS vm' k = lookS vm k) ∧
      vm'.exportsOf m = vm.exportsOf m ++ (defsOf items).map (fun d => (d.name, valOfDef d m)) ∧
      (∀ k, k ≠ m → vm'.exportsOf k = vm.exportsOf k) ∧
      (((vm.exportsOf m).map (fun p => p.1)).Nodup → ((vm'.exportsOf m).map (fun p => p.1)).Nodup)) (fun _ _ => True)
  | [], vm, m, s, _, hs => by
    simp [hoistDefs, defsOf, hs, Res.Sat]
  | .defn d :: r, vm, m, s, hcs, hs => by
    unfold hoistDefs
    rw [hcs]
    dsimp only
    cases hd : vm.declareConst d.name (valOfDef d m) with
    | err e vm' => trivial
    | ok vm1 =>
      dsimp only
      obtain ⟨rfl, _⟩ := declareConst_effect hcs hs hd
      cases ha : (vm.setScope m _).addExport m d.name (valOfDef d m) with
      | none => trivial
      | some vm2 =>
        obtain ⟨e2, eo2, l2, _⟩ := exportsOf_addExport ha
        have k2 := kept_addExport ha
        have ih := hoistDefs_effect r vm2 m _ (k2.cs.trans hcs) (by rw [l2, lookS_setScope, if_pos rfl])
        refine ih.mono (fun vm3 h3 => ?_) (fun _ _ _ => trivial)
        obtain ⟨i1, i2, i3, i4, i5⟩ := h3
        refine ⟨?_, fun k hk => ?_, ?_, fun k hk => ?_, fun hn => i5 (nodup_addExport ha hn)⟩
        · rw [i1]; simp [defsOf, symOfDef]
        · rw [i2 k hk, l2, lookS_setScope, if_neg hk]
        · rw [i3, e2]; simp [defsOf, VM.exportsOf]
        · rw [i4 k hk, eo2 k hk]; rfl
  | .marker _ :: r, vm, m, s, hcs, hs => by unfold hoistDefs; exact hoistDefs_effect r vm m s hcs hs
  | .use _ :: r, vm, m, s, hcs, hs => by unfold hoistDefs; exact hoistDefs_effect r vm m s hcs hs
  | .assign _ :: r, vm, m, s, hcs, hs => by unfold hoistDefs; exact hoistDefs_effect r vm m s hcs hs

theorem evalBody_effect (cf : Nat) {vm : VM} {m : Nat} {s : Scope} (hd : Disc vm) (hw : AllWF vm)
    (hcs : vm.cs = some m) (hs : lookS vm m = some s) (body : List Item) :
    (evalBody cf vm body).Sat (fun vm' => ScopesSame vm vm' ∧
        vm'.exportsOf m = vm.exportsOf m ++ (defsOf body).map (fun d => (d.name, valOfDef d m)) ∧
        (∀ k, k ≠ m → vm'.exportsOf k = vm.exportsOf k) ∧
        (((vm.exportsOf m).map (fun p => p.1)).Nodup → ((vm'.exportsOf m).map (fun p => p.1)).Nodup))
      (fun _ _ => True) := by
  unfold evalBody
  cases body with
  | nil => exact ⟨ScopesSame.rfl' _, by simp [defsOf], fun _ _ => rfl, id⟩
  | cons it r =>
    dsimp only
    have hwf : WF s := hw m s hs
    have hb := beginScope_of hcs hs
    have hh := hoistDefs_effect (it :: r) vm.beginScope m s.begin (by simp [hcs]) (by rw [hb, lookS_setScope, if_pos rfl])
    have f1 := hoistDefs_frame (it :: r) vm.beginScope
    cases hr : hoistDefs vm.beginScope (it :: r) with
    | err e vm' => trivial
    | ok vm1 =>
      rw [hr] at hh f1
      obtain ⟨h1, h2, h3, h4, h5⟩ := hh
      dsimp only
      -- the scope with the definitions on top
      generalize htop : ((defsOf (it :: r)).map (symOfDef s.begin.depth m)).reverse = top at h1
      have htopd : ∀ y, y ∈ top → y.depth = s.depth + 1 := by
        intro y hy
        rw [← htop] at hy
        simp only [List.mem_reverse, List.mem_map] at hy
        obtain ⟨d, _, rfl⟩ := hy
        rfl
      have hX : WF ({ s with locals := top ++ s.locals, depth := s.depth + 1 } : Scope) := by
        intro y hy
        rcases List.mem_append.1 hy with h | h
        · exact Int.le_of_eq (htopd y h)
        · exact Int.le_trans (hwf y h) (by show s.depth ≤ s.depth + 1; omega)
      replace h1 : lookS vm1 m = some ({ s with locals := top ++ s.locals, depth := s.depth + 1 } : Scope) := h1
      have hother : ∀ k, k ≠ m → lookS vm1 k = lookS vm k := fun k hk => by
        rw [h2 k hk, hb, lookS_setScope, if_neg hk]
      have hcs1 : vm1.cs = some m := (f1.2.2 (by simp [hd.cs])).trans (by simp [hcs])
      obtain ⟨hd1, hw1⟩ := hd.update hw (f1.2.1.trans (beginScope_stack vm)) (hcs1.trans hcs.symm) h1 hX hother
      obtain ⟨hdb, hwb⟩ := hd1.beginScope hw1
      have hi := runItems_scopes cf (it :: r) vm1.beginScope hdb hwb
      have fi := runItems_frame cf (it :: r) vm1.beginScope
      cases hr2 : runItems cf vm1.beginScope (it :: r) with
      | err e vm' => trivial
      | ok vm2 =>
        rw [hr2] at hi fi
        have hcs2 : vm2.cs = some m := (fi.2.2 hdb.cs).trans (by simp [hcs1])
        have hin := scopesSame_bracket hcs1 h1 hX hi.1 hcs2
        have hm2 : vm2.endScope.endScope.modules = vm1.modules := by simp [hi.2]
        have hmb : vm.beginScope.modules = vm.modules := by simp
        refine ⟨fun k => ?_, ?_, fun k hk => ?_, fun hn => ?_⟩
        · rw [endScope_of (by simp [hcs2]) (hin.keep h1), lookS_setScope]
          by_cases hkm : k = m
          · rw [if_pos hkm, hkm, end_pops hwf top htopd, hs]; exact Or.inl rfl
          · rw [if_neg hkm, ← hother k hkm]; exact hin k
        · rw [exportsOf_congr hm2, h3, exportsOf_congr hmb]
        · rw [exportsOf_congr hm2, h4 k hk, exportsOf_congr hmb]
        · rw [exportsOf_congr hm2]
          exact h5 (by rw [exportsOf_congr hmb]; exact hn)

theorem notin_of_redeclaredIn_false {d : Int} {n : Name} : ∀ {l : List Sym}, (∀ y, y ∈ l → y.depth = d) →
    Scope.redeclaredIn d n l = false → ∀ y, y ∈ l → y.name ≠ n
  | [], _, _ => nofun
  | z :: r, hd, h => by
    unfold Scope.redeclaredIn at h
    have hz := hd z (List.mem_cons_self ..)
    rw [if_neg (by omega)] at h
    by_cases hn : z.name = n
    · simp [hn, hz] at h
    · rw [if_neg (fun hh => hn hh.1)] at h
      intro y hy
      rcases List.mem_cons.1 hy with rfl | hy
      · exact hn
      · exact notin_of_redeclaredIn_false (fun w hw => hd w (List.mem_cons_of_mem _ hw)) h y hy

/-- binding a list of names as external constants: they end up on top of the current scope, each with the module id; in a scope
    whose symbols are all at its own depth, distinct names stay distinct.  The new state is given by an equation (`vm` with other
    scopes), here and in `redeclareExports_effect`: the walk of ModulesEnv then reads every other component of it by computation
    and needs no description of the state field by field. -/
theorem declareExternals_effect (mid : Nat) : ∀ (l : List (Name × Val)) (vm : VM) (m : Nat) (s : Scope),
    vm.cs = some m → lookS vm m = some s →
    (declareExternals mid vm l).Sat (fun vm' => ∃ sc s', vm' = { vm with scopes := sc } ∧ assoc m sc = some s' ∧
        s'.depth = s.depth ∧
        s'.locals = (l.map (fun p => (⟨p.1, s.depth, true, p.2⟩ : Sym))).reverse ++ s.locals ∧
        (∀ i, assoc i s'.extRefs =
          if s.locals.length ≤ i ∧ i < s.locals.length + l.length then some mid else assoc i s.extRefs) ∧
        (∀ k, k ≠ m → assoc k sc = lookS vm k) ∧
        ((∀ y, y ∈ s.locals → y.depth = s.depth) → (s.locals.map Sym.name).Nodup → (s'.locals.map Sym.name).Nodup))
      (fun _ _ => True)
  | [], vm, m, s, _, hs => by
    refine ⟨vm.scopes, s, rfl, hs, rfl, by simp, fun i => ?_, fun _ _ => rfl, fun _ h => h⟩
    rw [if_neg (by simp only [List.length_nil]; omega)]
  | (n, v) :: r, vm, m, s, hcs, hs => by
    unfold declareExternals
    cases hd : vm.declareExternal n v mid with
    | err e vm' => trivial
    | ok vm1 =>
      obtain ⟨rfl, hrd⟩ := declareExternal_effect hcs hs hd
      refine (declareExternals_effect mid r (vm.setScope m _) m _ hcs (by rw [lookS_setScope, if_pos rfl])).mono ?_
        (fun _ _ _ => trivial)
      rintro _ ⟨sc, s', rfl, i1, i2, i3, i4, i5, i7⟩
      refine ⟨sc, s', rfl, i1, i2, by rw [i3]; simp, fun i => ?_, fun k hk => ?_, fun hdep hn => i7 ?_ ?_⟩
      · rw [i4 i]
        simp only [List.length_cons]
        rw [assoc_aset]
        by_cases h1 : s.locals.length + 1 ≤ i ∧ i < s.locals.length + 1 + r.length
        · rw [if_pos h1, if_pos (by omega)]
        · rw [if_neg h1]
          by_cases h3 : i = s.locals.length
          · rw [if_pos h3, if_pos (by omega)]
          · rw [if_neg h3, if_neg (by omega)]
      · rw [i5 k hk, lookS_setScope, if_neg hk]
      · intro y hy
        rcases List.mem_cons.1 hy with rfl | hy
        · rfl
        · exact hdep y hy
      · refine List.nodup_cons.2 ⟨fun hmem => ?_, hn⟩
        obtain ⟨y, hy, hyn⟩ := List.mem_map.1 hmem
        exact notin_of_redeclaredIn_false hdep hrd y hy hyn

theorem redeclareExports_effect : ∀ (l : List (Name × Val)) (vm : VM) (m : Nat) (s : Scope),
    vm.cs = some m → lookS vm m = some s →
    (redeclareExports vm l).Sat (fun vm' => ∃ sc, vm' = { vm with scopes := sc } ∧
        assoc m sc = some { s with locals := (l.map (fun p => (⟨p.1, s.depth, true, p.2⟩ : Sym))).reverse ++ s.locals } ∧
        ∀ k, k ≠ m → assoc k sc = lookS vm k) (fun _ _ => True)
  | [], vm, m, s, _, hs => ⟨vm.scopes, rfl, by simpa [lookS] using hs, fun _ _ => rfl⟩
  | (n, v) :: r, vm, m, s, hcs, hs => by
    unfold redeclareExports
    cases hd : vm.declareConst n v with
    | err e vm' => trivial
    | ok vm1 =>
      obtain ⟨rfl, _⟩ := declareConst_effect hcs hs hd
      refine (redeclareExports_effect r (vm.setScope m _) m _ hcs (by rw [lookS_setScope, if_pos rfl])).mono ?_
        (fun _ _ _ => trivial)
      rintro vm2 ⟨sc, rfl, i1, i2⟩
      exact ⟨sc, rfl, by rw [i1]; simp, fun k hk => by rw [i2 k hk, lookS_setScope, if_neg hk]⟩

theorem addExport_eq_none_iff {vm : VM} {m : Nat} {n : Name} {v : Val} (hm : m < vm.modules.length) :
    vm.addExport m n v = none ↔ n ∈ (vm.exportsOf m).map (fun p => p.1) := by
  unfold VM.addExport VM.exportsOf
  rw [List.getElem?_eq_getElem hm]
  dsimp only
  cases ha : assoc n (vm.modules[m]).exports with
  | none => simpa using assoc_none_notin ha
  | some w => simpa using ⟨w, assoc_mem ha⟩

theorem addExport_length {vm vm' : VM} {m : Nat} {n : Name} {v : Val} (h : vm.addExport m n v = some vm') :
    vm'.modules.length = vm.modules.length := same_length (kept_addExport h).same

theorem addExportsIgnoringDup_idem (m : Nat) (vm : VM) (hm : m < vm.modules.length) : ∀ (l : List (Name × Val)),
    (∀ p, p ∈ l → p.1 ∈ (vm.exportsOf m).map (fun q => q.1)) → addExportsIgnoringDup m vm l = vm
  | [], _ => rfl
  | (n, v) :: r, h => by
    unfold addExportsIgnoringDup
    rw [(addExport_eq_none_iff hm).2 (h (n, v) (List.mem_cons_self ..))]
    exact addExportsIgnoringDup_idem m vm hm r (fun p hp => h p (List.mem_cons_of_mem _ hp))

theorem addExportsIgnoringDup_effect (m : Nat) : ∀ (l : List (Name × Val)) (vm : VM), m < vm.modules.length →
    (∀ k, lookS (addExportsIgnoringDup m vm l) k = lookS vm k) ∧
    (∀ k, k ≠ m → (addExportsIgnoringDup m vm l).exportsOf k = vm.exportsOf k) ∧
    (addExportsIgnoringDup m vm l).modules.length = vm.modules.length ∧
    (((vm.exportsOf m).map (fun p => p.1)).Nodup →
      (((addExportsIgnoringDup m vm l).exportsOf m).map (fun p => p.1)).Nodup) ∧
    (∀ p, p ∈ l → p.1 ∈ ((addExportsIgnoringDup m vm l).exportsOf m).map (fun q => q.1)) ∧
    (∀ p, p ∈ (addExportsIgnoringDup m vm l).exportsOf m → p ∈ vm.exportsOf m ∨ p ∈ l) ∧
    (∀ p, p ∈ vm.exportsOf m → p ∈ (addExportsIgnoringDup m vm l).exportsOf m)
  | [], vm, _ => ⟨fun _ => rfl, fun _ _ => rfl, rfl, id, nofun, fun _ h => Or.inl h, fun _ h => h⟩
  | (n, v) :: r, vm, hm => by
    unfold addExportsIgnoringDup
    cases ha : vm.addExport m n v with
    | none =>
      obtain ⟨h1, h2, h3, h4, h5, h6, h7⟩ := addExportsIgnoringDup_effect m r vm hm
      refine ⟨h1, h2, h3, h4, fun p hp => ?_, fun p hp => (h6 p hp).imp_right (List.mem_cons_of_mem _), h7⟩
      rcases List.mem_cons.1 hp with rfl | hp
      · obtain ⟨q, hq, hqn⟩ := List.mem_map.1 ((addExport_eq_none_iff hm).1 ha)
        exact List.mem_map.2 ⟨q, h7 q hq, hqn⟩
      · exact h5 p hp
    | some vm1 =>
      obtain ⟨e1, e2, e3, _⟩ := exportsOf_addExport ha
      obtain ⟨h1, h2, h3, h4, h5, h6, h7⟩ := addExportsIgnoringDup_effect m r vm1 (by rw [addExport_length ha]; exact hm)
      refine ⟨fun k => (h1 k).trans (e3 k), fun k hk => (h2 k hk).trans (e2 k hk),
        h3.trans (addExport_length ha), fun hn => h4 (nodup_addExport ha hn), fun p hp => ?_, fun p hp => ?_,
        fun p hp => h7 p (by rw [e1]; exact List.mem_append_left _ hp)⟩
      · rcases List.mem_cons.1 hp with rfl | hp
        · exact List.mem_map.2 ⟨(n, v), h7 _ (by rw [e1]; simp), rfl⟩
        · exact h5 p hp
      · rcases h6 p hp with h | h
        · rw [e1] at h
          rcases List.mem_append.1 h with h | h
          · exact Or.inl h
          · exact Or.inr (by simpa using Or.inl (List.mem_singleton.1 h))
        · exact Or.inr (List.mem_cons_of_mem _ h)

end ZnVerif.Proofs.Modules
