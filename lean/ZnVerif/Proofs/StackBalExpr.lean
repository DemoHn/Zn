/-
Call-stack discipline: induction step for expressions, calls, constructors and declarations (`Fr .lit true`: the frames they start
from are left literally alone).  Expressions are walked by `fr_tac`; the three kinds of call are written out, because a call is
`pushFrame` followed by code that pops exactly that frame on a normal end (`Fr.push` over `FrIn`), which no rule of `fr_tac` covers.
`execFunction` is the one place where an outcome is converted (a runtime error of the body becomes an exception): `Fr.tryCatch`.
-/
import ZnVerif.Proofs.StackBalMutual

namespace ZnVerif.Proofs.StackBal
open ZnVerif.Model

variable {ν : Type} [NumOps ν]

theorem fr_evalExpr_succ (n : Nat) (ih : AllFr (ν := ν) n) (e : Expr) : Fr .lit true (evalExpr (ν := ν) (n+1) e) := by
  cases e <;> rw [Model.evalExpr] <;> fr_tac ih

theorem fr_memberIV_succ (n : Nat) (ih : AllFr (ν := ν) n) (e : Expr) : Fr .lit true (memberIV (ν := ν) (n+1) e) := by
  cases e <;> first | exact .ofQuiet .goPanic | (rw [Model.memberIV]; fr_tac ih)

theorem fr_execFunction_succ (n : Nat) (ih : AllFr (ν := ν) n) (f : FnRef) (t : Option Addr) (ps : List Addr) :
    Fr .stmt true (execFunction (ν := ν) (n+1) f t ps) := by
  cases f with
  | user exec =>
    rw [Model.execFunction]
    refine .tryCatch (ih.evalExecBlock exec ps) (fun r hr => ?_) (by recov_tac)
    split
    · exact .ofQuiet (by quiet_tac)
    · exact .ofQuiet (by quiet_tac)
    · exact .liftRes _ fun _ => hr rfl
  | display => rw [Model.execFunction]; fr_tac ih
  | _ => exact .ofQuiet .notModelled

theorem fr_execDirectFunction_succ (n : Nat) (ih : AllFr (ν := ν) n) (f : String) (ps : List Addr) :
    Fr .lit true (execDirectFunction (ν := ν) (n+1) f ps) := by
  refine .bind .quiet fun p => .push _ ?_
  refine .bind (R := .lit) .quiet fun c => ?_
  split
  · exact .bind (ih.execFunction _ _ _) fun _ => .pop _
  · exact .rtErr _

theorem fr_execMethodFunction_succ (n : Nat) (ih : AllFr (ν := ν) n) (r : Addr) (f : String) (ps : List Addr) :
    Fr .lit true (execMethodFunction (ν := ν) (n+1) r f ps) := by
  refine .bind .quiet fun c => ?_
  split
  · refine .bind .quiet fun c => ?_
    split
    · refine .bind .quiet fun p => .push _ ?_
      split
      · refine .bind (R := .lit) .quiet fun c => ?_
        split
        · exact .bind (ih.execFunction _ _ _) fun _ => .pop _
        · exact .goPanic
      · exact .rtErr _
    · exact .quiet
  · exact .push _ (.bind (R := .lit) .quiet fun _ => .pop _)

theorem fr_construct_succ (n : Nat) (ih : AllFr (ν := ν) n) (c : Addr) (ps : List Addr) :
    Fr .lit true (construct (ν := ν) (n+1) c ps) := by
  refine .bind .quiet fun cc => ?_
  split
  · refine .bind (by fr_tac ih) fun props' => .bind .quiet fun inst => ?_
    split
    · exact .pure _
    · fr_tac ih
    · exact .push _ (.bind (ih.evalExecBlock _ _) fun _ => .pop _)
  · exact .quiet

theorem fr_evalClassDecl_succ (n : Nat) (ih : AllFr (ν := ν) n) (st : Stmt) :
    Fr .lit true (evalClassDecl (ν := ν) (n+1) st) := by
  cases st <;> first | exact .ofQuiet .goPanic | (rw [Model.evalClassDecl]; fr_tac ih)

end ZnVerif.Proofs.StackBal
