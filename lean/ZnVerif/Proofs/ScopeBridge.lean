/-
Helper lemmas that carry facts about the spec (`Proofs/ScopeSpec.lean`) over to the model through the
simulation (`Proofs/Scope.lean`), plus arithmetic of the bracketing conditions.  Core Lean only.
-/
import ZnVerif.Proofs.Scope
import ZnVerif.Proofs.ScopeSpec

namespace ZnVerif.Proofs.Scope
open ZnVerif.SymTab ZnVerif.Spec.Scopes ZnVerif.Proofs.ScopeSpec

variable {α : Type}

theorem finalDepth_shift (ops : List (Op α)) : ∀ (k k' d : Nat),
    finalDepth k ops = some k' → finalDepth (k + d) ops = some (k' + d) := by
  induction ops with
  | nil => intro k k' d h; cases h; rfl
  | cons op ops ih =>
    intro k k' d h
    cases op with
    | beginScope =>
      show finalDepth (k + d + 1) ops = _
      rw [Nat.add_right_comm]; exact ih (k + 1) k' d h
    | endScope =>
      cases k with
      | zero => cases h
      | succ k =>
        rw [Nat.add_right_comm]; exact ih k k' d h
    | _ => exact ih k k' d h

theorem finalDepth_append (a b : List (Op α)) : ∀ (d : Nat),
    finalDepth d (a ++ b) = (finalDepth d a).bind (fun d' => finalDepth d' b) := by
  induction a with
  | nil => intro d; rfl
  | cons op a ih =>
    intro d
    cases op with
    | endScope =>
      cases d with
      | zero => rfl
      | succ d => exact ih d
    | beginScope => exact ih (d + 1)
    | _ => exact ih d

theorem balanced_out {d : Nat} {ops : List (Op α)} (h : Balanced d ops) : ∃ d', finalDepth d ops = some d' :=
  Option.isSome_iff_exists.1 h

theorem extAtRoot_noExt (ops : List (Op α)) : ∀ (d : Nat), (∀ op ∈ ops, Op.isExt op = false) → extAtRoot d ops = true := by
  induction ops with
  | nil => intro d _; rfl
  | cons op ops ih =>
    intro d h
    have hrest := fun d => ih d (fun o ho => h o (List.mem_cons_of_mem _ ho))
    cases op with
    | declareExternal n v m => cases h _ (List.mem_cons_self ..)
    | _ => exact hrest _

theorem finalDepth_declOf (d : Nat) (name : String) (v : α) (c : Bool) (ops : List (Op α)) :
    finalDepth d (declOf name v c :: ops) = finalDepth d ops := by
  cases c <;> rfl

theorem isExt_declOf (name : String) (v : α) (c : Bool) : Op.isExt (declOf name v c) = false := by
  cases c <;> rfl

theorem step_err_unchanged {σ σ' : Scope α} {op : Op α} {c : Nat} (h : σ.step op = .ok (σ', .err c)) : σ' = σ := by
  have hofErr : ∀ (x : GoRes (Scope α)), σ.ofErr x = .ok (σ', .err c) → σ' = σ := by
    intro x hx
    cases x <;> simp [Scope.ofErr] at hx
    exact hx.1.symm
  cases op with
  | beginScope => simp [Scope.step] at h
  | endScope => simp only [Scope.step] at h; cases he : σ.endScope <;> simp [he] at h
  | declare n v => exact hofErr _ h
  | declareConst n v => exact hofErr _ h
  | declareExternal n v m => exact hofErr _ h
  | assign n v => exact hofErr _ h
  | lookup n =>
    simp only [Scope.step] at h
    cases hg : σ.getValue n with
    | ok o => cases o <;> simp [hg] at h
    | err c => simp [hg] at h
    | panic => simp [hg] at h
  | lookupM n =>
    simp only [Scope.step] at h
    cases hg : σ.getValueWithModuleID n with
    | ok o => obtain ⟨o1, o2⟩ := o; cases o1 <;> simp [hg] at h
    | err c => simp [hg] at h
    | panic => simp [hg] at h

/-- what the corollaries of C06 go through: a body bracketed relative to depth 0, run from a scope at any depth `d` -/
theorem run_transfer {σ : Scope α} {d : Nat} (h : Sim σ d) (ops : List (Op α)) (k' : Nat)
    (hfd : finalDepth 0 ops = some k') (hne : ∀ op ∈ ops, Op.isExt op = false) :
    ∃ σ' rs, σ.run ops = .ok (σ', rs) ∧ Sim σ' (k' + d) ∧ run (abs σ) ops = some (abs σ', rs) := by
  have := finalDepth_shift ops 0 k' d hfd
  rw [Nat.zero_add] at this
  exact run_sim ops σ d (k' + d) h this (extAtRoot_noExt ops d hne)

def lookRes : Option (Binding α) → Res α
  | none => .undefined
  | some b => .val b.value

theorem spec_lookup (st : Stack α) (n : String) : step st (.lookup n) = some (st, lookRes (lookupB st n)) := by
  simp only [step]; cases lookupB st n <;> rfl

theorem model_lookup {σ : Scope α} {d : Nat} (h : Sim σ d) (n : String) :
    σ.step (.lookup n) = .ok (σ, lookRes (lookupB (abs σ) n)) := by
  obtain ⟨r, h1, h2⟩ := sim_lookup h n
  rw [spec_lookup] at h2
  simp only [Option.some.injEq, Prod.mk.injEq, true_and] at h2
  rw [h1, h2]

theorem model_step_err {σ : Scope α} {d : Nat} (h : Sim σ d) (op : Op α) (hok : opOK d op) (st : Stack α) (c : Nat)
    (hs : step (abs σ) op = some (st, .err c)) : σ.step op = .ok (σ, .err c) := by
  obtain ⟨σ', r, h1, _, h2⟩ := step_sim h op hok
  rw [hs] at h2
  simp only [Option.some.injEq, Prod.mk.injEq] at h2
  rw [← h2.2] at h1
  rw [h1, step_err_unchanged h1]

theorem abs_new : abs (Scope.new : Scope α) = initial := rfl

theorem opOK_declOf (d : Nat) (name : String) (v : α) (c : Bool) : opOK d (declOf name v c) := by
  cases c <;> exact True.intro

end ZnVerif.Proofs.Scope
