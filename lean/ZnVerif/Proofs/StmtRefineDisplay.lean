/-
C02 refinement: the display call `（显示：…）` — `execDirectFunction` on the global 显示 pushes a native
frame, emits the joined `display` strings, allocates 空, pops the frame; the spec emits the joined `showV`.
-/
import ZnVerif.Proofs.StmtRefineSimple

set_option linter.unusedSectionVars false

namespace ZnVerif.Proofs
open ZnVerif.Model ZnVerif.Spec StmtNodes EvalArms

variable {ν : Type} [NumOps ν]
variable {ω : Addr → Option (SVal ν)} {mid D : Int} {ds : List Int} {s : VM ν} {σ : SState ν}

/-- the state after `pushFrame fr` -/
def pushS (fr : Model.Frame) (s : VM ν) : VM ν :=
  match getScope fr.moduleId { s with stack := fr :: s.stack, csModuleID := fr.moduleId } with
  | some _ => { s with stack := fr :: s.stack, csModuleID := fr.moduleId }
  | none => putScope fr.moduleId {} { s with stack := fr :: s.stack, csModuleID := fr.moduleId }

theorem pushFrame_eq (fr : Model.Frame) (s : VM ν) : pushFrame fr s = (.ok (), pushS fr s) := by rfl

theorem pushS_fields (fr : Model.Frame) (s : VM ν) :
    (pushS fr s).heap = s.heap ∧ (pushS fr s).globals = s.globals ∧ (pushS fr s).stack = fr :: s.stack ∧
    (pushS fr s).out = s.out := by
  have h := Calls.pushFrame_state fr s
  rw [pushFrame_eq] at h
  exact ⟨(congrArg VM.heap h :), (congrArg VM.globals h :), (congrArg VM.stack h :), (congrArg VM.out h :)⟩

theorem getScope_congr (s s' : VM ν) (h : s'.scopes = s.scopes) (m : Int) : getScope m s' = getScope m s := by
  simp only [getScope, h]

/-- the frame `execDirectFunction` pushes for a call of a predefined function (module −1, call type 2, no `this`) -/
def nativeFr : Model.Frame := { moduleId := -1, callType := 2 }

/-- the final state of a display call from `s` that shows `line` -/
def shownS (line : String) (s : VM ν) : VM ν :=
  { pushS nativeFr s with
    heap := s.heap.push .null, out := line :: s.out, stack := s.stack, csModuleID := s.csModuleID }

/-- what `execFunction … .display` answers in the pushed frame, given the outcome `r` of displaying the arguments there:
the line is emitted and a fresh 空 answered, or `r`'s failure is handed on -/
def execOut (s : VM ν) : Res (List String) → Res Addr × VM ν
  | .ok strs => (.ok s.heap.size, { pushS nativeFr s with
          heap := s.heap.push .null, out := Model.joinWith " " strs :: s.out })
  | .fuel => (.fuel, pushS nativeFr s)
  | .err e => (.err e, pushS nativeFr s)
  | .panic => (.panic, pushS nativeFr s)
  | .unmodelled => (.unmodelled, pushS nativeFr s)

/-- the same for the whole call: after a success the frame is popped again (`shownS`), a failure leaves it on the stack -/
def callOut (s : VM ν) : Res (List String) → Res Addr × VM ν
  | .ok strs => (.ok s.heap.size, shownS (Model.joinWith " " strs) s)
  | .fuel => (.fuel, pushS nativeFr s)
  | .err e => (.err e, pushS nativeFr s)
  | .panic => (.panic, pushS nativeFr s)
  | .unmodelled => (.unmodelled, pushS nativeFr s)

theorem display_call_enter (hst : StRel ω mid D ds s σ) (k : Nat) (vals : List Addr) :
    execDirectFunction (k+1) "显示" vals s =
      (do let r ← execFunction k .display none vals; popFrame; pure r) (pushS nativeFr s) := by
  obtain ⟨a, hg, hcell⟩ := hst.display
  have hfind : findElementWithModule "显示" s = (.ok (a, -1), s) := by
    simp only [findElementWithModule, Calls.M_bind_def, getVM, hg]; rfl
  have hcell' : (pushS nativeFr s).heap[a]? = some (.fn .display) := by rw [(pushS_fields nativeFr s).1]; exact hcell
  rw [execDirectFunction, Calls.M_bind_def, hfind]
  simp only []
  rw [Calls.M_bind_def, pushFrame_eq]
  exact Calls.getCell_bind _ hcell'

theorem display_call_gen (hst : StRel ω mid D ds s σ) (k : Nat) (vals : List Addr) (r : Res (List String))
    (hmap : vals.mapM (display k) (pushS nativeFr s) = (r, pushS nativeFr s)) :
    execDirectFunction (k+2) "显示" vals s = callOut s r := by
  obtain ⟨fr0, rest, hstack, hmod⟩ := hst.stack
  obtain ⟨f1, f2, f3, f4⟩ := pushS_fields nativeFr s
  have hexec : execFunction (k+1) .display none vals (pushS nativeFr s) = execOut s r := by
    simp only [execFunction]
    rw [Calls.M_bind_def, hmap]
    cases r <;> simp only [emit, modifyVM, Calls.M_bind_def, newNull, alloc, f1, f4, execOut]
  rw [display_call_enter hst, Calls.M_bind_def, hexec]
  cases r <;> simp only [execOut, callOut, Calls.M_bind_def, popFrame, f3, hstack, hmod, shownS] <;> rfl

theorem display_call_eq (hst : StRel ω mid D ds s σ) (j : Nat) {vals : List Addr} {args : List (SVal ν)}
    (hv : Forall2 (fun a v => contentW ω 1 s.heap a = some v) vals args) :
    execDirectFunction (j+3) "显示" vals s =
      (.ok s.heap.size, shownS (Model.joinWith " " (args.map (showV σ.objs 64))) s) := by
  obtain ⟨f1, f2, f3, f4⟩ := pushS_fields nativeFr s
  have hω' : ∀ a v, ω a = some v → isOpaque v = true →
      ∃ c, (pushS nativeFr s).heap[a]? = some c ∧ OpaqueShow c v := by
    rw [f1]; exact hst.ωok
  have hv' : Forall2 (fun a v => contentW ω 1 (pushS nativeFr s).heap a = some v) vals args := by
    rw [f1]; exact hv
  exact display_call_gen hst (j+1) vals _ (display_mapM j σ.objs hω' hv')

theorem display_call_two (hst : StRel ω mid D ds s σ) (vals : List Addr) :
    (vals = [] ∧ execDirectFunction 2 "显示" vals s = (.ok s.heap.size, shownS (Model.joinWith " " []) s)) ∨
    (execDirectFunction 2 "显示" vals s).1 = .fuel := by
  cases vals with
  | nil => exact .inl ⟨rfl, display_call_gen hst 0 [] (.ok []) rfl⟩
  | cons a rest =>
    refine .inr ?_
    have : (a :: rest).mapM (display (ν := ν) 0) (pushS nativeFr s) =
        (.fuel, pushS nativeFr s) := by
      rw [List.mapM_cons, Calls.M_bind_def]; rfl
    rw [display_call_gen hst 0 (a :: rest) .fuel this]; rfl

theorem display_call_one (hst : StRel ω mid D ds s σ) (vals : List Addr) : (execDirectFunction 1 "显示" vals s).1 = .fuel := by
  rw [display_call_enter hst]; rfl

/-- the call at any fuel: out of fuel (below three units, unless there is nothing to show), or the line is shown -/
theorem display_call (hst : StRel ω mid D ds s σ) (k : Nat) {vals : List Addr} {args : List (SVal ν)}
    (hv : Forall2 (fun a v => contentW ω 1 s.heap a = some v) vals args) :
    (execDirectFunction k "显示" vals s).1 = .fuel ∨
    execDirectFunction k "显示" vals s =
      (.ok s.heap.size, shownS (Model.joinWith " " (args.map (showV σ.objs 64))) s) := by
  match k with
  | 0 => exact .inl (by rw [Calls.execDirectFunction_zero]; rfl)
  | 1 => exact .inl (display_call_one hst vals)
  | 2 =>
    rcases display_call_two hst vals with ⟨rfl, h⟩ | h
    · cases hv; exact .inr h
    · exact .inl h
  | j+3 => exact .inr (display_call_eq hst j hv)

theorem shownS_fields (line : String) (s : VM ν) :
    (shownS line s).heap = s.heap.push .null ∧ (shownS line s).globals = s.globals ∧ (shownS line s).stack = s.stack ∧
    (shownS line s).csModuleID = s.csModuleID ∧ (shownS line s).out = line :: s.out ∧
    (shownS line s).scopes = (pushS nativeFr s).scopes :=
  ⟨rfl, (pushS_fields _ s).2.1, rfl, rfl, rfl, rfl⟩

theorem StRel.shown (h : StRel ω mid D ds s σ)
    (line : String) : StRel ω mid D ds (shownS line s) { σ with out := line :: σ.out } := by
  obtain ⟨f1, f2, f3, f4, f5, f6⟩ := shownS_fields line s
  have hle : HeapLe s.heap (shownS line s).heap := by rw [f1]; exact HeapLe.push _ _
  obtain ⟨sc, h1, h2, h3⟩ := h.scope
  refine h.transfer hle f2 f4 ⟨sc, ?_, h2, h3.heap hle⟩ (by rw [f3, f4]; exact h.stack) (by simp only [f5, h.out])
  rw [f4, getScope_congr _ _ f6]
  exact pushFrame_scope h1

theorem Inv.rebase {h0} (h : Inv ω mid D ds h0 s σ) : Inv ω mid D ds s.heap s σ :=
  ⟨h.1, HeapLe.refl _, h.2.2⟩

theorem Inv.trans {h0} {s s' : VM ν} {σ σ' : SState ν} (h : Inv ω mid D ds h0 s σ) (h' : Inv ω mid D ds s.heap s' σ') :
    Inv ω mid D ds h0 s' σ' := ⟨h'.1, h.2.1.trans h'.2.1, h'.2.2⟩

theorem simS_args {n m : Nat} (hle : m ≤ n) : ∀ (params : List Expr) (s : VM ν) (σ : SState ν),
    (∀ p ∈ params, PureExpr p ∧ TopScalar p) → Inv ω mid D ds s.heap s σ →
    SimS (fun s' σ' as vs => Inv ω mid D ds s.heap s' σ' ∧ Forall2 (fun a v => contentW ω 1 s'.heap a = some v) as vs) NoT NoB
      s σ (params.mapM (evalExpr n)) (params.mapM (evalE m))
  | [], s, σ, _, hinv => by rw [List.mapM_nil, List.mapM_nil]; exact simS_pure ⟨hinv, .nil⟩
  | p :: ps, s, σ, hp, hinv => by
    rw [List.mapM_cons, List.mapM_cons]
    refine simS_seq (simS_expr_top hinv hle (hp p List.mem_cons_self).1 (hp p List.mem_cons_self).2)
      fun s1 σ1 a v ⟨hi1, hc1⟩ => ?_
    refine simS_seq (simS_args hle ps s1 σ1 (fun q hq => hp q (List.mem_cons_of_mem _ hq)) hi1.rebase)
      fun s2 σ2 as vs ⟨hi2, hall⟩ => ?_
    exact simS_pure ⟨hi1.trans hi2, .cons (contentW_heap hi2.2.1 hc1) hall⟩

theorem sim_display {n m : Nat} {h0} (hle : m ≤ n) (ln : Nat) (nm : Ident) (params : List Expr)
    (hnm : nm.lit = "显示") (hp : ∀ p ∈ params, PureExpr p ∧ TopScalar p) (hinv : Inv ω mid D ds h0 s σ) :
    SSim ω mid D ds h0 s σ (evalStmt (n+1) (.expr (.call ln (some nm) params none)))
      (execS (m+1) (.expr (.call ln (some nm) params none))) := by
  rw [evalStmt_expr, execS_expr]
  refine sSim_line _ _ _ hinv fun s0 hinv0 => ?_
  cases m with
  | zero => exact simS_specFuel
  | succ m =>
  cases n with
  | zero => omega
  | succ n =>
  have hname : tryParseNumber (Model.strCps "显示") = .name := by decide
  have h1 : matchIDNameOpt (ν := ν) (some nm) = pure "显示" := by
    simp only [matchIDNameOpt, matchIDName, matchIDType, hnm, hname]; rfl
  have h2 : idNameOpt (ν := ν) (some nm) = pure "显示" := by
    have : Spec.strCps "显示" = Model.strCps "显示" := rfl
    simp only [idNameOpt, idName, classifyId, hnm, this, hname]; rfl
  rw [evalExpr_call, evalE_call, h1, h2, pure_bind, pure_bind]
  refine simS_seq (simS_args (Nat.le_of_succ_le_succ hle) params s0 σ hp hinv0.rebase)
    fun s1 σ1 vals args ⟨hi1, hall⟩ => ?_
  have hi1' := hinv0.trans hi1
  have hl : lookupName (ν := ν) "显示" σ1 = (.ok (.builtinFn "显示"), σ1) := by
    simp only [lookupName, predefVal]; rfl
  refine simS_right (m2' := fun σ => (.ok .null, { σ with out := Spec.joinWith " " (args.map (showV σ.objs 64)) :: σ.out }))
    (by rw [SM.bind_def, hl]; rfl) ?_
  rcases display_call hi1.1 n hall with hf | hcall
  · refine .inr (.inr (.inl ?_))
    rw [Calls.M_bind_def]
    generalize execDirectFunction n "显示" vals s1 = p at hf
    obtain ⟨r, s2⟩ := p
    simp only at hf; subst hf; rfl
  · -- the call has shown the line and answered the fresh 空 cell
    rw [joinWith_eq] at hcall
    obtain ⟨f1, _, f3, _, _, _⟩ := shownS_fields (Spec.joinWith " " (args.map (showV σ1.objs 64))) s1
    refine simS_intro (r := .ok s1.heap.size) (by rw [Calls.M_bind_def, hcall]; rfl) rfl
      (.inr (.inr (.inr (.ok ⟨hi1'.1.shown _, ?_, ?_, 1, ?_⟩))))
    · rw [f1]; exact hi1'.2.1.trans (HeapLe.push _ _)
    · rw [slot_of_stack f3]; exact hi1'.2.2
    · rw [f1]; exact contentW_push_new 0 s1.heap .null .null .null

end ZnVerif.Proofs
