/-
The evaluator's dictionary operations on a heap cell `.hm vals order`: what the statements about
读取 写入 移除, the properties and `D#k` / `D#k = v` are phrased with (`subOf`, `answerGet`, `DictClosed`, `KeysAt`,
`valueAt`), the 读取 chain below the receiver, and the equations of the three mutators 写入, 移除, `D#k = v` — each is the
evaluator's definition read on a dictionary cell.
-/
import ZnVerif.Proofs.BridgesDictRel
import ZnVerif.Proofs.BridgesLift
import ZnVerif.Proofs.Content

namespace ZnVerif.Proofs.Bridges
open ZnVerif ZnVerif.Model
open ZnVerif.Proofs.Calls (getCell_bind)

variable {ν : Type} [NumOps ν]

/-- lookup of `k` in the value at address `v`, as the 读取 chain does it: only a dictionary cell has keys -/
def subOf (s : VM ν) (v : Addr) (k : String) : Option Addr :=
  match s.heap[v]? with
  | some (.hm cv _) => lookup k cv
  | _ => none

/-- the answer of 读取: the receiver itself (no key), the value found, or a new 空 -/
def answerGet (a : Addr) : Containers.GetRes Addr → M ν Addr
  | .self => pure a
  | .val v => pure v
  | .null => newNull

/-- every value stored in a dictionary cell is an allocated address: what `WfHeap` (`CellOk (.hm …)`, Proofs/Builtins.lean) says of a
dictionary's entries, taken here as a hypothesis of its own -/
def DictClosed (s : VM ν) : Prop :=
  ∀ (v : Addr) (cv : List (String × Addr)) (co : List String), s.heap[v]? = some (Cell.hm cv co) →
    ∀ (k : String) (x : Addr), lookup k cv = some x → x < s.heap.size

abbrev KeysAt (s : VM ν) : List Addr → List String → Prop :=
  Forall2 (fun k key => s.heap[k]? = some (.str key))

theorem validateAll_keys {s : VM ν} : ∀ {ks keys}, KeysAt s ks keys → validateAll ks "string" s = (.ok (), s)
  | _, _, .nil => rfl
  | k :: ks, _ :: _, .cons hk rest => by
    have ih := validateAll_keys rest
    unfold validateAll at ih ⊢
    show (do validateOne k "string"; ks.forM fun a => validateOne a "string") s = _
    simp only [bind, validateOne_string hk]
    exact ih

theorem goGet_chain {s : VM ν} (a : Addr) (hcl : DictClosed s) : ∀ {ks keys}, KeysAt s ks keys →
    ∀ cur, cur < s.heap.size →
      builtinMethod.goGet cur ks s = answerGet a (Containers.chainRest (subOf s) cur keys) s
  | _, _, .nil, cur, _ => rfl
  | k :: ks, key :: keys, .cons hk rest, cur, hcur => by
    obtain ⟨c, hc⟩ : ∃ c, s.heap[cur]? = some c := ⟨s.heap[cur], by simp [hcur]⟩
    unfold builtinMethod.goGet Containers.chainRest subOf
    rw [getCell_bind _ hk, hc]
    refine (getCell_bind _ hc).trans ?_
    cases c with
    | hm cv co =>
      dsimp only
      cases hl : lookup key cv with
      | none => rfl
      | some v => exact goGet_chain a hcl rest v (hcl cur cv co hc key v hl)
    | _ => rfl

section ops
variable (n : Nat) (a : Addr) (vals : List (String × Addr)) (order : List String) (s : VM ν)

theorem bm_hm_set (k v : Addr) (key : String) (hc : s.heap[a]? = some (.hm vals order))
    (hk : s.heap[k]? = some (.str key)) :
    builtinMethod n a "写入" [k, v] s =
      (do validateExact [k, v] ["string", "any"]
          let v' ← dup n v
          setCell a (.hm (hmAppend vals order key v').1 (hmAppend vals order key v').2)
          pure v) s := by
  unfold builtinMethod
  rw [getCell_bind _ hc]
  exact bind_same_congr (validateExact_same _ _) fun _ => getCell_bind _ hk

theorem bm_hm_remove (k : Addr) (key : String) (hc : s.heap[a]? = some (.hm vals order))
    (hk : s.heap[k]? = some (.str key)) :
    builtinMethod n a "移除" [k] s =
      match lookup key vals with
      | some v => (.ok v, { s with heap := s.heap.set! a (.hm (assocErase key vals) (order.erase key)) })
      | none => newNull s := by
  have hv : (validateExact [k] ["string"] s).1 = .ok () := by
    simp [validateExact, bind, validateOne_string hk, pure]
  unfold builtinMethod
  rw [getCell_bind _ hc]
  refine (bind_same_ok (validateExact_same _ _) hv).trans ((getCell_bind _ hk).trans ?_)
  dsimp only
  cases lookup key vals with
  | none => rfl
  | some v => simp only [bind, setCell, lt_size_of_getElem? hc, if_true, pure]

/-- `D#k = v` (IV.ReduceLHS, IVTypeHashMap): `hmAppend`, nothing is copied here (the evaluator copied the right-hand
side before) -/
theorem lhs_hm (key : String) (idx : Int) (v : Addr) (hc : s.heap[a]? = some (.hm vals order)) :
    reduceLHS (2, a, key, idx) v s =
      setCell a (.hm (hmAppend vals order key v).1 (hmAppend vals order key v).2) s :=
  getCell_bind _ hc

/-- the value under a listed key (a missing one would be Go's nil element: a panic at the first use) -/
def valueAt (vals : List (String × Addr)) (k : String) : M ν Addr :=
  match lookup k vals with
  | some v => pure v
  | none => goPanic

theorem valueAt_mapM (vals : List (String × Addr)) (s : VM ν) : ∀ (ks : List String) (vs : List Addr),
    ks.map (fun k => lookup k vals) = vs.map some → List.mapM (valueAt vals) ks s = (.ok vs, s)
  | [], [], _ => by simp [pure]
  | [], _ :: _, h => by simp at h
  | _ :: _, [], h => by simp at h
  | k :: ks, v :: vs, h => by
    simp only [List.map_cons, List.cons.injEq] at h
    have ih := valueAt_mapM vals s ks vs h.2
    have hk : valueAt vals k s = (.ok v, s) := by unfold valueAt; rw [h.1]; rfl
    simp only [List.mapM_cons, bind, hk, ih, pure]

theorem bm_hm_set_ok (k v : Addr) (key : String) (r : Addr) (s' : VM ν)
    (hc : s.heap[a]? = some (.hm vals order)) (hk : s.heap[k]? = some (.str key))
    (h : builtinMethod n a "写入" [k, v] s = (.ok r, s')) :
    ∃ v' s1, dup n v s = (.ok v', s1) ∧ a < s1.heap.size ∧
      s' = { s1 with heap := s1.heap.set! a (.hm (hmAppend vals order key v').1 (hmAppend vals order key v').2) } ∧
      r = v := by
  rw [bm_hm_set n a vals order s k v key hc hk] at h
  obtain ⟨_, _, h⟩ := bind_same_ok_inv (validateExact_same _ _) h
  obtain ⟨v', s1, hd, h⟩ := Calls.bind_ok_inv h
  obtain ⟨_, s2, hs, h⟩ := Calls.bind_ok_inv h
  obtain ⟨hlt, rfl⟩ := setCell_ok_inv hs
  obtain ⟨rfl, rfl⟩ := pure_ok_inv h
  exact ⟨v', s1, hd, hlt, rfl, rfl⟩

end ops

end ZnVerif.Proofs.Bridges
