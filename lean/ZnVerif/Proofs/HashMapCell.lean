/-
`newHashMapCell` (value.NewHashMap: first occurrence fixes the place, last value wins) builds a
well-formed dictionary cell that reads as the spec's `foldl dictSet []` of the read pairs.
-/
import ZnVerif.Proofs.Content

namespace ZnVerif.Proofs
open ZnVerif.Model ZnVerif.Spec

variable {ν : Type}

theorem Forall2.imp_mem {α β} {R S : α → β → Prop} : ∀ {as bs}, (∀ a b, a ∈ as → R a b → S a b) →
    Forall2 R as bs → Forall2 S as bs
  | _, _, _, .nil => .nil
  | _, _, h, .cons r rest =>
    .cons (h _ _ (List.mem_cons_self) r) (Forall2.imp_mem (fun a b ha => h a b (List.mem_cons_of_mem _ ha)) rest)

theorem Forall2.map_left {α β γ} {S : γ → β → Prop} (f : α → γ) : ∀ {as bs},
    Forall2 (fun a b => S (f a) b) as bs → Forall2 S (as.map f) bs
  | _, _, .nil => .nil
  | _, _, .cons r rest => .cons r (Forall2.map_left f rest)

/-- the related pairs: same key, the cell's address reads as the value -/
abbrev PairRel (child : Addr → Option (SVal ν)) : String × Addr → String × SVal ν → Prop :=
  fun p p' => p.1 = p'.1 ∧ child p.2 = some p'.2

theorem Forall2.keys {child : Addr → Option (SVal ν)} : ∀ {vals acc}, Forall2 (PairRel child) vals acc →
    vals.map Prod.fst = acc.map Prod.fst
  | _, _, .nil => rfl
  | _, _, .cons r rest => by rw [List.map_cons, List.map_cons, r.1, rest.keys]

theorem lookup_none_iff_any {child : Addr → Option (SVal ν)} (key : String) {vals acc} (h : Forall2 (PairRel child) vals acc) :
    lookup key vals = none ↔ acc.any (·.1 == key) = false := by
  rw [lookup_eq_none_iff, h.keys, List.any_eq_false]
  simp only [List.mem_map, beq_iff_eq, not_exists, not_and]

theorem assocSet_rel {child : Addr → Option (SVal ν)} (key : String) (a : Addr) (v : SVal ν) (hav : child a = some v) :
    ∀ {vals acc}, Forall2 (PairRel child) vals acc → (vals.map Prod.fst).Nodup → lookup key vals ≠ none →
      Forall2 (PairRel child) (assocSet key a vals) (acc.map fun kv => if kv.1 == key then (key, v) else kv)
  | _, _, .nil, _, h => by simp [lookup] at h
  | (k, a0) :: vals, (k', v0) :: acc, .cons ⟨h1, h2⟩ rest, hnd, h => by
    simp only at h1; subst h1
    simp only [List.map_cons, List.nodup_cons] at hnd
    by_cases e : key = k
    · subst e
      simp only [assocSet, if_true, List.map_cons, beq_self_eq_true]
      refine .cons ⟨rfl, hav⟩ ?_
      -- no other entry has this key
      have : ∀ kv ∈ acc, (if (kv.1 == key) = true then (key, v) else kv) = kv := fun kv hkv => by
        have : kv.1 ≠ key := fun e => hnd.1 (by rw [rest.keys, ← e]; exact List.mem_map_of_mem hkv)
        simp [this]
      rw [List.map_congr_left this, List.map_id']
      exact rest
    · have e' : ¬ k = key := fun x => e x.symm
      simp only [lookup, e, if_false] at h
      have e'' : (k == key) = false := by simp [e']
      simp only [assocSet, e, if_false, List.map_cons, e'', Bool.false_eq_true]
      exact .cons ⟨rfl, h2⟩ (assocSet_rel key a v hav rest hnd.2 h)

/-- the invariant of the two folds: the cell side is a well-formed dictionary, entry by entry the spec's -/
structure HmInv (child : Addr → Option (SVal ν)) (st : List (String × Addr) × List String) (acc : List (String × SVal ν)) : Prop where
  wf : dictWF st.1 st.2
  rel : Forall2 (PairRel child) st.1 acc

theorem HmInv.step {child : Addr → Option (SVal ν)} {st acc} (h : HmInv child st acc) (p : String × Addr) (p' : String × SVal ν)
    (hp : PairRel child p p') : HmInv child (hmAppend st.1 st.2 p.1 p.2) (dictSet acc p'.1 p'.2) := by
  refine ⟨hmAppend_wf p.1 p.2 h.wf, ?_⟩
  obtain ⟨hk, hv⟩ := hp
  have hiff := lookup_none_iff_any p.1 h.rel
  unfold hmAppend dictSet
  cases hl : lookup p.1 st.1 with
  | some _ =>
    have hany : acc.any (·.1 == p'.1) = true := by
      rw [← hk]; cases hb : acc.any (·.1 == p.1) with
      | true => rfl
      | false => rw [hiff.2 hb] at hl; cases hl
    simp only [hany, if_true]
    rw [← hk]; exact assocSet_rel p.1 p.2 p'.2 hv h.rel (h.wf.1 ▸ h.wf.2) (by rw [hl]; simp)
  | none =>
    have hany : acc.any (·.1 == p'.1) = false := by rw [← hk]; exact hiff.1 hl
    simp only [hany, Bool.false_eq_true, if_false]
    exact h.rel.append (.cons ⟨hk, hv⟩ .nil)

theorem HmInv.fold {child : Addr → Option (SVal ν)} : ∀ {pairs pairs'}, Forall2 (PairRel child) pairs pairs' →
    ∀ {st acc}, HmInv child st acc →
    HmInv child (pairs.foldl (fun acc kv => hmAppend acc.1 acc.2 kv.1 kv.2) st)
      (pairs'.foldl (fun acc kv => dictSet acc kv.1 kv.2) acc)
  | _, _, .nil, _, _, h => h
  | _, _, .cons hp rest, _, _, h => HmInv.fold rest (h.step _ _ hp)

theorem newHashMapCell_layer (ω : Addr → Option (SVal ν)) (child : Addr → Option (SVal ν)) (a : Addr)
    (pairs : List (String × Addr)) (pairs' : List (String × SVal ν)) (h : Forall2 (PairRel child) pairs pairs') :
    Layer ω child a (newHashMapCell pairs) (.dict (pairs'.foldl (fun acc kv => dictSet acc kv.1 kv.2) [])) := by
  rw [newHashMapCell_eq_foldl]
  obtain ⟨⟨h1, h3⟩, h2⟩ := HmInv.fold h (st := ([], [])) (acc := []) ⟨⟨rfl, List.nodup_nil⟩, .nil⟩
  refine .hm h1.symm ?_
  rw [← h1]
  refine Forall2.map_left Prod.fst (h2.imp_mem fun p p' hmem ⟨hk, hv⟩ => ⟨hk.symm, p.2, ?_, hv⟩)
  exact Model.lookup_of_mem_nodup _ (h1 ▸ h3) p.1 p.2 hmem

end ZnVerif.Proofs
