/-
Helper lemmas for C11 (Properties/C11.lean): finite-map reads under permutation, the site loops, sorting a
permutation, dictionary equality on pure trees.  Core Lean only.
-/
import ZnVerif.Model.MapSites

namespace ZnVerif.Proofs.MapSites
open ZnVerif.Model.MapSites

variable {κ : Type} {α : Type} {β : Type} {σ : Type} {ε : Type} [DecidableEq κ]

-- so that concrete loop outcomes can be compared by `decide`
deriving instance DecidableEq for Except

theorem get?_some_mem {k : κ} {v : α} {m : GoMap κ α} (h : get? k m = some v) : (k, v) ∈ m := by
  fun_induction get? k m with
  | case1 => cases h
  | case2 v' rest => cases h; exact List.mem_cons_self
  | case3 k' v' rest hk ih => exact List.mem_cons_of_mem _ (ih h)

theorem get?_eq_none_iff {k : κ} {m : GoMap κ α} : get? k m = none ↔ k ∉ keys m := by
  fun_induction get? k m with
  | case1 => simp [keys]
  | case2 v' rest => simp [keys]
  | case3 k' v' rest hk ih =>
    have hk' : ¬ k = k' := fun h => hk h.symm
    simp only [ih, keys, List.map_cons, List.mem_cons, hk', false_or]

theorem mem_keys_of_get? {k : κ} {v : α} {m : GoMap κ α} (h : get? k m = some v) : k ∈ keys m := by
  have := get?_some_mem h
  exact List.mem_map.2 ⟨(k, v), this, rfl⟩

theorem get?_isSome_of_mem_keys {k : κ} {m : GoMap κ α} (h : k ∈ keys m) : ∃ v, get? k m = some v := by
  cases hg : get? k m with
  | none => exact absurd h (get?_eq_none_iff.1 hg)
  | some v => exact ⟨v, rfl⟩

omit [DecidableEq κ] in
theorem wf_cons {p : κ × α} {rest : GoMap κ α} (h : WF (p :: rest)) : p.1 ∉ keys rest ∧ WF rest := by
  simpa [WF, keys, List.nodup_cons] using h

theorem get?_of_mem {k : κ} {v : α} {m : GoMap κ α} (hwf : WF m) (h : (k, v) ∈ m) : get? k m = some v := by
  fun_induction get? k m with
  | case1 => cases h
  | case2 v' rest =>
    rcases List.mem_cons.1 h with heq | hmem
    · cases heq; rfl
    · exact absurd (List.mem_map.2 ⟨(k, v), hmem, rfl⟩) (wf_cons hwf).1
  | case3 k' v' rest hk ih =>
    rcases List.mem_cons.1 h with heq | hmem
    · cases heq; exact absurd rfl hk
    · exact ih (wf_cons hwf).2 hmem

omit [DecidableEq κ] in
theorem keys_perm {m es : GoMap κ α} (h : es.Perm m) : (keys es).Perm (keys m) := h.map _

omit [DecidableEq κ] in
theorem wf_of_perm {m es : GoMap κ α} (hm : WF m) (h : es.Perm m) : WF es :=
  ((keys_perm h).nodup_iff).2 hm

theorem get?_perm {m es : GoMap κ α} (hm : WF m) (h : es.Perm m) (k : κ) : get? k es = get? k m := by
  cases hg : get? k m with
  | none =>
    have : k ∉ keys m := get?_eq_none_iff.1 hg
    exact get?_eq_none_iff.2 (fun hk => this ((keys_perm h).mem_iff.1 hk))
  | some v =>
    exact get?_of_mem (wf_of_perm hm h) (h.mem_iff.2 (get?_some_mem hg))

theorem get?_filter_ne {k k' : κ} (hk : ¬ k = k') (m : GoMap κ α) :
    get? k' (m.filter (fun p => !decide (p.1 = k))) = get? k' m := by
  fun_induction get? k' m with
  | case1 => rfl
  | case2 v rest => simp [List.filter, get?, Ne.symm hk]
  | case3 k'' v rest h3 ih =>
    by_cases h2 : k'' = k
    · simpa [List.filter, h2] using ih
    · simpa [List.filter, h2, get?, h3] using ih

theorem get?_put (k k' : κ) (v : α) (m : GoMap κ α) :
    get? k' (put k v m) = if k = k' then some v else get? k' m := by
  unfold put
  by_cases hk : k = k'
  · simp [get?, hk]
  · simp only [get?, hk, if_false]
    exact get?_filter_ne hk m

/-- a loop over the entries of a map whose body touches, of the result, only the entry's own key: the result under a
key is decided by the entry the ranged map holds under that key (`F`), wherever in the yield sequence it comes -/
theorem get?_foldl (step : GoMap κ α → κ × α → GoMap κ α) (F : κ → α → Option α → Option α)
    (hstep : ∀ acc p k, get? k (step acc p) = if p.1 = k then F k p.2 (get? k acc) else get? k acc) (k : κ) :
    ∀ (es acc : GoMap κ α), WF es →
      get? k (es.foldl step acc) = match get? k es with
        | some e => F k e (get? k acc)
        | none => get? k acc
  | [], acc, _ => rfl
  | p :: rest, acc, hwf => by
    obtain ⟨hnot, hrest⟩ := wf_cons hwf
    obtain ⟨k', e'⟩ := p
    rw [List.foldl_cons, get?_foldl step F hstep k rest _ hrest, hstep]
    by_cases hk : k' = k
    · subst hk
      simp [get?_eq_none_iff.2 hnot, get?]
    · simp [get?, hk]

theorem newObject_get? (dup : α → α) (init es : GoMap κ α) (hwf : WF es) (k : κ) :
    get? k (newObject dup init es) = (get? k es).map (objValue dup init k) := by
  unfold newObject
  rw [get?_foldl _ (fun k e _ => some (objValue dup init k e)) (fun acc p k => ?_) k es [] hwf]
  · cases get? k es <;> rfl
  · rw [get?_put]; split <;> simp_all

theorem libraryCopy_get? (k : κ) (es m0 : GoMap κ α) (hwf : WF es) :
    get? k (libraryCopy m0 es) = match get? k m0 with | some v => some v | none => get? k es := by
  unfold libraryCopy
  rw [get?_foldl _ (fun _ v old => match old with | some v0 => some v0 | none => some v) (fun acc p k => ?_) k es m0 hwf]
  · cases get? k es <;> cases get? k m0 <;> rfl
  · unfold addExportValue
    by_cases hk : p.1 = k
    · subst hk; cases h0 : get? p.1 acc <;> simp [h0, get?_put]
    · cases h0 : get? p.1 acc <;> simp [hk, get?_put]

omit [DecidableEq κ] in
theorem mergeSort_perm_invariant {le : κ → κ → Bool} (ho : TotalOrder le) {l₁ l₂ : List κ} (h : l₁.Perm l₂) :
    l₁.mergeSort le = l₂.mergeSort le := by
  apply List.Perm.eq_of_pairwise (le := fun a b => le a b = true)
  · intro a b _ _ hab hba; exact ho.antisymm a b hab hba
  · exact List.pairwise_mergeSort ho.trans ho.total l₁
  · exact List.pairwise_mergeSort ho.trans ho.total l₂
  · exact (List.mergeSort_perm l₁ le).trans (h.trans (List.mergeSort_perm l₂ le).symm)

omit [DecidableEq κ] in
theorem keys_rangeOrder {m es₁ es₂ : GoMap κ α} (h₁ : RangeOrder m es₁) (h₂ : RangeOrder m es₂) :
    (keys es₁).Perm (keys es₂) :=
  (keys_perm h₁).trans (keys_perm h₂).symm

section Xeq
variable {ν : Type}

/-- the element loop over two lists of pairs: when every comparison answers on both sides with the same verdict, so do
the loops (they stop at the same place) -/
theorem allPairs_joint {rec rec' : PV ν → PV ν → Res} : ∀ (X Y : List (PV ν × PV ν)),
    (∀ p ∈ X, ∀ q ∈ Y, ∃ c, rec p.1 q.1 = .ok c ∧ rec' p.2 q.2 = .ok c) →
    ∃ c, allPairs rec (X.map (·.1)) (Y.map (·.1)) = .ok c ∧ allPairs rec' (X.map (·.2)) (Y.map (·.2)) = .ok c
  | [], _, _ => ⟨true, by simp [allPairs], by simp [allPairs]⟩
  | _ :: _, [], _ => ⟨true, rfl, rfl⟩
  | p :: X, q :: Y, h => by
    obtain ⟨c, h1, h2⟩ := h p List.mem_cons_self q List.mem_cons_self
    simp only [List.map_cons, allPairs, h1, h2]
    cases c
    · exact ⟨false, rfl, rfl⟩
    · exact allPairs_joint X Y fun p' hp q' hq => h p' (List.mem_cons_of_mem _ hp) q' (List.mem_cons_of_mem _ hq)

/-- the key loop when every comparison it can make answers: the verdict is "every listed key is there on the right and
compares equal" — a statement about the set of keys, not their order -/
theorem allKeys_eq_all {rec : PV ν → PV ν → Res} {lv rv : List (String × PV ν)} : ∀ ks : List String,
    (∀ k ∈ ks, ∃ a, get? k lv = some a ∧ ∀ b, get? k rv = some b → ∃ c, rec a b = .ok c) →
    allKeys rec lv rv ks = .ok (ks.all fun k =>
      match get? k rv, get? k lv with
      | some b, some a => rec a b == .ok true
      | _, _ => false)
  | [], _ => rfl
  | k :: ks, h => by
    obtain ⟨a, ha, hrec⟩ := h k List.mem_cons_self
    have ih := allKeys_eq_all ks fun k' hk' => h k' (List.mem_cons_of_mem _ hk')
    simp only [allKeys, List.all_cons, ha]
    cases hb : get? k rv with
    | none => rfl
    | some b =>
      obtain ⟨c, hc⟩ := hrec b hb
      cases c <;> simp [hc, ih]

theorem all_eq_of_same_mem {α : Type} {l l' : List α} {p p' : α → Bool} (hm : ∀ k, k ∈ l ↔ k ∈ l')
    (hp : ∀ k ∈ l, p k = p' k) : l.all p = l'.all p' := by
  rw [Bool.eq_iff_iff, List.all_eq_true, List.all_eq_true]
  exact ⟨fun h k hk => hp k ((hm k).2 hk) ▸ h k ((hm k).2 hk), fun h k hk => (hp k hk).symm ▸ h k ((hm k).1 hk)⟩

theorem length_eq_of_same_keys {lv lv' : List (String × PV ν)} (h : (keys lv).Nodup) (h' : (keys lv').Nodup)
    (hk : ∀ k, k ∈ keys lv ↔ k ∈ keys lv') : lv.length = lv'.length := by
  have := ((List.perm_ext_iff_of_nodup h h').2 hk).length_eq
  simpa [keys] using this

theorem sizeOf_lt_of_get? {k : String} {a : PV ν} {lv : List (String × PV ν)} (h : get? k lv = some a) :
    sizeOf a < sizeOf lv := by
  have := List.sizeOf_lt_of_mem (get?_some_mem h)
  simp only [Prod.mk.sizeOf_spec] at this
  omega

/-- on plain values with the same contents both comparisons finish — no error, no panic (`keyOrder` only names keys the
map holds), given fuel above the size of the left operand — and with the same verdict -/
theorem xeq_joint (eqν : ν → ν → Bool) : ∀ (n m : Nat) (l l' r r' : PV ν), Same l l' → Same r r' →
    sizeOf l < n → sizeOf l' < m → ∃ b, xeq eqν n l r = .ok b ∧ xeq eqν m l' r' = .ok b
  | 0, _, _, _, _, _, _, _, h, _ => by omega
  | _ + 1, 0, _, _, _, _, _, _, _, h => by omega
  | n + 1, m + 1, l, l', r, r', hl, hr, hn, hm => by
    cases hl with
    | null | num _ | str _ | bool _ => cases hr <;> exact ⟨_, rfl, rfl⟩
    | @arr xs xs' hlen hX =>
      cases hr with
      | @arr ys ys' hlen' hY =>
        simp only [PV.arr.sizeOf_spec] at hn hm
        simp only [xeq]
        by_cases hne : xs.length = ys.length
        · have hne' : xs'.length = ys'.length := by omega
          have := allPairs_joint (rec := xeq eqν n) (rec' := xeq eqν m) (xs.zip xs') (ys.zip ys') fun p hp q hq => by
            have h1 := List.sizeOf_lt_of_mem (List.of_mem_zip hp).1
            have h2 := List.sizeOf_lt_of_mem (List.of_mem_zip hp).2
            exact xeq_joint eqν n m p.1 p.2 q.1 q.2 (hX _ _ hp) (hY _ _ hq) (by omega) (by omega)
          rw [List.map_fst_zip (by omega), List.map_fst_zip (by omega), List.map_snd_zip (by omega),
            List.map_snd_zip (by omega)] at this
          simpa only [hne, hne', ne_eq, not_true, if_false] using this
        · have hne' : ¬ xs'.length = ys'.length := by omega
          exact ⟨false, by simp [hne], by simp [hne']⟩
      | _ => exact ⟨_, rfl, rfl⟩
    | @hm lv lv' lo lo' w w' hk hV =>
      cases hr with
      | @hm rv rv' ro ro' v v' hk' hV' =>
        simp only [PV.hm.sizeOf_spec] at hn hm
        simp only [xeq]
        have e1 := length_eq_of_same_keys w.1 w'.1 hk
        have e2 := length_eq_of_same_keys v.1 v'.1 hk'
        by_cases hne : lv.length = rv.length
        · have hne' : lv'.length = rv'.length := by omega
          simp only [hne, hne', ne_eq, not_true, if_false]
          -- the values under one key, on the four sides
          have joint : ∀ k a a' b b', get? k lv = some a → get? k lv' = some a' → get? k rv = some b →
              get? k rv' = some b' → ∃ c, xeq eqν n a b = .ok c ∧ xeq eqν m a' b' = .ok c := by
            intro k a a' b b' ha ha' hb hb'
            have h1 := sizeOf_lt_of_get? ha
            have h2 := sizeOf_lt_of_get? ha'
            exact xeq_joint eqν n m a a' b b' (hV k a a' ha ha') (hV' k b b' hb hb') (by omega) (by omega)
          have both : ∀ {k}, k ∈ lo → ∃ a a', get? k lv = some a ∧ get? k lv' = some a' := fun hkin =>
            have ⟨a, ha⟩ := get?_isSome_of_mem_keys ((w.2.2 _).1 hkin)
            have ⟨a', ha'⟩ := get?_isSome_of_mem_keys ((hk _).1 (mem_keys_of_get? ha))
            ⟨a, a', ha, ha'⟩
          have hlo : ∀ k, k ∈ lo ↔ k ∈ lo' := fun k => by rw [w.2.2, w'.2.2, hk]
          -- both key loops are `List.all` over their key lists (`allKeys_eq_all`): the same keys (`hlo`), the same verdict per key (`joint`)
          rw [allKeys_eq_all lo, allKeys_eq_all lo']
          · refine ⟨_, rfl, congrArg Res.ok (all_eq_of_same_mem hlo fun k hkin => ?_).symm⟩
            obtain ⟨a, a', ha, ha'⟩ := both hkin
            rw [ha, ha']
            cases hb : get? k rv with
            | none => rw [get?_eq_none_iff.2 fun h => get?_eq_none_iff.1 hb ((hk' k).2 h)]
            | some b =>
              obtain ⟨b', hb'⟩ := get?_isSome_of_mem_keys ((hk' k).1 (mem_keys_of_get? hb))
              obtain ⟨c, h1, h2⟩ := joint k a a' b b' ha ha' hb hb'
              simp only [hb', h1, h2]
          · intro k hkin
            obtain ⟨a, a', ha, ha'⟩ := both ((hlo k).2 hkin)
            refine ⟨a', ha', fun b' hb' => ?_⟩
            obtain ⟨b, hb⟩ := get?_isSome_of_mem_keys ((hk' k).2 (mem_keys_of_get? hb'))
            obtain ⟨c, _, h2⟩ := joint k a a' b b' ha ha' hb hb'
            exact ⟨c, h2⟩
          · intro k hkin
            obtain ⟨a, a', ha, ha'⟩ := both hkin
            refine ⟨a, ha, fun b hb => ?_⟩
            obtain ⟨b', hb'⟩ := get?_isSome_of_mem_keys ((hk' k).1 (mem_keys_of_get? hb))
            obtain ⟨c, h1, _⟩ := joint k a a' b b' ha ha' hb hb'
            exact ⟨c, h1⟩
        · have hne' : ¬ lv'.length = rv'.length := by omega
          exact ⟨false, by simp [hne], by simp [hne']⟩
      | _ => exact ⟨_, rfl, rfl⟩

end Xeq

end ZnVerif.Proofs.MapSites
