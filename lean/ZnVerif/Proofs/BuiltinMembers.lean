/-
C10: every built-in member of Model/Interp.lean is total on well-formed heaps — it never answers `panic`,
keeps the heap well-formed and hands back an address inside the heap.  Each `post_X` walks the model function `X` arm by arm, in
the order the arms are written (`split`, one bullet per arm); the rules `Hoare.arg1` / `.arg2` / `.num` / `.str` discard the
`goPanic` arms behind a validator.
-/
import ZnVerif.Proofs.Builtins
import ZnVerif.Proofs.InsertArray
set_option linter.unusedSectionVars false
set_option linter.unusedVariables false

namespace ZnVerif.Proofs.Builtins
open ZnVerif.Model

variable {ν : Type} [NumOps ν]

abbrev InHeap (r : Nat) (s : VM ν) : Prop := r < s.heap.size

theorem post_mapM_newStr {s : VM ν} (hs : HeapOk s.heap) {α : Type} (l : List α) (g : α → String) :
    Hoare WfHeap Pre s (fun bs s' => ∀ b ∈ bs, b < s'.heap.size) (l.mapM (fun x => (newStr (g x) : M ν Addr)) s) :=
  Hoare.mapM (P := fun b s => b < s.heap.size) lt_stable l s hs (fun x _ s' hs' _ => post_alloc hs' trivial)

theorem post_getProperty (n : Nat) {s : VM ν} {a : Nat} (name : String) (hs : HeapOk s.heap) (ha : a < s.heap.size) :
    Hoare WfHeap Pre s (fun r s' => r < s'.heap.size) (getProperty n a name s) := by
  obtain ⟨c, hc⟩ := get_of_lt_size ha
  have hok := hs a c hc
  -- one bullet per property name of the cell's type: a fresh scalar, a link of the cell (in the heap by `hok`), or an error
  unfold getProperty
  refine Hoare.getCell hc ?_
  cases c with
  | arr items =>
    dsimp only
    split
    · exact RO.post_bind hs (ro_display n hs ha) (fun t _ => post_alloc hs trivial)
    · cases items with
      | nil => exact post_alloc hs trivial
      | cons x rest => exact Hoare.pure hs (hok x (by simp))
    · cases hl : items.getLast? with
      | none => exact post_alloc hs trivial
      | some x => exact Hoare.pure hs (hok x (List.mem_of_getLast? hl))
    · exact post_alloc hs trivial
    · exact post_alloc hs trivial
    · exact post_alloc hs (c := .arr items.reverse) (fun x hx => hok x (List.mem_reverse.mp hx))
    · exact Hoare.err _ hs
  | hm vals order =>
    dsimp only
    split
    · exact post_alloc hs trivial
    · exact post_alloc hs trivial
    · exact Hoare.bind (post_mapM_newStr hs order id) (fun ks s1 hs1 _ hks => post_alloc hs1 (c := .arr ks) hks)
    · refine RO.post_bind hs (RO.mapM (P := fun v => v < s.heap.size) (fun k hk => ?_))
        (fun vs hvs => post_alloc hs (c := .arr vs) hvs)
      obtain ⟨v, hl, hv⟩ := hok.hm_get hk
      rw [hl]
      exact RO.pure hv
    · exact Hoare.err _ hs
  | num x =>
    dsimp only
    split
    · exact post_alloc hs trivial
    · exact post_alloc hs trivial
    · exact post_alloc hs trivial
    · exact Hoare.ite (fun _ => Hoare.err _ hs) (fun _ => post_alloc hs trivial)
    · exact Hoare.err _ hs
  | str t =>
    dsimp only
    split
    · exact post_alloc hs trivial
    · exact post_alloc hs trivial
    · exact post_alloc hs trivial
    · generalize TextOps.chars (textBytes t) = l
      exact Hoare.bind (post_mapM_newStr hs l bytesText) (fun cs s1 hs1 _ hcs => post_alloc hs1 (c := .arr cs) hcs)
    · exact Hoare.err _ hs
  | bool b =>
    dsimp only
    split
    · exact post_alloc hs trivial
    · exact Hoare.err _ hs
  | exc msg =>
    dsimp only
    split
    · exact post_alloc hs trivial
    · exact Hoare.err _ hs
  | obj cl props =>
    dsimp only
    split
    · exact Hoare.pure hs ha
    · cases hl : lookup name props with
      | none => exact Hoare.err _ hs
      | some v => exact Hoare.pure hs (hok.2 (name, v) (mem_of_lookup hl))
  | null => exact Hoare.err _ hs
  | fn f => exact Hoare.err _ hs
  | cls _ _ _ _ => exact Hoare.err _ hs

theorem post_setProperty {s : VM ν} {a v : Nat} (name : String) (hs : HeapOk s.heap) (ha : a < s.heap.size)
    (hv : v < s.heap.size) : Hoare WfHeap Ext s (fun _ _ => True) (setProperty a name v s) := by
  obtain ⟨c, hc⟩ := get_of_lt_size ha
  have hok := hs a c hc
  -- what is stored is the old cell with `v` in one place: its links are old links (`hok`) or `v`
  unfold setProperty
  refine Hoare.getCell hc ?_
  cases c with
  | arr items =>
    dsimp only
    split
    · cases items with
      | nil => exact post_setCell hs hc rfl (c := .arr [v]) (fun x hx => by simp at hx; subst hx; exact hv)
      | cons y rest =>
        refine post_setCell hs hc rfl (c := .arr (v :: rest)) (fun x hx => ?_)
        rcases List.mem_cons.mp hx with rfl | hx
        · exact hv
        · exact hok x (List.mem_cons_of_mem _ hx)
    · cases items with
      | nil => exact post_setCell hs hc rfl (c := .arr [v]) (fun x hx => by simp at hx; subst hx; exact hv)
      | cons y rest =>
        refine post_setCell hs hc rfl (c := .arr ((y :: rest).dropLast ++ [v])) (fun x hx => ?_)
        rcases List.mem_append.mp hx with hx | hx
        · exact hok x (List.dropLast_subset _ hx)
        · simp at hx; subst hx; exact hv
    · exact Hoare.err _ hs
  | obj cl props =>
    dsimp only
    cases hl : lookup name props with
    | none => exact Hoare.err _ hs
    | some old =>
      refine post_setCell hs hc rfl (c := .obj cl (assocSet name v props)) ⟨hok.1, fun p hp => ?_⟩
      rcases mem_assocSet hp with rfl | hp
      · exact hv
      · exact hok.2 p hp
  | num _ => exact Hoare.err _ hs
  | str _ => exact Hoare.err _ hs
  | bool _ => exact Hoare.err _ hs
  | null => exact Hoare.err _ hs
  | hm _ _ => exact Hoare.err _ hs
  | fn _ => exact Hoare.err _ hs
  | cls _ _ _ _ => exact Hoare.err _ hs
  | exc _ => exact Hoare.err _ hs

theorem idx_in_range {len : Nat} {ri : Int} (h : ¬ (ri < 0 ∨ ri ≥ (len : Int))) : ri.toNat < len := by
  omega

theorem post_reduceRHS (n : Nat) {s : VM ν} (kind : Nat) {root : Nat} (name : String) (idx : Int)
    (hs : HeapOk s.heap) (hr : root < s.heap.size) :
    Hoare WfHeap Pre s (fun r s' => r < s'.heap.size) (reduceRHS n (kind, root, name, idx) s) := by
  obtain ⟨c, hc⟩ := get_of_lt_size hr
  have hok := hs root c hc
  unfold reduceRHS
  dsimp only
  refine Hoare.ite (fun _ => ?_) (fun _ => Hoare.ite (fun _ => ?_) (fun _ => post_getProperty n name hs hr))
  · refine Hoare.getCell hc ?_
    cases c with
    | arr items =>
      refine Hoare.ite (fun _ => Hoare.err _ hs) (fun hcond => ?_)
      have hlt := idx_in_range hcond
      rw [List.getElem?_eq_getElem hlt]
      exact Hoare.pure hs (hok _ (List.getElem_mem hlt))
    | _ => exact Hoare.err _ hs
  · refine Hoare.getCell hc ?_
    cases c with
    | hm vals order =>
      dsimp only
      cases hl : lookup name vals with
      | none => exact Hoare.err _ hs
      | some v => exact Hoare.pure hs (hok.1 (name, v) (mem_of_lookup hl))
    | _ => exact Hoare.err _ hs

theorem post_reduceLHS {s : VM ν} (kind : Nat) {root v : Nat} (name : String) (idx : Int)
    (hs : HeapOk s.heap) (hr : root < s.heap.size) (hv : v < s.heap.size) :
    Hoare WfHeap Ext s (fun _ _ => True) (reduceLHS (kind, root, name, idx) v s) := by
  obtain ⟨c, hc⟩ := get_of_lt_size hr
  have hok := hs root c hc
  unfold reduceLHS
  dsimp only
  refine Hoare.ite (fun _ => ?_) (fun _ => Hoare.ite (fun _ => ?_) (fun _ => post_setProperty name hs hr hv))
  · refine Hoare.getCell hc ?_
    cases c with
    | arr items =>
      refine Hoare.ite (fun _ => Hoare.err _ hs) (fun _ => ?_)
      refine post_setCell hs hc rfl (c := .arr (items.set (idx - 1).toNat v)) (fun x hx => ?_)
      rcases List.mem_or_eq_of_mem_set hx with hx | rfl
      · exact hok x hx
      · exact hv
    | _ => exact Hoare.err _ hs
  · refine Hoare.getCell hc ?_
    cases c with
    | hm vals order => exact post_setCell hs hc rfl (hmAppend_ok (h := s.heap) hok name hv).cellOk
    | _ => exact Hoare.err _ hs

/-- a value that has passed the pattern `t` of a validator -/
def Passed (s : VM ν) (t : String) (x : Addr) : Prop := ∃ c, s.heap[x]? = some c ∧ typeMatches c t = true

theorem Passed.lt {s : VM ν} {t : String} {x : Addr} (h : Passed s t x) : x < s.heap.size :=
  let ⟨_, hc, _⟩ := h; lt_size_of_get hc

section args
variable {I : VM ν → Prop} {R : Heap ν → Heap ν → Prop} {β : Type} {s : VM ν} {Q : β → VM ν → Prop}

/-- one argument checked against `t`: `validateExact` has answered for every other number of arguments, that arm of the
    method is not reached -/
theorem Hoare.arg1 [RelOk R] {vals : List Addr} {t : String} {f : Addr → M ν β} {g : M ν β}
    (hs : I s) (hv : ∀ v ∈ vals, v < s.heap.size) (h : ∀ x, Passed s t x → Hoare I R s Q (f x s)) :
    Hoare I R s Q ((do validateExact vals [t]; match vals with | [x] => f x | _ => g) s) :=
  RO.post_bind hs (ro_validateExact _ hv) fun _ ⟨hl, hq⟩ => by
    match vals, hl with
    | [x], _ => exact h x (hq (x, t) (by simp))

theorem Hoare.arg2 [RelOk R] {vals : List Addr} {t u : String} {f : Addr → Addr → M ν β} {g : M ν β}
    (hs : I s) (hv : ∀ v ∈ vals, v < s.heap.size) (h : ∀ x y, Passed s t x → Passed s u y → Hoare I R s Q (f x y s)) :
    Hoare I R s Q ((do validateExact vals [t, u]; match vals with | [x, y] => f x y | _ => g) s) :=
  RO.post_bind hs (ro_validateExact _ hv) fun _ ⟨hl, hq⟩ => by
    match vals, hl with
    | [x, y], _ => exact h x y (hq (x, t) (by simp)) (hq (y, u) (by simp))

theorem tm_number {c : Cell ν} (h : typeMatches c "number" = true) : ∃ x, c = .num x := by
  cases c <;> first | exact ⟨_, rfl⟩ | cases h
theorem tm_string {c : Cell ν} (h : typeMatches c "string" = true) : ∃ x, c = .str x := by
  cases c <;> first | exact ⟨_, rfl⟩ | cases h
theorem tm_array {c : Cell ν} (h : typeMatches c "array" = true) : ∃ x, c = .arr x := by
  cases c <;> first | exact ⟨_, rfl⟩ | cases h

theorem Hoare.num {p : Addr} {f : ν → M ν β} {g : M ν β} (hp : Passed s "number" p) (h : ∀ x, Hoare I R s Q (f x s)) :
    Hoare I R s Q ((do match ← Model.getCell p with | .num x => f x | _ => g) s) := by
  obtain ⟨c, hc, htm⟩ := hp
  obtain ⟨x, rfl⟩ := tm_number htm
  exact .getCell hc (h x)

theorem Hoare.str {p : Addr} {f : String → M ν β} {g : M ν β} (hp : Passed s "string" p) (h : ∀ x, Hoare I R s Q (f x s)) :
    Hoare I R s Q ((do match ← Model.getCell p with | .str x => f x | _ => g) s) := by
  obtain ⟨c, hc, htm⟩ := hp
  obtain ⟨x, rfl⟩ := tm_string htm
  exact .getCell hc (h x)

end args

theorem insertArrayValue_ok (items : List Addr) (idx : Int) (x : Addr)
    (h : ¬ (idx < 0 ∧ (items.length : Int) + idx < 0)) :
    ∃ items', insertArrayValue items idx x = .ok items' ∧ ∀ y ∈ items', y ∈ items ∨ y = x :=
  ⟨_, Proofs.Bridges.insertArrayValue_eq_insertNth items idx x h, fun _ => Proofs.Containers.mem_insertNth⟩

theorem ro_goContains (n : Nat) {s : VM ν} {x : Nat} (hs : HeapOk s.heap) (hx : x < s.heap.size) :
    ∀ items : List Addr, (∀ i ∈ items, i < s.heap.size) → RO (builtinMethod.goContains n x items) s (fun _ => True) := by
  intro items
  induction items with
  | nil => intro _; unfold builtinMethod.goContains; exact RO.pure trivial
  | cons i rest ih =>
    intro hi
    unfold builtinMethod.goContains
    refine RO.bind (ro_compareXEQ n hs (hi i (by simp)) hx) (fun b _ => ?_)
    cases b
    · exact ih (fun j hj => hi j (by simp [hj]))
    · exact RO.pure trivial

theorem ro_goFind (n : Nat) {s : VM ν} {x : Nat} (hs : HeapOk s.heap) (hx : x < s.heap.size) :
    ∀ (items : List Addr) (k : Int), (∀ i ∈ items, i < s.heap.size) → RO (builtinMethod.goFind n x items k) s (fun _ => True) := by
  intro items
  induction items with
  | nil => intro k _; unfold builtinMethod.goFind; exact RO.pure trivial
  | cons i rest ih =>
    intro k hi
    unfold builtinMethod.goFind
    refine RO.bind (ro_compareXEQ n hs (hi i (by simp)) hx) (fun b _ => ?_)
    cases b
    · exact ih _ (fun j hj => hi j (by simp [hj]))
    · exact RO.pure trivial

theorem post_goGet {s : VM ν} (hs : HeapOk s.heap) :
    ∀ (vals : List Addr) (cur : Nat), cur < s.heap.size →
      (∀ v ∈ vals, ∃ c, s.heap[v]? = some c ∧ typeMatches c "string" = true) →
      Hoare WfHeap Pre s (fun r s' => r < s'.heap.size) (builtinMethod.goGet (ν := ν) cur vals s) := by
  intro vals
  induction vals with
  | nil => intro cur hcur _; unfold builtinMethod.goGet; exact Hoare.pure hs hcur
  | cons k rest ih =>
    intro cur hcur hv
    obtain ⟨ck, hck, htm⟩ := hv k (by simp)
    obtain ⟨key, rfl⟩ := tm_string htm
    obtain ⟨cc, hcc⟩ := get_of_lt_size hcur
    have hok := hs cur cc hcc
    unfold builtinMethod.goGet
    refine Hoare.getCell hck ?_
    dsimp only
    refine Hoare.getCell hcc ?_
    cases cc with
    | hm cv co =>
      dsimp only
      cases hl : lookup key cv with
      | none => exact post_alloc hs trivial
      | some v => exact ih v (hok.1 (key, v) (mem_of_lookup hl)) (fun w hw => hv w (by simp [hw]))
    | _ => exact post_alloc hs trivial

theorem ro_goArith {s : VM ν} (op : ν → ν → ν) (cz : Bool) :
    ∀ (vals : List Addr) (acc : ν), (∀ v ∈ vals, ∃ c, s.heap[v]? = some c ∧ typeMatches c "number" = true) →
      RO (builtinMethod.goArith op cz acc vals) s (fun _ => True) := by
  intro vals
  induction vals with
  | nil => intro acc _; unfold builtinMethod.goArith; exact RO.pure trivial
  | cons v rest ih =>
    intro acc hv
    obtain ⟨c, hc, htm⟩ := hv v (by simp)
    obtain ⟨y, rfl⟩ := tm_number htm
    unfold builtinMethod.goArith
    refine RO.getCell_bind hc ?_
    dsimp only
    split
    · exact RO.rtErr _
    · exact ih _ (fun w hw => hv w (by simp [hw]))

/-- the texts of validated text arguments, read back (拼接: as they are; 格式化: as bytes) -/
theorem ro_mapM_str {α : Type} (g : String → α) {s : VM ν} (l : List Addr)
    (h : ∀ v ∈ l, ∃ c, s.heap[v]? = some c ∧ typeMatches c "string" = true) :
    RO (l.mapM (fun i => (do match ← getCell i with | .str t => pure (g t) | _ => goPanic : M ν α))) s (fun _ => True) := by
  refine RO.closed.mapM (fun i hi => ?_)
  obtain ⟨c, hc, htm⟩ := h i hi
  obtain ⟨t, rfl⟩ := tm_string htm
  exact RO.getCell_bind hc (RO.pure trivial)

/-- `value.ThrowException`: a fresh 异常 value, then an exception signal — an error outcome, the heap has grown by one cell -/
theorem post_throwException {α : Type} {s : VM ν} {Q : α → VM ν → Prop} (hs : HeapOk s.heap) (msg : String) :
    Hoare WfHeap Pre s Q ((throwException msg : M ν α) s) := by
  exact Hoare.bind (post_alloc hs (c := .exc msg) trivial) (fun a s1 hs1 _ _ => Hoare.err _ hs1)

/-- the slice expression `ss[startIdx-1 : endIdx]` of `strExecSlice` is never out of range: for every text and every pair of
    `Int`s the model of 取样 answers a text or one of its two exceptions -/
theorem slice_ne_panic (b : List Nat) (i j : Int) : TextOps.slice b i j ≠ .error .panic := by
  -- an end index counted from the end of the text is inside the text as well
  have hen : j ≤ (TextOps.runes b).length →
      (if j < 0 then ((TextOps.runes b).length : Int) + j + 1 else j) ≤ (TextOps.runes b).length := by
    intro _; split <;> omega
  unfold TextOps.slice
  dsimp only
  generalize (if i < 0 then ((TextOps.runes b).length : Int) + i + 1 else i) = st
  generalize (if j < 0 then ((TextOps.runes b).length : Int) + j + 1 else j) = en at hen
  have ite_ne : ∀ {c : Prop} [Decidable c] {x y : Except TextOps.SliceErr (List Nat)},
      (c → x ≠ .error .panic) → (¬ c → y ≠ .error .panic) → (if c then x else y) ≠ .error .panic := by
    intro c _ x y hx hy; split
    · exact hx ‹_›
    · exact hy ‹_›
  refine ite_ne (fun _ => nofun) fun _ => ite_ne (fun _ => nofun) fun _ => ite_ne (fun _ => nofun) fun _ => ?_
  rw [if_pos ⟨by omega, by omega, hen (by omega)⟩]
  nofun

theorem assocErase_ok {h : Heap ν} {vals : List (String × Addr)} {order : List String} (hok : HmOk h vals order) (k : String) :
    CellOk h (.hm (assocErase k vals) (order.erase k)) := by
  obtain ⟨h1, h2, h3⟩ := hok
  refine ⟨fun p hp => h1 p (mem_assocErase hp), fun k2 hk2 => ?_, h3.erase k⟩
  have := (List.Nodup.mem_erase_iff h3).mp hk2
  rw [lookup_assocErase_of_ne this.1]
  exact h2 k2 this.2

theorem post_setRet {s : VM ν} (hs : HeapOk s.heap) {a r : Nat} {old c : Cell ν} (ha : s.heap[a]? = some old)
    (hold : (Leaf.sortOf old).mutable = true) (hc : CellOk s.heap c) (hr : r < s.heap.size) :
    Hoare WfHeap Ext s (fun r s' => r < s'.heap.size) ((do setCell a c; pure r : M ν Addr) s) :=
  Hoare.bind (post_setCell hs ha hold hc) fun _ s2 hs2 e2 _ => Hoare.pure hs2 (Nat.lt_of_lt_of_le hr e2.size)

theorem post_setItems {s : VM ν} (hs : HeapOk s.heap) {a : Nat} {items : List Addr} (hc : s.heap[a]? = some (.arr items))
    (l : List Addr) (hl : ∀ y ∈ l, y < s.heap.size) :
    Hoare WfHeap Ext s (fun r s' => r < s'.heap.size) ((do setCell a (.arr l); pure a : M ν Addr) s) :=
  post_setRet hs hc rfl (c := .arr l) hl (lt_size_of_get hc)

theorem post_builtinMethod (n : Nat) {s : VM ν} {a : Nat} (name : String) (vals : List Addr)
    (hs : HeapOk s.heap) (ha : a < s.heap.size) (hv : ∀ v ∈ vals, v < s.heap.size) :
    Hoare WfHeap Ext s (fun r s' => r < s'.heap.size) (builtinMethod n a name vals s) := by
  obtain ⟨c, hc⟩ := get_of_lt_size ha
  have hok := hs a c hc
  unfold builtinMethod
  refine Hoare.getCell hc ?_
  cases c with
  | arr items =>
    dsimp only
    split
    -- 新增 / 添加
    iterate 2
      · refine Hoare.arg2 hs hv fun x p hx hp => Hoare.num hp fun pv => ?_
        refine Hoare.ite (fun _ => Hoare.err _ hs) (fun hguard => ?_)
        refine Hoare.bind_pre (post_dup n hs hx.lt) (fun x' s1 hs1 pre1 hx' => ?_)
        obtain ⟨items', hins, hmem⟩ := insertArrayValue_ok items (NumOps.toInt pv) x' hguard
        rw [hins]
        dsimp only
        refine post_setItems hs1 (pre1 _ _ hc) items' (fun y hy => ?_)
        rcases hmem y hy with hy | rfl
        · exact Nat.lt_of_lt_of_le (hok y hy) pre1.size
        · exact hx'
    -- 前增
    · refine Hoare.arg1 hs hv fun x hx => ?_
      refine Hoare.bind_pre (post_dup n hs hx.lt) (fun x' s1 hs1 pre1 hx' => ?_)
      refine post_setItems hs1 (pre1 _ _ hc) (x' :: items) (fun y hy => ?_)
      rcases List.mem_cons.mp hy with rfl | hy
      · exact hx'
      · exact Nat.lt_of_lt_of_le (hok y hy) pre1.size
    -- 后增
    · refine Hoare.arg1 hs hv fun x hx => ?_
      refine Hoare.bind_pre (post_dup n hs hx.lt) (fun x' s1 hs1 pre1 hx' => ?_)
      refine post_setItems hs1 (pre1 _ _ hc) (items ++ [x']) (fun y hy => ?_)
      rcases List.mem_append.mp hy with hy | hy
      · exact Nat.lt_of_lt_of_le (hok y hy) pre1.size
      · simp at hy; subst hy; exact hx'
    -- 左移
    · cases items with
      | nil =>
        dsimp only
        exact Hoare.bind (post_setCell hs hc rfl (c := .arr []) (fun y hy => by cases hy))
          (fun _ s2 hs2 _ _ => .ofPre (post_alloc hs2 trivial))
      | cons x rest =>
        dsimp only
        exact post_setRet hs hc rfl (c := .arr rest) (fun y hy => hok y (List.mem_cons_of_mem _ hy)) (hok x (by simp))
    -- 右移
    · cases hl : items.getLast? with
      | none =>
        dsimp only
        exact Hoare.bind (post_setCell hs hc rfl (c := .arr []) (fun y hy => by cases hy))
          (fun _ s2 hs2 _ _ => .ofPre (post_alloc hs2 trivial))
      | some x =>
        dsimp only
        exact post_setRet hs hc rfl (c := .arr items.dropLast) (fun y hy => hok y (List.dropLast_subset _ hy))
          (hok x (List.mem_of_getLast? hl))
    -- 拼接
    · refine RO.post_bind hs (ro_validateAll "string" hok) (fun _ hitems => ?_)
      refine Hoare.arg1 hs hv fun c hc' => Hoare.str hc' fun sep => ?_
      exact RO.post_bind hs (ro_mapM_str id items hitems) (fun ss _ => .ofPre (post_alloc hs trivial))
    -- 合并 (the merged items are stored as copies)
    · refine RO.post_bind hs (ro_validateAll "array" hv) (fun _ hvals => ?_)
      refine Hoare.bind_pre (Hoare.mapM (P := fun (xs : List Addr) (s : VM ν) => ∀ y ∈ xs, y < s.heap.size)
        (fun xs s s' h p y hy => Nat.lt_of_lt_of_le (h y hy) p.size) vals s hs (fun v hvm s' hs' r' => ?_))
        (fun extra s1 hs1 pre1 hextra => ?_)
      · obtain ⟨cv, hcv, htm⟩ := hvals v hvm
        obtain ⟨xs, rfl⟩ := tm_array htm
        have hcv' := r' _ _ hcv
        refine Hoare.getCell hcv' ?_
        exact Hoare.mapM (P := fun b s => b < s.heap.size) lt_stable xs s' hs'
          (fun x hx s'' hs'' r'' => post_dup n hs'' (Nat.lt_of_lt_of_le (hs' v _ hcv' x hx) r''.size))
      · have hres : ∀ y ∈ items ++ extra.flatten, y < s1.heap.size := by
          intro y hy
          rcases List.mem_append.mp hy with hy | hy
          · exact Nat.lt_of_lt_of_le (hok y hy) pre1.size
          · obtain ⟨xs, hxs, hyx⟩ := List.mem_flatten.mp hy
            exact hextra xs hxs y hyx
        refine Hoare.bind (post_setCell hs1 (pre1 _ _ hc) rfl (c := .arr (items ++ extra.flatten)) hres) (fun _ s2 hs2 e2 _ => ?_)
        exact (post_alloc hs2 (c := .arr (items ++ extra.flatten)) (fun y hy => Nat.lt_of_lt_of_le (hres y hy) e2.size)).ofPre
    -- 包含
    · refine Hoare.arg1 hs hv fun x hx => ?_
      exact RO.post_bind hs (ro_goContains n hs hx.lt items hok) (fun b _ => .ofPre (post_alloc hs trivial))
    -- 寻找
    · refine Hoare.arg1 hs hv fun x hx => ?_
      exact RO.post_bind hs (ro_goFind n hs hx.lt items 0 hok) (fun k _ => .ofPre (post_alloc hs trivial))
    -- 交换
    · refine Hoare.arg2 hs hv fun p q ⟨cp, hcp, htp⟩ ⟨cq, hcq, htq⟩ => ?_
      obtain ⟨pv, rfl⟩ := tm_number htp
      obtain ⟨qv, rfl⟩ := tm_number htq
      refine Hoare.getCell hcp (Hoare.getCell hcq ?_)
      refine Hoare.ite (fun _ => Hoare.err _ hs) (fun h0 => Hoare.ite (fun _ => Hoare.err _ hs) (fun h1 => ?_))
      have l0 := idx_in_range h0
      have l1 := idx_in_range h1
      rw [List.getElem?_eq_getElem l0, List.getElem?_eq_getElem l1]
      dsimp only
      refine post_setItems hs hc _ (fun y hy => ?_)
      rcases List.mem_or_eq_of_mem_set hy with hy | rfl
      · rcases List.mem_or_eq_of_mem_set hy with hy | rfl
        · exact hok y hy
        · exact hok _ (List.getElem_mem l1)
      · exact hok _ (List.getElem_mem l0)
    · exact Hoare.err _ hs
  | hm vals' order =>
    dsimp only
    split
    -- 读取
    · refine RO.post_bind hs (ro_validateAll "string" hv) (fun _ hvals => ?_)
      exact (post_goGet hs vals a ha hvals).ofPre
    -- 写入
    · refine Hoare.arg2 hs hv fun k v hk hv0 => Hoare.str hk fun key => ?_
      refine Hoare.bind_pre (post_dup n hs hv0.lt) (fun v' s1 hs1 pre1 hv' => ?_)
      have hok1 : HmOk s1.heap vals' order := CellOk.mono pre1.ext (c := .hm vals' order) hok
      exact post_setRet hs1 (pre1 _ _ hc) rfl (hmAppend_ok hok1 key hv').cellOk (Nat.lt_of_lt_of_le hv0.lt pre1.size)
    -- 移除
    · refine Hoare.arg1 hs hv fun k hk => Hoare.str hk fun key => ?_
      cases hl : lookup key vals' with
      | none => exact .ofPre (post_alloc hs trivial)
      | some v =>
        dsimp only
        exact post_setRet hs hc rfl (assocErase_ok hok key) (hok.1 (key, v) (mem_of_lookup hl))
    · exact Hoare.err _ hs
  | num x =>
    dsimp only
    split
    -- 加 减 乘 除
    iterate 4
      · refine RO.post_bind hs (ro_validateAll "number" hv) (fun _ hvals => ?_)
        exact RO.post_bind hs (ro_goArith _ _ vals x hvals) (fun r _ => .ofPre (post_alloc hs trivial))
    -- 自增 自减
    iterate 2
      · refine Hoare.arg1 hs hv fun v hv0 => Hoare.num hv0 fun y => ?_
        exact post_setRet hs hc rfl (c := .num _) trivial ha
    · exact .ofPre (post_alloc hs trivial)
    · exact .ofPre (post_alloc hs trivial)
    · exact Hoare.err _ hs
  | str t =>
    dsimp only
    split
    -- 拼接
    · refine RO.post_bind hs (ro_validateAll "string" hv) (fun _ hvals => ?_)
      exact RO.post_bind hs (ro_mapM_str id vals hvals) (fun ss _ => .ofPre (post_alloc hs trivial))
    -- 匹配 匹配开头 匹配结尾
    iterate 3
      · exact Hoare.arg1 hs hv fun v hv0 => Hoare.str hv0 fun y => .ofPre (post_alloc hs trivial)
    -- 替换
    · refine Hoare.arg2 hs hv fun p q ⟨cp, hcp, htp⟩ ⟨cq, hcq, htq⟩ => ?_
      obtain ⟨o, rfl⟩ := tm_string htp
      obtain ⟨nw, rfl⟩ := tm_string htq
      exact Hoare.getCell hcp (Hoare.getCell hcq (.ofPre (post_alloc hs trivial)))
    -- 分隔
    · refine Hoare.arg1 hs hv fun v hv0 => Hoare.str hv0 fun y => ?_
      -- with the split text left in the goal, `exact` has the unifier evaluate `TextOps.split`
      generalize TextOps.split (textBytes t) (textBytes y) = l
      exact (Hoare.bind (post_mapM_newStr hs l bytesText) (fun cs s1 hs1 _ hcs => post_alloc hs1 (c := .arr cs) hcs)).ofPre
    -- 取样
    · refine Hoare.arg2 hs hv fun p q ⟨cp, hcp, htp⟩ ⟨cq, hcq, htq⟩ => ?_
      obtain ⟨pv, rfl⟩ := tm_number htp
      obtain ⟨qv, rfl⟩ := tm_number htq
      refine Hoare.getCell hcp (Hoare.getCell hcq ?_)
      dsimp only
      cases hsl : TextOps.slice (textBytes t) (NumOps.toInt pv) (NumOps.toInt qv) with
      | ok r => exact .ofPre (post_alloc hs trivial)
      | error e =>
        cases e with
        | startIndex => exact (post_throwException hs _).ofPre
        | endIndex => exact (post_throwException hs _).ofPre
        | panic => exact absurd hsl (slice_ne_panic _ _ _)
    -- 去除空格
    · exact .ofPre (post_alloc hs trivial)
    -- 转小写-英文 转大写-英文
    · cases TextOps.toLower (textBytes t) with
      | some r => exact .ofPre (post_alloc hs trivial)
      | none => exact Hoare.notModelled hs
    · cases TextOps.toUpper (textBytes t) with
      | some r => exact .ofPre (post_alloc hs trivial)
      | none => exact Hoare.notModelled hs
    -- 格式化
    · refine RO.post_bind hs (ro_validateAll "string" hv) (fun _ hvals => ?_)
      exact RO.post_bind hs (ro_mapM_str textBytes vals hvals) (fun ss _ => .ofPre (post_alloc hs trivial))
    -- 转换数值: the receiver is overwritten by a text, then a number, an exception, or not modelled
    · refine Hoare.bind (post_setCell hs hc rfl (c := .str _) trivial) (fun _ s2 hs2 e2 _ => ?_)
      cases TextOps.atofClass (TextOps.atoiRewrite (textBytes t)) with
      | number => exact .ofPre (post_alloc hs2 trivial)
      | syntaxErr => exact (post_throwException hs2 _).ofPre
      | special => exact Hoare.notModelled hs2
    · exact Hoare.err _ hs
  | bool _ => exact Hoare.err _ hs
  | null => exact Hoare.err _ hs
  | obj _ _ => exact Hoare.err _ hs
  | fn _ => exact Hoare.err _ hs
  | cls _ _ _ _ => exact Hoare.err _ hs
  | exc _ => exact Hoare.err _ hs

/-- the defaults of a type's properties, copied one by one (`ClassModel.Construct`, `NewObject`) -/
theorem post_copyProps (n : Nat) {s : VM ν} (hs : HeapOk s.heap) (props : List (String × Addr))
    (hp : ∀ p ∈ props, p.2 < s.heap.size) :
    Hoare WfHeap Pre s (fun ps s' => ∀ p ∈ ps, p.2 < s'.heap.size)
      (props.mapM (fun p => (do let v ← dup n p.2; pure (p.1, v) : M ν (String × Addr))) s) :=
  Hoare.mapM (P := fun (b : String × Addr) s => b.2 < s.heap.size) (fun b s s' h p => Nat.lt_of_lt_of_le h p.size) props s hs
    fun p hpm s' hs' r' =>
      Hoare.bind (post_dup n hs' (Nat.lt_of_lt_of_le (hp p hpm) r'.size)) fun v s2 hs2 _ hv => Hoare.pure hs2 hv

end ZnVerif.Proofs.Builtins
