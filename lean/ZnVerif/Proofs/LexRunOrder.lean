/-
C03 at character level: the tokens of a `Run`, its comments dropped as the parser drops them, come in reading order against the run's
layout (`run_inOrder_clean`: `Layout.InOrder`, the hypothesis of `parse_statements_roundtrip`; `run_inOrder` for a run without comments) —
each token lies on the last line known when it is read, and the table only grows.
-/
import ZnVerif.Proofs.LexSimBase
import ZnVerif.Proofs.CmtSimBase

namespace ZnVerif.Proofs.LexSim
open ZnVerif.Model ZnVerif.Generated.Tokens
open ZnVerif.Spec.StmtSyntax ZnVerif.Proofs.LexRun

variable {Y : Layout} (R : Run Y)

theorem sl_tk (i : Nat) : Y.sl (R.tk i) = R.sline i := (known_start R (Nat.le_refl i) 0 (Nat.zero_le _)).2

theorem el_tk (i : Nat) : Y.el (R.tk i) = nl R i - 1 := (known_end R (Nat.le_refl i) 0 (Nat.zero_le _)).2

theorem sline_mono {i i' : Nat} (h : i < i') : R.sline i ≤ R.sline i' := by
  have h1 := R.sline_lt i
  have h2 := sline_ge' R h
  unfold nl at h2
  omega

open ZnVerif.Proofs.CmtSim (clean clean_cons_comment clean_cons_other clean_of_no_comment)

theorem peek_clean_rest : ∀ (n i : Nat), R.N - i = n → ∃ i', i ≤ i' ∧ Y.peek (clean (rest R i)) = R.tk i' := by
  intro n
  induction n with
  | zero =>
    intro i h
    refine ⟨i, Nat.le_refl _, ?_⟩
    rw [rest_ge R (by omega), R.eof i (by omega)]; rfl
  | succ n ih =>
    intro i h
    have hi : i < R.N := by omega
    rw [rest_lt R hi]
    by_cases hc : (R.tk i).type = cTypeComment
    · rw [clean_cons_comment hc]
      obtain ⟨i', h1, h2⟩ := ih (i + 1) (by omega)
      exact ⟨i', by omega, h2⟩
    · rw [clean_cons_other hc]
      exact ⟨i, Nat.le_refl _, rfl⟩

theorem clean_rest_inOrder : ∀ (n i : Nat), R.N - i = n → Y.InOrder (clean (rest R i)) := by
  intro n
  induction n with
  | zero => intro i h; rw [rest_ge R (by omega)]; trivial
  | succ n ih =>
    intro i h
    have hi : i < R.N := by omega
    rw [rest_lt R hi]
    by_cases hc : (R.tk i).type = cTypeComment
    · rw [clean_cons_comment hc]; exact ih (i + 1) (by omega)
    · rw [clean_cons_other hc]
      obtain ⟨i', h1, h2⟩ := peek_clean_rest R (R.N - (i + 1)) (i + 1) rfl
      refine ⟨hc, ?_, ?_, ih (i + 1) (by omega)⟩
      · rw [h2, sl_tk, sl_tk]
        exact sline_mono R (by omega)
      · rw [h2, el_tk, el_tk]
        have := nl_mono R (show i ≤ i' by omega)
        omega

theorem run_inOrder_clean : Y.InOrder (clean R.toks) := by
  rw [← rest_zero R]
  exact clean_rest_inOrder R R.N 0 rfl

theorem run_inOrder (hnc : ∀ j, j < R.N → (R.tk j).type ≠ cTypeComment) : Y.InOrder R.toks := by
  have h := run_inOrder_clean R
  rwa [clean_of_no_comment] at h
  intro t ht
  obtain ⟨j, hj, rfl⟩ := List.mem_map.mp ht
  exact hnc j (List.mem_range.mp hj)

end ZnVerif.Proofs.LexSim
