/-
C14, the remaining text methods: the byte-level models of Model/TextMethods.lean on the UTF-8 encoding of a text of
Unicode scalar values compute the encoding of what the character-level specs of Spec/TextMethods.lean say.
Built on Proofs/TextUtf8.lean (decoding an encoding), Proofs/TextScan.lean (what a left-to-right scanner sees) and
Proofs/TextOps.lean (an encoded pattern is found at character boundaries only).
-/
import ZnVerif.Proofs.TextOps

namespace ZnVerif.Proofs.TextMethods
open ZnVerif.Model ZnVerif.Spec
open ZnVerif.Proofs.TextUtf8 ZnVerif.Proofs.TextOps ZnVerif.Proofs.TextScan

theorem encode_injective {a b : List Nat} (ha : ValidText a) (hb : ValidText b)
    (h : Model.TextOps.encode a = Model.TextOps.encode b) : a = b := by
  rw [← runes_encode a ha, ← runes_encode b hb, h]

theorem encode_head {c : Nat} {t : List Nat} (hc : Model.TextOps.isScalar c = true) :
    ∃ b bs, Model.TextOps.encode (c :: t) = b :: bs ∧ Model.TextOps.isCont b = false := by
  obtain ⟨b, bs, hb, hb0, _⟩ := encodeRune_shape c hc
  exact ⟨b, bs ++ Model.TextOps.encode t, by rw [encode_cons, hb]; rfl, hb0⟩

/-- replacing = cutting at the pattern and joining with the replacement (for any lists: bytes or characters) -/
theorem join_splitOn_eq_replaceOn (pat rep : List Nat) : ∀ (s : List Nat) (skip : Nat) (cur : List Nat),
    Spec.TextOps.join rep (Spec.TextOps.splitOn pat skip cur s) = cur ++ Spec.TextOps.replaceOn pat rep skip s := by
  intro s
  induction s with
  | nil => intro skip cur; cases skip <;> simp [Spec.TextOps.splitOn, Spec.TextOps.replaceOn, Spec.TextOps.join]
  | cons b rest ih =>
    intro skip cur
    cases skip with
    | succ k => simp only [Spec.TextOps.splitOn, Spec.TextOps.replaceOn]; exact ih k cur
    | zero =>
      simp only [Spec.TextOps.splitOn, Spec.TextOps.replaceOn]
      split
      · rw [join_cons_ne rep cur _ (splitOn_ne_nil pat rest _ _), ih]
        simp
      · rw [ih]; simp

theorem replaceGo_eq_replaceOn (pat rep : List Nat) : ∀ (s : List Nat) (skip : Nat),
    Model.TextOps.replaceGo pat rep skip s = Spec.TextOps.replaceOn pat rep skip s := by
  intro s
  induction s with
  | nil => intro skip; cases skip <;> rfl
  | cons b rest ih =>
    intro skip
    cases skip with
    | succ k => simp only [Model.TextOps.replaceGo, Spec.TextOps.replaceOn]; exact ih k
    | zero =>
      simp only [Model.TextOps.replaceGo, Spec.TextOps.replaceOn]
      split
      · rw [ih]
      · rw [ih]

/-- `strings.ReplaceAll` on encoded texts = the spec's replacement, encoded -/
theorem replaceAll_encode (t pat rep : List Nat) (hvt : ValidText t) (hvp : ValidText pat) :
    Model.TextOps.replaceAll (Model.TextOps.encode t) (Model.TextOps.encode pat) (Model.TextOps.encode rep) =
      Model.TextOps.encode (Spec.TextOps.replaceAll t pat rep) := by
  unfold Model.TextOps.replaceAll Spec.TextOps.replaceAll
  by_cases hp : pat = []
  · subst hp
    simp only [encode_nil, if_true]
    rw [explode_encode t hvt, encode_append]
    congr 1
    clear hvt
    induction t with
    | nil => rfl
    | cons c t ih =>
      simp only [List.map_cons, List.flatten_cons, encode_append, encode_cons] at ih ⊢
      rw [ih]
  · rw [if_neg (encode_ne_nil hp), if_neg hp]
    have h1 := join_splitOn_eq_replaceOn (Model.TextOps.encode pat) (Model.TextOps.encode rep) (Model.TextOps.encode t) 0 []
    have h2 := join_splitOn_eq_replaceOn pat rep t 0 []
    simp only [List.nil_append] at h1 h2
    rw [replaceGo_eq_replaceOn, ← h1, ← h2, encode_join, ← splitGo_eq_splitOn]
    rw [splitGo_encode pat hp hvp t hvt]

theorem occursIn_nil (sub : List Nat) : Spec.TextOps.occursIn sub [] = sub.isPrefixOf [] := by
  simp [Spec.TextOps.occursIn]

theorem occursIn_cons (sub : List Nat) (c : Nat) (t : List Nat) :
    Spec.TextOps.occursIn sub (c :: t) = (sub.isPrefixOf (c :: t) || Spec.TextOps.occursIn sub t) := by
  unfold Spec.TextOps.occursIn
  rw [List.length_cons, List.range_succ_eq_map, List.any_cons, List.any_map]
  rfl

theorem occursIn_eq (sub : List Nat) : ∀ t, Spec.TextOps.occursIn sub t = Model.TextOps.containsGo sub t
  | [] => occursIn_nil sub
  | c :: t => by rw [occursIn_cons, occursIn_eq sub t]; rfl

/-- 匹配 is a search: a pattern occurs iff the scanner for it finds something (the empty pattern occurs everywhere) -/
theorem containsGo_found (sub : List Nat) : ∀ s : List Nat,
    Model.TextOps.containsGo sub s = (found (one sub) s || sub.isEmpty)
  | [] => by cases sub <;> rfl
  | b :: s => by
    rw [Model.TextOps.containsGo, found_cons, Bool.or_assoc, ← containsGo_found sub s, one]
    by_cases h : sub.isPrefixOf (b :: s) = true
    · rw [if_pos h, h]; rfl
    · rw [if_neg h, Bool.eq_false_iff.2 h]; rfl

theorem containsGo_encode (sub : List Nat) (hvs : ValidText sub) (t : List Nat) (hvt : ValidText t) :
    Model.TextOps.containsGo (Model.TextOps.encode sub) (Model.TextOps.encode t) = Spec.TextOps.occursIn sub t := by
  rw [occursIn_eq, containsGo_found, containsGo_found sub]
  by_cases hs : sub = []
  · rw [hs]; simp [encode_nil]
  · rw [found, tokens_one_encode hs hvs t hvt, any_isRight_encode (g := id), found, List.isEmpty_eq_false_iff.2 hs,
      List.isEmpty_eq_false_iff.2 (encode_ne_nil hs)]

/-- the whole rest is the pattern -/
def whole (pat s : List Nat) : Option (Nat × Unit) := if s = pat then some (pat.length, ()) else none

/-- 匹配结尾 is a search too: at some position the whole rest is the pattern -/
theorem isSuffixOf_found (sub : List Nat) : ∀ s : List Nat, sub.isSuffixOf s = (found (whole sub) s || sub.isEmpty)
  | [] => by cases sub <;> simp [found_nil]
  | b :: s => by
    rw [found_cons, Bool.or_assoc, ← isSuffixOf_found sub s, whole]
    apply Bool.eq_iff_iff.2
    rw [List.isSuffixOf_iff_suffix, List.suffix_cons_iff, Bool.or_eq_true, List.isSuffixOf_iff_suffix]
    by_cases h : b :: s = sub
    · simp [h]
    · simp [h, Ne.symm h]

/-- Go's `len(s) >= len(suffix) && s[len(s)-len(suffix):] == suffix` is the suffix test -/
theorem hasSuffix_eq (s sub : List Nat) : Model.TextOps.hasSuffix s sub = sub.isSuffixOf s := by
  apply Bool.eq_iff_iff.2
  rw [Model.TextOps.hasSuffix, List.isSuffixOf_iff_suffix, List.suffix_iff_eq_drop, Bool.and_eq_true, decide_eq_true_eq,
    beq_iff_eq]
  constructor
  · exact fun h => h.2.symm
  · intro h
    refine ⟨?_, h.symm⟩
    have := congrArg List.length h
    rw [List.length_drop] at this
    omega

theorem hasSuffix_encode (t sub : List Nat) (hvt : ValidText t) (hvs : ValidText sub) :
    Model.TextOps.hasSuffix (Model.TextOps.encode t) (Model.TextOps.encode sub) = Spec.TextOps.endsWith t sub := by
  rw [hasSuffix_eq, Spec.TextOps.endsWith, isSuffixOf_found, isSuffixOf_found sub]
  cases sub with
  | nil => simp [encode_nil]
  | cons s0 sub' =>
    obtain ⟨b0, bs, hb, hb0⟩ := encode_head (t := sub') ((validText_cons s0 sub').1 hvs).1
    congr 1
    · -- the encoded pattern starts with a lead byte, and encodings are equal only for equal texts
      have := tokens_encode (mb := whole (b0 :: bs)) (mc := whole (s0 :: sub')) id ?_ ?_ ?_ t hvt
      · rw [found, hb, this, any_isRight_encode, found]
      · intro x l hx
        rw [whole, if_neg]
        rintro ⟨⟩ ; rw [hx] at hb0; cases hb0
      · intro t hvt
        rw [whole, whole, ← hb]
        by_cases h : t = s0 :: sub'
        · rw [if_pos h, if_pos (by rw [h]), h, Option.map_some, List.take_length]
        · rw [if_neg h, if_neg (fun he => h (encode_injective hvt hvs he))]; rfl
      · intro t n v h
        rw [whole] at h
        split at h
        · cases h; simp
        · cases h
    · rw [hb]; rfl

/-- `unicode.IsSpace` by ranges against the spec's list: the list spells out the two ranges, in the same order -/
theorem isSpaceRune_eq (c : Nat) : Model.TextOps.isSpaceRune c = Spec.TextOps.isSpace c := by
  have h1 : (9 ≤ c ∧ c ≤ 13) ↔ (c = 9 ∨ c = 0xA ∨ c = 0xB ∨ c = 0xC ∨ c = 0xD) := by omega
  have h2 : (0x2000 ≤ c ∧ c ≤ 0x200A) ↔ (c = 0x2000 ∨ c = 0x2001 ∨ c = 0x2002 ∨ c = 0x2003 ∨ c = 0x2004 ∨
      c = 0x2005 ∨ c = 0x2006 ∨ c = 0x2007 ∨ c = 0x2008 ∨ c = 0x2009 ∨ c = 0x200A) := by omega
  apply Bool.eq_iff_iff.2
  simp only [Model.TextOps.isSpaceRune, Spec.TextOps.isSpace, Spec.TextOps.whiteSpace, List.contains_iff_mem,
    List.mem_cons, List.not_mem_nil, or_false, Bool.or_eq_true, Bool.and_eq_true, decide_eq_true_eq, beq_iff_eq, h1, h2,
    or_assoc]

theorem trimSpace_encode (t : List Nat) (hvt : ValidText t) :
    Model.TextOps.trimSpace (Model.TextOps.encode t) = Model.TextOps.encode (Spec.TextOps.trim t) := by
  unfold Model.TextOps.trimSpace Spec.TextOps.trim
  rw [decodeLoop_encode t hvt _ (Nat.le_refl _)]
  have hf : ((fun p : Nat × List Nat => Model.TextOps.isSpaceRune p.1) ∘ fun c => (c, Model.TextOps.encodeRune c)) =
      Spec.TextOps.isSpace := by
    funext c; simp [isSpaceRune_eq]
  simp only [List.dropWhile_map, hf, ← List.map_reverse, List.map_map]
  simp [Model.TextOps.encode, Function.comp_def]

theorem mapCase_encode (f : Nat → Nat) (t : List Nat) (hvt : ValidText t) :
    Model.TextOps.mapCase f (Model.TextOps.encode t) =
      if t.all Spec.TextOps.hasNoCase then some (Model.TextOps.encode (t.map f)) else none := by
  unfold Model.TextOps.mapCase
  rw [runes_encode t hvt]
  rfl

theorem toLower_encode (t : List Nat) (hvt : ValidText t) :
    Model.TextOps.toLower (Model.TextOps.encode t) = (Spec.TextOps.toLower t).map Model.TextOps.encode := by
  rw [Model.TextOps.toLower, mapCase_encode _ t hvt, Spec.TextOps.toLower]
  split <;> rfl

theorem toUpper_encode (t : List Nat) (hvt : ValidText t) :
    Model.TextOps.toUpper (Model.TextOps.encode t) = (Spec.TextOps.toUpper t).map Model.TextOps.encode := by
  rw [Model.TextOps.toUpper, mapCase_encode _ t hvt, Spec.TextOps.toUpper]
  split <;> rfl

theorem ascii_placeholder (k : Nat) : Ascii (Spec.TextOps.placeholder k) := by
  intro c hc
  unfold Spec.TextOps.placeholder Spec.TextOps.decimalDigits at hc
  rcases List.mem_append.1 hc with hc | hc
  · rcases List.mem_append.1 hc with hc | hc
    · simp at hc; omega
    · obtain ⟨d, hd, rfl⟩ := List.mem_map.1 hc
      have := Nat.isDigit_of_mem_toDigits (by decide) (by decide) hd
      simp only [Char.isDigit, Bool.and_eq_true, decide_eq_true_eq] at this
      exact Nat.lt_of_le_of_lt (UInt32.le_iff_toNat_le.1 this.2) (by decide)
  · simp at hc; omega

theorem formatKey_eq (k : Nat) : Model.TextOps.formatKey k = Spec.TextOps.placeholder k := rfl

theorem placeholder_head (k : Nat) : ∃ r, Spec.TextOps.placeholder k = 0x7B :: r := ⟨_, rfl⟩

theorem placeholderAt_cont (x : Nat) (hx : Model.TextOps.isCont x = true) (ys : List Nat) :
    ∀ (vals : List (List Nat)) (k : Nat), Spec.TextOps.placeholderAt k vals (x :: ys) = none
  | [], _ => rfl
  | v :: vs, k => by
    obtain ⟨r, hr⟩ := placeholder_head k
    simp only [Spec.TextOps.placeholderAt, not_prefix_at_cont hr (by decide) hx ys]
    exact placeholderAt_cont x hx ys vs (k + 1)

theorem keyAt_eq (s : List Nat) : ∀ (vals : List (List Nat)) (k : Nat),
    Model.TextOps.keyAt k vals s = Spec.TextOps.placeholderAt k vals s
  | [], _ => rfl
  | v :: vs, k => by rw [Model.TextOps.keyAt, Spec.TextOps.placeholderAt, keyAt_eq s vs]; rfl

theorem formatGo_eq_fillOn (vals : List (List Nat)) : ∀ (s : List Nat) (k : Nat),
    Model.TextOps.formatGo vals k s = Spec.TextOps.fillOn vals k s
  | [], k => by cases k <;> rfl
  | b :: s, k + 1 => by rw [Model.TextOps.formatGo, Spec.TextOps.fillOn, formatGo_eq_fillOn vals s]
  | b :: s, 0 => by
    rw [Model.TextOps.formatGo, Spec.TextOps.fillOn, keyAt_eq]
    cases Spec.TextOps.placeholderAt 1 vals (b :: s) with
    | none => simp only [formatGo_eq_fillOn vals s]
    | some p => simp only [formatGo_eq_fillOn vals s]

/-- at a character boundary of the encoded text the placeholder found is the one found among the characters -/
theorem placeholderAt_encode (t : List Nat) (hvt : ValidText t) : ∀ (vals : List (List Nat)) (k : Nat),
    Spec.TextOps.placeholderAt k (vals.map Model.TextOps.encode) (Model.TextOps.encode t) =
      (Spec.TextOps.placeholderAt k vals t).map fun p =>
        ((Model.TextOps.encode (t.take p.1)).length, Model.TextOps.encode p.2)
  | [], _ => rfl
  | v :: vs, k => by
    have ha := ascii_placeholder k
    have hp := prefix_encode (Spec.TextOps.placeholder k) t (validText_ascii _ ha) hvt
    rw [encode_ascii _ ha] at hp
    rw [List.map_cons, Spec.TextOps.placeholderAt, Spec.TextOps.placeholderAt, hp]
    by_cases h : (Spec.TextOps.placeholder k).isPrefixOf t = true
    · obtain ⟨r, rfl⟩ := List.isPrefixOf_iff_prefix.1 h
      rw [if_pos h, if_pos h, Option.map_some, List.take_left, encode_ascii _ ha]
    · rw [if_neg h, if_neg h, placeholderAt_encode t hvt vs]

theorem placeholderAt_pos (t : List Nat) (n : Nat) (v : List Nat) : ∀ (vals : List (List Nat)) (k : Nat),
    Spec.TextOps.placeholderAt k vals t = some (n, v) → 1 ≤ n
  | [], _, h => by cases h
  | w :: ws, k, h => by
    rw [Spec.TextOps.placeholderAt] at h
    by_cases hp : (Spec.TextOps.placeholder k).isPrefixOf t = true
    · rw [if_pos hp] at h; cases h; simp [Spec.TextOps.placeholder]
    · rw [if_neg hp] at h; exact placeholderAt_pos t n v ws _ h

theorem format_encode (t : List Nat) (vals : List (List Nat)) (hvt : ValidText t) :
    Model.TextOps.format (Model.TextOps.encode t) (vals.map Model.TextOps.encode) =
      Model.TextOps.encode (Spec.TextOps.fill t vals) := by
  rw [Model.TextOps.format, Spec.TextOps.fill, formatGo_eq_fillOn, fillOn_tokens, fillOn_tokens,
    tokens_encode (mc := Spec.TextOps.placeholderAt 1 vals) Model.TextOps.encode
      (fun x l hx => placeholderAt_cont x hx l _ 1)
      (fun t hvt => placeholderAt_encode t hvt vals 1) (fun t n v => placeholderAt_pos t n v vals 1) t hvt,
    encode_flatMap, List.flatMap_assoc]
  congr 1
  funext a
  cases a with
  | inl c => simp [encode_cons, encode_nil, List.flatMap_map]
  | inr v => simp

theorem isDigit_eq : Spec.TextOps.isDigit = Model.TextOps.isDigitB := rfl
theorem digitsValue_eq : Spec.TextOps.digitsValue = Model.TextOps.expValue := rfl

theorem unsigned_eq (l : List Nat) : Spec.TextOps.unsigned l = Model.TextOps.stripSign l := by
  unfold Spec.TextOps.unsigned Model.TextOps.stripSign
  split
  · rfl
  · rfl
  · split
    · simp_all
    · simp_all
    · rfl

/-- the mantissa loop behind the point: it takes the digits and stops -/
theorem mantLoop_dot : ∀ (l : List Nat) (n : Nat) (sg : Bool),
    Model.TextOps.mantLoop true n sg l =
      (true, n, sg || !(l.takeWhile Model.TextOps.isDigitB).isEmpty, l.dropWhile Model.TextOps.isDigitB) := by
  intro l
  induction l with
  | nil => intro n sg; simp [Model.TextOps.mantLoop]
  | cons c r ih =>
    intro n sg
    unfold Model.TextOps.mantLoop
    by_cases hdot : c = 0x2E
    · subst hdot
      simp [Model.TextOps.isDigitB]
    · have hd : (c == 0x2E) = false := by simp [hdot]
      simp only [hd, Bool.false_eq_true, if_false, if_true]
      by_cases hdig : Model.TextOps.isDigitB c = true
      · simp [hdig, ih]
      · simp [hdig]

/-- The mantissa loop in its normal form: its four answers (saw a point, digits before it, saw a digit, what is left) as
`takeWhile` / `dropWhile` of the text — digits, then an optional point with more digits.  The later lemmas (`decimalClass_decimalKind`,
`decimalClass_junk`) use this equation and do not open the loop. -/
theorem mantLoop_nodot : ∀ (l : List Nat) (n : Nat) (sg : Bool),
    Model.TextOps.mantLoop false n sg l =
      (match Spec.TextOps.afterPoint (l.dropWhile Model.TextOps.isDigitB) with
       | some r' =>
         (true, n + (l.takeWhile Model.TextOps.isDigitB).length,
           (sg || !(l.takeWhile Model.TextOps.isDigitB).isEmpty) || !(r'.takeWhile Model.TextOps.isDigitB).isEmpty,
           r'.dropWhile Model.TextOps.isDigitB)
       | none => (false, n + (l.takeWhile Model.TextOps.isDigitB).length,
           sg || !(l.takeWhile Model.TextOps.isDigitB).isEmpty, l.dropWhile Model.TextOps.isDigitB)) := by
  intro l
  induction l with
  | nil => intro n sg; simp [Model.TextOps.mantLoop, Spec.TextOps.afterPoint]
  | cons c r ih =>
    intro n sg
    unfold Model.TextOps.mantLoop
    by_cases hdot : c = 0x2E
    · subst hdot
      simp [Model.TextOps.isDigitB, mantLoop_dot, Spec.TextOps.afterPoint]
    · have hd : (c == 0x2E) = false := by simp [hdot]
      simp only [hd, Bool.false_eq_true, if_false]
      by_cases hdig : Model.TextOps.isDigitB c = true
      · simp only [hdig, if_true, List.dropWhile_cons_of_pos, List.takeWhile_cons_of_pos, ih]
        split <;> simp <;> omega
      · have hdig' : Model.TextOps.isDigitB c = false := by simpa using hdig
        have hap : Spec.TextOps.afterPoint (c :: r) = none := by
          unfold Spec.TextOps.afterPoint
          split
          · rename_i h; injection h with h1 _; exact absurd h1 hdot
          · rfl
        simp [hdig', hap]

theorem expSign_snd (r : List Nat) : (Model.TextOps.expSign r).2 = Model.TextOps.stripSign r := by
  unfold Model.TextOps.expSign Model.TextOps.stripSign
  split
  · rfl
  · rfl
  · first
      | rfl
      | (split <;> simp_all)

theorem expSign_fst (r : List Nat) :
    (Model.TextOps.expSign r).1 = (match r with | 0x2D :: _ => true | _ => false) := by
  unfold Model.TextOps.expSign
  split
  · rfl
  · rfl
  · first
      | rfl
      | (split <;> simp_all)

theorem exponentOf_eq (l : List Nat) : Spec.TextOps.exponentOf l = Model.TextOps.expPart l := by
  cases l with
  | nil => rfl
  | cons c r =>
    simp only [Spec.TextOps.exponentOf, Model.TextOps.expPart]
    by_cases he : (c == 0x65 || c == 0x45) = true
    · simp only [he, if_true]
      rw [unsigned_eq, isDigit_eq, digitsValue_eq, expSign_snd, expSign_fst]
      split
      · rfl
      · congr 1
        split <;> simp_all
    · simp only [he]
      rfl

/-- the model's classes as the spec names them -/
def classOf : Spec.TextOps.Numeral → Model.TextOps.AtofClass
  | .decimal => .number
  | .malformed => .syntaxErr
  | .open_ => .special

theorem opensSpecial_eq (l : List Nat) : Spec.TextOps.opensSpecial l = Model.TextOps.specialHead l := by
  cases l with
  | nil => rfl
  | cons c r => cases r <;> rfl

theorem decimalClass_decimalKind (body : List Nat) :
    Model.TextOps.decimalClass body = classOf (Spec.TextOps.decimalKind body) := by
  unfold Model.TextOps.decimalClass Spec.TextOps.decimalKind
  rw [mantLoop_nodot, isDigit_eq]
  simp only [exponentOf_eq, Nat.zero_add, Bool.false_or]
  cases Spec.TextOps.afterPoint (body.dropWhile Model.TextOps.isDigitB) with
  | none =>
    simp only []
    cases hip : (body.takeWhile Model.TextOps.isDigitB).isEmpty
    · simp only [Bool.not_false, Bool.not_true, Bool.false_and, Bool.false_eq_true, if_false]
      cases Model.TextOps.expPart (body.dropWhile Model.TextOps.isDigitB) with
      | none => rfl
      | some e => simp only []; split <;> rfl
    · rfl
  | some r' =>
    simp only []
    cases hip : (body.takeWhile Model.TextOps.isDigitB).isEmpty <;>
      cases hfp : (r'.takeWhile Model.TextOps.isDigitB).isEmpty
    all_goals simp only [Bool.not_false, Bool.not_true, Bool.false_and, Bool.true_and, Bool.or_true, Bool.or_false,
      Bool.false_eq_true, if_false, if_true]
    all_goals first
      | rfl
      | (cases Model.TextOps.expPart (r'.dropWhile Model.TextOps.isDigitB) with
         | none => rfl
         | some e => simp only []; split <;> rfl)

/-- the scanner of `strconv` (mantissa loop, exponent part, end test) accepts exactly the documented numeral form -/
theorem atofClass_numeralKind (l : List Nat) : Model.TextOps.atofClass l = classOf (Spec.TextOps.numeralKind l) := by
  unfold Model.TextOps.atofClass Spec.TextOps.numeralKind
  rw [unsigned_eq, opensSpecial_eq, decimalClass_decimalKind]
  split
  · rfl
  · split <;> rfl

/-! the byte scanner on an encoded text = the same scanner on its characters: every decision compares with ASCII values,
a character beyond ASCII and each of its bytes fail all of them alike (`Sim`: the sign and the special heads, unit by unit);
for the mantissa and exponent it is enough that such a unit anywhere means a syntax error on both sides (`decimalClass_junk`) -/

theorem encodeRune_high (c : Nat) (hc : Model.TextOps.isScalar c = true) (h : 0x80 ≤ c) :
    ∀ x ∈ Model.TextOps.encodeRune c, 0x80 ≤ x := by
  rw [encodeRune_eq hc]
  rcases Proofs.Utf8.encode_cases c with ⟨h1, _⟩ | ⟨_, _, he⟩ | ⟨_, _, he⟩ | ⟨_, he⟩
  · omega
  all_goals (rw [he]; intro x hx; simp at hx; omega)

theorem mem_encode_ascii (b : Nat) (hb : b < 0x80) : ∀ (t : List Nat), ValidText t →
    (b ∈ Model.TextOps.encode t ↔ b ∈ t) := by
  intro t
  induction t with
  | nil => intro _; simp [encode_nil]
  | cons c t ih =>
    intro hv
    obtain ⟨hc, hvt⟩ := (validText_cons c t).1 hv
    rw [encode_cons, List.mem_append, List.mem_cons, ih hvt]
    by_cases hlow : c < 0x80
    · rw [encodeRune_low c hlow]; simp
    · have := encodeRune_high c hc (by omega)
      constructor
      · rintro (h | h)
        · have := this b h; omega
        · exact .inr h
      · rintro (h | h)
        · omega
        · exact .inr h

theorem stripSign_high (b : Nat) (bs : List Nat) (h : 0x80 ≤ b) : Model.TextOps.stripSign (b :: bs) = b :: bs := by
  unfold Model.TextOps.stripSign
  split
  · rename_i heq; injection heq with h1 _; omega
  · rename_i heq; injection heq with h1 _; omega
  · rfl

/-- Two unit strings that a scanner comparing with ASCII values only cannot tell apart: the same ASCII units up to the first
unit beyond ASCII on either side.  The bytes of a text and its characters are such a pair (`sim_encode`). -/
inductive Sim : List Nat → List Nat → Prop
  | nil : Sim [] []
  | low {c : Nat} {l l' : List Nat} : c < 0x80 → Sim l l' → Sim (c :: l) (c :: l')
  | high {b c : Nat} {l l' : List Nat} : 0x80 ≤ b → 0x80 ≤ c → Sim (b :: l) (c :: l')

theorem sim_encode : ∀ (t : List Nat), ValidText t → Sim (Model.TextOps.encode t) t
  | [], _ => .nil
  | c :: t, hv => by
    obtain ⟨hc, hvt⟩ := (validText_cons c t).1 hv
    rw [encode_cons]
    by_cases h : c < 0x80
    · rw [encodeRune_low c h]; exact .low h (sim_encode t hvt)
    · obtain ⟨b, bs, hb, _, _⟩ := encodeRune_shape c hc
      rw [hb]; exact .high (encodeRune_high c hc (by omega) b (by rw [hb]; simp)) (by omega)

theorem stripSign_sim {l l' : List Nat} (h : Sim l l') : Sim (Model.TextOps.stripSign l) (Model.TextOps.stripSign l') := by
  cases h with
  | nil => exact .nil
  | @low c l l' hc h =>
    by_cases h1 : c = 0x2B
    · subst h1; exact h
    · by_cases h2 : c = 0x2D
      · subst h2; exact h
      · have e1 : ∀ r : List Nat, Model.TextOps.stripSign (c :: r) = c :: r := by
          intro r
          unfold Model.TextOps.stripSign
          split
          · rename_i heq; injection heq with h _; exact absurd h h1
          · rename_i heq; injection heq with h _; exact absurd h h2
          · rfl
        rw [e1, e1]; exact .low hc h
  | high hb hc => rw [stripSign_high _ _ hb, stripSign_high _ _ hc]; exact .high hb hc

theorem hexMark_sim {l l' : List Nat} (h : Sim l l') : Model.TextOps.hexMark l = Model.TextOps.hexMark l' := by
  cases h with
  | nil => rfl
  | low _ _ => rfl
  | @high b c _ _ hb hc =>
    simp only [Model.TextOps.hexMark]
    have : (b == 0x78 || b == 0x58) = false := by simp; omega
    have : (c == 0x78 || c == 0x58) = false := by simp; omega
    simp [*]

theorem specialHead_sim {l l' : List Nat} (h : Sim l l') :
    Model.TextOps.specialHead l = Model.TextOps.specialHead l' := by
  cases h with
  | nil => rfl
  | low _ h => simp only [Model.TextOps.specialHead, hexMark_sim h]
  | @high b c l l' hb hc =>
    simp only [Model.TextOps.specialHead]
    have e1 : (b == 0x69 || b == 0x49 || b == 0x6E || b == 0x4E || (b == 0x30 && Model.TextOps.hexMark l)) = false := by
      simp; omega
    have e2 : (c == 0x69 || c == 0x49 || c == 0x6E || c == 0x4E || (c == 0x30 && Model.TextOps.hexMark l')) = false := by
      simp; omega
    rw [e1, e2]

theorem sim_cases {l l' : List Nat} (h : Sim l l') : l = l' ∨ ((∃ x ∈ l, 0x80 ≤ x) ∧ ∃ x ∈ l', 0x80 ≤ x) := by
  induction h with
  | nil => exact .inl rfl
  | low _ _ ih =>
    rcases ih with rfl | ⟨⟨x, hx, hx80⟩, ⟨y, hy, hy80⟩⟩
    · exact .inl rfl
    · exact .inr ⟨⟨x, List.mem_cons_of_mem _ hx, hx80⟩, ⟨y, List.mem_cons_of_mem _ hy, hy80⟩⟩
  | high hb hc => exact .inr ⟨⟨_, List.mem_cons_self, hb⟩, ⟨_, List.mem_cons_self, hc⟩⟩

theorem mem_dropWhile {p : Nat → Bool} {x : Nat} (hx : p x = false) : ∀ l : List Nat, x ∈ l → x ∈ l.dropWhile p
  | c :: r, h => by
    rw [List.dropWhile_cons]
    split
    · rcases List.mem_cons.1 h with rfl | h
      · simp_all
      · exact mem_dropWhile hx r h
    · exact h

theorem afterPoint_some {l r : List Nat} (h : Spec.TextOps.afterPoint l = some r) : l = 0x2E :: r := by
  unfold Spec.TextOps.afterPoint at h
  split at h
  · cases h; rfl
  · cases h

theorem mem_of_mem_stripSign (x : Nat) (r : List Nat) (h : x ∈ r) :
    x ∈ Model.TextOps.stripSign r ∨ x = 0x2B ∨ x = 0x2D := by
  unfold Model.TextOps.stripSign
  split
  · rcases List.mem_cons.1 h with h | h
    · exact .inr (.inl h)
    · exact .inl h
  · rcases List.mem_cons.1 h with h | h
    · exact .inr (.inr h)
    · exact .inl h
  · exact .inl h

theorem expPart_ascii (l : List Nat) (e : Int) (h : Model.TextOps.expPart l = some e) : ∀ x ∈ l, x < 0x80 := by
  cases l with
  | nil => intro x hx; cases hx
  | cons c r =>
    simp only [Model.TextOps.expPart] at h
    by_cases hce : (c == 0x65 || c == 0x45) = true
    · simp only [hce, if_true, expSign_snd] at h
      have hc : c < 0x80 := by
        simp at hce; omega
      split at h
      · cases h
      · rename_i hcond
        have hall : (Model.TextOps.stripSign r).all Model.TextOps.isDigitB = true := by
          cases hd : (Model.TextOps.stripSign r).all Model.TextOps.isDigitB
          · simp [hd] at hcond
          · rfl
        intro x hx
        rcases List.mem_cons.1 hx with rfl | hx
        · exact hc
        · rcases mem_of_mem_stripSign x r hx with hx | rfl | rfl
          · have := List.all_eq_true.1 hall x hx
            simp [Model.TextOps.isDigitB] at this; omega
          · decide
          · decide
    · simp only [hce] at h
      cases h

/-- a unit beyond ASCII anywhere: no numeral.  It is neither digit nor point, so the mantissa loop (in its normal form
`mantLoop_nodot`) leaves it unread, and no exponent part holds it -/
theorem decimalClass_junk (l : List Nat) (x : Nat) (hx : x ∈ l) (h : 0x80 ≤ x) :
    Model.TextOps.decimalClass l = .syntaxErr := by
  have hd : Model.TextOps.isDigitB x = false := by simp [Model.TextOps.isDigitB]; omega
  have h1 := mem_dropWhile hd l hx
  have key : ∀ rest, x ∈ rest → Model.TextOps.expPart rest = none := fun rest hm => by
    cases hep : Model.TextOps.expPart rest with
    | none => rfl
    | some e => have := expPart_ascii rest e hep x hm; omega
  unfold Model.TextOps.decimalClass
  rw [mantLoop_nodot]
  cases hap : Spec.TextOps.afterPoint (l.dropWhile Model.TextOps.isDigitB) with
  | none => simp only [key _ h1]; split <;> rfl
  | some r' =>
    rw [afterPoint_some hap] at h1
    have h2 := mem_dropWhile hd r' ((List.mem_cons.1 h1).resolve_left (by omega))
    simp only [key _ h2]; split <;> rfl

theorem decimalClass_sim {l l' : List Nat} (h : Sim l l') :
    Model.TextOps.decimalClass l = Model.TextOps.decimalClass l' := by
  rcases sim_cases h with rfl | ⟨⟨x, hx, hx80⟩, ⟨y, hy, hy80⟩⟩
  · rfl
  · rw [decimalClass_junk _ x hx hx80, decimalClass_junk _ y hy hy80]

/-- `strconv.ParseFloat`'s verdict on the bytes of a text is its verdict on the characters -/
theorem atofClass_encode (t : List Nat) (hv : ValidText t) :
    Model.TextOps.atofClass (Model.TextOps.encode t) = Model.TextOps.atofClass t := by
  unfold Model.TextOps.atofClass
  have hu : (Model.TextOps.encode t).contains 0x5F = t.contains 0x5F := by
    apply Bool.eq_iff_iff.2
    rw [List.contains_iff_mem, List.contains_iff_mem]
    exact mem_encode_ascii 0x5F (by decide) t hv
  have hs := stripSign_sim (sim_encode t hv)
  rw [hu, specialHead_sim hs, decimalClass_sim hs]

theorem ascii_of_number (l : List Nat) (h : Model.TextOps.atofClass l = .number) : Ascii l := by
  intro c hc
  apply Classical.byContradiction
  intro hlt
  have hc80 : 0x80 ≤ c := by omega
  unfold Model.TextOps.atofClass at h
  split at h
  · cases h
  · split at h
    · cases h
    · have hm : c ∈ Model.TextOps.stripSign l := by
        rcases mem_of_mem_stripSign c l hc with hm | rfl | rfl
        · exact hm
        · omega
        · omega
      rw [decimalClass_junk _ c hm hc80] at h
      cases h

end ZnVerif.Proofs.TextMethods
