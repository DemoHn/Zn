/-
Bridge (A) ↔ (B), symbol table ((A) the evaluator model's embedded `Model.Scope`, (B) `SymTab.Scope` of `Model/Scope.lean`,
as in BridgesScope.lean): every evaluator scope that satisfies the invariant *stated on (A) alone* (`SimI`) is
related to some state of (B) satisfying (B)'s invariant `Sim` — the state `reify sc` built from it.  With this the
simulation and refinement theorems apply to histories from any evaluator scope that satisfies `SimI`, not only from `{}`.
Core Lean only.
-/
import ZnVerif.Proofs.BridgesScopeRun

namespace ZnVerif.Proofs.Bridges
open ZnVerif ZnVerif.Model ZnVerif.Proofs.Scope
open ZnVerif.SymTab (LocalSymbol refLookup)

def symLocal (sy : Sym) : LocalSymbol := ⟨sy.name, sy.depth, sy.isConst⟩

/-- the `externalRefs` table for the symbols (newest first): the index of a symbol is the number of older ones -/
def refsOf : List Sym → List (Nat × Nat)
  | [] => []
  | sy :: rest =>
    match sy.ext with
    | some m => (rest.length, m.toNat) :: refsOf rest
    | none => refsOf rest

/-- the state of (B) that holds exactly the symbols of `sc` -/
def reify (sc : Model.Scope) : SymTab.Scope Addr :=
  { locals := (sc.syms.reverse.map symLocal).toArray
    localCount := sc.syms.length
    currentDepth := sc.depth
    values := (sc.syms.reverse.map (·.val)).toArray
    externalRefs := refsOf sc.syms }

/-- (B)'s invariant written on (A): current depth `d ≥ 0`, symbol depths within `[0, d]` and non-increasing towards
older symbols, module ids only on top-level symbols and never negative -/
structure SimI (sc : Model.Scope) (d : Nat) : Prop where
  depth : sc.depth = (d : Int)
  depths : DepthsOK d (sc.syms.map (·.depth))
  exts : ∀ sy ∈ sc.syms, sy.ext = none ∨ ((∃ m : Nat, sy.ext = some (m : Int)) ∧ sy.depth ≤ 0)

theorem simI_empty : SimI ({} : Model.Scope) 0 :=
  ⟨rfl, ⟨(by intro x hx; cases hx), List.Pairwise.nil⟩, (by intro sy hsy; cases hsy)⟩

theorem mem_refsOf : ∀ (l : List Sym) (k m : Nat), (k, m) ∈ refsOf l →
    ∃ pre sy rest, l = pre ++ sy :: rest ∧ k = rest.length ∧ sy.ext ≠ none
  | [], _, _, h => by cases h
  | sy :: rest, k, m, h => by
    unfold refsOf at h
    cases hx : sy.ext with
    | none =>
      rw [hx] at h
      obtain ⟨pre, sy', rest', h1, h2, h3⟩ := mem_refsOf rest k m h
      exact ⟨sy :: pre, sy', rest', by rw [h1]; rfl, h2, h3⟩
    | some x =>
      rw [hx] at h
      simp only [List.mem_cons, Prod.mk.injEq] at h
      rcases h with ⟨rfl, _⟩ | h
      · exact ⟨[], sy, rest, rfl, rfl, by rw [hx]; simp⟩
      · obtain ⟨pre, sy', rest', h1, h2, h3⟩ := mem_refsOf rest k m h
        exact ⟨sy :: pre, sy', rest', by rw [h1]; rfl, h2, h3⟩

theorem refsOf_key_lt (l : List Sym) (k m : Nat) (h : (k, m) ∈ refsOf l) : k < l.length := by
  obtain ⟨pre, sy, rest, rfl, rfl, _⟩ := mem_refsOf l k m h
  simp only [List.length_append, List.length_cons]; omega

theorem refLookup_none_of_keys (refs : List (Nat × Nat)) (k : Nat) (h : ∀ k' m, (k', m) ∈ refs → k' ≠ k) :
    refLookup refs k = none := by
  cases hr : refLookup refs k with
  | none => rfl
  | some m => exact absurd rfl (h k m (refLookup_mem refs k m hr))

theorem refLookup_refsOf_append : ∀ (pre syms : List Sym) (k : Nat), k < syms.length →
    refLookup (refsOf (pre ++ syms)) k = refLookup (refsOf syms) k
  | [], _, _, _ => rfl
  | p :: pre, syms, k, hk => by
    have ih := refLookup_refsOf_append pre syms k hk
    simp only [List.cons_append, refsOf]
    cases p.ext with
    | none => exact ih
    | some x =>
      have : ¬ (pre ++ syms).length = k := by simp only [List.length_append]; omega
      simp only [refLookup, this, if_false]
      exact ih

theorem refLookup_refsOf_head (sy : Sym) (rest : List Sym) :
    refLookup (refsOf (sy :: rest)) rest.length = sy.ext.map Int.toNat := by
  unfold refsOf
  cases sy.ext with
  | none =>
    exact refLookup_none_of_keys _ _ (fun k' m h e => by
      have := refsOf_key_lt rest k' m h; omega)
  | some x => simp [refLookup]

theorem reverse_getElem?_mid {β : Type} (pre : List β) (x : β) (rest : List β) :
    ((pre ++ x :: rest).reverse)[rest.length]? = some x := by
  rw [List.reverse_append, List.reverse_cons, List.append_assoc]
  rw [List.getElem?_append_right (by simp)]
  simp

/-- the live symbols of the reified state, computed on the arrays of any extension by newer symbols -/
theorem liveAux_reify : ∀ (syms pre : List Sym),
    liveAux ((pre ++ syms).reverse.map symLocal).toArray ((pre ++ syms).reverse.map (·.val)).toArray
        (refsOf (pre ++ syms)) syms.length = syms.map toEntry
  | [], _ => rfl
  | sy :: rest, pre => by
    have ih := liveAux_reify rest (pre ++ [sy])
    rw [List.append_assoc] at ih
    simp only [List.singleton_append] at ih
    have hL : ((pre ++ sy :: rest).reverse.map symLocal).toArray[rest.length]? = some (symLocal sy) := by
      rw [List.getElem?_toArray, List.getElem?_map, reverse_getElem?_mid]; rfl
    have hV : ((pre ++ sy :: rest).reverse.map (·.val)).toArray[rest.length]? = some sy.val := by
      rw [List.getElem?_toArray, List.getElem?_map, reverse_getElem?_mid]; rfl
    simp only [List.length_cons, List.map_cons]
    rw [liveAux_succ' _ _ _ _ _ _ hL hV, ih]
    congr 1
    rw [refLookup_refsOf_append pre (sy :: rest) rest.length (by simp), refLookup_refsOf_head]
    rfl

theorem live_reify (sc : Model.Scope) : live (reify sc) = sc.syms.map toEntry := by
  have := liveAux_reify sc.syms []
  simpa [live, reify] using this

theorem toSym_toEntry (sy : Sym) (h : sy.ext = none ∨ ∃ m : Nat, sy.ext = some (m : Int)) : toSym (toEntry sy) = sy := by
  obtain ⟨nm, dp, c, x, v⟩ := sy
  rcases h with h | ⟨m, h⟩
  · simp only at h; subst h; rfl
  · simp only at h; subst h
    simp [toSym, toEntry]

theorem R_reify {sc : Model.Scope} {d : Nat} (h : SimI sc d) : R sc (reify sc) := by
  apply R.mk'
  · rw [live_reify, List.map_map]
    have : ∀ sy ∈ sc.syms, (toSym ∘ toEntry) sy = sy := fun sy hsy =>
      toSym_toEntry sy ((h.exts sy hsy).imp id (·.1))
    rw [List.map_congr_left this, List.map_id']
  · rfl

theorem sim_reify {sc : Model.Scope} {d : Nat} (h : SimI sc d) : Sim (reify sc) d := by
  refine ⟨h.depth, ⟨?_, ?_⟩, ?_, ?_⟩
  · simp [reify]
  · simp [reify]
  · rw [live_reify]
    have : Proofs.Scope.depths (sc.syms.map toEntry) = sc.syms.map (·.depth) := by
      unfold Proofs.Scope.depths; rw [List.map_map]; rfl
    rw [this]; exact h.depths
  · intro k m hkm
    have hkm' : (k, m) ∈ refsOf sc.syms := hkm
    obtain ⟨pre, sy, rest, hsplit, hk, hext⟩ := mem_refsOf sc.syms k m hkm'
    have hlt := refsOf_key_lt sc.syms k m hkm'
    refine ⟨hlt, symLocal sy, ?_, ?_⟩
    · show (sc.syms.reverse.map symLocal).toArray[k]? = some (symLocal sy)
      rw [hsplit, hk, List.getElem?_toArray, List.getElem?_map, reverse_getElem?_mid]; rfl
    · have hmem : sy ∈ sc.syms := by rw [hsplit]; simp
      rcases h.exts sy hmem with hn | ⟨_, hd⟩
      · exact absurd hn hext
      · exact hd

theorem exists_related {sc : Model.Scope} {d : Nat} (h : SimI sc d) : ∃ σ, R sc σ ∧ Sim σ d :=
  ⟨reify sc, R_reify h, sim_reify h⟩

theorem simI_of_related {sc : Model.Scope} {σ : SymTab.Scope Addr} {d : Nat} (hR : R sc σ) (hs : Sim σ d) : SimI sc d := by
  refine ⟨by rw [hR.depth]; exact hs.depth, ?_, ?_⟩
  · have : sc.syms.map (·.depth) = Proofs.Scope.depths (live σ) := by
      rw [hR.syms, List.map_map]; rfl
    rw [this]; exact hs.depths
  · intro sy hsy
    rw [hR.syms, List.mem_map] at hsy
    obtain ⟨e, he, rfl⟩ := hsy
    cases hx : e.ext with
    | none => left; simp [toSym, hx]
    | some m =>
      right
      refine ⟨⟨m, by simp [toSym, hx]⟩, ?_⟩
      -- the entry's `externalRefs` key points at a top-level symbol
      show e.sym.depth ≤ 0
      have : ∀ n, e ∈ liveAux σ.locals σ.values σ.externalRefs n → n ≤ σ.localCount → e.sym.depth ≤ 0 := by
        intro n
        induction n with
        | zero => intro h0; cases h0
        | succ n ih =>
          intro hmem hn
          unfold liveAux at hmem
          cases hl : σ.locals[n]? with
          | none => rw [hl] at hmem; exact ih hmem (by omega)
          | some s =>
            cases hv : σ.values[n]? with
            | none => rw [hl, hv] at hmem; exact ih hmem (by omega)
            | some v =>
              rw [hl, hv] at hmem
              simp only [List.mem_cons] at hmem
              rcases hmem with rfl | hmem
              · simp only at hx
                obtain ⟨_, s', hs', hd'⟩ := hs.refs n m (refLookup_mem _ _ _ hx)
                rw [hl] at hs'; cases hs'; exact hd'
              · exact ih hmem (by omega)
      exact this σ.localCount he (Nat.le_refl _)

end ZnVerif.Proofs.Bridges
