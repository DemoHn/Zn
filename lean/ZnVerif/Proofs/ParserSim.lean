/-
Two runs of the parser model over two lexers, compared step for step.

A `Frame` names the two lexers (`o₁`, `o₂`), how much more fuel the second run gets in every `next()` (`K`), when two parser states
correspond (`Rel j s t`, `j` counting the tokens read so far), and which tokens both runs place on the same line (`Tok j tk`).
`Frame.Laws` is what has to be shown of a frame: related states show the same window and the same indentation of the two lines
the parser looks at, the line of a `Tok` token is the same in both tables, and `next()` takes related states to related states.
From the laws alone, every production of the parser takes related states to equal answers and related states (`Sim`), so the
whole parser does (`S_step`, `S_parse`, `S_parseAST` in Proofs/ParserSimStep.lean; this file has the rules and the primitives).
`Proofs/LexSimBase.lean` (the real lexer against the token list read against the final layout) and
`Proofs/CmtSimBase.lean` (a token list without its comments against the list with them) are the two frames.
(Two other structures are called `Frame`: `Model.LinesInv.Frame` of Proofs/LexFrame.lean, what a scanner of the lexer leaves alone, and
`ZnVerif.Proofs.Frame` of Proofs/Sim.lean, of the evaluator.)
-/
import ZnVerif.Model.Parser

namespace ZnVerif.Proofs.ParserSim
open ZnVerif.Model ZnVerif.Model.Parser

structure Frame (σ₁ σ₂ : Type) where
  o₁ : LexOps σ₁
  o₂ : LexOps σ₂
  /-- the second run has `K` more fuel in every `next()` -/
  K : Nat
  /-- the first run out of fuel is matched by whatever the second answers (otherwise only by out of fuel) -/
  lax : Prop
  /-- corresponding states when `j` tokens have been read -/
  Rel : Nat → PState σ₁ → PState σ₂ → Prop
  /-- a token whose line both runs know -/
  Tok : Nat → Token → Prop

variable {σ₁ σ₂ : Type} (F : Frame σ₁ σ₂)

/-- matching results; `Q j' a` is what is known of the value -/
def Out {β : Type} (j : Nat) (Q : Nat → β → Prop) (r₁ : Res σ₁ β) (r₂ : Res σ₂ β) : Prop :=
  match r₁, r₂ with
  | .ok a₁ t₁, .ok a₂ t₂ => a₁ = a₂ ∧ ∃ j', j ≤ j' ∧ F.Rel j' t₁ t₂ ∧ Q j' a₁
  | .err e₁, .err e₂ => e₁ = e₂
  | .panic, .panic => True
  | .fuel, .fuel => True
  | .fuel, _ => F.lax
  | _, _ => False

/-- matching computations from corresponding states -/
def Sim {β : Type} (j : Nat) (s : PState σ₁) (t : PState σ₂) (x₁ : PM σ₁ β) (x₂ : PM σ₂ β) (Q : Nat → β → Prop) : Prop :=
  F.Rel j s t → Out F j Q (x₁ s) (x₂ t)

def Any {β : Type} : Nat → β → Prop := fun _ _ => True

/-- an optional token is one whose line both runs know -/
def QTok (j : Nat) : Option Token → Prop
  | some tk => F.Tok j tk
  | none => True

structure Frame.Laws : Prop where
  fuel : F.lax ∨ F.K = 0
  tok_mono : ∀ {j j' tk}, F.Tok j tk → j ≤ j' → F.Tok j' tk
  /-- corresponding states show the same window -/
  win : ∀ {j s t}, F.Rel j s t →
    t = { lex := t.lex, p1 := s.p1, p2 := s.p2, sl1 := s.sl1, el1 := s.el1, sl2 := s.sl2, el2 := s.el2, flag := s.flag }
  tok_p2 : ∀ {j s t}, F.Rel j s t → F.Tok j s.p2
  flag : ∀ {j s t} (b : Bool), F.Rel j s t → F.Rel j { s with flag := b } { t with flag := b }
  /-- the lines of the current and of the peek token are indented alike in both tables -/
  indents : ∀ {j s t}, F.Rel j s t → ∀ i, i = s.sl1 ∨ i = s.sl2 →
    (F.o₂.lines t.lex)[i]?.map (·.indents) = (F.o₁.lines s.lex)[i]?.map (·.indents)
  line : ∀ {j s t tk}, F.Rel j s t → F.Tok j tk →
    findLineIdx (F.o₂.lines t.lex) tk.startIdx 0 = findLineIdx (F.o₁.lines s.lex) tk.startIdx 0
  next : ∀ (m : Nat) {j s t}, Sim F j s t (next F.o₁ m) (next F.o₂ (m + F.K)) Any

/-- the recursive calls of the first run are matched by those of the second -/
def RecOK (rec₁ : Rec σ₁) (rec₂ : Rec σ₂) : Prop := ∀ (nt : NT) (j : Nat) s t, Sim F j s t (rec₁ nt) (rec₂ nt) Any

variable {F}

theorem RecOK.app {rec₁ : Rec σ₁} {rec₂ : Rec σ₂} (h : RecOK F rec₁ rec₂) (nt : NT) (j : Nat) (s : PState σ₁) (t : PState σ₂) :
    Sim F j s t (rec₁ nt) (rec₂ nt) Any := h nt j s t

section rules
variable {β γ : Type} {j : Nat} {s : PState σ₁} {t : PState σ₂}

theorem Out.mono {Q : Nat → β → Prop} {j₀ : Nat} {r₁ : Res σ₁ β} {r₂ : Res σ₂ β} (h : Out F j Q r₁ r₂) (hj : j₀ ≤ j) :
    Out F j₀ Q r₁ r₂ := by
  cases r₁ <;> cases r₂ <;> simp only [Out] at h ⊢
  case ok.ok =>
    obtain ⟨e, j', hj', rest⟩ := h
    exact ⟨e, j', Nat.le_trans hj hj', rest⟩
  all_goals exact h

theorem Out.fuel {Q : Nat → β → Prop} {r₂ : Res σ₂ β} (h : F.lax ∨ r₂ = .fuel) : Out F j Q .fuel r₂ := by
  rcases h with h | rfl
  · cases r₂ <;> first | exact h | trivial
  · trivial

theorem S_pure (a : β) : Sim F j s t (pure a) (pure a) Any := fun h => ⟨rfl, j, Nat.le_refl _, h, trivial⟩

theorem S_bind {Q : Nat → β → Prop} {Q' : Nat → γ → Prop} {x₁ : PM σ₁ β} {x₂ : PM σ₂ β} {f₁ : β → PM σ₁ γ} {f₂ : β → PM σ₂ γ}
    (hx : Sim F j s t x₁ x₂ Q) (hf : ∀ a j' s' t', j ≤ j' → Q j' a → Sim F j' s' t' (f₁ a) (f₂ a) Q') :
    Sim F j s t (x₁ >>= f₁) (x₂ >>= f₂) Q' := by
  intro hr
  have h := hx hr
  show Out F j Q' (PM.bind x₁ f₁ s) (PM.bind x₂ f₂ t)
  unfold PM.bind
  generalize x₁ s = r₁ at h ⊢
  generalize x₂ t = r₂ at h ⊢
  cases r₁ <;> cases r₂ <;> simp only [Out] at h ⊢
  case ok.ok a₁ t₁ a₂ t₂ =>
    obtain ⟨rfl, j', hj', hr', hq⟩ := h
    exact (hf a₁ j' t₁ t₂ hj' hq hr').mono hj'
  all_goals first | exact h | trivial | exact Out.fuel (Or.inl h)

/-- what follows a bind whose value is an optional token: one case each, the token one whose line both runs know -/
theorem S_cont_tok {Q' : Nat → γ → Prop} {f₁ : Option Token → PM σ₁ γ} {f₂ : Option Token → PM σ₂ γ}
    (hnone : ∀ j' s' t', j ≤ j' → Sim F j' s' t' (f₁ none) (f₂ none) Q')
    (hsome : ∀ tk j' s' t', j ≤ j' → F.Tok j' tk → Sim F j' s' t' (f₁ (some tk)) (f₂ (some tk)) Q') :
    ∀ a j' s' t', j ≤ j' → QTok F j' a → Sim F j' s' t' (f₁ a) (f₂ a) Q'
  | none, j', s', t', hj, _ => hnone j' s' t' hj
  | some tk, j', s', t', hj, h => hsome tk j' s' t' hj h

/-- what follows a bind whose value is any other optional value -/
theorem S_cont_opt {α : Type} {Q' : Nat → γ → Prop} {f₁ : Option α → PM σ₁ γ} {f₂ : Option α → PM σ₂ γ}
    (hnone : ∀ j' s' t', j ≤ j' → Sim F j' s' t' (f₁ none) (f₂ none) Q')
    (hsome : ∀ a j' s' t', j ≤ j' → Sim F j' s' t' (f₁ (some a)) (f₂ (some a)) Q') :
    ∀ a j' s' t', j ≤ j' → Any j' a → Sim F j' s' t' (f₁ a) (f₂ a) Q'
  | none, j', s', t', hj, _ => hnone j' s' t' hj
  | some a, j', s', t', hj, _ => hsome a j' s' t' hj

/-- `getS` hands each run its own state -/
theorem S_bind_getS {Q' : Nat → γ → Prop} {f₁ : PState σ₁ → PM σ₁ γ} {f₂ : PState σ₂ → PM σ₂ γ}
    (hf : F.Rel j s t → Sim F j s t (f₁ s) (f₂ t) Q') : Sim F j s t (getS >>= f₁) (getS >>= f₂) Q' := fun hr => hf hr hr

theorem S_ite {Q : Nat → β → Prop} {c : Prop} [Decidable c] {a₁ b₁ : PM σ₁ β} {a₂ b₂ : PM σ₂ β}
    (ha : c → Sim F j s t a₁ a₂ Q) (hb : ¬ c → Sim F j s t b₁ b₂ Q) :
    Sim F j s t (if c then a₁ else b₁) (if c then a₂ else b₂) Q := by
  by_cases h : c
  · simp only [h, if_true]; exact ha h
  · simp only [h, if_false]; exact hb h

theorem S_goPanic : Sim F j s t (goPanic : PM σ₁ β) goPanic Any := fun _ => trivial

end rules

/-- the three places where the parser reads the line table see only the indentation of the lines of the window -/
theorem peekIndentOf_eq {σ : Type} (o : LexOps σ) (s : PState σ) : peekIndentOf o s = ((o.lines s.lex)[s.sl2]?.map (·.indents)).getD 0 := by
  unfold peekIndentOf; cases (o.lines s.lex)[s.sl2]? <;> rfl

theorem currIndentOf_eq {σ : Type} (o : LexOps σ) (s : PState σ) : currIndentOf o s = ((o.lines s.lex)[s.sl1]?.map (·.indents)).getD 0 := by
  unfold currIndentOf; cases (o.lines s.lex)[s.sl1]? <;> rfl

theorem expectBlockIndent_eq {σ : Type} (o : LexOps σ) (s : PState σ) : expectBlockIndent o s =
    match (o.lines s.lex)[s.sl2]?.map (·.indents), (o.lines s.lex)[s.sl1]?.map (·.indents) with
    | some p, some c => .ok (if p = c + 1 then some p else none) s
    | _, _ => .panic := by
  unfold expectBlockIndent; dsimp only; cases (o.lines s.lex)[s.sl2]? <;> cases (o.lines s.lex)[s.sl1]? <;> rfl

section prims
variable (L : F.Laws) {j : Nat} {s : PState σ₁} {t : PState σ₂}
include L

theorem rel_p1 (h : F.Rel j s t) : t.p1 = s.p1 := by rw [L.win h]
theorem rel_p2 (h : F.Rel j s t) : t.p2 = s.p2 := by rw [L.win h]
theorem rel_flag (h : F.Rel j s t) : t.flag = s.flag := by rw [L.win h]
theorem rel_sl1 (h : F.Rel j s t) : t.sl1 = s.sl1 := by rw [L.win h]
theorem rel_sl2 (h : F.Rel j s t) : t.sl2 = s.sl2 := by rw [L.win h]

theorem S_unsetFlag : Sim F j s t unsetFlag unsetFlag Any := fun h => ⟨rfl, j, Nat.le_refl _, L.flag false h, trivial⟩
theorem S_setFlag : Sim F j s t setFlag setFlag Any := fun h => ⟨rfl, j, Nat.le_refl _, L.flag true h, trivial⟩

theorem S_errPeek {β : Type} (v : Variant) (code : Nat) : Sim F j s t (errPeek v code : PM σ₁ β) (errPeek v code) Any := by
  intro h
  unfold errPeek
  rw [rel_p1 L h, rel_p2 L h]
  cases s.p1 with
  | none => simp only []; split <;> trivial
  | some _ => exact rfl

theorem S_errCurr {β : Type} (v : Variant) : Sim F j s t (errCurr v : PM σ₁ β) (errCurr v) Any := by
  intro h
  unfold errCurr
  rw [rel_p1 L h, rel_p2 L h]
  cases s.p1 with
  | none => simp only []; split <;> trivial
  | some _ => exact rfl

theorem meetStmtBreak_rel (h : F.Rel j s t) : meetStmtBreak t = meetStmtBreak s := by
  unfold meetStmtBreak; rw [rel_p2 L h]

theorem S_endOfStmt (v : Variant) : Sim F j s t (endOfStmt v) (endOfStmt v) Any := by
  intro h
  unfold endOfStmt
  rw [rel_flag L h, meetStmtBreak_rel L h]
  by_cases hc : (s.flag || meetStmtBreak s) = true
  · simp only [hc, if_true]; exact ⟨rfl, j, Nat.le_refl _, h, trivial⟩
  · simp only [hc]; exact S_errPeek L v 20 h

theorem S_lineOf {tk : Token} {j₀ : Nat} (htk : F.Tok j₀ tk) (hj : j₀ ≤ j) : Sim F j s t (lineOf F.o₁ tk) (lineOf F.o₂ tk) Any :=
  fun h => ⟨(L.line h (L.tok_mono htk hj)).symm, j, Nat.le_refl _, h, trivial⟩

theorem S_newID {tk : Token} {j₀ : Nat} (htk : F.Tok j₀ tk) (hj : j₀ ≤ j) : Sim F j s t (newID F.o₁ tk) (newID F.o₂ tk) Any :=
  S_bind (S_lineOf L htk hj) (fun _ _ _ _ _ _ => S_pure _)

theorem S_newString {tk : Token} {j₀ : Nat} (htk : F.Tok j₀ tk) (hj : j₀ ≤ j) :
    Sim F j s t (newString F.o₁ tk) (newString F.o₂ tk) Any :=
  S_bind (S_lineOf L htk hj) (fun _ _ _ _ _ _ => S_pure _)

theorem peekIndentOf_rel (h : F.Rel j s t) : peekIndentOf F.o₂ t = peekIndentOf F.o₁ s := by
  rw [peekIndentOf_eq, peekIndentOf_eq, rel_sl2 L h, L.indents h _ (Or.inr rfl)]

theorem currIndentOf_rel (h : F.Rel j s t) : currIndentOf F.o₂ t = currIndentOf F.o₁ s := by
  rw [currIndentOf_eq, currIndentOf_eq, rel_sl1 L h, L.indents h _ (Or.inl rfl)]

theorem blockCond_rel (h : F.Rel j s t) (d : Nat) : blockCond F.o₂ d t = blockCond F.o₁ d s := by
  unfold blockCond; rw [peekIndentOf_rel L h, rel_p2 L h]

theorem S_expectBlockIndent : Sim F j s t (expectBlockIndent F.o₁) (expectBlockIndent F.o₂) Any := by
  intro h
  rw [expectBlockIndent_eq, expectBlockIndent_eq, rel_sl1 L h, rel_sl2 L h, L.indents h _ (Or.inl rfl), L.indents h _ (Or.inr rfl)]
  split
  · exact ⟨rfl, j, Nat.le_refl _, h, trivial⟩
  · trivial

theorem S_tryConsumeCore (m : Nat) (tys : List Nat) :
    Sim F j s t (tryConsumeCore F.o₁ m tys) (tryConsumeCore F.o₂ (m + F.K) tys) (QTok F) := by
  unfold tryConsumeCore
  refine S_bind_getS (fun hr => ?_)
  rw [rel_flag L hr, rel_p2 L hr]
  refine S_ite (fun _ hr' => ⟨rfl, j, Nat.le_refl _, hr', trivial⟩) (fun _ => S_ite (fun _ => ?_)
    (fun _ hr' => ⟨rfl, j, Nat.le_refl _, hr', trivial⟩))
  exact S_bind (L.next m) (fun _ j' _ _ hj _ hr' => ⟨rfl, j', Nat.le_refl _, hr', L.tok_mono (L.tok_p2 hr) hj⟩)

theorem S_tryConsume (m : Nat) (tys : List Nat) :
    Sim F j s t (tryConsume F.o₁ m tys) (tryConsume F.o₂ (m + F.K) tys) (QTok F) := by
  unfold tryConsume
  refine S_bind_getS (fun hr => ?_)
  rw [rel_p2 L hr]
  exact S_ite (fun _ => S_bind (L.next m) (fun _ _ _ _ _ _ => S_tryConsumeCore L m tys)) (fun _ => S_tryConsumeCore L m tys)

theorem S_consume (v : Variant) (m : Nat) (tys : List Nat) :
    Sim F j s t (consume v F.o₁ m tys) (consume v F.o₂ (m + F.K) tys) Any :=
  S_bind (S_tryConsume L m tys) (S_cont_tok (fun _ _ _ _ => S_errPeek L v 20) (fun _ _ _ _ _ _ => S_pure _))

theorem S_swallowAll_le (m : Nat) (tys : List Nat) : ∀ (k₁ k₂ j : Nat) s t, k₁ ≤ k₂ → F.lax ∨ k₁ = k₂ →
    Sim F j s t (swallowAll F.o₁ m tys k₁) (swallowAll F.o₂ (m + F.K) tys k₂) Any
  | 0, k₂, _, _, _, _, hl => fun _ => Out.fuel (hl.imp id (fun e => by rw [← e]; rfl))
  | k₁ + 1, 0, _, _, _, h, _ => absurd h (by omega)
  | k₁ + 1, k₂ + 1, _, _, _, h, hl => by
    unfold swallowAll
    exact S_bind (S_tryConsume L m tys) (S_cont_tok (fun _ _ _ _ => S_pure _)
      (fun _ _ _ _ _ _ => S_swallowAll_le m tys k₁ k₂ _ _ _ (by omega) (hl.imp id (by omega))))

theorem S_swallowAll (m : Nat) (tys : List Nat) :
    Sim F j s t (swallowAll F.o₁ m tys m) (swallowAll F.o₂ (m + F.K) tys (m + F.K)) Any :=
  S_swallowAll_le L m tys m (m + F.K) j s t (Nat.le_add_right _ _) (L.fuel.imp id (fun e => by rw [e]; rfl))

theorem S_parseID (v : Variant) (m : Nat) : Sim F j s t (parseID v F.o₁ m) (parseID v F.o₂ (m + F.K)) Any :=
  S_bind (S_tryConsume L m _) (S_cont_tok (fun _ _ _ _ => S_errPeek L v 20) (fun _ _ _ _ _ h => S_newID L h (Nat.le_refl _)))

theorem S_optYield (v : Variant) (m : Nat) : Sim F j s t (optYield v F.o₁ m) (optYield v F.o₂ (m + F.K)) Any :=
  S_bind (S_tryConsume L m _) (S_cont_tok (fun _ _ _ _ => S_pure _)
    (fun _ _ _ _ _ _ => S_bind (S_parseID L v m) (fun _ _ _ _ _ _ => S_pure _)))

theorem S_calleeTail (v : Variant) (m : Nat) (hasRoot : Bool) (rootType : Nat) (root : Expr) :
    Sim F j s t (calleeTail v F.o₁ m hasRoot rootType root) (calleeTail v F.o₂ (m + F.K) hasRoot rootType root) Any :=
  S_bind (S_tryConsume L m _) (S_cont_tok (fun _ _ _ _ => S_errPeek L v 20)
    (fun _ _ _ _ _ h => S_bind (S_newID L h (Nat.le_refl _)) (fun _ _ _ _ hj _ => S_bind (S_lineOf L h hj) (fun _ _ _ _ _ _ => S_pure _))))

end prims

end ZnVerif.Proofs.ParserSim
