/-
C18, line table — the scanners between tokens: `parseBeginLex`, `parseLine` (with its `goto head`), the loop of
`PreNextToken`.  Each keeps the invariant `LinesInv.Good 0` (see Proofs/LinesInv.lean); the frame rules of `parseSpaces`,
the indent counter, `setIndentType`, `sliceLastLine` and of one pass of `parseLine` stand next to their definitions
(Model/Lexer.lean).  Core Lean only.
-/
import ZnVerif.Proofs.LinesInv
import ZnVerif.Proofs.Literal

namespace ZnVerif.Model
open Spec.Lines

namespace LinesInv
variable {S : Array Nat}

theorem solid_nb {c : Nat} (h : Solid c) : isBreak c = false := by
  obtain ⟨_, h2, h3⟩ := h
  simp only [isBreak, Bool.or_eq_false_iff, beq_eq_false_iff_ne]
  exact ⟨h2, h3⟩

theorem At.begin (l : Lexer) (hl : l.lines = #[]) (h0 : charAt l.src 0 ≠ 0) :
    At (l.pushLine { indents := 0, startIdx := 0 }) 0 := by
  have hlt := lt_of_charAt_ne_zero h0
  have hne : l.src.toList.isEmpty = false := by
    cases hs : l.src.toList with
    | nil => rw [← Array.length_toList, hs] at hlt; cases hlt
    | cons a r => rfl
  unfold At
  rw [starts_pushLine]
  simp [starts, hl, physicalLineStarts, hne, tail]

theorem At.empty (l : Lexer) (hl : l.lines = #[]) (h0 : l.src.size = 0) (k : Nat) : At l k := by
  unfold At
  have : l.src.toList = [] := by
    apply List.eq_nil_of_length_eq_zero; simpa using h0
  rw [tail_ge l.src k (by omega)]
  simp [starts, hl, physicalLineStarts, this]

theorem parseBeginLex_good (l : Lexer) (hl : l.lines = #[]) (hc : l.cursor = 0) (hb : l.beginLex = false)
    (hS : l.src = S) (h0 : l.getChar 0 ≠ 0) (u : Unit) (l' : Lexer) (h : parseBeginLex l = (.ok u, l')) :
    Good S 0 l' := by
  have g1 : Good S 0 (l.pushLine { indents := 0, startIdx := 0 }) :=
    ⟨hS, hb, by
      have := At.begin l hl h0
      show At _ ((l.pushLine { indents := 0, startIdx := 0 }).cursor + 0)
      rw [Lexer.pushLine_cursor, hc]; exact this⟩
  -- `g1`: with the first line pushed the invariant holds at 0; counting the indent, `setIndentType` and writing the indent into
  -- `Lines[0]` are frames
  unfold parseBeginLex at h
  simp only [] at h
  split at h
  · rename_i hz
    exact absurd (by simpa [runeEOF] using hz) h0
  · split at h
    · rename_i hts
      have hnb : isBreak (l.getChar 0) = false := by
        simp only [Bool.or_eq_true, beq_iff_eq] at hts
        rcases hts with e | e <;> rw [e] <;> decide
      have hcur : (l.pushLine { indents := 0, startIdx := 0 }).cur = l.getChar 0 := by
        show l.getChar l.cursor = _
        rw [hc]
      have f1 := countSame_frame (l.getChar 0) hnb (l.pushLine { indents := 0, startIdx := 0 }) 1
        (by rw [hcur]; exact hnb)
      have f2 := setIndentType_frame (countSame (l.getChar 0) (l.pushLine { indents := 0, startIdx := 0 }) 1).1
        (countSame (l.getChar 0) (l.pushLine { indents := 0, startIdx := 0 }) 1).2 (l.getChar 0)
      split at h
      · rename_i n l2 heq
        rw [heq] at f2
        cases h
        have f3 : Frame 0 l2 { l2 with lines := l2.lines.modify 0 (fun li => { li with indents := n }) } :=
          Frame.of_eq rfl (starts_modify _ _ _ (fun _ => rfl)) rfl rfl
        exact ((f1.trans f2).trans f3).good g1
      · cases h
      · cases h
    · cases h
      exact g1

theorem parseLineBody_good (ch : Nat) (w : Bool) (l : Lexer) (g : Good S 0 l) (hch : l.cur = ch)
    (hbr : isBreak ch = true) (u : Unit) (h : (parseLineBody ch w l).1 = .ok u) :
    Good S 0 (parseLineBody ch w l).2 := by
  subst hch
  rcases parseLineBody_pass l.cur w l with ⟨e, -⟩ | f
  · rw [e] at h; cases h
  · refine f.good ?_
    rw [Lexer.pastBreak_cur]
    exact (g.break hbr).adv

theorem parseLine_good (ch : Nat) (w : Bool) (l : Lexer) (g : Good S 0 l) (hch : l.cur = ch)
    (hbr : isBreak ch = true) (u : Unit) (h : (parseLine ch w l).1 = .ok u) : Good S 0 (parseLine ch w l).2 := by
  unfold parseLine at h ⊢
  have := iterate_inv (step := parseLineStep w) (hc := parseLineStep_consumes w)
    (I := fun l ch => Good S 0 l ∧ l.cur = ch ∧ isBreak ch = true)
    (Q := fun r l' => ∀ u, r = .ok u → Good S 0 l') ?_ ?_ l ch ⟨g, hch, hbr⟩
  · exact this u h
  · intro l ch ch' l' ⟨g, hch, hbr⟩ hs
    have hb := parseLineBody_good ch w l g hch hbr
    unfold parseLineStep at hs
    dsimp only at hs
    split at hs
    · rename_i u' hok
      split at hs
      · rename_i hc
        cases hs
        exact ⟨hb u' hok, rfl, hc⟩
      · cases hs
    · cases hs
    · cases hs
  · intro l ch r l' ⟨g, hch, hbr⟩ hs u' hr
    have hb := parseLineBody_good ch w l g hch hbr
    unfold parseLineStep at hs
    dsimp only at hs
    split at hs
    · rename_i u'' hok
      split at hs
      · cases hs
      · cases hs
        exact hb u'' hok
    · cases hs; cases hr
    · cases hs; cases hr

theorem skipBlank_good (l : Lexer) (g : Good S 0 l) (u : Unit) (h : (skipBlank l).1 = .ok u) :
    Good S 0 (skipBlank l).2 ∧ Solid (skipBlank l).2.cur := by
  unfold skipBlank at h ⊢
  have := iterate_inv (step := skipBlankStep) (hc := skipBlankStep_consumes)
    (I := fun l _ => Good S 0 l)
    (Q := fun r l' => ∀ u, r = .ok u → Good S 0 l' ∧ Solid l'.cur) ?_ ?_ l () g
  · exact this u h
  · intro l _ _ l' g hs
    unfold skipBlankStep at hs
    split at hs
    · cases hs; exact (parseSpaces_frame l).good g
    · split at hs
      · rename_i hc
        dsimp only at hs
        split at hs
        · rename_i u' hok
          cases hs
          exact parseLine_good l.cur true l g rfl hc u' hok
        · cases hs
        · cases hs
      · cases hs
  · intro l _ r l' g hs u' hr
    unfold skipBlankStep at hs
    split at hs
    · cases hs
    · rename_i hw
      split at hs
      · dsimp only at hs
        split at hs
        · cases hs
        · cases hs; cases hr
        · cases hs; cases hr
      · rename_i hc
        cases hs
        refine ⟨g, by simpa using hw, ?_, ?_⟩
        · intro e; rw [e] at hc; exact hc (by decide)
        · intro e; rw [e] at hc; exact hc (by decide)

/-- the state before the first token -/
structure Fresh (l : Lexer) : Prop where
  bl : l.beginLex = true
  lines : l.lines = #[]
  cursor : l.cursor = 0

theorem fresh_mkLexer (src : List Nat) : Fresh (mkLexer src) := ⟨rfl, rfl, rfl⟩

/-- `PreNextToken`: it ends on a character that starts a token or the end of input, the invariant established —
or the text begins with a NUL (`parseBeginLex` takes that for an empty text), which `NextToken` rejects -/
theorem preNextToken_good (l : Lexer) (hS : l.src = S) (hl : Fresh l ∨ Good S 0 l) (u : Unit) (l1 : Lexer)
    (h : preNextToken l = (.ok u, l1)) :
    (Good S 0 l1 ∧ Solid l1.cur) ∨ (l1.cur = 0 ∧ l1.cursor < l1.src.size) := by
  have later : ∀ l : Lexer, Good S 0 l → ∀ l1, skipBlank l = (.ok u, l1) → Good S 0 l1 ∧ Solid l1.cur := by
    intro l g l1 h
    have := skipBlank_good l g u (by rw [h])
    rw [h] at this; exact this
  unfold preNextToken at h
  rcases hl with hf | g
  · simp only [hf.bl, ↓reduceIte] at h
    split at h
    · rename_i u' hok
      by_cases h0 : ({ l with beginLex := false } : Lexer).getChar 0 = 0
      · -- NUL or nothing at position 0: `parseBeginLex` does nothing
        have hpb : parseBeginLex { l with beginLex := false } = (.ok (), { l with beginLex := false }) := by
          unfold parseBeginLex
          simp [h0, runeEOF]
        rw [hpb] at h
        have hcur : ({ l with beginLex := false } : Lexer).cur = 0 := by
          show ({ l with beginLex := false } : Lexer).getChar l.cursor = 0
          rw [hf.cursor]; exact h0
        have hsolid : Solid ({ l with beginLex := false } : Lexer).cur := by
          rw [hcur]; exact ⟨by decide, by decide, by decide⟩
        rw [skipBlank_solid _ hsolid] at h
        cases h
        by_cases hs : l.src.size = 0
        · left
          exact ⟨⟨hS, rfl, At.empty _ hf.lines hs _⟩, hsolid⟩
        · right
          exact ⟨hcur, by show l.cursor < l.src.size; rw [hf.cursor]; omega⟩
      · left
        have g := parseBeginLex_good { l with beginLex := false } hf.lines hf.cursor rfl hS h0 u'
          (parseBeginLex { l with beginLex := false }).2 (by rw [← hok])
        exact later _ g l1 h
    · cases h
    · cases h
  · simp only [g.bl, Bool.false_eq_true, ↓reduceIte] at h
    left
    exact later l g l1 h

end LinesInv
end ZnVerif.Model
