/-
Lemmas for the number-recognition theorems of C04 (`tryParseNumber`, pkg/exec/id_match.go).

Route: (1) `specStep` is a hand-written step function over 9 character classes; the *finite reflection*
`dfaStep_eq` ties the table regenerated from the Go switch to it (every listed character < 128, every state < 14,
all 14 × 128 cells compared by `decide +kernel`, everything outside is `goto end` on both sides) — a semantic
change of the Go switch breaks `table_eq_spec_fin`, a re-ordering of cases does not.
(2) `L q` is the language still to be read in state `q` (one invariant per state); `acc_sound` (→, induction on
the input) and the `acc…` lemmas (←, per-segment scanning) give `number_form` for all strings.
(3) the name / error exits, the executable oracle `numFormB`/`classify`, and the ParseFloat text.
-/
import ZnVerif.Model.IdMatch
import ZnVerif.Spec.NumberForm

namespace ZnVerif.Proofs.NumberForm
open ZnVerif ZnVerif.Model ZnVerif.Spec ZnVerif.Generated

inductive Cls where
  | e | dot | sign | star | one | zero | dig | caret | other
  deriving DecidableEq, Repr

def classOf (c : Nat) : Cls :=
  if c = 0x65 ∨ c = 0x45 then .e
  else if c = 0x2E then .dot
  else if c = 0x2B ∨ c = 0x2D then .sign
  else if c = 0x2A then .star
  else if c = 0x31 then .one
  else if c = 0x30 then .zero
  else if 0x32 ≤ c ∧ c ≤ 0x39 then .dig
  else if c = 0x5E then .caret
  else .other

def digStep (q : Nat) : Option Nat :=
  if q = 1 ∨ q = 3 ∨ q = 5 then some 3
  else if q = 2 ∨ q = 6 then some 6
  else if q = 9 ∨ q = 11 ∨ q = 12 then some 12
  else none

def specStep (q : Nat) : Cls → Option Nat
  | .e => if q = 3 ∨ q = 6 then some 7 else none
  | .dot => if q = 3 then some 2 else none
  | .sign => if q = 1 then some 5 else if q = 7 ∨ q = 11 then some 9 else none
  | .star => if q = 3 ∨ q = 6 then some 8 else none
  | .one => if q = 8 then some 10 else digStep q
  | .zero => if q = 10 then some 13 else digStep q
  | .dig => digStep q
  | .caret => if q = 8 ∨ q = 13 then some 11 else none
  | .other => none

def Cls.all : List Cls := [.e, .dot, .sign, .star, .one, .zero, .dig, .caret, .other]
theorem Cls.mem_all (k : Cls) : k ∈ Cls.all := by cases k <;> decide

theorem table_chars_ascii : ∀ t ∈ NumberDFA.transitions, ∀ c ∈ t.1, c < 128 := by decide
theorem table_states_small :
    ∀ t ∈ NumberDFA.transitions, ∀ tr ∈ t.2, (∀ q ∈ tr.1, q < 14) ∧ tr.2 < 14 := by decide
theorem table_eq_spec_fin : ∀ q, q < 14 → ∀ c, c < 128 → dfaStep q c = specStep q (classOf c) := by
  decide +kernel

theorem classOf_big {c : Nat} (h : 128 ≤ c) : classOf c = .other := by
  unfold classOf
  rw [if_neg (by omega), if_neg (by omega), if_neg (by omega), if_neg (by omega), if_neg (by omega),
    if_neg (by omega), if_neg (by omega), if_neg (by omega)]

theorem digStep_big {q : Nat} (h : 14 ≤ q) : digStep q = none := by
  unfold digStep
  rw [if_neg (by omega), if_neg (by omega), if_neg (by omega)]

theorem specStep_big {q : Nat} (h : 14 ≤ q) (k : Cls) : specStep q k = none := by
  cases k <;> simp only [specStep, digStep_big h] <;> (try rw [if_neg (by omega)]) <;> (try rw [if_neg (by omega)])

theorem dfaStep_eq (q c : Nat) : dfaStep q c = specStep q (classOf c) := by
  by_cases hc : c < 128
  · by_cases hq : q < 14
    · exact table_eq_spec_fin q hq c hc
    · rw [specStep_big (by omega)]
      unfold dfaStep
      split
      · rfl
      · rename_i cs trs hf
        have hm := List.mem_of_find?_eq_some hf
        have : trs.find? (fun tr => tr.1.contains q) = none := by
          rw [List.find?_eq_none]
          intro tr htr hcon
          have := (table_states_small _ hm tr htr).1 q (by simpa using hcon)
          omega
        rw [this]; rfl
  · rw [classOf_big (by omega)]
    unfold dfaStep
    have : NumberDFA.transitions.find? (fun t => t.1.contains c) = none := by
      rw [List.find?_eq_none]
      intro t ht hcon
      have := table_chars_ascii t ht c (by simpa using hcon)
      omega
    rw [this]; rfl


abbrev ClassFacts (c : Nat) : Prop :=
  (classOf c = .e ↔ (c = 0x65 ∨ c = 0x45)) ∧ (classOf c = .dot ↔ c = 0x2E) ∧
  (classOf c = .sign ↔ isSignCh c = true) ∧ (classOf c = .star ↔ c = 0x2A) ∧
  (classOf c = .one ↔ c = 0x31) ∧ (classOf c = .zero ↔ c = 0x30) ∧
  (classOf c = .caret ↔ c = 0x5E) ∧
  ((classOf c = .one ∨ classOf c = .zero ∨ classOf c = .dig) ↔ isDigit c = true)

theorem classOf_facts_fin : ∀ c, c < 128 → ClassFacts c := by decide +kernel

theorem classOf_facts (c : Nat) : ClassFacts c := by
  by_cases hc : c < 128
  · exact classOf_facts_fin c hc
  · have h := classOf_big (c := c) (by omega)
    simp only [ClassFacts, h, isSignCh, isDigit]
    refine ⟨?_, ?_, ?_, ?_, ?_, ?_, ?_, ?_⟩ <;> simp <;> omega


def run : Nat → List Nat → Nat × List Nat
  | q, [] => (q, [])
  | q, c :: r =>
    match dfaStep q c with
    | none => (q, c :: r)
    | some q' => run q' r

theorem run_length (q : Nat) (s : List Nat) : (run q s).2.length ≤ s.length := by
  induction s generalizing q with
  | nil => simp [run]
  | cons c r ih =>
    unfold run
    split
    · simp
    · rename_i q' _
      have := ih q'
      simp; omega

theorem dfaScan_eq_run (q n : Nat) (s : List Nat) :
    dfaScan q n s = ((run q s).1, n + (s.length - (run q s).2.length)) := by
  induction s generalizing q n with
  | nil => simp [run, dfaScan]
  | cons c r ih =>
    unfold run dfaScan
    cases h : dfaStep q c with
    | none => simp
    | some q' =>
      simp only [ih]
      have := run_length q' r
      simp; omega

/-- acceptance from state `q`: everything consumed and an end state reached -/
def Acc (q : Nat) (s : List Nat) : Prop :=
  (run q s).2 = [] ∧ ((run q s).1 = 3 ∨ (run q s).1 = 6 ∨ (run q s).1 = 12)

instance (q : Nat) (s : List Nat) : Decidable (Acc q s) := by unfold Acc; exact inferInstance

/-- the code after `end:` as a three-way answer -/
theorem tpn_cases (s : List Nat) : tryParseNumber s =
    if (run 1 s).2.length = s.length ∨ (run 1 s).1 = 5 then .name
    else if Acc 1 s then .number else .error := by
  unfold tryParseNumber Acc
  simp only [dfaScan_eq_run, NumberDFA.beginState, NumberDFA.signOnlyState, NumberDFA.endStates]
  have hl := run_length 1 s
  have e1 : (0 + (s.length - (run 1 s).2.length) = 0) ↔ ((run 1 s).2.length = s.length) := by omega
  have e2 : (0 + (s.length - (run 1 s).2.length) < s.length) ↔ ¬ (run 1 s).2 = [] := by
    rw [← List.length_eq_zero_iff]; omega
  have e3 : (!([3, 6, 12] : List Nat).contains (run 1 s).1) = true ↔
      ¬((run 1 s).1 = 3 ∨ (run 1 s).1 = 6 ∨ (run 1 s).1 = 12) := by simp
  simp only [e1, e2, e3]
  by_cases h1 : (run 1 s).2.length = s.length
  · simp [h1]
  · by_cases h5 : (run 1 s).1 = 5
    · simp [h5]
    · by_cases h3 : (run 1 s).1 = 3 ∨ (run 1 s).1 = 6 ∨ (run 1 s).1 = 12 <;>
        by_cases h4 : (run 1 s).2 = [] <;> simp [h1, h5, h3, h4]

theorem acc_nil (q : Nat) : Acc q [] ↔ (q = 3 ∨ q = 6 ∨ q = 12) := by
  simp [Acc, run]

theorem acc_cons (q c : Nat) (s : List Nat) :
    Acc q (c :: s) ↔ ∃ q', specStep q (classOf c) = some q' ∧ Acc q' s := by
  unfold Acc
  rw [run, dfaStep_eq]
  cases specStep q (classOf c) with
  | none => simp
  | some q' => simp


def D0 (l : List Nat) : Prop := ∀ c ∈ l, isDigit c = true
def SD (s : List Nat) : Prop := ∃ sg d, s = sg ++ d ∧ SignOpt sg ∧ Digits1 d

/-- what remains to be read in each of the 12 states of id_match.go -/
def L : Nat → List Nat → Prop
  | 1, s => NumForm s                                                        -- sBegin
  | 5, s => ∃ i f e, s = i ++ f ++ e ∧ Digits1 i ∧ Frac f ∧ Exp e            -- sIntPMFlag
  | 3, s => ∃ i f e, s = i ++ f ++ e ∧ D0 i ∧ Frac f ∧ Exp e                 -- sIntEnd
  | 2, s => ∃ d e, s = d ++ e ∧ Digits1 d ∧ Exp e                            -- sDot
  | 6, s => ∃ d e, s = d ++ e ∧ D0 d ∧ Exp e                                 -- sDotDecEnd
  | 7, s => ∃ sg d, s = sg :: d ∧ isSignCh sg = true ∧ Digits1 d             -- sEFlag
  | 8, s => SD (s.drop 1) ∧ s.take 1 = [0x5E] ∨
            SD (s.drop 3) ∧ s.take 3 = [0x31, 0x30, 0x5E]                    -- sSFlag
  | 10, s => SD (s.drop 2) ∧ s.take 2 = [0x30, 0x5E]                          -- sSciI
  | 13, s => SD (s.drop 1) ∧ s.take 1 = [0x5E]                                -- sSciII
  | 11, s => SD s                                                             -- sSciEndFlag
  | 9, s => Digits1 s                                                         -- sExpPMFlag
  | 12, s => D0 s                                                             -- sExpEnd
  | _, _ => False

theorem D0_nil : D0 [] := by intro c h; cases h
theorem D0_cons {c : Nat} {l : List Nat} (hc : isDigit c = true) (hl : D0 l) : D0 (c :: l) := by
  intro x hx
  rcases List.mem_cons.mp hx with rfl | h
  · exact hc
  · exact hl x h
theorem D1_cons {c : Nat} {l : List Nat} (hc : isDigit c = true) (hl : D0 l) : Digits1 (c :: l) :=
  ⟨by simp, D0_cons hc hl⟩
theorem D1_D0 {l : List Nat} (h : Digits1 l) : D0 l := h.2
theorem D1_cases {l : List Nat} (h : Digits1 l) : ∃ c r, l = c :: r ∧ isDigit c = true ∧ D0 r := by
  cases l with
  | nil => exact absurd rfl h.1
  | cons c r => exact ⟨c, r, rfl, h.2 c (by simp), fun x hx => h.2 x (by simp [hx])⟩

theorem exp_of_L7 {c : Nat} {s : List Nat} (hc : c = 0x65 ∨ c = 0x45) (h : L 7 s) : Exp (c :: s) := by
  obtain ⟨sg, d, rfl, hs, hd⟩ := h
  exact Or.inr (Or.inl ⟨c, sg, d, rfl, hc, hs, hd⟩)

theorem exp_of_L8 {s : List Nat} (h : L 8 s) : Exp (0x2A :: s) := by
  rcases h with ⟨⟨sg, d, hsd, hs, hd⟩, ht⟩ | ⟨⟨sg, d, hsd, hs, hd⟩, ht⟩
  · refine Or.inr (Or.inr (Or.inr ⟨sg, d, ?_, hs, hd⟩))
    have := List.take_append_drop 1 s
    rw [ht, hsd] at this
    rw [← this]; simp
  · refine Or.inr (Or.inr (Or.inl ⟨sg, d, ?_, hs, hd⟩))
    have := List.take_append_drop 3 s
    rw [ht, hsd] at this
    rw [← this]; simp


/-- a digit read in state `q` (other than the `1`/`0` of `*10^`): `L` is closed backwards -/
theorem L_digit {q q' c : Nat} {s : List Nat} (hc : isDigit c = true) (hq : digStep q = some q')
    (h : L q' s) : L q (c :: s) := by
  unfold digStep at hq
  split at hq
  · cases hq
    obtain ⟨i, f, e, rfl, hi, hf, he⟩ := h
    rename_i hq
    rcases hq with rfl | rfl | rfl
    · exact ⟨[], c :: i, f, e, by simp, Or.inl rfl, D1_cons hc hi, hf, he⟩
    · exact ⟨c :: i, f, e, by simp, D0_cons hc hi, hf, he⟩
    · exact ⟨c :: i, f, e, by simp, D1_cons hc hi, hf, he⟩
  · split at hq
    · cases hq
      obtain ⟨d, e, rfl, hd, he⟩ := h
      rename_i hq
      rcases hq with rfl | rfl
      · exact ⟨c :: d, e, by simp, D1_cons hc hd, he⟩
      · exact ⟨c :: d, e, by simp, D0_cons hc hd, he⟩
    · split at hq
      · cases hq
        rename_i hq
        have h : D0 s := h
        rcases hq with rfl | rfl | rfl
        · exact D1_cons hc h
        · exact ⟨[], c :: s, rfl, Or.inl rfl, D1_cons hc h⟩
        · exact D0_cons hc h
      · cases hq

theorem acc_sound : ∀ (s : List Nat) (q : Nat), Acc q s → L q s := by
  intro s
  induction s with
  | nil =>
    intro q h
    rcases (acc_nil q).mp h with rfl | rfl | rfl
    · exact ⟨[], [], [], rfl, D0_nil, Or.inl rfl, Or.inl rfl⟩
    · exact ⟨[], [], rfl, D0_nil, Or.inl rfl⟩
    · exact D0_nil
  | cons c s ih =>
    intro q h
    obtain ⟨q', hstep, hacc⟩ := (acc_cons q c s).mp h
    have hL := ih q' hacc
    -- by the class of `c`: the edge taken fixes `q`, and `L q'` of the rest extends to `L q` of the whole (digit edges: `L_digit`)
    obtain ⟨fe, fdot, fsign, fstar, fone, fzero, fcaret, fdig⟩ := classOf_facts c
    cases hk : classOf c <;> rw [hk] at hstep <;> simp only [specStep] at hstep
    case e =>
      have hc := fe.mp hk
      split at hstep
      · cases hstep
        rename_i hq
        rcases hq with rfl | rfl
        · exact ⟨[], [], c :: s, rfl, D0_nil, Or.inl rfl, exp_of_L7 hc hL⟩
        · exact ⟨[], c :: s, rfl, D0_nil, exp_of_L7 hc hL⟩
      · cases hstep
    case dot =>
      have hc := fdot.mp hk
      split at hstep
      · cases hstep
        rename_i hq
        subst hq; subst hc
        obtain ⟨d, e, rfl, hd, he⟩ := hL
        exact ⟨[], 0x2E :: d, e, by simp, D0_nil, Or.inr ⟨d, rfl, hd⟩, he⟩
      · cases hstep
    case sign =>
      have hc := fsign.mp hk
      split at hstep
      · cases hstep
        rename_i hq; subst hq
        obtain ⟨i, f, e, rfl, hi, hf, he⟩ := hL
        exact ⟨[c], i, f, e, by simp, Or.inr ⟨c, rfl, hc⟩, hi, hf, he⟩
      · split at hstep
        · cases hstep
          rename_i hq
          have hL : Digits1 s := hL
          rcases hq with rfl | rfl
          · exact ⟨c, s, rfl, hc, hL⟩
          · exact ⟨[c], s, rfl, Or.inr ⟨c, rfl, hc⟩, hL⟩
        · cases hstep
    case star =>
      have hc := fstar.mp hk
      subst hc
      split at hstep
      · cases hstep
        rename_i hq
        rcases hq with rfl | rfl
        · exact ⟨[], [], 0x2A :: s, rfl, D0_nil, Or.inl rfl, exp_of_L8 hL⟩
        · exact ⟨[], 0x2A :: s, rfl, D0_nil, exp_of_L8 hL⟩
      · cases hstep
    case one =>
      have hd : isDigit c = true := fdig.mp (Or.inl hk)
      have hc := fone.mp hk
      split at hstep
      · cases hstep
        rename_i hq; subst hq; subst hc
        have hL : SD (s.drop 2) ∧ s.take 2 = [0x30, 0x5E] := hL
        exact Or.inr (by simpa using hL)
      · exact L_digit hd hstep hL
    case zero =>
      have hd : isDigit c = true := fdig.mp (Or.inr (Or.inl hk))
      have hc := fzero.mp hk
      split at hstep
      · cases hstep
        rename_i hq; subst hq; subst hc
        have hL : SD (s.drop 1) ∧ s.take 1 = [0x5E] := hL
        show SD ((0x30 :: s).drop 2) ∧ (0x30 :: s).take 2 = [0x30, 0x5E]
        simpa using hL
      · exact L_digit hd hstep hL
    case dig =>
      have hd : isDigit c = true := fdig.mp (Or.inr (Or.inr hk))
      exact L_digit hd hstep hL
    case caret =>
      have hc := fcaret.mp hk
      subst hc
      split at hstep
      · cases hstep
        rename_i hq
        have hL : SD s := hL
        rcases hq with rfl | rfl
        · exact Or.inl (by simpa using hL)
        · show SD ((0x5E :: s).drop 1) ∧ (0x5E :: s).take 1 = [0x5E]
          simpa using hL
      · cases hstep
    case other => cases hstep


theorem acc_step {q q' c : Nat} {s : List Nat} (h : specStep q (classOf c) = some q')
    (ha : Acc q' s) : Acc q (c :: s) := (acc_cons q c s).mpr ⟨q', h, ha⟩

/-- a digit follows the digit edge (`digStep` has none at 8 and 10, where `1` and `0` are read on their own) -/
theorem step_digit {q q' c : Nat} (hc : isDigit c = true) (hq : digStep q = some q') :
    specStep q (classOf c) = some q' := by
  have h8 : q ≠ 8 := by rintro rfl; cases hq
  have h10 : q ≠ 10 := by rintro rfl; cases hq
  rcases (classOf_facts c).2.2.2.2.2.2.2.mpr hc with h | h | h <;> rw [h] <;> simp [specStep, h8, h10, hq]

theorem step_sign {q q' c : Nat} (hc : isSignCh c = true) (h : specStep q .sign = some q') :
    specStep q (classOf c) = some q' := by
  rw [(classOf_facts c).2.2.1.mpr hc]; exact h

theorem acc_digits_loop {q : Nat} (hq : digStep q = some q)
    {d r : List Nat} (hd : D0 d) (hr : Acc q r) : Acc q (d ++ r) := by
  induction d with
  | nil => exact hr
  | cons c d ih =>
    exact acc_step (step_digit (hd c (by simp)) hq) (ih fun x hx => hd x (by simp [hx]))

theorem acc_digits_first {q q' : Nat} (hq : digStep q = some q') (hq' : digStep q' = some q')
    {d r : List Nat} (hd : Digits1 d) (hr : Acc q' r) : Acc q (d ++ r) := by
  obtain ⟨c, d', rfl, hc, hd'⟩ := D1_cases hd
  exact acc_step (step_digit hc hq) (acc_digits_loop hq' hd' hr)

theorem acc9 {d : List Nat} (hd : Digits1 d) : Acc 9 d := by
  simpa using acc_digits_first (q := 9) rfl rfl hd ((acc_nil 12).mpr (by decide))

theorem acc11 {s : List Nat} (h : SD s) : Acc 11 s := by
  obtain ⟨sg, d, rfl, hs, hd⟩ := h
  rcases hs with rfl | ⟨c, rfl, hc⟩
  · simpa using acc_digits_first (q := 11) rfl rfl hd ((acc_nil 12).mpr (by decide))
  · exact acc_step (step_sign hc (by decide)) (acc9 hd)

theorem acc_exp {q : Nat} (hq : q = 3 ∨ q = 6) {e : List Nat} (he : Exp e) : Acc q e := by
  rcases he with rfl | ⟨ec, sg, d, rfl, hec, hs, hd⟩ | ⟨sg, d, rfl, hs, hd⟩ | ⟨sg, d, rfl, hs, hd⟩
  · exact (acc_nil q).mpr (by omega)
  · have h7 : Acc 7 (sg :: d) := acc_step (step_sign hs (by decide)) (acc9 hd)
    refine acc_step ?_ h7
    rw [(classOf_facts ec).1.mpr hec]
    rcases hq with rfl | rfl <;> decide
  · have h11 : Acc 11 (sg ++ d) := acc11 ⟨sg, d, rfl, hs, hd⟩
    have h13 : Acc 13 (0x5E :: (sg ++ d)) := acc_step (by decide) h11
    have h10 : Acc 10 (0x30 :: 0x5E :: (sg ++ d)) := acc_step (by decide) h13
    have h8 : Acc 8 (0x31 :: 0x30 :: 0x5E :: (sg ++ d)) := acc_step (by decide) h10
    have : Acc q (0x2A :: 0x31 :: 0x30 :: 0x5E :: (sg ++ d)) :=
      acc_step (by rcases hq with rfl | rfl <;> decide) h8
    simpa using this
  · have h11 : Acc 11 (sg ++ d) := acc11 ⟨sg, d, rfl, hs, hd⟩
    have h8 : Acc 8 (0x5E :: (sg ++ d)) := acc_step (by decide) h11
    have : Acc q (0x2A :: 0x5E :: (sg ++ d)) :=
      acc_step (by rcases hq with rfl | rfl <;> decide) h8
    simpa using this

theorem acc6 {d e : List Nat} (hd : D0 d) (he : Exp e) : Acc 6 (d ++ e) :=
  acc_digits_loop rfl hd (acc_exp (Or.inr rfl) he)

theorem acc2 {d e : List Nat} (hd : Digits1 d) (he : Exp e) : Acc 2 (d ++ e) :=
  acc_digits_first (q := 2) rfl rfl hd (acc_exp (Or.inr rfl) he)

theorem acc_frac_exp {f e : List Nat} (hf : Frac f) (he : Exp e) : Acc 3 (f ++ e) := by
  rcases hf with rfl | ⟨d, rfl, hd⟩
  · simpa using acc_exp (Or.inl rfl) he
  · have : Acc 3 (0x2E :: (d ++ e)) := acc_step (by decide) (acc2 hd he)
    simpa using this

theorem acc3 {i f e : List Nat} (hi : D0 i) (hf : Frac f) (he : Exp e) : Acc 3 (i ++ f ++ e) := by
  rw [List.append_assoc]
  exact acc_digits_loop rfl hi (acc_frac_exp hf he)

theorem acc5 {i f e : List Nat} (hi : Digits1 i) (hf : Frac f) (he : Exp e) :
    Acc 5 (i ++ f ++ e) := by
  rw [List.append_assoc]
  exact acc_digits_first (q := 5) rfl rfl hi (acc_frac_exp hf he)

theorem acc1 {s : List Nat} (h : NumForm s) : Acc 1 s := by
  obtain ⟨sg, i, f, e, rfl, hs, hi, hf, he⟩ := h
  rcases hs with rfl | ⟨c, rfl, hc⟩
  · simpa using acc_digits_first (q := 1) rfl rfl hi (acc_frac_exp hf he)
  · simpa using acc_step (step_sign hc (by decide)) (acc5 hi hf he)

/-- no transition leads back to the begin state, and only a sign read there leads to the sign-only state -/
theorem specStep_target {q q' : Nat} {k : Cls} (h : specStep q k = some q') :
    q' ≠ 1 ∧ (q' = 5 → q = 1) := by
  have fin : ∀ q < 14, ∀ k ∈ Cls.all, ∀ q' ∈ specStep q k, q' ≠ 1 ∧ (q' = 5 → q = 1) := by decide
  by_cases hq : q < 14
  · exact fin q hq k k.mem_all q' h
  · rw [specStep_big (by omega)] at h; cases h

theorem run_state_good (r : List Nat) (q : Nat) (h1 : q ≠ 1) (h5 : q ≠ 5) :
    (run q r).1 ≠ 5 ∧ (run q r).1 ≠ 1 := by
  induction r generalizing q with
  | nil => exact ⟨h5, h1⟩
  | cons c r ih =>
    unfold run
    rw [dfaStep_eq]
    cases h : specStep q (classOf c) with
    | none => exact ⟨h5, h1⟩
    | some q' =>
      have := specStep_target h
      exact ih q' this.1 (fun h => h1 (this.2 h))

theorem run_step {q q' c : Nat} {r : List Nat} (h : specStep q (classOf c) = some q') :
    run q (c :: r) = run q' r := by
  rw [run, dfaStep_eq, h]

theorem run_stuck {q c : Nat} {r : List Nat} (h : specStep q (classOf c) = none) :
    run q (c :: r) = (q, c :: r) := by
  rw [run, dfaStep_eq, h]

/-- at the beginning, and after a sign, nothing but a digit (or, at the beginning, a sign) is read -/
theorem step_stuck {q c : Nat} (hq : q = 1 ∨ q = 5) (hd : ¬ isDigit c = true) (hs : q = 1 → ¬ isSignCh c = true) :
    specStep q (classOf c) = none := by
  obtain ⟨_, _, fsign, _, _, _, _, fdig⟩ := classOf_facts c
  cases hk : classOf c
  case sign =>
    rcases hq with rfl | rfl
    · exact absurd (fsign.mp hk) (hs rfl)
    · rfl
  case one => exact absurd (fdig.mp (Or.inl hk)) hd
  case zero => exact absurd (fdig.mp (Or.inr (Or.inl hk))) hd
  case dig => exact absurd (fdig.mp (Or.inr (Or.inr hk))) hd
  all_goals rcases hq with rfl | rfl <;> rfl

/-- the scan stops before the first character, or after a lone sign, exactly on what does not start like a number -/
theorem name_iff (s : List Nat) :
    ((run 1 s).2.length = s.length ∨ (run 1 s).1 = 5) ↔ ¬ StartsLikeNumber s := by
  constructor
  · rintro h ⟨sg, d, rest, rfl, hs, hd⟩
    have h3 : run 1 (sg ++ d :: rest) = run 3 rest := by
      rcases hs with rfl | ⟨c, rfl, hc⟩
      · exact run_step (step_digit hd (rfl : digStep 1 = some 3))
      · show run 1 (c :: d :: rest) = _
        rw [run_step (step_sign hc (by decide) : _ = some 5)]
        exact run_step (step_digit hd (rfl : digStep 5 = some 3))
    rw [h3] at h
    rcases h with h | h
    · have := run_length 3 rest
      simp at h; omega
    · exact (run_state_good rest 3 (by decide) (by decide)).1 h
  · intro h
    cases s with
    | nil => left; rfl
    | cons c r =>
      have hd : ¬ isDigit c = true := fun hd => h ⟨[], c, r, rfl, Or.inl rfl, hd⟩
      by_cases hs : isSignCh c = true
      · right
        rw [run_step (step_sign hs (by decide) : _ = some 5)]
        cases r with
        | nil => rfl
        | cons c2 r2 =>
          rw [run_stuck (step_stuck (Or.inr rfl) (fun hd2 => h ⟨[c], c2, r2, rfl, Or.inr ⟨c, rfl, hs⟩, hd2⟩)
            (fun e => absurd e (by decide)))]
      · left
        rw [run_stuck (step_stuck (Or.inl rfl) hd (fun _ => hs))]

theorem numForm_starts {s : List Nat} (h : NumForm s) : StartsLikeNumber s := by
  obtain ⟨sg, i, f, e, rfl, hs, hi, -, -⟩ := h
  obtain ⟨c, i', rfl, hc, -⟩ := D1_cases hi
  exact ⟨sg, c, i' ++ f ++ e, by simp, hs, hc⟩

open Classical in
theorem tpn_spec (s : List Nat) : tryParseNumber s =
    if ¬ StartsLikeNumber s then .name else if NumForm s then .number else .error := by
  have a : Acc 1 s ↔ NumForm s := ⟨acc_sound s 1, acc1⟩
  simp only [tpn_cases, name_iff, a]

theorem number_form (s : List Nat) : tryParseNumber s = .number ↔ NumForm s := by
  rw [tpn_spec]
  by_cases h2 : NumForm s
  · simp [h2, numForm_starts h2]
  · by_cases h1 : StartsLikeNumber s <;> simp [h1, h2]

theorem starts_like_number_rejected (s : List Nat) (h1 : StartsLikeNumber s) (h2 : ¬ NumForm s) :
    tryParseNumber s = .error := by
  rw [tpn_spec, if_neg (fun h => h h1), if_neg h2]

theorem otherwise_name (s : List Nat) (h : ¬ StartsLikeNumber s) : tryParseNumber s = .name := by
  rw [tpn_spec, if_pos h]


theorem digit_not_sign {c : Nat} (h : isDigit c = true) : isSignCh c = false := by
  simp [isDigit, isSignCh] at *; omega

theorem takeDigits_spec (l : List Nat) :
    l = (takeDigits l).1 ++ (takeDigits l).2 ∧ D0 (takeDigits l).1 ∧
    (∀ c r, (takeDigits l).2 = c :: r → isDigit c = false) := by
  induction l with
  | nil => simp [takeDigits, D0_nil]
  | cons c r ih =>
    unfold takeDigits
    by_cases hc : isDigit c = true
    · simp only [hc, if_true]
      exact ⟨by simp [← ih.1], D0_cons hc ih.2.1, ih.2.2⟩
    · simp only [hc]
      refine ⟨rfl, D0_nil, ?_⟩
      intro c' r' h
      cases h
      simpa using hc

theorem takeDigits_append {a b : List Nat} (ha : D0 a)
    (hb : ∀ c r, b = c :: r → isDigit c = false) : takeDigits (a ++ b) = (a, b) := by
  induction a with
  | nil =>
    cases b with
    | nil => rfl
    | cons c r => simp [takeDigits, hb c r rfl]
  | cons c a ih =>
    have hc : isDigit c = true := ha c (by simp)
    have := ih (fun x hx => ha x (by simp [hx]))
    simp [takeDigits, hc, this]

/-- `let (a, b) := takeDigits l; !a.isEmpty && b.isEmpty` -/
def d1B (l : List Nat) : Bool := !(takeDigits l).1.isEmpty && (takeDigits l).2.isEmpty

theorem d1B_iff (l : List Nat) : d1B l = true ↔ Digits1 l := by
  unfold d1B
  obtain ⟨h1, h2, h3⟩ := takeDigits_spec l
  constructor
  · intro h
    simp at h
    rw [h.2] at h1
    simp at h1
    rw [h1]
    exact ⟨by simpa using h.1, h2⟩
  · intro h
    have := takeDigits_append (a := l) (b := []) h.2 (by simp)
    simp at this
    rw [this]
    simpa using h.1

theorem dropSign_spec (s : List Nat) : ∃ sg, s = sg ++ dropSign s ∧ SignOpt sg := by
  cases s with
  | nil => exact ⟨[], rfl, Or.inl rfl⟩
  | cons c r =>
    by_cases hc : isSignCh c = true
    · exact ⟨[c], by simp [dropSign, hc], Or.inr ⟨c, rfl, hc⟩⟩
    · exact ⟨[], by simp [dropSign, hc], Or.inl rfl⟩

theorem dropSign_append {sg r : List Nat} {c : Nat} (hs : SignOpt sg) (hc : isDigit c = true) :
    dropSign (sg ++ c :: r) = c :: r := by
  rcases hs with rfl | ⟨c', rfl, hc'⟩
  · simp [dropSign, digit_not_sign hc]
  · simp [dropSign, hc']

def sdB (l : List Nat) : Bool := d1B (dropSign l)

theorem sdB_iff (l : List Nat) : sdB l = true ↔ SD l := by
  unfold sdB
  rw [d1B_iff]
  constructor
  · intro h
    obtain ⟨sg, hsg, hs⟩ := dropSign_spec l
    exact ⟨sg, _, hsg, hs, h⟩
  · rintro ⟨sg, d, rfl, hs, hd⟩
    obtain ⟨c, d', rfl, hc, _⟩ := D1_cases hd
    rwa [dropSign_append hs hc]


theorem expB_sound (l : List Nat) (h : expB l = true) : Exp l := by
  unfold expB at h
  split at h
  · exact Or.inl rfl
  · rename_i e sg d
    split at h
    · rename_i he
      have h' : (isSignCh sg && d1B d) = true := h
      simp only [Bool.and_eq_true, d1B_iff] at h'
      exact Or.inr (Or.inl ⟨e, sg, d, rfl, by simpa using he, h'.1, h'.2⟩)
    · split at h
      · rename_i he
        have he : e = 0x2A := by simpa using he
        subst he
        dsimp only at h
        split at h
        · cases h
        · rename_i r hr
          have h' : sdB r = true := h
          obtain ⟨s', d', rfl, hs, hd⟩ := (sdB_iff r).mp h'
          split at hr
          · rename_i hsg
            have hsg : sg = 0x5E := by simpa using hsg
            cases hr; subst hsg
            exact Or.inr (Or.inr (Or.inr ⟨s', d', by simp, hs, hd⟩))
          · split at hr
            · cases hr
              exact Or.inr (Or.inr (Or.inl ⟨s', d', by simp, hs, hd⟩))
            · cases hr
      · cases h
  · cases h

theorem expB_complete (l : List Nat) (h : Exp l) : expB l = true := by
  rcases h with rfl | ⟨ec, sg, d, rfl, hec, hs, hd⟩ | ⟨sg, d, rfl, hs, hd⟩ | ⟨sg, d, rfl, hs, hd⟩
  · rfl
  · have h' : (isSignCh sg && d1B d) = true := by simp [hs, (d1B_iff d).mpr hd]
    unfold expB
    rcases hec with rfl | rfl <;> exact h'
  · have h' : sdB (sg ++ d) = true := (sdB_iff _).mpr ⟨sg, d, rfl, hs, hd⟩
    exact h'
  · have h' : sdB (sg ++ d) = true := (sdB_iff _).mpr ⟨sg, d, rfl, hs, hd⟩
    exact h'

theorem expB_iff (l : List Nat) : expB l = true ↔ Exp l := ⟨expB_sound l, expB_complete l⟩

theorem numFormB_eq (s : List Nat) : numFormB s =
    (if (takeDigits (dropSign s)).1.isEmpty then false else
      match (takeDigits (dropSign s)).2 with
      | 0x2E :: r' => if (takeDigits r').1.isEmpty then false else expB (takeDigits r').2
      | _ => expB (takeDigits (dropSign s)).2) := rfl

theorem D1_of_D0 {l : List Nat} (h : D0 l) (hne : l.isEmpty = false) : Digits1 l :=
  ⟨by intro h'; subst h'; simp at hne, h⟩

theorem numFormB_sound (s : List Nat) (h : numFormB s = true) : NumForm s := by
  rw [numFormB_eq] at h
  obtain ⟨sg, hsg, hs⟩ := dropSign_spec s
  generalize dropSign s = t at *
  obtain ⟨h1, h2, _⟩ := takeDigits_spec t
  generalize takeDigits t = p at *
  split at h
  · cases h
  · rename_i hi
    have hi : Digits1 p.1 := D1_of_D0 h2 (by simpa using hi)
    split at h
    · rename_i r' hr
      obtain ⟨g1, g2, _⟩ := takeDigits_spec r'
      generalize takeDigits r' = p' at *
      split at h
      · cases h
      · rename_i hf
        have hf : Digits1 p'.1 := D1_of_D0 g2 (by simpa using hf)
        refine ⟨sg, p.1, 0x2E :: p'.1, p'.2, ?_, hs, hi, Or.inr ⟨_, rfl, hf⟩, (expB_iff _).mp h⟩
        rw [hsg, h1, hr, g1]; simp
    · exact ⟨sg, p.1, [], p.2, by rw [hsg, h1]; simp, hs, hi, Or.inl rfl, (expB_iff _).mp h⟩

theorem exp_head {e : List Nat} (he : Exp e) :
    ∀ c r, e = c :: r → isDigit c = false ∧ c ≠ 0x2E := by
  intro c r h
  rcases he with rfl | ⟨ec, sg, d, rfl, hec, _, _⟩ | ⟨sg, d, rfl, _, _⟩ | ⟨sg, d, rfl, _, _⟩
  · cases h
  · cases h; rcases hec with rfl | rfl <;> decide
  · cases h; decide
  · cases h; decide

theorem numFormB_complete (s : List Nat) (h : NumForm s) : numFormB s = true := by
  obtain ⟨sg, i, f, e, rfl, hs, hi, hf, he⟩ := h
  rw [numFormB_eq]
  have hds : dropSign (sg ++ i ++ f ++ e) = i ++ (f ++ e) := by
    obtain ⟨c, i', rfl, hc, _⟩ := D1_cases hi
    rw [List.append_assoc, List.append_assoc, List.cons_append, dropSign_append hs hc]
  have hfe : ∀ c r, f ++ e = c :: r → isDigit c = false := by
    intro c r h
    rcases hf with rfl | ⟨d, rfl, _⟩
    · exact (exp_head he c r h).1
    · cases h; decide
  rw [hds, takeDigits_append hi.2 hfe]
  have hne : i.isEmpty = false := by
    obtain ⟨c, i', rfl, _, _⟩ := D1_cases hi; rfl
  simp only [hne, Bool.false_eq_true, ↓reduceIte]
  rcases hf with rfl | ⟨d, rfl, hd⟩
  · have hexp := (expB_iff e).mpr he
    cases e with
    | nil => exact hexp
    | cons c r =>
      have := (exp_head he c r rfl).2
      simp only [List.nil_append]
      split
      · rename_i heq; cases heq; exact absurd rfl this
      · exact hexp
  · have hne' : d.isEmpty = false := by
      obtain ⟨c, d', rfl, _, _⟩ := D1_cases hd; rfl
    have : takeDigits (d ++ e) = (d, e) := takeDigits_append hd.2 (fun c r h => (exp_head he c r h).1)
    simp [this, hne', (expB_iff e).mpr he]

theorem numFormB_iff (s : List Nat) : numFormB s = true ↔ NumForm s :=
  ⟨numFormB_sound s, numFormB_complete s⟩

theorem startsLikeNumberB_iff (s : List Nat) : startsLikeNumberB s = true ↔ StartsLikeNumber s := by
  unfold startsLikeNumberB
  constructor
  · intro h
    obtain ⟨sg, hsg, hs⟩ := dropSign_spec s
    generalize dropSign s = t at *
    cases t with
    | nil => cases h
    | cons d r => exact ⟨sg, d, r, hsg, hs, h⟩
  · rintro ⟨sg, d, r, rfl, hs, hd⟩
    rw [dropSign_append hs hd]; exact hd

theorem classify_eq_model (s : List Nat) :
    classify s = (match tryParseNumber s with
      | .name => IdKind.name | .number => IdKind.number | .error => IdKind.error) := by
  unfold classify
  rw [tpn_spec]
  by_cases h2 : NumForm s
  · simp [(numFormB_iff s).mpr h2, h2, numForm_starts h2]
  · have hb : numFormB s = false := by rw [← Bool.not_eq_true, numFormB_iff]; exact h2
    by_cases h1 : StartsLikeNumber s
    · simp [hb, (startsLikeNumberB_iff s).mpr h1, h1, h2]
    · have hb2 : startsLikeNumberB s = false := by rw [← Bool.not_eq_true, startsLikeNumberB_iff]; exact h1
      simp [hb, hb2, h1]


theorem replaceFirst_noop (o : Nat) (os new l : List Nat) (h : ∀ c ∈ l, c ≠ o) :
    replaceFirst (o :: os) new l = l := by
  induction l with
  | nil => rfl
  | cons c r ih =>
    have hc : ¬ o = c := fun e => h c (by simp) e.symm
    have := ih (fun x hx => h x (by simp [hx]))
    simp [replaceFirst, hc, this]

theorem replaceFirst_skip (o : Nat) (os new p r : List Nat) (h : ∀ c ∈ p, c ≠ o) :
    replaceFirst (o :: os) new (p ++ r) = p ++ replaceFirst (o :: os) new r := by
  induction p with
  | nil => rfl
  | cons c p ih =>
    have hc : ¬ o = c := fun e => h c (by simp) e.symm
    have := ih (fun x hx => h x (by simp [hx]))
    simp [replaceFirst, hc, this]

theorem nostar_digit {c : Nat} (h : isDigit c = true) : c ≠ 0x2A := by
  simp [isDigit] at h; omega
theorem nostar_signch {c : Nat} (h : isSignCh c = true) : c ≠ 0x2A := by
  simp [isSignCh] at h; omega
theorem nostar_sign {sg : List Nat} (h : SignOpt sg) : ∀ c ∈ sg, c ≠ 0x2A := by
  rcases h with rfl | ⟨c, rfl, hc⟩
  · simp
  · intro x hx; simp at hx; subst hx; exact nostar_signch hc
theorem nostar_D0 {d : List Nat} (h : D0 d) : ∀ c ∈ d, c ≠ 0x2A := fun c hc => nostar_digit (h c hc)
theorem nostar_frac {f : List Nat} (h : Frac f) : ∀ c ∈ f, c ≠ 0x2A := by
  rcases h with rfl | ⟨d, rfl, hd⟩
  · simp
  · intro x hx
    rcases List.mem_cons.mp hx with rfl | hx
    · decide
    · exact nostar_D0 hd.2 x hx
theorem nostar_append {a b : List Nat} (ha : ∀ c ∈ a, c ≠ 0x2A) (hb : ∀ c ∈ b, c ≠ 0x2A) :
    ∀ c ∈ a ++ b, c ≠ 0x2A := by
  intro c hc
  rcases List.mem_append.mp hc with h | h
  · exact ha c h
  · exact hb c h

theorem parseFloatText_skip {p : List Nat} (hp : ∀ c ∈ p, c ≠ 0x2A) (r : List Nat) :
    parseFloatText (p ++ r) = p ++ parseFloatText r := by
  unfold parseFloatText
  rw [replaceFirst_skip _ _ _ _ _ hp, replaceFirst_skip _ _ _ _ _ hp]

theorem parseFloatText_nostar {l : List Nat} (h : ∀ c ∈ l, c ≠ 0x2A) : parseFloatText l = l := by
  simpa [parseFloatText, replaceFirst] using parseFloatText_skip h []

theorem nostar_SD {sg d : List Nat} (hs : SignOpt sg) (hd : Digits1 d) : ∀ c ∈ sg ++ d, c ≠ 0x2A :=
  nostar_append (nostar_sign hs) (nostar_D0 hd.2)

theorem exp_text {e : List Nat} (he : Exp e) : ∃ e', ExpText e e' ∧ parseFloatText e = e' := by
  rcases he with rfl | ⟨ec, s', d, rfl, hec, hs', hd⟩ | ⟨s', d, rfl, hs', hd⟩ | ⟨s', d, rfl, hs', hd⟩
  · exact ⟨[], Or.inl ⟨rfl, rfl⟩, rfl⟩
  · refine ⟨_, Or.inr (Or.inl ⟨ec, s', d, rfl, hec, hs', hd, rfl⟩), parseFloatText_nostar ?_⟩
    simp only [List.forall_mem_cons]
    exact ⟨by rcases hec with rfl | rfl <;> decide, nostar_signch hs', nostar_D0 hd.2⟩
  · refine ⟨_, Or.inr (Or.inr ⟨s', d, Or.inl rfl, hs', hd, rfl⟩), ?_⟩
    simp [parseFloatText, replaceFirst, replaceFirst_noop _ _ _ _ (nostar_SD hs' hd)]
  · refine ⟨_, Or.inr (Or.inr ⟨s', d, Or.inr rfl, hs', hd, rfl⟩), ?_⟩
    simp [parseFloatText, replaceFirst, replaceFirst_noop _ _ _ _ (nostar_SD hs' hd)]

theorem number_text_for_ParseFloat (sg i f e : List Nat) (hs : SignOpt sg) (hi : Digits1 i)
    (hf : Frac f) (he : Exp e) :
    ∃ e', ExpText e e' ∧ parseFloatText (sg ++ i ++ f ++ e) = sg ++ i ++ f ++ e' := by
  obtain ⟨e', h1, h2⟩ := exp_text he
  exact ⟨e', h1, by rw [parseFloatText_skip
    (nostar_append (nostar_append (nostar_sign hs) (nostar_D0 hi.2)) (nostar_frac hf)), h2]⟩


end ZnVerif.Proofs.NumberForm
