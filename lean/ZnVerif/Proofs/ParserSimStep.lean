/-
Two runs of the parser model over the two lexers of a frame (Proofs/ParserSim.lean): every production, hence the whole parser.
-/
import ZnVerif.Proofs.ParserSim

namespace ZnVerif.Proofs.ParserSim
open ZnVerif.Model ZnVerif.Model.Parser ZnVerif.Generated.Tokens

/-- One step of the walk along a production, chosen by the shape of the goal (`L` the laws of the frame, `hrec` the recursive calls).
A production is a tree of binds, so `S_bind` comes first: the value relation `Q` of its first part is left to unification, and when
that part is a recursive call, `tryConsume`, `consume` or `expectBlockIndent` it is closed in the same step and the two cases of an
optional value are opened (`S_cont_tok`, `S_cont_opt`); `intro` takes up what follows a bind whose first part needed several steps.
Then the ends of the tree (a recursive call, `pure`, an error), a condition, the rarer primitives, `getS` (the second run's state
is rewritten into the first's — by `rw` where it stands in the tag of a recursive call, whose type depends on the tag), and last a
`match` on something else than the value of a bind.  All under `with_reducible`, every alternative written so that it fails at once where
it does not apply.  The step never leaves a goal that is not again a `Sim` goal (or closed); if no alternative applies it fails, and the
goal shown is the node of the production that has no rule yet. -/
syntax "psim_step" term:max term:max : tactic
macro_rules
  | `(tactic| psim_step $L $hrec) => `(tactic| with_reducible first
    | (apply S_bind
       first
       | (exact RecOK.app $hrec _ _ _ _; intro _ _ _ _ _ _)
       | (exact S_tryConsume $L _ _; apply S_cont_tok <;> intros)
       | (exact S_consume $L _ _ _; intro _ _ _ _ _ _)
       | (exact S_expectBlockIndent $L; apply S_cont_opt <;> intros)
       | skip)
    | intro _ _ _ _ _ _
    | exact RecOK.app $hrec _ _ _ _
    | exact S_pure _
    | exact S_errPeek $L _ _
    | (apply S_ite <;> intro _)
    | (apply S_lineOf $L; assumption; omega)
    | exact S_unsetFlag $L
    | exact S_parseID $L _ _
    | exact S_endOfStmt $L _
    | exact S_consume $L _ _ _
    | exact S_optYield $L _ _
    | (apply S_newID $L; assumption; omega)
    | (apply S_newString $L; assumption; omega)
    | exact S_calleeTail $L _ _ _ _ _
    | (refine S_bind_getS (fun hr => ?_)
       (try simp only [rel_flag $L hr, rel_p2 $L hr, blockCond_rel $L hr, peekIndentOf_rel $L hr])
       (try rw [peekIndentOf_rel $L hr])
       (try rw [currIndentOf_rel $L hr]))
    | exact S_swallowAll $L _ _
    | exact S_errCurr $L _
    | exact S_goPanic
    | exact S_setFlag $L
    | split)

/-- `psim_step` until nothing is left: on the productions of `Model/Parser.lean` it closes every goal.  When a production changes and
`S_step` fails, the message is an unsolved `Sim` goal; to find the node, replace `psim L hrec` in the failing `case` by single
`psim_step L hrec` calls and read the goal before the one that fails — its head (`bind`, `ite`, a primitive, a `match`) names the lemma
of Proofs/ParserSim.lean that is missing from the list above. -/
macro "psim" L:term:max hrec:term:max : tactic => `(tactic| repeat' psim_step $L $hrec)

variable {σ₁ σ₂ : Type} {F : Frame σ₁ σ₂} (L : F.Laws) (v : Variant)
include L

theorem S_step (m : Nat) {rec₁ : Rec σ₁} {rec₂ : Rec σ₂} (hrec : RecOK F rec₁ rec₂) :
    RecOK F (step v F.o₁ m rec₁) (step v F.o₂ (m + F.K) rec₂) := by
  intro nt j s t
  cases nt <;>
    dsimp only [step, pProgram, pProgramLoop, pStatement, pLv1, pLv1Tail, pLv2, pLv2Tail, pLv3, pLv4, pArith, pArithTail, pMulDiv,
      pMulDivTail, pMember, pMemberTail, pBasic, pArray, pArrayNonEmpty, pArrayLoop, pHashLoop, pFuncCall, pCommaExprs, pCommaIds,
      pMemberFuncCall, pChainLoop, pVarDecl, pVarDeclLoop, pVdPair, pObjNew, pWhileLoop, pBlock, pBlockLoop, pBranch, branchHeader,
      pBranchLoop, pFunctionBlock, pExecBlock, pExecLoop, pVarOneSecond, pVarOneLead, pIteratorRest, pThrow, pThrowLoop, pCatchStmt,
      pImportStmt, pClassDecl, pClassLoop, pPropertyDecl] <;>
    psim L hrec

theorem S_parse : ∀ m : Nat, RecOK F (parse v F.o₁ m) (parse v F.o₂ (m + F.K))
  | 0 => fun _ _ _ _ _ => Out.fuel (L.fuel.imp id (fun e => by rw [e]; rfl))
  | m + 1 => by
    rw [show m + 1 + F.K = (m + F.K) + 1 by omega]
    exact S_step L v m (S_parse m)

/-- **`ParserZH.ParseAST`**: when the first `next()` of both runs match, the second run answers what the first answers (or, if
the frame allows it, the first is out of fuel) -/
theorem S_parseAST (n : Nat) {l₁ : σ₁} {l₂ : σ₂} (h0 : Out F 0 Any (initState F.o₁ n l₁) (initState F.o₂ (n + F.K) l₂)) :
    parseAST v F.o₁ n l₁ = parseAST v F.o₂ (n + F.K) l₂ ∨ (F.lax ∧ parseAST v F.o₁ n l₁ = .outOfFuel) := by
  unfold parseAST
  generalize initState F.o₁ n l₁ = r₁ at h0 ⊢
  generalize initState F.o₂ (n + F.K) l₂ = r₂ at h0 ⊢
  cases r₁ <;> cases r₂ <;> simp only [Out] at h0 <;> dsimp only
  case ok.ok _ s₁ _ s₂ =>
    obtain ⟨-, j, -, hr, -⟩ := h0
    have h1 := S_parse L v n .program j s₁ s₂ hr
    generalize parse v F.o₁ n .program s₁ = q₁ at h1 ⊢
    generalize parse v F.o₂ (n + F.K) .program s₂ = q₂ at h1 ⊢
    cases q₁ <;> cases q₂ <;> simp only [Out] at h1 <;> dsimp only
    case ok.ok p₁ t₁ p₂ t₂ =>
      obtain ⟨rfl, j', -, hr', -⟩ := h1
      rw [rel_p2 L hr']
      by_cases hc : t₁.p2.type ≠ cTypeEOF
      · -- the error for left-over tokens reads only the window
        left
        rw [if_pos hc, if_pos hc]
        cases v.leftoverFix <;> simp only [Bool.false_eq_true, ↓reduceIte, errPeek, errCurr, rel_p1 L hr', rel_p2 L hr'] <;>
          cases t₁.p1 <;> cases v.nilFix <;> rfl
      · rw [if_neg hc, if_neg hc]; exact Or.inl rfl
    all_goals first | exact Or.inl rfl | exact Or.inl (by rw [h1]) | exact Or.inr ⟨h1, rfl⟩ | exact h1.elim
  all_goals first | exact Or.inl rfl | exact Or.inl (by rw [h0]) | exact Or.inr ⟨h0, rfl⟩ | exact h0.elim

end ZnVerif.Proofs.ParserSim
