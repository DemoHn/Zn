/-
The list members of `builtinMethod` that look into the element cells.  包含 / 寻找: the evaluator's loops over `compareXEQ`
against the pure loops `Containers.arrayContains` / `arrayFindFrom`, whose parameter `eq` is here what the comparison answers
in the start state (`xeqB`).  拼接: what the element check (`validateAll … "string"`) and the reading loop do in terms of
`strAt`, the `str` parameter of `Containers.arrayJoin`; the bridge itself is `Properties.Bridges.list_bridge_join`.
-/
import ZnVerif.Proofs.BridgesLift
set_option linter.unusedSectionVars false

namespace ZnVerif.Proofs.Bridges
open ZnVerif ZnVerif.Model
open ZnVerif.Proofs.Calls (getCell_bind)

variable {ν : Type} [NumOps ν]

/-- the Bool answer of `compareXEQ n · · ` in state `s`, read as the `eq` parameter of the `Containers` loops
(an error / out-of-fuel outcome reads as `false`; the lemmas below say when that reading is exact) -/
def xeqB (n : Nat) (s : VM ν) (i x : Addr) : Bool :=
  match (compareXEQ n i x s).1 with
  | .ok b => b
  | _ => false

theorem goContains_bridge (n : Nat) (x : Addr) (eq : Addr → Addr → Bool) (s : VM ν) : ∀ items : List Addr,
    (∀ i ∈ items, (compareXEQ n i x s).1 = .ok (eq i x)) →
    builtinMethod.goContains n x items s = (.ok (Containers.arrayContains eq x items), s)
  | [], _ => rfl
  | i :: rest, h => by
    have ih := goContains_bridge n x eq s rest (fun j hj => h j (List.mem_cons_of_mem _ hj))
    unfold builtinMethod.goContains Containers.arrayContains
    rw [bind_same_ok (compareXEQ_same n i x) (h i List.mem_cons_self)]
    cases eq i x
    · exact ih
    · rfl

theorem goFind_bridge (n : Nat) (x : Addr) (eq : Addr → Addr → Bool) (s : VM ν) : ∀ (items : List Addr) (k : Nat),
    (∀ i ∈ items, (compareXEQ n i x s).1 = .ok (eq i x)) →
    builtinMethod.goFind n x items (k : Int) s = (.ok (Containers.arrayFindFrom eq x k items), s)
  | [], _, _ => rfl
  | i :: rest, k, h => by
    have ih := goFind_bridge n x eq s rest (k + 1) (fun j hj => h j (List.mem_cons_of_mem _ hj))
    unfold builtinMethod.goFind Containers.arrayFindFrom
    rw [bind_same_ok (compareXEQ_same n i x) (h i List.mem_cons_self)]
    cases eq i x
    · exact ih
    · rfl

theorem goContains_ok (n : Nat) (x : Addr) (s : VM ν) : ∀ (items : List Addr) (b : Bool) (s' : VM ν),
    builtinMethod.goContains n x items s = (.ok b, s') → s' = s ∧ b = Containers.arrayContains (xeqB n s) x items
  | [], b, s', h => by cases h; exact ⟨rfl, rfl⟩
  | i :: rest, b, s', h => by
    unfold builtinMethod.goContains at h
    obtain ⟨c, hc, h⟩ := bind_same_ok_inv (compareXEQ_same n i x) h
    have hxe : xeqB n s i x = c := by unfold xeqB; rw [hc]
    rw [Containers.arrayContains, hxe]
    cases c
    · exact goContains_ok n x s rest b s' h
    · cases h; exact ⟨rfl, rfl⟩

theorem goFind_ok (n : Nat) (x : Addr) (s : VM ν) : ∀ (items : List Addr) (k : Nat) (r : Int) (s' : VM ν),
    builtinMethod.goFind n x items (k : Int) s = (.ok r, s') →
      s' = s ∧ r = Containers.arrayFindFrom (xeqB n s) x k items
  | [], k, r, s', h => by cases h; exact ⟨rfl, rfl⟩
  | i :: rest, k, r, s', h => by
    unfold builtinMethod.goFind at h
    obtain ⟨c, hc, h⟩ := bind_same_ok_inv (compareXEQ_same n i x) h
    have hxe : xeqB n s i x = c := by unfold xeqB; rw [hc]
    rw [Containers.arrayFindFrom, hxe]
    cases c
    · exact goFind_ok n x s rest (k + 1) r s' h
    · cases h; exact ⟨rfl, rfl⟩

section methods
variable (n : Nat) (a : Addr) (items : List Addr) (s : VM ν)

theorem bm_contains_eq (x : Addr) (hc : s.heap[a]? = some (.arr items)) :
    builtinMethod n a "包含" [x] s =
      (do validateExact [x] ["any"]; let b ← builtinMethod.goContains n x items; newBool b) s := by
  unfold builtinMethod
  rw [getCell_bind _ hc]
  rfl

theorem bm_find_eq (x : Addr) (hc : s.heap[a]? = some (.arr items)) :
    builtinMethod n a "寻找" [x] s =
      (do validateExact [x] ["any"]; let k ← builtinMethod.goFind n x items 0; newNum (NumOps.ofInt k)) s := by
  unfold builtinMethod
  rw [getCell_bind _ hc]
  rfl

end methods

/-- the text held by a cell, if it is a text: the `str` parameter of `Containers.arrayJoin` -/
def strAt (s : VM ν) (i : Addr) : Option String :=
  match s.heap[i]? with
  | some (.str t) => some t
  | _ => none

theorem strAt_some {s : VM ν} {i : Addr} {t : String} (h : strAt s i = some t) : s.heap[i]? = some (.str t) := by
  unfold strAt at h
  split at h
  · cases h; assumption
  · cases h

theorem joinWith_eq (sep : String) : ∀ ss : List String, joinWith sep ss = sep.intercalate ss
  | [] => by simp [joinWith]
  | [x] => by simp [joinWith]
  | x :: y :: rest => by
    rw [String.intercalate_cons_cons, ← joinWith_eq sep (y :: rest)]
    simp [joinWith]

theorem validateOne_string_eq (i : Addr) (s : VM ν) (hi : i < s.heap.size) :
    validateOne i "string" s = if (strAt s i).isSome then (.ok (), s) else (.err (.rt 82), s) := by
  obtain ⟨c, hc⟩ : ∃ c, s.heap[i]? = some c := ⟨s.heap[i], by simp [hi]⟩
  unfold validateOne strAt
  rw [getCell_bind _ hc, hc]
  cases c <;> rfl

theorem validateAll_string (s : VM ν) : ∀ items : List Addr, (∀ i ∈ items, i < s.heap.size) →
    validateAll items "string" s =
      if items.all (fun x => (strAt s x).isSome) then (.ok (), s) else (.err (.rt 82), s)
  | [], _ => rfl
  | i :: rest, h => by
    have ih := validateAll_string s rest (fun j hj => h j (List.mem_cons_of_mem _ hj))
    unfold validateAll at ih ⊢
    show (validateOne i "string" >>= fun _ => rest.forM fun a => validateOne a "string") s = _
    simp only [bind, validateOne_string_eq i s (h i List.mem_cons_self), List.all_cons]
    by_cases hb : (strAt s i).isSome = true
    · simp only [hb, if_true, Bool.true_and]; exact ih
    · simp only [hb, Bool.false_eq_true, if_false, Bool.false_and]

theorem getStr_mapM (s : VM ν) (F : Addr → M ν String)
    (hF : ∀ i t, strAt s i = some t → F i s = (.ok t, s)) : ∀ items : List Addr,
    items.all (fun x => (strAt s x).isSome) = true →
    List.mapM F items s = (.ok (items.filterMap (strAt s)), s)
  | [], _ => by simp [pure]
  | i :: rest, h => by
    simp only [List.all_cons, Bool.and_eq_true] at h
    obtain ⟨t, ht⟩ := Option.isSome_iff_exists.1 h.1
    have ih := getStr_mapM s F hF rest h.2
    simp only [List.mapM_cons, bind, hF i t ht, ih, List.filterMap_cons, ht, pure]

end ZnVerif.Proofs.Bridges
