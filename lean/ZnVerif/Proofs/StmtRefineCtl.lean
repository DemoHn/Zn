/-
C02 refinement: statement lists and blocks (the model polls the return slot after every statement, the
spec propagates `.ret`), 如果, 每当.
-/
import ZnVerif.Proofs.StmtRefineSimple

namespace ZnVerif.Proofs
open ZnVerif.Model ZnVerif.Spec StmtNodes EvalArms

variable {ν : Type} [NumOps ν]

/-- the value of a block: none ↔ 空, some cell ↔ the value it reads as -/
def PBlk (ω : Addr → Option (SVal ν)) : Array (Cell ν) → Option Addr → SVal ν → Prop := fun h oa v =>
  match oa with
  | none => v = .null
  | some a => ∃ k, contentW ω k h a = some v

/-- induction hypotheses of the main theorem -/
def StmtSim (ω : Addr → Option (SVal ν)) (mid : Int) (n m : Nat) : Prop :=
  ∀ (st : Stmt) (s : VM ν) (σ : SState ν) (D : Int) (ds : List Int) (h0 : Array (Cell ν)),
    PureStmt st → Inv ω mid D ds h0 s σ → SSim ω mid D ds h0 s σ (evalStmt n st) (execS m st)

def BlockSim (ω : Addr → Option (SVal ν)) (mid : Int) (n m : Nat) : Prop :=
  ∀ (b : Option (List Stmt)) (s : VM ν) (σ : SState ν) (D : Int) (ds : List Int) (h0 : Array (Cell ν)),
    PureBlock b → Inv ω mid D ds h0 s σ →
    SimS (VRel ω mid D ds h0 (PBlk ω)) (TRel ω mid D ds h0) (BRel ω mid D ds h0) s σ (evalPureStmtBlock n b) (runBlock m b)

theorem PureStmt.not_decl {st : Stmt} (h : PureStmt st) : isDecl st = false := by
  cases h <;> rfl

theorem filter_pure : ∀ (stmts : List Stmt), (∀ st ∈ stmts, PureStmt st) →
    stmts.filter (fun st => match st with | .classDecl .. | .funcDecl .. => false | _ => true) = stmts :=
  fun _ h => List.filter_eq_self.2 fun st hst => by cases h st hst <;> rfl

theorem TRel.frame {α β : Type} {ω : Addr → Option (SVal ν)} {mid : Int} {D ds h0} {s s' : VM ν} {σ : SState ν} {a : α} {a' : β} {v : SVal ν}
    (h : TRel ω mid D ds h0 s σ a v) (hF : Frame s s') : TRel ω mid D ds h0 s' σ a' v := by
  obtain ⟨h1, h2, x, h3, k, h4⟩ := h
  exact ⟨h1.frame hF, h2.trans hF.le, x, by rw [slot_frame hF]; exact h3, k, contentW_heap hF.le h4⟩

section
variable {ω : Addr → Option (SVal ν)} {mid D : Int} {ds : List Int} {h0 : Array (Cell ν)} {s : VM ν} {σ : SState ν}

/-- statements of a list: the model polls the slot after each, the spec folds -/
theorem sim_stmts {n m : Nat} (hS : StmtSim ω mid n m) : ∀ (stmts : List Stmt) (s : VM ν) (σ : SState ν)
    (last : Option Addr) (lastv : SVal ν), (∀ st ∈ stmts, PureStmt st) → Inv ω mid D ds h0 s σ → PBlk ω s.heap last lastv →
    SimS (VRel ω mid D ds h0 (PBlk ω)) (fun s σ oa v => TRel ω mid D ds h0 s σ oa v ∧ oa = slot s) (BRel ω mid D ds h0) s σ
      (stmtsLoop (evalStmt n) last stmts) (stmts.foldlM (fun _ st => execS m st) lastv)
  | [], s, σ, last, lastv, _, hinv, hl => by
    simp only [stmtsLoop, List.foldlM_nil]
    exact simS_pure ⟨hinv.1, hinv.2.1, hinv.2.2, hl⟩
  | st :: rest, s, σ, last, lastv, hp, hinv, hl => by
    have hst := hp st List.mem_cons_self
    simp only [stmtsLoop, hst.not_decl, Bool.false_eq_true, if_false, List.foldlM_cons, pure_bind]
    refine simS_bind (hS st s σ D ds h0 hst hinv) (fun s1 σ1 a v ⟨h1, h2, h3, h4⟩ => ?_) (fun s1 σ1 a v ht => ?_)
      (fun _ _ h => h)
    · refine simS_after (getReturnValue_eq s1) ?_
      rw [h3]
      exact sim_stmts hS rest s1 σ1 (some a) v (fun x hx => hp x (List.mem_cons_of_mem _ hx)) ⟨h1, h2, h3⟩ h4
    · obtain ⟨h1, h2, x, h3, h4⟩ := ht
      refine ⟨some x, s1, by rw [Calls.M_bind_def, getReturnValue_eq, h3]; rfl, ⟨h1, h2, x, h3, h4⟩, h3.symm⟩

theorem sim_block {n m : Nat} (hS : StmtSim ω mid n m) : BlockSim ω mid (n+1) (m+2) := by
  intro b s σ D ds h0 hb hinv
  cases b with
  | none => exact simS_unspec
  | some stmts =>
    have hp := hb stmts rfl
    rw [evalPureStmtBlock_some, runBlock_some]
    rw [List.filter_eq_self.2 (fun st hst => by cases hp st hst <;> rfl)]
    exact simS_withScope hinv fun s1 σ1 hinv1 =>
      simS_weaken (fun _ _ _ _ h => h) (fun _ _ _ _ h => h.1) (fun _ _ h => h) (sim_stmts hS stmts s1 σ1 none .null hp hinv1 rfl)

theorem blockSim_specFuel (n : Nat) : BlockSim ω mid n 0 := by
  intro b s σ D ds h0 _ _
  exact simS_specFuel

theorem blockSim_specFuel1 (n : Nat) : BlockSim ω mid n 1 := by
  intro b s σ D ds h0 _ _
  cases b with
  | none => exact simS_unspec
  | some stmts =>
    exact simS_right (m2' := sfail .fuel) rfl simS_specFuel

theorem blockSim_modelFuel (m : Nat) : BlockSim ω mid 0 m := by
  intro b s σ D ds h0 _ _
  exact simS_modelFuel

/-- run a block for its effect, then answer `res` (the model goes on after a 输出 inside the block) -/
theorem sim_block_then {α α' : Type} {n m : Nat} (hB : BlockSim ω mid n m)
    (b : Option (List Stmt)) (hb : PureBlock b) (hinv : Inv ω mid D ds h0 s σ) (res : α) (res' : α')
    (P : Array (Cell ν) → α → α' → Prop) (hP : ∀ h, P h res res') :
    SimS (VRel ω mid D ds h0 P) (fun s σ a v => TRel ω mid D ds h0 s σ a v ∧ a = res) (BRel ω mid D ds h0) s σ
      (do let _ ← evalPureStmtBlock n b; pure res) (do let _ ← runBlock m b; pure res') := by
  refine simS_bind (hB b s σ D ds h0 hb hinv) (fun s1 σ1 _ _ ⟨h1, h2, h3, _⟩ => simS_pure ⟨h1, h2, h3, hP _⟩)
    (fun s1 σ1 _ v ht => ⟨res, s1, rfl, ht, rfl⟩) (fun _ _ h => h)

theorem simS_cond {α α' : Type} {n m : Nat} (hle : m ≤ n) (e : Expr) (he : PureExpr e)
    {V : VM ν → SState ν → α → α' → Prop} {T B} {t f : M ν α} {t' f' : SM ν α'} (hinv : Inv ω mid D ds h0 s σ)
    (ht : ∀ s1 σ1, Inv ω mid D ds h0 s1 σ1 → SimS V T B s1 σ1 t t')
    (hf : ∀ s1 σ1, Inv ω mid D ds h0 s1 σ1 → SimS V T B s1 σ1 f f') :
    SimS V T B s σ (condNode (evalExpr n e) t f) (condNodeS (evalE m e) t' f') :=
  simS_seq (simS_expr_any hinv hle he) fun s1 σ1 _ _ ⟨hi, hc⟩ =>
    simS_boolCell hc (ht s1 σ1 hi) (hf s1 σ1 hi)

theorem sim_first {n m : Nat} (hle : m ≤ n) (hB : BlockSim ω mid n m) (hasElse : Bool) (elseB : Option (List Stmt))
    (hE : PureBlock elseB) : ∀ (others : List (Expr × Option (List Stmt))) (s : VM ν) (σ : SState ν),
    (∀ o ∈ others, PureExpr o.1) → (∀ o ∈ others, PureBlock o.2) → Inv ω mid D ds h0 s σ →
    SimS (VRel ω mid D ds h0 (fun _ (_ _ : Unit) => True)) (TRel ω mid D ds h0) (BRel ω mid D ds h0) s σ
      (firstM (ControlFlow.branchOther n) (ControlFlow.branchElse n hasElse elseB) others)
      (firstS (branchOtherS m) (branchElseS m hasElse elseB) others)
  | [], s, σ, _, _, hinv => by
    cases hasElse
    · exact simS_pure ⟨hinv.1, hinv.2.1, hinv.2.2, trivial⟩
    · exact simS_weaken (fun _ _ _ _ h => h) (fun _ _ _ _ h => h.1) (fun _ _ h => h)
        (sim_block_then hB elseB hE hinv () () _ (fun _ => trivial))
  | o :: os, s, σ, h1, h2, hinv => by
    refine simS_bind (V := VRel ω mid D ds h0 (fun _ (x y : Option Unit) => x = y))
      (T := fun s σ a v => TRel ω mid D ds h0 s σ a v ∧ a = some ())
      (simS_cond hle o.1 (h1 o List.mem_cons_self) hinv
        (fun s1 σ1 hi => sim_block_then hB o.2 (h2 o List.mem_cons_self) hi (some ()) (some ()) _ (fun _ => rfl))
        (fun s1 σ1 hi => simS_pure ⟨hi.1, hi.2.1, hi.2.2, rfl⟩))
      (fun s1 σ1 x y ⟨g1, g2, g3, g4⟩ => ?_) (fun s1 σ1 x v ht => ?_) (fun _ _ h => h)
    · subst g4
      cases x with
      | some u => exact simS_pure ⟨g1, g2, g3, trivial⟩
      | none =>
        exact sim_first hle hB hasElse elseB hE os s1 σ1 (fun q hq => h1 q (List.mem_cons_of_mem _ hq))
          (fun q hq => h2 q (List.mem_cons_of_mem _ hq)) ⟨g1, g2, g3⟩
    · obtain ⟨ht, rfl⟩ := ht
      exact ⟨(), s1, rfl, ht⟩

/-- finish a statement with `newNull` / `pure .null`, also after a 输出 inside it -/
theorem sim_then_null {α α' : Type} {m1 : M ν α} {m1' : SM ν α'}
    {P : Array (Cell ν) → α → α' → Prop} {T : VM ν → SState ν → α → SVal ν → Prop} {B : VM ν → SState ν → Prop}
    (h : SimS (VRel ω mid D ds h0 P) T B s σ m1 m1')
    (hT : ∀ s σ a v, T s σ a v → TRel ω mid D ds h0 s σ a v) (hB : ∀ s σ, B s σ → BRel ω mid D ds h0 s σ) :
    SSim ω mid D ds h0 s σ (do let _ ← m1; newNull) (do let _ ← m1'; pure SVal.null) := by
  refine simS_bind h (fun s1 σ1 _ _ ⟨h1, h2, h3, _⟩ => simS_newNull ⟨h1, h2, h3⟩) (fun s1 σ1 a v ht => ?_) hB
  exact ⟨s1.heap.size, _, rfl, (hT _ _ _ _ ht).frame (Frame.push s1 .null)⟩

theorem sim_branch {n m : Nat} (hle : m ≤ n) (hB : BlockSim ω mid n m)
    (ln : Nat) (ifE : Expr) (ifB : Option (List Stmt)) (others : List (Expr × Option (List Stmt))) (hasElse : Bool)
    (elseB : Option (List Stmt)) (h1 : PureExpr ifE) (h2 : PureBlock ifB) (h3 : ∀ o ∈ others, PureExpr o.1)
    (h4 : ∀ o ∈ others, PureBlock o.2) (h5 : PureBlock elseB) (hinv : Inv ω mid D ds h0 s σ) :
    SSim ω mid D ds h0 s σ (evalStmt (n+1) (.branch ln ifE ifB others hasElse elseB))
      (execS (m+1) (.branch ln ifE ifB others hasElse elseB)) := by
  rw [evalStmt_branch, execS_branch]
  refine sSim_line _ _ _ hinv fun s0 hinv0 => simS_cond hle ifE h1 hinv0 (fun s1 σ1 hi => ?_) (fun s1 σ1 hi => ?_)
  · exact sim_then_null (hB ifB s1 σ1 D ds h0 h2 hi) (fun _ _ _ _ h => h) (fun _ _ h => h)
  · exact sim_then_null (sim_first hle hB hasElse elseB h5 others s1 σ1 h3 h4 hi) (fun _ _ _ _ h => h) (fun _ _ h => h)

/-- the handlers around a pass of 每当 (`go = true`) and of 遍历 (`go = false`): the loop signals of the body are answered,
after a 输出 the model answers "no next pass" -/
theorem sim_passBody {α : Type} {P : Array (Cell ν) → α → SVal ν → Prop} (go : Bool) {mb : M ν α} {mb' : SM ν (SVal ν)}
    (h : SimS (VRel ω mid D ds h0 P) (TRel ω mid D ds h0) (BRel ω mid D ds h0) s σ mb mb') :
    SimS (VRel ω mid D ds h0 (fun _ (x y : Bool) => x = y)) (fun s σ a v => TRel ω mid D ds h0 s σ a v ∧ a = !go)
      (NoB (ν := ν)) s σ (Model.tryCatch mb (ControlFlow.passHandler go)) (catchR mb' (passHandlerS go)) := by
  obtain ⟨r, s2, r', σ2, e1, e2, hout⟩ := simS_elim h
  unfold SimS
  simp only [Model.tryCatch, catchR, e1, e2]
  rcases hout with rfl | rfl | rfl | hout
  · exact .inl rfl
  · exact .inr (.inl rfl)
  · exact .inr (.inr (.inl rfl))
  · cases hout with
    | ok hv =>
      obtain ⟨g1, g2, g3, _⟩ := hv
      simp only [ControlFlow.passHandler, passHandlerS, pure, Calls.M_bind_def, getReturnValue_eq, g3]
      exact .inr (.inr (.inr (.ok ⟨g1, g2, g3, rfl⟩)))
    | ret ht =>
      obtain ⟨g1, g2, x, g3, g4⟩ := ht
      simp only [ControlFlow.passHandler, passHandlerS, pure, Calls.M_bind_def, getReturnValue_eq, g3]
      exact .inr (.inr (.inr (.ret ⟨⟨g1, g2, x, g3, g4⟩, rfl⟩)))
    | brk hb | cont hb => exact .inr (.inr (.inr (.ok ⟨hb.1, hb.2.1, hb.2.2, rfl⟩)))
    | rt c => exact .inr (.inr (.inr (.rt c)))
    | sem c => exact .inr (.inr (.inr (.sem c)))

theorem sim_whileLoop (step : M ν Bool) (step' : SM ν Bool)
    (hstep : ∀ (s : VM ν) (σ : SState ν), Inv ω mid D ds h0 s σ →
      SimS (VRel ω mid D ds h0 (fun _ (x y : Bool) => x = y)) (fun s σ a v => TRel ω mid D ds h0 s σ a v ∧ a = false)
        (NoB (ν := ν)) s σ step step') :
    ∀ (k' k : Nat), k' ≤ k → ∀ (s : VM ν) (σ : SState ν), Inv ω mid D ds h0 s σ →
      SimS (VRel ω mid D ds h0 (fun _ (_ _ : Unit) => True)) (TRel ω mid D ds h0) (NoB (ν := ν)) s σ
        (whileM k step) (whileS k' step')
  | 0, _, _, _, _, _ => by simp only [whileS]; exact simS_specFuel
  | k'+1, 0, h, _, _, _ => by omega
  | k'+1, k+1, h, s, σ, hinv => by
    simp only [whileM, whileS]
    refine simS_bind (hstep s σ hinv) (fun s1 σ1 x y ⟨g1, g2, g3, g4⟩ => ?_) (fun s1 σ1 x v ⟨ht, hx⟩ => ?_) (fun _ _ h => h)
    · subst g4
      cases x
      · exact simS_pure ⟨g1, g2, g3, trivial⟩
      · exact sim_whileLoop step step' hstep k' k (Nat.le_of_succ_le_succ h) s1 σ1 ⟨g1, g2, g3⟩
    · subst hx
      exact ⟨(), s1, rfl, ht⟩

theorem sim_while {n m : Nat} (hle : m ≤ n) (hB : BlockSim ω mid n m)
    (ln : Nat) (cond : Expr) (body : Option (List Stmt)) (h1 : PureExpr cond) (h2 : PureBlock body)
    (hinv : Inv ω mid D ds h0 s σ) :
    SSim ω mid D ds h0 s σ (evalStmt (n+1) (.while ln cond body)) (execS (m+1) (.while ln cond body)) := by
  rw [evalStmt_while, execS_while]
  refine sSim_line _ _ _ hinv fun s0 hinv0 => ?_
  refine sim_then_null (sim_whileLoop _ _ (fun s σ hi => sSim_line _ _ _ hi fun s1 hi1 => ?_) m n hle s0 σ hinv0)
    (fun _ _ _ _ h => h) (fun _ _ h => h.elim)
  rw [whileStep_eq]
  exact simS_cond hle cond h1 hi1 (fun s2 σ2 hi2 => sim_passBody true (hB body s2 σ2 D ds h0 h2 hi2))
    (fun s2 σ2 hi2 => simS_pure ⟨hi2.1, hi2.2.1, hi2.2.2, rfl⟩)

end

end ZnVerif.Proofs
