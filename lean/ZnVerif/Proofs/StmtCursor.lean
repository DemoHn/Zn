/-
Token-level round trip with layout, part 1b: the cursor.

The claims of the round trip are about a *move* of the parser: `Walk Y g s ts s'` — the state `s'` is `s` advanced over the tokens
`ts`.  The relation is defined token by token, each step being what `next` does (`next_S`), so it carries by itself what a claim
about `S Y p1 (ts ++ rest) fl` needs as side conditions: the tokens from `s` on come in reading order (every step holds
`Y.InOrder` of all that remains), and, for `g = true` (`Reads`), no statement line break falls inside `ts` (a step is taken only
from a state whose flag is unset, and the flag after a token is the line break after it).  A move over `a ++ b` is a move over `a`
and one over `b` (`Walk.append`): a production lemma splits the move along the rendering's token list as it is written and hands
each piece to the step of the production that reads it — no reassociation of lists, no `InOrder` / `Glued` facts about sublists.
The end state of a piece is a variable; what must follow a rendering (`Stops`, `StmtEnd`, `BlockEnd`) is said of that state.
What a move is in terms of `S`, `Send`, `InOrder`, `Glued` (the vocabulary of Properties/C03Stmt.lean) is said in
Proofs/StmtOnStates.lean (`reads_of`, `walk_of`).
-/
import ZnVerif.Proofs.StmtBase

namespace ZnVerif.Proofs.StmtRT
open ZnVerif.Model ZnVerif.Model.Parser ZnVerif.Generated.Tokens ZnVerif.Generated.ParserTables
open ZnVerif.Spec.StmtSyntax

variable {Y : Layout} {v : Variant}

/-- `s'` is `s` advanced over the tokens `ts`.  The flag of a state after a token is what the layout makes it (set iff a statement
line break follows the token); with `g` every token is read from a state whose flag is unset, so all of `ts` is glued. -/
def Walk (Y : Layout) (g : Bool) : PState (List Token) → List Token → PState (List Token) → Prop
  | s, [], s' => s' = s
  | s, t :: ts, s' => ∃ p1 r fl, s = S Y p1 (t :: r) fl ∧ (g = true → fl = false) ∧ Y.InOrder (t :: r) ∧
      Walk Y g (S Y (some t) r (Y.brk t (Y.peek r))) ts s'

/-- a move inside a statement or a header: no statement line break before any of the tokens -/
abbrev Reads (Y : Layout) := Walk Y true

section
variable {g : Bool} {s s' s'' : PState (List Token)}

theorem Walk.nil (h : Walk Y g s [] s') : s' = s := h

theorem Walk.append : ∀ {a b : List Token} {s : PState (List Token)}, Walk Y g s (a ++ b) s'' →
    ∃ s', Walk Y g s a s' ∧ Walk Y g s' b s''
  | [], _, s, h => ⟨s, rfl, h⟩
  | _ :: a, _, _, ⟨p1, r, fl, hs, hf, ho, h⟩ =>
    let ⟨s', ha, hb⟩ := Walk.append (a := a) h
    ⟨s', ⟨p1, r, fl, hs, hf, ho, ha⟩, hb⟩

theorem Walk.cons {t : Token} {ts : List Token} (h : Walk Y g s (t :: ts) s'') : ∃ s', Walk Y g s [t] s' ∧ Walk Y g s' ts s'' :=
  Walk.append (a := [t]) h

theorem Walk.weaken : ∀ {ts : List Token} {s : PState (List Token)}, Walk Y g s ts s' → Walk Y false s ts s'
  | [], _, h => h
  | _ :: _, _, ⟨p1, r, fl, hs, _, ho, h⟩ => ⟨p1, r, fl, hs, nofun, ho, h.weaken⟩

theorem Walk.trans : ∀ {a b : List Token} {s : PState (List Token)}, Walk Y g s a s' → Walk Y g s' b s'' → Walk Y g s (a ++ b) s''
  | [], _, _, h, hb => by obtain rfl := h.nil; exact hb
  | _ :: _, _, _, ⟨p1, r, fl, hs, hf, ho, h⟩, hb => ⟨p1, r, fl, hs, hf, ho, h.trans hb⟩

theorem Walk.peek {ts : List Token} (h : Walk Y g s ts s') (hne : ts ≠ []) :
    s.p2 = Y.peek ts ∧ peekIndentOf (layoutOps Y) s = Y.ind (Y.peek ts) := by
  cases ts with
  | nil => exact absurd rfl hne
  | cons t ts =>
    obtain ⟨p1, r, fl, rfl, _, _, _⟩ := h
    exact ⟨rfl, rfl⟩

theorem Walk.flag : ∀ {ts : List Token} {s : PState (List Token)}, Walk Y g s ts s' → ts ≠ [] → s'.flag = Y.jf ts.getLast? s'.p2
  | [], _, _, h => absurd rfl h
  | [t], _, ⟨_, _, _, _, _, _, h⟩, _ => by subst h; rfl
  | t :: u :: ts, _, ⟨_, _, _, _, _, _, h⟩, _ => by
    rw [List.getLast?_cons_cons]; exact h.flag (List.cons_ne_nil u ts)

theorem Walk.flag_eof {ts : List Token} (h : Walk Y g s ts s') (hne : ts ≠ []) (hend : s'.p2.type = cTypeEOF) : s'.flag = true := by
  obtain ⟨t, ht⟩ := getLast?_isSome hne
  rw [h.flag hne, ht]
  exact brk_eof t _ hend

theorem Walk.currIndent {t : Token} (h : Walk Y g s [t] s') : currIndentOf (layoutOps Y) s' = Y.ind t := by
  obtain ⟨_, _, _, _, _, _, rfl⟩ := h
  rfl

/-- nothing breaks after `， 、 { 【 ： ？`: the flag stays unset after such a token unless the input ends -/
theorem Walk.flag_open {t : Token} (h : Walk Y g s [t] s') (ht : t.type ∈ exceptCurrentTokenTypes) (hp : s'.p2.type ≠ cTypeEOF) :
    s'.flag = false := by
  rw [h.flag (by simp)]
  exact brk_after_open ht hp

/-- the first token of a move is read as well after the flag has been reset (`unsetFlag`) -/
theorem Walk.unset {t : Token} (h : Walk Y g s [t] s') : Reads Y { s with flag := false } [t] s' := by
  obtain ⟨p1, r, fl, rfl, _, ho, rfl⟩ := h
  exact ⟨p1, r, false, rfl, fun _ => rfl, ho, rfl⟩

theorem Walk.reset {ts : List Token} (h : Walk Y false s ts s') (hne : ts ≠ []) : Walk Y false { s with flag := false } ts s' := by
  cases ts with
  | nil => exact absurd rfl hne
  | cons t ts =>
    obtain ⟨p1, r, fl, rfl, _, ho, h⟩ := h
    exact ⟨p1, r, false, rfl, nofun, ho, h⟩

theorem Walk.flag_false {t : Token} {ts : List Token} (h : Reads Y s (t :: ts) s') : s.flag = false := by
  obtain ⟨p1, r, fl, rfl, hf, _, _⟩ := h
  exact hf rfl

theorem Walk.reads : ∀ (a : List Token) {b : List Token} {s : PState (List Token)}, Walk Y g s (a ++ b) s'' → s.flag = false →
    Y.Glued a → ∃ s', Reads Y s a s' ∧ Walk Y g s' b s''
  | [], _, s, h, _, _ => ⟨s, rfl, h⟩
  | [t], _, _, ⟨p1, r, fl, hs, _, ho, h⟩, hf, _ => by
    subst hs
    exact ⟨_, ⟨p1, r, fl, rfl, fun _ => hf, ho, rfl⟩, h⟩
  | t :: u :: a, _, _, ⟨p1, r, fl, hs, _, ho, h⟩, hf, hg => by
    subst hs
    have hp : Y.peek r = u := (Walk.peek h (List.cons_ne_nil u _)).1
    obtain ⟨s', hr, hw⟩ := Walk.reads (u :: a) h (by show Y.brk t (Y.peek r) = false; rw [hp]; exact hg.1) hg.2
    exact ⟨s', ⟨p1, r, fl, rfl, fun _ => hf, ho, hr⟩, hw⟩

/-- the header of a compound statement: its first token (read in any state), then the rest of the header, glued to it -/
theorem Walk.header {t : Token} (a : List Token) {b : List Token} (h : Walk Y g s (t :: (a ++ b)) s'') (hg : Y.Glued (t :: a)) :
    ∃ s0 s', Walk Y g s [t] s0 ∧ Reads Y s0 a s' ∧ Walk Y g s' b s'' := by
  obtain ⟨p1, r, fl, rfl, hf, ho, h⟩ := h
  cases a with
  | nil => exact ⟨_, _, ⟨p1, r, fl, rfl, hf, ho, rfl⟩, rfl, h⟩
  | cons u a =>
    have hp : Y.peek r = u := (Walk.peek h (List.cons_ne_nil u _)).1
    obtain ⟨s', hr, hw⟩ := Walk.reads (u :: a) h (by show Y.brk t (Y.peek r) = false; rw [hp]; exact hg.1) hg.2
    exact ⟨_, s', ⟨p1, r, fl, rfl, hf, ho, rfl⟩, hr, hw⟩

/-- a statement that is one glued run: its first token (read in any state), then the rest -/
theorem Walk.glued {t : Token} {a : List Token} (h : Walk Y g s (t :: a) s') (hg : Y.Glued (t :: a)) :
    ∃ s0, Walk Y g s [t] s0 ∧ Reads Y s0 a s' := by
  obtain ⟨s0, s1, h0, h1, rfl⟩ := Walk.header a (b := []) (by rwa [List.append_nil]) hg
  exact ⟨s0, h0, h1⟩

theorem Walk.fresh {ts : List Token} (h : Walk Y g s ts s') (hne : ts ≠ []) (hg : Y.Glued ts) :
    Reads Y { s with flag := false } ts s' := by
  cases ts with
  | nil => exact absurd rfl hne
  | cons t a =>
    obtain ⟨s0, h0, h1⟩ := h.glued hg
    exact Walk.trans (a := [t]) h0.unset h1

end


theorem Stops.mono {F F' : List Nat} {s : PState (List Token)} (hs : Stops F s) (h : ∀ ty, ty ∉ F → ty ∉ F') : Stops F' s :=
  ⟨hs.1, hs.2.imp id (h _)⟩

theorem Stops.sub {F F' : List Nat} {s : PState (List Token)} (hs : Stops F s) (h : ∀ ty, ty ∈ F' → ty ∈ F) : Stops F' s :=
  hs.mono fun _ hn hm => hn (h _ hm)

/-- before a token whose type is one of `H`, when no type of `H` is the comma or in `F` (decided): the situation of a probe that
stands where a rendering starts — `H` the token types an expression, a statement, a body … can start with -/
theorem Stops.of_mem {H F : List Nat} {s : PState (List Token)} (h : s.p2.type ∈ H)
    (hH : ∀ ty ∈ H, ty ≠ cTypeCommaSep ∧ ty ∉ F := by decide) : Stops F s :=
  ⟨(hH _ h).1, Or.inr (hH _ h).2⟩

theorem Stops.of_type {F : List Nat} {s : PState (List Token)} {c : Nat} (h : s.p2.type = c)
    (hc : c ≠ cTypeCommaSep := by decide) (hF : c ∉ F := by decide) : Stops F s :=
  ⟨h ▸ hc, Or.inr (h ▸ hF)⟩

theorem Walk.stops {g : Bool} {F : List Nat} {t : Token} {ts : List Token} {s s' : PState (List Token)} (h : Walk Y g s (t :: ts) s')
    (hc : t.type ≠ cTypeCommaSep) (hF : t.type ∉ F) : Stops F s := by
  obtain ⟨p1, r, fl, rfl, _, _, _⟩ := h
  exact ⟨hc, Or.inr hF⟩

theorem Walk.stops_tok {g : Bool} {F : List Nat} {t : Token} {ts : List Token} {s s' : PState (List Token)} {c : Nat}
    (h : Walk Y g s (t :: ts) s') (ht : t.type = c) (hc : c ≠ cTypeCommaSep := by decide) (hF : c ∉ F := by decide) : Stops F s :=
  .of_type (((h.peek (List.cons_ne_nil t ts)).1 ▸ ht : s.p2.type = c)) hc hF

/-- where a statement whose lines are indented by `d` may end: not before a comma; at the end of input, before a line indented
less, or before a line indented alike that does not start with 再如 / 否则 -/
structure StmtEnd (Y : Layout) (d : Nat) (s : PState (List Token)) : Prop where
  nc : s.p2.type ≠ cTypeCommaSep
  dedent : s.p2.type = cTypeEOF ∨ peekIndentOf (layoutOps Y) s < d ∨
    (peekIndentOf (layoutOps Y) s = d ∧ s.p2.type ∉ condKeywords)

/-- where a block indented by `d` ends: not before a comma; at the end of input or before a line indented less -/
structure BlockEnd (Y : Layout) (d : Nat) (s : PState (List Token)) : Prop where
  nc : s.p2.type ≠ cTypeCommaSep
  dedent : s.p2.type = cTypeEOF ∨ peekIndentOf (layoutOps Y) s < d

theorem BlockEnd.toStmt {d : Nat} {s : PState (List Token)} (h : BlockEnd Y d s) : StmtEnd Y d s :=
  ⟨h.nc, h.dedent.elim Or.inl (fun h => Or.inr (Or.inl h))⟩

/-- the end of a statement at `d`, seen from a block at `d + 1` inside it -/
theorem StmtEnd.inner {d : Nat} {s : PState (List Token)} (h : StmtEnd Y d s) : BlockEnd Y (d + 1) s :=
  ⟨h.nc, h.dedent.elim Or.inl (fun h => Or.inr (h.elim (fun h => by omega) (fun h => by omega)))⟩

theorem BlockEnd.cond {d : Nat} {s : PState (List Token)} (h : BlockEnd Y d s) : blockCond (layoutOps Y) d s = false := by
  rcases h.dedent with h | h
  · simp [blockCond, h]
  · simp [blockCond]; omega


section steps
variable {tys : List Nat} {t : Token} {s s' : PState (List Token)} {c : Nat}

theorem tryConsume_reads (n : Nat) (hmem : t.type ∈ tys) (hc : t.type ≠ cTypeCommaSep) (h : Reads Y s [t] s') :
    tryConsume (layoutOps Y) (n + 1) tys s = .ok (some t) s' := by
  obtain ⟨p1, r, fl, rfl, hf, ho, rfl⟩ := h
  obtain rfl := hf rfl
  exact tryConsume_hit n hmem hc ho

theorem tryConsume_tok (n : Nat) (ht : t.type = c) (h : Reads Y s [t] s') (hmem : c ∈ tys := by decide)
    (hc : c ≠ cTypeCommaSep := by decide) : tryConsume (layoutOps Y) (n + 1) tys s = .ok (some t) s' :=
  tryConsume_reads n (ht ▸ hmem) (ht ▸ hc) h

theorem consume_reads (n : Nat) (hmem : t.type ∈ tys) (hc : t.type ≠ cTypeCommaSep) (h : Reads Y s [t] s') :
    consume v (layoutOps Y) (n + 1) tys s = .ok () s' :=
  andThen (tryConsume_reads n hmem hc h) rfl

theorem consume_tok (n : Nat) (ht : t.type = c) (h : Reads Y s [t] s') (hmem : c ∈ tys := by decide)
    (hc : c ≠ cTypeCommaSep := by decide) : consume v (layoutOps Y) (n + 1) tys s = .ok () s' :=
  consume_reads n (ht ▸ hmem) (ht ▸ hc) h

theorem parseID_reads (n : Nat) (ht : t.type = cTypeIdentifier) (h : Reads Y s [t] s') :
    parseID v (layoutOps Y) (n + 1) s = .ok (Y.idOf t) s' :=
  andThen (tryConsume_tok n ht h) rfl

theorem expectBlockIndent_reads {g : Bool} {d : Nat} (h : Walk Y g s [t] s') (hc : Y.ind t = d)
    (hp : peekIndentOf (layoutOps Y) s' = d + 1) : expectBlockIndent (layoutOps Y) s' = .ok (some (d + 1)) s' := by
  obtain ⟨p1, r, fl, rfl, _, ho, rfl⟩ := h
  exact expectBlockIndent_S t r _ d hc hp

theorem tryConsume_reads_comma (n : Nat) (tys : List Nat) (hc : t.type = cTypeCommaSep) (h : Reads Y s [t] s')
    (hnc : s'.p2.type ≠ cTypeCommaSep) :
    tryConsume (layoutOps Y) (n + 1) tys s = tryConsume (layoutOps Y) (n + 1) tys s' := by
  obtain ⟨p1, r, fl, rfl, hf, ho, rfl⟩ := h
  obtain rfl := hf rfl
  exact ParserHoare.tryConsume_past_comma (n + 1) tys hc (by rw [next_S n p1 t r false ho, Bool.false_or]) hnc

end steps

/-- a statement is complete when the flag is set or a `；` follows (at the end of input the flag is set: `Walk.flag_eof`) -/
theorem endOfStmt_ok {s : PState (List Token)} (h : s.flag = true ∨ s.p2.type = cTypeStmtSep) :
    (endOfStmt v : PM (List Token) Unit) s = .ok () s := by
  unfold endOfStmt
  rcases h with h | h
  · simp [h]
  · simp [meetStmtBreak, h]

theorem unsetFlag_ok {s : PState (List Token)} (h : s.flag = false) : (unsetFlag : PM (List Token) Unit) s = .ok () s := by
  cases s
  subst h
  rfl

theorem blockCond_peek {d : Nat} {s : PState (List Token)} (h1 : s.p2.type ≠ cTypeEOF) (h2 : peekIndentOf (layoutOps Y) s = d) :
    blockCond (layoutOps Y) d s = true := by
  simp [blockCond, h1, h2]

end ZnVerif.Proofs.StmtRT
