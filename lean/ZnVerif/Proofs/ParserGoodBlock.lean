/-
The production lemmas of `step_good`, part 4: 每当, blocks, 如果 / 再如 / 否则.
-/
import ZnVerif.Proofs.ParserGood

namespace ZnVerif.Proofs.ParserGood
open ZnVerif.Model ZnVerif.Model.Parser ZnVerif.Generated.Tokens
open ZnVerif.Spec.Grammar ZnVerif.Proofs.ParserHoare

variable {σ : Type} {ops : LexOps σ} {B : Nat} {μ : σ → Nat} {I : σ → Prop}

theorem branch_complete {st : BrSt} {acc : BranchAcc} (h : BranchPre st acc) (hst : st ≠ .init) : CStmt acc.toStmt := by
  obtain ⟨h1, h2, h3, h4⟩ := h
  obtain ⟨hie, ib, hib, hibc⟩ := h4 hst
  unfold BranchAcc.toStmt
  rw [hib, h1, h2]
  refine .branch _ _ _ _ _ _ hie hibc (fun o ho => (h3 o ho).1) (fun o ho => ?_) (fun o ho b hb => ?_) rfl (fun b hb => by cases hb)
  · obtain ⟨l, hl, _⟩ := (h3 o ho).2
    simp [hl]
  · obtain ⟨l, hl, hlc⟩ := (h3 o ho).2
    rw [hl] at hb
    cases hb
    exact hlc

theorem branch_complete_else {st : BrSt} {acc : BranchAcc} (h : BranchPre st acc) (hst : st ≠ .init)
    {blk : List Stmt} (hb : ∀ s ∈ blk, CStmt s) :
    CStmt ({ acc with hasElse := true, elseB := some blk } : BranchAcc).toStmt := by
  obtain ⟨h1, h2, h3, h4⟩ := h
  obtain ⟨hie, ib, hib, hibc⟩ := h4 hst
  unfold BranchAcc.toStmt
  simp only [hib]
  refine .branch _ _ _ _ _ _ hie hibc (fun o ho => (h3 o ho).1) (fun o ho => ?_) (fun o ho b hb => ?_) rfl
    (fun b hb' => by cases hb'; exact hb)
  · obtain ⟨l, hl, _⟩ := (h3 o ho).2
    simp [hl]
  · obtain ⟨l, hl, hlc⟩ := (h3 o ho).2
    rw [hl] at hb
    cases hb
    exact hlc

variable (hl : LexOK ops B μ I) {n : Nat} {rec : Rec σ} (hg : Good ops B μ I n rec)
include hl hg

theorem pWhileLoop_good : GoodAt ops B μ I (n + 1) .whileLoop (pWhileLoop Variant.fixed ops n rec) := by
  intro s hs _
  apply hg.bindS (.refl hs) (.expr true) rfl trivial (Or.inr (by simp [rank]))
  intro e s1 a1 hc1
  apply consume_bind hl a1 (by decide)
  intro s2 a2
  apply blockIndent_bind a2 (errPeek_sat a2.inv (by decide))
  intro bi
  apply hg.bindN a2 (.block bi) trivial (Or.inl rfl)
  intro b s3 a3 hc3
  exact a3.post (.while _ _ _ hc1 hc3)

omit hl in
theorem pBlock_good (indent : Nat) : GoodAt ops B μ I (n + 1) (.block indent) (pBlock rec indent) := by
  intro s hs _
  apply hg.callN (.refl hs) (.blockLoop indent []) (by intro x hx; simp at hx) (Or.inr (by simp [rank]))
  intro b s1 a1 hc1
  exact a1.post_le rfl (fun h => h.elim) hc1

omit hl in
theorem pBlockLoop_good (indent : Nat) (acc : List Stmt) :
    GoodAt ops B μ I (n + 1) (.blockLoop indent acc) (pBlockLoop ops rec indent acc) := by
  intro s hs (hpre : ∀ x ∈ acc, CStmt x)
  refine sat_bind.mpr (sat_ite.mpr ⟨fun _ => ?_, fun _ => (At.refl hs).post_le rfl (fun h => h.elim) hpre⟩)
  apply hg.bindS (.refl hs) .statement rfl trivial (Or.inr (by simp [rank]))
  intro st s1 a1 hc1
  apply hg.callN a1 (.blockLoop indent _) (mem_snoc hpre hc1) (Or.inl rfl)
  intro r s2 a2 hc2
  exact a2.post hc2

omit hl in
theorem pBranch_good : GoodAt ops B μ I (n + 1) .branch (pBranch ops rec) := by
  intro s hs _
  refine sat_bind.mpr ?_
  apply hg.callX (.refl hs) (.branchLoop _ .init {}) ⟨rfl, rfl, by intro o ho; simp at ho, by intro h; exact absurd rfl h⟩ trivial
    (Or.inr (by simp [rank]))
  intro st s1 a1 hc1
  exact a1.post hc1

omit hg hl in
theorem condStrict_branch {mi : Nat} {st : BrSt} {acc : BranchAcc} {s : PState σ}
    (h : CondStrict ops (.branchLoop mi st acc) s) : st = .init := by
  cases st <;> simp [CondStrict] at h ⊢

omit hg in
/-- the loop header from where `ParseBranchStmt`'s loop stands: it consumes 再如 / 否则, outside the initial state -/
theorem branchHeader_bind {mainIndent : Nat} {st : BrSt} {nt : NT} {s0 s : PState σ} {c : Bool} {α : Type} {Q : α → PState σ → Prop}
    {f : Option BrSt → PM σ α} (a : At ops B μ I s0 s c)
    (hnone : ∀ s', At ops B μ I s0 s' c → st ≠ .init → Sat (f none s') Q (ErrOK B) (n + 1 < need μ nt s0))
    (hsome : ∀ st' s', At ops B μ I s0 s' c → st' ≠ .init → (st = .init → st' = .ifB) →
      (st ≠ .init → At ops B μ I s0 s' true) → Sat (f (some st') s') Q (ErrOK B) (n + 1 < need μ nt s0)) :
    Sat ((branchHeader ops n mainIndent st >>= f) s) Q (ErrOK B) (n + 1 < need μ nt s0) := by
  refine sat_bind.mpr ?_
  unfold branchHeader
  cases st
  case init => exact hsome .ifB s a (by simp) (fun _ => rfl) (fun h => absurd rfl h)
  case elseB =>
    refine sat_bind.mpr (sat_ite.mpr ⟨fun _ => hnone s a (by simp), fun _ => ?_⟩)
    exact tryConsume_bind hl a (by decide) (fun s' a' _ => hnone s' a' (by simp))
      fun _ s' a' _ => hsome .elseB s' a'.weaken (by simp) (fun h => by cases h) fun _ => a'
  -- after the if-branch and after a 再如 branch (one arm in the model)
  all_goals
    refine sat_bind.mpr (sat_ite.mpr ⟨fun _ => hnone s a (by simp), fun _ => sat_bind.mpr ?_⟩)
    exact tryConsume_bind hl (a.flag false) (by decide)
      (fun s' a' _ => sat_bind.mpr (hnone _ (a'.flag true) (by simp)))
      fun tk s' a' _ => hsome _ s' a'.weaken (by split <;> simp) (fun h => by cases h) fun _ => a'

theorem pBranchLoop_good (mi : Nat) (st : BrSt) (acc : BranchAcc) :
    GoodAt ops B μ I (n + 1) (.branchLoop mi st acc) (pBranchLoop Variant.fixed ops n rec mi st acc) := by
  intro s hs (hpre : BranchPre st acc)
  refine sat_bind.mpr (sat_ite.mpr ⟨fun _ => ?_, fun hc => ?_⟩)
  · apply branchHeader_bind hl (.refl hs)
    · intro s1 a1 hst
      exact a1.post_le rfl (fun h => absurd (condStrict_branch h) hst) (branch_complete hpre hst)
    · intro st' s1 a1 hst' hinit hstrict
      -- `： block` after the condition, then the state switch; by then the pass has consumed: the condition, or 否则
      have tail : ∀ cond s2, At ops B μ I s s2 true → (st' ≠ .elseB → CExpr cond) →
          Sat ((do
            consume Variant.fixed ops n [cTypeFuncCall]
            match ← expectBlockIndent ops with
            | none => errPeek Variant.fixed 21
            | some bi => do
              let blk ← rec (.block bi)
              match st' with
              | .ifB => rec (.branchLoop mi .ifB { acc with ifE := cond, ifB := some blk })
              | .other => rec (.branchLoop mi .other { acc with others := acc.others ++ [(cond, some blk)] })
              | .elseB => pure ({ acc with hasElse := true, elseB := some blk } : BranchAcc).toStmt
              | .init => rec (.branchLoop mi .init acc) : PM σ Stmt) s2)
            (Post ops B μ I (.branchLoop mi st acc) s) (ErrOK B) (n + 1 < need μ (.branchLoop mi st acc) s) := by
        intro cond s2 a2 hcond
        apply consume_bind hl a2 (by decide)
        intro s3 a3
        apply blockIndent_bind a3 (errPeek_sat a3.inv (by decide))
        intro bi
        apply hg.bindN a3 (.block bi) trivial (Or.inl rfl)
        intro blk s4 a4 hc4
        cases st' with
        | init => exact absurd rfl hst'
        | ifB =>
          apply hg.callN a4 (.branchLoop mi .ifB { acc with ifE := cond, ifB := some blk })
            ⟨hpre.1, hpre.2.1, hpre.2.2.1, fun _ => ⟨hcond (by simp), _, rfl, hc4⟩⟩ (Or.inl rfl)
          intro r s5 a5 hc5
          exact a5.post hc5
        | other =>
          have hst : st ≠ .init := fun h => by have := hinit h; cases this
          apply hg.callN a4 (.branchLoop mi .other { acc with others := acc.others ++ [(cond, some blk)] })
            ⟨hpre.1, hpre.2.1, mem_snoc hpre.2.2.1 ⟨hcond (by simp), _, rfl, hc4⟩, fun _ => hpre.2.2.2 hst⟩ (Or.inl rfl)
          intro r s5 a5 hc5
          exact a5.post hc5
        | elseB =>
          have hst : st ≠ .init := fun h => by have := hinit h; cases this
          exact a4.post (branch_complete_else hpre hst hc4)
      refine sat_bind.mpr (sat_ite.mpr ⟨fun hne => ?_, fun he => ?_⟩)
      · apply hg.callS a1 (.expr true) rfl trivial (Or.inr (by simp [rank]))
        intro cond s2 a2 hc2
        exact tail cond s2 a2 (fun _ => hc2)
      · exact tail Expr.nil s1 (hstrict fun h => by rw [hinit h] at he; exact he (by decide)) (fun h => absurd h he)
  · -- the loop is not entered: only possible outside the initial state
    have hst : st ≠ .init := by
      intro h
      subst h
      simp [Variant.fixed] at hc
    exact (At.refl hs).post_le rfl (fun h => absurd (condStrict_branch h) hst)
      (branch_complete hpre hst)

end ZnVerif.Proofs.ParserGood
