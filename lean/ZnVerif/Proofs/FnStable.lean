/-
Which heap cells the evaluator can overwrite.  `KS s s'` (kinds stable): every cell that exists in `s` exists in `s'`
with the same kind, and cells of the kinds that are never written — method, truth value, 空, exception value —
are literally the same (a text cell is rewritten in place by 转换数值: `strExecAtoi` assigns to `s.value`).  `KS` is
`Stable0` (allocation only appends) but not `Stable`.  Of the four places of the model that call `setCell`, three
(`setProperty`, `builtinMethod`, `reduceLHS`) are built-in operations and take `KS` from `Leaf.LeafStep`; `evalCtorDecl`
writes a type cell over the type cell it has just read (`PKa`: a judgment that carries "the cell at `a` has kind `k`"
through the steps in between).  `allPres` then gives `KS` for the whole evaluator.
`Kind` is `Leaf.CellSort` (Proofs/LeafEffects.lean) without the type of an object (`kindOf_of_sortOf`); `Kind.frozen` is not the
complement of `CellSort.mutable`: a type cell is neither — no built-in operation overwrites one, `evalCtorDecl` does.
Declares into `namespace ZnVerif.Proofs.Balance`, like Proofs/Balance.lean.
-/
import ZnVerif.Proofs.LoaderPres
set_option linter.unusedSectionVars false
set_option linter.unusedVariables false

namespace ZnVerif.Proofs.Balance
open ZnVerif.Model ZnVerif.Proofs.Calls

variable {ν : Type} [NumOps ν]

inductive Kind where
  | num | str | bool | null | arr | hm | obj | fn | cls | exc
  deriving DecidableEq, Repr

def kindOf : Cell ν → Kind
  | .num _ => .num
  | .str _ => .str
  | .bool _ => .bool
  | .null => .null
  | .arr _ => .arr
  | .hm _ _ => .hm
  | .obj _ _ => .obj
  | .fn _ => .fn
  | .cls _ _ _ _ => .cls
  | .exc _ => .exc

/-- kinds whose cells no operation overwrites -/
def Kind.frozen : Kind → Bool
  | .bool | .null | .fn | .exc => true
  | _ => false

def CellKeep (c c' : Cell ν) : Prop := kindOf c' = kindOf c ∧ ((kindOf c).frozen = true → c' = c)

/-- every existing cell keeps its kind; cells of frozen kinds keep their content -/
def KS (s s' : VM ν) : Prop :=
  ∀ (i : Nat) (c : Cell ν), s.heap[i]? = some c → ∃ c' : Cell ν, s'.heap[i]? = some c' ∧ CellKeep c c'

theorem KS.of_heap_eq {s s' : VM ν} (h : s'.heap = s.heap) : KS s s' := by
  intro i c hc
  exact ⟨c, by rw [h]; exact hc, rfl, fun _ => rfl⟩

instance : PreRel (KS (ν := ν)) where
  refl s := KS.of_heap_eq rfl
  trans := by
    intro a b c h1 h2 i x hx
    obtain ⟨y, hy, k1, f1⟩ := h1 i x hx
    obtain ⟨z, hz, k2, f2⟩ := h2 i y hy
    refine ⟨z, hz, k2.trans k1, fun hf => ?_⟩
    have := f1 hf
    subst this
    exact f2 hf

instance : Stable0 (KS (ν := ν)) where
  alloc s c := by
    intro i x hx
    refine ⟨x, ?_, rfl, fun _ => rfl⟩
    show (s.heap.push c)[i]? = some x
    rw [Array.getElem?_push]
    split
    · rename_i h; subst h; simp at hx
    · exact hx
  stack s st cs := KS.of_heap_eq rfl
  exports s i md e _ := KS.of_heap_eq rfl

theorem KS.put (s : VM ν) (mid : Int) (sc : Scope) : KS s (putScope mid sc s) := .of_heap_eq (putScope_heap _ _ _)

theorem KS.frozen_eq {s s' : VM ν} (h : KS s s') {i : Nat} {c : Cell ν} (hc : s.heap[i]? = some c)
    (hf : (kindOf c).frozen = true) : s'.heap[i]? = some c := by
  obtain ⟨c', h1, _, h3⟩ := h i c hc
  rw [← h3 hf]; exact h1

def kindAt (a : Addr) (k : Kind) (s : VM ν) : Prop := ∃ c : Cell ν, s.heap[a]? = some c ∧ kindOf c = k

theorem kindAt.of_KS {a : Addr} {k : Kind} {s s' : VM ν} (h : KS s s') (hk : kindAt a k s) : kindAt a k s' := by
  obtain ⟨c, hc, rfl⟩ := hk
  obtain ⟨c', hc', hkind, _⟩ := h a c hc
  exact ⟨c', hc', hkind⟩

/-- `m` keeps `KS` from every state in which the cell at `a` has kind `k` -/
structure PKa (a : Addr) (k : Kind) {α} (m : M ν α) : Prop where
  run : ∀ s, kindAt a k s → KS s (m s).2

section pka
variable {α β : Type} {a : Addr} {k : Kind}

theorem PKa.of_pres {m : M ν α} (h : Pres KS m) : PKa a k m := ⟨fun s _ => h.run s⟩

theorem PKa.bind {m : M ν α} {f : α → M ν β} (hm : PKa a k m) (hf : ∀ x, PKa a k (f x)) : PKa a k (m >>= f) := by
  constructor
  intro s hk
  rw [M_bind_def]
  have h1 := hm.run s hk
  rcases h : m s with ⟨r, s'⟩
  rw [h] at h1
  cases r <;> simp only <;> try exact h1
  exact PreRel.trans h1 ((hf _).run s' (hk.of_KS h1))

theorem PKa.setCell {c : Cell ν} (hk : kindOf c = k) (hf : k.frozen = false) : PKa a k (setCell a c) := by
  constructor
  intro s ⟨c0, hc0, hk0⟩
  unfold Model.setCell
  split
  · intro i x hx
    by_cases hi : a = i
    · subst hi
      rw [hc0] at hx; cases hx
      refine ⟨c, ?_, by rw [hk, hk0], fun hfr => ?_⟩
      · show (s.heap.set! a c)[a]? = some c
        rw [Array.set!_eq_setIfInBounds, Array.getElem?_setIfInBounds_self]
        simp [*]
      · rw [hk0, hf] at hfr; cases hfr
    · refine ⟨x, ?_, rfl, fun _ => rfl⟩
      show (s.heap.set! a c)[i]? = some x
      rw [Array.set!_eq_setIfInBounds, Array.getElem?_setIfInBounds_ne hi]; exact hx
  · exact PreRel.refl s

theorem Pres.getCell_bind {f : Cell ν → M ν β} (h : ∀ c, PKa a (kindOf c) (f c)) :
    Pres KS (Model.getCell a >>= f) := by
  constructor
  intro s
  rw [M_bind_def]
  unfold Model.getCell
  cases hc : s.heap[a]? with
  | none => exact PreRel.refl s
  | some c => exact (h c).run s ⟨c, hc, rfl⟩

theorem PKa.getCell_bind {b : Addr} {f : Cell ν → M ν β} (h : ∀ c, PKa a k (f c)) :
    PKa a k (Model.getCell b >>= f) :=
  PKa.bind (PKa.of_pres inferInstance) h

end pka

theorem kindOf_of_sortOf {c c' : Cell ν} (h : Leaf.sortOf c' = Leaf.sortOf c) : kindOf c' = kindOf c := by
  cases c <;> cases c' <;> first | rfl | cases h

theorem KS.ofLeafStep {w : Option Addr} {s s' : VM ν} (h : Leaf.LeafStep w s s') : KS s s' := by
  intro i c hc
  obtain ⟨c', h1, h2, h3⟩ := h.old i c hc
  refine ⟨c', h1, kindOf_of_sortOf h2, fun hf => ?_⟩
  rcases h3 with rfl | ⟨_, hm⟩
  · rfl
  · cases c <;> first | (cases hm; done) | cases hf

theorem ks_setProperty (a : Addr) (name : String) (v : Addr) : Pres KS (setProperty (ν := ν) a name v) :=
  .ofRuns (fun _ _ => KS.ofLeafStep) (Leaf.runs_setProperty a name v)

theorem ks_reduceLHS (iv : Nat × Addr × String × Int) (v : Addr) : Pres KS (reduceLHS (ν := ν) iv v) :=
  .ofRuns (fun _ _ => KS.ofLeafStep) (Leaf.runs_reduceLHS iv v)

theorem ks_builtinMethod (n : Nat) (a : Addr) (name : String) (vals : List Addr) :
    Pres KS (builtinMethod (ν := ν) n a name vals) :=
  .ofRuns (fun _ _ => KS.ofLeafStep) (Leaf.runs_builtinMethod n a name vals)

/-- a constructor declaration overwrites the type cell it has just read by a type cell -/
theorem ks_evalCtorDecl : ∀ (n : Nat) (st : Stmt), Pres KS (evalCtorDecl (ν := ν) n st)
  | 0, st => Pres.outOfFuel
  | n+1, st => by
    cases st with
    | funcDecl =>
      rw [Model.evalCtorDecl]
      refine .bind (by infer_instance) fun _ => .bind (by infer_instance) fun p => Pres.getCell_bind fun c => ?_
      cases c <;> try exact .of_pres inferInstance
      dsimp only
      split
      · exact .of_pres inferInstance
      · split
        · exact .of_pres inferInstance
        · exact .setCell rfl rfl
    | _ => rw [Model.evalCtorDecl] <;> first | exact Pres.goPanic | (intros; contradiction)

instance : ScopePrims0 (KS (ν := ν)) where
  emit l := ⟨fun s => KS.of_heap_eq rfl⟩
  pushFrame := .pushFrame_of_put fun _ _ _ => .put _ _ _
  declareElement _ _ _ _ := .declareElement_of_put fun _ _ _ _ _ => .put _ _ _
  setElement _ _ := .setElement_of_put fun _ _ _ _ _ => .put _ _ _
  withScope := Pres.withScope_of_put (fun _ _ _ => .put _ _ _) fun _ _ _ _ => .put _ _ _
  setProperty := ks_setProperty
  builtinMethod := ks_builtinMethod
  reduceLHS := ks_reduceLHS
  evalCtorDecl := ks_evalCtorDecl

instance : LoaderPrims (KS (ν := ν)) where
  graph s g := KS.of_heap_eq rfl
  pushModule s m _ := KS.of_heap_eq rfl
  beginBoundScope := .beginBoundScope_of_put fun _ _ _ => .put _ _ _

theorem ks_runProgramWith (files : FileTable) (libs : LibTable) (fuel : Nat) (p : Program) (inputs : List (String × Cell ν)) :
    Pres KS (runProgramWith (ν := ν) files libs fuel p inputs) :=
  Pres.runProgramWith files libs fuel p inputs fun s => KS.of_heap_eq rfl

theorem ks_runProgram (fuel : Nat) (p : Program) (inputs : List (String × Cell ν)) :
    Pres KS (runProgram (ν := ν) fuel p inputs) :=
  ks_runProgramWith [] [] fuel p inputs

end ZnVerif.Proofs.Balance
