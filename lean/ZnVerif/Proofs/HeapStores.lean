/-
合并 (merge) as a store of copies; element / key / property assignment: shape of the store, mutation through whatever is
above the root (`MutSeq`), preservation of readability; index reads stay below their root.
-/
import ZnVerif.Proofs.HeapMutators
import ZnVerif.Proofs.HeapSites
import ZnVerif.Proofs.BridgesLift
set_option linter.unusedSectionVars false

namespace ZnVerif.Model
open ZnVerif.Proofs.Bridges (copyItems)

variable {ν : Type} [NumOps ν]

theorem omapM_append {α β} (f : α → Option β) (l1 l2 : List α) (ts : List β) :
    List.mapM f (l1 ++ l2) = some ts ↔ ∃ t1 t2, List.mapM f l1 = some t1 ∧ List.mapM f l2 = some t2 ∧ ts = t1 ++ t2 := by
  rw [List.mapM_append]
  cases List.mapM f l1 <;> cases List.mapM f l2 <;> simp [eq_comm]

theorem validateAll_array (cellOf : Addr → List Addr) : ∀ (vals : List Addr) (s : VM ν),
    (∀ v ∈ vals, s.heap[v]? = some (.arr (cellOf v))) → validateAll vals "array" s = (.ok (), s) := by
  intro vals
  induction vals with
  | nil => intro s _; rfl
  | cons v vs ih =>
    intro s h
    unfold validateAll at ih ⊢
    simp only [List.forM, bind, validateOne_array (h v (by simp))]
    exact ih s (fun w hw => h w (by simp [hw]))

theorem merge_list (n : Nat) (cellOf : Addr → List Addr) : ∀ (vals : List Addr) (s s1 : VM ν) (ts : List (Tree ν))
    (extra : List (List Addr)),
    (∀ v ∈ vals, s.heap[v]? = some (.arr (cellOf v))) →
    (vals.flatMap cellOf).mapM (content n s.heap) = some ts →
    vals.mapM (copyItems n) s = (.ok extra, s1) →
    Grow s s1 ∧ extra.flatten.mapM (content n s1.heap) = some ts ∧
      ∀ y ∈ extra.flatten, Valid s1.heap y ∧ Fresh s.heap.size s1.heap y := by
  intro vals
  induction vals with
  | nil =>
    intro s s1 ts extra _ hts hm
    simp [pure] at hm
    rcases hm with ⟨rfl, rfl⟩
    exact ⟨StateRel.refl _, by simpa using hts, by simp⟩
  | cons v vs ih =>
    intro s s1 ts extra hcells hts hm
    rw [List.flatMap_cons] at hts
    rcases (omapM_append _ _ _ _).1 hts with ⟨t1, t2, q1, q2, rfl⟩
    rcases mapM_cons_inv _ _ _ _ _ _ hm with ⟨l, ls, sm, hv, hrest, rfl⟩
    have hcv := hcells v (by simp)
    have hl : (cellOf v).mapM (dup n) s = (.ok l, sm) := by
      unfold copyItems at hv
      simpa only [bind, getCell, hcv] using hv
    rcases dup_list n (dup_spec n) (cellOf v) s t1 q1 with ⟨l', sm', hl', hsame, hext, hcont, hall⟩
    rw [hl] at hl'
    injection hl' with e1 e2
    injection e1 with e1
    subst e1; subst e2
    rcases ih sm s1 t2 ls (fun w hw => hext.get (hcells w (by simp [hw])))
      (omapM_mono _ _ _ (fun y _ t' => content_ext hext n y t') t2 q2) hrest with ⟨hg, hc2, hall2⟩
    refine ⟨StateRel.trans (R := Grow) ⟨hsame, hext⟩ hg, ?_, ?_⟩
    · rw [List.flatten_cons]
      exact (omapM_append _ _ _ _).2 ⟨t1, t2, omapM_mono _ _ _ (fun y _ t' => content_ext hg.2 n y t') t1 hcont, hc2, rfl⟩
    · intro y hy
      rw [List.flatten_cons, List.mem_append] at hy
      rcases hy with hy | hy
      · exact ⟨(hall y hy).1.ext hg.2, (hall y hy).2.ext hg.2 (hall y hy).1⟩
      · exact ⟨(hall2 y hy).1, (hall2 y hy).2.mono hext.1⟩

theorem builtinMethod_merge_eq (n : Nat) (r : Addr) (vals : List Addr) (items : List Addr) (s : VM ν)
    (hc : s.heap[r]? = some (.arr items)) :
    builtinMethod n r "合并" vals s = ((do
      validateAll vals "array"
      let extra ← vals.mapM (copyItems n)
      setCell r (.arr (items ++ extra.flatten))
      alloc (.arr (items ++ extra.flatten))) : M ν Addr) s := by
  unfold builtinMethod
  simp only [bind, getCell, hc]
  rfl

/-- **合并 stores copies.**  On a list cell `r` with argument lists whose items read as `ts`: every item of every argument
is duplicated; `r`'s cell becomes its old items followed by the duplicates (which read as `ts` again and consist of
new cells only); the answer is a second list cell over the same items. -/
theorem merge_spec {n : Nat} {r : Addr} {vals : List Addr} {items : List Addr} {cellOf : Addr → List Addr}
    {s s' : VM ν} {res : Addr} {ts : List (Tree ν)}
    (h : builtinMethod n r "合并" vals s = (.ok res, s'))
    (hc : s.heap[r]? = some (.arr items))
    (hcells : ∀ v ∈ vals, s.heap[v]? = some (.arr (cellOf v)))
    (hts : (vals.flatMap cellOf).mapM (content n s.heap) = some ts) :
    ∃ (news : List Addr) (s1 : VM ν), Grow s s1 ∧ news.mapM (content n s1.heap) = some ts ∧
      (∀ y ∈ news, Valid s1.heap y ∧ Fresh s.heap.size s1.heap y) ∧ res = s1.heap.size ∧
      s' = { s1 with heap := (s1.heap.set! r (.arr (items ++ news))).push (.arr (items ++ news)) } := by
  rw [builtinMethod_merge_eq n r vals items s hc] at h
  rcases Proofs.Calls.bind_ok_inv h with ⟨u, s0, hv, h1⟩
  rw [validateAll_array cellOf vals s hcells] at hv
  injection hv with _ e0
  subst e0
  rcases Proofs.Calls.bind_ok_inv h1 with ⟨extra, s1, hm, h2⟩
  rcases merge_list n cellOf vals s s1 ts extra hcells hts hm with ⟨hg, hcont, hall⟩
  rcases Proofs.Calls.bind_ok_inv h2 with ⟨u', s2, hset, h3⟩
  rcases setCell_ok_inv hset with ⟨_, rfl⟩
  simp only [alloc] at h3
  injection h3 with e1 e2
  injection e1 with e1
  exact ⟨extra.flatten, s1, hg, hcont, hall, by rw [← e1]; simp, e2.symm⟩

theorem merge_storeStep {n : Nat} {r : Addr} {vals : List Addr} {cellOf : Addr → List Addr}
    {s s' : VM ν} {res : Addr} {ts : List (Tree ν)}
    (h : builtinMethod n r "合并" vals s = (.ok res, s'))
    (hcells : ∀ v ∈ vals, s.heap[v]? = some (.arr (cellOf v)))
    (hts : (vals.flatMap cellOf).mapM (content n s.heap) = some ts) : StoreStep r s.heap s'.heap :=
  builtinMethod_storeStep h fun v hv => readable_of_cell (hcells v hv) rfl fun x hx =>
    let ⟨t, ht, _⟩ := omapM_mem _ _ ts hts x (List.mem_flatMap.2 ⟨v, hv, hx⟩); ⟨n, t, ht⟩

theorem MutSeq.trans {a b : Addr} {h1 h2 h3 : Array (Cell ν)} (m1 : MutSeq a b h1 h2) (m2 : MutSeq a b h2 h3) :
    MutSeq a b h1 h3 := by
  induction m1 with
  | done => exact m2
  | grow e _ ih => exact .grow e (ih m2)
  | write hr hm hch _ ih => exact .write hr hm hch (ih m2)

/-- the shape of a successful store `reduceLHS (kind, root, …) v`: `root`'s cell is replaced, either object by object
(property write), or list / dictionary by one whose links are old links of `root` or `v` -/
theorem reduceLHS_shape {kind : Nat} {root : Addr} {nm : String} {idx : Int} {v : Addr} {s s' : VM ν}
    (h : reduceLHS (kind, root, nm, idx) v s = (.ok (), s')) :
    ∃ c c', s.heap[root]? = some c ∧ s' = { s with heap := s.heap.set! root c' } ∧
      ((c.isRefKind = true ∧ c'.isRefKind = true) ∨
       (c.isMutable = true ∧ (c.wf = true → c'.wf = true) ∧ ∀ x ∈ c'.children, x ∈ c.children ∨ x = v)) := by
  by_cases h1 : kind = 1
  · subst h1
    rcases reduceLHS_arr_spec h with ⟨items, hc, _, rfl⟩
    exact ⟨_, _, hc, rfl, .inr ⟨rfl, fun _ => rfl, fun x hx => List.mem_or_eq_of_mem_set hx⟩⟩
  by_cases h2 : kind = 2
  · subst h2
    rcases reduceLHS_hm_spec h with ⟨vals, order, hc, rfl⟩
    exact ⟨_, _, hc, rfl, .inr ⟨rfl, hm_wf_of (hmAppend_wf nm v), fun x hx => snd_mem_hmAppend hx⟩⟩
  have hb1 : (kind == 1) = false := by simpa using h1
  have hb2 : (kind == 2) = false := by simpa using h2
  simp only [reduceLHS, hb1, hb2] at h
  simp only [Bool.false_eq_true, if_false] at h
  unfold setProperty at h
  rcases Proofs.Calls.bind_ok_inv h with ⟨c, s1, hc, h3⟩
  rcases getCell_ok_inv hc with ⟨hc', e⟩
  rw [e] at h3
  cases c <;> simp only [rtErr, throwE] at h3 <;> try (injection h3 with h3 _; cases h3)
  · rename_i items
    split at h3
    · cases items with
      | nil => exact ⟨_, _, hc', (setCell_ok_inv h3).2, .inr ⟨rfl, fun _ => rfl, by simp [Cell.children]⟩⟩
      | cons y rest =>
        exact ⟨_, _, hc', (setCell_ok_inv h3).2, .inr ⟨rfl, fun _ => rfl, by
          simp only [Cell.children, List.mem_cons]; intro x hx; rcases hx with rfl | hx
          · exact .inr rfl
          · exact .inl (.inr hx)⟩⟩
    · cases items with
      | nil => exact ⟨_, _, hc', (setCell_ok_inv h3).2, .inr ⟨rfl, fun _ => rfl, by simp [Cell.children]⟩⟩
      | cons y rest =>
        refine ⟨_, _, hc', (setCell_ok_inv h3).2, .inr ⟨rfl, fun _ => rfl, ?_⟩⟩
        simp only [Cell.children, List.mem_append, List.mem_singleton]
        intro x hx
        rcases hx with hx | rfl
        · exact .inl (mem_of_mem_dropLast' hx)
        · exact .inr rfl
    · injection h3 with h3 _; cases h3
  · rename_i cls props
    cases hl : lookup nm props with
    | none => rw [hl] at h3; injection h3 with h3 _; cases h3
    | some old =>
      rw [hl] at h3
      exact ⟨_, _, hc', (setCell_ok_inv h3).2, .inl ⟨rfl, rfl⟩⟩

theorem reduceLHS_mutSeq {a b root : Addr} {kind : Nat} {nm : String} {idx : Int} {v : Addr} {s s' : VM ν}
    (h : reduceLHS (kind, root, nm, idx) v s = (.ok (), s')) (hm : Mutable s.heap root)
    (hr : Reach s.heap b root) (hs : Sep s.heap a b) (hv : Valid s.heap v ∧ Disj s.heap a v) :
    MutSeq a b s.heap s'.heap := by
  rcases reduceLHS_shape h with ⟨c, c', hc, rfl, hk | ⟨_, _, hch⟩⟩
  · rcases hm with ⟨c0, hc0, hm⟩
    rw [hc] at hc0; cases hc0
    cases c <;> cases hm <;> cases hk.1
  · refine .write hr hm (fun x hx => ?_) (.done _)
    rcases hch x hx with hx | rfl
    · exact sep_child_of_reach hs (hr.trans (Reach.child hc hx))
    · exact hv

theorem reduceLHS_readable {kind : Nat} {root : Addr} {nm : String} {idx : Int} {v : Addr} {s s' : VM ν}
    (h : reduceLHS (kind, root, nm, idx) v s = (.ok (), s')) (hv : Readable s.heap v) (hnr : ¬ Reach s.heap v root) :
    ∀ a, Readable s.heap a → Readable s'.heap a := by
  rcases reduceLHS_shape h with ⟨c, c', hc, rfl, hk | ⟨_, hw, hch⟩⟩
  · intro a ⟨n, t, ht⟩
    exact ⟨n, t, by rw [content_set_ref root c c' hk.1 hk.2 n s.heap a hc]; exact ht⟩
  · refine write_keeps_readable hc hw (fun x hx => ?_)
    rcases hch x hx with hx | rfl
    · exact .inl hx
    · exact .inr ⟨hv, hnr⟩
theorem index_read_reaches {n : Nat} {kind : Nat} (hk : kind = 1 ∨ kind = 2) {root : Addr} {nm : String} {idx : Int}
    {s s' : VM ν} {v : Addr} (h : reduceRHS n (kind, root, nm, idx) s = (.ok v, s')) :
    s' = s ∧ ∃ c, s.heap[root]? = some c ∧ v ∈ c.children := by
  rcases hk with rfl | rfl
  · simp only [reduceRHS] at h
    rw [if_pos (by rfl)] at h
    rcases Proofs.Calls.bind_ok_inv h with ⟨c, s1, hc, h1⟩
    rcases getCell_ok_inv hc with ⟨hc', e⟩
    rw [e] at h1
    cases c <;> simp only [rtErr, throwE] at h1 <;> try (injection h1 with h1 _; cases h1)
    rename_i items
    by_cases hb : (idx - 1 < 0 ∨ idx - 1 ≥ items.length)
    · rw [if_pos hb] at h1; injection h1 with h1 _; cases h1
    · rw [if_neg hb] at h1
      cases hi : items[(idx - 1).toNat]? with
      | none => rw [hi] at h1; simp [goPanic] at h1
      | some x =>
        rw [hi] at h1
        rcases pure_ok_inv h1 with ⟨rfl, rfl⟩
        exact ⟨rfl, _, hc', by simp only [Cell.children]; exact List.mem_of_getElem? hi⟩
  · simp only [reduceRHS] at h
    rw [if_neg (by decide), if_pos (by rfl)] at h
    rcases Proofs.Calls.bind_ok_inv h with ⟨c, s1, hc, h1⟩
    rcases getCell_ok_inv hc with ⟨hc', e⟩
    rw [e] at h1
    cases c <;> simp only [rtErr, throwE] at h1 <;> try (injection h1 with h1 _; cases h1)
    rename_i vals order
    cases hl : lookup nm vals with
    | none => rw [hl] at h1; simp [throwE] at h1
    | some x =>
      rw [hl] at h1
      rcases pure_ok_inv h1 with ⟨rfl, rfl⟩
      exact ⟨rfl, _, hc', snd_mem_of_lookup hl⟩

end ZnVerif.Model
