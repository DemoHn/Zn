/-
The dictionary invariant is kept by every evaluator operation on the cell.  `KW a`: "if cell `a`
holds a dictionary with the invariant before, it does after" — kept by every run of `builtinMethod` (`bm_hm_keeps`) and
`reduceLHS` (`lhs_hm_keeps`) on that cell, whatever the outcome: the only stores into the cell are the two of 写入 / `D#k = v`
(`hmAppend`) and the one of 移除 (`assocErase` / `erase`), and those keep `dictWF`.  `getProperty` and `reduceRHS` store into no old
cell (`Pres.ofLeaf`, where `interp_hm_inv_preserved` is stated).
-/
import ZnVerif.Proofs.BridgesLift

namespace ZnVerif.Proofs.Bridges
open ZnVerif ZnVerif.Model
open ZnVerif.Proofs.Calls (getCell_bind)

variable {ν : Type} [NumOps ν]

def KW (a : Addr) (s s' : VM ν) : Prop :=
  (∃ vals order, s.heap[a]? = some (.hm vals order) ∧ dictWF vals order) →
  ∃ vals' order', s'.heap[a]? = some (.hm vals' order') ∧ dictWF vals' order'

instance (a : Addr) : GrowRel (KW (ν := ν) a) where
  refl s := fun h => h
  trans h1 h2 := fun h => h2 (h1 h)
  ofGrow := by
    intro s s' hg ⟨vals, order, hc, hwf⟩
    exact ⟨vals, order, hg.2.get hc, hwf⟩

theorem setCell_kw (a : Addr) {nv : List (String × Addr)} {no : List String} (hwf : dictWF nv no) :
    Pres (KW (ν := ν) a) (setCell a (.hm nv no)) := by
  constructor
  intro s r s' h ⟨_, _, hc, _⟩
  unfold setCell at h
  rw [if_pos (lt_size_of_getElem? hc)] at h
  cases h
  exact ⟨nv, no, get_set_eq _ _ _ (lt_size_of_getElem? hc), hwf⟩

/-- every method call on a dictionary cell, whatever the name, the arguments and the outcome: 读取 writes no old cell,
写入 stores `hmAppend`, 移除 stores `assocErase` / `erase` -/
theorem bm_hm_keeps (n : Nat) (a : Addr) (name : String) (args : List Addr) (vals : List (String × Addr))
    (order : List String) (s s' : VM ν) (r : Model.Res Addr) (hc : s.heap[a]? = some (.hm vals order))
    (hwf : dictWF vals order) (h : builtinMethod n a name args s = (r, s')) : KW a s s' := by
  unfold builtinMethod at h
  rw [getCell_bind _ hc] at h
  dsimp only at h
  refine Pres.run (?_ : Pres (KW a) _) s r s' h
  -- the arms of the dictionary's `match name with`, in the model's order
  split
  · exact pres_bind Pres.ofLeaf fun _ => Pres.ofLeaf -- 读取
  · refine pres_bind Pres.ofLeaf fun _ => ?_ -- 写入
    split
    · refine pres_bind Pres.ofLeaf fun c => ?_
      split
      · exact pres_bind Pres.ofLeaf fun v' =>
          pres_bind (setCell_kw a (hmAppend_wf _ v' hwf)) fun _ => pres_pure _
      · exact pres_goPanic
    · exact pres_goPanic
  · refine pres_bind Pres.ofLeaf fun _ => ?_ -- 移除
    split
    · refine pres_bind Pres.ofLeaf fun c => ?_
      split
      · split
        · exact pres_bind (setCell_kw a (erase_wf _ hwf)) fun _ => pres_pure _
        · exact Pres.ofLeaf
      · exact pres_goPanic
    · exact pres_goPanic
  · exact pres_rtErr _ -- any other name

theorem lhs_hm_keeps (a : Addr) (kind : Nat) (key : String) (idx : Int) (v : Addr) (vals : List (String × Addr))
    (order : List String) (s s' : VM ν) (r : Model.Res Unit) (hc : s.heap[a]? = some (.hm vals order))
    (hwf : dictWF vals order) (h : reduceLHS (kind, a, key, idx) v s = (r, s')) : KW a s s' := by
  simp only [reduceLHS] at h
  split at h
  · rw [getCell_bind _ hc] at h
    cases h; exact fun x => x
  · split at h
    · rw [getCell_bind _ hc] at h
      exact (setCell_kw a (hmAppend_wf key v hwf)).run s r s' h
    · unfold setProperty at h
      rw [getCell_bind _ hc] at h
      cases h; exact fun x => x

end ZnVerif.Proofs.Bridges
