/-
Zones: a typing discipline on heap addresses used for the program-level closure of C07 (Properties/C07.lean,
`copies_independent_program_level`).

A zone `Z` splits the addresses into *tainted* ones (`Z.T` — the addresses the mutating side of a program may ever hold),
*writable* ones (`Z.W ⊆ Z.T` — the tainted addresses that may be overwritten) and the rest, whose cells are pinned to a
fixed heap `Z.fix`.  `ZInv Z h`: every non-writable cell of `h` is the pinned one, every cell at a tainted address is a
plain data cell all of whose links are tainted again, and every address not yet allocated is writable.

`Tight Z Q m`: started in a heap that satisfies the zone invariant, every run of `m` — whatever its outcome — changes
nothing but the heap and leaves every non-writable cell pinned; a successful run re-establishes the invariant and
answers a value satisfying `Q`.  The rules below are a small Hoare calculus for this judgment over the monad `M ν`
(same shape as `Pres` in HeapFrames.lean, plus a postcondition on the answered value).  At the end the shape judgment of
Proofs/MethodShape.lean is read for zones: a method whose sources and links are tainted respects the zone (`Method.tight`,
`builtinMethod_tight`).
-/
import ZnVerif.Proofs.MethodShape
set_option linter.unusedSectionVars false

namespace ZnVerif.Model

variable {ν : Type} [NumOps ν]

structure Zone (ν : Type) where
  /-- tainted addresses -/
  T : Addr → Prop
  /-- writable addresses -/
  W : Addr → Prop
  /-- the heap the non-writable cells are pinned to -/
  fix : Array (Cell ν)
  /-- writable addresses are tainted -/
  wt : ∀ i, W i → T i
  /-- a tainted address that is not writable holds 空 (the one kind `dup` shares) -/
  nul : ∀ i c, T i → ¬ W i → fix[i]? = some c → c = .null

/-- a plain data cell (not an object, method, type or exception) whose links are all tainted -/
def okCell (Z : Zone ν) (c : Cell ν) : Prop := c.isRefKind = false ∧ ∀ x ∈ c.children, Z.T x

structure ZInv (Z : Zone ν) (h : Array (Cell ν)) : Prop where
  keep : ∀ i, ¬ Z.W i → h[i]? = Z.fix[i]?
  ok : ∀ i c, Z.T i → h[i]? = some c → okCell Z c
  fresh : ∀ i, h.size ≤ i → Z.W i

structure Tight (Z : Zone ν) {α : Type} (Q : α → Prop) (m : M ν α) : Prop where
  run : ∀ s r s', ZInv Z s.heap → m s = (r, s') →
    SameBut s s' ∧ (∀ i, ¬ Z.W i → s'.heap[i]? = Z.fix[i]?) ∧ ∀ a, r = .ok a → ZInv Z s'.heap ∧ Q a

/-- `Tight` at one initial state -/
def TightAt (Z : Zone ν) {α : Type} (Q : α → Prop) (m : M ν α) (s : VM ν) : Prop :=
  ∀ r s', ZInv Z s.heap → m s = (r, s') →
    SameBut s s' ∧ (∀ i, ¬ Z.W i → s'.heap[i]? = Z.fix[i]?) ∧ ∀ a, r = .ok a → ZInv Z s'.heap ∧ Q a

theorem Tight.at {Z : Zone ν} {α : Type} {Q : α → Prop} {m : M ν α} (h : Tight Z Q m) (s : VM ν) : TightAt Z Q m s := h.run s

theorem TightAt.weaken {Z : Zone ν} {α : Type} {Q Q' : α → Prop} {m : M ν α} {s : VM ν} (h : TightAt Z Q m s)
    (hq : ∀ a, Q a → Q' a) : TightAt Z Q' m s := by
  intro r s' hi hm
  rcases h r s' hi hm with ⟨h1, h2, h3⟩
  exact ⟨h1, h2, fun a ha => ⟨(h3 a ha).1, hq a (h3 a ha).2⟩⟩

theorem tightAt_bind {Z : Zone ν} {α β : Type} {Q : α → Prop} {Q' : β → Prop} {m : M ν α} {f : α → M ν β} {s : VM ν}
    (hm : TightAt Z Q m s) (hf : ∀ a s1, SameBut s s1 → Q a → TightAt Z Q' (f a) s1) : TightAt Z Q' (m >>= f) s := by
  intro r s' hi h
  rcases Proofs.Calls.bind_inv h with ⟨a, s1, h1, h2⟩ | ⟨r1, h1, _, hne, _⟩
  · rcases hm _ s1 hi h1 with ⟨g1, _, g3⟩
    rcases hf a s1 g1 (g3 a rfl).2 r s' (g3 a rfl).1 h2 with ⟨k1, k2, k3⟩
    exact ⟨g1.trans k1, k2, k3⟩
  · rcases hm r1 s' hi h1 with ⟨g1, g2, _⟩
    exact ⟨g1, g2, fun b hb => absurd hb (hne b)⟩

section rules
variable {Z : Zone ν} {α β : Type}

theorem Tight.weaken {Q Q' : α → Prop} {m : M ν α} (h : Tight Z Q m) (hq : ∀ a, Q a → Q' a) : Tight Z Q' m :=
  ⟨fun s => (h.at s).weaken hq⟩

theorem tight_of_const {Q : α → Prop} {m : M ν α} (hm : ∀ s, (m s).2 = s) (hq : ∀ s a, ZInv Z s.heap → (m s).1 = .ok a → Q a) :
    Tight Z Q m := by
  constructor
  intro s r s' hi h
  have h1 := hm s
  have h2 := hq s
  rw [h] at h1 h2
  simp only at h1 h2
  subst h1
  exact ⟨SameBut.refl _, hi.keep, fun a ha => ⟨hi, h2 a hi ha⟩⟩

theorem tight_pure {Q : α → Prop} (a : α) (h : Q a) : Tight Z Q (pure a : M ν α) :=
  tight_of_const (fun _ => rfl) (fun s b _ hb => by
    simp only [pure] at hb; injection hb with hb; subst hb; exact h)

theorem tight_pure_any (a : α) : Tight Z (fun _ => True) (pure a : M ν α) := tight_pure a trivial

theorem tight_fail {Q : α → Prop} {m : M ν α} (hm : ∀ s, (m s).2 = s) (hf : ∀ s a, (m s).1 ≠ .ok a) : Tight Z Q m :=
  tight_of_const hm (fun s a _ h => absurd h (hf s a))

theorem tight_throwE {Q : α → Prop} (e : Err) : Tight Z Q (throwE e : M ν α) :=
  tight_fail (fun _ => rfl) (fun _ _ h => by simp [throwE] at h)
theorem tight_rtErr {Q : α → Prop} (c : Nat) : Tight Z Q (rtErr c : M ν α) := tight_throwE _
theorem tight_goPanic {Q : α → Prop} : Tight Z Q (goPanic : M ν α) :=
  tight_fail (fun _ => rfl) (fun _ _ h => by simp [goPanic] at h)
theorem tight_outOfFuel {Q : α → Prop} : Tight Z Q (outOfFuel : M ν α) :=
  tight_fail (fun _ => rfl) (fun _ _ h => by simp [outOfFuel] at h)
theorem tight_notModelled {Q : α → Prop} : Tight Z Q (notModelled : M ν α) :=
  tight_fail (fun _ => rfl) (fun _ _ h => by simp [notModelled] at h)

theorem tight_bind {Q : α → Prop} {Q' : β → Prop} {m : M ν α} {f : α → M ν β}
    (hm : Tight Z Q m) (hf : ∀ a, Q a → Tight Z Q' (f a)) : Tight Z Q' (m >>= f) :=
  ⟨fun s => tightAt_bind (hm.at s) fun a s1 _ hq => (hf a hq).at s1⟩

theorem tight_of_same {m : M ν α} (p : Pres Same m) : Tight Z (fun _ => True) m := by
  constructor
  intro s r s' hi h
  have := p.run s r s' h
  unfold Same at this
  subst this
  exact ⟨SameBut.refl _, hi.keep, fun a _ => ⟨hi, trivial⟩⟩

theorem tight_getCell_root (a : Addr) (ha : Z.T a) :
    Tight Z (fun c => okCell Z c ∧ (Z.W a ∨ c = .null)) (getCell a : M ν (Cell ν)) :=
  tight_of_const (fun s => by unfold getCell; cases s.heap[a]? <;> rfl) (fun s c hi h => by
    unfold getCell at h
    cases hc : s.heap[a]? with
    | none => rw [hc] at h; simp at h
    | some c0 =>
      rw [hc] at h; simp at h; subst h
      refine ⟨hi.ok a c0 ha hc, ?_⟩
      by_cases hw : Z.W a
      · exact .inl hw
      · exact .inr (Z.nul a c0 ha hw (hi.keep a hw ▸ hc)))

theorem tight_getCell (a : Addr) (ha : Z.T a) : Tight Z (okCell Z) (getCell a : M ν (Cell ν)) :=
  (tight_getCell_root a ha).weaken fun _ h => h.1

theorem ZInv.push {h : Array (Cell ν)} (hi : ZInv Z h) {c : Cell ν} (hc : okCell Z c) : ZInv Z (h.push c) := by
  refine ⟨fun i hw => ?_, fun i c' ht hc' => ?_, fun i hle => hi.fresh i (by simp at hle; omega)⟩
  · have hlt : i < h.size := by
      rcases Nat.lt_or_ge i h.size with hlt | hge
      · exact hlt
      · exact absurd (hi.fresh i hge) hw
    rw [(Ext.push h c).2 i hlt]
    exact hi.keep i hw
  · rw [Array.getElem?_push] at hc'
    split at hc'
    · injection hc' with e; subst e; exact hc
    · exact hi.ok i c' ht hc'

theorem ZInv.set {h : Array (Cell ν)} (hi : ZInv Z h) {a : Addr} {c : Cell ν} (ha : Z.W a) (hc : okCell Z c) :
    ZInv Z (h.set! a c) := by
  refine ⟨fun i hw => ?_, fun i c' ht hc' => ?_, fun i hle => hi.fresh i (by simpa using hle)⟩
  · have hne : a ≠ i := by rintro rfl; exact hw ha
    rw [get_set_ne h a i c hne]
    exact hi.keep i hw
  · by_cases hai : a = i
    · subst hai
      rw [get_set_self_inv h a c c' hc']; exact hc
    · rw [get_set_ne h a i c hai] at hc'
      exact hi.ok i c' ht hc'

theorem tight_alloc (c : Cell ν) (hc : okCell Z c) : Tight Z Z.T (alloc c : M ν Addr) := by
  constructor
  intro s r s' hi h
  simp only [alloc] at h
  injection h with h1 h2
  subst h2
  refine ⟨SameBut.push s c, (hi.push hc).keep, fun a ha => ⟨hi.push hc, ?_⟩⟩
  rw [← h1] at ha
  injection ha with ha
  subst ha
  exact Z.wt _ (hi.fresh _ (Nat.le_refl _))

theorem tight_setCell (a : Addr) (c : Cell ν) (ha : Z.W a) (hc : okCell Z c) : Tight Z (fun _ => True) (setCell a c : M ν Unit) := by
  constructor
  intro s r s' hi h
  simp only [setCell] at h
  split at h
  · injection h with h1 h2
    subst h2
    exact ⟨rfl, (hi.set ha hc).keep, fun _ _ => ⟨hi.set ha hc, trivial⟩⟩
  · injection h with h1 h2
    subst h2
    exact ⟨SameBut.refl _, hi.keep, fun a ha => by rw [← h1] at ha; cases ha⟩

theorem tight_mapM {Q : β → Prop} {f : α → M ν β} (l : List α) (hf : ∀ x ∈ l, Tight Z Q (f x)) :
    Tight Z (fun bs => ∀ b ∈ bs, Q b) (l.mapM f) := by
  induction l with
  | nil => rw [List.mapM_nil]; exact tight_pure _ (by simp)
  | cons x xs ih =>
    rw [List.mapM_cons]
    refine tight_bind (hf x (by simp)) (fun b hb => tight_bind (ih (fun y hy => hf y (by simp [hy]))) (fun bs hbs => ?_))
    exact tight_pure _ (by
      intro y hy
      rcases List.mem_cons.1 hy with rfl | hy
      · exact hb
      · exact hbs y hy)

theorem tight_ite {c : Prop} [Decidable c] {Q : α → Prop} {m1 m2 : M ν α} (h1 : Tight Z Q m1) (h2 : Tight Z Q m2) :
    Tight Z Q (if c then m1 else m2) := by
  split <;> assumption

end rules

section cells
variable {Z : Zone ν} {items : List Addr} {vals : List (String × Addr)} {order : List String} {x : Addr}

theorem okCell_arr : okCell Z (.arr items : Cell ν) ↔ ∀ x ∈ items, Z.T x := by
  simp [okCell, Cell.isRefKind, Cell.children]
theorem okCell_hm : okCell Z (.hm vals order : Cell ν) ↔ ∀ x ∈ vals.map Prod.snd, Z.T x := by
  simp [okCell, Cell.isRefKind, Cell.children]
theorem okCell_num (x : ν) : okCell Z (.num x : Cell ν) := ⟨rfl, fun _ h => nomatch h⟩
theorem okCell_str (x : String) : okCell Z (.str x : Cell ν) := ⟨rfl, fun _ h => nomatch h⟩
theorem okCell_bool (x : Bool) : okCell Z (.bool x : Cell ν) := ⟨rfl, fun _ h => nomatch h⟩
theorem okCell_null : okCell Z (.null : Cell ν) := ⟨rfl, fun _ h => nomatch h⟩
theorem okCell_set {k : Nat} (h : okCell Z (.arr items : Cell ν)) (hx : Z.T x) : okCell Z (.arr (items.set k x) : Cell ν) :=
  okCell_arr.2 fun y hy => (List.mem_or_eq_of_mem_set hy).elim (okCell_arr.1 h y) (· ▸ hx)
theorem okCell_hmAppend {k : String} (h : okCell Z (.hm vals order : Cell ν)) (hx : Z.T x) :
    okCell Z (.hm (hmAppend vals order k x).1 (hmAppend vals order k x).2 : Cell ν) :=
  okCell_hm.2 fun y hy => (snd_mem_hmAppend hy).elim (okCell_hm.1 h y) (· ▸ hx)
theorem tight_newNull : Tight Z Z.T (newNull : M ν Addr) := tight_alloc _ okCell_null
theorem tight_newBool (b : Bool) : Tight Z Z.T (newBool b : M ν Addr) := tight_alloc _ (okCell_bool _)
theorem tight_newNum (x : ν) : Tight Z Z.T (newNum x : M ν Addr) := tight_alloc _ (okCell_num _)
theorem tight_newStr (x : String) : Tight Z Z.T (newStr x : M ν Addr) := tight_alloc _ (okCell_str _)

end cells

theorem Tight.toTrue {Z : Zone ν} {α : Type} {Q : α → Prop} {m : M ν α} (h : Tight Z Q m) : Tight Z (fun _ => True) m :=
  h.weaken (fun _ _ => trivial)

theorem newHashMapCell_children (kvs : List (String × Addr)) :
    ∀ x ∈ (newHashMapCell kvs : Cell ν).children, x ∈ kvs.map Prod.snd :=
  List.foldlRecOn kvs (fun acc kv => hmAppend acc.1 acc.2 kv.1 kv.2) (b := ([], []))
    (motive := fun st => ∀ x ∈ st.1.map Prod.snd, x ∈ kvs.map Prod.snd) nofun fun _ hst _ hkv x hx =>
      (snd_mem_hmAppend hx).elim (hst x) fun e => e ▸ List.mem_map_of_mem (f := Prod.snd) hkv

theorem okCell_newHashMapCell {Z : Zone ν} (kvs : List (String × Addr)) (h : ∀ p ∈ kvs, Z.T p.2) :
    okCell Z (newHashMapCell kvs : Cell ν) := by
  refine ⟨?_, fun x hx => ?_⟩
  · simp only [newHashMapCell]; rfl
  · have := newHashMapCell_children (ν := ν) kvs x hx
    rcases List.mem_map.1 this with ⟨p, hp, rfl⟩
    exact h p hp

/-- `DuplicateValue` below addresses with a property `P` that is closed under links — every cell read at such an address
is a data cell whose links have `P` again, and is tainted if it is 空 (the one kind `dup` shares) — answers a tainted value -/
theorem tight_dup_of (Z : Zone ν) (P : Addr → Prop)
    (hP : ∀ a, P a → Tight Z (fun c => c.isRefKind = false ∧ (∀ x ∈ c.children, P x) ∧ (c = .null → Z.T a)) (getCell a : M ν (Cell ν))) :
    ∀ (n : Nat) (a : Addr), P a → Tight Z Z.T (dup n a : M ν Addr)
  | 0, _, _ => tight_outOfFuel
  | n+1, a, ha => by
    have ih := tight_dup_of Z P hP n
    unfold dup
    refine tight_bind (hP a ha) (fun c ⟨hnr, hch, hnull⟩ => ?_)
    cases c with
    | bool b => exact tight_newBool _
    | str x => exact tight_newStr _
    | num x => exact tight_newNum _
    | null => exact tight_pure _ (hnull rfl)
    | arr items =>
      exact tight_bind (tight_mapM _ (fun x hx => ih x (hch x hx))) (fun vs hvs => tight_alloc _ (okCell_arr.2 hvs))
    | hm vals order =>
      refine tight_bind (Q := fun kvs => ∀ p ∈ kvs, Z.T p.2) (tight_mapM order (fun k _ => ?_)) (fun kvs hkvs =>
        tight_alloc _ (okCell_newHashMapCell kvs hkvs))
      split
      · rename_i v hl
        exact tight_bind (ih v (hch v (snd_mem_of_lookup hl))) (fun v' hv' => tight_pure _ hv')
      · exact tight_goPanic
    | _ => exact absurd hnr (by simp [Cell.isRefKind])

theorem tight_dup (Z : Zone ν) (n : Nat) (a : Addr) (ha : Z.T a) : Tight Z Z.T (dup n a : M ν Addr) :=
  tight_dup_of Z Z.T (fun a ha => (tight_getCell a ha).weaken fun _ hc => ⟨hc.1, hc.2, fun _ => ha⟩) n a ha

/-- a source of `dup` among the pinned cells: below `a` (in `Z.fix`) no cell is writable, each is a data cell, and each
空 cell is tainted -/
def Src (Z : Zone ν) (a : Addr) : Prop :=
  ∀ i, Reach Z.fix a i → ¬ Z.W i ∧ ∃ c, Z.fix[i]? = some c ∧ c.isRefKind = false ∧ (c = .null → Z.T i)

theorem dup_src (Z : Zone ν) (n : Nat) (a : Addr) (hs : Src Z a) : Tight Z Z.T (dup n a : M ν Addr) :=
  tight_dup_of Z (Src Z) (fun a hs =>
    have ⟨hw, c, hc, hnr, hnull⟩ := hs a (.refl a)
    tight_of_const (fun s => by unfold getCell; cases s.heap[a]? <;> rfl) (fun s c' hi h => by
      unfold getCell at h
      rw [hi.keep a hw, hc] at h
      simp at h; subst h
      exact ⟨hnr, fun x hx i hr => hs i (.step hc hx hr), hnull⟩)) n a hs

/-- `value.ThrowException`: the run fails after allocating the exception value — nothing but the heap changes, the pinned
cells stay (a failed run owes no more) -/
theorem tight_throwException {Z : Zone ν} {α : Type} {Q : α → Prop} (msg : String) :
    Tight Z Q (throwException msg : M ν α) := by
  constructor
  intro s r s' hi h
  have hrun : (throwException msg : M ν α) s =
      (.err (.sigExc s.heap.size), { s with heap := s.heap.push (.exc msg) }) := rfl
  rw [hrun] at h
  injection h with h1 h2
  subst h2
  refine ⟨SameBut.push s _, fun i hw => ?_, fun a ha => by rw [← h1] at ha; cases ha⟩
  have hlt : i < s.heap.size := by
    rcases Nat.lt_or_ge i s.heap.size with hlt | hge
    · exact hlt
    · exact absurd (hi.fresh i hge) hw
  show (s.heap.push (.exc msg))[i]? = _
  rw [(Ext.push s.heap _).2 i hlt]
  exact hi.keep i hw


theorem tight_seq {Z : Zone ν} {α β : Type} {Q1 : α → Prop} {Q : β → Prop} {m1 : M ν α} {m2 : M ν β}
    (h1 : Tight Z Q1 m1) (h2 : Tight Z Q m2) : Tight Z Q (m1 >>= fun _ => m2) := tight_bind h1 fun _ _ => h2

theorem Prep.tight {n : Nat} {A : Addr → Prop} {β : Type} {m : M ν β} {out : β → Addr → Prop} (Z : Zone ν)
    (hP : Prep n A β m out) : (∀ x, A x → Z.T x) → Tight Z (fun b => ∀ y, out b y → Z.T y) m := by
  induction hP with
  | panic => exact fun _ => tight_goPanic
  | dup x hx => exact fun hA => (tight_dup Z n x (hA x hx)).weaken fun b hb y hy => hy ▸ hb
  | new d hk hl _ => exact fun _ => (tight_alloc d ⟨hk, by rw [hl]; nofun⟩).weaken fun b hb y hy => hy ▸ hb
  | cell v hv _ ih =>
    exact fun hA => tight_bind (tight_getCell v (hA v hv)) fun d hd => ih d fun x hx => hx.elim (hA x) (hd.2 x)
  | mapM l _ ih =>
    exact fun hA => (tight_mapM l fun x hx => ih x hx hA).weaken fun bs hbs y ⟨b, hb, hy⟩ => hbs b hb y hy

theorem Ans.tight {L : Addr → Prop} {m : M ν Addr} (Z : Zone ν) (h : Ans (ν := ν) L m) (hL : ∀ y, L y → Z.T y) :
    Tight Z (fun _ => True) m := by
  cases h with
  | same p => exact tight_of_same p
  | new d hd hch => exact (tight_alloc d ⟨hd, fun y hy => hL y (hch y hy)⟩).toTrue
  | exc msg => exact tight_throwException msg

/-- the receiver need only be writable if its cell is of a kind that methods write (a tainted address that is not
writable holds 空) -/
theorem Method.tight {n : Nat} {a : Addr} {c : Cell ν} {A L : Addr → Prop} {m : M ν Addr} (Z : Zone ν)
    (hM : Method n a c A L m) (ha : c.isMutable = true → Z.W a) (hA : ∀ x, A x → Z.T x) :
    (∀ y, L y → Z.T y) → Tight Z (fun _ => True) m := by
  induction hM with
  | read p _ ih => exact fun hL => tight_bind (tight_of_same p) fun x _ => ih x hL
  | pre hP _ ih => exact fun hL => tight_bind (hP.tight Z hA) fun b hb => ih b fun y hy => hy.elim (hL y) (hb y)
  | store c' hm hk hw hch h =>
    exact fun hL => tight_seq (tight_setCell a c' (ha hm) ⟨hk, fun y hy => hL y (hch y hy)⟩) (h.tight Z hL)
  | ans h => exact h.tight Z

/-- **every built-in method, on a tainted receiver with tainted arguments**: whatever its name, its arguments and its
outcome, it changes nothing but the heap, leaves the pinned cells alone, and — when it succeeds — every cell it wrote or
allocated is a data cell whose links are tainted (old links of the receiver, duplicates, or new cells).  (A tainted
receiver that is not writable holds 空, which has no method.) -/
theorem builtinMethod_tight (Z : Zone ν) (n : Nat) (a : Addr) (name : String) (vals : List Addr)
    (hta : Z.T a) (hv : ∀ v ∈ vals, Z.T v) : Tight Z (fun _ => True) (builtinMethod n a name vals : M ν Addr) := by
  obtain ⟨body, e, hb⟩ := builtinMethod_shape (ν := ν) n a name vals
  rw [e]
  exact tight_bind (tight_getCell_root a hta) fun c ⟨hc, hw⟩ =>
    (hb c).tight Z (fun hm => hw.resolve_right (by rintro rfl; cases hm)) hv hc.2

end ZnVerif.Model
