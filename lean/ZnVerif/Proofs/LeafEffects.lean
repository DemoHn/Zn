/-
What the operations outside the evaluator's mutual block do to the machine (Model/Interp.lean: heap access, identifiers,
parameter checks, `dup`, `display`, `compareXEQ`, properties and methods of built-in values), said once: nothing but the
heap changes; a cell is appended, or — only the receiver's, only a number, text, list, dictionary or object — overwritten
by a cell of the same sort; no loop signal is answered.  The frame, stack, scope and signal judgments of the other modules
take their facts about these operations from `Runs` (their `ofLeaf` lemmas).
-/
import ZnVerif.Proofs.Calls
set_option linter.unusedSectionVars false

namespace ZnVerif.Proofs.StackBal
open ZnVerif.Model

/- "is a loop signal", on errors and on outcomes: part of the vocabulary of Proofs/StackBal.lean, stated here because `Leaf`
already says that no operation answers one.  `LoopSignals.Err.isLoopSignal` (Proofs/LoopSignals.lean) is the same function as `isSig`
under the name the theorems of C02 state with; `NoSig.ofRes` / `NoSig.run` translate. -/

def isSig : Err → Bool
  | .sigBreak => true
  | .sigContinue => true
  | _ => false

def resIsSig {α} : Res α → Bool
  | .err e => isSig e
  | _ => false

end ZnVerif.Proofs.StackBal

namespace ZnVerif.Proofs.Leaf
open ZnVerif.Model ZnVerif.Proofs.Calls

variable {ν : Type} [NumOps ν]

/-- what an overwrite keeps: the constructor of the cell, and for an object its type -/
inductive CellSort where
  | num | str | bool | null | arr | hm | obj (cls : Addr) | fn | cls | exc
  deriving DecidableEq

def sortOf : Cell ν → CellSort
  | .num _ => .num
  | .str _ => .str
  | .bool _ => .bool
  | .null => .null
  | .arr _ => .arr
  | .hm _ _ => .hm
  | .obj c _ => .obj c
  | .fn _ => .fn
  | .cls .. => .cls
  | .exc _ => .exc

/-- the sorts built-in operations overwrite (`setCell` in `setProperty`, `builtinMethod`, `reduceLHS`) -/
def CellSort.mutable : CellSort → Bool
  | .num | .str | .arr | .hm | .obj _ => true
  | _ => false

/-- the sorts built-in operations allocate -/
def CellSort.data : CellSort → Bool
  | .num | .str | .bool | .null | .arr | .hm | .exc => true
  | _ => false

/-- `s'` is `s` after built-in operations that write no cell but the one at `w` -/
structure LeafStep (w : Option Addr) (s s' : VM ν) : Prop where
  frame : s' = { s with heap := s'.heap }
  size : s.heap.size ≤ s'.heap.size
  old : ∀ i c, s.heap[i]? = some c → ∃ c', s'.heap[i]? = some c' ∧ sortOf c' = sortOf c ∧
    (c' = c ∨ (w = some i ∧ (sortOf c).mutable = true))
  new : ∀ i c', s.heap.size ≤ i → s'.heap[i]? = some c' → (sortOf c').data = true

theorem LeafStep.refl (w : Option Addr) (s : VM ν) : LeafStep w s s :=
  ⟨rfl, Nat.le_refl _, fun _ c hc => ⟨c, hc, rfl, .inl rfl⟩, fun i _ hi hc => by
    have := (Array.getElem?_eq_some_iff.1 hc).1; omega⟩

theorem LeafStep.trans {w : Option Addr} {a b c : VM ν} (h1 : LeafStep w a b) (h2 : LeafStep w b c) :
    LeafStep w a c := by
  refine ⟨?_, Nat.le_trans h1.size h2.size, fun i x hx => ?_, fun i z hi hz => ?_⟩
  · rw [h2.frame, h1.frame]
  · obtain ⟨y, hy, sy, ky⟩ := h1.old i x hx
    obtain ⟨z, hz, sz, kz⟩ := h2.old i y hy
    refine ⟨z, hz, sz.trans sy, ?_⟩
    rcases ky with rfl | ky
    · exact kz
    · exact .inr ky
  · rcases Nat.lt_or_ge i b.heap.size with hlt | hge
    · -- allocated by the first step, possibly overwritten by the second: same sort
      obtain ⟨y, hy⟩ : ∃ y, b.heap[i]? = some y := ⟨_, Array.getElem?_eq_getElem hlt⟩
      obtain ⟨z', hz', sz, _⟩ := h2.old i y hy
      rw [hz'] at hz; cases hz
      rw [sz]; exact h1.new i y hi hy
    · exact h2.new i z hge hz

theorem LeafStep.mono {s s' : VM ν} (h : LeafStep none s s') (w : Option Addr) : LeafStep w s s' :=
  ⟨h.frame, h.size, fun i c hc => by
    obtain ⟨c', h1, h2, h3⟩ := h.old i c hc
    exact ⟨c', h1, h2, h3.imp_right fun k => nomatch k.1⟩, h.new⟩

theorem LeafStep.push (s : VM ν) {c : Cell ν} (hc : (sortOf c).data = true) :
    LeafStep none s { s with heap := s.heap.push c } := by
  refine ⟨rfl, by simp, fun i x hx => ⟨x, ?_, rfl, .inl rfl⟩, fun i z hi hz => ?_⟩
  · have := (Array.getElem?_eq_some_iff.1 hx).1
    simpa [Array.getElem?_push, Nat.ne_of_lt this] using hx
  · simp only [Array.getElem?_push] at hz
    split at hz
    · cases hz; exact hc
    · have := (Array.getElem?_eq_some_iff.1 hz).1; omega

theorem LeafStep.set (s : VM ν) {a : Addr} {old c : Cell ν} (ha : s.heap[a]? = some old)
    (hs : sortOf c = sortOf old) (hm : (sortOf old).mutable = true) :
    LeafStep (some a) s { s with heap := s.heap.set! a c } := by
  have hlt := (Array.getElem?_eq_some_iff.1 ha).1
  refine ⟨rfl, by simp, fun i x hx => ?_, fun i z hi hz => ?_⟩
  · by_cases hia : a = i
    · subst hia
      rw [ha] at hx; cases hx
      exact ⟨c, by simp [hlt], hs, .inr ⟨rfl, hm⟩⟩
    · exact ⟨x, by simpa [hia] using hx, rfl, .inl rfl⟩
  · have := (Array.getElem?_eq_some_iff.1 hz).1
    simp at this; omega

/-- the receiver of a mutator: its address and the sort its cell has (and keeps) -/
abbrev Recv := Option (Addr × CellSort)

def Recv.holds : Recv → VM ν → Prop
  | none, _ => True
  | some (a, κ), s => ∃ c, s.heap[a]? = some c ∧ sortOf c = κ

theorem Recv.holds_step {rc : Recv} {w : Option Addr} {s s' : VM ν} (h : LeafStep w s s') (hr : rc.holds s) :
    rc.holds s' := by
  match rc, hr with
  | none, _ => trivial
  | some (a, κ), ⟨c, hc, hk⟩ =>
    obtain ⟨c', h1, h2, _⟩ := h.old a c hc
    exact ⟨c', h1, h2.trans hk⟩

/-- started where the receiver's cell has its sort, every run of `m` is a `LeafStep` writing at most that cell, and
never answers a loop signal -/
structure Leaf (rc : Recv) {α} (m : M ν α) : Prop where
  step : ∀ s, rc.holds s → LeafStep (rc.map Prod.fst) s (m s).2
  nosig : ∀ s, StackBal.resIsSig (m s).1 = false

/- `Leaf rc m` is looked up by instance resolution: the operations below are instances, so a judgment derived from `Leaf`
needs one bridge and no list of lemmas to try. -/
attribute [class] Leaf

/-- the same without a condition on the start.  `Leaf` carries the premise "the receiver's cell has sort `κ`" that the
mutators need between reading the cell and writing it back (`Runs.enter` discharges it); the bridges of the other
judgments want no premise, so they take `Runs` -/
structure Runs (w : Option Addr) {α} (m : M ν α) : Prop where
  step : ∀ s, LeafStep w s (m s).2
  nosig : ∀ s, StackBal.resIsSig (m s).1 = false

section rules
variable {rc : Recv} {α β : Type}

theorem Leaf.runs {m : M ν α} (h : Leaf none m) (w : Option Addr) : Runs w m :=
  ⟨fun s => (h.step s trivial).mono w, h.nosig⟩

theorem Leaf.weaken {m : M ν α} (h : Leaf none m) : Leaf rc m :=
  ⟨fun s _ => (h.step s trivial).mono _, h.nosig⟩

theorem Leaf.ofConst {m : M ν α} (hs : ∀ s, (m s).2 = s) (hn : ∀ s, StackBal.resIsSig (m s).1 = false) : Leaf rc m :=
  ⟨fun s _ => by rw [hs]; exact LeafStep.refl _ s, hn⟩

instance Leaf.pure (a : α) : Leaf rc (pure a : M ν α) := .ofConst (fun _ => rfl) fun _ => rfl
instance Leaf.rtErr (c : Nat) : Leaf rc (rtErr c : M ν α) := .ofConst (fun _ => rfl) fun _ => rfl
instance Leaf.goPanic : Leaf rc (goPanic : M ν α) := .ofConst (fun _ => rfl) fun _ => rfl
instance Leaf.outOfFuel : Leaf rc (outOfFuel : M ν α) := .ofConst (fun _ => rfl) fun _ => rfl
instance Leaf.notModelled : Leaf rc (notModelled : M ν α) := .ofConst (fun _ => rfl) fun _ => rfl
instance Leaf.throwSem (c : Nat) : Leaf rc (throwE (.sem c) : M ν α) := .ofConst (fun _ => rfl) fun _ => rfl
instance Leaf.throwSigExc (a : Addr) : Leaf rc (throwE (.sigExc a) : M ν α) := .ofConst (fun _ => rfl) fun _ => rfl
instance Leaf.getVM : Leaf rc (getVM : M ν _) := .ofConst (fun _ => rfl) fun _ => rfl
instance Leaf.topFrame : Leaf rc (topFrame (ν := ν)) := .ofConst (fun _ => rfl) fun _ => rfl
instance Leaf.stackDepth : Leaf rc (stackDepth (ν := ν)) := .ofConst (fun _ => rfl) fun _ => rfl
instance Leaf.currentScope : Leaf rc (currentScope (ν := ν)) := .ofConst (fun _ => rfl) fun _ => rfl
instance Leaf.currentModule : Leaf rc (currentModule (ν := ν)) :=
  .ofConst (fun s => by unfold Model.currentModule; split <;> first | rfl | (split <;> rfl))
    fun s => by unfold Model.currentModule; split <;> first | rfl | (split <;> rfl)
instance Leaf.getCell (a : Addr) : Leaf rc (getCell (ν := ν) a) :=
  .ofConst (fun s => by unfold Model.getCell; split <;> rfl) fun s => by unfold Model.getCell; split <;> rfl

theorem Leaf.bind {m : M ν α} {f : α → M ν β} (hm : Leaf rc m) (hf : ∀ a, Leaf rc (f a)) : Leaf rc (m >>= f) := by
  refine ⟨fun s hr => ?_, fun s => ?_⟩ <;> rw [M_bind_def]
  · have h1 := hm.step s hr
    rcases h : m s with ⟨r, s'⟩
    rw [h] at h1
    cases r with
    | ok a => exact h1.trans ((hf a).step s' (Recv.holds_step h1 hr))
    | _ => exact h1
  · have h1 := hm.nosig s
    rcases h : m s with ⟨r, s'⟩
    rw [h] at h1
    cases r with
    | ok a => exact (hf a).nosig s'
    | _ => exact h1

theorem Leaf.alloc {c : Cell ν} (hc : (sortOf c).data = true) : Leaf rc (alloc c) :=
  Leaf.weaken ⟨fun s _ => LeafStep.push s hc, fun _ => rfl⟩
instance Leaf.newNull : Leaf rc (newNull (ν := ν)) := .alloc rfl
instance Leaf.newBool (b : Bool) : Leaf rc (newBool (ν := ν) b) := .alloc rfl
instance Leaf.newNum (x : ν) : Leaf rc (newNum x) := .alloc rfl
instance Leaf.newStr (x : String) : Leaf rc (newStr (ν := ν) x) := .alloc rfl

theorem Leaf.setCell {a : Addr} {κ : CellSort} {c : Cell ν} (hs : sortOf c = κ) (hm : κ.mutable = true) :
    Leaf (some (a, κ)) (setCell a c) := by
  refine ⟨fun s ⟨old, ho, hk⟩ => ?_, fun s => by unfold Model.setCell; split <;> rfl⟩
  have hlt := (Array.getElem?_eq_some_iff.1 ho).1
  unfold Model.setCell
  rw [if_pos hlt]
  exact LeafStep.set s ho (hs.trans hk.symm) (hk ▸ hm)

theorem Leaf.closed : Closed (fun {α} (m : M ν α) => Leaf rc m) := ⟨Leaf.pure, Leaf.bind⟩

theorem Leaf.mapM {f : α → M ν β} (h : ∀ a, Leaf rc (f a)) (l : List α) : Leaf rc (l.mapM f) := Leaf.closed.mapM fun a _ => h a
theorem Leaf.forM {f : α → M ν PUnit} (h : ∀ a, Leaf rc (f a)) (l : List α) : Leaf rc (l.forM f) := Leaf.closed.forM fun a _ => h a
theorem Leaf.allM {f : α → M ν Bool} (h : ∀ a, Leaf rc (f a)) (l : List α) : Leaf rc (allM f l) := Leaf.closed.allM fun a _ => h a

theorem Leaf.ite {c : Prop} [Decidable c] {a b : M ν α} (ha : Leaf rc a) (hb : Leaf rc b) :
    Leaf rc (if c then a else b) := Leaf.closed.ite ha hb

/-- a mutator enters through the receiver's cell: whatever sort it finds there is the sort the rest may rely on -/
theorem Runs.enter {a : Addr} {f : Cell ν → M ν α} (h : ∀ c, Leaf (some (a, sortOf c)) (f c)) :
    Runs (some a) (getCell a >>= f) := by
  refine ⟨fun s => ?_, fun s => ?_⟩ <;> rw [M_bind_def] <;> unfold Model.getCell
  · cases hc : s.heap[a]? with
    | none => exact LeafStep.refl _ s
    | some c => exact (h c).step s ⟨c, hc, rfl⟩
  · cases hc : s.heap[a]? with
    | none => rfl
    | some c => exact (h c).nosig s

end rules

/-- One step on a `Leaf` goal: split a `bind` (the commonest shape, tried first), close an operation by instance
resolution (hypotheses `∀ x, Leaf rc (f x)` in the context count), split an `if` by `Leaf.ite` (`split` would run `simp`
over the whole goal), the write to the receiver's cell, an allocation, or one of the list loops. -/
macro "leaf_prim" : tactic => `(tactic| with_reducible (first
  | apply Leaf.bind | infer_instance | apply Leaf.ite | exact Leaf.setCell rfl rfl
  | exact Leaf.alloc rfl
  | apply Leaf.mapM | apply Leaf.forM | apply Leaf.allM))

/-- Repeats `leaf_prim`, `intro` and `split` (on the `match`es of the operation) until nothing applies.  A goal it leaves
open is an operation that is not a `Leaf` instance, or a `setCell` / `alloc` whose cell has not the receiver's sort /
a data sort — the goal shows which. -/
macro "leaf_tac" : tactic => `(tactic| repeat' (first | intro _ | leaf_prim | split | dsimp only))

section ops
variable {rc : Recv}

instance Leaf.getThis : Leaf rc (getThis (ν := ν)) := by unfold Model.getThis; leaf_tac
instance Leaf.getReturnValue : Leaf rc (getReturnValue (ν := ν)) := by unfold Model.getReturnValue; leaf_tac
instance Leaf.matchIDType (lit : String) : Leaf rc (matchIDType (ν := ν) lit) := by unfold Model.matchIDType; leaf_tac
instance Leaf.matchIDName (lit : String) : Leaf rc (matchIDName (ν := ν) lit) := by
  unfold Model.matchIDName; exact .bind (.matchIDType lit) fun r => by leaf_tac
instance Leaf.matchIDNameOpt (i : Option Ident) : Leaf rc (matchIDNameOpt (ν := ν) i) := by
  unfold Model.matchIDNameOpt; split
  · exact .matchIDName _
  · exact .goPanic
instance Leaf.findElement (name : String) : Leaf rc (findElement (ν := ν) name) := by unfold Model.findElement; leaf_tac
instance Leaf.findElementWithModule (name : String) : Leaf rc (findElementWithModule (ν := ν) name) := by
  unfold Model.findElementWithModule; leaf_tac
instance Leaf.validateOne (a : Addr) (ty : String) : Leaf rc (validateOne (ν := ν) a ty) := by
  unfold Model.validateOne; leaf_tac
instance Leaf.validateExact (vals : List Addr) (tys : List String) : Leaf rc (validateExact (ν := ν) vals tys) := by
  unfold Model.validateExact; split
  · exact .rtErr _
  · exact .forM (fun _ => .validateOne _ _) _
instance Leaf.validateAll (vals : List Addr) (ty : String) : Leaf rc (validateAll (ν := ν) vals ty) :=
  .forM (fun _ => .validateOne _ _) _
instance Leaf.loopSignalToException (e : Err) : Leaf rc (loopSignalToException (ν := ν) e) := by
  unfold Model.loopSignalToException; leaf_tac

theorem Leaf.dup : ∀ (n : Nat) (a : Addr), Leaf rc (dup (ν := ν) n a)
  | 0, _ => .outOfFuel
  | n+1, a => by
    unfold Model.dup
    have ih : ∀ a, Leaf rc (Model.dup (ν := ν) n a) := Leaf.dup n
    leaf_tac

theorem Leaf.display : ∀ (n : Nat) (a : Addr), Leaf rc (display (ν := ν) n a)
  | 0, _ => .outOfFuel
  | n+1, a => by
    unfold Model.display
    have ih : ∀ a, Leaf rc (Model.display (ν := ν) n a) := Leaf.display n
    leaf_tac

theorem Leaf.compareXEQ : ∀ (n : Nat) (a b : Addr), Leaf rc (compareXEQ (ν := ν) n a b)
  | 0, _, _ => .outOfFuel
  | n+1, a, b => by
    unfold Model.compareXEQ
    have ih : ∀ a b, Leaf rc (Model.compareXEQ (ν := ν) n a b) := Leaf.compareXEQ n
    leaf_tac

attribute [instance] Leaf.dup Leaf.display Leaf.compareXEQ

instance Leaf.getProperty (n : Nat) (a : Addr) (name : String) : Leaf rc (getProperty (ν := ν) n a name) := by
  unfold Model.getProperty; leaf_tac

theorem Leaf.goContains (n : Nat) (x : Addr) : ∀ l : List Addr, Leaf rc (builtinMethod.goContains (ν := ν) n x l)
  | [] => by unfold builtinMethod.goContains; exact .pure _
  | i :: rest => by
    unfold builtinMethod.goContains
    have ih := Leaf.goContains n x rest
    leaf_tac

theorem Leaf.goFind (n : Nat) (x : Addr) :
    ∀ (l : List Addr) (k : Int), Leaf rc (builtinMethod.goFind (ν := ν) n x l k)
  | [], _ => by unfold builtinMethod.goFind; exact .pure _
  | i :: rest, k => by
    unfold builtinMethod.goFind
    have ih := Leaf.goFind n x rest
    leaf_tac

theorem Leaf.goGet : ∀ (l : List Addr) (cur : Addr), Leaf rc (builtinMethod.goGet (ν := ν) cur l)
  | [], _ => by unfold builtinMethod.goGet; exact .pure _
  | k :: rest, cur => by
    unfold builtinMethod.goGet
    have ih : ∀ c, Leaf rc (builtinMethod.goGet (ν := ν) c rest) := Leaf.goGet rest
    leaf_tac

theorem Leaf.goArith (op : ν → ν → ν) (cz : Bool) :
    ∀ (l : List Addr) (acc : ν), Leaf rc (builtinMethod.goArith op cz acc l)
  | [], _ => by unfold builtinMethod.goArith; exact .pure _
  | v :: rest, acc => by
    unfold builtinMethod.goArith
    have ih := Leaf.goArith op cz rest
    leaf_tac

attribute [instance] Leaf.goContains Leaf.goFind Leaf.goGet Leaf.goArith

instance Leaf.reduceRHS (n : Nat) (iv : Nat × Addr × String × Int) : Leaf rc (reduceRHS (ν := ν) n iv) := by
  obtain ⟨k, r, nm, i⟩ := iv
  simp only [Model.reduceRHS]
  leaf_tac

end ops

theorem runs_setProperty (a : Addr) (name : String) (v : Addr) : Runs (some a) (setProperty (ν := ν) a name v) := by
  unfold Model.setProperty
  refine Runs.enter fun c => ?_
  cases c <;> dsimp only [sortOf] <;> leaf_tac

/- `dsimp only [sortOf]` first: with the receiver's sort left as `sortOf (Cell.str s)`, `Leaf.setCell rfl rfl` makes the
unifier compare the two cells before it unfolds `sortOf`, and it unfolds `bytesText …` down to byte arrays on the way. -/
theorem runs_builtinMethod (n : Nat) (a : Addr) (name : String) (vals : List Addr) :
    Runs (some a) (builtinMethod (ν := ν) n a name vals) := by
  unfold Model.builtinMethod
  refine Runs.enter fun c => ?_
  cases c with
  | arr items => dsimp only [sortOf]; leaf_tac
  | hm vs order => dsimp only [sortOf]; leaf_tac
  | num x => dsimp only [sortOf]; leaf_tac
  | str s => dsimp only [sortOf]; leaf_tac
  | _ => exact .rtErr _

theorem runs_reduceLHS (iv : Nat × Addr × String × Int) (v : Addr) :
    Runs (some iv.2.1) (reduceLHS (ν := ν) iv v) := by
  obtain ⟨k, r, nm, i⟩ := iv
  simp only [Model.reduceLHS]
  split
  · exact Runs.enter fun c => by cases c <;> dsimp only [sortOf] <;> leaf_tac
  · split
    · exact Runs.enter fun c => by cases c <;> dsimp only [sortOf] <;> leaf_tac
    · exact runs_setProperty r nm v

end ZnVerif.Proofs.Leaf
