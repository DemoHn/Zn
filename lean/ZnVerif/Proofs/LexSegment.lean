/-
Lemmas for the C04 lexer theorems: `parseVarQuote` over a quoted name, the keyword table as a function on texts
(`matchKeyword_eq_kwAt`), the identifier loop over name characters up to what stops a name (`ident_run_ends`; `ident_run` on a text
of name characters only), and the token stream of a text of keyword glyphs and name characters against the spec scanner `segAux`.
At the end, for C03 and C18: `parseOperators` on `+ - * /` (`parseOperators_arith`), the type and start of a comment token, `//` and
`/*` at a token start.
-/
import ZnVerif.Proofs.Literal
import ZnVerif.Spec.Segment
import ZnVerif.Spec.RenderChars

namespace ZnVerif.Model
open ZnVerif.Generated ZnVerif.Generated.Tokens
open ZnVerif.Proofs.RenderLex
open ZnVerif.Spec.RenderChars (nameStop)

theorem varQuote_run (s : Nat) (w r : List Nat)
    (hw : ∀ c ∈ w, isIdentifierChar c = true ∨ c ∈ IdRange.idContinue) :
    ∀ (l : Lexer) (lit : List Nat), l.rest = w ++ cBackTick :: r →
      iterate (parseVarQuoteStep s) (parseVarQuoteStep_consumes s) l lit =
        (.ok { type := cTypeIdentifier, startIdx := s, endIdx := l.cursor + w.length + 2, literal := lit ++ w },
          l.setCursor (l.cursor + w.length + 2)) := by
  induction w with
  | nil =>
    intro l lit h
    have hp := (Lexer.rest_cons (by simpa using h : l.rest = cBackTick :: r)).1
    have hstep : parseVarQuoteStep s l lit =
        (.done (.ok { type := cTypeIdentifier, startIdx := s, endIdx := l.adv.cursor + 1, literal := lit }), l.adv.adv) := by
      unfold parseVarQuoteStep
      have hcur : l.adv.cur = cBackTick := hp
      have h1 : isIdentifierChar cBackTick = false := by decide +kernel
      have h2 : IdRange.idContinue.contains cBackTick = false := by decide
      simp only [hcur, h1, h2, Bool.or_self, Bool.false_eq_true, ↓reduceIte, beq_self_eq_true]
    rw [iterate_done hstep]
    simp [Lexer.setCursor, Lexer.adv]
  | cons c w ih =>
    intro l lit h
    have h' : l.rest = c :: (w ++ cBackTick :: r) := by simpa using h
    obtain ⟨hp, hr⟩ := Lexer.rest_cons h'
    have hc := hw c List.mem_cons_self
    have hstep : parseVarQuoteStep s l lit = (.cont (lit ++ [c]), l.adv) := by
      unfold parseVarQuoteStep
      have hcur : l.adv.cur = c := hp
      have : (isIdentifierChar c || IdRange.idContinue.contains c) = true := by
        rcases hc with h | h
        · simp [h]
        · have : IdRange.idContinue.contains c = true := List.contains_iff_mem.mpr h
          rw [this]; simp
      simp only [hcur, this, ↓reduceIte]
    rw [iterate_cont hstep, ih (fun x hx => hw x (List.mem_cons_of_mem _ hx)) l.adv (lit ++ [c]) hr]
    simp [Lexer.setCursor, Lexer.adv]
    omega

open Spec.Segment (kwAt)
open Spec.Keywords (denoted)

theorem lookahead_eq_prefix (l : Lexer) (gs : List Nat) (hnz : ∀ g ∈ gs, g ≠ 0) :
    ∀ k, lookaheadMatches l k gs = gs.isPrefixOf (l.src.toList.drop (l.cursor + k)) := by
  induction gs with
  | nil => intro k; simp [lookaheadMatches]
  | cons g gs ih =>
    intro k
    unfold lookaheadMatches
    rw [ih (fun x hx => hnz x (List.mem_cons_of_mem _ hx)) (k + 1)]
    cases hd : l.src.toList.drop (l.cursor + k) with
    | nil =>
      have : l.src.toList.length ≤ l.cursor + k := List.drop_eq_nil_iff.mp hd
      have h0 : l.getChar (l.cursor + k) = 0 := Lexer.getChar_of_ge (by simpa using this)
      have hg : g ≠ 0 := hnz g List.mem_cons_self
      have : (0 == g) = false := by simp; exact fun e => hg e.symm
      simp [h0, this, List.isPrefixOf]
    | cons a rest' =>
      obtain ⟨h1, h2⟩ := Lexer.drop_cons hd
      have ha := Lexer.getChar_of_getElem? h1
      have h3 : l.src.toList.drop (l.cursor + (k + 1)) = rest' := by
        rw [← Nat.add_assoc]; exact h2
      rw [ha, h3]
      simp only [List.isPrefixOf]
      congr 1
      rw [Bool.eq_iff_iff, beq_iff_eq, beq_iff_eq]; exact eq_comm

/-- `parseKeyword`'s table lookup on lists -/
def tableMatch (tbl : List (Nat × List (List Nat × Nat × Nat))) (c : Nat) (rest : List Nat) : Option (Nat × Nat) :=
  match tbl.lookup c with
  | none => none
  | some alts =>
    match alts.find? (fun a => a.1.isPrefixOf rest) with
    | none => none
    | some (_, wordLen, ty) => if ty != 0 then some (wordLen, ty) else none

/-- table facts (re-checked against the regenerated table on every run): glyphs are not NUL, token types are
non-zero, the recorded word length is the number of glyphs, first glyphs are distinct -/
theorem keywordTable_wf :
    (∀ e ∈ keywordTable, e.1 ≠ 0 ∧ ∀ a ∈ e.2,
      (∀ g ∈ a.1, g ≠ 0) ∧ a.2.2 ≠ 0 ∧ a.2.1 = a.1.length + 1) ∧
    (keywordTable.map (·.1)).Nodup := by decide +kernel

theorem find?_congr' {α : Type} {p q : α → Bool} {xs : List α} (h : ∀ a ∈ xs, p a = q a) :
    xs.find? p = xs.find? q := by
  induction xs with
  | nil => rfl
  | cons x xs ih =>
    simp only [List.find?_cons, h x List.mem_cons_self]
    rw [ih (fun a ha => h a (List.mem_cons_of_mem _ ha))]

theorem matchKeyword_eq_tableMatch (l : Lexer) : matchKeyword l = tableMatch keywordTable l.cur l.rest := by
  unfold matchKeyword tableMatch
  cases hl : keywordTable.lookup l.cur with
  | none => rfl
  | some alts =>
    have hmem := lookup_some_mem hl
    have hwf := (keywordTable_wf.1 _ hmem).2
    have : alts.find? (fun a => lookaheadMatches l 1 a.1) = alts.find? (fun a => a.1.isPrefixOf l.rest) := by
      apply find?_congr'
      intro a ha
      rw [lookahead_eq_prefix l a.1 (hwf a ha).1 1]
      rfl
    show (match List.find? (fun a => lookaheadMatches l 1 a.1) alts with
      | none => none
      | some (_, wordLen, ty) => if (ty != 0) = true then some (wordLen, ty) else none) = _
    rw [this]

/-- one row of the table, as denoted keywords, against the text `c :: rest` -/
theorem rowFind_eq (c : Nat) (rest : List Nat) (k : Nat) (alts : List (List Nat × Nat × Nat)) :
    (alts.map (fun a => (k :: a.1, a.2.2))).find? (fun k' => k'.1.isPrefixOf (c :: rest)) =
      if k = c then (alts.find? (fun a => a.1.isPrefixOf rest)).map (fun a => (k :: a.1, a.2.2)) else none := by
  induction alts with
  | nil => simp
  | cons a alts ih =>
    simp only [List.map_cons, List.find?_cons, List.isPrefixOf]
    by_cases h : k = c
    · subst h
      simp only [beq_self_eq_true, Bool.true_and, ↓reduceIte] at ih ⊢
      cases a.1.isPrefixOf rest
      · simpa using ih
      · simp
    · have hb : (k == c) = false := by simpa using h
      simp only [hb, Bool.false_and, h, ↓reduceIte] at ih ⊢
      exact ih

theorem tableMatch_eq_kwAt (tbl : List (Nat × List (List Nat × Nat × Nat)))
    (hwf : ∀ e ∈ tbl, ∀ a ∈ e.2, a.2.2 ≠ 0 ∧ a.2.1 = a.1.length + 1)
    (hnd : (tbl.map (·.1)).Nodup) (c : Nat) (rest : List Nat) :
    tableMatch tbl c rest = kwAt (denoted tbl) (c :: rest) := by
  unfold kwAt denoted
  rw [List.find?_flatMap]
  induction tbl with
  | nil => rfl
  | cons e tbl ih =>
    obtain ⟨k, alts⟩ := e
    have hnd' : (tbl.map (·.1)).Nodup := (List.nodup_cons.mp hnd).2
    have hk : k ∉ tbl.map (·.1) := (List.nodup_cons.mp hnd).1
    have ih' := ih (fun e he => hwf e (List.mem_cons_of_mem _ he)) hnd'
    rw [List.findSome?_cons, rowFind_eq]
    unfold tableMatch
    rw [List.lookup_cons]
    by_cases hkc : k = c
    · subst hkc
      simp only [beq_self_eq_true, ↓reduceIte]
      cases hf : alts.find? (fun a => a.1.isPrefixOf rest) with
      | none =>
        simp only [Option.map_none]
        -- no later row has this first glyph
        have hnone : tbl.findSome? (fun x => List.find? (fun (k' : List Nat × Nat) => k'.1.isPrefixOf (k :: rest))
            (List.map (fun a => (x.1 :: a.1, a.2.2)) x.2)) = none := by
          rw [List.findSome?_eq_none_iff]
          intro x hx
          rw [rowFind_eq]
          have : x.1 ≠ k := fun e => hk (by rw [← e]; exact List.mem_map_of_mem hx)
          simp [this]
        rw [hnone]; rfl
      | some a =>
        obtain ⟨gs, wl, ty⟩ := a
        have ha := List.mem_of_find?_eq_some hf
        obtain ⟨h1, h2⟩ := hwf (k, alts) List.mem_cons_self (gs, wl, ty) ha
        dsimp only at h1 h2
        have hty : (ty != 0) = true := by simpa using h1
        simp only [Option.map_some, hty, ↓reduceIte, List.length_cons, h2]
    · have hb : (c == k) = false := by simpa using fun e : c = k => hkc e.symm
      simp only [hb, hkc, ↓reduceIte]
      have := ih'
      unfold tableMatch at this
      exact this

theorem matchKeyword_eq_denoted (l : Lexer) :
    matchKeyword l = kwAt (denoted keywordTable) (l.cur :: l.rest) := by
  rw [matchKeyword_eq_tableMatch]
  exact tableMatch_eq_kwAt keywordTable
    (fun e he a ha => ⟨((keywordTable_wf.1 e he).2 a ha).2.1, ((keywordTable_wf.1 e he).2 a ha).2.2⟩)
    keywordTable_wf.2 _ _

/-- the documented keywords as denoted by the table -/
abbrev D : List (List Nat × Nat) := denoted keywordTable

theorem find?_prefix_free {α : Type} (f : α → List Nat) (xs : List α)
    (hpf : ∀ a ∈ xs, ∀ b ∈ xs, f a <+: f b → a = b) {a : α} (ha : a ∈ xs) {s : List Nat} (hp : f a <+: s) :
    xs.find? (fun x => (f x).isPrefixOf s) = some a := by
  cases hf : xs.find? (fun x => (f x).isPrefixOf s) with
  | none => exact absurd (List.isPrefixOf_iff_prefix.mpr hp) (by simpa using List.find?_eq_none.mp hf a ha)
  | some x =>
    have hx := List.mem_of_find?_eq_some hf
    have hpx : f x <+: s := List.isPrefixOf_iff_prefix.mp (List.find?_some (p := fun x => (f x).isPrefixOf s) hf)
    rcases List.prefix_or_prefix_of_prefix hpx hp with h | h
    · rw [hpf x hx a ha h]
    · rw [hpf a ha x hx h]

theorem kwAt_congr (k1 k2 : List (List Nat × Nat)) (hsame : ∀ x, x ∈ k1 ↔ x ∈ k2)
    (hpf : ∀ a ∈ k2, ∀ b ∈ k2, a.1 <+: b.1 → a = b) (s : List Nat) : kwAt k1 s = kwAt k2 s := by
  unfold kwAt
  cases h1 : k1.find? (fun k => k.1.isPrefixOf s) with
  | none =>
    rw [List.find?_eq_none.mpr fun x hx => List.find?_eq_none.mp h1 x ((hsame x).mpr hx)]
  | some a =>
    rw [find?_prefix_free (·.1) k2 hpf ((hsame a).mp (List.mem_of_find?_eq_some h1))
      (List.isPrefixOf_iff_prefix.mp (List.find?_some (p := fun (k : List Nat × Nat) => k.1.isPrefixOf s) h1))]

theorem D_same : ∀ x, x ∈ D ↔ x ∈ Spec.Keywords.documented := by
  have h : (D.all (Spec.Keywords.documented.contains ·) && Spec.Keywords.documented.all (D.contains ·)) = true := by decide +kernel
  simp only [Bool.and_eq_true, List.all_eq_true, List.contains_iff_mem] at h
  exact fun x => ⟨h.1 x, h.2 x⟩

theorem documented_prefix_free : ∀ a ∈ Spec.Keywords.documented, ∀ b ∈ Spec.Keywords.documented, a.1 <+: b.1 → a = b := by
  decide +kernel

theorem kwAt_D (s : List Nat) : kwAt D s = kwAt Spec.Keywords.documented s :=
  kwAt_congr D Spec.Keywords.documented D_same documented_prefix_free s

theorem matchKeyword_eq_kwAt (l : Lexer) :
    matchKeyword l = kwAt Spec.Keywords.documented (l.cur :: l.rest) :=
  (matchKeyword_eq_denoted l).trans (kwAt_D _)

open Spec.Segment (segAux flush Piece)

/-- the alphabet of the segmentation theorem: every identifier character (so all keyword glyphs, CJK/Latin/Greek/
kana/hangul letters, digits, `_ $ ^`) except 注 and the operator marks `& @ # = < > + - * / | %`.  The other
conjuncts hold for every identifier character of the identifier table (`IdRange.idRange`, which `isIdentifierChar`
searches); they are stated so that no fact about that table is needed. -/
def SegChar (c : Nat) : Prop :=
  isIdentifierChar c = true ∧ isWhiteSpace c = false ∧ c ≠ cCharZHU ∧ markOperators.contains c = false ∧
  markPunctuations.contains c = false ∧ leftQuotes.contains c = false ∧ c ≠ cBackTick ∧
  identTerminatorsHead.contains c = false

instance (c : Nat) : Decidable (SegChar c) := by unfold SegChar; infer_instance

theorem SegChar.solid {c : Nat} (h : SegChar c) : Solid c ∧ c ≠ 0 ∧ c ≠ cSlashOp := by
  obtain ⟨-, h2, -, h4, -, -, -, h8⟩ := h
  refine ⟨⟨h2, ?_, ?_⟩, ?_, ?_⟩
  · intro e; rw [e] at h8; revert h8; decide
  · intro e; rw [e] at h8; revert h8; decide
  · intro e; rw [e] at h8; revert h8; decide
  · intro e; rw [e] at h4; revert h4; decide

theorem SegChar.scanner {c : Nat} (h : SegChar c) : scannerOf c = .word := by
  obtain ⟨-, h0, hsl⟩ := h.solid
  obtain ⟨-, -, h3, h4, h5, h6, h7, -⟩ := h
  have a1 : (c == runeEOF) = false := by simpa [runeEOF] using h0
  have a2 : (c == cCharZHU || c == cSlashOp) = false := by simp [h3, hsl]
  have a3 : (c == cBackTick) = false := by simpa using h7
  simp only [scannerOf, a1, a2, h6, a3, h5, h4, Bool.false_eq_true, ↓reduceIte]

theorem dispatch_seg (l : Lexer) (h : SegChar l.cur) : dispatchToken l = keywordOrIdentifier l := by
  rw [dispatchToken_eq, h.scanner]

theorem dispatch_quoted (w r : List Nat) (hw : ∀ c ∈ w, isIdentifierChar c = true ∨ c ∈ IdRange.idContinue)
    (l : Lexer) (hc : l.cur = cBackTick) (hr : l.rest = w ++ cBackTick :: r) :
    dispatchToken l =
      (.ok { type := cTypeIdentifier, literal := w, startIdx := l.cursor, endIdx := l.cursor + w.length + 2 },
        l.setCursor (l.cursor + w.length + 2)) := by
  rw [dispatchToken_eq, hc]
  show parseVarQuote l = _
  unfold parseVarQuote
  rw [varQuote_run _ w r hw l [] hr]
  rfl

theorem nextToken_seg (l : Lexer) (hb : l.beginLex = false) (h : SegChar l.cur) :
    nextToken l = keywordOrIdentifier l := by
  rw [nextToken_later l hb h.solid.1, dispatch_seg l h]

theorem keywordOrIdentifier_eq (l : Lexer) :
    keywordOrIdentifier l =
      match kwAt Spec.Keywords.documented (l.cur :: l.rest) with
      | some (len, ty) => (.ok { type := ty, startIdx := l.cursor, endIdx := l.cursor + len }, l.setCursor (l.cursor + len))
      | none => parseIdentifier l := by
  unfold keywordOrIdentifier parseKeyword
  rw [matchKeyword_eq_kwAt]
  cases kwAt Spec.Keywords.documented (l.cur :: l.rest) with
  | none => rfl
  | some p => obtain ⟨len, ty⟩ := p; rfl

/-- length of the run of characters at whose positions no keyword matches -/
def nameLen (kws : List (List Nat × Nat)) : List Nat → Nat
  | [] => 0
  | c :: r => if (kwAt kws (c :: r)).isSome then 0 else nameLen kws r + 1

theorem nameLen_le (kws : List (List Nat × Nat)) (r : List Nat) : nameLen kws r ≤ r.length := by
  induction r with
  | nil => simp [nameLen]
  | cons c r ih => unfold nameLen; split <;> simp <;> omega

theorem nameLen_spec (kws : List (List Nat × Nat)) : ∀ (r : List Nat),
    (∀ i, i < nameLen kws r → kwAt kws (r.drop i) = none) ∧
    (r.drop (nameLen kws r) = [] ∨ (kwAt kws (r.drop (nameLen kws r))).isSome = true)
  | [] => ⟨fun _ h => (nomatch h), .inl rfl⟩
  | c :: r => by
    unfold nameLen
    by_cases hk : (kwAt kws (c :: r)).isSome = true
    · rw [if_pos hk]; exact ⟨fun _ h => (nomatch h), .inr hk⟩
    · rw [if_neg hk]
      obtain ⟨h1, h2⟩ := nameLen_spec kws r
      refine ⟨fun i hi => ?_, h2⟩
      cases i with
      | zero => simpa using hk
      | succ i => exact h1 i (Nat.lt_of_succ_lt_succ hi)

theorem matchKeyword_eof (l : Lexer) (h : l.cur = 0) : matchKeyword l = none := by
  unfold matchKeyword
  rw [h]
  have : keywordTable.lookup 0 = none := by decide
  rw [this]

theorem _root_.ZnVerif.Proofs.RenderLex.matchKeyword_here {l : Lexer} {c : Nat} {r : List Nat} (h : here l = c :: r) :
    matchKeyword l = kwAt Spec.Keywords.documented (c :: r) := by
  obtain ⟨h1, h2⟩ := here_cons h
  rw [matchKeyword_eq_kwAt, h1, h2]

theorem _root_.ZnVerif.Proofs.RenderLex.matchKeyword_rest {l : Lexer} {rest : List Nat} (h : here l = rest) :
    (matchKeyword l).isSome = (kwAt Spec.Keywords.documented rest).isSome := by
  cases rest with
  | nil =>
    rw [matchKeyword_eof l (here_nil h).1]
    rfl
  | cons c r => rw [matchKeyword_here h]

/-- **the loop of `parseIdentifier`** over name characters `cs` inside which no keyword starts, followed by a text that stops a
name (`nameStop`): one identifier, and the loop stops right after `cs` -/
theorem _root_.ZnVerif.Proofs.RenderLex.ident_run_ends (s0 : Nat) (rest : List Nat) (hstop : nameStop rest = true) :
    ∀ (cs : List Nat), (∀ c ∈ cs, SegChar c) → (∀ i, i < cs.length → kwAt Spec.Keywords.documented (cs.drop i ++ rest) = none) →
    ∀ (l : Lexer) (lit : List Nat), l.rest = cs ++ rest → lit.getLast? ≠ some cSlashOp →
    iterate (parseIdentifierStep s0) (parseIdentifierStep_consumes s0) l lit =
      (.ok { type := cTypeIdentifier, startIdx := s0, endIdx := l.cursor + 1 + cs.length, literal := lit ++ cs },
        l.setCursor (l.cursor + 1 + cs.length)) := by
  intro cs
  induction cs with
  | nil =>
    intro _ _ l lit h hl
    have hh : here l.adv = rest := by rw [here_adv]; simpa using h
    have hcur : l.adv.cur = rest.headD 0 := here_headD hh
    have hpeek : l.adv.peek = rest.getD 1 0 := here_peek hh
    have hstep : parseIdentifierStep s0 l lit = (.done (identEnd s0 l.adv lit), l.adv) := by
      unfold parseIdentifierStep
      dsimp only
      rw [matchKeyword_rest hh, hcur, hpeek]
      unfold nameStop at hstop
      cases a1 : isWhiteSpace (rest.headD 0)
      · cases a2 : (kwAt Spec.Keywords.documented rest).isSome
        · cases a3 : (rest.headD 0 == cSlashOp && [cSlashOp, cMultiplyOp, cEqualOp].contains (rest.getD 1 0))
          · have a4 : terminateMarkers.contains (rest.headD 0) = true := by
              rw [a1, a2, a3] at hstop
              simpa using hstop
            simp only [a4, Bool.false_eq_true, ↓reduceIte]
          · simp only [Bool.false_eq_true, ↓reduceIte]
        · simp only [Bool.false_eq_true, ↓reduceIte]
      · simp only [↓reduceIte]
    rw [iterate_done hstep]
    unfold identEnd
    have : (lit.getLast? == some cSlashOp) = false := by simpa using hl
    simp [this, Lexer.setCursor, Lexer.adv]
  | cons c cs ih =>
    intro hcs hkf l lit h hl
    have h' : l.rest = c :: (cs ++ rest) := by simpa using h
    obtain ⟨hp, hrest⟩ := Lexer.rest_cons h'
    have hcur : l.adv.cur = c := hp
    have hc := hcs c List.mem_cons_self
    obtain ⟨_, _, hsl⟩ := hc.solid
    obtain ⟨b1, b2, -, -, b5, -, -, b8⟩ := hc
    have hkw : matchKeyword l.adv = none := by
      have hh : here l.adv = c :: (cs ++ rest) := by rw [here_adv]; exact h'
      rw [matchKeyword_here hh]
      have := hkf 0 (by simp)
      simpa using this
    have hstep : parseIdentifierStep s0 l lit = (.cont (lit ++ [c]), l.adv) := by
      unfold parseIdentifierStep
      have a3 : (c == cSlashOp) = false := by simpa using hsl
      have a4 : terminateMarkers.contains c = false := by
        unfold terminateMarkers
        rw [Bool.eq_false_iff]
        intro hc'
        rw [List.contains_iff_mem, List.mem_append] at hc'
        rcases hc' with hc' | hc'
        · rw [← List.contains_iff_mem, b8] at hc'; exact absurd hc' (by decide)
        · rw [← List.contains_iff_mem, b5] at hc'; exact absurd hc' (by decide)
      simp only [hcur, b2, hkw, a3, a4, b1, Option.isSome_none, Bool.false_eq_true, ↓reduceIte, Bool.false_and,
        Bool.true_or]
    have hkf' : ∀ i, i < cs.length → kwAt Spec.Keywords.documented (cs.drop i ++ rest) = none := by
      intro i hi
      have := hkf (i + 1) (by simp; omega)
      simpa using this
    rw [iterate_cont hstep, ih (fun x hx => hcs x (List.mem_cons_of_mem _ hx)) hkf' l.adv (lit ++ [c]) hrest
      (by simp; exact hsl)]
    simp [Lexer.setCursor, Lexer.adv]
    omega

theorem ident_run (s0 : Nat) (r : List Nat) (hr : ∀ c ∈ r, SegChar c) (l : Lexer) (lit : List Nat)
    (h : l.rest = r) (hl : lit.getLast? ≠ some cSlashOp) :
    iterate (parseIdentifierStep s0) (parseIdentifierStep_consumes s0) l lit =
      (.ok { type := cTypeIdentifier, startIdx := s0, endIdx := l.cursor + 1 + nameLen Spec.Keywords.documented r,
             literal := lit ++ r.take (nameLen Spec.Keywords.documented r) }, l.setCursor (l.cursor + 1 + nameLen Spec.Keywords.documented r)) := by
  obtain ⟨h1, h2⟩ := nameLen_spec Spec.Keywords.documented r
  have hlen : (r.take (nameLen Spec.Keywords.documented r)).length = nameLen Spec.Keywords.documented r :=
    List.length_take_of_le (nameLen_le _ r)
  have := ident_run_ends s0 (r.drop (nameLen Spec.Keywords.documented r))
    (by unfold nameStop; rcases h2 with e | e <;> rw [e] <;> simp <;> decide)
    (r.take (nameLen Spec.Keywords.documented r)) (fun c hc => hr c (List.mem_of_mem_take hc))
    (fun i hi => by
      rw [hlen] at hi
      rw [← List.drop_append_of_le_length (by rw [hlen]; exact Nat.le_of_lt hi), List.take_append_drop]
      exact h1 i hi)
    l lit (by rw [List.take_append_drop]; exact h) hl
  rw [hlen] at this
  exact this

theorem segAux_zero_cons (kws : List (List Nat × Nat)) (pos : Nat) (pend : List Nat) (c : Nat) (r : List Nat) :
    segAux kws 0 pos pend (c :: r) =
      match kwAt kws (c :: r) with
      | some (len, ty) => flush pos pend ++ [.kw ty pos (pos + len)] ++ segAux kws (len - 1) (pos + 1) [] r
      | none => segAux kws 0 (pos + 1) (pend ++ [c]) r := by
  rw [segAux]
  cases kwAt kws (c :: r) with
  | none => rfl
  | some p => rfl

theorem segAux_succ_cons (kws : List (List Nat × Nat)) (k pos : Nat) (pend : List Nat) (c : Nat) (r : List Nat) :
    segAux kws (k + 1) pos pend (c :: r) = segAux kws k (pos + 1) pend r := by
  rw [segAux]

theorem segAux_nil (kws : List (List Nat × Nat)) (k pos : Nat) (pend : List Nat) :
    segAux kws k pos pend [] = flush pos pend := by
  rw [segAux]

theorem segAux_name (kws : List (List Nat × Nat)) : ∀ (r : List Nat) (pos : Nat) (pend : List Nat), pend ≠ [] →
    segAux kws 0 pos pend r =
      Piece.name (pos - pend.length) (pos + nameLen kws r) (pend ++ r.take (nameLen kws r)) ::
        segAux kws 0 (pos + nameLen kws r) [] (r.drop (nameLen kws r)) := by
  intro r
  induction r with
  | nil =>
    intro pos pend hp
    have : pend.isEmpty = false := by cases pend <;> simp_all
    simp [segAux_nil, flush, nameLen, this]
  | cons c r ih =>
    intro pos pend hp
    have hpe : pend.isEmpty = false := by cases pend <;> simp_all
    unfold nameLen
    cases hk : kwAt kws (c :: r) with
    | some p =>
      obtain ⟨len, ty⟩ := p
      simp only [Option.isSome_some, ↓reduceIte, Nat.add_zero, List.take_zero, List.append_nil, List.drop_zero]
      rw [segAux_zero_cons, segAux_zero_cons, hk]
      simp [flush, hpe]
    | none =>
      simp only [Option.isSome_none, Bool.false_eq_true, ↓reduceIte]
      rw [segAux_zero_cons, hk]
      dsimp only
      rw [ih (pos + 1) (pend ++ [c]) (by simp)]
      have e1 : pos + 1 - (pend ++ [c]).length = pos - pend.length := by simp
      have e2 : pos + 1 + nameLen kws r = pos + (nameLen kws r + 1) := by omega
      rw [e1, e2]
      simp

theorem segAux_skip (kws : List (List Nat × Nat)) : ∀ (k : Nat) (r : List Nat) (pos : Nat), k ≤ r.length →
    segAux kws k pos [] r = segAux kws 0 (pos + k) [] (r.drop k) := by
  intro k
  induction k with
  | zero => intro r pos _; simp
  | succ k ih =>
    intro r pos hk
    cases r with
    | nil => simp at hk
    | cons c r =>
      rw [segAux_succ_cons, ih r (pos + 1) (by simp at hk; omega)]
      simp only [List.drop_succ_cons]
      have : pos + 1 + k = pos + (k + 1) := by omega
      rw [this]

theorem kwAt_some {kws : List (List Nat × Nat)} {s : List Nat} {len ty : Nat} (h : kwAt kws s = some (len, ty)) :
    ∃ k ∈ kws, k.1 <+: s ∧ len = k.1.length ∧ ty = k.2 := by
  unfold kwAt at h
  cases hf : kws.find? (fun k => k.1.isPrefixOf s) with
  | none => rw [hf] at h; cases h
  | some k =>
    rw [hf] at h
    cases h
    exact ⟨k, List.mem_of_find?_eq_some hf, List.isPrefixOf_iff_prefix.mp
      (List.find?_some (p := fun (k : List Nat × Nat) => k.1.isPrefixOf s) hf), rfl, rfl⟩

theorem kwAt_len (kws : List (List Nat × Nat)) (hne : ∀ k ∈ kws, k.1 ≠ []) (s : List Nat) (len ty : Nat)
    (h : kwAt kws s = some (len, ty)) : 1 ≤ len ∧ len ≤ s.length := by
  obtain ⟨k, hm, hp, rfl, -⟩ := kwAt_some h
  exact ⟨List.length_pos_iff.mpr (hne k hm), hp.length_le⟩

theorem documented_spellings_nonempty : ∀ k ∈ Spec.Keywords.documented, k.1 ≠ [] := by decide

/-- the lexer between two tokens of a one-line text -/
def segState (s : List Nat) (i : Nat) : Lexer := { startState s with cursor := i }

theorem segState_rest (s : List Nat) (i : Nat) : (segState s i).rest = s.drop (i + 1) := by
  simp [Lexer.rest, segState, startState]

theorem segState_cur_rest (s : List Nat) (i : Nat) (h : i < s.length) :
    (segState s i).cur :: (segState s i).rest = s.drop i := by
  rw [segState_rest]
  have : (segState s i).cur = s[i] := by
    simp [Lexer.cur, Lexer.getChar, segState, startState, h]
  rw [this]
  exact (List.drop_eq_getElem_cons h).symm

def tokOf : Piece → Token
  | .kw ty a b => { type := ty, startIdx := a, endIdx := b }
  | .name a b cs => { type := cTypeIdentifier, startIdx := a, endIdx := b, literal := cs }

def eofTok (n : Nat) : Token := { type := cTypeEOF, startIdx := n, endIdx := n }

theorem parseEOF_ok (l : Lexer) (st : Nat) (h1 : lastLineStart l = some st) (h2 : st ≤ l.cursor)
    (h3 : l.cursor ≤ l.src.size) : ∃ l2, parseEOF l = (.ok (eofTok l.cursor), l2) := by
  unfold parseEOF sliceLastLine
  rw [h1]
  have : (decide (st > l.cursor) || decide (l.cursor > l.src.size)) = false := by simp; omega
  simp only [this, Bool.false_eq_true, ↓reduceIte]
  exact ⟨_, rfl⟩

theorem parseEOF_segState (s : List Nat) (i : Nat) (hi : i ≤ s.length) :
    (parseEOF (segState s i)).1 = .ok (eofTok i) := by
  have hl : lastLineStart (segState s i) = some 0 := by
    unfold lastLineStart
    have h1 : 0 < (segState s i).lines.size := by simp [segState, startState]
    simp only [h1, ↓reduceDIte]
    have h2 : ((segState s i).indentType == cIndentSpace) = false := by
      show ((0 : Nat) == cIndentSpace) = false; decide
    have h3 : ((segState s i).indentType == cIndentTab) = false := by
      show ((0 : Nat) == cIndentTab) = false; decide
    simp only [h2, h3, Bool.false_eq_true, ↓reduceIte]
    simp [segState, startState]
  obtain ⟨l2, e⟩ := parseEOF_ok (segState s i) 0 hl (Nat.zero_le _) (by simpa [segState, startState] using hi)
  rw [e]
  rfl

theorem lexAll_succ (fuel : Nat) (l : Lexer) (acc : List Token) :
    lexAll (fuel + 1) l acc =
      match nextToken l with
      | (.ok tk, l') =>
        if tk.type == cTypeEOF then ((tk :: acc).reverse, some (.ok ()), l')
        else lexAll fuel l' (tk :: acc)
      | (.err e, l') => (acc.reverse, some (.err e), l')
      | (.panic, l') => (acc.reverse, some .panic, l') := by
  rw [lexAll]
  rcases nextToken l with ⟨r, l'⟩
  cases r <;> rfl

theorem documented_types_ne_eof : ∀ k ∈ Spec.Keywords.documented, k.2 ≠ cTypeEOF := by decide

theorem kwAt_type (s : List Nat) (len ty : Nat) (h : kwAt Spec.Keywords.documented s = some (len, ty)) : ty ≠ cTypeEOF := by
  obtain ⟨k, hm, -, -, rfl⟩ := kwAt_some h
  exact documented_types_ne_eof k hm

theorem lexAll_seg (s : List Nat) (hs : ∀ c ∈ s, SegChar c) :
    ∀ (n i : Nat) (acc : List Token) (fuel : Nat), s.length - i = n → i ≤ s.length → n + 1 ≤ fuel →
      (lexAll fuel (segState s i) acc).1 =
        acc.reverse ++ (segAux Spec.Keywords.documented 0 i [] (s.drop i)).map tokOf ++ [eofTok s.length] ∧
      (lexAll fuel (segState s i) acc).2.1 = some (.ok ()) := by
  intro n
  induction n using Nat.strongRecOn with
  | _ n ih =>
  intro i acc fuel hn hi hf
  obtain ⟨fuel, rfl⟩ : ∃ f, fuel = f + 1 := ⟨fuel - 1, by omega⟩
  rw [lexAll_succ]
  -- at position `i` lexer and `segAux` ask the same question, `kwAt documented (s.drop i)`: a keyword there is cut out by both
  -- (`segAux` then skips its other glyphs, `segAux_skip`), otherwise both take the name up to where the next keyword starts
  -- (`ident_run` / `segAux_name`, both through `nameLen`)
  by_cases hend : i = s.length
  · subst hend
    rw [nextToken_eof _ rfl (by simp [segState, startState])]
    have hp := parseEOF_segState s s.length (Nat.le_refl _)
    generalize hq : parseEOF (segState s s.length) = q at hp
    obtain ⟨q1, q2⟩ := q
    dsimp only at hp
    subst hp
    simp [eofTok, segAux_nil, flush]
  · have hcr := segState_cur_rest s i (by omega)
    obtain ⟨c, r, hdrop⟩ : ∃ c r, s.drop i = c :: r := ⟨_, _, hcr.symm⟩
    rw [hdrop] at hcr
    obtain ⟨hcc, hrr⟩ := List.cons.inj hcr
    have hsub : ∀ x ∈ c :: r, SegChar x := fun x hx => hs x (List.mem_of_mem_drop (hdrop ▸ hx))
    have hd : ∀ k, (c :: r).drop k = s.drop (i + k) := fun k => by rw [← hdrop, List.drop_drop]
    have hc := hsub c List.mem_cons_self
    have hrlen : r.length + 1 = s.length - i := by
      have := congrArg List.length hdrop
      simp at this; omega
    rw [nextToken_seg _ rfl (hcc ▸ hc), keywordOrIdentifier_eq, hdrop, segAux_zero_cons, hcc, hrr]
    cases hk : kwAt Spec.Keywords.documented (c :: r) with
    | some p =>
      obtain ⟨len, ty⟩ := p
      obtain ⟨hl1, hl2⟩ := kwAt_len Spec.Keywords.documented documented_spellings_nonempty _ _ _ hk
      have hty : (ty == cTypeEOF) = false := by simpa using kwAt_type _ _ _ hk
      dsimp only
      simp only [hty, Bool.false_eq_true, ↓reduceIte]
      simp only [List.length_cons] at hl2
      obtain ⟨h1, h2⟩ := ih (s.length - (i + len)) (by omega) (i + len)
        ({ type := ty, startIdx := (segState s i).cursor, endIdx := (segState s i).cursor + len } :: acc) fuel rfl
        (by omega) (by omega)
      refine ⟨?_, h2⟩
      obtain ⟨m, rfl⟩ : ∃ m, len = m + 1 := ⟨len - 1, by omega⟩
      show (lexAll fuel (segState s (i + (m + 1))) _).1 = _
      rw [h1, Nat.add_sub_cancel, segAux_skip Spec.Keywords.documented m r (i + 1) (by omega), ← hd (m + 1),
        show i + 1 + m = i + (m + 1) by omega]
      simp [flush, tokOf, segState, startState]
    | none =>
      dsimp only
      unfold parseIdentifier
      have hid : isIdentifierChar (segState s i).cur = true := hcc ▸ hc.1
      simp only [hid, Bool.not_true, Bool.false_eq_true, ↓reduceIte]
      have hsl : [(segState s i).cur].getLast? ≠ some cSlashOp := by
        simp; rw [hcc]; exact hc.solid.2.2
      rw [ident_run (segState s i).cursor r (fun x hx => hsub x (List.mem_cons_of_mem _ hx)) (segState s i)
        [(segState s i).cur] hrr hsl]
      have hidne : (cTypeIdentifier == cTypeEOF) = false := by decide
      simp only [hidne, Bool.false_eq_true, ↓reduceIte]
      have hnl := nameLen_le Spec.Keywords.documented r
      obtain ⟨h1, h2⟩ := ih (s.length - (i + 1 + nameLen Spec.Keywords.documented r)) (by omega) (i + 1 + nameLen Spec.Keywords.documented r)
        ({ type := cTypeIdentifier, startIdx := (segState s i).cursor,
           endIdx := (segState s i).cursor + 1 + nameLen Spec.Keywords.documented r,
           literal := [(segState s i).cur] ++ r.take (nameLen Spec.Keywords.documented r) } :: acc) fuel rfl (by omega) (by omega)
      refine ⟨?_, h2⟩
      show (lexAll fuel (segState s (i + 1 + nameLen Spec.Keywords.documented r)) _).1 = _
      rw [h1, segAux_name Spec.Keywords.documented r (i + 1) ([] ++ [c]) (by simp), Nat.add_assoc i 1, ← hd, Nat.add_comm 1, hcc]
      simp [tokOf, segState, startState]
      omega

theorem lexAll_first (c : Nat) (r : List Nat) (hc : SegChar c) (fuel : Nat) (acc : List Token) :
    lexAll (fuel + 1) (mkLexer (c :: r)) acc = lexAll (fuel + 1) (segState (c :: r) 0) acc := by
  rw [lexAll_succ, lexAll_succ]
  have h1 := nextToken_first c r hc.solid.2.1 hc.solid.1
  have hcur : (segState (c :: r) 0).cur = c := startState_cur c r
  have h2 := nextToken_later (segState (c :: r) 0) rfl (by rw [hcur]; exact hc.solid.1)
  rw [h1, h2]
  rfl

theorem lexAll_empty (fuel : Nat) :
    (lexAll (fuel + 1) (mkLexer []) []).1 = [eofTok 0] ∧ (lexAll (fuel + 1) (mkLexer []) []).2.1 = some (.ok ()) := by
  rw [lexAll_succ]
  have h : nextToken (mkLexer []) = (.ok (eofTok 0), { mkLexer [] with beginLex := false }) := by
    unfold nextToken preNextToken
    have hb : (mkLexer []).beginLex = true := rfl
    simp only [hb, ↓reduceIte]
    have hp : parseBeginLex { mkLexer [] with beginLex := false } = (.ok (), { mkLexer [] with beginLex := false }) := by
      unfold parseBeginLex
      simp [Lexer.getChar, mkLexer, runeEOF]
    rw [hp]
    dsimp only
    have hcur : ({ mkLexer [] with beginLex := false } : Lexer).cur = 0 := by
      simp [Lexer.cur, Lexer.getChar, mkLexer, runeEOF]
    rw [skipBlank_solid _ (by rw [hcur]; exact ⟨by decide, by decide, by decide⟩)]
    dsimp only
    rw [dispatchToken_eq, hcur]
    show (if _ then _ else parseEOF _) = _
    unfold parseEOF sliceLastLine lastLineStart
    simp [mkLexer, eofTok]
  rw [h]
  simp [eofTok]

def arithOps : List Nat := [cPlusOp, cMinusOp, cMultiplyOp, cSlashOp]

def arithTokenType (c : Nat) : Nat :=
  if c == cPlusOp then cTypePlus else if c == cMinusOp then cTypeMinus
  else if c == cMultiplyOp then cTypeMultiply else cTypeDivision

/-- white space, punctuation or a quote character -/
def isDelimiter (c : Nat) : Bool := isWhiteSpace c || markPunctuations.contains c || markQuotes.contains c

theorem parseOperators_arith (l : Lexer) (hc : l.cur ∈ arithOps) :
    parseOperators l =
      if l.cur == cSlashOp && l.peek == cEqualOp then
        (.ok (some { type := cTypeNEMark, startIdx := l.cursor, endIdx := l.cursor + 2 }), l.adv.adv)
      else if isDelimiter l.peek then
        (.ok (some { type := arithTokenType l.cur, startIdx := l.cursor, endIdx := l.cursor + 1 }), l.adv)
      else (.ok none, l) := by
  unfold parseOperators isDelimiter arithTokenType
  simp only [arithOps, List.mem_cons, List.not_mem_nil, or_false] at hc
  rcases hc with h | h | h | h <;> rw [h] <;>
    simp [cPlusOp, cMinusOp, cMultiplyOp, cSlashOp, cRefOp, cAnnotationOp, cHashOp, cEqualOp, cLessThanOp,
      cGreaterThanOp, cIntDivOp, cRemainderOp]

theorem parseCommentLoop_type (s cty : Nat) (l : Lexer) (q : Nat) :
    (parseCommentLoop s cty l q).1.type = cTypeComment ∧ (parseCommentLoop s cty l q).1.startIdx = s := by
  unfold parseCommentLoop
  refine iterate_inv (step := parseCommentStep s cty) (I := fun _ _ => True)
    (Q := fun t _ => t.type = cTypeComment ∧ t.startIdx = s) ?_ ?_ l q trivial
  · intros; trivial
  · intro l1 q1 t l2 _ hstep
    cases parseCommentStep_cases hstep <;> exact ⟨rfl, rfl⟩

theorem dispatch_slash_comment (l : Lexer) (hc : l.cur = cSlashOp) (hp : l.peek = cSlashOp ∨ l.peek = cMultiplyOp) :
    ∃ tk, (dispatchToken l).1 = .ok tk ∧ tk.type = cTypeComment ∧ tk.startIdx = l.cursor := by
  rw [dispatchToken_eq, hc]
  show ∃ tk, (match parseComment l with
    | (some tk, l2) => (LexRes.ok tk, l2)
    | (none, l2) => nextTokenTail (l2.setCursor l.cursor)).1 = _ ∧ _
  unfold parseComment
  have a3 : (l.cur == cCharZHU) = false := by rw [hc]; decide
  have a4 : (l.cur == cSlashOp) = true := by rw [hc]; decide
  simp only [a3, a4, Bool.false_eq_true, ↓reduceIte]
  rcases hp with hp | hp
  · have : (l.peek == cSlashOp) = true := by rw [hp]; decide
    simp only [this, ↓reduceIte]
    exact ⟨_, rfl, parseCommentLoop_type _ _ _ _⟩
  · have h1 : (l.peek == cSlashOp) = false := by rw [hp]; decide
    have h2 : (l.peek == cMultiplyOp) = true := by rw [hp]; decide
    simp only [h1, h2, Bool.false_eq_true, ↓reduceIte]
    exact ⟨_, rfl, parseCommentLoop_type _ _ _ _⟩

end ZnVerif.Model
