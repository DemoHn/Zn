/-
C02 refinement, the calculus: `SimS V T B s σ m m'` relates a model computation `m` from `s` with a spec
computation `m'` from `σ` when both states may change.  Outcomes (`SOut`):
  model `.ok a`  ↔ spec `.ok v`   with `V s' σ' a v`   (normal completion)
  model `.ok a`  ↔ spec `.ret v`  with `T s' σ' a v`   (输出 executed: the model has only set the frame's
                                                         return slot and goes on, the spec propagates `.ret`;
                                                         `a` is what the model answers meanwhile)
  model signal   ↔ spec `.brk` / `.cont` with `B s' σ'`
  model `.err (.rt c)` ↔ spec `.raise (.fault (specCode c))`,  `.err (.sem c)` ↔ `.fatal c`.
No claim is made when the spec says `unspecified`, or when either side runs out of fuel (model and
spec spend fuel at different rates: the spec's `runStmts` takes a unit per block, the model's display
call three units).
-/
import ZnVerif.Proofs.ExprRefine
import ZnVerif.Proofs.ExprMono
import ZnVerif.Proofs.StmtNodes

set_option linter.unusedSectionVars false

namespace ZnVerif.Proofs
open ZnVerif.Model ZnVerif.Spec StmtNodes EvalArms

variable {ν : Type} [NumOps ν]

inductive SOut {α α' : Type} (V : VM ν → SState ν → α → α' → Prop) (T : VM ν → SState ν → α → SVal ν → Prop)
    (B : VM ν → SState ν → Prop) (s : VM ν) (σ : SState ν) : Res α → R ν α' → Prop
  | ok {a v} : V s σ a v → SOut V T B s σ (.ok a) (.ok v)
  | ret {a v} : T s σ a v → SOut V T B s σ (.ok a) (.ret v)
  | brk : B s σ → SOut V T B s σ (.err .sigBreak) .brk
  | cont : B s σ → SOut V T B s σ (.err .sigContinue) .cont
  | rt (c : Nat) : SOut V T B s σ (.err (.rt c)) (.raise (.fault (specCode c)))
  | sem (c : Nat) : SOut V T B s σ (.err (.sem c)) (.fatal c)

def NoT {α : Type} : VM ν → SState ν → α → SVal ν → Prop := fun _ _ _ _ => False
def NoB : VM ν → SState ν → Prop := fun _ _ => False

def SimS {α α' : Type} (V : VM ν → SState ν → α → α' → Prop) (T : VM ν → SState ν → α → SVal ν → Prop)
    (B : VM ν → SState ν → Prop) (s : VM ν) (σ : SState ν) (m : M ν α) (m' : SM ν α') : Prop :=
  (m' σ).1 = .unspecified ∨ (m' σ).1 = .fuel ∨ (m s).1 = .fuel ∨ SOut V T B (m s).2 (m' σ).2 (m s).1 (m' σ).1

section rules
variable {α α' β β' : Type}
  {V : VM ν → SState ν → α → α' → Prop} {T : VM ν → SState ν → α → SVal ν → Prop} {B : VM ν → SState ν → Prop}
  {V2 : VM ν → SState ν → β → β' → Prop} {T2 : VM ν → SState ν → β → SVal ν → Prop} {B2 : VM ν → SState ν → Prop}
  {s : VM ν} {σ : SState ν}

theorem simS_intro {m : M ν α} {m' : SM ν α'} {r s' r' σ'} (h1 : m s = (r, s')) (h2 : m' σ = (r', σ'))
    (h : r' = .unspecified ∨ r' = .fuel ∨ r = .fuel ∨ SOut V T B s' σ' r r') : SimS V T B s σ m m' := by
  unfold SimS; rw [h1, h2]; exact h

theorem simS_elim {m : M ν α} {m' : SM ν α'} (h : SimS V T B s σ m m') :
    ∃ r s' r' σ', m s = (r, s') ∧ m' σ = (r', σ') ∧
      (r' = .unspecified ∨ r' = .fuel ∨ r = .fuel ∨ SOut V T B s' σ' r r') :=
  ⟨_, _, _, _, rfl, rfl, h⟩

/-- sequencing.  `hT`: once the spec has returned (`T`), the rest of the model computation must come to a
normal end keeping the returned state (`T2`) -/
theorem simS_bind {m : M ν α} {m' : SM ν α'} {f : α → M ν β} {f' : α' → SM ν β'}
    (h1 : SimS V T B s σ m m')
    (h2 : ∀ s1 σ1 a v, V s1 σ1 a v → SimS V2 T2 B2 s1 σ1 (f a) (f' v))
    (hT : ∀ s1 σ1 a v, T s1 σ1 a v → ∃ b s2, f a s1 = (.ok b, s2) ∧ T2 s2 σ1 b v)
    (hB : ∀ s1 σ1, B s1 σ1 → B2 s1 σ1) :
    SimS V2 T2 B2 s σ (m >>= f) (m' >>= f') := by
  obtain ⟨r, s1, r', σ1, hm, hm', h⟩ := simS_elim h1
  unfold SimS
  rw [Calls.M_bind_def, SM.bind_def, hm, hm']
  rcases h with rfl | rfl | rfl | h
  · exact .inl rfl
  · exact .inr (.inl rfl)
  · exact .inr (.inr (.inl rfl))
  · cases h with
    | ok hv => exact h2 _ _ _ _ hv
    | ret ht =>
      rename_i a v
      obtain ⟨b, s2, hf, ht2⟩ := hT _ _ a v ht
      simp only [hf]; exact .inr (.inr (.inr (.ret ht2)))
    | brk hb => exact .inr (.inr (.inr (.brk (hB _ _ hb))))
    | cont hb => exact .inr (.inr (.inr (.cont (hB _ _ hb))))
    | rt c => exact .inr (.inr (.inr (.rt c)))
    | sem c => exact .inr (.inr (.inr (.sem c)))

/-- sequencing after a step that can neither return nor signal (expressions, declarations, assignments) -/
theorem simS_seq {m : M ν α} {m' : SM ν α'} {f : α → M ν β} {f' : α' → SM ν β'}
    (h1 : SimS V NoT NoB s σ m m') (h2 : ∀ s1 σ1 a v, V s1 σ1 a v → SimS V2 T2 B2 s1 σ1 (f a) (f' v)) :
    SimS V2 T2 B2 s σ (m >>= f) (m' >>= f') :=
  simS_bind h1 h2 (fun _ _ _ _ h => h.elim) (fun _ _ h => h.elim)

theorem simS_pure {a : α} {v : α'} (h : V s σ a v) : SimS V T B s σ (pure a) (pure v) :=
  .inr (.inr (.inr (.ok h)))

theorem simS_rt (c c' : Nat) (h : c' = specCode c) : SimS V T B s σ (rtErr c) (fault c') := by
  subst h; exact .inr (.inr (.inr (.rt c)))

theorem simS_unspec {m : M ν α} : SimS V T B s σ m unspec := .inl rfl

theorem simS_specFuel {m : M ν α} : SimS V T B s σ m (sfail .fuel) := .inr (.inl rfl)

theorem simS_modelFuel {m' : SM ν α'} : SimS V T B s σ outOfFuel m' := .inr (.inr (.inl rfl))

theorem simS_step {s0 : VM ν} {m m2 : M ν α} {m' : SM ν α'} (h : m s = m2 s0) (h2 : SimS V T B s0 σ m2 m') : SimS V T B s σ m m' := by
  unfold SimS at h2 ⊢; rw [h]; exact h2

theorem simS_right {m : M ν α} {m' m2' : SM ν α'} (h : m' σ = m2' σ) (h2 : SimS V T B s σ m m2') : SimS V T B s σ m m' := by
  unfold SimS at h2 ⊢; rw [h]; exact h2

theorem simS_weaken {V' : VM ν → SState ν → α → α' → Prop} {T' : VM ν → SState ν → α → SVal ν → Prop} {B' : VM ν → SState ν → Prop}
    {m : M ν α} {m' : SM ν α'}
    (hV : ∀ s σ a v, V s σ a v → V' s σ a v) (hT : ∀ s σ a v, T s σ a v → T' s σ a v) (hB : ∀ s σ, B s σ → B' s σ)
    (h : SimS V T B s σ m m') : SimS V' T' B' s σ m m' := by
  unfold SimS at h ⊢
  rcases h with h | h | h | h
  · exact .inl h
  · exact .inr (.inl h)
  · exact .inr (.inr (.inl h))
  · refine .inr (.inr (.inr ?_))
    generalize (m s).1 = r, (m' σ).1 = r' at h
    cases h with
    | ok h => exact .ok (hV _ _ _ _ h)
    | ret h => exact .ret (hT _ _ _ _ h)
    | brk h => exact .brk (hB _ _ h)
    | cont h => exact .cont (hB _ _ h)
    | rt c => exact .rt c
    | sem c => exact .sem c

theorem simS_after {γ : Type} {x : M ν γ} {f : γ → M ν α} {m' : SM ν α'} {a : γ} {s1 : VM ν}
    (h : x s = (.ok a, s1)) (k : SimS V T B s1 σ (f a) m') : SimS V T B s σ (x >>= f) m' :=
  simS_step (Calls.bind_ok h) k

theorem simS_getCell {a : Addr} {c : Cell ν} {K : Cell ν → M ν α} {m' : SM ν α'}
    (hc : s.heap[a]? = some c) (h : SimS V T B s σ (K c) m') : SimS V T B s σ (getCell a >>= K) m' :=
  simS_after (Calls.getCell_ok hc) h

theorem boolVal_opaque {t' f' : SM ν α'} {v : SVal ν} (h : isOpaque v = true) : boolVal t' f' v = fault 80 := by
  cases v <;> first | rfl | cases h

theorem simS_boolCell {ω : Addr → Option (SVal ν)} {k : Nat} {a : Addr} {v : SVal ν} {t f : M ν α} {t' f' : SM ν α'}
    (hq : Reads ω k s a v) (ht : SimS V T B s σ t t') (hf : SimS V T B s σ f f') :
    SimS V T B s σ (getCell a >>= boolCell t f) (boolVal t' f' v) := by
  obtain ⟨_, c, _, hc, hlay⟩ := hq.cell
  refine simS_getCell hc ?_
  cases hlay with
  | bool b => cases b; exact hf; exact ht
  | obj _ hop | fn _ hop | cls _ hop | exc _ hop => rw [boolVal_opaque hop]; exact simS_rt 80 80 rfl
  | _ => exact simS_rt 80 80 rfl

end rules

/-! ### expressions inside statements: different fuels on the two sides -/

/-- from the same-fuel expression simulation (exact when the environment is scalar) and the model's fuel
monotonicity: the model at a larger fuel against the spec -/
theorem simS_of_sim {Q : VM ν → Addr → SVal ν → Prop} {T : VM ν → SState ν → Addr → SVal ν → Prop} {B : VM ν → SState ν → Prop}
    {s : VM ν} {σ : SState ν} {n m : Nat} {e : Expr}
    (h : Sim 0 Q s σ (evalExpr m e) (evalE m e)) (hle : m ≤ n) (he : PureExpr e) :
    SimS (fun s' σ' a v => σ' = σ ∧ Frame s s' ∧ Q s' a v) T B s σ (evalExpr n e) (evalE m e) := by
  obtain ⟨r', hm', h⟩ := h
  rcases h with rfl | ⟨r, s1, hm, hF, hO⟩
  · exact .inl (by rw [hm'])
  · -- an outcome of the model other than "out of fuel" is its outcome at the larger fuel
    have up : r ≠ .fuel → SOut (fun s' σ' a v => σ' = σ ∧ Frame s s' ∧ Q s' a v) T B s1 σ r r' →
        SimS (fun s' σ' a v => σ' = σ ∧ Frame s s' ∧ Q s' a v) T B s σ (evalExpr n e) (evalE m e) := fun hr ho =>
      simS_intro (evalExpr_mono_le hle e he s _ _ hm hr) hm' (.inr (.inr (.inr ho)))
    cases hO with
    | ok hq => exact up nofun (.ok ⟨rfl, hF, hq⟩)
    | rt c => exact up nofun (.rt c)
    | sem c => exact up nofun (.sem c)
    | fuel => exact .inr (.inl (by rw [hm']))
    | fuelCmp hd => exact absurd rfl hd

end ZnVerif.Proofs
