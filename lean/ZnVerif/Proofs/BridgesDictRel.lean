/-
Dictionaries of the evaluator model against `Model/Containers.lean`, pure part.  The evaluator model keeps a dictionary cell as `.hm vals order`: `vals` an
association list in insertion order (`hmAppend` overwrites in place, appends at the end), `order` the key list.
`Model/Containers.lean` keeps `HashMap.value` as an association list with *unordered* semantics (`mapSet` moves the
written key to the front, so that nothing can depend on its order) plus `keyOrder`.  The two are therefore related,
not equal: same `keyOrder`, same lookup function (`Rhm`).  Under the evaluator's invariant `dictWF` (= what
`C12.hm_inv` keeps, plus "`vals` is listed in `order`") `vals` *is* the ordered map that `Proofs.Containers.abs` computes.
-/
import ZnVerif.Proofs.AssocList
import ZnVerif.Proofs.Containers

namespace ZnVerif.Proofs.Bridges
open ZnVerif ZnVerif.Model
open ZnVerif.Model.Containers (HashMap mapGet mapSet mapDelete appendKVPair newHashMap newHashMapStep emptyHashMap
  hmDelete deleteLoop DictOp OpResult)
open ZnVerif.Proofs.Containers (Inv)

structure Rhm (vals : List (String × Addr)) (order : List String) (hm : HashMap Addr) : Prop where
  order : order = hm.keyOrder
  get : ∀ k, lookup k vals = mapGet hm.value k

def toC (vals : List (String × Addr)) (order : List String) : HashMap Addr := ⟨vals, order⟩

theorem lookup_eq_mapGet {β : Type} (k : String) (vals : List (String × β)) : lookup k vals = mapGet vals k := by
  fun_induction lookup k vals with
  | case1 => rfl
  | case2 v rest => simp [mapGet]
  | case3 k' v rest h ih =>
    have h' : ¬ k' = k := fun e => h e.symm
    simp only [mapGet, h', if_false, ih]

theorem Rhm_toC (vals : List (String × Addr)) (order : List String) : Rhm vals order (toC vals order) :=
  ⟨rfl, fun k => lookup_eq_mapGet k vals⟩

theorem hmAppend_bridge {vals : List (String × Addr)} {order : List String} {hm : HashMap Addr} (h : Rhm vals order hm)
    (k : String) (v : Addr) :
    Rhm (hmAppend vals order k v).1 (hmAppend vals order k v).2 (appendKVPair hm k v) := by
  unfold hmAppend appendKVPair
  rw [← h.get k]
  cases hl : lookup k vals with
  | some old =>
    refine ⟨h.order, fun k' => ?_⟩
    show lookup k' (assocSet k v vals) = mapGet (mapSet hm.value k v) k'
    rw [lookup_assocSet, Containers.mapGet_mapSet, h.get k']
  | none =>
    refine ⟨by show order ++ [k] = hm.keyOrder ++ [k]; rw [h.order], fun k' => ?_⟩
    show lookup k' (vals ++ [(k, v)]) = mapGet (mapSet hm.value k v) k'
    rw [lookup_append, lookup_cons, Containers.mapGet_mapSet, ← h.get k']
    by_cases e : k' = k
    · rw [e, hl, if_pos rfl, if_pos rfl]; rfl
    · rw [if_neg e, if_neg e]; exact Option.or_none

theorem hmFold_bridge : ∀ (kvs : List (String × Addr)) (st : List (String × Addr) × List String) (hm : HashMap Addr),
    Rhm st.1 st.2 hm →
      let st' := kvs.foldl (fun acc kv => hmAppend acc.1 acc.2 kv.1 kv.2) st
      Rhm st'.1 st'.2 (kvs.foldl newHashMapStep hm)
  | [], _, _, h => h
  | kv :: kvs, _, hm, h =>
    hmFold_bridge kvs _ _ (Containers.newHashMapStep_eq hm kv ▸ hmAppend_bridge h kv.1 kv.2)

/-- 移除 of a present key: the evaluator's `assocErase` / `List.erase` is what the in-place delete loop of
`Containers` leaves — *because* `keyOrder` has no duplicates (`Containers.Inv`) and the association list has one entry per
key, both of which `dictWF` says -/
theorem erase_bridge {vals : List (String × Addr)} {order : List String} {hm : HashMap Addr} (h : Rhm vals order hm)
    (hwf : dictWF vals order) (k : String) (v : Addr) (hl : lookup k vals = some v) :
    ∃ hm', hmDelete hm k = .ok (some v, hm') ∧ Rhm (assocErase k vals) (order.erase k) hm' := by
  unfold hmDelete
  rw [← h.get k, hl, Containers.deleteLoop_eq_erase _ _ (h.order ▸ hwf.2)]
  refine ⟨_, rfl, by show order.erase k = hm.keyOrder.erase k; rw [h.order], fun k' => ?_⟩
  show lookup k' (assocErase k vals) = mapGet (mapDelete hm.value k) k'
  rw [lookup_assocErase k k' vals (hwf.1 ▸ hwf.2), Containers.mapGet_mapDelete, h.get k']

theorem erase_absent_bridge {vals : List (String × Addr)} {order : List String} {hm : HashMap Addr} (h : Rhm vals order hm)
    (k : String) (hl : lookup k vals = none) : hmDelete hm k = .ok (none, hm) := by
  unfold hmDelete
  rw [← h.get k, hl]

theorem inv_of_dictWF {vals : List (String × Addr)} {order : List String} (h : dictWF vals order) :
    Inv (toC vals order) :=
  ⟨h.2, fun k => by show k ∈ order ↔ k ∈ vals.map Prod.fst; rw [h.1],
    by show (vals.map Prod.fst).Nodup; rw [h.1]; exact h.2⟩

theorem filterMap_eq_self {β : Type} (f : β → Option β) : ∀ l : List β, (∀ p ∈ l, f p = some p) → l.filterMap f = l
  | [], _ => rfl
  | x :: rest, h => by
    rw [List.filterMap_cons, h x (by simp), filterMap_eq_self f rest (fun p hp => h p (by simp [hp]))]

theorem abs_eq_vals {vals : List (String × Addr)} {order : List String} {hm : HashMap Addr} (h : Rhm vals order hm)
    (hwf : dictWF vals order) : ZnVerif.Proofs.Containers.abs hm = vals := by
  obtain ⟨h1, h2⟩ := hwf
  unfold ZnVerif.Proofs.Containers.abs ZnVerif.Proofs.Containers.absOf
  rw [← h.order, ← h1]
  have hnd : (vals.map Prod.fst).Nodup := by rw [h1]; exact h2
  rw [List.filterMap_map]
  have : ∀ p ∈ vals, ((fun k => (mapGet hm.value k).map (fun v => (k, v))) ∘ Prod.fst) p = some p := by
    intro p hp
    show (mapGet hm.value p.1).map (fun v => (p.1, v)) = some p
    rw [← h.get p.1, Model.lookup_of_mem_nodup vals hnd p.1 p.2 hp]
    rfl
  exact filterMap_eq_self _ vals this

end ZnVerif.Proofs.Bridges
