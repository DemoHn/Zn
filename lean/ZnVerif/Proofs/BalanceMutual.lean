/-
The induction on fuel over the mutual block of the evaluator model (see Proofs/Balance.lean for `Pres`): the step for
each of its functions, the induction hypothesis being the instance `AllPres R n`, and `allPres`.
-/
import ZnVerif.Proofs.Balance
import ZnVerif.Proofs.EvalArms
set_option linter.unusedSectionVars false

namespace ZnVerif.Proofs.Balance
open ZnVerif.Model ZnVerif.Proofs.Calls ZnVerif.Proofs.ControlFlow ZnVerif.Proofs.EvalArms

variable {ν : Type} [NumOps ν]

section mutualBlock
variable {R : VM ν → VM ν → Prop} [ScopePrims0 R]

theorem Pres.lineStep (ln : Nat) : Pres R (lineStep (ν := ν) ln) := Pres.setTopFrame _

theorem Pres.condNode {β} {ec : M ν Addr} {kt kf : M ν β} (hc : Pres R ec) (ht : Pres R kt) (hf : Pres R kf) :
    Pres R (condNode ec kt kf) := Pres.closed.condNode (fun _ => inferInstance) inferInstance hc ht hf

theorem Pres.pass {α} {m : M ν α} (hm : Pres R m) (go : Bool) : Pres R (Model.tryCatch m (passHandler go)) := by
  refine .tryCatch hm fun r => ?_
  unfold passHandler; pres_tac

theorem Pres.iterLoop {pass : Addr → Addr → M ν Bool} (hp : ∀ key v, Pres R (pass key v)) (target : Addr) :
    Pres R (iterLoop pass target) := by
  unfold EvalArms.iterLoop
  refine .bind inferInstance fun cell => ?_
  split
  · exact Pres.closed.untilIdxM (fun i v => .bind inferInstance fun _ => hp _ _) _ _
  · exact Pres.closed.untilM (fun k => by pres_tac) _
  · infer_instance

section step
variable (n : Nat) [AllPres R n]

theorem evalExpr_succ (e : Expr) : Pres R (evalExpr (ν := ν) (n+1) e) := by
  cases e <;> rw [Model.evalExpr] <;> pres_tac <;> contradiction

theorem memberIV_succ (e : Expr) : Pres R (memberIV (ν := ν) (n+1) e) := by
  cases e <;> rw [Model.memberIV] <;> pres_tac <;> contradiction

theorem execFunction_succ (f : FnRef) (t : Option Addr) (ps : List Addr) :
    Pres R (execFunction (ν := ν) (n+1) f t ps) := by
  cases f <;> rw [Model.execFunction] <;> pres_tac <;> contradiction

theorem execDirectFunction_succ (f : String) (ps : List Addr) :
    Pres R (execDirectFunction (ν := ν) (n+1) f ps) := by
  rw [Model.execDirectFunction]; pres_tac

theorem execMethodFunction_succ (r : Addr) (f : String) (ps : List Addr) :
    Pres R (execMethodFunction (ν := ν) (n+1) r f ps) := by
  rw [Model.execMethodFunction]; pres_tac

theorem construct_succ (c : Addr) (ps : List Addr) :
    Pres R (construct (ν := ν) (n+1) c ps) := by
  unfold Model.construct; pres_tac

omit [ScopePrims0 R] [AllPres R n] in
theorem Pres.ofState [PreRel R] {α : Type} {f : VM ν → M ν α} (h : ∀ v, Pres R (f v)) : Pres R (fun s => f s s) :=
  ⟨fun s => (h s).run s⟩

omit [AllPres R n] in
theorem Pres.bindThis (vm : VM ν) : Pres R (bindThis vm) := by
  unfold Calls.bindThis; pres_tac

omit [AllPres R n] in
theorem Pres.bindInputs (inputs : List Ident) (params : List Addr) : Pres R (bindInputs (ν := ν) inputs params) := by
  unfold Calls.bindInputs; pres_tac

theorem Pres.finishBlock (bm : Int) (bd : Nat) (catches : List (Option Ident × Option (List Stmt)))
    (r : Res (Option Addr)) : Pres R (finishBlock (ν := ν) n bm bd catches r) := by
  unfold Calls.finishBlock; pres_tac

theorem Pres.execBlockBody (inputs : List Ident) (body : Option (List Stmt))
    (catches : List (Option Ident × Option (List Stmt))) (params : List Addr) :
    Pres R (execBlockBody (ν := ν) n inputs body catches params) := by
  unfold Calls.execBlockBody
  refine Pres.ofState fun v => ?_
  have h1 := Pres.bindThis (R := R) v
  have h2 := Pres.bindInputs (R := R) inputs params
  have h3 := Pres.finishBlock (R := R) n v.csModuleID v.stack.length catches
  pres_tac

theorem evalExecBlock_succ : ∀ (b : Option ExecBlock) (ps : List Addr), Pres R (evalExecBlock (ν := ν) (n+1) b ps)
  | none, _ => by rw [Model.evalExecBlock]; exact Pres.goPanic
  | some (.mk inputs body catches), ps => by
    rw [Calls.evalExecBlock_eq]
    exact ScopePrims0.withScope _ (Pres.execBlockBody n inputs body catches ps)

theorem handleException_succ (bm : Int) (bd : Nat)
    (cs : List (Option Ident × Option (List Stmt))) (e : Err) :
    Pres R (handleException (ν := ν) (n+1) bm bd cs e) := by
  rw [handleException_eq]
  have h : ∀ ex cls, Pres R (firstM (tryHandler (ν := ν) n bm bd ex cls) (throwE e) cs) := fun ex cls =>
    Pres.closed.firstM inferInstance fun c _ => by unfold Calls.tryHandler Calls.runHandler; pres_tac
  unfold Calls.excOf Calls.classNameOf
  pres_tac

theorem evalStmtBlock_succ (b : Option (List Stmt)) :
    Pres R (evalStmtBlock (ν := ν) (n+1) b) := by
  cases b <;> rw [Model.evalStmtBlock] <;> pres_tac <;> contradiction

theorem evalPureStmtBlock_succ : ∀ b : Option (List Stmt), Pres R (evalPureStmtBlock (ν := ν) (n+1) b)
  | none => by rw [Model.evalPureStmtBlock]; exact Pres.goPanic
  | some stmts => by
    rw [evalPureStmtBlock_some]
    exact ScopePrims0.withScope _ (Pres.stmtsLoop (fun _ => inferInstance) stmts none)

theorem evalStmt_succ (st : Stmt) : Pres R (evalStmt (ν := ν) (n+1) st) := by
  have null : Pres R (newNull (ν := ν)) := inferInstance
  cases st with
  | «while» ln c body =>
    rw [evalStmt_while]
    refine .bind (.lineStep ln) fun _ => .bind (Pres.closed.whileM (.bind (.lineStep ln) fun _ => ?_) Pres.outOfFuel n) fun _ => null
    rw [whileStep_eq]
    exact .condNode inferInstance (.pass inferInstance true) (.pure _)
  | iterate ln e names body =>
    rw [evalStmt_iterate]
    simp only [withIterSlots_eq]
    refine .bind (.lineStep ln) fun _ => .bind (ScopePrims0.withScope _ (.bind inferInstance fun _ =>
      .bind ?_ fun _ => .iterLoop (fun key v => ?_) _)) fun _ => null
    · unfold iterSlots; pres_tac
    · rw [iterPass_eq]
      refine .pass (.bind ?_ fun _ => inferInstance) false
      unfold iterBind; pres_tac
  | branch ln ifE ifB others hasElse elseB =>
    rw [evalStmt_branch]
    refine .bind (.lineStep ln) fun _ => .condNode inferInstance (.bind inferInstance fun _ => null)
      (.bind (Pres.closed.firstM ?_ fun o _ => ?_) fun _ => null)
    · unfold branchElse; pres_tac
    · rw [branchOther_eq]
      exact .condNode inferInstance (.bind inferInstance fun _ => .pure _) (.pure _)
  | _ => rw [Model.evalStmt]; pres_tac

theorem evalClassDecl_succ (st : Stmt) : Pres R (evalClassDecl (ν := ν) (n+1) st) := by
  cases st <;> rw [Model.evalClassDecl] <;> pres_tac <;> contradiction

omit [AllPres R n] in
theorem evalFuncDecl_succ (st : Stmt) : Pres R (evalFuncDecl (ν := ν) (n+1) st) := by
  cases st <;> rw [Model.evalFuncDecl] <;> pres_tac <;> contradiction

end step

/-- every function of the evaluator, at every fuel, relates start and end state by `R` on every outcome -/
theorem allPres : ∀ n : Nat, AllPres R (ν := ν) n
  | 0 => by
    constructor <;> intros <;> exact Pres.outOfFuel
  | n+1 => by
    have ih := allPres n
    exact {
      evalExpr := evalExpr_succ n
      memberIV := memberIV_succ n
      execFunction := execFunction_succ n
      execDirectFunction := execDirectFunction_succ n
      execMethodFunction := execMethodFunction_succ n
      construct := construct_succ n
      evalExecBlock := evalExecBlock_succ n
      handleException := handleException_succ n
      evalStmtBlock := evalStmtBlock_succ n
      evalPureStmtBlock := evalPureStmtBlock_succ n
      evalStmt := evalStmt_succ n
      evalClassDecl := evalClassDecl_succ n
      evalFuncDecl := evalFuncDecl_succ n
      evalCtorDecl := ScopePrims0.evalCtorDecl (n+1) }

end mutualBlock

end ZnVerif.Proofs.Balance
