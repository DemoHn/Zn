/-
What a built-in method looks like.  Whatever its name, a method of a list, dictionary, number or text (`builtinMethod`,
Model/Interp.lean) reads; duplicates some of its arguments, or the items of argument lists; writes at most once, and then
the receiver's own cell, storing a data cell whose links are old links of that cell or results of those duplications;
and answers.  `Method` says so of a computation, and `builtinMethod_shape` goes through the arms of `builtinMethod` for it, once
for the two heap readings below.  (What `Method` does not say is read off walks of their own: that nothing but the heap
changes and the receiver's cell keeps its sort, `runs_builtinMethod`, Proofs/LeafEffects.lean; that no call panics on a
well-formed heap, `post_builtinMethod`, Proofs/BuiltinMembers.lean.)

Two facts about the heap are read off this shape, each by one induction on the judgment: every call is one store into
the receiver's cell (`StoreStep`, `builtinMethod_storeStep`, Proofs/HeapMutators.lean) and every call respects a zone (`Tight`,
`builtinMethod_tight`, Proofs/CopyZone.lean).  Neither follows from the other: a zone has no object below a tainted
address, which a `StoreStep` allows, and types every new cell, which a `StoreStep` does not; "tainted" cannot say
"allocated since the call began".
-/
import ZnVerif.Proofs.HeapFrames
import ZnVerif.Proofs.InsertArray
set_option linter.unusedSectionVars false

namespace ZnVerif.Model

variable {ν : Type} [NumOps ν]

/-- How a method ends, `L` being the addresses a new cell may link to: with `same`, an answer at hand or a failure that
leaves the state alone (`pure a`, `rtErr`, `goPanic`); with `new`, one more data cell (空 for an empty 左移, the second list
of 合并, the number / text / boolean every non-mutating method answers); with `exc`, `value.ThrowException`. -/
inductive Ans (L : Addr → Prop) : M ν Addr → Prop
  | same {m : M ν Addr} : Pres Same m → Ans L m
  | new (d : Cell ν) : d.isRefKind = false → (∀ y ∈ d.children, L y) → Ans L (alloc d)
  | exc (msg : String) : Ans L (throwException msg)

/-- What a method does to get the links it will store, `A` being the sources (the arguments): `dup` duplicates a source;
`new` allocates a cell without links (the texts of 分隔); `cell` reads the cell at a source, whose links are sources from
then on (合并 reads each argument list and duplicates its items); `mapM` does any of this along a list; `panic` gives up.
Of an answer `b`, the addresses `out b` are what the method may link to afterwards. -/
inductive Prep (n : Nat) : (Addr → Prop) → (β : Type) → M ν β → (β → Addr → Prop) → Prop
  | panic {A β out} : Prep n A β goPanic out
  | dup {A} (x : Addr) : A x → Prep n A Addr (dup n x) fun b y => y = b
  | new {A} (d : Cell ν) : d.isRefKind = false → d.children = [] → d.wf = true → Prep n A Addr (alloc d) fun b y => y = b
  | cell {A β out} (v : Addr) {g : Cell ν → M ν β} : A v →
      (∀ d, Prep n (fun x => A x ∨ x ∈ d.children) β (g d) out) → Prep n A β (getCell v >>= g) out
  | mapM {A} {α β : Type} {out} (l : List α) {f : α → M ν β} : (∀ x ∈ l, Prep n A β (f x) out) →
      Prep n A (List β) (l.mapM f) fun bs y => ∃ b ∈ bs, out b y

/-- A method on the receiver `a`, whose cell is `c`, with sources `A`; `L` are the addresses it may link to, at the start
the links of `c`.  `read`: a step that changes nothing (parameter checks, reading an argument, comparing, 读取's descent);
`pre`: a `Prep`, whose results join `L`; `store`: the one write — `a`'s own cell, of a kind that is copied, by a data cell
over `L` that is well formed if `c` was — and the end; `ans`: the end without a write. -/
inductive Method (n : Nat) (a : Addr) (c : Cell ν) (A : Addr → Prop) : (Addr → Prop) → M ν Addr → Prop
  | read {L} {β : Type} {m : M ν β} {k : β → M ν Addr} : Pres Same m → (∀ x, Method n a c A L (k x)) →
      Method n a c A L (m >>= k)
  | pre {L} {β : Type} {out} {m : M ν β} {k : β → M ν Addr} : Prep n A β m out →
      (∀ b, Method n a c A (fun y => L y ∨ out b y) (k b)) → Method n a c A L (m >>= k)
  | store {L} (c' : Cell ν) {k : M ν Addr} : c.isMutable = true → c'.isRefKind = false → (c.wf = true → c'.wf = true) →
      (∀ y ∈ c'.children, L y) → Ans L k → Method n a c A L (setCell a c' >>= fun _ => k)
  | ans {L} {m : M ν Addr} : Ans L m → Method n a c A L m

theorem mem_set_set {items : List Addr} {i j : Nat} {x0 x1 y : Addr} (h0 : x0 ∈ items) (h1 : x1 ∈ items)
    (hy : y ∈ (items.set i x1).set j x0) : y ∈ items := by
  rcases List.mem_or_eq_of_mem_set hy with hy | rfl
  · rcases List.mem_or_eq_of_mem_set hy with hy | rfl
    · exact hy
    · exact h1
  · exact h0

theorem mem_of_mem_dropLast' {α} {l : List α} {y : α} (h : y ∈ l.dropLast) : y ∈ l := by
  rw [List.dropLast_eq_take] at h
  exact List.mem_of_mem_take h

theorem mem_insertArrayValue {items items' : List Addr} {idx : Int} {x y : Addr}
    (h : insertArrayValue items idx x = .ok items') (hy : y ∈ items') : y ∈ items ∨ y = x := by
  by_cases hg : idx < 0 ∧ (items.length : Int) + idx < 0
  · rw [Proofs.Bridges.insertArrayValue_bridge, (Proofs.Containers.insertArrayValue_panic_iff items idx x).2 hg] at h; cases h
  · rw [Proofs.Bridges.insertArrayValue_eq_insertNth items idx x hg] at h; cases h; exact Proofs.Containers.mem_insertNth hy

theorem hm_wf_of {vals vals' : List (String × Addr)} {order order' : List String}
    (h : dictWF vals order → dictWF vals' order') : (Cell.hm vals order : Cell ν).wf = true → (Cell.hm vals' order' : Cell ν).wf = true := by
  intro hw
  have : dictWF vals order := by simpa [Cell.wf] using hw
  simpa [Cell.wf] using h this

theorem shape_goGet {n : Nat} {a : Addr} {c : Cell ν} {A L : Addr → Prop} :
    ∀ (l : List Addr) (cur : Addr), Method (ν := ν) n a c A L (builtinMethod.goGet cur l)
  | [], cur => by unfold builtinMethod.goGet; exact .ans (.same (pres_pure _))
  | k :: rest, cur => by
    unfold builtinMethod.goGet
    refine .read (pres_getCell k) fun ck => ?_
    split
    · refine .read (pres_getCell cur) fun cc => ?_
      split
      · split
        · exact shape_goGet rest _
        · exact .ans (.new _ rfl nofun)
      · exact .ans (.new _ rfl nofun)
    · exact .ans (.same pres_goPanic)

theorem readTexts_same {α : Type} (f : String → α) (l : List Addr) :
    Pres Same (l.mapM fun v => do match ← getCell v with | .str t => pure (f t) | _ => goPanic : M ν (List α)) :=
  pres_closed.mapM fun v _ => pres_bind (pres_getCell v) fun c => by split <;> first | exact pres_pure _ | exact pres_goPanic

theorem builtinMethod_shape (n : Nat) (a : Addr) (name : String) (vals : List Addr) :
    ∃ body : Cell ν → M ν Addr, builtinMethod n a name vals = getCell a >>= body ∧
      ∀ c, Method n a c (· ∈ vals) (· ∈ c.children) (body c) := by
  unfold builtinMethod
  refine ⟨_, rfl, fun c => ?_⟩
  have hval : ∀ tys, Pres Same (validateExact (ν := ν) vals tys) := fun _ => validateExact_same _ _
  have hall : ∀ ty, Pres Same (validateAll (ν := ν) vals ty) := fun _ => validateAll_same _ _
  have bad : ∀ {L : Addr → Prop}, Method (ν := ν) n a c (· ∈ vals) L goPanic := .ans (.same pres_goPanic)
  have err : ∀ {L : Addr → Prop} (k : Nat), Method (ν := ν) n a c (· ∈ vals) L (rtErr k) := fun _ => .ans (.same (pres_rtErr _))
  have new : ∀ {L : Addr → Prop} (d : Cell ν), d.isRefKind = false → d.children = [] →
      Method (ν := ν) n a c (· ∈ vals) L (alloc d) := fun d h1 h2 => .ans (.new d h1 (by rw [h2]; nofun))
  -- below, `case h_k` is the k-th arm of the `match name with` of that receiver kind in Model/Interp.lean (the comment names
  -- it): arms are paired by position, so an arm inserted or moved there has to be moved here
  cases c with
  | arr items =>
    dsimp only
    split
    case h_1 | h_2 => -- 新增, 添加
      refine .read (hval _) fun _ => ?_
      split
      · refine .read (pres_getCell _) fun cp => ?_
        split
        · split
          · exact err _
          · refine .pre (.dup _ List.mem_cons_self) fun x' => ?_
            split
            · rename_i items' hi
              exact .store _ rfl rfl (fun _ => rfl) (fun y hy => mem_insertArrayValue hi hy) (.same (pres_pure _))
            · exact bad
        · exact bad
      · exact bad
    case h_3 => -- 前增
      refine .read (hval _) fun _ => ?_
      split
      · exact .pre (.dup _ List.mem_cons_self) fun x' => .store _ rfl rfl (fun _ => rfl)
          (fun y hy => by simpa [Cell.children, or_comm] using hy) (.same (pres_pure _))
      · exact bad
    case h_4 => -- 后增
      refine .read (hval _) fun _ => ?_
      split
      · exact .pre (.dup _ List.mem_cons_self) fun x' => .store _ rfl rfl (fun _ => rfl)
          (fun y hy => by simpa [Cell.children] using hy) (.same (pres_pure _))
      · exact bad
    case h_5 => -- 左移
      split
      · exact .store _ rfl rfl (fun _ => rfl) nofun (.new _ rfl nofun)
      · exact .store _ rfl rfl (fun _ => rfl) (fun y hy => List.mem_cons_of_mem _ hy) (.same (pres_pure _))
    case h_6 => -- 右移
      split
      · exact .store _ rfl rfl (fun _ => rfl) nofun (.new _ rfl nofun)
      · exact .store _ rfl rfl (fun _ => rfl) (fun y hy => mem_of_mem_dropLast' hy) (.same (pres_pure _))
    case h_7 => -- 拼接
      refine .read (validateAll_same _ _) fun _ => .read (hval _) fun _ => ?_
      split
      · refine .read (pres_getCell _) fun cc => ?_
        split
        · exact .read (readTexts_same id items) fun ss => new _ rfl rfl
        · exact bad
      · exact bad
    case h_8 => -- 合并: each argument list is read and its items are duplicated
      have hl : ∀ extra : List (List Addr), ∀ y ∈ (Cell.arr (items ++ extra.flatten) : Cell ν).children,
          y ∈ items ∨ ∃ l ∈ extra, ∃ b ∈ l, y = b := fun extra y hy => by
        simpa [Cell.children, List.mem_flatten] using hy
      refine .read (hall _) fun _ => .pre (.mapM vals fun v hv => .cell v hv fun d => ?_) fun extra =>
        .store _ rfl rfl (fun _ => rfl) (hl extra) (.new _ rfl (hl extra))
      split
      · exact .mapM _ fun x hx => .dup x (.inr hx)
      · exact .panic
    case h_9 => -- 包含
      refine .read (hval _) fun _ => ?_
      split
      · exact .read (goContains_same n _ items) fun b => new _ rfl rfl
      · exact bad
    case h_10 => -- 寻找
      refine .read (hval _) fun _ => ?_
      split
      · exact .read (goFind_same n _ items 0) fun k => new _ rfl rfl
      · exact bad
    case h_11 => -- 交换
      refine .read (hval _) fun _ => ?_
      split
      · refine .read (pres_getCell _) fun cp => .read (pres_getCell _) fun cq => ?_
        split
        · split
          · exact err _
          · split
            · exact err _
            · split
              · rename_i x0 x1 h0 h1
                exact .store _ rfl rfl (fun _ => rfl)
                  (fun y hy => mem_set_set (List.mem_of_getElem? h0) (List.mem_of_getElem? h1) hy) (.same (pres_pure _))
              · exact bad
        · exact bad
      · exact bad
    case h_12 => exact err _
  | hm vs order =>
    dsimp only
    split
    case h_1 => exact .read (hall _) fun _ => shape_goGet vals a -- 读取
    case h_2 => -- 写入
      refine .read (hval _) fun _ => ?_
      split
      · refine .read (pres_getCell _) fun ck => ?_
        split
        · rename_i key
          exact .pre (.dup _ (List.mem_cons_of_mem _ List.mem_cons_self)) fun v' =>
            .store (.hm (hmAppend vs order key v').1 (hmAppend vs order key v').2) rfl rfl (hm_wf_of (hmAppend_wf key v'))
              (fun y hy => snd_mem_hmAppend hy) (.same (pres_pure _))
        · exact bad
      · exact bad
    case h_3 => -- 移除
      refine .read (hval _) fun _ => ?_
      split
      · refine .read (pres_getCell _) fun ck => ?_
        split
        · split
          · exact .store _ rfl rfl (hm_wf_of (erase_wf _)) (fun y hy => snd_mem_assocErase hy) (.same (pres_pure _))
          · exact new _ rfl rfl
        · exact bad
      · exact bad
    case h_4 => exact err _
  | num x =>
    dsimp only
    split
    case h_1 | h_2 | h_3 | h_4 => -- 加 减 乘 除
      exact .read (hall _) fun _ => .read (goArith_same _ _ vals x) fun r => new _ rfl rfl
    case h_5 | h_6 => -- 自增, 自减
      refine .read (hval _) fun _ => ?_
      split
      · refine .read (pres_getCell _) fun cv => ?_
        split
        · exact .store _ rfl rfl (fun _ => rfl) nofun (.same (pres_pure _))
        · exact bad
      · exact bad
    case h_7 | h_8 => exact new _ rfl rfl -- 向下取整, 向上取整
    case h_9 => exact err _
  | str s =>
    dsimp only
    split
    case h_1 => exact .read (hall _) fun _ => .read (readTexts_same id vals) fun ss => new _ rfl rfl -- 拼接
    case h_2 | h_3 | h_4 => -- 匹配, 匹配开头, 匹配结尾
      refine .read (hval _) fun _ => ?_
      split
      · refine .read (pres_getCell _) fun cv => ?_
        split
        · exact new _ rfl rfl
        · exact bad
      · exact bad
    case h_5 => -- 替换
      refine .read (hval _) fun _ => ?_
      split
      · refine .read (pres_getCell _) fun cp => .read (pres_getCell _) fun cq => ?_
        split
        · exact new _ rfl rfl
        · exact bad
      · exact bad
    case h_6 => -- 分隔: new text cells, then a list over them
      refine .read (hval _) fun _ => ?_
      split
      · refine .read (pres_getCell _) fun cv => ?_
        split
        · exact .pre (.mapM _ fun p _ => .new _ rfl rfl rfl) fun cs => .ans (.new _ rfl fun y hy => .inr (by
            simpa [Cell.children] using hy))
        · exact bad
      · exact bad
    case h_7 => -- 取样
      refine .read (hval _) fun _ => ?_
      split
      · refine .read (pres_getCell _) fun cp => .read (pres_getCell _) fun cq => ?_
        split
        · split
          · exact new _ rfl rfl
          · exact .ans (.exc _)
          · exact .ans (.exc _)
          · exact bad
        · exact bad
      · exact bad
    case h_8 => exact new _ rfl rfl -- 去除空格
    case h_9 | h_10 => -- 转小写-英文, 转大写-英文
      split
      · exact new _ rfl rfl
      · exact .ans (.same (pres_of_const fun _ => rfl))
    case h_11 => -- 格式化
      exact .read (hall _) fun _ => .read (readTexts_same textBytes vals) fun ss => new _ rfl rfl
    case h_12 => -- 转换数值: the write comes first, whatever the answer
      refine .store _ rfl rfl (fun _ => rfl) nofun ?_
      split
      · exact .new _ rfl nofun
      · exact .exc _
      · exact .same (pres_of_const fun _ => rfl)
    case h_13 => exact err _
  | _ => exact err _

end ZnVerif.Model
