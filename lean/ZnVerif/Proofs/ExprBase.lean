/-
C01 refinement, base layer: the pure expression fragment, the environment relation, and the simulation
lemmas for names, `mapM` and operands read as a number or a boolean.
-/
import ZnVerif.Proofs.XEq
import ZnVerif.Proofs.EvalArms
import ZnVerif.Proofs.ExprNodes

set_option linter.unusedSectionVars false

namespace ZnVerif.Proofs
open ZnVerif.Model ZnVerif.Spec

variable {ν : Type} [NumOps ν] {ω : Addr → Option (SVal ν)}

/-- the operator codes the parser produces for comparison / logic nodes and for arithmetic nodes -/
def logicTys : List Nat := [LogicOR, LogicAND, LogicEQ, LogicNEQ, LogicGT, LogicGTE, LogicLT, LogicLTE, LogicXEQ, LogicXNEQ]
def arithTys : List Nat := [ArithAdd, ArithSub, ArithMul, ArithDiv, ArithIntDiv, ArithModulo]

/-- expressions built from numbers, names, texts, list and dictionary literals, and the arithmetic,
comparison and logic operators (no calls, member access, assignment, construction) -/
inductive PureExpr : Expr → Prop
  | id (i : Ident) : PureExpr (.id i)
  | str (ln : Nat) (t : String) : PureExpr (.str ln t)
  | arr (ln : Nat) (items : List Expr) : (∀ e ∈ items, PureExpr e) → PureExpr (.arr ln items)
  | hm (ln : Nat) (kvs : List (Expr × Expr)) : (∀ kv ∈ kvs, PureExpr kv.2) → PureExpr (.hm ln kvs)
  | logic (ln ty : Nat) (l r : Expr) : ty ∈ logicTys → PureExpr l → PureExpr r → PureExpr (.logic ln ty l r)
  | arith (ln ty : Nat) (l r : Expr) : ty ∈ arithTys → PureExpr l → PureExpr r → PureExpr (.arith ln ty l r)

/-- what `findElement` answers: globals first, then the scope of the current module -/
def visible (s : VM ν) (name : String) : Option Addr :=
  match lookup name s.globals with
  | some a => some a
  | none =>
    match getScope s.csModuleID s with
    | none => none
    | some sc =>
      match sc.find name with
      | some sy => some sy.val
      | none => none

theorem findElement_eq (s : VM ν) (name : String) :
    findElement name s = (match visible s name with | some a => .ok a | none => .err (.rt 42), s) := by
  rw [Calls.findElement_eq]
  unfold visible
  cases lookup name s.globals with
  | some a => rfl
  | none =>
    cases getScope s.csModuleID s with
    | none => rfl
    | some sc => dsimp only; cases sc.find name <;> rfl

/-- what `lookupName` answers: predefined names first, then the blocks innermost first -/
def specVisible (σ : SState ν) (name : String) : Option (SVal ν) :=
  match predefVal name with
  | some v => some v
  | none =>
    match findB name σ.env with
    | some b => some b.val
    | none => none

theorem lookupName_eq (σ : SState ν) (name : String) :
    lookupName name σ = (match specVisible σ name with | some v => .ok v | none => .raise (.fault 42), σ) := by
  simp only [lookupName, specVisible]
  cases predefVal (ν := ν) name with
  | some v => rfl
  | none =>
    simp only [SM.bind_def, getS]
    cases findB name σ.env <;> rfl

/-- every name `findElement` can see is bound in the spec state to what its cell reads as (within
fuel `d+1`: `d = 0` means scalars and empty containers), and names undefined on one side are undefined on the other -/
def EnvRel (ω : Addr → Option (SVal ν)) (d : Nat) (s : VM ν) (σ : SState ν) : Prop :=
  ∀ name, match visible s name, specVisible σ name with
    | some a, some v => contentW ω (d+1) s.heap a = some v
    | none, none => True
    | _, _ => False

theorem EnvRel.frame {d : Nat} {s s' : VM ν} {σ : SState ν}
    (h : EnvRel ω d s σ) (hF : Frame s s') : EnvRel ω d s' σ := by
  intro name
  have hv : visible s' name = visible s name := by
    rw [hF.same]; rfl
  have := h name
  rw [hv]
  cases h1 : visible s name <;> cases h2 : specVisible σ name <;> simp only [h1, h2] at this ⊢
  exact contentW_heap hF.le this

theorem sim_find {d : Nat} {s : VM ν} {σ : SState ν} (h : EnvRel ω d s σ) (name : String) :
    Sim d (Reads ω (d+1)) s σ (findElement name) (lookupName name) := by
  unfold Sim
  rw [findElement_eq, lookupName_eq]
  have := h name
  cases h1 : visible s name <;> cases h2 : specVisible σ name <;> simp only [h1, h2] at this ⊢
  · exact ⟨_, rfl, .inr ⟨_, s, rfl, Frame.refl s, .rt 42⟩⟩
  · exact ⟨_, rfl, .inr ⟨_, s, rfl, Frame.refl s, .ok this⟩⟩

inductive IdRel : IdType ν → IdK ν → Prop
  | name (t : String) : IdRel (.name t) (.name t)
  | number (x : ν) : IdRel (.number x) (.number x)

theorem sim_matchID {d : Nat} {s : VM ν} {σ : SState ν} (lit : String) :
    Sim d (fun _ => IdRel) s σ (matchIDType lit) (classifyId lit) := by
  unfold matchIDType classifyId
  have : Spec.strCps lit = Model.strCps lit := rfl
  rw [this]
  cases tryParseNumber (Model.strCps lit)
  · exact sim_pure (.name lit)
  · exact sim_pure (.number _)
  · exact sim_sem 30

theorem sim_mapM {ι α α' : Type} {d : Nat} {σ : SState ν} {f : ι → M ν α} {f' : ι → SM ν α'}
    {Q : VM ν → α → α' → Prop} (hQ : ∀ s s' a v, Frame s s' → Q s a v → Q s' a v) :
    ∀ (is : List ι) (s : VM ν), (∀ i ∈ is, ∀ s1, Frame s s1 → Sim d Q s1 σ (f i) (f' i)) →
      Sim d (fun s as vs => Forall2 (Q s) as vs) s σ (is.mapM f) (is.mapM f')
  | [], s, _ => by
    rw [List.mapM_nil, List.mapM_nil]; exact sim_pure .nil
  | i :: is, s, h => by
    rw [List.mapM_cons, List.mapM_cons]
    refine sim_bind (h i (List.mem_cons_self) s (Frame.refl s)) fun s1 a v hF1 hq => ?_
    refine sim_bind (sim_mapM hQ is s1 fun j hj s2 hF2 => h j (List.mem_cons_of_mem _ hj) s2 (hF1.trans hF2))
      fun s2 as vs hF2 hqs => ?_
    exact sim_pure (.cons (hQ _ _ _ _ hF2 hq) hqs)

theorem Reads.cell {k : Nat} {s : VM ν} {a : Addr} {v : SVal ν} (h : Reads ω k s a v) :
    ∃ k' c, k = k' + 1 ∧ s.heap[a]? = some c ∧ Layer ω (contentW ω k' s.heap) a c v := by
  cases k with
  | zero => simp [Reads, contentW] at h
  | succ k' =>
    obtain ⟨c, hc, hl⟩ := (contentW_succ_iff ω k' _ _ _).1 h
    exact ⟨k', c, rfl, hc, hl⟩

theorem sim_fuelCmp {α α' : Type} {d : Nat} {Q : VM ν → α → α' → Prop} {s : VM ν} {σ : SState ν} (hd : d ≠ 0) :
    Sim d Q s σ outOfFuel (fault 83) :=
  ⟨_, rfl, .inr ⟨_, s, rfl, Frame.refl s, .fuelCmp hd⟩⟩

/-! ### operands: a cell read as a number / a boolean, against a match on the value it reads as -/

theorem withNumS_opaque {α : Type} (e : Nat) (K : ν → SM ν α) {v : SVal ν} (h : isOpaque v = true) :
    withNumS e K v = fault e := by
  cases v <;> first | rfl | cases h

theorem withBoolS_opaque {α : Type} (e : Nat) (K : Bool → SM ν α) {v : SVal ν} (h : isOpaque v = true) :
    withBoolS e K v = fault e := by
  cases v <;> first | rfl | cases h

section operands
variable {α α' : Type} {d : Nat} {Q : VM ν → α → α' → Prop} {k : Nat}
  {s : VM ν} {σ : SState ν} {a : Addr} {v : SVal ν} {e e' : Nat}

theorem sim_withNum {K : ν → M ν α} {K' : ν → SM ν α'} (he : e' = specCode e) (hq : Reads ω k s a v)
    (h : ∀ x, Sim d Q s σ (K x) (K' x)) : Sim d Q s σ (getCell a >>= withNum e K) (withNumS e' K' v) := by
  obtain ⟨_, c, _, hc, hlay⟩ := hq.cell
  refine sim_getCell hc ?_
  cases hlay with
  | num x => exact h x
  | obj _ hop | fn _ hop | cls _ hop | exc _ hop => rw [withNumS_opaque _ _ hop]; exact sim_rt' e e' he
  | _ => exact sim_rt' e e' he

theorem sim_withBool {K : Bool → M ν α} {K' : Bool → SM ν α'} (he : e' = specCode e) (hq : Reads ω k s a v)
    (h : ∀ b, Sim d Q s σ (K b) (K' b)) : Sim d Q s σ (getCell a >>= withBool e K) (withBoolS e' K' v) := by
  obtain ⟨_, c, _, hc, hlay⟩ := hq.cell
  refine sim_getCell hc ?_
  cases hlay with
  | bool b => exact h b
  | obj _ hop | fn _ hop | cls _ hop | exc _ hop => rw [withBoolS_opaque _ _ hop]; exact sim_rt' e e' he
  | _ => exact sim_rt' e e' he

end operands

/-- a cell kind other than the expected one: close the goal by `t` once `h` has been used up — `h` an equation for `v`, an
existential with such an equation as its second or third component, or a pair whose second component says that `v` is opaque -/
macro "reject " h:ident v:ident " with " t:term : tactic =>
  `(tactic| first
    | (subst $h; exact $t)
    | (obtain ⟨_, rfl, _⟩ := $h; exact $t)
    | (obtain ⟨_, _, rfl, _⟩ := $h; exact $t)
    | (obtain ⟨_, hop⟩ := $h; cases $v:ident <;> simp [isOpaque] at hop <;> exact $t))

end ZnVerif.Proofs
