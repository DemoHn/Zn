/-
Bridge (A) ↔ (B), symbol table: the evaluator model's embedded scope (`Model.Scope` of `Model/Interp.lean`: a list of
symbols, newest first, and a depth) against the array/counter model of pkg/runtime/scope.go (`SymTab.Scope` of
`Model/Scope.lean`).  Both are read as the list of live symbols; the lemmas below show that every operation of (A) is
the list reading of the corresponding operation of (B).  Core Lean only.
-/
import ZnVerif.Model.Interp
import ZnVerif.Proofs.Scope

namespace ZnVerif.Proofs.Bridges
open ZnVerif ZnVerif.Model ZnVerif.Proofs.Scope
open ZnVerif.SymTab (GoRes)

/-- a live symbol of (B) — `locals[i]`, `values[i]`, `externalRefs[i]` — written as a symbol of (A) -/
def toSym (e : Entry Addr) : Sym :=
  { name := e.sym.name, depth := e.sym.depth, isConst := e.sym.isConst, ext := e.ext.map Int.ofNat, val := e.value }

/-- what both models are compared on: the live symbols, newest first (name, depth, const, module of origin, value)
and the current depth -/
structure ScopeView where
  syms : List Sym
  depth : Int

/-- (A): the state is its own view -/
def absI (sc : Model.Scope) : ScopeView := ⟨sc.syms, sc.depth⟩

/-- (B): the symbols `localCount-1 … 0` with their values and `externalRefs` entries -/
def absB (σ : SymTab.Scope Addr) : ScopeView := ⟨(live σ).map toSym, σ.currentDepth⟩

/-- same live symbols in the same order with the same name / depth / const / ext / value, same current depth -/
def R (sc : Model.Scope) (σ : SymTab.Scope Addr) : Prop := absI sc = absB σ

theorem R.syms {sc : Model.Scope} {σ : SymTab.Scope Addr} (h : R sc σ) : sc.syms = (live σ).map toSym :=
  congrArg ScopeView.syms h

theorem R.depth {sc : Model.Scope} {σ : SymTab.Scope Addr} (h : R sc σ) : sc.depth = σ.currentDepth :=
  congrArg ScopeView.depth h

theorem R.mk' {sc : Model.Scope} {σ : SymTab.Scope Addr} (h1 : sc.syms = (live σ).map toSym)
    (h2 : sc.depth = σ.currentDepth) : R sc σ := by
  unfold R absI absB; rw [h1, h2]

theorem R_new : R ({} : Model.Scope) (SymTab.Scope.new : SymTab.Scope Addr) := rfl

theorem find_map (L : List (Entry Addr)) (name : String) :
    (L.map toSym).find? (·.name == name) = (L.find? (nameIs name)).map toSym := by
  rw [List.find?_map]
  congr 2

theorem scan_map (sc : Model.Scope) (name : String) (L : List (Entry Addr)) :
    Model.Scope.declare.scan sc name (L.map toSym) = declClash name sc.depth L := by
  induction L with
  | nil => rfl
  | cons e L ih =>
    simp only [List.map_cons, Model.Scope.declare.scan, declClash]
    by_cases hd : e.sym.depth < sc.depth
    · simp [toSym, hd]
    · by_cases hn : e.sym.name = name ∧ e.sym.depth = sc.depth
      · simp [toSym, hn.1, hn.2]
      · have hb : ((toSym e).name == name && (toSym e).depth == sc.depth) = false := by
          simp only [toSym, Bool.and_eq_false_iff, beq_eq_false_iff_ne, ne_eq]
          by_cases h1 : e.sym.name = name
          · exact .inr (fun h2 => hn ⟨h1, h2⟩)
          · exact .inl h1
        have hd' : ¬ (toSym e).depth < sc.depth := hd
        simp only [hd', hd, hn, hb, if_false, Bool.false_eq_true]
        exact ih

theorem setGo_map (name : String) (v : Addr) (L : List (Entry Addr)) :
    Model.Scope.set.go name v (L.map toSym) =
      match L.find? (nameIs name) with
      | none => none
      | some e => if e.sym.isConst then some (.error (.rt 44)) else some (.ok ((setFirst L name v).map toSym)) := by
  induction L with
  | nil => rfl
  | cons e L ih =>
    simp only [List.map_cons, Model.Scope.set.go]
    by_cases hn : e.sym.name = name
    · have h1 : ((toSym e).name == name) = true := by simp [toSym, hn]
      have h2 : nameIs name e = true := by simp [nameIs, hn]
      simp only [h1, if_true, List.find?, h2, setFirst, hn]
      by_cases hc : e.sym.isConst = true
      · simp [toSym, hc]
      · simp [toSym, hc]
    · have h1 : ((toSym e).name == name) = false := by simp [toSym, hn]
      have h2 : nameIs name e = false := by simp [nameIs, hn]
      simp only [h1, Bool.false_eq_true, if_false, List.find?, h2, setFirst, hn, ih]
      cases L.find? (nameIs name) with
      | none => rfl
      | some e' =>
        by_cases hc : e'.sym.isConst = true
        · simp [hc]
        · simp [hc]

/-! ## one operation: same answer, related states

Hypotheses are the parts of (B)'s invariant `Sim` that each lemma really uses: `WF` (the two slices are at least
`localCount` long — without it (B) indexes out of range and panics, (A) has no such state), and for a plain
declaration `RefsOK` (no `externalRefs` entry at or above `localCount`: scope.go never deletes entries, so a popped
import would otherwise lend its module id to the next symbol declared at that index — see
`stale_ref_disagreement` in `Properties/Bridges.lean`). -/

theorem sim_beginScope {sc : Model.Scope} {σ : SymTab.Scope Addr} (h : R sc σ) : R sc.beginScope σ.beginScope := by
  apply R.mk'
  · exact h.syms
  · show sc.depth + 1 = σ.currentDepth + 1
    rw [h.depth]

/-- `EndScope` needs no depth guard to agree: below depth 0 both models go to −1 and drop every symbol -/
theorem sim_endScope {sc : Model.Scope} {σ : SymTab.Scope Addr} (h : R sc σ) (hwf : WF σ) :
    ∃ σ', σ.endScope = .ok σ' ∧ R sc.endScope σ' ∧ WF σ' := by
  obtain ⟨σ', he, hwf', hdep, hlive, _⟩ := endScope_live hwf
  refine ⟨σ', he, R.mk' ?_ ?_, hwf'⟩
  · show sc.syms.dropWhile (fun sy => decide (sy.depth > sc.depth - 1)) = _
    rw [hlive, h.syms, h.depth, List.dropWhile_map]; rfl
  · show sc.depth - 1 = _
    rw [hdep, h.depth]

theorem sim_find {sc : Model.Scope} {σ : SymTab.Scope Addr} (h : R sc σ) (hwf : WF σ) (name : String) :
    σ.getValue name = .ok ((sc.find name).map (·.val)) := by
  unfold Model.Scope.find
  rw [getValue_live hwf, h.syms, find_map]
  cases (live σ).find? (nameIs name) <;> rfl

/-- what `GetValueWithModuleID` answers for a symbol of (A): its value and its module of origin, −1 when it has none -/
def symModule (sy : Sym) : Int := match sy.ext with | some m => m | none => -1

def findM (sc : Model.Scope) (name : String) : Option Addr × Int :=
  match sc.find name with
  | some sy => (some sy.val, symModule sy)
  | none => (none, -1)

theorem sim_findM {sc : Model.Scope} {σ : SymTab.Scope Addr} (h : R sc σ) (hwf : WF σ) (name : String) :
    σ.getValueWithModuleID name = .ok (findM sc name) := by
  unfold findM Model.Scope.find
  rw [getValueWithModuleID_live hwf, h.syms, find_map]
  cases hf : (live σ).find? (nameIs name) with
  | none => rfl
  | some e => cases hx : e.ext <;> simp [toSym, symModule, hx, Spec.Scopes.extID]

/-- (A)'s `Except Err` answers and (B)'s `GoRes` answers, compared by error code -/
def RelRes (r : Except Err Model.Scope) (g : GoRes (SymTab.Scope Addr)) : Prop :=
  match r, g with
  | .ok sc', .ok σ' => R sc' σ' ∧ WF σ'
  | .error e, .err c => e = .rt c
  | _, _ => False

theorem sim_declare_of_live {sc : Model.Scope} {σ : SymTab.Scope Addr} (h : R sc σ) (name : String) (v : Addr) (c : Bool)
    (x : Option Nat) {g : GoRes (SymTab.Scope Addr)} (hg : Declared σ name v c x g) :
    RelRes (sc.declare name v c (x.map Int.ofNat)) g := by
  unfold Model.Scope.declare
  rw [h.syms, scan_map, h.depth]
  cases hg with
  | clash hcl => rw [if_pos hcl]; rfl
  | @fresh σ' hcl hwf' hdep' _ hlive =>
    rw [if_neg (by simp [hcl])]
    refine ⟨R.mk' ?_ hdep'.symm, hwf'⟩
    show _ :: (live σ).map toSym = _
    rw [hlive]; rfl

theorem sim_declare {sc : Model.Scope} {σ : SymTab.Scope Addr} (h : R sc σ) (hwf : WF σ) (hrefs : RefsOK σ)
    (name : String) (v : Addr) (c : Bool) :
    RelRes (sc.declare name v c none) (σ.declareValueC name v c) :=
  sim_declare_of_live h name v c none (declareValueC_live hwf hrefs name v c)

theorem sim_declareExt {sc : Model.Scope} {σ : SymTab.Scope Addr} (h : R sc σ) (hwf : WF σ)
    (name : String) (v : Addr) (m : Nat) :
    RelRes (sc.declare name v true (some (m : Int))) (σ.declareExternalValue name v m) :=
  sim_declare_of_live h name v true (some m) (declareExternalValue_live hwf name v m)

theorem sim_set {sc : Model.Scope} {σ : SymTab.Scope Addr} (h : R sc σ) (hwf : WF σ) (name : String) (v : Addr) :
    RelRes (sc.set name v) (σ.setValue name v) := by
  have hspec := setValue_live hwf name v
  generalize σ.setValue name v = g at hspec
  unfold Model.Scope.set
  rw [h.syms, setGo_map]
  unfold live
  cases hspec with
  | unbound hfind => rw [hfind]; rfl
  | const hfind hc => simp only [hfind, hc, if_true]; rfl
  | set hfind hc hsize _ hlive =>
    simp only [hfind, hc, Bool.false_eq_true, if_false]
    exact ⟨R.mk' (congrArg (List.map toSym) hlive).symm h.depth, hwf.set_values hsize⟩

end ZnVerif.Proofs.Bridges
