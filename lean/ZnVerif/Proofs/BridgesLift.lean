/-
How an answer of the pure container model `Model/Containers.lean` is read in the evaluator's monad, and how an
evaluator computation is run past its steps that leave the state alone (reading the receiver's cell, the argument
checks, the comparisons).
-/
import ZnVerif.Model.Containers
import ZnVerif.Proofs.HeapSites
set_option linter.unusedSectionVars false

namespace ZnVerif.Proofs.Bridges
open ZnVerif ZnVerif.Model

variable {ν : Type} [NumOps ν]

/-- answer of a pure container primitive as an outcome of the evaluator: error by code, panic as panic -/
def liftC {β : Type} : Containers.Res β → M ν β
  | .ok v => pure v
  | .err c => rtErr c
  | .panic => goPanic

def storeArr (a : Addr) : Containers.Res (List Addr) → M ν Unit
  | .ok l => setCell a (.arr l)
  | .err c => rtErr c
  | .panic => goPanic

/-- `空` for "no element" (Go: `NewNull()`), the element itself otherwise -/
def answerOpt : Option Addr → M ν Addr
  | some x => pure x
  | none => newNull

/-- what 合并 does with one argument: read the list cell, duplicate every item -/
def copyItems (n : Nat) (v : Addr) : M ν (List Addr) := do
  match ← getCell v with
  | .arr xs => xs.mapM (dup n)
  | _ => goPanic

theorem storeArr_ok_inv {a : Addr} {r : Containers.Res (List Addr)} {s s' : VM ν} (h : storeArr a r s = (.ok (), s')) :
    ∃ l, r = .ok l ∧ a < s.heap.size ∧ s' = { s with heap := s.heap.set! a (.arr l) } := by
  cases r with
  | ok l => obtain ⟨h1, h2⟩ := setCell_ok_inv h; exact ⟨l, rfl, h1, h2⟩
  | err c => cases h
  | panic => cases h

variable {α β : Type}

theorem run_same {m : M ν α} (hm : Pres Same m) (s : VM ν) : m s = ((m s).1, s) :=
  Prod.ext rfl (hm.run s _ _ rfl)

theorem bind_same_congr {m : M ν α} (hm : Pres Same m) {f g : α → M ν β} {s : VM ν} (h : ∀ a, f a s = g a s) :
    (m >>= f) s = (m >>= g) s := by
  simp only [bind]
  rw [run_same hm s]
  cases (m s).1 <;> simp only [h]

theorem bind_same_ok {m : M ν α} (hm : Pres Same m) {f : α → M ν β} {s : VM ν} {a : α} (h : (m s).1 = .ok a) :
    (m >>= f) s = f a s := by
  simp only [bind]
  rw [run_same hm s, h]

theorem bind_same_ok_inv {m : M ν α} (hm : Pres Same m) {f : α → M ν β} {s s' : VM ν} {r : β}
    (h : (m >>= f) s = (.ok r, s')) : ∃ a, m s = (.ok a, s) ∧ f a s = (.ok r, s') := by
  obtain ⟨a, s1, h1, h2⟩ := Calls.bind_ok_inv h
  cases hm.run s _ _ h1
  exact ⟨a, h1, h2⟩

theorem bind_congr_fun {m : M ν α} {f g : α → M ν β} (h : ∀ a s, f a s = g a s) (s : VM ν) :
    (m >>= f) s = (m >>= g) s := by
  rw [show f = g from funext fun a => funext (h a)]

theorem validateExact_len (vals : List Addr) (tys : List String) (s : VM ν) (h : vals.length ≠ tys.length) :
    validateExact vals tys s = (.err (.rt 53), s) := by
  unfold validateExact
  rw [if_pos h]
  rfl

end ZnVerif.Proofs.Bridges
