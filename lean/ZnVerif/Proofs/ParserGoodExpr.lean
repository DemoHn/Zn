/-
The production lemmas of `step_good`, part 1: the operator levels of an expression (ParseExpression down to the `* /` level, heads and tails), the callee
tail, ParseMemberExpr and its tail.  ParseBasicExpr is in part 2.
-/
import ZnVerif.Proofs.ParserGood

namespace ZnVerif.Proofs.ParserGood
open ZnVerif.Model ZnVerif.Model.Parser ZnVerif.Generated.ParserTables
open ZnVerif.Spec.Grammar ZnVerif.Proofs.ParserHoare

-- the operator tables only yield operator codes of ast.go
theorem logic_valid : ∀ t ∈ lv3ValidTypes, validLogic (lookupD logicTypeMap t 0) := by decide
theorem addsub_valid : ∀ t ∈ addSubTypes, validArith (lookupD addSubOverride t addSubDefault) := by decide
theorem muldiv_valid : ∀ t ∈ mulDivTypes, validArith (lookupD mulDivTypeMap t 0) := by decide

variable {σ : Type} {ops : LexOps σ} {B : Nat} {μ : σ → Nat} {I : σ → Prop} (hl : LexOK ops B μ I) {n : Nat} {rec : Rec σ}
  (hg : Good ops B μ I n rec)
include hl hg

omit hl in
theorem pLv1_good (cfg : Bool) : GoodAt ops B μ I (n + 1) (.expr cfg) (pLv1 rec cfg) := by
  intro s hs _
  apply hg.bindS (.refl hs) (.lv2 cfg) rfl trivial (Or.inr (by simp [rank]))
  intro el s1 a1 hc1
  apply hg.callN a1 (.lv1Tail cfg el) hc1 (Or.inl rfl)
  intro r s2 a2 hc2
  exact a2.post hc2

theorem pLv1Tail_good (cfg : Bool) (el : Expr) : GoodAt ops B μ I (n + 1) (.lv1Tail cfg el) (pLv1Tail ops n rec cfg el) := by
  intro s hs (hpre : CExpr el)
  apply tryConsume_bind hl (.refl hs) (by decide)
  · intro s1 a1 _
    exact a1.post_le rfl (fun h => h.elim) hpre
  · intro tk s1 a1 _
    apply hg.bindS a1 (.lv2 cfg) rfl trivial (Or.inl rfl)
    intro r s2 a2 hc2
    apply lineOf_bind
    intro l
    apply hg.callN a2 (.lv1Tail cfg _) (.logic _ _ _ _ (by decide) hpre hc2) (Or.inl rfl)
    intro r' s3 a3 hc3
    exact a3.post hc3

omit hl in
theorem pLv2_good (cfg : Bool) : GoodAt ops B μ I (n + 1) (.lv2 cfg) (pLv2 rec cfg) := by
  intro s hs _
  apply hg.bindS (.refl hs) (.lv3 cfg) rfl trivial (Or.inr (by simp [rank]))
  intro el s1 a1 hc1
  apply hg.callN a1 (.lv2Tail cfg el) hc1 (Or.inl rfl)
  intro r s2 a2 hc2
  exact a2.post hc2

theorem pLv2Tail_good (cfg : Bool) (el : Expr) : GoodAt ops B μ I (n + 1) (.lv2Tail cfg el) (pLv2Tail ops n rec cfg el) := by
  intro s hs (hpre : CExpr el)
  apply tryConsume_bind hl (.refl hs) (by decide)
  · intro s1 a1 _
    exact a1.post_le rfl (fun h => h.elim) hpre
  · intro tk s1 a1 _
    apply hg.bindS a1 (.lv3 cfg) rfl trivial (Or.inl rfl)
    intro r s2 a2 hc2
    apply lineOf_bind
    intro l
    apply hg.callN a2 (.lv2Tail cfg _) (.logic _ _ _ _ (by decide) hpre hc2) (Or.inl rfl)
    intro r' s3 a3 hc3
    exact a3.post hc3

theorem pLv3_good (cfg : Bool) : GoodAt ops B μ I (n + 1) (.lv3 cfg) (pLv3 ops n rec cfg) := by
  intro s hs _
  apply hg.bindS (.refl hs) (.lv4 cfg) rfl trivial (Or.inr (by simp [rank]))
  intro el s1 a1 hc1
  apply tryConsume_bind hl a1 (by decide)
  · intro s2 a2 _
    exact a2.post hc1
  · intro tk s2 a2 hmem
    apply hg.bindS a2 (.lv4 cfg) rfl trivial (Or.inl rfl)
    intro r s3 a3 hc3
    apply lineOf_bind
    intro l
    exact a3.post (.logic _ _ _ _ (logic_valid _ hmem) hc1 hc3)

theorem pLv4_good (cfg : Bool) : GoodAt ops B μ I (n + 1) (.lv4 cfg) (pLv4 Variant.fixed ops n rec cfg) := by
  intro s hs _
  apply hg.bindS (.refl hs) .arith rfl trivial (Or.inr (by simp [rank]))
  intro el s1 a1 hc1
  apply tryConsume_bind hl a1 (by cases cfg <;> decide)
  · intro s2 a2 _
    exact a2.post hc1
  · intro tk s2 a2 hmem
    refine sat_ite.mpr ⟨fun ha => ?_, fun _ => errPeek_sat a2.inv (by decide)⟩
    apply hg.bindS a2 .arith rfl trivial (Or.inl rfl)
    intro r s3 a3 hc3
    apply lineOf_bind
    intro l
    exact a3.post (.assign _ _ _ ha hc1 hc3)

omit hl in
theorem pArith_good : GoodAt ops B μ I (n + 1) .arith (pArith rec) := by
  intro s hs _
  apply hg.bindS (.refl hs) .mulDiv rfl trivial (Or.inr (by simp [rank]))
  intro el s1 a1 hc1
  apply hg.callN a1 (.arithTail el) hc1 (Or.inl rfl)
  intro r s2 a2 hc2
  exact a2.post hc2

theorem pArithTail_good (el : Expr) : GoodAt ops B μ I (n + 1) (.arithTail el) (pArithTail ops n rec el) := by
  intro s hs (hpre : CExpr el)
  apply tryConsume_bind hl (.refl hs) (by decide)
  · intro s1 a1 _
    exact a1.post_le rfl (fun h => h.elim) hpre
  · intro tk s1 a1 hmem
    apply hg.bindS a1 .mulDiv rfl trivial (Or.inl rfl)
    intro r s2 a2 hc2
    apply lineOf_bind
    intro l
    apply hg.callN a2 (.arithTail _) (.arith _ _ _ _ (addsub_valid _ hmem) hpre hc2) (Or.inl rfl)
    intro r' s3 a3 hc3
    exact a3.post hc3

omit hl in
theorem pMulDiv_good : GoodAt ops B μ I (n + 1) .mulDiv (pMulDiv rec) := by
  intro s hs _
  apply hg.bindS (.refl hs) .member rfl trivial (Or.inr (by simp [rank]))
  intro el s1 a1 hc1
  apply hg.callN a1 (.mulDivTail el) hc1 (Or.inl rfl)
  intro r s2 a2 hc2
  exact a2.post hc2

theorem pMulDivTail_good (el : Expr) : GoodAt ops B μ I (n + 1) (.mulDivTail el) (pMulDivTail ops n rec el) := by
  intro s hs (hpre : CExpr el)
  apply tryConsume_bind hl (.refl hs) (by decide)
  · intro s1 a1 _
    exact a1.post_le rfl (fun h => h.elim) hpre
  · intro tk s1 a1 hmem
    apply hg.bindS a1 .member rfl trivial (Or.inl rfl)
    intro r s2 a2 hc2
    apply lineOf_bind
    intro l
    apply hg.callN a2 (.mulDivTail _) (.arith _ _ _ _ (muldiv_valid _ hmem) hpre hc2) (Or.inl rfl)
    intro r' s3 a3 hc3
    exact a3.post hc3

omit hg in
theorem calleeTail_bind {hasRoot : Bool} {rootType : Nat} {root : Expr} {nt : NT} {s0 s : PState σ} {c : Bool} {α : Type}
    {Q : α → PState σ → Prop} {f : Expr → PM σ α} (a : At ops B μ I s0 s c)
    (hk : ∀ i l s', At ops B μ I s0 s' true →
      Sat (f (.member l rootType (if hasRoot then root else .nil) cMemberID (some i) .nil) s') Q (ErrOK B) (n + 1 < need μ nt s0)) :
    Sat ((calleeTail Variant.fixed ops n hasRoot rootType root >>= f) s) Q (ErrOK B) (n + 1 < need μ nt s0) := by
  apply sat_bind.mpr
  apply tryConsume_bind hl a (by decide)
  · intro s1 a1 _
    exact errPeek_sat a1.inv (by decide)
  · intro tk s1 a1 _
    refine sat_bind.mpr (newID_sat fun i => ?_)
    apply lineOf_bind
    intro l
    exact hk i l s1 a1

theorem pMember_good : GoodAt ops B μ I (n + 1) .member (pMember Variant.fixed ops n rec) := by
  intro s hs _
  apply tryConsume_bind hl (.refl hs) (by decide)
  · intro s1 a1 _
    apply hg.bindS a1 .basic rfl trivial (Or.inr (by simp [rank]))
    intro e s2 a2 hc2
    apply hg.callN a2 (.memberTail e) hc2 (Or.inl rfl)
    intro r s3 a3 hc3
    exact a3.post hc3
  · intro tk s1 a1 _
    apply calleeTail_bind hl a1
    intro i _ s2 a2
    apply hg.callN a2 (.memberTail _) (by exact .memberThis _ _) (Or.inl rfl)
    intro r s3 a3 hc3
    exact a3.post hc3

theorem pMemberTail_good (e : Expr) : GoodAt ops B μ I (n + 1) (.memberTail e) (pMemberTail Variant.fixed ops n rec e) := by
  intro s hs (hpre : CExpr e)
  apply tryConsume_bind hl (.refl hs) (by decide)
  · intro s1 a1 _
    exact a1.post_le rfl (fun h => h.elim) hpre
  · intro tk s1 a1 _
    apply lineOf_bind
    intro l
    refine sat_ite.mpr ⟨fun _ => ?_, fun _ => sat_ite.mpr ⟨fun _ => ?_, fun _ => errPeek_sat a1.inv (by decide)⟩⟩
    · -- `#`
      apply tryConsume_bind hl a1 (by decide)
      · intro s2 a2 _
        exact errPeek_sat a2.inv (by decide)
      · intro tk2 s2 a2 hmem
        -- the continuation after the index expression
        have cont : ∀ x s3, At ops B μ I s s3 true → CExpr x →
            Sat (rec (.memberTail (.member l cRootTypeExpr e cMemberIndex none x)) s3)
              (Post ops B μ I (.memberTail e) s) (ErrOK B) (n + 1 < need μ (.memberTail e) s) := by
          intro x s3 a3 hx
          apply hg.callN a3 (.memberTail _) (by exact .memberIdx _ _ _ hpre hx) (Or.inl rfl)
          intro r s4 a4 hc4
          exact a4.post hc4
        apply sat_bind.mpr
        refine sat_ite.mpr ⟨fun _ => ?_, fun _ => sat_ite.mpr ⟨fun _ => ?_, fun _ => sat_ite.mpr ⟨fun _ => ?_, fun _ => ?_⟩⟩⟩
        · exact sat_bind.mpr (newID_sat fun i => cont _ s2 a2 (.id _))
        · apply newString_sat
          intro l' str
          exact cont _ s2 a2 (.str _ _)
        · apply hg.bindS a2 (.expr true) rfl trivial (Or.inl rfl)
          intro x s3 a3 hc3
          apply consume_bind hl a3 (by decide)
          intro s4 a4
          exact cont x s4 a4 hc3
        · -- unreachable: the token type is one of the three
          exfalso
          simp only [List.mem_cons, List.not_mem_nil, or_false] at hmem
          omega
    · apply calleeTail_bind hl a1
      intro i _ s2 a2
      apply hg.callN a2 (.memberTail _) (by exact .memberDot _ _ _ hpre) (Or.inl rfl)
      intro r s3 a3 hc3
      exact a3.post hc3

end ZnVerif.Proofs.ParserGood
