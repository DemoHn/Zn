/-
`compareXEQ` (eval.go compareLogicXEQ, model) against `valEq` (spec) on cells that read as spec values.
-/
import ZnVerif.Proofs.Sim

set_option linter.unusedSectionVars false

namespace ZnVerif.Proofs
open ZnVerif.Model ZnVerif.Spec

variable {ν : Type} [NumOps ν]

/-- outcome of the model comparison on fuel `n` against the spec's `valEq n`, for operands readable within `k`;
`pl` = "only plain values are readable" (then error 83 cannot occur) -/
inductive CmpRel (pl : Prop) (n k : Nat) : Res Bool → Option Bool → Prop
  | ok (b : Bool) : CmpRel pl n k (.ok b) (some b)
  | err : ¬ pl → CmpRel pl n k (.err (.rt 83)) none
  | fuel : n < k → CmpRel pl n k .fuel none

theorem CmpRel.succ {pl : Prop} {n k : Nat} {X : Res Bool} {o : Option Bool} (h : CmpRel pl n k X o) :
    CmpRel pl (n+1) (k+1) X o := by
  cases h with
  | ok b => exact .ok b
  | err h => exact .err h
  | fuel h => exact .fuel (Nat.succ_lt_succ h)

theorem foldl_stuck {κ} (F : Option Bool → κ → Option Bool) (hF2 : ∀ r k, r ≠ some true → F r k = r) :
    ∀ (ks : List κ) (r : Option Bool), r ≠ some true → ks.foldl F r = r
  | [], _, _ => rfl
  | k :: ks, r, hr => by
    simp only [List.foldl_cons, hF2 r k hr]
    exact foldl_stuck F hF2 ks r hr

/-- `allM` (stop at the first `false`/error) against a fold that keeps the first answer other than `some true` -/
theorem allM_foldl_sim {ι κ} {pl : Prop} {n k0 : Nat} (s : VM ν) (f : ι → M ν Bool) (g : κ → Option Bool)
    (F : Option Bool → κ → Option Bool) (hF1 : ∀ k, F (some true) k = g k) (hF2 : ∀ r k, r ≠ some true → F r k = r) :
    ∀ (is : List ι) (ks : List κ), Forall2 (fun i k => ∃ X, f i s = (X, s) ∧ CmpRel pl n k0 X (g k)) is ks →
      ∃ X, allM f is s = (X, s) ∧ CmpRel pl n k0 X (ks.foldl F (some true))
  | _, _, .nil => ⟨.ok true, rfl, .ok true⟩
  | i :: is, k :: ks, .cons ⟨X, hX, hR⟩ rest => by
    simp only [List.foldl_cons, hF1, allM]
    rw [Calls.M_bind_def, hX]
    generalize hg : g k = gk at hR
    cases hR with
    | ok b =>
      cases b with
      | true =>
        simp only [if_true]
        exact allM_foldl_sim s f g F hF1 hF2 is ks rest
      | false =>
        rw [foldl_stuck F hF2 ks _ (by simp)]
        exact ⟨.ok false, rfl, .ok false⟩
    | err h =>
      rw [foldl_stuck F hF2 ks _ (by simp)]
      exact ⟨_, rfl, .err h⟩
    | fuel hlt =>
      rw [foldl_stuck F hF2 ks _ (by simp)]
      exact ⟨_, rfl, .fuel hlt⟩

theorem Forall2.zip {α β γ δ} {R : α → β → Prop} {S : γ → δ → Prop} :
    ∀ {as bs cs ds}, Forall2 R as bs → Forall2 S cs ds →
      Forall2 (fun (p : α × γ) (q : β × δ) => R p.1 q.1 ∧ S p.2 q.2) (as.zip cs) (bs.zip ds)
  | _, _, _, _, .nil, _ => by simp; exact .nil
  | _, _, _, _, .cons _ _, .nil => by simp; exact .nil
  | _, _, _, _, .cons r rest, .cons s rest' => by
    simp only [List.zip_cons_cons]
    exact .cons ⟨r, s⟩ (Forall2.zip rest rest')

/-! ### the right-hand dictionary: model `lookup` in the cell against spec `lookupA` in the value -/

theorem lookupA_cases {child : Addr → Option (SVal ν)} (rv : List (String × Addr)) :
    ∀ (ks : List String) (ys : List (String × SVal ν)),
      Forall2 (fun key (kv : String × SVal ν) => kv.1 = key ∧ ∃ a, lookup key rv = some a ∧ child a = some kv.2) ks ys →
      ∀ key, (key ∉ ks ∧ lookupA key ys = none) ∨
        ∃ b v, lookup key rv = some b ∧ lookupA key ys = some v ∧ child b = some v
  | _, _, .nil, _ => .inl ⟨List.not_mem_nil, rfl⟩
  | k0 :: ks, (k1, v1) :: ys, .cons ⟨h1, a, h2, h3⟩ rest, key => by
    subst h1
    by_cases h : key = k1
    · subst h; exact .inr ⟨a, v1, h2, by simp [lookupA], h3⟩
    · rcases lookupA_cases rv ks ys rest key with ⟨hn, hl⟩ | ⟨b, v, hb, hl, hv⟩
      · exact .inl ⟨by simp [h, hn], by simp [lookupA, h, hl]⟩
      · exact .inr ⟨b, v, hb, by simp [lookupA, h, hl], hv⟩

/-! ### the plain types: a cell and the value it reads as are of the same one, operands of different ones are unequal -/

/-- the plain type of a cell (number, text, boolean, 空, list, dictionary); `none` for objects, methods, types, exceptions -/
def cellTag : Cell ν → Option Nat
  | .num _ => some 0
  | .str _ => some 1
  | .bool _ => some 2
  | .null => some 3
  | .arr _ => some 4
  | .hm _ _ => some 5
  | _ => none

def valTag : SVal ν → Option Nat
  | .num _ => some 0
  | .str _ => some 1
  | .bool _ => some 2
  | .null => some 3
  | .list _ => some 4
  | .dict _ => some 5
  | _ => none

theorem valTag_of_opaque {v : SVal ν} (h : isOpaque v = true) : valTag v = none := by
  cases v <;> first | rfl | cases h

theorem Layer.tag {ω child : Addr → Option (SVal ν)} {a : Addr} {c : Cell ν} {v : SVal ν} (h : Layer ω child a c v) :
    cellTag c = valTag v := by
  cases h with
  | obj _ hop | fn _ hop | cls _ hop | exc _ hop => exact (valTag_of_opaque hop).symm
  | _ => rfl

theorem Layer.untagged {ω child : Addr → Option (SVal ν)} {a : Addr} {c : Cell ν} {v : SVal ν} (h : Layer ω child a c v)
    (ht : cellTag c = none) : ω a = some v := by
  cases h with
  | obj hw | fn hw | cls hw | exc hw => exact hw
  | _ => cases ht

theorem compareXEQ_tags_differ (n : Nat) (s : VM ν) (l r : Addr) (cl cr : Cell ν)
    (hl : s.heap[l]? = some cl) (hr : s.heap[r]? = some cr) (t : Nat)
    (h1 : cellTag cl = some t) (h2 : cellTag cr ≠ some t) : compareXEQ (n+1) l r s = (.ok false, s) := by
  refine (Calls.getCell_bind _ hl).trans ((Calls.getCell_bind _ hr).trans ?_)
  cases cl <;> cases h1 <;> cases cr <;> first | rfl | exact absurd rfl h2

theorem compareXEQ_untagged_left (n : Nat) (s : VM ν) (l r : Addr) (cl cr : Cell ν)
    (hl : s.heap[l]? = some cl) (hr : s.heap[r]? = some cr) (h1 : cellTag cl = none) :
    compareXEQ (n+1) l r s = (.err (.rt 83), s) := by
  refine (Calls.getCell_bind _ hl).trans ((Calls.getCell_bind _ hr).trans ?_)
  cases cl <;> first | rfl | cases h1

theorem valEq_tags_differ (n : Nat) (a b : SVal ν) (t : Nat)
    (h1 : valTag a = some t) (h2 : valTag b ≠ some t) : valEq (n+1) a b = some false := by
  cases a <;> cases h1 <;> cases b <;> first | rfl | exact absurd rfl h2

theorem valEq_untagged_left (n : Nat) (a b : SVal ν) (ha : valTag a = none) : valEq (n+1) a b = none := by
  cases a <;> first | rfl | cases ha

def stepList (n : Nat) : Option Bool → SVal ν × SVal ν → Option Bool := fun acc p =>
  match acc with
  | some true => valEq n p.1 p.2
  | r => r

def stepDict (n : Nat) (ys : List (String × SVal ν)) : Option Bool → String × SVal ν → Option Bool := fun acc kv =>
  match acc with
  | some true => match lookupA kv.1 ys with
    | some v => valEq n kv.2 v
    | none => some false
  | r => r

theorem valEq_list (n : Nat) (xs ys : List (SVal ν)) : valEq (n+1) (.list xs) (.list ys) =
    if xs.length ≠ ys.length then some false else (xs.zip ys).foldl (stepList n) (some true) := rfl

theorem valEq_dict (n : Nat) (xs ys : List (String × SVal ν)) : valEq (n+1) (.dict xs) (.dict ys) =
    if xs.length ≠ ys.length then some false else xs.foldl (stepDict n ys) (some true) := rfl

theorem stepList_stuck (n : Nat) (r : Option Bool) (p : SVal ν × SVal ν) (hr : r ≠ some true) : stepList n r p = r := by
  cases r with
  | none => rfl
  | some b => cases b <;> first | rfl | exact absurd rfl hr

theorem stepDict_stuck (n : Nat) (ys : List (String × SVal ν)) (r : Option Bool) (p : String × SVal ν) (hr : r ≠ some true) :
    stepDict n ys r p = r := by
  cases r with
  | none => rfl
  | some b => cases b <;> first | rfl | exact absurd rfl hr

theorem cmp_sim (ω : Addr → Option (SVal ν)) (s : VM ν) : ∀ (n k : Nat) (l r : Addr) (a b : SVal ν),
    contentW ω k s.heap l = some a → contentW ω k s.heap r = some b →
    ∃ X, compareXEQ n l r s = (X, s) ∧ CmpRel (∀ x, ω x = none) n k X (valEq n a b)
  | 0, k, l, r, a, b, hl, _ => ⟨.fuel, rfl, .fuel (contentW_pos hl)⟩
  | n+1, 0, l, r, a, b, hl, _ => by simp [contentW] at hl
  | n+1, k+1, l, r, a, b, hl, hr => by
    obtain ⟨cl, hcl, ll⟩ := (contentW_succ_iff ω k _ _ _).1 hl
    obtain ⟨cr, hcr, lr⟩ := (contentW_succ_iff ω k _ _ _).1 hr
    have ih := fun l r a b => cmp_sim ω s n k l r a b
    cases ht : cellTag cl with
    | none =>
      refine ⟨_, compareXEQ_untagged_left n s l r cl cr hcl hcr ht, ?_⟩
      rw [valEq_untagged_left n a b (ll.tag ▸ ht)]
      exact .err fun h => by have := ll.untagged ht; rw [h] at this; cases this
    | some t =>
    by_cases htr : cellTag cr = some t
    · -- operands of the same plain type
      rw [show compareXEQ (n+1) l r s = _ from (Calls.getCell_bind _ hcl).trans (Calls.getCell_bind _ hcr)]
      cases cl <;> cases ht <;> cases cr <;> cases htr <;> cases ll <;> cases lr
      iterate 4 exact ⟨_, rfl, .ok _⟩
      next xs ys as hxs bs hys =>
        rw [valEq_list]
        simp only [hxs.length_eq, hys.length_eq]
        split
        · exact ⟨_, rfl, .ok _⟩
        · exact allM_foldl_sim (n := n) (k0 := k) s _ (fun (p : SVal ν × SVal ν) => valEq n p.1 p.2) (stepList n)
            (fun _ => rfl) (stepList_stuck n) _ _ ((hxs.zip hys).imp fun p q ⟨h1, h2⟩ => ih _ _ _ _ h1 h2)
            |>.imp fun X hX => ⟨hX.1, hX.2.succ⟩
      next lv lo rv ro xs hlo hxs ys hro hys =>
        rw [valEq_dict]
        have e1 : lv.length = xs.length := by rw [← hxs.length_eq, hlo]; simp
        have e2 : rv.length = ys.length := by rw [← hys.length_eq, hro]; simp
        simp only [e1, e2]
        split
        · exact ⟨_, rfl, .ok _⟩
        · subst hro
          refine allM_foldl_sim (n := n) (k0 := k) s _
            (fun (kv : String × SVal ν) => match lookupA kv.1 ys with
              | some v => valEq n kv.2 v
              | none => some false) (stepDict n ys)
            (fun _ => rfl) (stepDict_stuck n ys) _ _ (hxs.imp fun key kv ⟨h1, a, h2, h3⟩ => ?_)
            |>.imp fun X hX => ⟨hX.1, hX.2.succ⟩
          subst h1
          rcases lookupA_cases rv _ ys hys kv.1 with ⟨hn, hn'⟩ | ⟨b, v, hb, hv, hbv⟩
          · simp only [(lookup_eq_none_iff _ rv).2 hn, hn']; exact ⟨_, rfl, .ok _⟩
          · simp only [hb, hv, h2]; exact ih _ _ _ _ h3 hbv
    · refine ⟨_, compareXEQ_tags_differ n s l r cl cr hcl hcr t ht htr, ?_⟩
      rw [valEq_tags_differ n a b t (ll.tag ▸ ht) (lr.tag ▸ htr)]
      exact .ok false

end ZnVerif.Proofs
