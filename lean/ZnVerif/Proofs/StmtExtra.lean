/-
Token-level round trip with layout, part 6b: the block form of 令, and 导入 statements.
-/
import ZnVerif.Proofs.StmtBlock

namespace ZnVerif.Proofs.StmtRT
open ZnVerif.Model ZnVerif.Model.Parser ZnVerif.Generated.Tokens
open ZnVerif.Spec.StmtSyntax

variable {Y : Layout} {v : Variant}

theorem linPairs_heads {d : Nat} {ps : List (Nat × List Ident × Expr)} {tp : List Token} (h : LinPairs Y d ps tp) :
    Heads Y d [cTypeIdentifier] tp := by
  cases h with
  | nil => exact heads_nil d _
  | cons asg ids ti e te ps tp hi hasg he hg hind hp hsep =>
    intro _
    have hfi := linIds_facts hi
    have : Y.peek ((ti ++ asg :: te) ++ tp) = Y.peek ti := by
      rw [List.append_assoc, peek_append hfi.1]
    rw [this]
    exact ⟨by simp [hfi.2], hind⟩

/-- the loop of the block form of 令 -/
theorem pairs_roundtrip {d : Nat} {ps : List (Nat × List Ident × Expr)} {tp : List Token} (h : LinPairs Y d ps tp) :
    ∀ (s s' : PState (List Token)) (acc : List (Nat × List Ident × Expr)),
      Walk Y false s tp s' → (tp ≠ [] → s'.flag = true) → BlockEnd Y d s' →
      Stable v Y (.varDeclLoop d acc) s (.ok (acc ++ ps) s') (16 * tp.length + 22) := by
  induction h with
  | nil =>
    intro s s' acc hw _ hf
    refine stable_of 1 (by omega) fun m hn => ?_
    obtain rfl := hw.nil
    refine andThen (getS_S _) ?_
    simp only [hf.cond, Bool.false_eq_true, if_false, List.append_nil]
    rfl
  | cons asg ids ti e te ps tp hi hasg he hg hind hp hsep ih =>
    intro s s' acc hw hb hf
    refine stable_of 3 (by omega) fun m hn => ?_
    have hfi := linIds_facts hi
    simp only [List.length_cons, List.length_append] at hn
    obtain ⟨s1, h1, h2⟩ := hw.append
    have hfl' := hb (by simp)
    have hfl := flag_mid h1 h2 (by simp) hsep fun _ => hfl'
    obtain ⟨hp0, hi0⟩ := h1.peek (by simp)
    rw [peek_append hfi.1] at hp0 hi0
    refine andThen (getS_S _) ?_
    rw [if_pos (blockCond_peek (s := s) (by rw [hp0, hfi.2]; decide) (hi0.trans hind))]
    refine andThen rfl (andThen (tryConsume_stops (s := { s with flag := false }) (m + 2) (.of_type (hp0 ▸ hfi.2 : s.p2.type = _)))
      (andThen (vdPair_rt (v := v) hi hasg he (h1.fresh (by simp) hg)
          ⟨(stmtEnd_mid h2 (linPairs_heads hp) (by decide) hf.toStmt).nc, Or.inl hfl⟩ m (by omega) (by omega))
        (andThen (endOfStmt_ok (Or.inl hfl))
          ((ih s1 s' (acc ++ [(vdTypeOf asg, ids, e)]) h2 (fun _ => hfl') hf (m + 2) (by omega)).trans ?_))))
    rw [List.append_assoc]
    rfl

/-- `令：` and its pairs -/
theorem stmt_declBlock {d : Nat} {kw colon : Token} {ps : List (Nat × List Ident × Expr)} {tp : List Token}
    (hk : kw.type = cTypeDeclareW) (hcol : colon.type = cTypeFuncCall) (hg : Y.Glued [kw, colon]) (hind : Y.ind colon = d)
    (hne : tp ≠ []) (hp : LinPairs Y (d + 1) ps tp) :
    CStmt v Y d (.varDecl (Y.sl kw) ps) (kw :: colon :: tp) := by
  intro s s' hw hfl ha
  refine stable_of 4 (by omega) fun m hn => ?_
  simp only [List.length_cons] at hn
  obtain ⟨s0, s1, h0, hr, hw⟩ := Walk.header [colon] (b := tp) hw hg
  exact statement_kw (v := v) (m + 2) (.varDecl 0 ps) hk h0 (Or.inl hfl)
    (andThen (tryConsume_tok (m + 1) hcol hr) (andThen (expectBlockIndent_reads hr hind ((linPairs_heads hp).at hw hne).2)
      (andThen (pairs_roundtrip (v := v) hp s1 s' [] hw (fun _ => hfl) ha.inner (m + 2) (by omega)) rfl)))

/-- token types that can follow a 导入 statement: the end of input, another 导入, the first token of the body -/
def afterImport : List Nat := cTypeEOF :: cTypeImportW :: cTypeInputW :: cTypeCatchErrorW :: stmtHeads

theorem linImport_facts {im : Import} {t1 : List Token} (h : LinImport Y im t1) :
    ∃ kw r, t1 = kw :: r ∧ kw.type = cTypeImportW ∧ r ≠ [] := by
  cases h with
  | plain kw nm hk _ _ => exact ⟨kw, [nm], rfl, hk, by simp⟩
  | items kw nm dot ids ti hk _ _ _ _ => exact ⟨kw, nm :: dot :: ti, rfl, hk, by simp⟩

theorem linImport_line {im : Import} {kw : Token} {r : List Token} (h : LinImport Y im (kw :: r)) : im.line = Y.sl kw := by
  cases h <;> rfl

theorem linImport_glued {im : Import} {t1 : List Token} (h : LinImport Y im t1) : Y.Glued t1 := by
  cases h with
  | plain _ _ _ _ hg => exact hg
  | items _ _ _ _ _ _ _ _ _ hg => exact hg

/-- `ParseImportStmt` after 导入: the node, its line still 0 (`ParseProgram` sets it afterwards) -/
theorem import_rt {im : Import} {kw : Token} {r : List Token} (h : LinImport Y im (kw :: r)) {s0 s1 : PState (List Token)}
    (hr : Reads Y s0 r s1) (hnext : s1.p2.type ∈ afterImport) (m : Nat) (hm : r.length + 1 ≤ m + 1) :
    parse v (layoutOps Y) (m + 2) .importStmt s0 = .ok { im with line := 0 } s1 := by
  have hnc : ∀ ty ∈ [cTypeLibString, cTypeString] ++ [cTypeObjDotW, cTypeObjDotIIW], ty ≠ cTypeCommaSep := by decide
  cases h with
  | plain _ nm hk hnm hg =>
    exact andThen (tryConsume_reads m hnm (hnc _ (List.mem_append_left _ hnm)) hr)
      (andThen (tryConsume_stops (m + 1) (.of_mem hnext)) rfl)
  | items _ nm dot ids ti hk hnm hdot hi hg =>
    obtain ⟨s2, h2, hr⟩ := hr.cons
    obtain ⟨s3, h3, h4⟩ := hr.cons
    exact andThen (tryConsume_reads m hnm (hnc _ (List.mem_append_left _ hnm)) h2)
      (andThen (tryConsume_reads m hdot (hnc _ (List.mem_append_right _ hdot)) h3)
        (andThen (ids_roundtrip (v := v) hi s3 s1 [] h4 (.of_mem hnext) (m + 1)
          (by simp only [List.length_cons] at hm; omega)) rfl))

/-- the 导入 tokens of a token list -/
def importKws (ts : List Token) : List Token := ts.filter (fun t => t.type = cTypeImportW)

theorem linIds_no_importKw {ids : List Ident} {ts : List Token} (h : LinIds Y ids ts) : importKws ts = [] := by
  induction h with
  | one t ht => simp [importKws, ht]; decide
  | cons t p ids ts ht hp _ ih =>
    have h1 : decide (t.type = cTypeImportW) = false := by rw [ht]; decide
    have h2 : decide (p.type = cTypeImportW) = false := by rw [hp]; decide
    unfold importKws at ih ⊢
    rw [List.filter_cons, h1, List.filter_cons, h2]
    exact ih

/-- a rendered 导入 statement holds exactly one 导入 token, its first, and the node carries that token's line -/
theorem linImport_kw {im : Import} {t1 : List Token} (h : LinImport Y im t1) : (importKws t1).map Y.sl = [im.line] := by
  have hmem : ∀ (t : Token) (l : List Nat), t.type ∈ l → cTypeImportW ∉ l → decide (t.type = cTypeImportW) = false := by
    intro t l h1 h2
    simp only [decide_eq_false_iff_not]
    intro h; rw [h] at h1; exact h2 h1
  cases h with
  | plain kw nm hk hnm _ =>
    have h2 := hmem nm _ hnm (by decide)
    simp [importKws, hk, h2]
  | items kw nm dot ids ti hk hnm hdot hi _ =>
    have h2 := hmem nm _ hnm (by decide)
    have h3 := hmem dot _ hdot (by decide)
    have h4 := linIds_no_importKw hi
    unfold importKws at h4 ⊢
    rw [List.filter_cons, List.filter_cons, List.filter_cons, h2, h3, h4]
    simp [hk]

theorem sepRun_no_importKw {a : Option Token} {seps : List Token} (h : SepRun Y a seps) : importKws seps = [] := by
  induction h with
  | nil a => rfl
  | cons a t r ht _ _ ih =>
    have h1 : decide (t.type = cTypeImportW) = false := by rw [ht]; decide
    unfold importKws at ih ⊢
    rw [List.filter_cons, h1]
    exact ih

theorem linImports_lines {d : Nat} {ims : List Import} {ti : List Token} (h : LinImports Y d ims ti) :
    ims.map (·.line) = (importKws ti).map Y.sl := by
  induction h with
  | nil => rfl
  | cons im t1 seps ims t2 h1 _ hs _ ih =>
    have := linImport_kw h1
    have hs' := sepRun_no_importKw hs
    unfold importKws at this ih hs' ⊢
    rw [List.filter_append, List.filter_append, hs', List.nil_append, List.map_append, this, List.map_cons, ih]
    rfl

theorem linImports_heads {d : Nat} {ims : List Import} {ti : List Token} (h : LinImports Y d ims ti) :
    Heads Y d [cTypeImportW] ti := by
  cases h with
  | nil => exact heads_nil d _
  | cons im t1 seps ims t2 h1 hind _ h2 =>
    obtain ⟨kw, r, rfl, hk, _⟩ := linImport_facts h1
    exact .cons hk hind

/-- the `；` after a 导入 statement are read: no statement line break before any of them -/
theorem sepRun_reads {a : Option Token} {seps : List Token} (h : SepRun Y a seps) :
    ∀ {s s' : PState (List Token)}, Walk Y false s seps s' → s.flag = Y.jf a s.p2 → Reads Y s seps s' := by
  induction h with
  | nil a => exact fun hw _ => hw
  | cons a t r ht hj _ ih =>
    intro s s' ⟨p1, x, fl, hs, _, ho, hw⟩ hfl
    subst hs
    exact ⟨p1, x, fl, rfl, fun _ => hfl.trans hj, ho, ih hw rfl⟩

/-- `for { tryConsume(；) }` after a 导入 statement: it swallows the run of `；` and stops at what follows — anything that is
not a `；`, or a `；` after a statement line break -/
theorem swallow_seps : ∀ (seps : List Token) {s s' : PState (List Token)} (k m : Nat), (∀ t ∈ seps, t.type = cTypeStmtSep) →
    Reads Y s seps s' → Stops [cTypeStmtSep] s' → seps.length + 1 ≤ k →
    swallowAll (layoutOps Y) (m + 1) [cTypeStmtSep] k s = .ok () s'
  | [], s, s', k, m, _, hr, hs, hk => by
    obtain rfl := hr.nil
    obtain ⟨k', rfl⟩ : ∃ k', k = k' + 1 := ⟨k - 1, by simp only [List.length_nil] at hk; omega⟩
    exact andThen (tryConsume_stops (m + 1) hs) rfl
  | t :: r, s, s', k, m, hall, hr, hs, hk => by
    obtain ⟨k', rfl⟩ : ∃ k', k = k' + 1 := ⟨k - 1, by simp only [List.length_cons] at hk; omega⟩
    obtain ⟨s1, h1, h2⟩ := hr.cons
    exact andThen (tryConsume_tok m (hall t (List.mem_cons_self ..)) h1) <| swallow_seps r k' m (fun u hu => hall u (List.mem_cons_of_mem _ hu)) h2 hs (by simp only [List.length_cons] at hk; omega)

theorem sepRun_all {a : Option Token} {seps : List Token} (h : SepRun Y a seps) : ∀ t ∈ seps, t.type = cTypeStmtSep := by
  induction h with
  | nil a => intro t ht; cases ht
  | cons a t r ht _ _ ih =>
    intro u hu
    rcases List.mem_cons.mp hu with rfl | hu
    · exact ht
    · exact ih u hu

/-- `ParseProgram`'s loop over the 导入 statements: it comes to the same loop after them, with the imports collected -/
theorem imports_roundtrip {d : Nat} {ims : List Import} {ti : List Token} (h : LinImports Y d ims ti) :
    ∀ (s s' : PState (List Token)) (acc : List Import) (r : Res (List Token) Program) (n : Nat),
      Walk Y false s ti s' → s'.p2.type ∈ afterImport → (s'.p2.type = cTypeStmtSep → s'.flag = true) →
      Stable v Y (.programLoop d false (acc ++ ims) none) s' r n →
      Stable v Y (.programLoop d false acc none) s r (n + 16 * ti.length) := by
  induction h with
  | nil =>
    intro s s' acc r n hw _ _ hk
    obtain rfl := hw.nil
    rw [List.append_nil] at hk
    exact Stable.mono hk (Nat.le_add_right _ _)
  | cons im t1 seps ims t2 h1 hind hsr h2 ih =>
    intro s s' acc r n hw hnext hsep hk
    obtain ⟨kw, t1r, rfl, hkw, hne⟩ := linImport_facts h1
    refine stable_of 3 (by simp only [List.length_append, List.length_cons]; omega) fun m hn => ?_
    simp only [List.length_append, List.length_cons] at hn
    obtain ⟨s1, hw1, hw⟩ := hw.append
    obtain ⟨s2, hw2, hw3⟩ := hw.append
    obtain ⟨s0, h0, hr⟩ := hw1.glued (linImport_glued h1)
    obtain ⟨hp, hi⟩ := h0.peek (by simp)
    -- what follows the 导入 statement and its `；`: the next 导入, or what follows the import section
    have hnext2 : s2.p2.type ∈ afterImport ∧ Stops [cTypeStmtSep] s2 := by
      by_cases h2e : t2 = []
      · subst h2e; obtain rfl := hw3.nil
        refine ⟨hnext, (Stops.of_mem (F := []) hnext).1, ?_⟩
        by_cases hty : s'.p2.type = cTypeStmtSep
        · exact Or.inl (hsep hty)
        · exact Or.inr (by simpa using hty)
      · have hty := ((linImports_heads h2).at hw3 h2e).1
        exact ⟨(by decide : ∀ ty ∈ [cTypeImportW], ty ∈ afterImport) _ hty, .of_mem hty⟩
    have hnext' : s1.p2.type ∈ afterImport := by
      cases seps with
      | nil => obtain rfl := hw2.nil; exact hnext2.1
      | cons t r =>
        rw [(hw2.peek (by simp)).1]
        show t.type ∈ afterImport
        rw [sepRun_all hsr t (List.mem_cons_self ..)]; decide
    have hline : ({ ({ im with line := 0 } : Import) with line := Y.sl kw } : Import) = im := by
      rw [← linImport_line h1]
    refine andThen (getS_S _) ?_
    rw [if_pos (blockCond_peek (s := s) (by rw [hp]; show kw.type ≠ _; rw [hkw]; decide) (hi.trans hind))]
    refine andThen rfl (andThen (tryConsume_tok (m + 1) hkw h0.unset) (andThen (import_rt (v := v) h1 hr hnext' m (by omega))
      (andThen (lineOf_S kw _) ?_)))
    rw [hline]
    exact andThen (swallow_seps seps (m + 2) (m + 1) (sepRun_all hsr) (sepRun_reads hsr hw2 (hw1.flag (by simp))) hnext2.2 (by omega))
      (ih s2 s' (acc ++ [im]) r n hw3 hnext hsep (by rw [List.append_assoc]; exact hk) (m + 2) (by omega))

end ZnVerif.Proofs.StmtRT
