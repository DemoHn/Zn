/-
The module loader of `Model/Interp.lean` (`evalImport`, `execAnotherModule`, `loadModule`, `runProgramWith`) keeps every
relation the evaluator keeps, provided the relation also tolerates a change of the dependency graph and the
`BeginScope` of `execAnotherModule`'s last step (`LoaderPrims`).  Generic in `R`, like `Balance.allPres`.
Declares into `namespace ZnVerif.Proofs.Balance`, like Proofs/Balance.lean.
-/
import ZnVerif.Proofs.BalanceMutual

namespace ZnVerif.Proofs.Balance
open ZnVerif.Model

variable {ν : Type} [NumOps ν]

/-- what the loader needs beyond the evaluator's primitives -/
class LoaderPrims (R : VM ν → VM ν → Prop) : Prop extends ScopePrims0 R where
  graph : ∀ (s : VM ν) g, R s { s with graph := g }
  /-- `AddModule` after `FindModuleByName` has failed for the name -/
  pushModule : ∀ (s : VM ν) (m : Module), findModuleByName m.name s = none → R s { s with modules := s.modules.push m }
  beginBoundScope : Pres R (beginBoundScope (ν := ν))

section loader
variable {R : VM ν → VM ν → Prop} [LoaderPrims R]

attribute [instance] LoaderPrims.beginBoundScope

instance Pres.allocateModule (name : String) (hp : Bool) : Pres R (allocateModule (ν := ν) name hp) := by
  constructor; intro s; unfold Model.allocateModule; split
  · exact PreRel.refl _
  · rename_i hnone
    simp only
    refine PreRel.trans (R := R) (LoaderPrims.pushModule s { name := name, hasProgram := hp } hnone) ?_
    refine PreRel.trans (R := R) (LoaderPrims.graph _ (if s.csModuleID ≥ 0 then s.graph ++ [(s.csModuleID, (s.modules.size : Int))] else s.graph)) ?_
    exact Stable0.stack (R := R) _ s.stack (s.modules.size : Int)

instance Pres.addModuleDependency (dep : Nat) : Pres R (addModuleDependency (ν := ν) dep) := by
  unfold Model.addModuleDependency
  exact Pres.modifyVM fun s => LoaderPrims.graph s _

instance Pres.checkDependency (name : String) : Pres R (checkDependency (ν := ν) name) := by
  constructor; intro s; unfold Model.checkDependency
  split
  · exact PreRel.refl _
  · split <;> exact PreRel.refl _

theorem Pres.bindImports (ext : Nat) (items : List Ident) : Pres R (bindImports (ν := ν) ext items) := by
  unfold Model.bindImports
  pres_tac
attribute [instance] Pres.bindImports

instance Pres.addLibExports (ext : Nat) (names : List String) : Pres R (addLibExports (ν := ν) ext names) := by
  unfold Model.addLibExports
  pres_tac

instance Pres.importStd (libs : LibTable) (name : String) : Pres R (importStd (ν := ν) libs name) := by
  unfold Model.importStd
  pres_tac

theorem Pres.execAnotherModule (files : FileTable) (evalProg : Program → M ν Addr) (hev : ∀ p, Pres R (evalProg p))
    (name : String) : Pres R (execAnotherModule files evalProg name) := by
  unfold Model.execAnotherModule
  pres_tac

theorem Pres.evalImport (libs : LibTable) (load : String → M ν Nat) (hl : ∀ n, Pres R (load n)) (im : Import) :
    Pres R (evalImport libs load im) := by
  unfold Model.evalImport
  pres_tac

theorem Pres.evalProgram (fuel : Nat) (imp : Import → M ν Unit) (hi : ∀ im, Pres R (imp im)) (p : Program)
    (inputs : List (String × Cell ν)) : Pres R (evalProgram fuel imp p inputs) := by
  unfold Model.evalProgram
  have := allPres (ν := ν) (R := R) fuel  -- the instance `AllPres R fuel` through which `pres_tac` finds `evalExecBlock`
  pres_tac

theorem Pres.loadModule (files : FileTable) (libs : LibTable) (fuel : Nat) :
    ∀ (k : Nat) (name : String), Pres R (loadModule (ν := ν) files libs fuel k name)
  | 0, _ => Pres.outOfFuel
  | k+1, name => by
    rw [Model.loadModule]
    exact Pres.execAnotherModule files _
      (fun p => Pres.evalProgram fuel _ (Pres.evalImport libs _ (Pres.loadModule files libs fuel k)) p []) name

theorem Pres.importWith (files : FileTable) (libs : LibTable) (fuel : Nat) (im : Import) :
    Pres R (importWith (ν := ν) files libs fuel im) :=
  Pres.evalImport libs _ (Pres.loadModule files libs fuel fuel) im

/-- the machine in which `runProgramWith` starts: 主模块 allocated as module 0 (`EvalMainModule` does so without looking the
name up — the module table is empty then) -/
def mainAllocated (s : VM ν) : VM ν :=
  { s with modules := s.modules.push { name := "主模块", hasProgram := true }, csModuleID := 0 }

/-- `EvalMainModule` after the allocation: script frame, program, pop -/
def mainRun (files : FileTable) (libs : LibTable) (fuel : Nat) (p : Program) (inputs : List (String × Cell ν)) : M ν Addr := do
  pushFrame { moduleId := 0, callType := 1 }
  let r ← evalProgram fuel (importWith files libs fuel) p inputs
  popFrame
  pure r

theorem runProgramWith_eq (files : FileTable) (libs : LibTable) (fuel : Nat) (p : Program) (inputs : List (String × Cell ν))
    (s : VM ν) :
    runProgramWith files libs fuel p inputs s = mainRun files libs fuel p inputs (mainAllocated s) := rfl

theorem Pres.mainRun (files : FileTable) (libs : LibTable) (fuel : Nat) (p : Program) (inputs : List (String × Cell ν)) :
    Pres R (mainRun (ν := ν) files libs fuel p inputs) := by
  unfold Balance.mainRun
  have := Pres.evalProgram (R := R) fuel _ (Pres.importWith files libs fuel) p inputs
  pres_tac

theorem Pres.runProgramWith (files : FileTable) (libs : LibTable) (fuel : Nat) (p : Program)
    (inputs : List (String × Cell ν)) (hmain : ∀ s : VM ν, R s (mainAllocated s)) :
    Pres R (runProgramWith (ν := ν) files libs fuel p inputs) :=
  ⟨fun s => PreRel.trans (hmain s) ((Pres.mainRun files libs fuel p inputs).run _)⟩

end loader

end ZnVerif.Proofs.Balance
