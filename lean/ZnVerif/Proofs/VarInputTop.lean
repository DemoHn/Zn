/-
Helper lemmas for the input-variable theorems, in three parts.  Totality (C10VarInput): the loops of Model/VarInput.lean
(`evalAssigns`, `evalExpressionTree`, `exprInputsLoop`) keep `VI` and bind cells only (`GoodMap`, `GoodVal`).  The shape checks
(C05VarInput): what `collectAssigns` returns (`collectAssigns_some_iff`, through `asAssign` / `isEmptyStmt`), and that what passes
them in a complete tree is complete (`assert_complete`, `single_complete`).  What a successful text has done: the run relation
`Runs`, `evalAssigns_ok_iff`, and the map it builds (`buildMap`, `lastValue`: the last assignment to a name wins).
-/
import ZnVerif.Proofs.VarInputEval
import ZnVerif.Model.VarInput
set_option linter.unusedSectionVars false

namespace ZnVerif.Proofs.VarInput
open ZnVerif.Model ZnVerif.Model.VarInput ZnVerif.Spec.Grammar

variable {ν : Type} [NumOps ν]

/-- not a panic; the VM handed back satisfies `VI`; every bound value is the address of a cell ("never a nil result") -/
def GoodMap : Outcome ν (List (String × Addr)) → Prop
  | .ok binds s' => VI s' ∧ ∀ b ∈ binds, b.2 < s'.heap.size
  | .slot _ s' => VI s'
  | .evalErr _ s' => VI s'
  | .panic => False
  | _ => True

def GoodVal : Outcome ν Addr → Prop
  | .ok v s' => VI s' ∧ v < s'.heap.size
  | .slot _ s' => VI s'
  | .evalErr _ s' => VI s'
  | .panic => False
  | _ => True

theorem goodMap_ne_panic {o : Outcome ν (List (String × Addr))} (h : GoodMap o) : ∀ (_ : o = .panic), False := by
  intro he; rw [he] at h; exact h

theorem goodVal_ne_panic {o : Outcome ν Addr} (h : GoodVal o) : ∀ (_ : o = .panic), False := by
  intro he; rw [he] at h; exact h

theorem evalAssigns_good (fuel : Nat) : ∀ (pairs : List (Expr × Expr)), (∀ p ∈ pairs, CExpr p.2) →
    ∀ (acc : List (String × Addr)) (s : VM ν), VI s → (∀ b ∈ acc, b.2 < s.heap.size) → GoodMap (evalAssigns fuel pairs acc s)
  | [], _, acc, s, hs, hacc => ⟨hs, hacc⟩
  | (t, e) :: rest, hp, acc, s, hs, hacc => by
    unfold evalAssigns
    cases t with
    | id i =>
      dsimp only
      have h := (allV fuel).eval e s (hp (.id i, e) List.mem_cons_self) hs
      rcases hr : evalExpr fuel e s with ⟨r, s'⟩
      rw [hr] at h
      cases r with
      | ok v =>
        dsimp only
        refine evalAssigns_good fuel rest (fun p hpm => hp p (List.mem_cons_of_mem _ hpm)) _ s' h.inv (fun b hb => ?_)
        rcases mem_assocSet hb with rfl | hb
        · exact h.val rfl
        · exact Nat.lt_of_lt_of_le (hacc b hb) h.rel.size
      | err er => exact h.inv
      | panic => exact (h.ne_panic rfl).elim
      | fuel => trivial
      | unmodelled => trivial
    | _ => exact hs

/-- one entry: fine, and a value comes with a heap that has only grown (earlier entries' values stay cells) -/
theorem evalExpressionTree_good (fuel : Nat) (p : Program) (s : VM ν) (hs : VI s)
    (hc : ∀ e, assertSingleExpr p = some e → CExpr e) :
    GoodVal (evalExpressionTree fuel p s) ∧
      ∀ v s', evalExpressionTree fuel p s = .ok v s' → s.heap.size ≤ s'.heap.size := by
  unfold evalExpressionTree
  cases ha : assertSingleExpr p with
  | none => exact ⟨hs, nofun⟩
  | some e =>
    dsimp only
    have h := (allV fuel).eval e s (hc e ha) hs
    rcases hr : evalExpr fuel e s with ⟨r, s'⟩
    rw [hr] at h
    cases r with
    | ok v => exact ⟨⟨h.inv, h.val rfl⟩, fun _ _ he => by cases he; exact h.rel.size⟩
    | err er => exact ⟨h.inv, nofun⟩
    | panic => exact (h.ne_panic rfl).elim
    | fuel => exact ⟨trivial, nofun⟩
    | unmodelled => exact ⟨trivial, nofun⟩

theorem exprInputsLoop_good {α : Type} (evalOne : α → VM ν → Outcome ν Addr) :
    ∀ (entries : List (String × α)),
      (∀ x ∈ entries, ∀ s, VI s → GoodVal (evalOne x.2 s) ∧ ∀ v s', evalOne x.2 s = .ok v s' → s.heap.size ≤ s'.heap.size) →
    ∀ (acc : List (String × Addr)) (s : VM ν), VI s → (∀ b ∈ acc, b.2 < s.heap.size) →
      GoodMap (exprInputsLoop evalOne entries acc s)
  | [], _, acc, s, hs, hacc => ⟨hs, hacc⟩
  | (k, x) :: rest, hgood, acc, s, hs, hacc => by
    unfold exprInputsLoop
    obtain ⟨h, hg⟩ := hgood (k, x) List.mem_cons_self s hs
    dsimp only at h hg
    cases hr : evalOne x s with
    | ok v s' =>
      rw [hr] at h
      dsimp only
      refine exprInputsLoop_good evalOne rest (fun y hy => hgood y (List.mem_cons_of_mem _ hy)) _ s' h.1 (fun b hb => ?_)
      rcases mem_assocSet hb with rfl | hb
      · exact h.2
      · exact Nat.lt_of_lt_of_le (hacc b hb) (hg v s' hr)
    | ioErr c => trivial
    | slot w s' => rw [hr] at h; exact h
    | evalErr e s' => rw [hr] at h; exact h
    | panic => rw [hr] at h; exact h
    | fuel => trivial
    | unmodelled => trivial

def asAssign : Stmt → Option (Expr × Expr)
  | .expr (.assign _ t e) => some (t, e)
  | _ => none

def isEmptyStmt : Stmt → Bool
  | .empty _ => true
  | _ => false

/-- the loop of `assertASTIsVarAssignBlock`, one child at a time: an assignment is collected, an empty statement skipped,
    anything else fails -/
theorem collectAssigns_cons (st : Stmt) (rest : List Stmt) : collectAssigns (st :: rest) =
    match asAssign st with
    | some te => (collectAssigns rest).map (te :: ·)
    | none => if isEmptyStmt st then collectAssigns rest else none := by
  cases st with
  | expr e => cases e <;> first | rfl | (simp only [collectAssigns, asAssign]; cases collectAssigns rest <;> rfl)
  | _ => rfl

theorem collectAssigns_some_iff (stmts : List Stmt) (pairs : List (Expr × Expr)) :
    collectAssigns stmts = some pairs ↔
      (∀ st ∈ stmts, (asAssign st).isSome = true ∨ isEmptyStmt st = true) ∧ pairs = stmts.filterMap asAssign := by
  induction stmts generalizing pairs with
  | nil => exact ⟨fun h => by cases h; exact ⟨nofun, rfl⟩, fun h => h.2 ▸ rfl⟩
  | cons st rest ih =>
    rw [collectAssigns_cons, List.filterMap_cons, List.forall_mem_cons]
    cases hst : asAssign st with
    | some te =>
      simp only [Option.map_eq_some_iff, ih, Option.isSome_some, true_or, true_and]
      constructor
      · rintro ⟨ps, ⟨h1, rfl⟩, rfl⟩; exact ⟨h1, rfl⟩
      · rintro ⟨h1, rfl⟩; exact ⟨_, ⟨h1, rfl⟩, rfl⟩
    | none => cases he : isEmptyStmt st <;> simp [ih]

theorem asAssign_complete {st : Stmt} {t e : Expr} (hc : CStmt st) (h : asAssign st = some (t, e)) : CExpr t ∧ CExpr e := by
  cases st with
  | expr ex =>
    cases ex with
    | assign l t' e' =>
      simp [asAssign] at h
      obtain ⟨rfl, rfl⟩ := h
      cases hc with
      | expr _ hce =>
        cases hce with
        | assign _ _ _ _ ht he => exact ⟨ht, he⟩
    | _ => simp [asAssign] at h
  | _ => simp [asAssign] at h

theorem assert_complete {p : Program} (hc : Complete p) {pairs : List (Expr × Expr)} (h : assertVarAssignBlock p = some pairs) :
    ∀ q ∈ pairs, CExpr q.1 ∧ CExpr q.2 := by
  unfold assertVarAssignBlock at h
  cases hx : p.exec with
  | none => rw [hx] at h; cases h
  | some x =>
    rw [hx] at h
    have hce := hc.2 x hx
    cases hce with
    | mk ins body cs hb _ _ =>
      dsimp only at h
      obtain ⟨_, rfl⟩ := (collectAssigns_some_iff body pairs).mp h
      intro q hq
      obtain ⟨st, hst, hq⟩ := List.mem_filterMap.mp hq
      exact asAssign_complete (hb st hst) hq

theorem single_complete {p : Program} (hc : Complete p) {e : Expr} (h : assertSingleExpr p = some e) : CExpr e := by
  unfold assertSingleExpr at h
  split at h
  · cases h
  · cases h
  · cases h
  · next ins e' cs hne hx =>
    cases h
    have hce := hc.2 _ hx
    cases hce with
    | mk _ _ _ hb _ _ =>
      have := hb (.expr e) List.mem_cons_self
      cases this with
      | expr _ h => exact h
  · cases h

/-- the right-hand sides run one after the other, each in the state the previous one left; `rs` = (target literal, value) in
    order.  Every target is a plain name. -/
inductive Runs (fuel : Nat) : List (Expr × Expr) → VM ν → List (String × Addr) → VM ν → Prop
  | nil (s : VM ν) : Runs fuel [] s [] s
  | cons {i : Ident} {e : Expr} {rest : List (Expr × Expr)} {s s1 s' : VM ν} {v : Addr} {rs : List (String × Addr)} :
      evalExpr fuel e s = (.ok v, s1) → Runs fuel rest s1 rs s' → Runs fuel ((.id i, e) :: rest) s ((i.lit, v) :: rs) s'

/-- `varInputMap[k] = v` for each (k, v) in turn -/
def buildMap (acc : List (String × Addr)) (rs : List (String × Addr)) : List (String × Addr) :=
  rs.foldl (fun a r => assocSet r.1 r.2 a) acc

theorem evalAssigns_ok_iff (fuel : Nat) : ∀ (pairs : List (Expr × Expr)) (acc : List (String × Addr)) (s s' : VM ν)
    (binds : List (String × Addr)),
    evalAssigns fuel pairs acc s = .ok binds s' ↔ ∃ rs, Runs fuel pairs s rs s' ∧ binds = buildMap acc rs
  | [], acc, s, s', binds => by
    unfold evalAssigns
    constructor
    · intro h; cases h; exact ⟨[], .nil s, rfl⟩
    · rintro ⟨rs, hr, rfl⟩; cases hr; rfl
  | (t, e) :: rest, acc, s, s', binds => by
    unfold evalAssigns
    cases t with
    | id i =>
      dsimp only
      rcases hr : evalExpr fuel e s with ⟨r, s1⟩
      cases r with
      | ok v =>
        dsimp only
        rw [evalAssigns_ok_iff fuel rest (assocSet i.lit v acc) s1 s' binds]
        constructor
        · rintro ⟨rs, hrs, rfl⟩
          exact ⟨(i.lit, v) :: rs, .cons hr hrs, rfl⟩
        · rintro ⟨rs, hrs, rfl⟩
          cases hrs with
          | cons h1 h2 =>
            rw [hr] at h1
            cases h1
            exact ⟨_, h2, rfl⟩
      | _ =>
        dsimp only
        constructor
        · intro h; cases h
        · rintro ⟨rs, hrs, _⟩
          cases hrs with
          | cons h1 h2 => rw [hr] at h1; cases h1
    | _ =>
      dsimp only
      constructor
      · intro h; cases h
      · rintro ⟨rs, hrs, _⟩; cases hrs

/-- the value of the LAST (name, value) for `name`: later assignments overwrite earlier ones -/
def lastValue (name : String) : List (String × Addr) → Option Addr
  | [] => none
  | (k, v) :: rest =>
    match lastValue name rest with
    | some w => some w
    | none => if name = k then some v else none

theorem lookup_buildMap (name : String) : ∀ (rs acc : List (String × Addr)),
    lookup name (buildMap acc rs) = match lastValue name rs with | some w => some w | none => lookup name acc
  | [], acc => rfl
  | (k, v) :: rest, acc => by
    have h1 : buildMap acc ((k, v) :: rest) = buildMap (assocSet k v acc) rest := rfl
    have h2 : lastValue name ((k, v) :: rest) =
        match lastValue name rest with | some w => some w | none => if name = k then some v else none := rfl
    rw [h1, h2, lookup_buildMap name rest (assocSet k v acc)]
    cases lastValue name rest with
    | some w => rfl
    | none =>
      dsimp only
      rw [lookup_assocSet]
      by_cases hk : name = k
      · simp [hk]
      · simp [hk]

theorem lastValue_isSome (name : String) : ∀ rs : List (String × Addr),
    (lastValue name rs).isSome = true ↔ name ∈ rs.map Prod.fst
  | [] => by simp [lastValue]
  | (k, v) :: rest => by
    unfold lastValue
    have ih := lastValue_isSome name rest
    cases h : lastValue name rest with
    | some w =>
      rw [h] at ih
      simp only [Option.isSome_some, List.map_cons, List.mem_cons, true_iff]
      exact .inr (ih.mp rfl)
    | none =>
      rw [h] at ih
      dsimp only
      by_cases hk : name = k
      · simp [hk]
      · simp only [hk, if_false, List.map_cons, List.mem_cons, false_or]
        exact ih

theorem runs_targets {fuel : Nat} {pairs : List (Expr × Expr)} {s s' : VM ν} {rs : List (String × Addr)}
    (h : Runs fuel pairs s rs s') :
    rs.length = pairs.length ∧ ∀ k, ∀ (hk : k < pairs.length), ∃ i, (pairs[k]'hk).1 = .id i ∧ (rs[k]?).map Prod.fst = some i.lit := by
  induction h with
  | nil s => exact ⟨rfl, fun k hk => absurd hk (Nat.not_lt_zero _)⟩
  | @cons i e rest s s1 s' v rs h1 h2 ih =>
    refine ⟨by simp [ih.1], fun k hk => ?_⟩
    cases k with
    | zero => exact ⟨i, rfl, rfl⟩
    | succ k =>
      have hk' : k < rest.length := by simpa using hk
      obtain ⟨j, hj1, hj2⟩ := ih.2 k hk'
      exact ⟨j, by simpa using hj1, by simpa using hj2⟩

end ZnVerif.Proofs.VarInput
