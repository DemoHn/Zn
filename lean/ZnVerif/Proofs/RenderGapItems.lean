/-
C03 at character level, free layout (blanks, blank lines, any line end, either indentation: Spec/RenderChars.lean, second part),
lexer part 1: one token.

First the token classes that end by themselves — keywords, punctuation, names between back-ticks, text literals (`dispatch_kw`,
`dispatch_punct`, `dispatch_quoted`, `dispatch_text`): with the cursor on the first character of the spelling (the text from the cursor
on: `here`, Proofs/LexText.lean), whatever follows, the dispatch of `NextToken` answers exactly the item's token and stops right after
the spelling; nothing else of the lexer changes.  Then names and operator marks, which end by what follows them (comments:
Proofs/RenderGapComments.lean).

`dispatch_item_ends`: with the cursor on the first character of the spelling of an item (`Item.WF0`) followed by any text `rest` that
lets the token end there (`Item.Ends`), the dispatch of `NextToken` answers exactly the item's token and stops right after the spelling.
-/
import ZnVerif.Proofs.RenderGapComments

namespace ZnVerif.Proofs.RenderLex
open ZnVerif.Model ZnVerif.Generated ZnVerif.Generated.Tokens
open ZnVerif.Spec ZnVerif.Spec.RenderChars
open ZnVerif.Spec.Segment (kwAt)
open ZnVerif.Spec.Literal (Quote literalSafe encodeSafe)

theorem nameChar_iff (c : Nat) : NameChar c ↔ SegChar c := Iff.rfl

theorem kwAt_of_prefix (kws : List (List Nat × Nat)) (hpf : ∀ a ∈ kws, ∀ b ∈ kws, a.1 <+: b.1 → a = b)
    (k : List Nat × Nat) (hk : k ∈ kws) (r : List Nat) : kwAt kws (k.1 ++ r) = some (k.1.length, k.2) := by
  unfold kwAt
  rw [find?_prefix_free (·.1) kws hpf hk (List.prefix_append _ _)]
  rfl

theorem dispatch_kw (sp : List Nat) (ty : Nat) (hw : (sp, ty) ∈ Keywords.documented) (l : Lexer) (r : List Nat)
    (h : here l = sp ++ r) :
    dispatchToken l = (.ok { type := ty, startIdx := l.cursor, endIdx := l.cursor + sp.length },
      l.setCursor (l.cursor + sp.length)) := by
  obtain ⟨c, sp', rfl⟩ := List.exists_cons_of_ne_nil (documented_spellings_nonempty _ hw)
  have h' : here l = c :: (sp' ++ r) := by simpa using h
  obtain ⟨hc, hr⟩ := here_cons h'
  have hseg : SegChar l.cur := by rw [hc]; exact documented_glyphs _ hw c List.mem_cons_self
  rw [dispatch_seg l hseg, keywordOrIdentifier_eq, hc, hr]
  have := kwAt_of_prefix Keywords.documented documented_prefix_free (c :: sp', ty) hw r
  simp only [List.cons_append] at this
  rw [this]

theorem punct_facts : ∀ p ∈ punctuationTypeMap, scannerOf p.1 = .punct ∧ punctuationTypeMap.lookup p.1 = some p.2 := by decide

theorem dispatch_punct (ch ty : Nat) (hw : (ch, ty) ∈ punctuationTypeMap) (l : Lexer) (r : List Nat)
    (h : here l = ch :: r) :
    dispatchToken l = (.ok { type := ty, startIdx := l.cursor, endIdx := l.cursor + 1 }, l.setCursor (l.cursor + 1)) := by
  obtain ⟨hc, _⟩ := here_cons h
  obtain ⟨f1, f2⟩ := punct_facts _ hw
  rw [dispatchToken_eq, hc, f1]
  unfold parsePunctuations
  rw [hc, f2]
  rfl

theorem dispatch_quoted (cs : List Nat) (hw : ∀ c ∈ cs, isIdentifierChar c = true ∨ c ∈ IdRange.idContinue) (l : Lexer)
    (r : List Nat) (h : here l = cBackTick :: (cs ++ [cBackTick]) ++ r) :
    dispatchToken l = (.ok { type := cTypeIdentifier, literal := cs, startIdx := l.cursor, endIdx := l.cursor + (cs.length + 2) },
      l.setCursor (l.cursor + (cs.length + 2))) := by
  obtain ⟨hc, hr⟩ := here_cons (r := cs ++ cBackTick :: r) (by simpa using h)
  exact Model.dispatch_quoted cs r hw l hc hr

theorem dispatch_text (q : Quote) (t : List Nat) (hw : ∀ c ∈ t, c ≠ runeCR ∧ c ≠ runeLF) (l : Lexer) (r : List Nat)
    (h : here l = literalSafe q t ++ r) :
    dispatchToken l = (.ok { type := q.type, literal := t, startIdx := l.cursor, endIdx := l.cursor + (literalSafe q t).length },
      l.setCursor (l.cursor + (literalSafe q t).length)) := by
  obtain ⟨hc, hr⟩ := here_cons (r := encodeSafe q t ++ q.closer :: r) (by simpa [literalSafe] using h)
  -- no line break in the text: the scanner records no line
  obtain ⟨ls', hrun, hls⟩ := strRun_safe q l.cursor q.type r t.length t rfl l.cursor [] 0 []
  rw [dispatchToken_eq, hc, (quote_scanner q).1]
  show parseString l = _
  rw [parseString_quote q l hc, hr, hrun,
    hls (fun c hc => by simpa [Lines.isBreak, runeCR, runeLF] using hw c hc), strRun_closer]
  simp [strEnd, Lexer.grownTo_nil, literalSafe, Nat.add_assoc]

theorem kwFreeBefore_iff (cs rest : List Nat) :
    kwFreeBefore cs rest = true ↔ ∀ i, i < cs.length → kwAt Keywords.documented (cs.drop i ++ rest) = none := by
  unfold kwFreeBefore
  simp only [List.all_eq_true, List.mem_range, Option.isNone_iff_eq_none]

theorem dispatch_name_ends (cs : List Nat) (hne : cs ≠ []) (hcs : ∀ c ∈ cs, NameChar c) (rest : List Nat)
    (hkf : kwFreeBefore cs rest = true) (hstop : nameStop rest = true) (l : Lexer) (h : here l = cs ++ rest) :
    dispatchToken l = (.ok { type := cTypeIdentifier, literal := cs, startIdx := l.cursor, endIdx := l.cursor + cs.length },
      l.setCursor (l.cursor + cs.length)) := by
  rw [kwFreeBefore_iff] at hkf
  obtain ⟨c, cs', rfl⟩ := List.exists_cons_of_ne_nil hne
  have h' : here l = c :: (cs' ++ rest) := by simpa using h
  obtain ⟨hc, hr⟩ := here_cons h'
  have hcseg : SegChar c := hcs c List.mem_cons_self
  have hseg : SegChar l.cur := by rw [hc]; exact hcseg
  rw [dispatch_seg l hseg, keywordOrIdentifier_eq, hc, hr]
  have hk := hkf 0 (by simp)
  simp only [List.drop_zero, List.cons_append] at hk
  rw [hk]
  dsimp only
  unfold parseIdentifier
  have hid : isIdentifierChar l.cur = true := hseg.1
  simp only [hid, Bool.not_true, Bool.false_eq_true, ↓reduceIte]
  have hkf' : ∀ i, i < cs'.length → kwAt Keywords.documented (cs'.drop i ++ rest) = none := by
    intro i hi
    have := hkf (i + 1) (by simp; omega)
    simpa using this
  rw [ident_run_ends l.cursor rest hstop cs' (fun x hx => hcs x (List.mem_cons_of_mem _ hx)) hkf' l [l.cur] hr
    (by simp; rw [hc]; exact hcseg.solid.2.2)]
  simp [hc, Lexer.setCursor]
  omega

/-- on an operator mark — `/` not before `/` or `*`, which would open a comment — the operator that `parseOperators` reads is the
token -/
theorem dispatch_operator {l l' : Lexer} {tk : Token} (hop : l.cur ∈ markOperators)
    (hsl : l.cur = cSlashOp → l.peek ≠ cSlashOp ∧ l.peek ≠ cMultiplyOp)
    (h : parseOperators l = (.ok (some tk), l')) : dispatchToken l = (.ok tk, l') := by
  have hf : ∀ c ∈ markOperators, (c ≠ cSlashOp → scannerOf c = .op) ∧ (c == cCharZHU) = false ∧
      markPunctuations.contains c = false ∧ markOperators.contains c = true := by decide
  obtain ⟨a1, a2, a5, a6⟩ := hf _ hop
  rw [dispatchToken_eq]
  by_cases e : l.cur = cSlashOp
  · -- `/`: the comment attempt fails and only restores the cursor
    have hcom : parseComment l = (none, l) := by
      unfold parseComment
      simp only [a2, beq_iff_eq.mpr e, beq_eq_false_iff_ne.mpr (hsl e).1, beq_eq_false_iff_ne.mpr (hsl e).2, Bool.false_eq_true,
        ↓reduceIte]
    rw [show scannerOf l.cur = .comment by rw [e]; decide, hcom]
    show nextTokenTail l = _
    unfold nextTokenTail
    simp only [a5, a6, Bool.false_eq_true, ↓reduceIte, h]
  · rw [a1 e, h]

theorem dispatch_arith (l : Lexer) (c d : Nat) (hcm : c ∈ arithOps) (hc : l.cur = c) (hp : l.peek = d)
    (hdel : isDelim d = true) :
    dispatchToken l = (.ok { type := arithTokenType c, startIdx := l.cursor, endIdx := l.cursor + 1 },
      l.setCursor (l.cursor + 1)) := by
  have hd : ∀ x, x = cEqualOp ∨ x = cSlashOp ∨ x = cMultiplyOp → d ≠ x := by
    rintro x (rfl | rfl | rfl) e <;> (subst e; revert hdel; decide)
  have hops := parseOperators_arith l (by rw [hc]; exact hcm)
  rw [hp, beq_eq_false_iff_ne.mpr (hd _ (Or.inl rfl)), show isDelimiter d = true from hdel, hc] at hops
  have hsub : ∀ x ∈ arithOps, x ∈ markOperators := by decide
  refine dispatch_operator (hc ▸ hsub c hcm) (fun _ => hp ▸ ⟨hd _ (.inr (.inl rfl)), hd _ (.inr (.inr rfl))⟩) ?_
  simpa [adv_eq_setCursor] using hops

theorem dispatch_op_ends (sp : List Nat) (ty : Nat) (hw : (sp, ty) ∈ operatorTable) (l : Lexer) (rest : List Nat)
    (h1 : tightMarks.contains sp = true → isDelim (rest.headD 0) = true)
    (h2 : eqLeaders.contains sp = true → rest.headD 0 ≠ cEqualOp) (h : here l = sp ++ rest) :
    dispatchToken l = (.ok { type := ty, startIdx := l.cursor, endIdx := l.cursor + sp.length },
      l.setCursor (l.cursor + sp.length)) := by
  -- what `parseOperators` looks at: the mark's first character and the one after it
  have hc := here_headD h
  have hp := here_peek h
  have e1 : ∀ (c : Nat) (r : List Nat), (c :: r).getD 1 0 = r.headD 0 := fun c r => by cases r <;> rfl
  simp only [operatorTable, List.mem_cons, Prod.mk.injEq, List.not_mem_nil, or_false] at hw
  rcases hw with ⟨rfl, rfl⟩ | ⟨rfl, rfl⟩ | ⟨rfl, rfl⟩ | ⟨rfl, rfl⟩ | ⟨rfl, rfl⟩ | ⟨rfl, rfl⟩ | ⟨rfl, rfl⟩ | ⟨rfl, rfl⟩ |
    ⟨rfl, rfl⟩ | ⟨rfl, rfl⟩ | ⟨rfl, rfl⟩ | ⟨rfl, rfl⟩ | ⟨rfl, rfl⟩ | ⟨rfl, rfl⟩ | ⟨rfl, rfl⟩ | ⟨rfl, rfl⟩
  all_goals
    simp only [List.cons_append, List.nil_append, List.headD_cons, e1] at hc hp
    first
    | -- `= < >` not before `=`, `/=` is no comment, the other marks whatever follows
      refine dispatch_operator (hc ▸ by decide) (fun e => ?_) ?_
      · first | exact absurd (hc ▸ e) (by decide) | exact hp ▸ by decide
      · simp [parseOperators, hc, hp, Lexer.setCursor, Lexer.adv, cRefOp, cAnnotationOp, cHashOp, cEqualOp,
          cLessThanOp, cGreaterThanOp, cIntDivOp, cRemainderOp, cPlusOp, cMinusOp, cMultiplyOp, cSlashOp] <;>
        simpa [cEqualOp] using h2 (by decide)
    | -- `+ - * /`: before a delimiter
      exact dispatch_arith l _ _ (by decide) hc hp (h1 (by decide))

theorem dispatch_item_ends (it : Item) (hw : it.WF0) (rest : List Nat) (he : it.Ends rest) (l : Lexer)
    (h : here l = it.spelling ++ rest) :
    dispatchToken l = (.ok (it.token l.cursor), l.setCursor (l.cursor + it.spelling.length)) := by
  cases it with
  | kw sp ty => exact dispatch_kw sp ty hw l rest h
  | punct ch ty => exact dispatch_punct ch ty hw l rest h
  | op sp ty => exact dispatch_op_ends sp ty hw l rest he.1 he.2 h
  | name cs => exact dispatch_name_ends cs hw.1 hw.2 rest he.1 he.2 l h
  | quoted cs =>
    have := dispatch_quoted cs hw l rest h
    simpa [Item.token, Item.spelling, Item.type, Item.literal] using this
  | text q t => exact dispatch_text q t hw l rest h
  | cmt c => exact dispatch_cmt c hw rest he l h

end ZnVerif.Proofs.RenderLex
