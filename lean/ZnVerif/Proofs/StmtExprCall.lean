/-
Token-level round trip with layout, part 2c: expressions — calls `（f：a、b）得到 X`, `（新建 T：a）`, method calls
`以 x（m：a）、（n）得到 X`, and the nodes they are made of (argument lists, `f：a、b）`, the chain `、（m）…`, the optional 得到).
-/
import ZnVerif.Proofs.StmtExprMember

namespace ZnVerif.Proofs.StmtRT
open ZnVerif.Model ZnVerif.Model.Parser ZnVerif.Generated.Tokens
open ZnVerif.Spec.StmtSyntax

variable {Y : Layout} {v : Variant}

/-- a probe where an optional comma and then something that stops it follow: the comma is swallowed, the probe misses -/
theorem probe_miss (m : Nat) {tys : List Nat} {cm : List Token} {s s' : PState (List Token)} (hcm : CommaOpt cm)
    (h : Reads Y s cm s') (hs : Stops tys s') : tryConsume (layoutOps Y) (m + 1) tys s = .ok none s' := by
  rcases hcm with rfl | ⟨c, hc, rfl⟩
  · obtain rfl := h.nil
    exact tryConsume_stops _ hs
  · rw [tryConsume_reads_comma m tys hc h hs.1]
    exact tryConsume_stops _ hs

/-- state after an optional `得到 X` (ending in `s1`) and an optional comma (ending in `s'`): the comma is swallowed by the probe
for 得到 if there is no 得到, and still pending otherwise -/
def ySt (yl : Option (Token × Token)) (s1 s' : PState (List Token)) : PState (List Token) :=
  match yl with
  | some _ => s1
  | none => s'

theorem ySt_nil (yl : Option (Token × Token)) (s : PState (List Token)) : ySt yl s s = s := by
  cases yl <;> rfl

section
variable {yl : Option (Token × Token)} {cm : List Token} {s s1 s' : PState (List Token)}

/-- `optional 得到 ID`, then an optional comma -/
theorem optYield_rt (hy : YieldOK yl) (hcm : CommaOpt cm) (h1 : Reads Y s (yieldToks yl) s1) (h2 : Reads Y s1 cm s')
    (hs : Stops [cTypeGetResultW] s') (j : Nat) :
    optYield v (layoutOps Y) (j + 1) s = .ok (Y.yieldId yl) (ySt yl s1 s') := by
  cases yl with
  | none =>
    obtain rfl := h1.nil
    exact andThen (probe_miss j hcm h2 hs) rfl
  | some gx =>
    obtain ⟨g, x⟩ := gx
    obtain ⟨s0, hg, hx⟩ := Walk.cons (t := g) (ts := [x]) h1
    exact andThen (tryConsume_tok j hy.1 hg) (andThen (parseID_reads j hy.2 hx) rfl)

theorem ySt_tailEq (e : Expr) (hcm : CommaOpt cm) (h2 : Reads Y s1 cm s') (hnc : s'.p2.type ≠ cTypeCommaSep) :
    TailEq v Y e (ySt yl s1 s') s' := by
  cases yl with
  | none => exact TailEq.refl e _
  | some gx => exact fun r n hn K => tail_comma hcm h2 hnc hn K

end

theorem optYield_miss {s : PState (List Token)} (hs : Stops [cTypeGetResultW] s) (j : Nat) :
    optYield v (layoutOps Y) j s = .ok none s :=
  andThen (tryConsume_stops j hs) rfl

theorem stop_args {e : Expr} {s : PState (List Token)} (hs : Stops (cTypePauseCommaSep :: B1 true) s) : Stops (B1 true ++ FO e) s :=
  hs.mono fun _ h => not_mem_BFO (fun h' => h (List.mem_cons_of_mem _ h')) (fun h' => h (h' ▸ List.mem_cons_self))

theorem args_one {e : Expr} {te : List Token} (Ce : C1 v Y true e te) : ArgsClaim v Y [e] te := by
  intro s s' acc h hs
  refine stable_of 1 (by unfold fN; omega) fun m hn => ?_
  exact andThen (c1_done Ce s s' h (stop_args hs) m (by unfold fN at hn; omega))
    (andThen (tryConsume_stops m (hs.sub fun _ h => by simpa using Or.inl h)) rfl)

theorem args_cons {p : Token} {e : Expr} {te : List Token} {es : List Expr} {ts : List Token}
    (Ce : C1 v Y true e te) (hopen : openEnd e = false) (hp : p.type = cTypePauseCommaSep)
    (Cs : ArgsClaim v Y es ts) : ArgsClaim v Y (e :: es) (te ++ p :: ts) := by
  intro s s' acc h hs
  refine stable_of 2 (by unfold fN; omega) fun m hn => ?_
  simp only [fN, List.length_append, List.length_cons] at hn
  obtain ⟨s1, he, h⟩ := h.append
  obtain ⟨s2, hpp, hr⟩ := h.cons
  have hhead : Stops (B1 true ++ FO e) s1 := by
    rw [show FO e = [] from by unfold FO; simp [hopen], List.append_nil]
    exact hpp.stops_tok hp
  rw [List.append_cons acc e es]
  exact andThen (c1_done Ce s s1 he hhead (m + 1) (by omega)) (andThen (tryConsume_tok m hp hpp)
    (Cs s2 s' (acc ++ [e]) hr hs (m + 1) (by unfold fN; omega)))

/-- `f）` — `fcall_zero_t`, `fcall_args_t` are the cases of the induction, about moves; `fcall_zero`, `fcall_args` of
Proofs/StmtOnStates.lean are their readings on `S`-states -/
theorem fcall_zero_t {f rp : Token} (hf : f.type = cTypeIdentifier) (hr : rp.type = cTypeFuncQuoteR) :
    FcallClaim v Y (Y.idOf f) [] [f, rp] := by
  constructor
  · intro yr s s' j hj h
    obtain ⟨m, rfl⟩ : ∃ m, j = m + 1 := ⟨j - 1, by simp only [List.length_cons, List.length_nil] at hj; omega⟩
    obtain ⟨s1, h1, h2⟩ := h.cons
    exact andThen (parseID_reads m hf h1) (andThen (andThen (tryConsume_stops (m + 1) (h2.stops_tok hr)) rfl)
      (andThen (consume_tok m hr h2) rfl))
  · intro s s' h
    refine stable_of 2 (by unfold fN; omega) fun m hn => ?_
    obtain ⟨s1, h1, h2⟩ := h.cons
    exact andThen (parseID_reads m hf h1) (andThen (tryConsume_stops (m + 1) (h2.stops_tok hr)) (andThen (consume_tok m hr h2) rfl))

theorem fcall_args_t {f colon rp : Token} {es : List Expr} {ta : List Token} (hf : f.type = cTypeIdentifier)
    (hc : colon.type = cTypeFuncCall) (hr : rp.type = cTypeFuncQuoteR) (Ca : ArgsClaim v Y es ta) :
    FcallClaim v Y (Y.idOf f) es (f :: colon :: ta ++ [rp]) := by
  constructor
  · intro yr s s' j hj h
    simp only [List.length_append, List.length_cons, List.length_nil] at hj
    obtain ⟨m, rfl⟩ : ∃ m, j = m + 1 := ⟨j - 1, by omega⟩
    obtain ⟨s1, h1, h⟩ := Walk.cons (ts := colon :: ta ++ [rp]) h
    obtain ⟨s2, h2, h⟩ := Walk.cons (ts := ta ++ [rp]) h
    obtain ⟨s3, h3, h4⟩ := h.append
    exact andThen (parseID_reads m hf h1) (andThen (andThen (tryConsume_tok m hc h2)
      (Ca s2 s3 [] h3 (h4.stops_tok hr) (m + 1) (by unfold fN; omega))) (andThen (consume_tok m hr h4) rfl))
  · intro s s' h
    refine stable_of 2 (by unfold fN; omega) fun m hn => ?_
    simp only [fN, List.length_append, List.length_cons, List.length_nil] at hn
    obtain ⟨s1, h1, h⟩ := Walk.cons (ts := colon :: ta ++ [rp]) h
    obtain ⟨s2, h2, h⟩ := Walk.cons (ts := ta ++ [rp]) h
    obtain ⟨s3, h3, h4⟩ := h.append
    exact andThen (parseID_reads m hf h1) (andThen (tryConsume_tok m hc h2)
      (andThen (Ca s2 s3 [] h3 (h4.stops_tok hr) (m + 1) (by unfold fN; omega)) (andThen (consume_tok m hr h4) rfl)))

theorem chain_nil : CChain v Y [] [] := by
  intro cm s s1 s' acc hcm h1 h2 hs
  refine stable_of 2 (by unfold fN; omega) fun m hn => ?_
  obtain rfl := h1.nil
  rw [List.append_nil]
  exact andThen (probe_miss m hcm h2 hs) rfl

/-- `ParseFuncCallExpr` without 得到 -/
theorem funcCall_plain {n : Ident} {ps : List Expr} {tc : List Token} (Cf : FcallClaim v Y n ps tc) {s s' : PState (List Token)}
    (j : Nat) (hj : 16 * tc.length ≤ j) (h : Reads Y s tc s') :
    parse v (layoutOps Y) (j + 1) (.funcCall false) s = .ok (.call 0 (some n) ps none) s' := by
  rw [Cf.1 false s s' j hj h]
  rfl

theorem chain_cons {p l : Token} {n : Ident} {ps : List Expr} {tc : List Token} {cs : List Expr} {tcs : List Token}
    (hp : p.type = cTypePauseCommaSep) (hl : l.type = cTypeFuncQuoteL) (Cf : FcallClaim v Y n ps tc) (Cc : CChain v Y cs tcs) :
    CChain v Y (.call 0 (some n) ps none :: cs) (p :: l :: tc ++ tcs) := by
  intro cm s s4 s' acc hcm h h5 hs
  refine stable_of 2 (by unfold fN; omega) fun m hn => ?_
  simp only [fN, List.length_append, List.length_cons] at hn
  obtain ⟨s1, h1, h⟩ := Walk.cons (ts := l :: tc ++ tcs) h
  obtain ⟨s2, h2, h⟩ := Walk.cons (ts := tc ++ tcs) h
  obtain ⟨s3, h3, h4⟩ := h.append
  refine andThen (tryConsume_tok m hp h1) (andThen (consume_tok m hl h2) (andThen (funcCall_plain Cf m (by omega) h3) ?_))
  rw [List.append_cons acc _ cs]
  exact Cc cm s3 s4 s' (acc ++ [.call 0 (some n) ps none]) hcm h4 h5 hs (m + 1) (by unfold fN; omega)

/-- the follow set of a method-call chain beside 得到: `、` continues it unless 得到 closed it -/
def yFO : Option (Token × Token) → List Nat
  | none => [cTypePauseCommaSep]
  | some _ => []

theorem FO_mcall (l : Nat) (root : Expr) (chain : List Expr) (yl : Option (Token × Token)) :
    FO (.mcall l root chain (Y.yieldId yl)) = yFO yl := by
  cases yl with
  | none => rfl
  | some gx => rfl

theorem yFO_sub (yl : Option (Token × Token)) : ∀ ty, ty ∈ cTypeGetResultW :: yFO yl → ty ∈ [cTypeGetResultW, cTypePauseCommaSep] := by
  cases yl with
  | none => exact fun _ h => h
  | some gx => exact fun _ h => List.mem_cons.mpr (Or.inl (by simpa [yFO] using h))

section
variable {α : Type} {n : Ident} {ps : List Expr} {tc : List Token} {cs : List Expr} {tcs : List Token}
  {yl : Option (Token × Token)} {cm : List Token} {s s1 s2 s3 s' : PState (List Token)}

/-- the loop of the chain, then the optional 得到 -/
theorem chain_yield (Cc : CChain v Y cs tcs) (hy : YieldOK yl) (hcm : CommaOpt cm) (h2 : Reads Y s tcs s2)
    (h3 : Reads Y s2 (yieldToks yl) s3) (h4 : Reads Y s3 cm s') (hs : Stops (cTypeGetResultW :: yFO yl) s') (j : Nat)
    (hj : fN tcs ≤ j + 1) (acc : List Expr) (k : List Expr → Option Ident → PM (List Token) α) :
    (parse v (layoutOps Y) (j + 1) (.chainLoop acc) >>= fun chain =>
      optYield v (layoutOps Y) (j + 1) >>= fun y => k chain y) s = k (acc ++ cs) (Y.yieldId yl) (ySt yl s3 s') := by
  cases yl with
  | none =>
    obtain rfl := h3.nil
    exact andThen (Cc cm s s3 s' acc hcm h2 h4 (hs.sub (by simp [yFO])) (j + 1) hj)
      (andThen (optYield_miss (hs.sub (by simp)) (j + 1)) rfl)
  | some gx =>
    obtain ⟨g, x⟩ := gx
    exact andThen (Cc [] s s2 s2 acc (Or.inl rfl) h2 rfl (Walk.stops_tok (ts := [x]) h3 hy.1) (j + 1) hj)
      (andThen (optYield_rt (v := v) hy hcm h3 h4 (hs.sub fun ty h => List.mem_cons.mpr (Or.inl (by simpa using h))) j) rfl)

/-- what `ParseMemberFuncCallExpr` and the statement form `以 x（…` do after the `（`: the first call, the chain, the optional 得到
(a `、` may follow when 得到 closed the chain) -/
theorem mcall_tail (Cf : FcallClaim v Y n ps tc) (Cc : CChain v Y cs tcs) (hy : YieldOK yl) (hcm : CommaOpt cm)
    (h1 : Reads Y s tc s1) (h2 : Reads Y s1 tcs s2) (h3 : Reads Y s2 (yieldToks yl) s3) (h4 : Reads Y s3 cm s')
    (hs : Stops (cTypeGetResultW :: yFO yl) s') (j : Nat) (hj : fN tc + fN tcs + 2 ≤ j + 1)
    (k : List Expr → Option Ident → PM (List Token) α) :
    (parse v (layoutOps Y) (j + 1) (.funcCall false) >>= fun f =>
      parse v (layoutOps Y) (j + 1) (.chainLoop [f]) >>= fun chain =>
      optYield v (layoutOps Y) (j + 1) >>= fun y => k chain y) s =
    k (.call 0 (some n) ps none :: cs) (Y.yieldId yl) (ySt yl s3 s') :=
  andThen (funcCall_plain Cf j (by unfold fN at hj; omega) h1)
    (chain_yield Cc hy hcm h2 h3 h4 hs j (by omega) [.call 0 (some n) ps none] k)

end

theorem FO_call (l : Nat) (n : Option Ident) (ps : List Expr) (y : Option Ident) : FO (.call l n ps y) = [] := rfl

/-- `（f：a、b）`, `（f）`, optionally `得到 X` -/
theorem case_call {l : Token} {n : Ident} {ps : List Expr} {tc : List Token} {yl : Option (Token × Token)}
    (hl : l.type = cTypeFuncQuoteL) (hne : tc ≠ []) (hfirst : (Y.peek tc).type = cTypeIdentifier) (Cf : FcallClaim v Y n ps tc)
    (hy : YieldOK yl) : C7 v Y (.call (Y.sl l) (some n) ps (Y.yieldId yl)) (l :: tc ++ yieldToks yl) := by
  have hpos : 0 < tc.length := List.length_pos_iff.mpr hne
  refine c7_of_basic _ _ (by simp) (by show l.type ∈ _; rw [hl]; decide) (16 * tc.length + 2)
    (by unfold D; simp only [List.length_append, List.length_cons]; omega) ?_
  intro cm s s3 s' hcm h h4 hs
  obtain ⟨s1, h1, h⟩ := Walk.cons (ts := tc ++ yieldToks yl) h
  obtain ⟨s2, h2, h3⟩ := h.append
  refine ⟨ySt yl s3 s', stable_of 3 (by omega) fun m hn => ?_, ySt_tailEq _ hcm h4 hs.1⟩
  refine andThen (tryConsume_tok (m + 1) hl h1) ?_
  simp (decide := true) only [hl, if_true, if_false]
  -- no 新建 after the `（`: `ParseFuncCallExpr`, which comes to its optional 得到; then the line of `（`
  exact andThen (andThen (tryConsume_stops (m + 2) (.of_type ((h2.peek hne).1 ▸ hfirst)))
    ((Cf.1 true s1 s2 (m + 1) (by omega) h2).trans
      (andThen (optYield_rt hy hcm h3 h4 (hs.sub fun ty h => List.mem_cons.mpr (Or.inl (by simpa using h))) m) rfl)))
    (andThen (lineOf_S l _) rfl)

/-- `（新建 T：a、b）`, `（新建 T）` -/
theorem case_new {l nw : Token} {n : Ident} {ps : List Expr} {tc : List Token} (hl : l.type = cTypeFuncQuoteL)
    (hnw : nw.type = cTypeObjNewW) (Cf : FcallClaim v Y n ps tc) :
    C7 v Y (.new (Y.sl l) (some n) ps) (l :: nw :: tc) := by
  refine c7_of_basic_plain _ _ (by simp) (by show l.type ∈ _; rw [hl]; decide) (fN tc + 1)
    (by unfold D fN; simp only [List.length_cons]; omega) ?_
  intro s s' h
  refine stable_of 2 (by unfold fN; omega) fun m hn => ?_
  obtain ⟨s1, h1, h⟩ := h.cons
  obtain ⟨s2, h2, h3⟩ := h.cons
  refine andThen (tryConsume_tok m hl h1) ?_
  simp (decide := true) only [hl, if_true, if_false]
  exact andThen (andThen (tryConsume_tok m hnw h2) (Cf.2 s2 s' h3 (m + 1) (by omega))) (andThen (lineOf_S l _) rfl)

/-- `以 x（m：a）、（n）`, optionally `得到 X` -/
theorem case_mcall {kw l : Token} {root : Expr} {tr : List Token} {n : Ident} {ps : List Expr} {tc : List Token}
    {cs : List Expr} {tcs : List Token} {yl : Option (Token × Token)} (hk : kw.type = cTypeVarOneW) (Fr : Facts Y tr)
    (Cr : C1 v Y true root tr) (hl : l.type = cTypeFuncQuoteL) (hne : tc ≠ []) (Cf : FcallClaim v Y n ps tc)
    (Cc : CChain v Y cs tcs) (hy : YieldOK yl) :
    C7 v Y (.mcall (Y.sl kw) root (.call 0 (some n) ps none :: cs) (Y.yieldId yl)) (kw :: tr ++ l :: tc ++ tcs ++ yieldToks yl) := by
  have hpos : 0 < tc.length := List.length_pos_iff.mpr hne
  have hposr : 0 < tr.length := List.length_pos_iff.mpr Fr.ne
  refine c7_of_basic _ _ (by simp) (by show kw.type ∈ _; rw [hk]; decide) (16 * (tr.length + tc.length + tcs.length + 2))
    (by unfold D; simp only [List.length_append, List.length_cons]; omega) ?_
  intro cm s s6 s' hcm h h7 hs
  rw [FO_mcall] at hs
  obtain ⟨s5, h, h6⟩ := h.append
  obtain ⟨s4, h, h5⟩ := h.append
  obtain ⟨s1, h1, h⟩ := Walk.cons (ts := tr ++ l :: tc) h
  obtain ⟨s2, h2, h⟩ := h.append
  obtain ⟨s3, h3, h4⟩ := h.cons
  refine ⟨ySt yl s6 s', stable_of 3 (by omega) fun m hn => ?_, ySt_tailEq _ hcm h7 hs.1⟩
  refine andThen (tryConsume_tok (m + 1) hk h1) ?_
  simp (decide := true) only [hk, if_true, if_false]
  -- `ParseMemberFuncCallExpr`, then the line of 以
  exact andThen (andThen (inner_expr Cr h2 h3 (by rw [hl]; decide) (by rw [hl]; decide) (by rw [hl]; decide) (m + 1) (by omega))
    (andThen (consume_tok m hl h3)
      (mcall_tail Cf Cc hy hcm h4 h5 h6 h7 hs m (by unfold fN; omega) (fun chain y => pure (Expr.mcall 0 root chain y)))))
    (andThen (lineOf_S kw _) rfl)

end ZnVerif.Proofs.StmtRT
