/-
Where loop signals (`.err .sigBreak` / `.err .sigContinue`, Go `*zerr.Signal` of type break / continue) can come
from.  `NoSig m` = whatever state `m` is run in, if it ends with an error that error is not a loop signal.
For the operations outside the mutual block this is part of `Leaf.Runs`; for expressions, calls, method bodies and every
statement other than 结束循环 / 继续循环 / 如果 it is part of the stack-balance induction (`StackBal.allFr`: `evalExecBlock`
turns a signal no loop consumed into an exception, a loop consumes the signals of its body, `StackBal.maySignal`).  What is
proved here is what is left: a statement (block) ends with `.err .sigBreak` / `.err .sigContinue` only if a 结束循环 /
继续循环 stands *lexically* in it, outside every loop of it (`FreeSig`).
-/
import ZnVerif.Proofs.StackBalBlock
import ZnVerif.Proofs.ControlFlow
set_option linter.unusedSectionVars false

namespace ZnVerif.Proofs.LoopSignals
open ZnVerif.Model ZnVerif.Proofs.ControlFlow
open ZnVerif.Proofs.EvalArms (condNode branchOther_eq evalPureStmtBlock_some)

variable {ν : Type} [NumOps ν]

/-- The same predicate on errors as `StackBal.isSig` (on outcomes: `StackBal.resIsSig`).  `NoSig.ofRes` below takes a `nosig` field
stated with it to `NoSig`; `NoSig.run` goes back to `resIsSig`. -/
def Err.isLoopSignal : Err → Bool
  | .sigBreak | .sigContinue => true
  | _ => false

structure NoSig {α} (m : M ν α) : Prop where
  out : ∀ s e s', m s = (.err e, s') → Err.isLoopSignal e = false

/-- `SigOnly P m`: if `m` ends with a loop signal `e` then `P e` -/
structure SigOnly {α} (P : Err → Prop) (m : M ν α) : Prop where
  out : ∀ s e s', m s = (.err e, s') → Err.isLoopSignal e = true → P e

theorem noSig_iff {α} {m : M ν α} : NoSig m ↔ SigOnly (fun _ => False) m :=
  ⟨fun h => ⟨fun s e s' he hs => by rw [h.out s e s' he] at hs; cases hs⟩,
   fun h => ⟨fun s e s' he => by cases hs : Err.isLoopSignal e; rfl; exact (h.out s e s' he hs).elim⟩⟩

theorem SigOnly.mono {α} {P Q : Err → Prop} {m : M ν α} (h : SigOnly P m) (hpq : ∀ e, P e → Q e) : SigOnly Q m :=
  ⟨fun s e s' he hs => hpq e (h.out s e s' he hs)⟩

theorem NoSig.sigOnly {α} {m : M ν α} (h : NoSig m) (P : Err → Prop) : SigOnly P m :=
  (noSig_iff.1 h).mono fun _ => False.elim

/-- the `nosig` field of `Leaf.Runs`, `StackBal.Quiet`, `StackBal.BalNS`, `StackBal.Fr` -/
theorem NoSig.ofRes {α} {m : M ν α} (h : ∀ s, StackBal.resIsSig (m s).1 = false) : NoSig m :=
  ⟨fun s e s' he => by have := h s; rw [he] at this; cases e <;> first | rfl | cases this⟩

theorem NoSig.ofRuns {α} {w : Option Addr} {m : M ν α} (h : Leaf.Runs w m) : NoSig m := .ofRes h.nosig

theorem NoSig.ofLeaf {α} {m : M ν α} (h : Leaf.Leaf none m) : NoSig m := .ofRuns (h.runs none)

theorem NoSig.run {α} {m : M ν α} (hm : NoSig m) {s s' : VM ν} {r : Res α} (h : m s = (r, s')) :
    StackBal.resIsSig r = false := by
  cases r with
  | err e => have := hm.out s e s' h; cases e <;> first | rfl | cases this
  | _ => rfl

theorem NoSig.goPanic {α} : NoSig (goPanic : M ν α) := ⟨fun s e s' h => by cases h⟩
theorem NoSig.outOfFuel {α} : NoSig (outOfFuel : M ν α) := ⟨fun s e s' h => by cases h⟩
theorem NoSig.notModelled {α} : NoSig (notModelled : M ν α) := ⟨fun s e s' h => by cases h⟩
theorem NoSig.modifyVM (f : VM ν → VM ν) : NoSig (modifyVM f) := ⟨fun s e s' h => by cases h⟩
theorem NoSig.alloc (c : Cell ν) : NoSig (alloc c) := ⟨fun s e s' h => by cases h⟩
theorem NoSig.stackDepth : NoSig (stackDepth : M ν Nat) := ⟨fun s e s' h => by cases h⟩
theorem NoSig.unwindTo (d : Nat) : NoSig (unwindTo d : M ν Unit) := NoSig.modifyVM _
theorem NoSig.pure {α} (a : α) : NoSig (pure a : M ν α) := ⟨fun s e s' h => by cases h⟩
theorem NoSig.throwE {α} {e : Err} (h : Err.isLoopSignal e = false) : NoSig (throwE e : M ν α) :=
  ⟨fun s e' s' h' => by cases h'; exact h⟩

theorem NoSig.display : ∀ (n : Nat) (a : Addr), NoSig (display n a : M ν String) :=
  fun n a => .ofLeaf (.display n a)
theorem NoSig.getProperty (n : Nat) (a : Addr) (name : String) : NoSig (getProperty n a name : M ν Addr) :=
  .ofLeaf (.getProperty n a name)
theorem NoSig.setProperty (a : Addr) (name : String) (v : Addr) : NoSig (setProperty a name v : M ν Unit) :=
  .ofRuns (Leaf.runs_setProperty a name v)
theorem NoSig.builtinMethod (n : Nat) (a : Addr) (name : String) (vals : List Addr) :
    NoSig (builtinMethod n a name vals : M ν Addr) :=
  .ofRuns (Leaf.runs_builtinMethod n a name vals)
theorem NoSig.reduceRHS (n : Nat) (iv : Nat × Addr × String × Int) : NoSig (reduceRHS n iv : M ν Addr) :=
  .ofLeaf (.reduceRHS n iv)
theorem NoSig.reduceLHS (iv : Nat × Addr × String × Int) (v : Addr) : NoSig (reduceLHS iv v : M ν Unit) :=
  .ofRuns (Leaf.runs_reduceLHS iv v)

theorem NoSig.evalExecBlock (n : Nat) (blk : Option ExecBlock) (params : List Addr) :
    NoSig (evalExecBlock n blk params : M ν Addr) :=
  .ofRes ((StackBal.allBal n).evalExecBlock blk params).nosig

theorem NoSig.execMethodFunction (n : Nat) (root : Addr) (fname : String) (params : List Addr) :
    NoSig (execMethodFunction n root fname params : M ν Addr) :=
  .ofRes ((StackBal.allBal n).execMethodFunction root fname params).nosig

theorem NoSig.construct (n : Nat) (cv : Addr) (params : List Addr) : NoSig (construct n cv params : M ν Addr) :=
  .ofRes ((StackBal.allBal n).construct cv params).nosig

/-- **expressions never yield a loop signal** (nor does the evaluation of an l-value): whatever an expression calls —
methods, constructors, built-ins — a 结束循环 / 继续循环 executed in there stays in the body where it stands -/
theorem NoSig.evalExpr (n : Nat) (e : Expr) : NoSig (evalExpr n e : M ν Addr) :=
  .ofRes ((StackBal.allBal n).evalExpr e).nosig
theorem NoSig.memberIV (n : Nat) (e : Expr) : NoSig (memberIV n e : M ν (Nat × Addr × String × Int)) :=
  .ofRes ((StackBal.allBal n).memberIV e).nosig

theorem SigOnly.comap {α} {P : Err → Prop} {m k : M ν α} {f : VM ν → VM ν} (h : ∀ s, m s = k (f s))
    (hk : SigOnly P k) : SigOnly P m :=
  ⟨fun s e s' he hs => hk.out (f s) e s' (by rw [← h]; exact he) hs⟩

theorem SigOnly.bind {α β} {P : Err → Prop} {m : M ν α} {f : α → M ν β} (hm : SigOnly P m) (hf : ∀ a, SigOnly P (f a)) :
    SigOnly P (m >>= f) := by
  constructor; intro s e s' h hs
  rw [Calls.M_bind_def] at h
  rcases hms : m s with ⟨r, s1⟩
  rw [hms] at h
  cases r with
  | ok a => exact (hf a).out s1 e s' h hs
  | err e1 => cases h; exact hm.out s _ _ hms hs
  | _ => cases h

theorem SigOnly.withScope {α} {P : Err → Prop} {m : M ν α} (hm : SigOnly P m) : SigOnly P (Model.withScope m) := by
  constructor; intro s e s' h hs
  rw [withScope_eq] at h
  have h1 : (m (enterScope s)).1 = .err e := congrArg Prod.fst h
  exact hm.out (enterScope s) e (m (enterScope s)).2 (Prod.ext h1 rfl) hs

theorem NoSig.ite {α} {c : Prop} [Decidable c] {a b : M ν α} (ha : NoSig a) (hb : NoSig b) : NoSig (if c then a else b) := by
  split <;> assumption

theorem NoSig.getCell (a : Addr) : NoSig (getCell a : M ν (Cell ν)) := .ofLeaf (.getCell a)

/-- a statement that is neither 结束循环 / 继续循环 nor 如果 never ends with a loop signal: a loop consumes the signals of its
body (`StackBal.fr_pass`), the other statements contain none; part of the stack-balance induction -/
theorem NoSig.stmt (n : Nat) (st : Stmt) (h : StackBal.maySignal st = false) : NoSig (evalStmt n st : M ν Addr) :=
  .ofRes (((StackBal.allFr n).evalStmt st).nosig (by rw [h]; rfl))

theorem NoSig.whileStmt (n ln : Nat) (c : Expr) (body : Option (List Stmt)) :
    NoSig (evalStmt (n+1) (.while ln c body) : M ν Addr) := .stmt _ _ rfl

theorem NoSig.iterateStmt (n ln : Nat) (e : Expr) (names : List Ident) (body : Option (List Stmt)) :
    NoSig (evalStmt (n+1) (.iterate ln e names body) : M ν Addr) := .stmt _ _ rfl

/-- `FreeSig e st`: the statement `st` contains, outside every loop of `st` (and outside method bodies, which
are not part of `st`'s control flow), a 结束循环 (`e = sigBreak`) resp. 继续循环 (`e = sigContinue`): it *is* one, or it
is a 如果 statement one of whose blocks contains such a statement. -/
inductive FreeSig : Err → Stmt → Prop
  | brk (ln : Nat) : FreeSig .sigBreak (.break ln)
  | cont (ln : Nat) : FreeSig .sigContinue (.continue ln)
  | inIf {e : Err} {st : Stmt} {ln : Nat} {c : Expr} {ifB : List Stmt} {others : List (Expr × Option (List Stmt))}
      {he : Bool} {elseB : Option (List Stmt)} :
      st ∈ ifB → FreeSig e st → FreeSig e (.branch ln c (some ifB) others he elseB)
  | inOther {e : Err} {st : Stmt} {ln : Nat} {c oc : Expr} {ifB elseB : Option (List Stmt)} {ob : List Stmt}
      {others : List (Expr × Option (List Stmt))} {he : Bool} :
      (oc, some ob) ∈ others → st ∈ ob → FreeSig e st → FreeSig e (.branch ln c ifB others he elseB)
  | inElse {e : Err} {st : Stmt} {ln : Nat} {c : Expr} {ifB : Option (List Stmt)} {elseB : List Stmt}
      {others : List (Expr × Option (List Stmt))} :
      st ∈ elseB → FreeSig e st → FreeSig e (.branch ln c ifB others true (some elseB))

/-- a block contains a free signal statement -/
def BlockFreeSig (e : Err) (b : Option (List Stmt)) : Prop := ∃ stmts st, b = some stmts ∧ st ∈ stmts ∧ FreeSig e st

theorem SigOnly.stmtsLoop {ev : Stmt → M ν Addr} :
    ∀ (stmts : List Stmt) (last : Option Addr), (∀ st ∈ stmts, SigOnly (fun e => FreeSig e st) (ev st)) →
      SigOnly (fun e => ∃ st ∈ stmts, FreeSig e st) (stmtsLoop ev last stmts)
  | [], last, _ => (NoSig.pure (ν := ν) last).sigOnly _
  | st :: rest, last, h => by
    unfold Model.stmtsLoop
    have hjp : ∀ last' : Option Addr, SigOnly (fun e => ∃ x ∈ st :: rest, FreeSig e x)
        (getReturnValue >>= fun o => match o with
          | some rv => (Pure.pure (some rv) : M ν (Option Addr))
          | none => Model.stmtsLoop ev last' rest) := fun last' => by
      refine SigOnly.bind ((NoSig.ofLeaf (.getReturnValue)).sigOnly _) fun o => ?_
      split
      · exact (NoSig.pure _).sigOnly _
      · exact (SigOnly.stmtsLoop rest last' fun x hx => h x (by simp [hx])).mono
          fun e ⟨x, hx, hf⟩ => ⟨x, by simp [hx], hf⟩
    dsimp only
    split
    · exact hjp _
    · exact SigOnly.bind ((h st (by simp)).mono fun e he => ⟨st, by simp, he⟩) fun _ => hjp _

theorem SigOnly.closed (P : Err → Prop) : Calls.Closed (fun {α} (m : M ν α) => SigOnly P m) :=
  ⟨fun a => (NoSig.pure a).sigOnly P, SigOnly.bind⟩

theorem SigOnly.condNode {β} {P : Err → Prop} {ec : M ν Addr} {kt kf : M ν β} (hc : NoSig ec) (ht : SigOnly P kt)
    (hf : SigOnly P kf) : SigOnly P (condNode ec kt kf) :=
  (SigOnly.closed P).condNode (fun a => (NoSig.getCell a).sigOnly _) ((NoSig.throwE rfl).sigOnly _) (hc.sigOnly _) ht hf

theorem SigOnly.branchStmt {n : Nat}
    (ihB : ∀ b : Option (List Stmt), SigOnly (fun e => BlockFreeSig e b) (evalPureStmtBlock n b : M ν (Option Addr)))
    (ln : Nat) (c : Expr) (ifB : Option (List Stmt)) (others : List (Expr × Option (List Stmt))) (he : Bool)
    (elseB : Option (List Stmt)) :
    SigOnly (fun e => FreeSig e (.branch ln c ifB others he elseB))
      (evalStmt (n+1) (.branch ln c ifB others he elseB) : M ν Addr) := by
  -- the block `b` of the statement, then something that does not signal
  have hblk : ∀ (b : Option (List Stmt)) (Q : Err → Prop), (∀ e, BlockFreeSig e b → Q e) → ∀ {γ} (k : M ν γ), NoSig k →
      SigOnly Q (evalPureStmtBlock n b >>= fun _ => k) := fun b Q hq γ k hk =>
    SigOnly.bind ((ihB b).mono hq) fun _ => hk.sigOnly _
  refine SigOnly.comap (evalStmt_branch n ln c ifB others he elseB) (.condNode (.evalExpr n c) ?_ ?_)
  · exact hblk ifB _ (fun e ⟨stmts, st, hb, hm, hf⟩ => by subst hb; exact .inIf hm hf) _ (.alloc _)
  · refine SigOnly.bind ((SigOnly.closed _).firstM ?_ fun o ho => ?_) fun _ => (NoSig.alloc _).sigOnly _
    · unfold ControlFlow.branchElse
      split
      · rename_i hhe
        exact hblk elseB _ (fun e ⟨stmts, st, hb, hm, hf⟩ => by subst hb; subst hhe; exact .inElse hm hf) _ (.pure _)
      · exact (NoSig.pure _).sigOnly _
    · rw [branchOther_eq]
      exact .condNode (.evalExpr n o.1) (hblk o.2 _ (fun e ⟨stmts, st, hb, hm, hf⟩ =>
        .inOther (oc := o.1) (ob := stmts) (by rw [← hb]; exact ho) hm hf) _ (.pure _)) ((NoSig.pure _).sigOnly _)

/-- **loop signals are lexical.**  If a statement ends with `.err .sigBreak` (`.err .sigContinue`), a 结束循环
(继续循环) stands in it outside every loop of that statement; for a block: in one of its statements. -/
theorem sig_lexical : ∀ n : Nat,
    (∀ st : Stmt, SigOnly (fun e => FreeSig e st) (evalStmt n st : M ν Addr)) ∧
    (∀ b : Option (List Stmt), SigOnly (fun e => BlockFreeSig e b) (evalPureStmtBlock n b : M ν (Option Addr)))
  | 0 => ⟨fun st => by unfold Model.evalStmt; exact NoSig.outOfFuel.sigOnly _,
          fun b => by unfold Model.evalPureStmtBlock; exact NoSig.outOfFuel.sigOnly _⟩
  | n+1 => by
    obtain ⟨ihS, ihB⟩ := sig_lexical n
    constructor
    · intro st
      cases st with
      | «break» ln => exact ⟨fun s e s' h _ => by rw [evalStmt_break] at h; cases h; exact .brk ln⟩
      | «continue» ln => exact ⟨fun s e s' h _ => by rw [evalStmt_continue] at h; cases h; exact .cont ln⟩
      | branch ln c ifB others he elseB => exact SigOnly.branchStmt ihB ln c ifB others he elseB
      | _ => exact (NoSig.stmt (n+1) _ rfl).sigOnly _
    · intro b
      cases b with
      | none => unfold Model.evalPureStmtBlock; exact NoSig.goPanic.sigOnly _
      | some stmts =>
        refine ⟨fun s e s' h hs => ?_⟩
        rw [evalPureStmtBlock_some] at h
        obtain ⟨st, hm, hf⟩ := (SigOnly.withScope (SigOnly.stmtsLoop stmts none fun st _ => ihS st)).out _ _ _ h hs
        exact ⟨stmts, st, rfl, hm, hf⟩

end ZnVerif.Proofs.LoopSignals
