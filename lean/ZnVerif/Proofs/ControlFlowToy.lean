/-
What the `example`s of C02 and C18 run: a `NumOps Int` instance, the machines `vm0` / `vm1`, small programs, and reflection
lemmas (`run_ok`, `run_unit`, `run_err`, `cell_bool` …) that turn a Bool evaluated by the kernel (`K` = `by decide +kernel`)
into the equation a theorem takes as hypothesis.
-/
import ZnVerif.Proofs.ControlFlow
set_option linter.unusedSectionVars false

namespace ZnVerif.Proofs.ControlFlow
open ZnVerif.Model

namespace Toy
/-- integers with `Int`'s own operations (`/` is Euclidean division: nothing truncates); enough to run small programs inside
Lean -/
scoped instance toyNum : NumOps Int where
  add := (· + ·)
  sub := (· - ·)
  mul := (· * ·)
  div := (· / ·)
  floor := id
  ceil := id
  sqrt := id
  eq := (· == ·)
  lt := (· < ·)
  gt := (· > ·)
  le := (· ≤ ·)
  ge := (· ≥ ·)
  isZero := (· == 0)
  leZero := (· ≤ 0)
  ofInt := id
  toInt := id
  parse := fun _ => 0
  fmt := fun _ => "n"

/-- a machine with the script frame pushed, module 0 and one (empty) scope for it -/
def vm0 : VM Int :=
  { heap := #[], stack := [{ moduleId := 0, callType := 1 }], csModuleID := 0, scopes := [(0, {})],
    modules := #[{ name := "m", hasProgram := true }] }

/-- `[] == []` — a condition that is 真 without touching names or numbers -/
def cTrue : Expr := .logic 0 LogicEQ (.arr 0 []) (.arr 0 [])
/-- `[] /= []` — 假 -/
def cFalse : Expr := .logic 0 LogicNEQ (.arr 0 []) (.arr 0 [])

/-- `输出 "x"` -/
def retX : Stmt := .ret 0 (.str 0 "x")
def vId : Ident := ⟨0, "v"⟩
def kId : Ident := ⟨0, "k"⟩
def dId : Ident := ⟨0, "d"⟩
def tId : Ident := ⟨0, "t"⟩
/-- `v == "b"` -/
def isB : Expr := .logic 0 LogicEQ (.id vId) (.str 0 "b")
/-- `["a", "b", "c"]` -/
def abc : Expr := .arr 0 [.str 0 "a", .str 0 "b", .str 0 "c"]
/-- `["a", "b"]` -/
def ab : Expr := .arr 0 [.str 0 "a", .str 0 "b"]
/-- `[p = "a", q = "b"]` -/
def pq : Expr := .hm 0 [(.str 0 "p", .str 0 "a"), (.str 0 "q", .str 0 "b")]
/-- `[p = "a", q = "b", r = "c"]` -/
def pqr : Expr := .hm 0 [(.str 0 "p", .str 0 "a"), (.str 0 "q", .str 0 "b"), (.str 0 "r", .str 0 "c")]
/-- `如果 v == "b"： 输出 "x"； ‹nil statement›` — the nil statement would be a Go panic if it were reached -/
def retIfB : Stmt := .branch 0 isB (some [retX, .nil]) [] false none
def breakIfB : Stmt := .branch 0 isB (some [.break 0, .nil]) [] false none
/-- a 输出 inside 遍历 inside 如果 inside 每当; after every construct on the way a nil statement, which would be a
Go panic (`Res.panic`) if it were ever evaluated -/
abbrev nested : List Stmt :=
  [.empty 0,
   .while 0 cTrue (some [
     .branch 0 cTrue (some [
       .iterate 0 ab [] (some [retX, .nil]),
       .nil]) [] false none,
     .nil]),
   .nil]
/-- `如何f？ （空）` — a method definition -/
def fDecl : Stmt := .funcDecl 0 (some ⟨0, "f"⟩) 1 (some (.mk [] (some [.empty 0]) []))
def excId : Ident := ⟨0, "异常"⟩
/-- a body that raises 异常 and whose 拦截异常 block executes 继续循环 (then a nil statement) -/
def handlerContinues : ExecBlock :=
  .mk [] (some [.throw 0 (some excId) [.str 0 "m"]]) [(some excId, some [.continue 0, .nil])]
/-- `（f）` as a statement -/
def callF : Stmt := .expr (.call 0 (some ⟨0, "f"⟩) [] none)
/-- `如何f？ 结束循环` — a method whose body is a bare 结束循环 -/
def fBreaks : Stmt := .funcDecl 0 (some ⟨0, "f"⟩) 1 (some (.mk [] (some [.break 0]) []))
/-- a machine with two variables: `d` = 假, `t` = 真 -/
def vm1 : VM Int :=
  { heap := #[.bool false, .bool true], stack := [{ moduleId := 0, callType := 1 }], csModuleID := 0,
    scopes := [(0, { syms := [{ name := "d", depth := 0, isConst := false, ext := none, val := 0 },
                              { name := "t", depth := 0, isConst := false, ext := none, val := 1 }], depth := 0 })],
    modules := #[{ name := "m", hasProgram := true }] }
/-- `如果 d： 输出 "x"` then `d = t`: the second pass of a loop over this body executes the 输出 -/
def retSecondTime : List Stmt :=
  [.branch 0 (.id dId) (some [retX]) [] false none, .expr (.assign 0 (.id dId) (.id tId)), .empty 0]
def breakSecondTime : List Stmt :=
  [.branch 0 (.id dId) (some [.break 0, .nil]) [] false none, .expr (.assign 0 (.id dId) (.id tId)), .empty 0]
/-- `d /= t` -/
def dNeT : Expr := .logic 0 LogicNEQ (.id dId) (.id tId)
/-- `d = t` -/
def setD : Stmt := .expr (.assign 0 (.id dId) (.id tId))
end Toy

/-! ### reflection for the `example`s

The elaborator's `rfl` cannot run programs of more than one loop pass (no sharing between the lazily evaluated
machine states), the kernel can.  The lemmas below turn a Bool computed by the kernel (`by decide +kernel`) into
the equations the theorems take as hypotheses; the witnesses (`okGet …`, `(m s).2`) are found by unification. -/
namespace Toy
deriving instance DecidableEq for Frame

def isOk {α} : Res α → Bool | .ok _ => true | _ => false
def okGet {α} [Inhabited α] : Res α → α | .ok a => a | _ => default
def errIs {α} (r : Res α) (e : Err) : Bool := match r with | .err e' => e == e' | _ => false
def isBoolCell {ν} (c : Option (Cell ν)) (b : Bool) : Bool := match c with | some (.bool b') => b == b' | _ => false

theorem run_ok {ν α} [Inhabited α] (m : M ν α) (s : VM ν) (h : isOk (m s).1 = true) :
    m s = (.ok (okGet (m s).1), (m s).2) := by
  rcases hm : m s with ⟨r, s'⟩
  cases r <;> simp_all [isOk, okGet]

/-- the same for a computation without a value (stated apart so that unification need not run `m` to see `()`) -/
theorem run_unit {ν} (m : M ν Unit) (s : VM ν) (h : isOk (m s).1 = true) : m s = (.ok (), (m s).2) := run_ok m s h

def isOkSome : Res (Option Addr) → Bool | .ok (some _) => true | _ => false
def okSomeGet : Res (Option Addr) → Addr | .ok (some a) => a | _ => 0
theorem run_ok_some {ν} (m : M ν (Option Addr)) (s : VM ν) (h : isOkSome (m s).1 = true) :
    m s = (.ok (some (okSomeGet (m s).1)), (m s).2) := by
  rcases hm : m s with ⟨r, s'⟩
  rcases r with (_ | a) | _ | _ | _ | _ <;> simp_all [isOkSome, okSomeGet]

theorem stack_cons {ν} (s : VM ν) (h : s.stack ≠ []) : s.stack = s.stack.head h :: s.stack.tail :=
  (List.cons_head_tail h).symm

theorem run_err {ν α} (m : M ν α) (s : VM ν) (e : Err) (h : errIs (m s).1 e = true) : m s = (.err e, (m s).2) := by
  rcases hm : m s with ⟨r, s'⟩
  cases r <;> simp_all [errIs]

def isArrCell {ν} (c : Option (Cell ν)) (xs : List Addr) : Bool := match c with | some (.arr ys) => xs == ys | _ => false
def isHmCell {ν} (c : Option (Cell ν)) (vals : List (String × Addr)) (order : List String) : Bool :=
  match c with | some (.hm v o) => vals == v && order == o | _ => false
def isStrCell {ν} (c : Option (Cell ν)) (x : String) : Bool := match c with | some (.str y) => x == y | _ => false

theorem cell_arr {ν} (c : Option (Cell ν)) (xs : List Addr) (h : isArrCell c xs = true) : c = some (.arr xs) := by
  unfold isArrCell at h; split at h <;> simp_all
theorem cell_hm {ν} (c : Option (Cell ν)) (vals : List (String × Addr)) (order : List String)
    (h : isHmCell c vals order = true) : c = some (.hm vals order) := by
  unfold isHmCell at h; split at h <;> simp_all
def isNullCell {ν} (c : Option (Cell ν)) : Bool := match c with | some .null => true | _ => false
theorem cell_null {ν} (c : Option (Cell ν)) (h : isNullCell c = true) : c = some .null := by
  unfold isNullCell at h; split at h <;> simp_all
theorem cell_str {ν} (c : Option (Cell ν)) (x : String) (h : isStrCell c x = true) : c = some (.str x) := by
  unfold isStrCell at h; split at h <;> simp_all

/-- `K` = let the kernel evaluate a closed Bool / decidable statement -/
scoped macro "K" : term => `(by decide +kernel)

theorem cell_bool {ν} (c : Option (Cell ν)) (b : Bool) (h : isBoolCell c b = true) : c = some (.bool b) := by
  unfold isBoolCell at h; split at h <;> simp_all
end Toy

variable {ν : Type} [NumOps ν]

namespace Toy
/-- the machine after the definition `如何f？ 结束循环` has been executed in a fresh program -/
def withF : VM Int := (evalStmt 4 fBreaks (programStart (initVM ()))).2

/-- `如何f？ 输出 "x"` -/
def fReturns : Stmt := .funcDecl 0 (some ⟨0, "f"⟩) 1 (some (.mk [] (some [retX, .nil]) []))
/-- the machine after that definition has been executed in a fresh program -/
def withRetF : VM Int := (evalStmt 4 fReturns (programStart (initVM ()))).2

/-- a machine whose variable `d` holds a dictionary from which key `q` has been removed while the key order of a
running loop still lists it: values `[p = "a"]`, order `p, q` -/
def vmGone : VM Int :=
  { heap := #[.str "a", .hm [("p", 0)] ["p", "q"]], stack := [{ moduleId := 0, callType := 1 }], csModuleID := 0,
    scopes := [(0, { syms := [{ name := "d", depth := 0, isConst := false, ext := none, val := 1 }], depth := 0 })],
    modules := #[{ name := "m", hasProgram := true }] }

theorem slot_set (s : VM ν) (h : (retSlot s).isSome = true) : retSlot s = some ((retSlot s).getD 0) := by
  cases hs : retSlot s <;> simp_all
end Toy

end ZnVerif.Proofs.ControlFlow
