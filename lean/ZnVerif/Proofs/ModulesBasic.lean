/-
Helper lemmas for C15: association lists, what each VM primitive of Model.Modules does to the fields the loader
invariants talk about, and the frame property of body execution (a module body or a method call changes neither the
dependency graph, the name registry, the event log nor the module names; on success the call stack and the current
module are restored).  All loader specifications are stated with `Res.Sat r P E` ("`r` ends well in a value satisfying
`P`, or fails in an error and state satisfying `E`") and composed with `Res.Sat.bind` / `.mono` / `.and`; these are
declared in the namespace of `Res` (`ZnVerif.Model.Modules`) so that `(spec).bind …` resolves by dot notation.
-/
import ZnVerif.Model.Modules

namespace ZnVerif.Proofs.Modules
open ZnVerif.Model.Modules

theorem assoc_aset {α β} [DecidableEq α] (k k' : α) (v : β) : ∀ l : List (α × β),
    assoc k' (aset k v l) = if k' = k then some v else assoc k' l
  | [] => by by_cases h : k' = k <;> simp [aset, assoc, h, Ne.symm]
  | (a, b) :: r => by
    unfold aset
    by_cases ha : a = k
    · subst ha
      by_cases h : k' = a <;> simp [assoc, h, Ne.symm]
    · by_cases h : a = k'
      · subst h; simp [assoc, ha]
      · simp only [ha, h, if_false, assoc]
        exact assoc_aset k k' v r

theorem assoc_aset_same {α β} [DecidableEq α] (k : α) (v : β) (l : List (α × β)) : assoc k (aset k v l) = some v := by
  rw [assoc_aset, if_pos rfl]

theorem assoc_aset_idem {α β} [DecidableEq α] {k : α} {v : β} {l : List (α × β)} (h : assoc k l = some v) (k' : α) :
    assoc k' (aset k v l) = assoc k' l := by
  rw [assoc_aset]
  split
  · subst_vars; exact h.symm
  · rfl

theorem assoc_aset_fresh {α β} [DecidableEq α] {k : α} {l : List (α × β)} (h : assoc k l = none) (v : β) {k' : α} {w : β}
    (hk : assoc k' l = some w) : assoc k' (aset k v l) = some w := by
  rw [assoc_aset, if_neg (fun e => by rw [e, h] at hk; cases hk), hk]

theorem assoc_mem {α β} [DecidableEq α] {k : α} {v : β} : ∀ {l : List (α × β)}, assoc k l = some v → (k, v) ∈ l
  | [], h => by cases h
  | (a, b) :: r, h => by
    unfold assoc at h
    split at h
    · cases h; subst_vars; exact List.mem_cons_self ..
    · exact List.mem_cons_of_mem _ (assoc_mem h)

theorem assoc_none_notin {β} {n : Name} : ∀ {l : List (Name × β)}, assoc n l = none → n ∉ l.map (fun p => p.1)
  | [], _ => by simp
  | (a, b) :: r, h => by
    unfold assoc at h
    split at h
    · cases h
    · simpa [Ne.symm ‹_›] using assoc_none_notin h

theorem assoc_iff_mem {β} {n : Name} {v : β} : ∀ {ex : List (Name × β)}, (ex.map (fun p => p.1)).Nodup →
    (assoc n ex = some v ↔ (n, v) ∈ ex)
  | [], _ => by simp [assoc]
  | (a, b) :: r, hnd => by
    have ⟨h1, h2⟩ := List.nodup_cons.1 hnd
    unfold assoc
    split
    · subst_vars
      have : (a, v) ∉ r := fun h => h1 (List.mem_map.2 ⟨_, h, rfl⟩)
      simp [this, eq_comm]
    · rw [assoc_iff_mem h2]
      simp [Ne.symm ‹_›]

end ZnVerif.Proofs.Modules

namespace ZnVerif.Model.Modules

/-- `r` ends well in a value satisfying `P`, or fails with an error and a state satisfying `E` -/
def Res.Sat {α} (r : Res α) (P : α → Prop) (E : Err → VM → Prop) : Prop :=
  match r with
  | .ok a => P a
  | .err e vm => E e vm

/-- sequencing: the shape `match r with | .err e vm => .err e vm | .ok a => k a` of every loader function -/
theorem Res.Sat.bind {β} {r : Res VM} {k : VM → Res β} {P : VM → Prop} {E E' : Err → VM → Prop} {Q : β → Prop}
    (h : r.Sat P E) (hE : ∀ e vm, E e vm → E' e vm) (hk : ∀ a, P a → (k a).Sat Q E') :
    (match (generalizing := false) r with
      | .err e vm => .err e vm
      | .ok a => k a : Res β).Sat Q E' := by
  cases r with
  | ok a => exact hk a h
  | err e vm => exact hE e vm h

theorem Res.Sat.mono {α} {r : Res α} {P P' : α → Prop} {E E' : Err → VM → Prop} (h : r.Sat P E)
    (hP : ∀ a, P a → P' a) (hE : ∀ e vm, E e vm → E' e vm) : r.Sat P' E' := by
  cases r with
  | ok a => exact hP a h
  | err e vm => exact hE e vm h

theorem Res.Sat.and {α} {r : Res α} {P P' : α → Prop} {E E' : Err → VM → Prop} (h : r.Sat P E) (h' : r.Sat P' E') :
    r.Sat (fun a => P a ∧ P' a) (fun e vm => E e vm ∧ E' e vm) := by
  cases r with
  | ok a => exact ⟨h, h'⟩
  | err e vm => exact ⟨h, h'⟩

theorem Res.Sat.finish_ok {r : Res VM} {P : VM → Prop} {E : Err → VM → Prop} (h : r.Sat P E)
    (hn : (finish r).err = none) : P (finish r).vm := by
  cases r with
  | ok vm => exact h
  | err e vm => cases hn

theorem Res.Sat.finish_err {r : Res VM} {P : VM → Prop} {E : Err → VM → Prop} (h : r.Sat P E) {e : Err}
    (he : (finish r).err = some e) : E e (finish r).vm := by
  cases r with
  | ok vm => cases he
  | err e' vm => cases he; exact h

theorem Res.Sat.finish_vm {r : Res VM} {Q : VM → Prop} (h : r.Sat Q fun _ => Q) : Q (finish r).vm := by
  cases r with
  | ok vm => exact h
  | err e vm => exact h

end ZnVerif.Model.Modules

namespace ZnVerif.Proofs.Modules
open ZnVerif.Model.Modules

def namesOf (vm : VM) : List Name := vm.modules.map Module.name

theorem length_set_modules (l : List Module) (m : Nat) (md : Module) : (l.set m md).length = l.length := by simp

structure Same (vm vm' : VM) : Prop where
  graph : vm'.graph = vm.graph
  nameMap : vm'.nameMap = vm.nameMap
  log : vm'.log = vm.log
  names : namesOf vm' = namesOf vm

theorem Same.rfl' (vm : VM) : Same vm vm := ⟨rfl, rfl, rfl, rfl⟩

theorem Same.trans {a b c : VM} (h1 : Same a b) (h2 : Same b c) : Same a c :=
  ⟨h2.graph.trans h1.graph, h2.nameMap.trans h1.nameMap, h2.log.trans h1.log, h2.names.trans h1.names⟩

/-- `Same`, and the call stack with its current module -/
structure Kept (vm vm' : VM) : Prop where
  same : Same vm vm'
  stack : vm'.stack = vm.stack
  cs : vm'.cs = vm.cs

theorem Kept.rfl' (vm : VM) : Kept vm vm := ⟨Same.rfl' _, rfl, rfl⟩

theorem Kept.trans {a b c : VM} (h1 : Kept a b) (h2 : Kept b c) : Kept a c :=
  ⟨h1.same.trans h2.same, h2.stack.trans h1.stack, h2.cs.trans h1.cs⟩

theorem kept_setScope (vm : VM) (m : Nat) (s : Scope) : Kept vm (vm.setScope m s) := ⟨⟨rfl, rfl, rfl, rfl⟩, rfl, rfl⟩

theorem kept_beginScope (vm : VM) : Kept vm vm.beginScope := by
  unfold VM.beginScope; split
  · exact Kept.rfl' _
  · exact kept_setScope ..

theorem kept_endScope (vm : VM) : Kept vm vm.endScope := by
  unfold VM.endScope; split
  · exact Kept.rfl' _
  · exact kept_setScope ..

theorem kept_display (vm : VM) (k : Nat) : Kept vm (vm.display k) := ⟨⟨rfl, rfl, rfl, rfl⟩, rfl, rfl⟩

theorem same_pushFrame (vm : VM) (m : Nat) : Same vm (vm.pushFrame m) := ⟨rfl, rfl, rfl, rfl⟩

theorem popFrame_cons {vm : VM} {t : Nat} {r : List Nat} (h : vm.stack = t :: r) :
    vm.popFrame = some { vm with stack := r, cs := r.head? } := by
  unfold VM.popFrame; rw [h]

theorem same_popFrame {vm vm' : VM} (h : vm.popFrame = some vm') : Same vm vm' := by
  unfold VM.popFrame at h
  split at h <;> cases h
  exact ⟨rfl, rfl, rfl, rfl⟩

theorem declareConst_ok {vm vm' : VM} {n : Name} {v : Val} (h : vm.declareConst n v = .ok vm') :
    ∃ m s s', vm.curScope = some (m, s) ∧ s.declare n v true = some s' ∧ vm' = vm.setScope m s' := by
  unfold VM.declareConst at h
  split at h
  · cases h
  · rename_i m s hc
    split at h <;> cases h
    exact ⟨m, s, _, hc, by assumption, rfl⟩

theorem declareConst_err {vm vm' : VM} {n : Name} {v : Val} {e : Err} (h : vm.declareConst n v = .err e vm') :
    vm' = vm ∧ (e = .code 42 ∨ e = .code 43) := by
  unfold VM.declareConst at h
  split at h
  · cases h; exact ⟨rfl, Or.inl rfl⟩
  · split at h <;> cases h
    exact ⟨rfl, Or.inr rfl⟩

theorem declareExternal_ok {vm vm' : VM} {n : Name} {v : Val} {mid : Nat} (h : vm.declareExternal n v mid = .ok vm') :
    ∃ m s s', vm.curScope = some (m, s) ∧ s.declareExternal n v mid = some s' ∧ vm' = vm.setScope m s' := by
  unfold VM.declareExternal at h
  split at h
  · cases h
  · rename_i m s hc
    split at h <;> cases h
    exact ⟨m, s, _, hc, by assumption, rfl⟩

theorem declareExternal_err {vm vm' : VM} {n : Name} {v : Val} {mid : Nat} {e : Err}
    (h : vm.declareExternal n v mid = .err e vm') : vm' = vm ∧ (e = .code 42 ∨ e = .code 43) := by
  unfold VM.declareExternal at h
  split at h
  · cases h; exact ⟨rfl, Or.inl rfl⟩
  · split at h <;> cases h
    exact ⟨rfl, Or.inr rfl⟩

theorem addExport_ok {vm vm' : VM} {m : Nat} {n : Name} {v : Val} (h : vm.addExport m n v = some vm') :
    ∃ md, vm.modules[m]? = some md ∧ assoc n md.exports = none ∧
      vm' = { vm with modules := vm.modules.set m { md with exports := md.exports ++ [(n, v)] } } := by
  unfold VM.addExport at h
  split at h
  · cases h
  · rename_i md hmd
    split at h <;> cases h
    exact ⟨md, hmd, by assumption, rfl⟩

theorem kept_declareConst {vm vm' : VM} {n : Name} {v : Val} (h : vm.declareConst n v = .ok vm') : Kept vm vm' := by
  obtain ⟨m, _, s', _, _, rfl⟩ := declareConst_ok h; exact kept_setScope ..

theorem kept_declareExternal {vm vm' : VM} {n : Name} {v : Val} {mid : Nat} (h : vm.declareExternal n v mid = .ok vm') :
    Kept vm vm' := by
  obtain ⟨m, _, s', _, _, rfl⟩ := declareExternal_ok h; exact kept_setScope ..

theorem kept_addExport {vm vm' : VM} {m : Nat} {n : Name} {v : Val} (h : vm.addExport m n v = some vm') : Kept vm vm' := by
  obtain ⟨md, hmd, _, rfl⟩ := addExport_ok h
  obtain ⟨hlt, rfl⟩ := List.getElem?_eq_some_iff.1 hmd
  refine ⟨⟨rfl, rfl, rfl, ?_⟩, rfl, rfl⟩
  have := List.set_getElem_self (as := vm.modules.map Module.name) (i := m) (by simpa using hlt)
  simpa [namesOf, List.map_set] using this

@[simp] theorem beginScope_stack (vm : VM) : vm.beginScope.stack = vm.stack := (kept_beginScope vm).stack
@[simp] theorem beginScope_cs (vm : VM) : vm.beginScope.cs = vm.cs := (kept_beginScope vm).cs
@[simp] theorem endScope_stack (vm : VM) : vm.endScope.stack = vm.stack := (kept_endScope vm).stack
@[simp] theorem endScope_cs (vm : VM) : vm.endScope.cs = vm.cs := (kept_endScope vm).cs
@[simp] theorem display_stack (vm : VM) (k : Nat) : (vm.display k).stack = vm.stack := rfl
@[simp] theorem display_cs (vm : VM) (k : Nat) : (vm.display k).cs = vm.cs := rfl
@[simp] theorem record_stack (vm : VM) (e : Ev) : (vm.record e).stack = vm.stack := rfl
@[simp] theorem record_cs (vm : VM) (e : Ev) : (vm.record e).cs = vm.cs := rfl
@[simp] theorem pushFrame_stack (vm : VM) (m : Nat) : (vm.pushFrame m).stack = m :: vm.stack := rfl
@[simp] theorem pushFrame_cs (vm : VM) (m : Nat) : (vm.pushFrame m).cs = some m := rfl
@[simp] theorem setScope_stack (vm : VM) (m : Nat) (s : Scope) : (vm.setScope m s).stack = vm.stack := rfl
@[simp] theorem setScope_cs (vm : VM) (m : Nat) (s : Scope) : (vm.setScope m s).cs = vm.cs := rfl

/-- errors raised by statements of a body (never 60, 63, 64 or loader fuel) -/
def BodyErr (e : Err) : Prop := e ≠ .code 60 ∧ e ≠ .code 63 ∧ e ≠ .code 64 ∧ e ≠ .loadFuel

instance (e : Err) : Decidable (BodyErr e) := by unfold BodyErr; infer_instance

theorem bodyErr_methodErr {e : Err} (h : BodyErr e) : BodyErr (methodErr e) := by
  cases e with
  | code n => exact (by decide : BodyErr (.code 0))
  | _ => exact h

/-- frame property of a step that may fail: the current module is restored if it was the top of the call stack -/
def StepFrame (vm : VM) (r : Res VM) : Prop :=
  r.Sat (fun vm' => Same vm vm' ∧ vm'.stack = vm.stack ∧ (vm.cs = vm.stack.head? → vm'.cs = vm.cs))
    (fun e vm' => Same vm vm' ∧ BodyErr e)

theorem StepFrame.ok {vm vm' : VM} (h : Kept vm vm') : StepFrame vm (.ok vm') := ⟨h.same, h.stack, fun _ => h.cs⟩

theorem StepFrame.err {vm : VM} {e : Err} (h : BodyErr e) : StepFrame vm (.err e vm) := ⟨Same.rfl' _, h⟩

theorem StepFrame.after {vm vm1 : VM} {r : Res VM} (h1 : Same vm vm1) (hst : vm1.stack = vm.stack)
    (hcs : vm.cs = vm.stack.head? → vm1.cs = vm.cs) (h2 : StepFrame vm1 r) : StepFrame vm r := by
  cases r with
  | err e vm' => exact ⟨h1.trans h2.1, h2.2⟩
  | ok vm2 =>
    refine ⟨h1.trans h2.1, h2.2.1.trans hst, fun h => ?_⟩
    have c1 := hcs h
    exact (h2.2.2 (by rw [c1, hst]; exact h)).trans c1

theorem StepFrame.bind {vm : VM} {r : Res VM} {k : VM → Res VM} (h : StepFrame vm r)
    (hk : ∀ vm1, StepFrame vm1 (k vm1)) :
    StepFrame vm (match (generalizing := false) r with
      | .err e vm' => .err e vm'
      | .ok vm1 => k vm1) := by
  cases r with
  | err e vm' => exact h
  | ok vm1 => exact StepFrame.after h.1 h.2.1 h.2.2 (hk vm1)

theorem runUses_frame (rec : VM → Use → Res VM) (hrec : ∀ vm u, StepFrame vm (rec vm u)) :
    ∀ (us : List Use) (vm : VM), StepFrame vm (runUses rec vm us)
  | [], vm => StepFrame.ok (Kept.rfl' vm)
  | u :: us, vm => by
    unfold runUses
    exact (hrec vm u).bind (runUses_frame rec hrec us)

/-- shared tail of a method call and of a constructor call: frame pushed, two scope levels, the body, and back -/
theorem call_tail_frame {vm : VM} {home : Nat} {us : List Use} (rec : VM → Use → Res VM)
    (hrec : ∀ vm u, StepFrame vm (rec vm u)) (mark : Nat) (conv : Err → Err)
    (hconv : ∀ e, BodyErr e → BodyErr (conv e)) :
    StepFrame vm (match runUses rec (((vm.pushFrame home).beginScope.beginScope).display mark) us with
      | .err e vm' => .err (conv e) vm'
      | .ok vm3 => match (vm3.endScope.endScope).popFrame with
        | none => .err .panic vm3
        | some vm4 => .ok vm4) := by
  have hs2 : Same vm (((vm.pushFrame home).beginScope.beginScope).display mark) :=
    (same_pushFrame vm home).trans (((kept_beginScope _).trans (kept_beginScope _)).trans (kept_display _ _)).same
  have hf := runUses_frame rec hrec us (((vm.pushFrame home).beginScope.beginScope).display mark)
  cases hr : runUses rec (((vm.pushFrame home).beginScope.beginScope).display mark) us with
  | err e vm' =>
    rw [hr] at hf
    exact ⟨hs2.trans hf.1, hconv e hf.2⟩
  | ok vm3 =>
    rw [hr] at hf
    have hs3 : (vm3.endScope.endScope).stack = home :: vm.stack := by simp [hf.2.1]
    dsimp only
    rw [popFrame_cons hs3]
    exact ⟨(hs2.trans hf.1).trans (((kept_endScope _).trans (kept_endScope _)).same.trans ⟨rfl, rfl, rfl, rfl⟩), rfl,
      fun h => h.symm⟩

theorem useName_frame : ∀ (f : Nat) (vm : VM) (u : Use), StepFrame vm (useName f vm u)
  | 0, vm, u => StepFrame.err (by decide)
  | f + 1, vm, .call n => by
    unfold useName
    cases vm.findWithModule n with
    | none => exact StepFrame.err (by decide)
    | some p =>
      obtain ⟨v, home⟩ := p
      cases v with
      | fn d => exact call_tail_frame (useName f) (useName_frame f) d.mark methodErr (fun _ => bodyErr_methodErr)
      | cls d h => exact ⟨same_pushFrame _ _, by decide⟩
      | native => exact ⟨same_pushFrame _ _, by decide⟩
  | f + 1, vm, .new n => by
    unfold useName
    cases vm.findElement n with
    | none => exact StepFrame.err (by decide)
    | some v =>
      cases v with
      | cls d home => exact call_tail_frame (useName f) (useName_frame f) d.mark id (fun _ h => h)
      | fn d => exact StepFrame.err (by decide)
      | native => exact StepFrame.err (by decide)

theorem runItems_frame (cf : Nat) : ∀ (items : List Item) (vm : VM), StepFrame vm (runItems cf vm items)
  | [], vm => StepFrame.ok (Kept.rfl' vm)
  | .marker k :: r, vm => by
    unfold runItems
    exact StepFrame.after (kept_display vm k).same rfl (fun _ => rfl) (runItems_frame cf r _)
  | .defn _ :: r, vm => by
    unfold runItems
    exact runItems_frame cf r vm
  | .use u :: r, vm => by
    unfold runItems
    exact (useName_frame cf vm u).bind (runItems_frame cf r)
  | .assign n :: r, vm => by
    unfold runItems
    cases vm.curScope with
    | none => exact StepFrame.err (by decide)
    | some p =>
      dsimp only
      cases hc : p.2.setValueCode n with
      | none => exact runItems_frame cf r vm
      | some c =>
        refine StepFrame.err ?_
        unfold Scope.setValueCode at hc
        split at hc
        · cases hc; decide
        · split at hc <;> cases hc
          decide

theorem hoistDefs_frame : ∀ (items : List Item) (vm : VM), StepFrame vm (hoistDefs vm items)
  | [], vm => StepFrame.ok (Kept.rfl' vm)
  | .defn d :: r, vm => by
    unfold hoistDefs
    cases vm.cs with
    | none => exact StepFrame.err (by decide)
    | some m =>
      dsimp only
      cases hd : vm.declareConst d.name (valOfDef d m) with
      | err e vm' =>
        obtain ⟨rfl, he⟩ := declareConst_err hd
        exact StepFrame.err (by rcases he with rfl | rfl <;> decide)
      | ok vm1 =>
        dsimp only
        have k1 := kept_declareConst hd
        cases ha : vm1.addExport m d.name (valOfDef d m) with
        | none => exact ⟨k1.same, by decide⟩
        | some vm2 =>
          have k2 := k1.trans (kept_addExport ha)
          exact StepFrame.after k2.same k2.stack (fun _ => k2.cs) (hoistDefs_frame r vm2)
  | .marker _ :: r, vm => by unfold hoistDefs; exact hoistDefs_frame r vm
  | .use _ :: r, vm => by unfold hoistDefs; exact hoistDefs_frame r vm
  | .assign _ :: r, vm => by unfold hoistDefs; exact hoistDefs_frame r vm

theorem evalBody_frame (cf : Nat) (vm : VM) (body : List Item) : StepFrame vm (evalBody cf vm body) := by
  unfold evalBody
  cases body with
  | nil => exact StepFrame.ok (Kept.rfl' vm)
  | cons it r =>
    dsimp only
    have kb := kept_beginScope vm
    refine StepFrame.after kb.same kb.stack (fun _ => kb.cs) ((hoistDefs_frame (it :: r) _).bind fun vm1 => ?_)
    have kb1 := kept_beginScope vm1
    refine StepFrame.after kb1.same kb1.stack (fun _ => kb1.cs) ((runItems_frame cf (it :: r) _).bind fun vm2 => ?_)
    exact StepFrame.ok ((kept_endScope _).trans (kept_endScope _))

end ZnVerif.Proofs.Modules
