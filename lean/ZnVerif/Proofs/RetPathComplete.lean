/-
`RetPath` (Proofs/ControlFlow) is exactly the way a block or statement runs into a 输出: both directions.

`sound` (C02 `return_stops_everything`): along a `RetPath` the construct ends normally, the slot holds the value of the
输出, and nothing but scopes ending and 空 cells happens after it — an induction on the derivation, each constructor by the
run lemma of its construct (`block_after`, `branch_after`, `while_after`, `iterate_*_stops`).

`complete` (C02 `return_path_complete`): a block / statement that starts with the return slot of its frame empty and
ends normally with the slot holding `rv` has run along a `RetPath` into a 输出 statement — nothing but a 输出 statement of
the block (at some depth of blocks, 如果 alternatives, 每当 / 遍历 passes) sets the slot of the frame the block runs in.
Ingredients: `Keep` (Proofs/RetKeep: expressions, calls, constructors, declarations leave the caller's stack — hence
its return slot — alone when they end normally, and never end with a loop signal), `NoSig` of the two loop statements
(Proofs/LoopSignals), and an induction on fuel over statements and blocks that reads the path off the run.  The
induction carries a second fact: a statement / block that ends with a loop signal leaves the slot empty (otherwise the
next pass of the loop that catches the signal would start with the slot set).
-/
import ZnVerif.Proofs.ControlFlow
import ZnVerif.Proofs.RetKeep
import ZnVerif.Proofs.LoopSignals
set_option linter.unusedSectionVars false

namespace ZnVerif.Proofs.RetPathComplete
open ZnVerif.Model ZnVerif.Proofs.ControlFlow
open ZnVerif.Proofs.EvalArms (condNode whileStep_eq iterPass_eq branchOther_eq evalPureStmtBlock_some)
open ZnVerif.Proofs.StackBal (resIsOk resIsSig)
open ZnVerif.Proofs.RetKeep (Keep)
open ZnVerif.Proofs.LoopSignals (NoSig)
open ZnVerif.Proofs.Calls (pure_inv getCell_bind_inv bind_ok_inv)

variable {ν : Type} [NumOps ν]

/-- "`nd` ends normally; a block with the value `rv`" -/
def EndsOk (n : Nat) (nd : Node) (s : VM ν) (rv : Addr) (s' : VM ν) : Prop :=
  match nd with
  | .stmt st => ∃ v, evalStmt n st s = (.ok v, s')
  | .block b => evalPureStmtBlock n b s = (.ok (some rv), s')

theorem sound {n : Nat} {nd : Node} {s sr s' : VM ν} {rv : Addr} (h : RetPath n nd s rv sr s') :
    retSlot s' = some rv ∧ Quiet sr s' ∧ EndsOk n nd s rv s' := by
  induction h with
  | ret he hst => exact ⟨by simp [retSlot], Quiet.refl _, _, evalStmt_ret_ok he hst⟩
  | block hpre hnd _ ih =>
    obtain ⟨hr, ho, v, hv⟩ := ih
    exact ⟨by rw [retSlot_leaveScope]; exact hr, ho.leaveScope _, block_after hpre (stmtsLoop_hit hnd hv hr)⟩
  | branchIf hc ht _ ih =>
    obtain ⟨hr, ho, hb⟩ := ih
    exact ⟨hr, ho.newNull, _, by rw [evalStmt_branch, condNode_true hc ht]; exact bind_ok hb⟩
  | branchOther hc hf hpre hoc hot _ ih =>
    obtain ⟨hr, ho, hb⟩ := ih
    exact ⟨hr, ho.newNull, _, (branch_after hc hf hpre rfl).trans
      (bind_ok ((firstM_branchOther_true hoc hot _ _).trans (bind_ok hb)))⟩
  | branchElse hc hf hall _ ih =>
    obtain ⟨hr, ho, hb⟩ := ih
    exact ⟨hr, ho.newNull, _, (branch_after hc hf hall (List.append_nil _).symm).trans
      (bind_ok (show branchElse _ true _ _ = (.ok (), _) from bind_ok hb))⟩
  | «while» hp hk hc ht _ ih =>
    obtain ⟨hr, ho, hb⟩ := ih
    exact ⟨hr, ho.newNull, _, while_stops_after hp hk (whileStep_pass hc ht hb (by simp [passVerdict, hr]))⟩
  | iterList hT hS hcell hp hbind _ ih =>
    obtain ⟨hr, ho, hb⟩ := ih
    exact ⟨by rw [retSlot_newNull, retSlot_leaveScope]; exact hr, (ho.leaveScope _).newNull, _,
      iterate_list_stops hT hS hcell hp hbind hb (by simp [passVerdict, hr])⟩
  | iterDict hT hS hcell hp hcell' hl hbind _ ih =>
    obtain ⟨hr, ho, hb⟩ := ih
    exact ⟨by rw [retSlot_newNull, retSlot_leaveScope]; exact hr, (ho.leaveScope _).newNull, _,
      iterate_dict_stops hT hS hcell hp hcell' hl hbind hb (by simp [passVerdict, hr])⟩

theorem bind_inv {α β} {m : M ν α} {f : α → M ν β} {s s' : VM ν} {r : Res β} (h : (m >>= f) s = (r, s')) :
    (∃ a s1, m s = (.ok a, s1) ∧ f a s1 = (r, s')) ∨
    (∃ rb, m s = (rb, s') ∧ resIsOk rb = false ∧ resIsOk r = false ∧ resIsSig r = resIsSig rb) := by
  rw [Calls.M_bind_def] at h
  rcases hm : m s with ⟨rb, s1⟩
  rw [hm] at h
  cases rb with
  | ok a => exact .inl ⟨a, s1, rfl, h⟩
  | _ => cases h; exact .inr ⟨_, rfl, rfl, rfl, rfl⟩

theorem getCell_inv {a : Addr} {s s' : VM ν} {r : Res (Cell ν)} (h : getCell a s = (r, s')) :
    s' = s ∧ ((∃ c, r = .ok c ∧ s.heap[a]? = some c) ∨ (r = .panic)) := by
  unfold getCell at h
  split at h <;> cases h
  · rename_i c hc; exact ⟨rfl, .inl ⟨c, rfl, hc⟩⟩
  · exact ⟨rfl, .inr rfl⟩

theorem newNull_inv {s s' : VM ν} {r : Res Addr} (h : newNull s = (r, s')) :
    r = .ok s.heap.size ∧ s' = (newNull s).2 := by
  rw [newNull_eq] at h; cases h; exact ⟨rfl, rfl⟩

theorem condNode_inv {β} {n : Nat} {c : Expr} {kt kf : M ν β} {s s' : VM ν} {r : Res β} (h0 : retSlot s = none)
    (h : condNode (evalExpr n c) kt kf s = (r, s')) :
    (∃ a s1 b, evalExpr n c s = (.ok a, s1) ∧ retSlot s1 = none ∧ s1.heap[a]? = some (.bool b) ∧
      (if b then kt else kf) s1 = (r, s')) ∨
    (resIsOk r = false ∧ resIsSig r = false) := by
  have hK := (RetKeep.allKeep (ν := ν) n).evalExpr c
  unfold EvalArms.condNode at h
  rcases bind_inv h with ⟨a, s1, hc, h1⟩ | ⟨rb, hc, -, hnok, hsig⟩
  · have h10 : retSlot s1 = none := by rw [(hK.run hc).1 rfl]; exact h0
    rcases getCell_bind_inv h1 with ⟨cell, hcell, h2⟩ | ⟨rfl, rfl⟩
    · cases cell with
      | bool b => exact .inl ⟨a, s1, b, hc, h10, hcell, by cases b <;> exact h2⟩
      | _ => cases h2; exact .inr ⟨rfl, rfl⟩
    · exact .inr ⟨rfl, rfl⟩
  · exact .inr ⟨hnok, by rw [hsig]; exact (hK.run hc).2⟩

theorem passVerdict_none {α} {r : Res α} (s : VM ν) (h1 : resIsOk r = false) (h2 : resIsSig r = false) :
    passVerdict r s = none := by
  rcases r with _ | e | _ | _ | _ <;> first | rfl | (cases h1; done) | skip
  cases e <;> first | rfl | cases h2

theorem passHandler_ok_inv {α} {go b : Bool} {rb : Res α} {s s' : VM ν} (h : passHandler go rb s = (.ok b, s')) :
    s' = s ∧ passVerdict rb s = some (b == go) := by
  cases hv : passVerdict rb s with
  | some v => rw [passHandler_verdict hv] at h; cases h; exact ⟨rfl, by cases go <;> cases v <;> rfl⟩
  | none =>
    rcases rb with _ | e | _ | _ | _
    · cases hv
    · cases e <;> first | (cases hv; done) | cases h
    all_goals cases h

/-- a normal end with the slot holding `rv` gives `P rv`; a loop signal leaves the slot empty -/
def EndsWith {α} (r : Res α) (s' : VM ν) (P : Addr → Prop) : Prop :=
  (resIsOk r = true → ∀ rv, retSlot s' = some rv → P rv) ∧ (resIsSig r = true → retSlot s' = none)

/-- the outcome `(r, s')` of evaluating `nd` from `s` (slot empty): a normal end with the slot set came along a
`RetPath`; a loop signal leaves the slot empty -/
def Post {α} (n : Nat) (nd : Node) (s : VM ν) (r : Res α) (s' : VM ν) : Prop :=
  (resIsOk r = true → ∀ rv, retSlot s' = some rv → ∃ sr, RetPath n nd s rv sr s') ∧
  (resIsSig r = true → retSlot s' = none)

def StmtC (ν : Type) [NumOps ν] (n : Nat) : Prop :=
  ∀ (st : Stmt) (s s' : VM ν) (r : Res Addr), retSlot s = none → evalStmt n st s = (r, s') → Post n (.stmt st) s r s'

def BlockC (ν : Type) [NumOps ν] (n : Nat) : Prop :=
  ∀ (b : Option (List Stmt)) (s s' : VM ν) (r : Res (Option Addr)), retSlot s = none →
    evalPureStmtBlock n b s = (r, s') → Post n (.block b) s r s'

section
variable {α β : Type} {r : Res α} {s' : VM ν} {P Q : Addr → Prop}

theorem EndsWith.fail (h1 : resIsOk r = false) (h2 : resIsSig r = false) : EndsWith r s' P :=
  ⟨fun hok => (by rw [h1] at hok; cases hok), fun hs => (by rw [h2] at hs; cases hs)⟩

theorem EndsWith.empty (h : retSlot s' = none) : EndsWith r s' P :=
  ⟨fun _ rv hrv => (by rw [h] at hrv; cases hrv), fun _ => h⟩

theorem EndsWith.mono (h : EndsWith r s' P) (hpq : ∀ rv, P rv → Q rv) : EndsWith r s' Q :=
  ⟨fun hok rv hrv => hpq rv (h.1 hok rv hrv), h.2⟩

theorem EndsWith.slot {t : VM ν} (h : EndsWith r s' P) (ht : retSlot t = retSlot s') : EndsWith r t P :=
  ⟨fun hok rv hrv => h.1 hok rv (ht ▸ hrv), fun hs => ht ▸ h.2 hs⟩

theorem EndsWith.congr {r' : Res β} (h : EndsWith r' s' P) (h1 : resIsOk r = resIsOk r') (h2 : resIsSig r = resIsSig r') :
    EndsWith r s' P :=
  ⟨fun hok => h.1 (h1 ▸ hok), fun hs => h.2 (h2 ▸ hs)⟩

theorem EndsWith.keep {m : M ν α} (hk : Keep m) {s : VM ν} (h0 : retSlot s = none) (h : m s = (r, s')) : EndsWith r s' P := by
  obtain ⟨h1, h2⟩ := hk.run h
  exact ⟨fun hok rv hrv => (by rw [h1 hok, h0] at hrv; cases hrv), fun hs => (by rw [h2] at hs; cases hs)⟩

theorem EndsWith.noSig {m : M ν α} (hm : NoSig m) {s : VM ν} (h : m s = (r, s'))
    (hok : ∀ a, m s = (.ok a, s') → ∀ rv, retSlot s' = some rv → P rv) : EndsWith r s' P := by
  refine ⟨fun hr => ?_, fun hs => by rw [hm.run h] at hs; cases hs⟩
  cases r <;> first | exact hok _ h | cases hr

theorem Post.ends {n : Nat} {nd : Node} {s : VM ν} (h : Post n nd s r s') :
    EndsWith r s' fun rv => ∃ sr, RetPath n nd s rv sr s' := h

end

theorem then_pure_inv {α β} {m : M ν α} {b : β} {s s' : VM ν} {r : Res β} (h : (m >>= fun _ => pure b) s = (r, s')) :
    ∃ rb, m s = (rb, s') ∧ resIsOk r = resIsOk rb ∧ resIsSig r = resIsSig rb := by
  rcases bind_inv h with ⟨a, s1, hm, h1⟩ | ⟨rb, hm, hx, hnok, hsig⟩
  · obtain ⟨rfl, rfl⟩ := pure_inv h1; exact ⟨_, hm, rfl, rfl⟩
  · exact ⟨rb, hm, by rw [hnok, hx], hsig⟩

theorem then_newNull {α} {n : Nat} {nd : Node} {m : M ν α} {s0 s1 s' : VM ν} {r : Res Addr}
    (h : (m >>= fun _ => newNull) s1 = (r, s'))
    (hm : ∀ rb s2, m s1 = (rb, s2) → EndsWith rb s2 fun rv => ∃ sr, RetPath n nd s0 rv sr (newNull s2).2) :
    Post n nd s0 r s' := by
  rcases bind_inv h with ⟨a, s2, hb, h1⟩ | ⟨rb, hb, -, hnok, hsig⟩
  · obtain ⟨rfl, rfl⟩ := newNull_inv h1
    exact ⟨fun _ rv hrv => (hm _ _ hb).1 rfl rv hrv, fun hs => (by cases hs)⟩
  · exact ⟨fun hok => (by rw [hnok] at hok; cases hok), fun hs => (hm _ _ hb).2 (by rw [← hsig]; exact hs)⟩

/-- the statement loop of the block `pre ++ stmts` of `s0`, after `pre` -/
theorem stmtsLoop_post {n : Nat} (hS : StmtC ν n) {s0 : VM ν} :
    ∀ (stmts pre : List Stmt) (last : Option Addr) (s s' : VM ν) (r : Res (Option Addr)),
      Steps (evalStmt n) none pre (enterScope s0) last s → retSlot s = none →
      stmtsLoop (evalStmt n) last stmts s = (r, s') →
      EndsWith r s' fun rv => ∃ sr,
        RetPath (n+1) (.block (some (pre ++ stmts))) s0 rv sr (leaveScope (scopeHandle s0) s')
  | [], pre, last, s, s', r, _, h0, h => by
    obtain ⟨rfl, rfl⟩ := pure_inv h
    exact .empty h0
  | st :: rest, pre, last, s, s', r, hpre, h0, h => by
    -- `st` is done (`hst`): the loop goes on behind it
    have next : ∀ {last' s1}, Steps (evalStmt n) last [st] s last' s1 →
        stmtsLoop (evalStmt n) last' rest s1 = (r, s') → retSlot s1 = none →
        EndsWith r s' fun rv => ∃ sr,
          RetPath (n+1) (.block (some (pre ++ st :: rest))) s0 rv sr (leaveScope (scopeHandle s0) s') :=
      fun hst h1 h10 => by
        have := stmtsLoop_post hS rest (pre ++ [st]) _ _ s' r (hpre.append hst) h10 h1
        rwa [List.append_assoc] at this
    cases hd : isDecl st with
    | true =>
      rw [stmtsLoop_decl hd h0] at h
      exact next (.decl hd h0 (.nil _ _)) h h0
    | false =>
      rw [stmtsLoop_stmt hd] at h
      rcases bind_inv h with ⟨v, s1, he, h1⟩ | ⟨rb, he, -, hnok, hsig⟩
      · rw [bind_ok (getReturnValue_eq s1)] at h1
        cases hr : retSlot s1 with
        | none => rw [hr] at h1; exact next (.stmt hd he hr (.nil _ _)) h1 hr
        | some rv' =>
          rw [hr] at h1
          obtain ⟨rfl, rfl⟩ := pure_inv h1
          refine ⟨fun _ rv hrv => ?_, fun hs => (by cases hs)⟩
          obtain ⟨sr, hp⟩ := (hS st s _ _ h0 he).1 rfl rv hrv
          exact ⟨sr, .block hpre hd hp⟩
      · exact ⟨fun hok => (by rw [hnok] at hok; cases hok), fun hs => (hS st s s' rb h0 he).2 (hsig ▸ hs)⟩

theorem blockC_succ {n : Nat} (hS : StmtC ν n) : BlockC ν (n+1) := by
  intro b s s' r h0 h
  cases b with
  | none => cases h; exact EndsWith.fail rfl rfl
  | some stmts =>
    rw [evalPureStmtBlock_some] at h
    obtain ⟨s1, hb, rfl⟩ := withScope_inv h
    exact (stmtsLoop_post hS stmts [] none _ s1 r (.nil _ _) (by rw [retSlot_enterScope]; exact h0) hb).slot
      (retSlot_leaveScope _ s1)

/-- the alternatives `others` of a 如果 whose condition and whose alternatives `pre` were 假 -/
theorem firstM_post {n : Nat} (hB : BlockC ν n) {ln : Nat} {c : Expr} {ifB elseB : Option (List Stmt)} {he : Bool}
    {s0 s1 : VM ν} {a : Addr} (hc : evalExpr n c (setLine ln s0) = (.ok a, s1))
    (hf : s1.heap[a]? = some (.bool false)) :
    ∀ (others pre : List (Expr × Option (List Stmt))) (s s' : VM ν) (r : Res Unit), CondsFalse n pre s1 s →
      retSlot s = none → firstM (branchOther n) (branchElse n he elseB) others s = (r, s') →
      EndsWith r s' fun rv => ∃ sr,
        RetPath (n+1) (.stmt (.branch ln c ifB (pre ++ others) he elseB)) s0 rv sr (newNull s').2
  | [], pre, s, s', r, hpre, h0, h => by
    simp only [firstM] at h
    unfold branchElse at h
    rw [List.append_nil]
    cases he with
    | false => obtain ⟨rfl, rfl⟩ := pure_inv h; exact .empty h0
    | true =>
      obtain ⟨rb, hb, e1, e2⟩ := then_pure_inv h
      exact ((hB elseB s s' rb h0 hb).ends.mono fun rv ⟨sr, hp⟩ => ⟨sr, .branchElse hc hf hpre hp⟩).congr e1 e2
  | o :: os, pre, s, s', r, hpre, h0, h => by
    simp only [firstM] at h
    rw [branchOther_eq, condNode_bind] at h
    rcases condNode_inv h0 h with ⟨b, s2, t, hoc, h20, hcell, hk⟩ | ⟨hnok, hns⟩
    · cases t with
      | true =>
        -- this alternative's block runs, and nothing after it
        have hk' : (evalPureStmtBlock n o.2 >>= fun _ => pure ()) s2 = (r, s') := by
          simpa only [if_true, bind_assoc, pure_bind] using hk
        obtain ⟨rb, hb, e1, e2⟩ := then_pure_inv hk'
        exact ((hB o.2 s2 s' rb h20 hb).ends.mono fun rv ⟨sr, hp⟩ =>
          ⟨sr, .branchOther hc hf hpre hoc hcell hp⟩).congr e1 e2
      | false =>
        have := firstM_post hB (ifB := ifB) hc hf os (pre ++ [o]) s2 s' r (hpre.append (.cons hoc hcell (.nil _))) h20 hk
        rwa [List.append_assoc] at this
    · exact .fail hnok hns

theorem branch_post {n : Nat} (hB : BlockC ν n) (ln : Nat) (c : Expr) (ifB : Option (List Stmt))
    (others : List (Expr × Option (List Stmt))) (he : Bool) (elseB : Option (List Stmt)) (s s' : VM ν) (r : Res Addr)
    (h0 : retSlot s = none) (h : evalStmt (n+1) (.branch ln c ifB others he elseB) s = (r, s')) :
    Post (n+1) (.stmt (.branch ln c ifB others he elseB)) s r s' := by
  rw [evalStmt_branch] at h
  rcases condNode_inv (by rw [retSlot_setLine]; exact h0) h with ⟨a, s1, b, hc, h10, hcell, hk⟩ | ⟨hnok, hns⟩
  · cases b with
    | true =>
      exact then_newNull hk fun rb s2 hb => (hB ifB s1 s2 rb h10 hb).ends.mono fun rv ⟨sr, hp⟩ =>
        ⟨sr, .branchIf hc hcell hp⟩
    | false => exact then_newNull hk fun rb s2 hb => firstM_post hB hc hcell others [] s1 s2 rb (.nil _) h10 hb
  · exact EndsWith.fail hnok hns

theorem pass_post {n : Nat} (hB : BlockC ν n) {body : Option (List Stmt)} {s1 s2 : VM ν} {rb : Res (Option Addr)}
    {b : Bool} (h10 : retSlot s1 = none) (hb : evalPureStmtBlock n body s1 = (rb, s2))
    (hv : passVerdict rb s2 = some b) :
    bif b then retSlot s2 = none
    else ∀ rv, retSlot s2 = some rv → ∃ sr, RetPath n (.block body) s1 rv sr s2 := by
  obtain ⟨p1, p2⟩ := hB body s1 s2 rb h10 hb
  cases rb with
  | ok x =>
    cases hv
    cases hr : retSlot s2 with
    | none => rfl
    | some v => exact fun rv hrv => p1 rfl rv (hr.trans hrv)
  | err e =>
    cases e with
    | sigContinue => cases hv; exact p2 rfl
    | sigBreak => cases hv; exact fun rv hrv => by rw [p2 rfl] at hrv; cases hrv
    | _ => cases hv
  | _ => cases hv

theorem whileStep_post {n : Nat} (hB : BlockC ν n) {c : Expr} {body : Option (List Stmt)} {s s' : VM ν} {b : Bool}
    (h0 : retSlot s = none) (h : whileStep n c body s = (.ok b, s')) :
    bif b then retSlot s' = none ∧ ∃ a s1 rb, evalExpr n c s = (.ok a, s1) ∧ s1.heap[a]? = some (.bool true) ∧
        evalPureStmtBlock n body s1 = (rb, s') ∧ passVerdict rb s' = some true
    else ∀ rv, retSlot s' = some rv → ∃ a s1 sr, evalExpr n c s = (.ok a, s1) ∧
        s1.heap[a]? = some (.bool true) ∧ RetPath n (.block body) s1 rv sr s' := by
  rw [whileStep_eq] at h
  rcases condNode_inv h0 h with ⟨a, s1, t, hc, h10, hcell, hk⟩ | ⟨hnok, -⟩
  · cases t with
    | false => cases hk; exact fun rv hrv => by rw [h10] at hrv; cases hrv
    | true =>
      simp only [if_true, Model.tryCatch] at hk
      rcases hb : evalPureStmtBlock n body s1 with ⟨rb, s2⟩
      rw [hb] at hk
      obtain ⟨rfl, hv⟩ := passHandler_ok_inv hk
      have q := pass_post hB h10 hb hv
      cases b with
      | true => exact ⟨q, a, s1, rb, hc, hcell, hb, hv⟩
      | false => exact fun rv hrv => let ⟨sr, hp⟩ := q rv hrv; ⟨a, s1, sr, hc, hcell, hp⟩
  · cases hnok

/-- the loop of the 每当 statement of `s0`, after `j` complete passes, `k` turns of fuel left -/
theorem whileM_post {n : Nat} (hB : BlockC ν n) (ln : Nat) (c : Expr) (body : Option (List Stmt)) {s0 : VM ν} :
    ∀ (k j : Nat) (s s' : VM ν), WhilePasses n ln c body j (setLine ln s0) s → j + k ≤ n →
      retSlot s = none → whileM k (whileTurn n ln c body) s = (.ok (), s') →
      ∀ rv, retSlot s' = some rv → ∃ sr, RetPath (n+1) (.stmt (.while ln c body)) s0 rv sr (newNull s').2
  | 0, _, s, s', _, _, _, h, _, _ => by cases h
  | k+1, j, s, s', hp, hj, h0, h, rv, hrv => by
    simp only [whileM] at h
    obtain ⟨b, s1, hstep, h1⟩ := bind_ok_inv h
    rw [whileTurn_eq] at hstep
    have q := whileStep_post hB (by rw [retSlot_setLine]; exact h0) hstep
    cases b with
    | true =>
      obtain ⟨h10, a, s2, rb, hc, ht, hb, hv⟩ := q
      exact whileM_post hB ln c body k (j+1) s1 s' (hp.snoc hc ht hb hv) (by omega) h10 h1 rv hrv
    | false =>
      obtain ⟨-, rfl⟩ := pure_inv h1
      obtain ⟨a, s2, sr, hc, ht, hpath⟩ := q rv hrv
      exact ⟨sr, .while hp (by omega) hc ht hpath⟩

theorem while_post {n : Nat} (hB : BlockC ν n) (ln : Nat) (c : Expr) (body : Option (List Stmt)) (s s' : VM ν)
    (r : Res Addr) (h0 : retSlot s = none) (h : evalStmt (n+1) (.while ln c body) s = (r, s')) :
    Post (n+1) (.stmt (.while ln c body)) s r s' := by
  refine EndsWith.noSig (NoSig.whileStmt n ln c body) h fun v h rv hrv => ?_
  rw [evalStmt_while] at h
  obtain ⟨u, s2, hw, h1⟩ := bind_ok_inv h
  obtain ⟨-, rfl⟩ := newNull_inv h1
  exact whileM_post hB ln c body n 0 _ s2 (.zero _) (by omega) (by rw [retSlot_setLine]; exact h0) hw rv hrv

theorem iterPass_post {n : Nat} (hB : BlockC ν n) {nameLen : Nat} {slots : Option String × Option String}
    {body : Option (List Stmt)} {key v : Addr} {s s' : VM ν} {b : Bool}
    (h0 : retSlot s = none) (h : iterPass n nameLen slots body key v s = (.ok b, s')) :
    bif b then ∀ rv, retSlot s' = some rv → ∃ s1 sr, iterBind n nameLen slots key v s = (.ok (), s1) ∧
        RetPath n (.block body) s1 rv sr s'
    else retSlot s' = none ∧ ∃ s1 rb, iterBind n nameLen slots key v s = (.ok (), s1) ∧
        evalPureStmtBlock n body s1 = (rb, s') ∧ passVerdict rb s' = some true := by
  have hK := Keep.ofQuiet (StackBal.Quiet.iterBind (ν := ν) n nameLen slots key v)
  rw [iterPass_eq] at h
  simp only [Model.tryCatch] at h
  rcases hm : (iterBind n nameLen slots key v >>= fun _ => evalPureStmtBlock n body) s with ⟨rb, s2⟩
  rw [hm] at h
  obtain ⟨rfl, hv⟩ := passHandler_ok_inv h
  rcases bind_inv hm with ⟨u, s1, hbind, hb⟩ | ⟨rx, hbind, -, hnok, hsig⟩
  · have q := pass_post hB (by rw [(hK.run hbind).1 rfl]; exact h0) hb hv
    cases b with
    | false => exact ⟨q, s1, rb, hbind, hb, hv⟩
    | true => exact fun rv hrv => let ⟨sr, hp⟩ := q rv hrv; ⟨s1, sr, hbind, hp⟩
  · -- the binding failed: the loop has no verdict on that
    rw [(hK.run hbind).2] at hsig
    rw [passVerdict_none _ hnok hsig] at hv; cases hv

section
variable {n ln : Nat} {e : Expr} {names : List Ident} {body : Option (List Stmt)} {s0 s1 s2 : VM ν} {target : Addr}
  {slots : Option String × Option String}

/-- the loop of the 遍历 statement of `s0` over a list, after complete passes for `done` -/
theorem untilIdxM_post (hB : BlockC ν n) (hT : evalExpr n e (enterScope (setLine ln s0)) = (.ok target, s1))
    (hS : iterSlots names s1 = (.ok slots, s2)) :
    ∀ (items done : List Addr) (s s' : VM ν), s2.heap[target]? = some (.arr (done ++ items)) →
      ListPasses n names.length slots body 0 done s2 s → retSlot s = none →
      untilIdxM (iterListStep n names.length slots body) done.length items s = (.ok (), s') →
      ∀ rv, retSlot s' = some rv → ∃ sr,
        RetPath (n+1) (.stmt (.iterate ln e names body)) s0 rv sr
          (newNull (leaveScope (scopeHandle (setLine ln s0)) s')).2
  | [], _, s, s', _, _, h0, h, rv, hrv => by cases h; rw [h0] at hrv; cases hrv
  | x :: xs, done, s, s', hcell, hp, h0, h, rv, hrv => by
    simp only [untilIdxM] at h
    obtain ⟨b, s3, hstep, h1⟩ := bind_ok_inv h
    have q := iterPass_post hB (s := pushCell (.num (NumOps.ofInt ((done.length : Int) + 1))) s) h0 hstep
    cases b with
    | true =>
      obtain ⟨-, rfl⟩ := pure_inv h1
      obtain ⟨s4, sr, hbind, hpath⟩ := q rv hrv
      exact ⟨sr, .iterList hT hS hcell hp hbind hpath⟩
    | false =>
      obtain ⟨h10, s4, rb, hbind, hb, hv⟩ := q
      have hp' := hp.append (b := [x]) (.cons (by rw [Nat.zero_add]; exact hbind) hb hv (.nil _ _))
      refine untilIdxM_post hB hT hS xs (done ++ [x]) s3 s' (by rw [List.append_assoc]; exact hcell) hp' h10 ?_ rv hrv
      rw [List.length_append]; exact h1

theorem iterDictStep_inv {n : Nat} {nameLen : Nat} {slots : Option String × Option String}
    {body : Option (List Stmt)} {target : Addr} {k : String} {s s' : VM ν} {b : Bool}
    (h : iterDictStep n nameLen slots body target k s = (.ok b, s')) :
    ∃ vals ord, s.heap[target]? = some (.hm vals ord) ∧
      ((∃ v, lookup k vals = some v ∧ iterPass n nameLen slots body s.heap.size v (pushCell (.str k) s) = (.ok b, s')) ∨
        (lookup k vals = none ∧ b = false ∧ s' = s)) := by
  unfold iterDictStep at h
  rcases getCell_bind_inv h with ⟨cell, hcell, h1⟩ | ⟨hp, -⟩
  · cases cell with
    | hm vals ord =>
      refine ⟨vals, ord, hcell, ?_⟩
      simp only at h1
      cases hl : lookup k vals with
      | none => rw [hl] at h1; cases h1; exact .inr ⟨rfl, rfl, rfl⟩
      | some v => rw [hl] at h1; exact .inl ⟨v, rfl, h1⟩
    | _ => cases h1
  · cases hp

/-- the same over a dictionary, after complete passes for the keys `done` -/
theorem untilM_post (hB : BlockC ν n) (hT : evalExpr n e (enterScope (setLine ln s0)) = (.ok target, s1))
    (hS : iterSlots names s1 = (.ok slots, s2)) {vals : List (String × Addr)} :
    ∀ (keys done : List String) (s s' : VM ν), s2.heap[target]? = some (.hm vals (done ++ keys)) →
      DictPasses n names.length slots body target done s2 s → retSlot s = none →
      untilM (iterDictStep n names.length slots body target) keys s = (.ok (), s') →
      ∀ rv, retSlot s' = some rv → ∃ sr,
        RetPath (n+1) (.stmt (.iterate ln e names body)) s0 rv sr
          (newNull (leaveScope (scopeHandle (setLine ln s0)) s')).2
  | [], _, s, s', _, _, h0, h, rv, hrv => by cases h; rw [h0] at hrv; cases hrv
  | k :: ks, done, s, s', hcell, hp, h0, h, rv, hrv => by
    simp only [untilM] at h
    obtain ⟨b, s3, hstep, h1⟩ := bind_ok_inv h
    -- the rest of the keys, once the pass for `k` is complete (or skipped)
    have next : DictPasses n names.length slots body target [k] s s3 → retSlot s3 = none →
        untilM (iterDictStep n names.length slots body target) ks s3 = (.ok (), s') → _ := fun hk h30 h2 =>
      untilM_post hB hT hS ks (done ++ [k]) s3 s' (by rw [List.append_assoc]; exact hcell) (hp.append hk) h30 h2 rv hrv
    obtain ⟨vals', ord', hcell', ⟨v, hl, hpass⟩ | ⟨hl, hb, rfl⟩⟩ := iterDictStep_inv hstep
    · have q := iterPass_post hB (s := pushCell (.str k) s) h0 hpass
      cases b with
      | true =>
        obtain ⟨-, rfl⟩ := pure_inv h1
        obtain ⟨s4, sr, hbind, hpath⟩ := q rv hrv
        exact ⟨sr, .iterDict hT hS hcell hp hcell' hl hbind hpath⟩
      | false =>
        obtain ⟨h30, s4, rb, hbind, hb, hv⟩ := q
        exact next (.cons hcell' hl hbind hb hv (.nil _)) h30 h1
    · -- the key was removed by an earlier pass: skipped, the machine is unchanged
      cases hb
      exact next (.skip hcell' hl (.nil _)) h0 h1

end

theorem iterate_post {n : Nat} (hB : BlockC ν n) (ln : Nat) (e : Expr) (names : List Ident)
    (body : Option (List Stmt)) (s s' : VM ν) (r : Res Addr) (h0 : retSlot s = none)
    (h : evalStmt (n+1) (.iterate ln e names body) s = (r, s')) :
    Post (n+1) (.stmt (.iterate ln e names body)) s r s' := by
  refine EndsWith.noSig (NoSig.iterateStmt n ln e names body) h fun v h rv hrv => ?_
  rw [evalStmt_iterate] at h
  obtain ⟨u, sw, hw, h1⟩ := bind_ok_inv h
  obtain ⟨-, rfl⟩ := newNull_inv h1
  obtain ⟨s5, hbody, rfl⟩ := withScope_inv hw
  rw [retSlot_newNull, retSlot_leaveScope] at hrv
  -- the three stages of the body
  obtain ⟨target, s1, hT, h2⟩ := bind_ok_inv hbody
  obtain ⟨slots, s2, hS, h3⟩ := bind_ok_inv h2
  have h20 : retSlot s2 = none := by
    rw [((Keep.ofQuiet (StackBal.Quiet.iterSlots names)).run hS).1 rfl,
      (((RetKeep.allKeep n).evalExpr e).run hT).1 rfl, retSlot_enterScope, retSlot_setLine]
    exact h0
  unfold EvalArms.iterLoop at h3
  rcases getCell_bind_inv h3 with ⟨cell, hcell, h4⟩ | ⟨hp, -⟩
  · cases cell with
    | arr items => exact untilIdxM_post hB hT hS items [] s2 s5 hcell (.nil _ _) h20 h4 rv hrv
    | hm vals order => exact untilM_post hB hT hS order [] s2 s5 hcell (.nil _) h20 h4 rv hrv
    | _ => cases h4
  · cases hp

theorem ret_post {n : Nat} (ln : Nat) (e : Expr) (s s' : VM ν) (r : Res Addr)
    (h : evalStmt (n+1) (.ret ln e) s = (r, s')) : Post (n+1) (.stmt (.ret ln e)) s r s' := by
  have h' := h
  rw [evalStmt_ret] at h'
  rcases bind_inv h' with ⟨v, s1, he, h1⟩ | ⟨rb, he, -, hnok, hsig⟩
  · cases hst : s1.stack with
    | nil =>
      -- no frame: nothing is stored
      have : r = .ok v ∧ s' = s1 := by
        simp [bind, setTopFrame, modifyVM, hst, pure] at h1; exact ⟨h1.1.symm, h1.2.symm⟩
      obtain ⟨rfl, rfl⟩ := this
      exact EndsWith.empty (by simp [retSlot, hst])
    | cons fr rest =>
      rw [evalStmt_ret_ok he hst] at h
      cases h
      refine ⟨fun _ rv hrv => ?_, fun hs => (by cases hs)⟩
      have : rv = v := by simp [retSlot] at hrv; exact hrv.symm
      subst this
      exact ⟨_, .ret he hst⟩
  · exact EndsWith.fail hnok (by rw [hsig]; exact (((RetKeep.allKeep n).evalExpr e).run he).2)

theorem stmtC_succ {n : Nat} (hB : BlockC ν n) : StmtC ν (n+1) := by
  intro st s s' r h0 h
  -- the statements that neither contain a block nor are 输出 / a loop signal (`RetKeep.noRetStmt`)
  have plain : RetKeep.noRetStmt st = true → Post (n+1) (.stmt st) s r s' :=
    fun hst => EndsWith.keep (RetKeep.keep_evalStmt (n+1) st hst) h0 h
  cases st with
  | «while» ln c body => exact while_post hB ln c body s s' r h0 h
  | branch ln c ifB others he elseB => exact branch_post hB ln c ifB others he elseB s s' r h0 h
  | iterate ln e names body => exact iterate_post hB ln e names body s s' r h0 h
  | ret ln e => exact ret_post ln e s s' r h
  | «continue» ln =>
    rw [evalStmt_continue] at h; cases h
    exact EndsWith.empty (by rw [retSlot_setLine]; exact h0)
  | «break» ln =>
    rw [evalStmt_break] at h; cases h
    exact EndsWith.empty (by rw [retSlot_setLine]; exact h0)
  | _ => exact plain rfl

theorem complete : ∀ n : Nat, StmtC ν n ∧ BlockC ν n
  | 0 => ⟨fun st s s' r h0 h => by cases h; exact EndsWith.fail rfl rfl,
          fun b s s' r h0 h => by cases h; exact EndsWith.fail rfl rfl⟩
  | n+1 => ⟨stmtC_succ (complete n).2, blockC_succ (complete n).1⟩

end ZnVerif.Proofs.RetPathComplete
