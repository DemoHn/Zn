/-
The whole evaluator never shrinks the heap: no run of any expression, statement, call or block — whatever its
outcome — ends with fewer cells than it started with.  (Addresses stay valid; "allocated at or after the old heap size"
means "different from every cell that existed".)  This is what `KS` (Proofs/FnStable.lean: every cell that exists stays, with
its kind) says of the heap's size; `KS` is one of the relations the induction on fuel of Proofs/BalanceMutual.lean covers.
-/
import ZnVerif.Proofs.HeapFrames
import ZnVerif.Proofs.FnStable
set_option linter.unusedSectionVars false

namespace ZnVerif.Model
open Proofs (Balance.allPres Balance.KS)

variable {ν : Type} [NumOps ν]

def HeapMono (s s' : VM ν) : Prop := s.heap.size ≤ s'.heap.size

instance : GrowRel (HeapMono (ν := ν)) where
  refl _ := Nat.le_refl _
  trans h1 h2 := Nat.le_trans h1 h2
  ofGrow h := h.2.1

/-- a heap whose every cell is still there has not shrunk: its last cell is -/
theorem HeapMono.ofKS {s s' : VM ν} (h : Balance.KS s s') : HeapMono s s' := by
  unfold HeapMono
  rcases Nat.eq_zero_or_pos s.heap.size with h0 | hp
  · omega
  · obtain ⟨c', hc', _⟩ := h (s.heap.size - 1) _ (Array.getElem?_eq_getElem (by omega))
    have := (Array.getElem?_eq_some_iff.1 hc').1
    omega

/-- `Model.Pres` (a named run, HeapFrames.lean: the rules for the operations outside the mutual block, `Same`, `Grow`,
`FrameAt`) and `Balance.Pres` (the end state `(m s).2`: the induction on fuel over the evaluator) are the same judgment;
results cross here -/
theorem pres_iff_balance {R : VM ν → VM ν → Prop} {α : Type} {m : M ν α} : Pres R m ↔ Proofs.Balance.Pres R m :=
  ⟨fun h => ⟨fun s => h.run s _ _ rfl⟩, fun h => ⟨fun s r s' e => by have := h.run s; rwa [e] at this⟩⟩

theorem mono_setProperty (a : Addr) (name : String) (v : Addr) : Pres (ν := ν) HeapMono (setProperty a name v) :=
  (setProperty_frame a name v).mono (fun _ _ h => h.2.1)

theorem mono_of_ks {α : Type} {m : M ν α} (p : Proofs.Balance.Pres Balance.KS m) : Pres HeapMono m :=
  ⟨fun s r s' e => .ofKS (by have := p.run s; rwa [e] at this)⟩

/-- every function of the evaluator keeps `HeapMono`, at fuel `n` -/
structure EvalMono (ν : Type) [NumOps ν] (n : Nat) : Prop where
  expr : ∀ e, Pres HeapMono (evalExpr (ν := ν) n e)
  member : ∀ e, Pres HeapMono (memberIV (ν := ν) n e)
  execFn : ∀ f t ps, Pres HeapMono (execFunction (ν := ν) n f t ps)
  execDirect : ∀ nm ps, Pres HeapMono (execDirectFunction (ν := ν) n nm ps)
  execMethod : ∀ r nm ps, Pres HeapMono (execMethodFunction (ν := ν) n r nm ps)
  constr : ∀ cv ps, Pres HeapMono (construct (ν := ν) n cv ps)
  execBlock : ∀ b ps, Pres HeapMono (evalExecBlock (ν := ν) n b ps)
  handle : ∀ bm bd cs e, Pres HeapMono (handleException (ν := ν) n bm bd cs e)
  stmtBlock : ∀ b, Pres HeapMono (evalStmtBlock (ν := ν) n b)
  pureBlock : ∀ b, Pres HeapMono (evalPureStmtBlock (ν := ν) n b)
  stmt : ∀ st, Pres HeapMono (evalStmt (ν := ν) n st)
  classDecl : ∀ st, Pres HeapMono (evalClassDecl (ν := ν) n st)
  funcDecl : ∀ st, Pres HeapMono (evalFuncDecl (ν := ν) n st)
  ctorDecl : ∀ st, Pres HeapMono (evalCtorDecl (ν := ν) n st)

theorem evalMono : ∀ n, EvalMono ν n := fun n =>
  have h := Balance.allPres (R := Balance.KS (ν := ν)) n
  ⟨fun e => mono_of_ks (h.evalExpr e), fun e => mono_of_ks (h.memberIV e),
   fun f t ps => mono_of_ks (h.execFunction f t ps), fun nm ps => mono_of_ks (h.execDirectFunction nm ps),
   fun r nm ps => mono_of_ks (h.execMethodFunction r nm ps), fun cv ps => mono_of_ks (h.construct cv ps),
   fun b ps => mono_of_ks (h.evalExecBlock b ps), fun bm bd cs e => mono_of_ks (h.handleException bm bd cs e),
   fun b => mono_of_ks (h.evalStmtBlock b), fun b => mono_of_ks (h.evalPureStmtBlock b),
   fun st => mono_of_ks (h.evalStmt st), fun st => mono_of_ks (h.evalClassDecl st),
   fun st => mono_of_ks (h.evalFuncDecl st), fun st => mono_of_ks (h.evalCtorDecl st)⟩

end ZnVerif.Model
