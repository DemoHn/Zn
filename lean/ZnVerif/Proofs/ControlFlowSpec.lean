/-
Helper lemmas for the spec-side twins of C02 (`Spec/Sem.lean`: outcomes `ok | brk | cont | ret | raise | …`).
As in Proofs/EvalArms.lean, `specWhileStep` is a *name* for the step of the spec's 每当 loop, tied to
`execS` by `execS_while`; `SRuns` / `SWhilePasses` say "these statements / passes ended `ok`".
Second half: `SNoSig m` (`m` never ends with `.brk` / `.cont`) with its composition rules, up to `SNoSig.callBody`: the
outcome of a body is never a loop signal (the spec twin of `LoopSignals.NoSig.evalExecBlock`).
-/
import ZnVerif.Spec.Sem
set_option linter.unusedSectionVars false

namespace ZnVerif.Proofs.ControlFlowSpec
open ZnVerif.Spec
open ZnVerif.Model (Expr Stmt NumOps)

/-- the initial spec state with `Int` for the numbers (for `example`s) -/
def sp0 : SState Int := {}

variable {ν : Type} [NumOps ν]

theorem sbind_ok {α β} {m : SM ν α} {f : α → SM ν β} {s s' : SState ν} {a : α} (h : m s = (.ok a, s')) :
    (m >>= f) s = f a s' := by simp [bind, h]
theorem sbind_ret {α β} {m : SM ν α} {f : α → SM ν β} {s s' : SState ν} {v : SVal ν} (h : m s = (.ret v, s')) :
    (m >>= f) s = (.ret v, s') := by simp [bind, h]
theorem sbind_brk {α β} {m : SM ν α} {f : α → SM ν β} {s s' : SState ν} (h : m s = (.brk, s')) :
    (m >>= f) s = (.brk, s') := by simp [bind, h]
theorem sbind_cont {α β} {m : SM ν α} {f : α → SM ν β} {s s' : SState ν} (h : m s = (.cont, s')) :
    (m >>= f) s = (.cont, s') := by simp [bind, h]

/-- the statements `pre` ran one after the other, each ending normally (`ok`); `v` is the value of the last one -/
inductive SRuns (n : Nat) : SVal ν → List Stmt → SState ν → SVal ν → SState ν → Prop
  | nil (v : SVal ν) (s : SState ν) : SRuns n v [] s v s
  | cons {v0 v v' : SVal ν} {st : Stmt} {rest : List Stmt} {s s1 s2 : SState ν} :
      execS n st s = (.ok v, s1) → SRuns n v rest s1 v' s2 → SRuns n v0 (st :: rest) s v' s2

theorem foldlM_sruns {n : Nat} {v0 v1 : SVal ν} {pre : List Stmt} {s s1 : SState ν} (h : SRuns n v0 pre s v1 s1)
    (rest : List Stmt) :
    (pre ++ rest).foldlM (fun _ st => execS n st) v0 s = rest.foldlM (fun _ st => execS n st) v1 s1 := by
  induction h with
  | nil => rfl
  | cons he _ ih =>
    rw [← ih]
    simp [List.foldlM_cons, bind, he]

/-- statements that a block runs in place (definitions are hoisted); verbatim from `runBlock` -/
def notDecl (st : Stmt) : Bool := match st with | .classDecl .. | .funcDecl .. => false | _ => true

theorem runBlock_eq (n : Nat) (stmts : List Stmt) (s : SState ν) :
    runBlock (n+1) (some stmts) s = withBlock (runStmts n (stmts.filter notDecl)) s := by
  simp only [runBlock]
  rfl

/-- the step of the spec's 每当 loop (verbatim from `execS`): test, then pass -/
def specWhileStep (n : Nat) (cond : Expr) (body : Option (List Stmt)) : SM ν Bool := do
        match ← evalE n cond with
        | .bool true =>
          catchR (runBlock n body) fun r =>
            match r with
            | .ok _ => pure true
            | .cont => pure true
            | .brk => pure false
            | r => do let _ ← (sfail r : SM ν (SVal ν)); pure false
        | .bool false => pure false
        | _ => fault 80

/-- the 每当 arm of `execS` over `specWhileStep`, for the run lemmas below (`StmtNodes.execS_while` states the same arm over
`condNodeS` / `passHandlerS`, for the refinement) -/
theorem execS_while (n ln : Nat) (c : Expr) (body : Option (List Stmt)) (s : SState ν) :
    execS (n+1) (.while ln c body) s =
      ((do whileS n (specWhileStep n c body); pure .null) : SM ν (SVal ν)) s := by
  simp only [execS]
  rfl

/-- how the spec's loop reads the end of a pass -/
def specVerdict {α} : R ν α → Option Bool
  | .ok _ => some true
  | .cont => some true
  | .brk => some false
  | _ => none

theorem specWhileStep_pass {n : Nat} {c : Expr} {body : Option (List Stmt)} {s s1 s2 : SState ν}
    {r : R ν (SVal ν)} {b : Bool}
    (hc : evalE n c s = (.ok (.bool true), s1)) (hb : runBlock n body s1 = (r, s2)) (hv : specVerdict r = some b) :
    specWhileStep n c body s = (.ok b, s2) := by
  unfold specWhileStep
  rw [sbind_ok hc]
  simp only [catchR, hb]
  cases r <;> simp [specVerdict] at hv <;> subst hv <;> rfl

theorem specWhileStep_ret {n : Nat} {c : Expr} {body : Option (List Stmt)} {s s1 s2 : SState ν} {v : SVal ν}
    (hc : evalE n c s = (.ok (.bool true), s1)) (hb : runBlock n body s1 = (.ret v, s2)) :
    specWhileStep n c body s = (.ret v, s2) := by
  unfold specWhileStep
  rw [sbind_ok hc]
  simp only [catchR, hb]
  rfl

theorem specWhileStep_false {n : Nat} {c : Expr} {body : Option (List Stmt)} {s s1 : SState ν}
    (hc : evalE n c s = (.ok (.bool false), s1)) :
    specWhileStep n c body s = (.ok false, s1) := by
  unfold specWhileStep
  rw [sbind_ok hc]
  rfl

/-- k complete passes of the spec's loop: condition 真 first, then the body ends `ok` or with `cont` -/
inductive SWhilePasses (n : Nat) (c : Expr) (body : Option (List Stmt)) : Nat → SState ν → SState ν → Prop
  | zero (s : SState ν) : SWhilePasses n c body 0 s s
  | succ {k : Nat} {s s1 s2 s3 : SState ν} {r : R ν (SVal ν)} :
      evalE n c s = (.ok (.bool true), s1) → runBlock n body s1 = (r, s2) → specVerdict r = some true →
      SWhilePasses n c body k s2 s3 → SWhilePasses n c body (k+1) s s3

theorem whileS_passes {n : Nat} {c : Expr} {body : Option (List Stmt)} {k : Nat} {s s' : SState ν}
    (h : SWhilePasses n c body k s s') (j : Nat) :
    whileS (k + j) (specWhileStep n c body) s = whileS j (specWhileStep n c body) s' := by
  induction h with
  | zero => simp
  | @succ k' _ _ _ _ _ hc hb hv _ ih =>
    rw [← ih, show k' + 1 + j = (k' + j) + 1 by omega]
    simp [whileS, bind, specWhileStep_pass hc hb hv]

theorem spec_while_after {n : Nat} {c : Expr} {body : Option (List Stmt)} {k : Nat} {s s1 s2 : SState ν}
    {r : R ν Bool}
    (hp : SWhilePasses n c body k s s1) (hk : k < n) (hstep : specWhileStep n c body s1 = (r, s2))
    (hr : r = .ok true → False) :
    whileS n (specWhileStep n c body) s =
      (match r with
        | .ok _ => .ok () | .brk => .brk | .cont => .cont | .ret v => .ret v | .raise e => .raise e
        | .fatal c => .fatal c | .unspecified => .unspecified | .fuel => .fuel, s2) := by
  obtain ⟨j, rfl⟩ : ∃ j, n = k + (j + 1) := ⟨n - k - 1, by omega⟩
  rw [whileS_passes hp]
  cases r with
  | ok b =>
    cases b
    · simp [whileS, bind, hstep, pure]
    · exact (hr rfl).elim
  | _ => simp [whileS, bind, hstep]

/-! ## loop signals on the spec side: `.brk` / `.cont` never leave a body -/

def isLoopSignal {α} : R ν α → Bool
  | .brk | .cont => true
  | _ => false

/-- `m` never ends with `.brk` / `.cont` -/
def SNoSig {α} (m : SM ν α) : Prop := ∀ s r s', m s = (r, s') → isLoopSignal r = false

theorem SNoSig.pure {α} (a : α) : SNoSig (Pure.pure a : SM ν α) := by
  intro s r s' h; cases h; rfl

theorem SNoSig.sfail {α} {r : R ν α} (h : isLoopSignal r = false) : SNoSig (Spec.sfail r : SM ν α) := by
  intro s r' s' h'; cases h'; exact h

theorem SNoSig.modS (f : SState ν → SState ν) : SNoSig (modS f) := by intro s r s' h; cases h; rfl
theorem SNoSig.getS : SNoSig (getS : SM ν (SState ν)) := by intro s r s' h; cases h; rfl
theorem SNoSig.fault {α} (c : Nat) : SNoSig (Spec.fault c : SM ν α) := SNoSig.sfail rfl
theorem SNoSig.unspec {α} : SNoSig (Spec.unspec : SM ν α) := SNoSig.sfail rfl

theorem SNoSig.bind {α β} {m : SM ν α} {f : α → SM ν β} (hm : SNoSig m) (hf : ∀ a, SNoSig (f a)) :
    SNoSig (m >>= f) := by
  intro s r s' h
  simp only [Bind.bind] at h
  rcases hms : m s with ⟨r1, s1⟩
  rw [hms] at h
  have h1 := hm _ _ _ hms
  cases r1 <;> first | exact hf _ _ _ _ h | (cases h; first | rfl | exact h1)

theorem SNoSig.catchR {α β} (m : SM ν α) {k : R ν α → SM ν β} (hk : ∀ r, SNoSig (k r)) : SNoSig (Spec.catchR m k) := by
  intro s r s' h
  simp only [Spec.catchR] at h
  exact hk _ _ _ _ h

theorem SNoSig.catchR' {α β} {m : SM ν α} {k : R ν α → SM ν β} (hm : SNoSig m)
    (hk : ∀ r, isLoopSignal r = false → SNoSig (k r)) : SNoSig (Spec.catchR m k) := by
  intro s r s' h
  simp only [Spec.catchR] at h
  rcases hms : m s with ⟨r1, s1⟩
  rw [hms] at h
  exact hk r1 (hm _ _ _ hms) _ _ _ h

theorem SNoSig.forM {α} {f : α → SM ν PUnit} (hf : ∀ a, SNoSig (f a)) : ∀ xs : List α, SNoSig (xs.forM f)
  | [] => SNoSig.pure _
  | x :: xs => by
    have : (x :: xs).forM f = (do f x; xs.forM f) := rfl
    rw [this]
    exact SNoSig.bind (hf x) fun _ => SNoSig.forM hf xs

theorem SNoSig.firstS {α β} {f : α → SM ν (Option β)} {d : SM ν β} (hf : ∀ a, SNoSig (f a)) (hd : SNoSig d) :
    ∀ xs : List α, SNoSig (Spec.firstS f d xs)
  | [] => hd
  | x :: xs => by
    unfold Spec.firstS
    refine SNoSig.bind (hf x) fun o => ?_
    split
    · exact SNoSig.pure _
    · exact SNoSig.firstS hf hd xs

theorem SNoSig.ite {α} {c : Prop} [Decidable c] {a b : SM ν α} (ha : SNoSig a) (hb : SNoSig b) :
    SNoSig (if c then a else b) := by
  split <;> assumption

theorem SNoSig.withBlock {α} {m : SM ν α} (hm : SNoSig m) : SNoSig (Spec.withBlock m) := by
  unfold Spec.withBlock
  exact SNoSig.bind (SNoSig.modS _) fun _ => SNoSig.catchR' hm fun r hr =>
    SNoSig.bind (SNoSig.modS _) fun _ => SNoSig.sfail hr

theorem SNoSig.classifyId (lit : String) : SNoSig (classifyId lit : SM ν (IdK ν)) := by
  unfold Spec.classifyId; split
  · exact SNoSig.sfail rfl
  · exact SNoSig.pure _
  · exact SNoSig.pure _

theorem SNoSig.idName (lit : String) : SNoSig (idName lit : SM ν String) := by
  unfold Spec.idName
  refine SNoSig.bind (SNoSig.classifyId lit) fun k => ?_
  split
  · exact SNoSig.pure _
  · exact SNoSig.sfail rfl

theorem SNoSig.idNameOpt (i : Option ZnVerif.Model.Ident) : SNoSig (idNameOpt i : SM ν String) := by
  unfold Spec.idNameOpt; split
  · exact SNoSig.idName _
  · exact SNoSig.unspec

theorem SNoSig.declare (nm : String) (v : SVal ν) (c : Bool) : SNoSig (declare nm v c : SM ν Unit) := by
  unfold Spec.declare
  split
  · exact SNoSig.fault _
  · refine SNoSig.bind SNoSig.getS fun s => ?_
    split
    · exact SNoSig.fault _
    · split
      · exact SNoSig.fault _
      · exact SNoSig.modS _

/-- the outcome of a body (method, constructor, program) is never `.brk` / `.cont` -/
theorem SNoSig.callBody (n : Nat) (blk : Option ZnVerif.Model.ExecBlock) (args : List (SVal ν)) (this : Option (SVal ν)) :
    SNoSig (callBody n blk args this) := by
  cases n with
  | zero => simp only [Spec.callBody]; exact SNoSig.sfail rfl
  | succ n =>
    cases blk with
    | none => simp only [Spec.callBody]; exact SNoSig.unspec
    | some b =>
      obtain ⟨inputs, body, catches⟩ := b
      simp only [Spec.callBody]
      refine SNoSig.bind (SNoSig.modS _) fun _ => SNoSig.catchR' (SNoSig.withBlock ?_) fun r hr =>
        SNoSig.bind (SNoSig.modS _) fun _ => SNoSig.sfail hr
      split
      · exact SNoSig.fault _
      · refine SNoSig.bind (SNoSig.forM (fun p => SNoSig.bind (SNoSig.idName _) fun _ => SNoSig.declare _ _ _) _) fun _ => ?_
        refine SNoSig.catchR' (SNoSig.catchR _ fun r => ?_) fun r hr => ?_
        · cases r <;> exact SNoSig.sfail rfl
        · cases r with
          | ok v => exact SNoSig.pure _
          | ret v => exact SNoSig.pure _
          | raise ex =>
            refine SNoSig.bind SNoSig.getS fun s => SNoSig.firstS (fun c => ?_) (SNoSig.sfail (ν := ν) rfl) _
            refine SNoSig.bind (SNoSig.idNameOpt _) fun hn => SNoSig.ite ?_ (SNoSig.pure _)
            refine SNoSig.bind (SNoSig.modS _) fun _ => SNoSig.bind (SNoSig.catchR _ fun hr => ?_) fun _ => SNoSig.pure _
            refine SNoSig.bind (SNoSig.modS _) fun _ => ?_
            cases hr <;> first | exact SNoSig.pure _ | exact SNoSig.sfail rfl
          | brk => cases hr
          | cont => cases hr
          | fatal c => exact SNoSig.sfail rfl
          | unspecified => exact SNoSig.sfail rfl
          | fuel => exact SNoSig.sfail rfl

end ZnVerif.Proofs.ControlFlowSpec
