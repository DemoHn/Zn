/-
Helper lemmas for the input-variable theorems: calls, method calls and 新建 in a VM that satisfies `VI`.  No cell is
a user-defined method or a type with a user-defined constructor / with methods, so none of the three enters `evalExecBlock`:
they are proved directly (no induction on the fuel).  This is where the frames are pushed and popped — every `popFrame` is
shown to find the frame its own `pushFrame` put there.
-/
import ZnVerif.Proofs.VarInputVM
set_option linter.unusedSectionVars false

namespace ZnVerif.Proofs.VarInput
open ZnVerif.Model ZnVerif.Proofs.Builtins ZnVerif.Proofs.Leaf

variable {ν : Type} [NumOps ν]

theorem vpost_dup (n : Nat) {s : VM ν} (hs : VI s) {a : Addr} (ha : a < s.heap.size) :
    Hoare VI Ext s (fun r s' => r < s'.heap.size) (dup n a s) :=
  (post_dup n hs.heap ha).ofPre.liftLeaf vi_laws hs (Leaf.dup n a)

theorem plain_cls {c : Cell ν} {nm : String} {ctor : Ctor} {props methods : List (String × Addr)}
    (h : Plain c) (hc : c = .cls nm ctor props methods) : (∀ mid exec, ctor ≠ .user mid exec) ∧ methods = [] := by
  subst hc
  cases ctor with
  | default => exact ⟨(fun _ _ he => nomatch he), h⟩
  | exception => exact ⟨(fun _ _ he => nomatch he), h⟩
  | user mid exec => exact h.elim

/-- `ClassModel.Construct` on a class without a user-defined constructor (the only kind there is) -/
theorem vpost_construct (n : Nat) {s : VM ν} (hs : VI s) {cv : Addr} (hcv : IsCls s.heap cv) {params : List Addr}
    (hp : ∀ v ∈ params, v < s.heap.size) : Hoare VI Ext s (fun r s' => r < s'.heap.size) (construct n cv params s) := by
  obtain ⟨nm, ctor, props, methods, hc⟩ := hcv
  exact post_construct vi_laws n params hs hc (plain_cls (hs.plain cv _ hc) rfl).1 hp

/-- `execDirectFunction`: `（f：…）`.  The name is looked up (no scope → 42, never an index into the empty call stack), a frame of
    the value's home module is pushed — for a name bound by an input-variable text itself that is module -1, the native module
    (commit 2eab72e) —, a value that is not a method is error 81 (frame left, as in programs), a predefined function runs and
    its frame is popped. -/
theorem vpost_execDirectFunction (n : Nat) {s : VM ν} (hs : VI s) (fname : String) {params : List Addr}
    (hp : ∀ v ∈ params, v < s.heap.size) :
    Hoare VI Ext s (fun r s' => r < s'.heap.size) (execDirectFunction n fname params s) := by
  cases n with
  | zero => exact Hoare.fuel hs
  | succ n =>
    refine RO.post_bind hs (ro_findElementWithModule hs fname) (fun p hpv => ?_)
    obtain ⟨fv, mid⟩ := p
    dsimp only
    refine Hoare.bind (vpost_pushFrame hs { moduleId := mid, callType := 2 } (fun t ht => by cases ht))
      (fun _ s1 hs1 e1 hst1 => ?_)
    have hfv : fv < s1.heap.size := Nat.lt_of_lt_of_le hpv e1.size
    refine Hoare.getCell_of_lt hfv (fun c hc => ?_)
    cases c with
    | fn f =>
      dsimp only
      have hp1 : ∀ v ∈ params, v < s1.heap.size := fun v hv => Nat.lt_of_lt_of_le (hp v hv) e1.size
      refine Hoare.bind (vpost_execFunction_plain n hs1 f (hs1.plain fv _ hc) none hp1) (fun r s2 hs2 e2 h2 => ?_)
      refine Hoare.bind (vpost_popFrame hs2 (h2.2.trans hst1)) (fun _ s3 hs3 e3 h3 => ?_)
      exact Hoare.pure hs3 (Nat.lt_of_lt_of_le h2.1 e3.size)
    | _ => exact Hoare.err _ hs1

/-- `execMethodFunction`: `以 root（f：…）`.  A built-in value: frame of the native module with `this = root`, the built-in
    method (`post_builtinMethod`, Proofs/BuiltinMembers.lean), the frame popped.  An object: its type has no methods → 46. -/
theorem vpost_execMethodFunction (n : Nat) {s : VM ν} (hs : VI s) {root : Addr} (hr : root < s.heap.size) (fname : String)
    {params : List Addr} (hp : ∀ v ∈ params, v < s.heap.size) :
    Hoare VI Ext s (fun r s' => r < s'.heap.size) (execMethodFunction n root fname params s) := by
  cases n with
  | zero => exact Hoare.fuel hs
  | succ n =>
    have builtin : Hoare VI Ext s (fun r s' => r < s'.heap.size) ((do
        pushFrame { moduleId := -1, callType := 2, this := some root }
        let r ← builtinMethod n root fname params
        popFrame
        pure r : M ν Addr) s) := by
      refine Hoare.bind (vpost_pushFrame hs { moduleId := -1, callType := 2, this := some root }
        (fun t ht => by cases ht; exact hr)) (fun _ s1 hs1 e1 hst1 => ?_)
      have hr1 : root < s1.heap.size := Nat.lt_of_lt_of_le hr e1.size
      have hp1 : ∀ v ∈ params, v < s1.heap.size := fun v hv => Nat.lt_of_lt_of_le (hp v hv) e1.size
      refine Hoare.bind ((post_builtinMethod n fname params hs1.heap hr1 hp1).lift vi_laws hs1
        (.ofLeafStep ((runs_builtinMethod n root fname params).step s1))) (fun r s2 hs2 e2 h2 => ?_)
      refine Hoare.bind (vpost_popFrame hs2 (h2.2.2.2.1.trans hst1)) (fun _ s3 hs3 e3 h3 => ?_)
      exact Hoare.pure hs3 (Nat.lt_of_lt_of_le h2.1 e3.size)
    refine Hoare.getCell_of_lt hr (fun c hc => ?_)
    cases c with
    | obj cl props =>
      dsimp only
      obtain ⟨cn, ct, cp, cm, hcl⟩ := (hs.heap root _ hc).1
      refine Hoare.getCell hcl ?_
      dsimp only
      obtain ⟨_, hm⟩ := plain_cls (hs.plain cl _ hcl) rfl
      subst hm
      refine RO.post_bind hs (ro_findElementWithModule hs cn) (fun p _ => ?_)
      obtain ⟨_, mid⟩ := p
      dsimp only
      refine Hoare.bind (vpost_pushFrame hs { moduleId := mid, callType := 2, this := some root }
        (fun t ht => by cases ht; exact hr)) (fun _ s1 hs1 e1 h1 => ?_)
      exact Hoare.err _ hs1
    | _ => exact builtin

end ZnVerif.Proofs.VarInput
