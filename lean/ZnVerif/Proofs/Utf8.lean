/-
Go's `unicode/utf8` (Model/Utf8.lean: first-byte table, accept ranges) against the spec's one-character reader
(Spec/Decode.lean: "the canonical encoding of a scalar value").

* `WellFormed` — the well-formed byte sequences of the Unicode Standard (Table 3-7); `wellFormed_encode`, `encode_payload`:
  they are exactly the encodings of the scalar values, `payload` reading the value back;
* `decode_wf` — `DecodeRune` reads a well-formed sequence as its payload and looks no further (all a round trip asks of a
  decoder: the text methods' and the JSON model's decoders have the same lemma, in Proofs/TextUtf8 and Proofs/JsonZn);
* `lead_cases` — what `DecodeRune` and `FullRune` make of any input: it starts with a well-formed sequence, or a byte that is
  present is wrong, or it is a proper prefix of a well-formed sequence.  `decode_sound`, `fullRune_append` (a decoded prefix
  is stable under appending the next block) and `not_full_decode` are its readings;
* `decodeOne_model` — hence decoder and spec reader agree on every input.
-/
import ZnVerif.Model.Utf8
import ZnVerif.Spec.Decode

namespace ZnVerif.Proofs.Utf8
open ZnVerif ZnVerif.Model ZnVerif.Spec

theorem first_ascii {b : Nat} (h : b < 0x80) : first b = .ascii := by
  rw [first, if_pos h]

theorem first_2 {b : Nat} (h : 0xC2 ≤ b) (h' : b < 0xE0) : first b = .lead 2 0x80 0xBF := by
  rw [first, if_neg (by omega), if_neg (by omega), if_pos h']

theorem first_3 {b : Nat} (h : 0xE0 ≤ b) (h' : b < 0xF0) :
    first b = .lead 3 (if b = 0xE0 then 0xA0 else 0x80) (if b = 0xED then 0x9F else 0xBF) := by
  rw [first, if_neg (by omega), if_neg (by omega), if_neg (by omega)]
  by_cases e0 : b = 0xE0
  · subst e0; rfl
  by_cases ed : b = 0xED
  · subst ed; rfl
  rw [if_neg e0, if_neg e0, if_neg ed, if_neg ed, if_pos h', ite_self]

theorem first_4 {b : Nat} (h : 0xF0 ≤ b) (h' : b < 0xF5) :
    first b = .lead 4 (if b = 0xF0 then 0x90 else 0x80) (if b = 0xF4 then 0x8F else 0xBF) := by
  rw [first, if_neg (by omega), if_neg (by omega), if_neg (by omega), if_neg (by omega), if_neg (by omega),
    if_neg (by omega), if_neg (by omega)]
  by_cases e0 : b = 0xF0
  · subst e0; rfl
  by_cases e4 : b = 0xF4
  · subst e4; rfl
  rw [if_neg e0, if_neg e0, if_neg e4, if_neg e4, if_pos (by omega)]

theorem first_cases (b : Nat) : b < 0x80 ∨ first b = .invalid ∨ (0xC2 ≤ b ∧ b < 0xE0) ∨ (0xE0 ≤ b ∧ b < 0xF0) ∨
    (0xF0 ≤ b ∧ b < 0xF5) := by
  by_cases h1 : b < 0x80
  · exact .inl h1
  by_cases h2 : b < 0xC2
  · exact .inr (.inl (by rw [first, if_neg h1, if_pos h2]))
  by_cases h5 : b < 0xF5
  · omega
  · refine .inr (.inl ?_)
    rw [first, if_neg (by omega), if_neg (by omega), if_neg (by omega), if_neg (by omega), if_neg (by omega),
      if_neg (by omega), if_neg (by omega), if_neg (by omega), if_neg (by omega), if_neg (by omega)]

section
variable {p0 sz lo hi : Nat} (hf : first p0 = .lead sz lo hi)
include hf

theorem dec_short {rest : List Nat} (h : rest.length + 1 < sz) : utf8DecodeRune (p0 :: rest) = (runeError, 1) := by
  simp only [utf8DecodeRune, hf, if_pos h]

theorem full_long {rest : List Nat} (h : sz ≤ rest.length + 1) : fullRune (p0 :: rest) = true := by
  simp only [fullRune, hf, if_pos h]

theorem bad1 {b1 : Nat} (hb : b1 < lo ∨ hi < b1) (r : List Nat) :
    utf8DecodeRune (p0 :: b1 :: r) = (runeError, 1) ∧ fullRune (p0 :: b1 :: r) = true := by
  simp only [utf8DecodeRune, fullRune, hf, hb, if_true, ite_self, and_self]

theorem bad2 (hs : 3 ≤ sz) {b1 b2 : Nat} (hb : isCont b2 = false) (r : List Nat) :
    utf8DecodeRune (p0 :: b1 :: b2 :: r) = (runeError, 1) ∧ fullRune (p0 :: b1 :: b2 :: r) = true := by
  have h2 : ¬ sz ≤ 2 := by omega
  simp only [utf8DecodeRune, fullRune, hf, hb, h2, if_false, Bool.not_false, if_true, ite_self, and_self]
end

section
variable {p0 lo hi : Nat}

theorem dec2 (hf : first p0 = .lead 2 lo hi) (b1 : Nat) (r : List Nat) : utf8DecodeRune (p0 :: b1 :: r) =
    if b1 < lo ∨ hi < b1 then (runeError, 1) else (payload [p0, b1], 2) := by
  have : ¬ (r.length + 1 + 1 < 2) := by omega
  simp [utf8DecodeRune, payload, hf, this]

theorem dec3 (hf : first p0 = .lead 3 lo hi) (b1 b2 : Nat) (r : List Nat) : utf8DecodeRune (p0 :: b1 :: b2 :: r) =
    if b1 < lo ∨ hi < b1 then (runeError, 1) else if !isCont b2 then (runeError, 1)
    else (payload [p0, b1, b2], 3) := by
  have : ¬ (r.length + 1 + 1 + 1 < 3) := by omega
  simp [utf8DecodeRune, payload, hf, this]

theorem dec4 (hf : first p0 = .lead 4 lo hi) (b1 b2 b3 : Nat) (r : List Nat) :
    utf8DecodeRune (p0 :: b1 :: b2 :: b3 :: r) =
    if b1 < lo ∨ hi < b1 then (runeError, 1) else if !isCont b2 then (runeError, 1)
    else if !isCont b3 then (runeError, 1)
    else (payload [p0, b1, b2, b3], 4) := by
  have : ¬ (r.length + 1 + 1 + 1 + 1 < 4) := by omega
  simp [utf8DecodeRune, payload, hf, this]
end

theorem encode_cases (c : Nat) : (c < 0x80 ∧ encode c = [c]) ∨
    (0x80 ≤ c ∧ c < 0x800 ∧ encode c = [0xC0 + c / 0x40, 0x80 + c % 0x40]) ∨
    (0x800 ≤ c ∧ c < 0x10000 ∧ encode c = [0xE0 + c / 0x1000, 0x80 + c / 0x40 % 0x40, 0x80 + c % 0x40]) ∨
    (0x10000 ≤ c ∧
      encode c = [0xF0 + c / 0x40000, 0x80 + c / 0x1000 % 0x40, 0x80 + c / 0x40 % 0x40, 0x80 + c % 0x40]) := by
  unfold encode
  by_cases h1 : c < 0x80
  · exact .inl ⟨h1, if_pos h1⟩
  by_cases h2 : c < 0x800
  · exact .inr (.inl ⟨by omega, h2, by rw [if_neg h1, if_pos h2]⟩)
  by_cases h3 : c < 0x10000
  · exact .inr (.inr (.inl ⟨by omega, h3, by rw [if_neg h1, if_neg h2, if_pos h3]⟩))
  · exact .inr (.inr (.inr ⟨by omega, by rw [if_neg h1, if_neg h2, if_neg h3]⟩))

theorem decodeOne_sound {bytes : List Nat} {c : Nat} {rest : List Nat} (h : decodeOne bytes = some (c, rest)) :
    IsScalar c ∧ bytes = encode c ++ rest := by
  unfold decodeOne at h
  split at h
  · cases h
  · simp only [] at h
    split at h
    · rename_i hc
      cases h
      refine ⟨hc.2.1, ?_⟩
      rw [hc.2.2, List.take_append_drop]
    · cases h

theorem dec_ascii {p0 : Nat} (h : p0 < 0x80) (rest : List Nat) : utf8DecodeRune (p0 :: rest) = (p0, 1) := by
  simp only [utf8DecodeRune, first_ascii h]

theorem isCont_iff (b : Nat) : isCont b = true ↔ 0x80 ≤ b ∧ b ≤ 0xBF := by simp [isCont]

/-- lets `omega` read a table entry written with `if` -/
theorem ite_cases (p : Prop) [Decidable p] (a b : Nat) :
    (p ∧ (if p then a else b) = a) ∨ (¬ p ∧ (if p then a else b) = b) := by
  by_cases h : p
  · exact .inl ⟨h, if_pos h⟩
  · exact .inr ⟨h, if_neg h⟩

/-- The well-formed byte sequences of the Unicode Standard (Table 3-7), the second byte's range written as utf8.go's
`acceptRanges` have it: it depends on the lead byte so as to exclude overlong forms (E0 80..9F, F0 80..8F), surrogates
(ED A0..BF) and values above U+10FFFF (F4 90..BF). -/
inductive WellFormed : List Nat → Prop
  | one {b0 : Nat} (h : b0 < 0x80) : WellFormed [b0]
  | two {b0 b1 : Nat} (h : 0xC2 ≤ b0) (h' : b0 < 0xE0) (h1 : 0x80 ≤ b1 ∧ b1 ≤ 0xBF) : WellFormed [b0, b1]
  | three {b0 b1 b2 : Nat} (h : 0xE0 ≤ b0) (h' : b0 < 0xF0)
      (h1 : (if b0 = 0xE0 then 0xA0 else 0x80) ≤ b1 ∧ b1 ≤ (if b0 = 0xED then 0x9F else 0xBF))
      (h2 : 0x80 ≤ b2 ∧ b2 ≤ 0xBF) : WellFormed [b0, b1, b2]
  | four {b0 b1 b2 b3 : Nat} (h : 0xF0 ≤ b0) (h' : b0 < 0xF5)
      (h1 : (if b0 = 0xF0 then 0x90 else 0x80) ≤ b1 ∧ b1 ≤ (if b0 = 0xF4 then 0x8F else 0xBF))
      (h2 : 0x80 ≤ b2 ∧ b2 ≤ 0xBF) (h3 : 0x80 ≤ b3 ∧ b3 ≤ 0xBF) : WellFormed [b0, b1, b2, b3]

/-- a continuation byte carries six bits -/
theorem cont_mod (x : Nat) : (0x80 + x % 0x40) % 0x40 = x % 0x40 := by omega

theorem cont_range (x : Nat) : 0x80 ≤ 0x80 + x % 0x40 ∧ 0x80 + x % 0x40 ≤ 0xBF := by omega

/-- The encoding of a scalar value is well formed and carries the value.  The second byte lies in the accept range of its
lead byte: at E0 the value is at least U+0800, at ED it is below the surrogates, at F0 at least U+10000, at F4 at most
U+10FFFF. -/
theorem wellFormed_encode {c : Nat} (h : IsScalar c) : WellFormed (encode c) ∧ payload (encode c) = c := by
  have hmax : c ≤ 0x10FFFF := by unfold IsScalar at h; omega
  rcases encode_cases c with ⟨h1, he⟩ | ⟨h1, h2, he⟩ | ⟨h1, h2, he⟩ | ⟨h1, he⟩ <;> rw [he]
  · exact ⟨.one h1, rfl⟩
  · refine ⟨.two (by omega) (by omega) (cont_range _), ?_⟩
    have : (0xC0 + c / 0x40) % 0x20 = c / 0x40 := by omega
    simp only [payload, cont_mod, this]; omega
  · refine ⟨.three (Nat.le_add_right _ _) (by omega) ?_ (cont_range _), ?_⟩
    · unfold IsScalar at h
      split <;> split <;> omega
    have : (0xE0 + c / 0x1000) % 0x10 = c / 0x1000 := by omega
    simp only [payload, cont_mod, this]; omega
  · refine ⟨.four (Nat.le_add_right _ _) (by omega) ?_ (cont_range _) (cont_range _), ?_⟩
    · unfold IsScalar at h
      split <;> split <;> omega
    have : (0xF0 + c / 0x40000) % 8 = c / 0x40000 := by omega
    simp only [payload, cont_mod, this]; omega

theorem encode_payload : ∀ {bs : List Nat}, WellFormed bs → IsScalar (payload bs) ∧ encode (payload bs) = bs
  | _, .one h => ⟨.inl (by simp only [payload]; omega), if_pos h⟩
  | _, .two (b0 := b0) (b1 := b1) h h' h1 => by
    have hr : 0x80 ≤ payload [b0, b1] ∧ payload [b0, b1] < 0x800 := by simp only [payload]; omega
    refine ⟨.inl (by omega), ?_⟩
    rw [encode, if_neg (by omega), if_pos hr.2]
    simp only [payload, List.cons.injEq, and_true]
    omega
  | _, .three (b0 := b0) (b1 := b1) (b2 := b2) h h' h1 h2 => by
    -- the accept range is used here, for the bounds of the value; the digits below need only that `b1` is a continuation byte
    obtain ⟨hb, hr⟩ : (0x80 ≤ b1 ∧ b1 ≤ 0xBF) ∧
        0x800 ≤ payload [b0, b1, b2] ∧ payload [b0, b1, b2] < 0x10000 ∧ IsScalar (payload [b0, b1, b2]) := by
      have := ite_cases (b0 = 0xE0) 0xA0 0x80
      have := ite_cases (b0 = 0xED) 0x9F 0xBF
      simp only [payload, IsScalar]; omega
    clear h1
    refine ⟨hr.2.2, ?_⟩
    rw [encode, if_neg (by omega), if_neg (by omega), if_pos hr.2.1]
    simp only [payload, List.cons.injEq, and_true]
    omega
  | _, .four (b0 := b0) (b1 := b1) (b2 := b2) (b3 := b3) h h' h1 h2 h3 => by
    obtain ⟨hb, hr⟩ : (0x80 ≤ b1 ∧ b1 ≤ 0xBF) ∧
        0x10000 ≤ payload [b0, b1, b2, b3] ∧ payload [b0, b1, b2, b3] ≤ 0x10FFFF := by
      have := ite_cases (b0 = 0xF0) 0x90 0x80
      have := ite_cases (b0 = 0xF4) 0x8F 0xBF
      simp only [payload]; omega
    clear h1
    refine ⟨.inr (by omega), ?_⟩
    rw [encode, if_neg (by omega), if_neg (by omega), if_neg (by omega)]
    simp only [payload, List.cons.injEq, and_true]
    omega

theorem seqLen_wf : ∀ {bs : List Nat}, WellFormed bs → ∃ b0 tl, bs = b0 :: tl ∧ seqLen b0 = bs.length
  | _, .one h => ⟨_, _, rfl, if_pos h⟩
  | _, .two h h' _ => ⟨_, _, rfl, by rw [seqLen, if_neg (by omega), if_pos (by omega)]; rfl⟩
  | _, .three h h' _ _ => ⟨_, _, rfl, by rw [seqLen, if_neg (by omega), if_neg (by omega), if_pos (by omega)]; rfl⟩
  | _, .four h h' _ _ _ =>
    ⟨_, _, rfl, by rw [seqLen, if_neg (by omega), if_neg (by omega), if_neg (by omega), if_pos (by omega)]; rfl⟩

/-- whatever the accept range, the second byte is a continuation byte -/
theorem accept_cont {p q : Prop} [Decidable p] [Decidable q] {lo hi b : Nat} (hlo : 0x80 ≤ lo) (hhi : hi ≤ 0xBF)
    (h : (if p then lo else 0x80) ≤ b ∧ b ≤ (if q then hi else 0xBF)) : 0x80 ≤ b ∧ b ≤ 0xBF := by
  have := ite_cases p lo 0x80
  have := ite_cases q hi 0xBF
  omega

theorem wf_shape : ∀ {bs : List Nat}, WellFormed bs →
    ∃ b tl, bs = b :: tl ∧ ¬ (0x80 ≤ b ∧ b ≤ 0xBF) ∧ ∀ x ∈ tl, 0x80 ≤ x ∧ x ≤ 0xBF
  | _, .one h => ⟨_, _, rfl, by omega, by simp⟩
  | _, .two h h' h1 => ⟨_, _, rfl, by omega, by simpa using h1⟩
  | _, .three h h' h1 h2 => by
    have hb := accept_cont (by decide) (by decide) h1
    exact ⟨_, _, rfl, by omega, by simp; omega⟩
  | _, .four h h' h1 h2 h3 => by
    have hb := accept_cont (by decide) (by decide) h1
    exact ⟨_, _, rfl, by omega, by simp; omega⟩

theorem decodeOne_wf {bs : List Nat} (h : WellFormed bs) (rest : List Nat) :
    decodeOne (bs ++ rest) = some (payload bs, rest) := by
  obtain ⟨b0, tl, rfl, hl⟩ := seqLen_wf h
  simp only [decodeOne, List.cons_append, hl]
  rw [← List.cons_append, List.take_left' rfl, List.drop_left' rfl, if_pos ⟨Nat.succ_pos _, encode_payload h⟩]

theorem decodeOne_encode {c : Nat} (h : IsScalar c) (rest : List Nat) :
    decodeOne (encode c ++ rest) = some (c, rest) := by
  rw [decodeOne_wf (wellFormed_encode h).1, (wellFormed_encode h).2]

theorem decode_wf : ∀ {bs : List Nat}, WellFormed bs → ∀ rest, utf8DecodeRune (bs ++ rest) = (payload bs, bs.length)
  | _, .one h, rest => dec_ascii h rest
  | _, .two h h' h1, rest => by
    rw [List.cons_append, List.cons_append, dec2 (first_2 h h'), if_neg (by omega)]; rfl
  | _, .three h h' h1 h2, rest => by
    rw [List.cons_append, List.cons_append, List.cons_append, dec3 (first_3 h h'), if_neg (by omega),
      (isCont_iff _).2 h2]; rfl
  | _, .four h h' h1 h2 h3, rest => by
    rw [List.cons_append, List.cons_append, List.cons_append, List.cons_append, dec4 (first_4 h h'),
      if_neg (by omega), (isCont_iff _).2 h2, (isCont_iff _).2 h3]; rfl

theorem full_wf : ∀ {bs : List Nat}, WellFormed bs → ∀ rest, fullRune (bs ++ rest) = true
  | _, .one h, rest => by simp only [List.cons_append, fullRune, first_ascii h]
  | _, .two h h' _, rest => full_long (first_2 h h') (by simp)
  | _, .three h h' _ _, rest => full_long (first_3 h h') (by simp)
  | _, .four h h' _ _ _, rest => full_long (first_4 h h') (by simp)

theorem decode_encode {c : Nat} (hc : IsScalar c) (rest : List Nat) :
    utf8DecodeRune (encode c ++ rest) = (c, (encode c).length) := by
  rw [decode_wf (wellFormed_encode hc).1, (wellFormed_encode hc).2]

/-- What `DecodeRune` and `FullRune` make of an input, by the bytes behind the lead byte: it starts with a well-formed
sequence; or a byte that is present is wrong — an error, and a full rune, whatever follows; or it is a proper prefix of
a well-formed sequence — an error for `DecodeRune` alone, not a full rune. -/
theorem lead_cases (p0 : Nat) (rest : List Nat) :
    (∃ bs r, WellFormed bs ∧ p0 :: rest = bs ++ r) ∨
    (∀ more, utf8DecodeRune (p0 :: (rest ++ more)) = (runeError, 1) ∧ fullRune (p0 :: (rest ++ more)) = true) ∨
    (utf8DecodeRune (p0 :: rest) = (runeError, 1) ∧ fullRune (p0 :: rest) = false) := by
  rcases first_cases p0 with h | h | h | h | h
  · exact .inl ⟨[p0], rest, .one h, rfl⟩
  · exact .inr (.inl fun more => by simp only [utf8DecodeRune, fullRune, h, and_self])
  · have hf := first_2 h.1 h.2
    match rest with
    | [] => exact .inr (.inr ⟨dec_short hf (by simp), by simp [fullRune, hf]⟩)
    | b1 :: r =>
      by_cases hb : b1 < 0x80 ∨ 0xBF < b1
      · exact .inr (.inl fun more => bad1 hf hb _)
      · exact .inl ⟨[p0, b1], r, .two h.1 h.2 (by omega), rfl⟩
  · have hf := first_3 h.1 h.2
    match rest with
    | [] => exact .inr (.inr ⟨dec_short hf (by simp), by simp [fullRune, hf]⟩)
    | b1 :: r =>
      by_cases hb : b1 < (if p0 = 0xE0 then 0xA0 else 0x80) ∨ (if p0 = 0xED then 0x9F else 0xBF) < b1
      · exact .inr (.inl fun more => bad1 hf hb _)
      match r with
      | [] => exact .inr (.inr ⟨dec_short hf (by simp), by simp [fullRune, hf, hb]⟩)
      | b2 :: r =>
        cases hc : isCont b2 with
        | false => exact .inr (.inl fun more => bad2 hf (Nat.le_refl 3) hc _)
        | true => exact .inl ⟨[p0, b1, b2], r, .three h.1 h.2 (by omega) ((isCont_iff b2).1 hc), rfl⟩
  · have hf := first_4 h.1 h.2
    match rest with
    | [] => exact .inr (.inr ⟨dec_short hf (by simp), by simp [fullRune, hf]⟩)
    | b1 :: r =>
      by_cases hb : b1 < (if p0 = 0xF0 then 0x90 else 0x80) ∨ (if p0 = 0xF4 then 0x8F else 0xBF) < b1
      · exact .inr (.inl fun more => bad1 hf hb _)
      match r with
      | [] => exact .inr (.inr ⟨dec_short hf (by simp), by simp [fullRune, hf, hb]⟩)
      | b2 :: r =>
        cases hc : isCont b2 with
        | false => exact .inr (.inl fun more => bad2 hf (by decide) hc _)
        | true =>
          match r with
          | [] => exact .inr (.inr ⟨dec_short hf (by simp), by simp [fullRune, hf, hb, hc]⟩)
          | b3 :: r =>
            cases hd : isCont b3 with
            | false =>
              -- all four bytes are there: a full rune by its length, and the last check fails
              refine .inr (.inl fun more => ⟨?_, full_long hf (by simp)⟩)
              rw [List.cons_append, List.cons_append, List.cons_append, dec4 hf, if_neg hb, hc, hd]; rfl
            | true =>
              exact .inl ⟨[p0, b1, b2, b3], r, .four h.1 h.2 (by omega) ((isCont_iff b2).1 hc) ((isCont_iff b3).1 hd), rfl⟩

/-- whatever `DecodeRune` accepts starts with a well-formed sequence (which `decode_wf` says how it reads): overlong forms,
surrogates, values above U+10FFFF, stray continuation bytes, 0xF5.. lead bytes and short sequences are exactly the
`(RuneError, 1)` cases -/
theorem decode_sound (p0 : Nat) (rest : List Nat) : utf8DecodeRune (p0 :: rest) = (runeError, 1) ∨
    ∃ bs r, WellFormed bs ∧ p0 :: rest = bs ++ r := by
  rcases lead_cases p0 rest with h | h | h
  · exact .inr h
  · exact .inl (by simpa using (h []).1)
  · exact .inl h.1

theorem fullRune_append (buf more : List Nat) (h : fullRune buf = true) :
    fullRune (buf ++ more) = true ∧ utf8DecodeRune (buf ++ more) = utf8DecodeRune buf := by
  match buf, h with
  | p0 :: rest, h =>
    rcases lead_cases p0 rest with ⟨bs, r, hw, hb⟩ | hbad | hshort
    · rw [hb, List.append_assoc, full_wf hw, decode_wf hw, decode_wf hw]; exact ⟨rfl, rfl⟩
    · have := hbad []
      rw [List.append_nil] at this
      exact ⟨(hbad more).2, (hbad more).1.trans this.1.symm⟩
    · rw [hshort.2] at h; cases h

/-- what `FullRune` refuses (a legal but incomplete sequence) `DecodeRune` alone would call an error -/
theorem not_full_decode {p0 : Nat} {rest : List Nat} (h : fullRune (p0 :: rest) = false) :
    utf8DecodeRune (p0 :: rest) = (runeError, 1) := by
  rcases lead_cases p0 rest with ⟨bs, r, hw, hb⟩ | hbad | hshort
  · rw [hb, full_wf hw] at h; cases h
  · have := (hbad []).2; rw [List.append_nil, h] at this; cases this
  · exact hshort.1

theorem decodeOne_model (p0 : Nat) (rest : List Nat) :
    decodeOne (p0 :: rest) =
      if (utf8DecodeRune (p0 :: rest)).1 = runeError ∧ (utf8DecodeRune (p0 :: rest)).2 = 1 then none
      else some ((utf8DecodeRune (p0 :: rest)).1, (p0 :: rest).drop (utf8DecodeRune (p0 :: rest)).2) := by
  rcases decode_sound p0 rest with he | ⟨bs, r, hw, hb⟩
  · -- an error of the decoder: were the spec to read a character here, the decoder would have returned it
    rw [he, if_pos ⟨rfl, rfl⟩]
    cases ho : decodeOne (p0 :: rest) with
    | none => rfl
    | some v =>
      obtain ⟨hsc, hb⟩ := decodeOne_sound (c := v.1) (rest := v.2) ho
      have := decode_encode hsc v.2
      rw [← hb, he] at this
      have h1 : v.1 = runeError := (congrArg Prod.fst this).symm
      rw [h1] at this
      cases this
  · -- not the error value: U+FFFD itself is written with three bytes
    have hn : ¬ (payload bs = runeError ∧ bs.length = 1) := fun ⟨h1, h2⟩ => by
      have := (encode_payload hw).2
      rw [h1] at this
      rw [← this] at h2
      cases h2
    rw [hb, decode_wf hw, decodeOne_wf hw, if_neg hn, List.drop_left' rfl]

theorem decode_size_le (buf : List Nat) : (utf8DecodeRune buf).2 ≤ buf.length := by
  match buf with
  | [] => exact Nat.le_refl 0
  | p0 :: rest =>
    rcases decode_sound p0 rest with he | ⟨bs, r, hw, hb⟩
    · rw [he]; exact Nat.succ_le_succ (Nat.zero_le _)
    · rw [hb, decode_wf hw, List.length_append]; exact Nat.le_add_right _ _

end ZnVerif.Proofs.Utf8
