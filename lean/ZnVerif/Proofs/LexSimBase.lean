/-
C03 at character level, parser part 1: the parser driven by the REAL lexer (`realOps`: tokens from `NextToken`, line table as known so
far) against the parser on the token list read against the final layout (`layoutOps Y`), along a `Run` (Proofs/LexRun.lean), as a
frame of the relational logic of Proofs/ParserSim.lean.

`OK R j s`     — the real-side state `s` has its lexer at `R.st (j+1)` (the tokens `0 … j` have been read), its line indices lie inside
                 the table known there, and its peek token is one of the tokens read.
`toL s ts`     — the layout-side state: the same window over the token list `ts`.
`frame R`      — the two runs as a `ParserSim.Frame` (`Rel j s t`: `OK R j s` and `t = toL s (rest R (j+1))`); `frame_laws` shows its
                 laws, so that Proofs/ParserSimStep.lean carries it through the parser: from related states at index `j` the real run and
                 the layout run end alike — equal values and related states at some later index `j'`; equal errors; both panic; both out
                 of fuel.  What the laws need is about the line table AS IT GROWS: `findLineIdx` on the table known after token `j` and on
                 the final one agree for the tokens read so far (`known_line`, `known_start`, `known_end`, `window`), and both lexers hand
                 out the same tokens (`fetch_both`).
                 (`Sim R j s x1 x2 Q`, `Out`, `Any` spell the frame's judgment out on its own terms; only the one-line `S_throwErr` is stated with them.)
Values are equal on both sides; the only values that need a side condition are TOKENS held in local variables: the line of a token
(`lineOf`) is the same on both sides only for tokens already read (`PastTok`), because the real side knows the table only so far.
-/
import ZnVerif.Proofs.LexRun
import ZnVerif.Proofs.ParserSim
import ZnVerif.Proofs.ParserHoare

namespace ZnVerif.Proofs.LexSim
open ZnVerif.Model ZnVerif.Model.Parser ZnVerif.Generated.Tokens
open ZnVerif.Spec.StmtSyntax ZnVerif.Proofs.LexRun

theorem findLineIdx_lt (L : Array LineInfo) (c i : Nat) (h : i < L.size) : findLineIdx L c i < L.size :=
  (ParserHoare.findLineIdx_bound L c i).1 h

theorem findLineIdx_on_line (L : Array LineInfo) (c K i : Nat) (hK : K < L.size)
    (hle : ∀ m a, m ≤ K → L[m]? = some a → a.startIdx ≤ c)
    (hgt : ∀ b, L[K + 1]? = some b → c < b.startIdx) (hi : i ≤ K) : findLineIdx L c i = K :=
  ParserHoare.findLineIdx_eq L c hi (by omega)
    (fun x _ hx => ⟨by omega, by have := hle (x + 1) L[x + 1] (by omega) (by simp [show x + 1 < L.size by omega]); omega⟩)
    fun ⟨h', hn⟩ => hn (hgt L[K + 1] (by simp [h']))

section run
variable {Y : Layout} (R : Run Y)

/-- number of lines known after token `j` -/
def nl (j : Nat) : Nat := (R.st (j + 1)).lines.size

theorem nl_mono {i j : Nat} (h : i ≤ j) : nl R i ≤ nl R j := by
  induction j with
  | zero => have : i = 0 := by omega
            subst this; exact Nat.le_refl _
  | succ j ih =>
    by_cases hij : i = j + 1
    · subst hij; exact Nat.le_refl _
    · exact Nat.le_trans (ih (by omega)) (R.size_mono j)

theorem nl_pos (j : Nat) : 0 < nl R j := R.size_pos j

theorem start_known {j m : Nat} (hm : m < nl R j) : ∃ a b, (R.st (j + 1)).lines[m]? = some a ∧ Y.lines[m]? = some b ∧
    a.startIdx = b.startIdx ∧ a.indents = b.indents := by
  obtain ⟨h1, h2⟩ := R.pre j m hm
  have ha : (R.st (j + 1)).lines[m]? = some ((R.st (j + 1)).lines[m]'hm) := by simp [nl] at hm; simp [hm]
  rw [ha] at h1 h2
  cases hb : Y.lines[m]? with
  | none => rw [hb] at h1; simp at h1
  | some b =>
    rw [hb] at h1 h2
    simp at h1 h2
    exact ⟨_, b, ha, rfl, h1, h2⟩

theorem nl_le_final (j : Nat) : nl R j ≤ Y.lines.size := by
  have hp := nl_pos R j
  obtain ⟨a, b, _, hb, _⟩ := start_known R (j := j) (m := nl R j - 1) (by omega)
  have : nl R j - 1 < Y.lines.size := by
    rcases Nat.lt_or_ge (nl R j - 1) Y.lines.size with h | h
    · exact h
    · rw [Array.getElem?_eq_none h] at hb; cases hb
  omega

theorem known_line {j K : Nat} (hK : K < nl R j) (c : Nat)
    (f1 : ∀ m a, m ≤ K → Y.lines[m]? = some a → a.startIdx ≤ c) (f2 : ∀ b, Y.lines[K + 1]? = some b → c < b.startIdx) :
    ∀ h, h ≤ K → findLineIdx (R.st (j + 1)).lines c h = K ∧ findLineIdx Y.lines c h = K := by
  have hfin := nl_le_final R j
  intro h hh
  constructor
  · apply findLineIdx_on_line _ c K h (by unfold nl at hK; exact hK) ?_ ?_ hh
    · intro m a hm ha
      obtain ⟨a', b', ha', hb', he, _⟩ := start_known R (j := j) (m := m) (by omega)
      rw [ha'] at ha; cases ha
      have := f1 m b' hm hb'
      omega
    · intro b hb
      have hlt : K + 1 < nl R j := by
        rcases Nat.lt_or_ge (K + 1) (nl R j) with h | h
        · exact h
        · rw [Array.getElem?_eq_none (by unfold nl at h; exact h)] at hb; cases hb
      obtain ⟨a', b', ha', hb', he, _⟩ := start_known R (j := j) (m := K + 1) hlt
      rw [ha'] at hb; cases hb
      have := f2 b' hb'
      omega
  · exact findLineIdx_on_line _ c K h (by omega) f1 f2 hh

theorem upto_line {j K c : Nat} (hK : K < nl R j) (hon : ∀ b, Y.lines[K]? = some b → b.startIdx ≤ c) :
    ∀ m a, m ≤ K → Y.lines[m]? = some a → a.startIdx ≤ c := by
  obtain ⟨_, b0, _, hb0, _⟩ := start_known R hK
  intro m a hm ha
  by_cases hmk : m = K
  · subst hmk; exact hon a ha
  · have := R.sorted m K a b0 (by omega) ha hb0
    have := hon b0 hb0
    omega

theorem known_start {i j : Nat} (hij : i ≤ j) :
    ∀ h, h ≤ R.sline i → findLineIdx (R.st (j + 1)).lines (R.tk i).startIdx h = R.sline i ∧
      findLineIdx Y.lines (R.tk i).startIdx h = R.sline i :=
  known_line R (Nat.lt_of_lt_of_le (R.sline_lt i) (nl_mono R hij)) _ (upto_line R (R.sline_lt i) (R.onStart i))
    (R.beforeNextStart i)

theorem known_end {i j : Nat} (hij : i ≤ j) :
    ∀ h, h ≤ nl R i - 1 → findLineIdx (R.st (j + 1)).lines (R.tk i).endIdx h = nl R i - 1 ∧
      findLineIdx Y.lines (R.tk i).endIdx h = nl R i - 1 := by
  have hp := nl_pos R i
  have e : nl R i - 1 + 1 = (R.st (i + 1)).lines.size := by unfold nl at hp ⊢; omega
  exact known_line R (by have := nl_mono R hij; omega) _ (upto_line R (j := i) (by omega) (R.onLast i))
    (fun b hb => R.beforeNext i b (e ▸ hb))

theorem sline_ge' {i j : Nat} (hij : j < i) : nl R j - 1 ≤ R.sline i := by
  obtain ⟨i', rfl⟩ : ∃ i', i = i' + 1 := ⟨i - 1, by omega⟩
  have h1 := R.sline_ge i'
  have h2 := nl_mono R (show j ≤ i' by omega)
  unfold nl at h2 ⊢
  omega

/-- the window on token `i`, looked for from lines at or before it: known in the table after token `i`, and the same in the final one -/
theorem window (i h k : Nat) (hh : h ≤ R.sline i) (hk : k ≤ nl R i - 1) :
    findLineIdx (R.st (i + 1)).lines (R.tk i).startIdx h < nl R i ∧ findLineIdx (R.st (i + 1)).lines (R.tk i).endIdx k < nl R i ∧
    findLineIdx Y.lines (R.tk i).startIdx h = findLineIdx (R.st (i + 1)).lines (R.tk i).startIdx h ∧
    findLineIdx Y.lines (R.tk i).endIdx k = findLineIdx (R.st (i + 1)).lines (R.tk i).endIdx k := by
  obtain ⟨hs_r, hs_l⟩ := known_start R (Nat.le_refl i) h hh
  obtain ⟨he_r, he_l⟩ := known_end R (Nat.le_refl i) k hk
  have hp := nl_pos R i
  rw [hs_r, hs_l, he_r, he_l]
  exact ⟨R.sline_lt i, by omega, rfl, rfl⟩

/-- the tokens not yet handed out -/
def rest (j : Nat) : List Token := (List.range' j (R.N - j)).map R.tk

theorem rest_lt {j : Nat} (h : j < R.N) : rest R j = R.tk j :: rest R (j + 1) := by
  unfold rest
  have : R.N - j = (R.N - (j + 1)) + 1 := by omega
  rw [this, List.range'_succ]
  rfl

theorem rest_ge {j : Nat} (h : R.N ≤ j) : rest R j = [] := by
  unfold rest
  have : R.N - j = 0 := by omega
  rw [this]; rfl

theorem rest_zero : rest R 0 = R.toks := by
  unfold rest Run.toks
  rw [List.range_eq_range']
  rfl

theorem nextToken_both (i : Nat) :
    realOps.nextToken (R.st i) = (.tok (R.tk i), R.st (i + 1)) ∧
    (layoutOps Y).nextToken (rest R i) = (.tok (R.tk i), rest R (i + 1)) := by
  constructor
  · show (match ZnVerif.Model.nextToken (R.st i) with
      | (.ok t, l') => (TokRes.tok t, l')
      | (.err e, l') => (.err e, l')
      | (.panic, l') => (.panic, l')) = _
    rw [R.step i]
  · by_cases h : i < R.N
    · rw [rest_lt R h]; rfl
    · rw [rest_ge R (by omega), rest_ge R (by omega), R.eof i (by omega)]; rfl

theorem fetch_both (m : Nat) : ∀ i : Nat,
    (fetch realOps m (R.st i) = .fuel ∧ fetch (layoutOps Y) m (rest R i) = .fuel) ∨
    ∃ i', i ≤ i' ∧ fetch realOps m (R.st i) = .ok (R.tk i') (R.st (i' + 1)) ∧
      fetch (layoutOps Y) m (rest R i) = .ok (R.tk i') (rest R (i' + 1)) := by
  induction m with
  | zero => intro i; exact Or.inl ⟨rfl, rfl⟩
  | succ m ih =>
    intro i
    obtain ⟨h1, h2⟩ := nextToken_both R i
    by_cases hc : (R.tk i).type = cTypeComment
    · rcases ih (i + 1) with ⟨a, b⟩ | ⟨i', hi', a, b⟩
      · left
        simp only [fetch, h1, h2, hc, if_true]
        exact ⟨a, b⟩
      · right
        refine ⟨i', by omega, ?_, ?_⟩
        · simp only [fetch, h1, hc, if_true]; exact a
        · simp only [fetch, h2, hc, if_true]; exact b
    · right
      refine ⟨i, Nat.le_refl _, ?_, ?_⟩
      · simp only [fetch, h1, hc, if_false]
      · simp only [fetch, h2, hc, if_false]

abbrev S1 := PState Lexer
abbrev S2 := PState (List Token)

/-- the layout-side state: the same window over a token list -/
def toL (s : S1) (ts : List Token) : S2 :=
  { lex := ts, p1 := s.p1, p2 := s.p2, sl1 := s.sl1, el1 := s.el1, sl2 := s.sl2, el2 := s.el2, flag := s.flag }

@[simp] theorem toL_p1 (s : S1) (ts : List Token) : (toL s ts).p1 = s.p1 := rfl
@[simp] theorem toL_p2 (s : S1) (ts : List Token) : (toL s ts).p2 = s.p2 := rfl
@[simp] theorem toL_sl1 (s : S1) (ts : List Token) : (toL s ts).sl1 = s.sl1 := rfl
@[simp] theorem toL_el1 (s : S1) (ts : List Token) : (toL s ts).el1 = s.el1 := rfl
@[simp] theorem toL_sl2 (s : S1) (ts : List Token) : (toL s ts).sl2 = s.sl2 := rfl
@[simp] theorem toL_el2 (s : S1) (ts : List Token) : (toL s ts).el2 = s.el2 := rfl
@[simp] theorem toL_flag (s : S1) (ts : List Token) : (toL s ts).flag = s.flag := rfl
@[simp] theorem toL_lex (s : S1) (ts : List Token) : (toL s ts).lex = ts := rfl

/-- a token already read when the lexer stands at `R.st (j+1)` -/
def PastTok (j : Nat) (tk : Token) : Prop := ∃ i, i ≤ j ∧ tk = R.tk i

theorem PastTok.mono {R : Run Y} {j j' : Nat} {tk : Token} (h : PastTok R j tk) (hj : j ≤ j') : PastTok R j' tk := by
  obtain ⟨i, hi, e⟩ := h
  exact ⟨i, by omega, e⟩

/-- the real-side state at index `j` -/
structure OK (j : Nat) (s : S1) : Prop where
  lex : s.lex = R.st (j + 1)
  sl1 : s.sl1 < nl R j
  sl2 : s.sl2 < nl R j
  el2 : s.el2 < nl R j
  p2 : PastTok R j s.p2

def Out {β : Type} (j : Nat) (Q : Nat → β → Prop) (r1 : Res Lexer β) (r2 : Res (List Token) β) : Prop :=
  match r1, r2 with
  | .ok a1 t1, .ok a2 t2 => a1 = a2 ∧ ∃ j', j ≤ j' ∧ OK R j' t1 ∧ t2 = toL t1 (rest R (j' + 1)) ∧ Q j' a1
  | .err e1, .err e2 => e1 = e2
  | .panic, .panic => True
  | .fuel, .fuel => True
  | _, _ => False

/-- matching computations, from the real-side state `s` at index `j` -/
def Sim {β : Type} (j : Nat) (s : S1) (x1 : PM Lexer β) (x2 : PM (List Token) β) (Q : Nat → β → Prop) : Prop :=
  OK R j s → Out R j Q (x1 s) (x2 (toL s (rest R (j + 1))))

def Any {β : Type} : Nat → β → Prop := fun _ _ => True

/-- the two runs as a frame of Proofs/ParserSim.lean: equal fuel, and out of fuel only together; `Sim R j s x1 x2 Q` above is
`ParserSim.Sim (frame R) j s (toL s (rest R (j + 1))) x1 x2 Q` written out -/
def frame : ParserSim.Frame Lexer (List Token) where
  o₁ := realOps
  o₂ := layoutOps Y
  K := 0
  lax := False
  Rel j s t := OK R j s ∧ t = toL s (rest R (j + 1))
  Tok := PastTok R

end run

variable {Y : Layout} {R : Run Y} {β : Type} {j : Nat} {s : S1}

theorem S_throwErr (e : SynErr) : Sim R j s (throwErr e : PM Lexer β) (throwErr e) Any := fun _ => rfl

theorem frame_laws : (frame R).Laws where
  fuel := Or.inr rfl
  tok_mono := PastTok.mono
  win := by rintro _ _ _ ⟨_, rfl⟩; rfl
  tok_p2 h := h.1.p2
  flag := by rintro _ _ _ _ ⟨hok, rfl⟩; exact ⟨⟨hok.lex, hok.sl1, hok.sl2, hok.el2, hok.p2⟩, rfl⟩
  indents := by
    rintro j s _ ⟨hok, rfl⟩ i hi
    obtain ⟨a, b, ha, hb, _, he⟩ := start_known R (j := j) (m := i) (by rcases hi with rfl | rfl; exact hok.sl1; exact hok.sl2)
    show Y.lines[i]?.map _ = s.lex.lines[i]?.map _
    rw [hok.lex, ha, hb, Option.map_some, Option.map_some, he]
  line := by
    rintro j s _ _ ⟨hok, rfl⟩ ⟨i, hi, rfl⟩
    obtain ⟨h1, h2⟩ := known_start R hi 0 (Nat.zero_le _)
    show findLineIdx Y.lines _ 0 = findLineIdx s.lex.lines _ 0
    rw [hok.lex, h1, h2]
  next := by
    rintro m j s _ ⟨hok, rfl⟩
    show ParserSim.Out (frame R) j ParserSim.Any (next realOps m s) (next (layoutOps Y) m (toL s (rest R (j + 1))))
    unfold next
    simp only [toL_lex, hok.lex]
    rcases fetch_both R m (j + 1) with ⟨a, b⟩ | ⟨i, hi, a, b⟩
    · rw [a, b]; trivial
    · rw [a, b]
      have hmono := nl_mono R (show j ≤ i by omega)
      have hge := sline_ge' R (show j < i by omega)
      have hs2 := hok.sl2
      have he2 := hok.el2
      obtain ⟨b1, b2, e1, e2⟩ := window R i s.sl2 s.el2 (by omega) (by omega)
      refine ⟨rfl, i, by omega, ⟨⟨rfl, by show s.sl2 < nl R i; omega, b1, b2, ⟨i, Nat.le_refl _, rfl⟩⟩, ?_⟩, trivial⟩
      show (⟨rest R (i + 1), some s.p2, R.tk i, s.sl2, s.el2, findLineIdx Y.lines (R.tk i).startIdx s.sl2,
          findLineIdx Y.lines (R.tk i).endIdx s.el2,
          s.flag || meetStmtLineBreak (some s.p2) (R.tk i) (findLineIdx Y.lines (R.tk i).startIdx s.sl2) s.el2⟩ : S2) = _
      rw [e1, e2]; rfl

end ZnVerif.Proofs.LexSim
