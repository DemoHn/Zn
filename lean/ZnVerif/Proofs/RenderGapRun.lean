/-
C03 at character level, free layout, lexer part 3: the whole token sequence of a document (`renderDoc`), as a `Run`.

`GCtx` (Proofs/RenderGapLayout.lean) is the account kept while walking along the element list: indent type, completed lines, the current
line (start, indentation), the position; `GInv` the invariant between two elements.  `gsteps ind src c els` are the answers of the lexer
along the elements — the token, the line it starts on, the lexer afterwards; the blanks and line breaks before a token are passed inside
the call that answers it (`StepOK.of_skip`) —, `gsteps_ok` (induction on the element list, one step per kind of element) shows that they
form a chain of steps as a `Run` asks (`Steps`), ended by the EOF answer, which repeats; `gstep_ok` reads the
chain by index and `docRun` packs it up.
What a step may claim about the FINAL line table comes from one notion: seen from an account, the table is the lines behind, the
current line, then lines that start beyond the position, in increasing order (`From`, `elLines_from`: Proofs/RenderTable.lean; `GCtx.Sees`:
the table of a document is so from every account along it), and a step between two accounts that both see the table is a `StepOK` (`StepOK.of_sees`).
What a `Run` asks of every step (`StepOK`), chains of steps and their reading by index (`Steps`, `Steps.at`): Proofs/LexRunSteps.lean.
-/
import ZnVerif.Proofs.RenderGapLayout
import ZnVerif.Proofs.RenderGapLit
import ZnVerif.Proofs.LexRunSteps

namespace ZnVerif.Proofs.RenderLex
open ZnVerif.Model ZnVerif.Generated.Tokens
open ZnVerif.Spec ZnVerif.Spec.RenderChars
open ZnVerif.Spec.StmtSyntax (Layout)
open ZnVerif.Proofs.LexRun

namespace GCtx

/-- the final line table, as seen from here -/
def table (ind : Indent) (c : GCtx) (els : List El) : List LineInfo := c.dn ++ elLines ind c.pos c.s c.k els

/-- the final table `F` as seen from the account `c`: the lines behind, then the current line and lines that start beyond the position -/
def Sees (c : GCtx) (F : List LineInfo) : Prop := ∃ L, F = c.dn ++ L ∧ From c.s c.k c.pos L

theorem Sees.behind {c : GCtx} {F : List LineInfo} (h : c.Sees F) {i : Nat} (hi : i < c.dn.length) : F[i]? = c.dn[i]? := by
  obtain ⟨L, rfl, _⟩ := h
  exact List.getElem?_append_left hi

theorem Sees.cur {c : GCtx} {F : List LineInfo} (h : c.Sees F) :
    ∃ e, F[c.dn.length]? = some e ∧ e.startIdx = c.s ∧ e.indents = c.k := by
  obtain ⟨L, rfl, e, T, rfl, h1, h2, _⟩ := h
  exact ⟨e, by simp, h1, h2⟩

theorem Sees.beyond {c : GCtx} {F : List LineInfo} (h : c.Sees F) {b : LineInfo} (hb : F[c.dn.length + 1]? = some b) :
    c.pos < b.startIdx := by
  obtain ⟨L, rfl, e, T, rfl, _, _, _, h4⟩ := h
  rw [List.getElem?_append_right (by omega)] at hb
  exact h4 b (List.mem_of_getElem? (by simpa using hb))

end GCtx

theorem gtable_sees (ind : Indent) (c : GCtx) (els : List El) : c.Sees (c.table ind els) := ⟨_, rfl, elLines_from ind els _ _ _⟩

/-- **a step between two accounts**: `l` knows no more lines than `c`, the token runs from `c.pos` to `c'.pos`, and `l'` knows the
lines of `c'` (its last line `x`, with or without `LineText`) -/
theorem StepOK.of_sees {F : List LineInfo} {l l' : Lexer} {t : Token} {c c' : GCtx} {x : LineInfo}
    (hstep : nextToken l = (.ok t, l')) (hl : l.lines.size ≤ c.dn.length + 1) (hl' : l'.lines = (c'.dn ++ [x]).toArray)
    (hx : x.startIdx = c'.s ∧ x.indents = c'.k) (hc : c.Sees F) (hc' : c'.Sees F) (hdn : c.dn.length ≤ c'.dn.length)
    (hs : t.startIdx = c.pos) (he : t.endIdx = c'.pos) (hsk : c.s ≤ c.pos) (hsk' : c'.s ≤ c'.pos) (hpos : c.pos ≤ c'.pos) :
    StepOK F l t c.dn.length l' := by
  have hsize : l'.lines.size = c'.dn.length + 1 := by rw [hl']; simp
  obtain ⟨e0, h01, h0s, _⟩ := hc.cur
  obtain ⟨e1, h11, h1s, h1k⟩ := hc'.cur
  refine ⟨hstep, by omega, by omega, ?_, by omega, by omega, ?_, ?_, ?_, by omega, ?_⟩
  · intro i hi
    rw [hl', List.getElem?_toArray]
    by_cases h1 : i < c'.dn.length
    · rw [hc'.behind h1, List.getElem?_append_left h1]; exact ⟨rfl, rfl⟩
    · obtain rfl : i = c'.dn.length := by omega
      simp [h11, h1s, h1k, hx.1, hx.2]
  · intro a ha
    rw [h01] at ha; cases ha
    omega
  · intro b hb
    have := hc.beyond hb; omega
  · intro a ha
    rw [hsize, Nat.add_sub_cancel, h11] at ha; cases ha
    omega
  · intro b hb
    rw [hsize] at hb
    have := hc'.beyond hb; omega

/-- the token of an element that is one -/
def elTok? : El → Nat → Option Token
  | .tok it, p => some (it.token p)
  | .lit q t, p => some (litTok q t p)
  | .mcmt m, p => some (mcmtTok m p)
  | _, _ => none

/-- the answers of the lexer along the elements -/
def gsteps (ind : Indent) (src : Array Nat) : GCtx → List El → List Ans
  | _, [] => []
  | c, e :: es =>
    match elTok? e c.pos with
    | some t => (t, c.dn.length, (c.next ind e).state src) :: gsteps ind src (c.next ind e) es
    | none => gsteps ind src (c.next ind e) es

/-- the account at the end of the text -/
def gend (ind : Indent) : GCtx → List El → GCtx
  | c, [] => c
  | c, e :: es => gend ind (c.next ind e) es

/-- the EOF answer -/
def eofAns (ind : Indent) (src : Array Nat) (c : GCtx) : Ans := (eofTok c.pos, c.dn.length, c.final ind src)

theorem gtable_next (ind : Indent) (c : GCtx) (e : El) (es : List El) : (c.next ind e).table ind es = c.table ind (e :: es) := by
  unfold GCtx.table GCtx.next
  cases e <;> simp [elLines, El.chars, GCtx.span]

theorem next_pos (ind : Indent) (c : GCtx) (e : El) : (c.next ind e).pos = c.pos + (e.chars ind).length := by
  cases e with
  | tok it => rfl
  | ws x => rfl
  | br b k => simp [GCtx.next, El.chars, units, Nat.add_assoc]
  | lit q t => simp [GCtx.next, GCtx.span, El.chars]
  | mcmt m => rfl

theorem span_inv {ind : Indent} {c : GCtx} (off : Nat) (body : List Nat) (len : Nat) (hlen : off + body.length ≤ len)
    (hi : ItyOK ind c.ity c.k) (hsk : c.s + ind.width * c.k ≤ c.pos) :
    ItyOK ind (c.span off body len).ity (c.span off body len).k ∧
    (c.span off body len).s + ind.width * (c.span off body len).k ≤ (c.span off body len).pos := by
  show ItyOK ind c.ity (litLines c.s c.k (Lines.lineStarts (c.pos + off) body)).2.2 ∧
    (litLines c.s c.k (Lines.lineStarts (c.pos + off) body)).2.1 +
      ind.width * (litLines c.s c.k (Lines.lineStarts (c.pos + off) body)).2.2 ≤ c.pos + len
  rcases litLines_cur (Lines.lineStarts (c.pos + off) body) c.s c.k with h | ⟨x, hx, h⟩ <;> rw [h]
  · exact ⟨hi, by show c.s + ind.width * c.k ≤ _; omega⟩
  · exact ⟨hi.imp id (fun h => ⟨h.1, rfl⟩), by have := (lineStarts_bound _ _ x hx).2; show x + ind.width * 0 ≤ _; omega⟩

theorem GInv.next {ind : Indent} {src : Array Nat} {c : GCtx} {e : El} {es : List El} (h : GInv ind src c (e :: es)) :
    GInv ind src (c.next ind e) es := by
  obtain ⟨ht, hi, hsk, hle, hw⟩ := h
  have hlen : c.pos + (e.chars ind).length ≤ src.size := here_le (b := renderEls ind es) ht hle
  have htext : here ((c.next ind e).state src) = renderEls ind es := by
    have e1 : here ((c.next ind e).state src) = (here (c.state src)).drop (e.chars ind).length := by
      show src.toList.drop (c.next ind e).pos = (src.toList.drop c.pos).drop _
      rw [List.drop_drop, next_pos]
    rw [e1, ht]
    exact List.drop_left' rfl
  have hle' : (c.next ind e).pos ≤ src.size := by rw [next_pos]; exact hlen
  cases e with
  | tok it => exact ⟨htext, hi, by show c.s + ind.width * c.k ≤ c.pos + _; omega, hle', hw.2.2⟩
  | ws x => exact ⟨htext, hi, by show c.s + ind.width * c.k ≤ c.pos + _; omega, hle', hw.2⟩
  | br b k' => exact ⟨htext, hi.after k', Nat.le_refl _, hle', hw.2.2⟩
  | lit q t =>
    obtain ⟨h1, h2⟩ := span_inv 1 t (t.length + 2) (by omega) hi hsk
    exact ⟨htext, h1, h2, hle', hw.2⟩
  | mcmt m =>
    obtain ⟨h1, h2⟩ := span_inv m.pre.length m.body m.chars.length (by have := (mcmt_len m).1; omega) hi hsk
    exact ⟨htext, h1, h2, hle', hw.2⟩

theorem nextToken_gap {ind : Indent} {src : Array Nat} {c : GCtx} {e : El} {es : List El} (h : GInv ind src c (e :: es))
    (hg : elTok? e c.pos = none) : nextToken (c.state src) = nextToken ((c.next ind e).state src) := by
  apply nextToken_skip _ _ rfl rfl
  cases e with
  | ws x => exact skipBlank_ws _ (by rw [(here_cons (r := renderEls ind es) h.text).1]; exact h.wf.1)
  | br b k' => exact skipBlank_brk h
  | tok _ => cases hg
  | lit _ _ => cases hg
  | mcmt _ => cases hg

theorem gstate_lines (src : Array Nat) (c : GCtx) : (c.state src).lines = (c.dn ++ [openLine c.s c.k]).toArray := rfl

theorem gfinal_lines (ind : Indent) (src : Array Nat) (c : GCtx) :
    (c.final ind src).lines = (c.dn ++ [closedLineI ind c.s c.k c.pos]).toArray := rfl

theorem gnext_dn_length (ind : Indent) (c : GCtx) (e : El) : c.dn.length ≤ (c.next ind e).dn.length := by
  cases e <;> simp [GCtx.next, GCtx.span]

/-- the step that answers the token of an element: it starts on the current line and ends on the line that is current afterwards
(another one if the token spans lines) -/
theorem gstepOK_token (ind : Indent) (src : Array Nat) (c : GCtx) (e : El) (es : List El) (tk : Token)
    (h : GInv ind src c (e :: es)) (hstep : nextToken (c.state src) = (.ok tk, (c.next ind e).state src))
    (hs : tk.startIdx = c.pos) (he : tk.endIdx = (c.next ind e).pos) :
    StepOK (c.table ind (e :: es)) (c.state src) tk c.dn.length ((c.next ind e).state src) :=
  .of_sees hstep (by rw [gstate_lines]; simp) (gstate_lines src _) ⟨rfl, rfl⟩ (gtable_sees ind c _)
    (gtable_next ind c e es ▸ gtable_sees ind _ es) (gnext_dn_length ind c e) hs he (by have := h.sk; omega)
    (by have := h.next.sk; omega) (by rw [next_pos]; omega)

theorem gstepOK_final (ind : Indent) (src : Array Nat) (l : Lexer) (c : GCtx) (hsk : c.s + ind.width * c.k ≤ c.pos)
    (hstep : nextToken l = (.ok (eofTok c.pos), c.final ind src)) (hmono : l.lines.size ≤ c.dn.length + 1) :
    StepOK (c.table ind []) l (eofTok c.pos) c.dn.length (c.final ind src) :=
  .of_sees hstep hmono (gfinal_lines ind src c) ⟨rfl, rfl⟩ (gtable_sees ind c _) (gtable_sees ind c _) (Nat.le_refl _) rfl rfl
    (by omega) (by omega) (Nat.le_refl _)

theorem gstate_size_le (ind : Indent) (src : Array Nat) (c : GCtx) (e : El) :
    (c.state src).lines.size ≤ ((c.next ind e).state src).lines.size := by
  rw [gstate_lines, gstate_lines]
  simp only [List.size_toArray, List.length_append, List.length_cons, List.length_nil]
  have := gnext_dn_length ind c e
  omega

theorem gend_inv {ind : Indent} {src : Array Nat} : ∀ (els : List El) (c : GCtx), GInv ind src c els →
    GInv ind src (gend ind c els) [] ∧ (gend ind c els).table ind [] = c.table ind els
  | [], _, h => ⟨h, rfl⟩
  | e :: es, c, h => by rw [← gtable_next]; exact gend_inv es (c.next ind e) h.next

theorem gsteps_ok (ind : Indent) (src : Array Nat) : ∀ (els : List El) (c : GCtx), GInv ind src c els →
    Steps (c.table ind els) (c.state src) (gsteps ind src c els ++ [eofAns ind src (gend ind c els)])
  | [], c, h => ⟨gstepOK_final ind src _ c h.sk (nextToken_end h) (by rw [gstate_lines]; simp), trivial⟩
  | e :: es, c, h => by
    have ih := gsteps_ok ind src es (c.next ind e) h.next
    rw [gtable_next] at ih
    have gap : elTok? e c.pos = none → Steps (c.table ind (e :: es)) (c.state src)
        (gsteps ind src (c.next ind e) es ++ [eofAns ind src (gend ind (c.next ind e) es)]) :=
      fun hg => ih.of_skip (nextToken_gap h hg) (gstate_size_le ind src c e)
    cases e with
    | tok it => exact ⟨gstepOK_token ind src c _ es _ h (nextToken_item h) rfl rfl, ih⟩
    | lit q t => exact ⟨gstepOK_token ind src c _ es _ h (nextToken_lit h) rfl rfl, ih⟩
    | mcmt m => exact ⟨gstepOK_token ind src c _ es _ h (nextToken_mcmt h) rfl rfl, ih⟩
    | ws x => exact gap rfl
    | br b k => exact gap rfl

theorem eofAns_again {ind : Indent} {src : Array Nat} {c : GCtx} (h : GInv ind src c []) :
    StepOK (c.table ind []) (c.final ind src) (eofTok c.pos) c.dn.length (c.final ind src) :=
  gstepOK_final ind src _ c h.sk (nextToken_end_again h) (by rw [gfinal_lines]; simp)

/-- every step of the lexer on a document, by index; after the last token the EOF answer, for ever -/
theorem gstep_ok (ind : Indent) (src : Array Nat) (els : List El) (c : GCtx) (h : GInv ind src c els) (j : Nat) :
    StepOK (c.table ind els) (before (c.state src) (eofAns ind src (gend ind c els)) (gsteps ind src c els) j)
      ((gsteps ind src c els).getD j (eofAns ind src (gend ind c els))).1
      ((gsteps ind src c els).getD j (eofAns ind src (gend ind c els))).2.1
      (before (c.state src) (eofAns ind src (gend ind c els)) (gsteps ind src c els) (j + 1)) := by
  obtain ⟨hi, ht⟩ := gend_inv els c h
  exact Steps.at (ht ▸ eofAns_again hi) _ _ (gsteps_ok ind src els c h) j

theorem gsteps_toks (ind : Indent) (src : Array Nat) : ∀ (els : List El) (c : GCtx),
    (gsteps ind src c els).map (·.1) = elToks ind c.pos els
  | [], _ => rfl
  | e :: es, c => by
    have ih := gsteps_toks ind src es (c.next ind e)
    rw [next_pos] at ih
    cases e <;> simp [gsteps, elTok?, elToks, ih, litTok, mcmtTok, El.chars, Nat.add_assoc]

theorem gsteps_length (ind : Indent) (src : Array Nat) (els : List El) (c : GCtx) : (gsteps ind src c els).length = tokCount els := by
  rw [← List.length_map (f := fun x : Ans => x.1), gsteps_toks, elToks_length]

theorem ginv0 (ind : Indent) (k0 : Nat) (els : List El) (hwf : DocWF ind k0 els) :
    GInv ind (renderDoc ind k0 els).toArray (gctx0 ind k0) els := by
  refine ⟨?_, ItyOK.after (Or.inr ⟨rfl, rfl⟩ : ItyOK ind cIndentUnknown 0) k0, by simp [gctx0], ?_, hwf.2.2⟩
  · show (renderDoc ind k0 els).toArray.toList.drop (ind.width * k0) = _
    unfold renderDoc
    exact List.drop_left' (by simp [units])
  · show ind.width * k0 ≤ (renderDoc ind k0 els).toArray.size
    simp [renderDoc, units]

/-- the answers of the lexer on a document -/
def docAns (ind : Indent) (k0 : Nat) (els : List El) : List Ans := gsteps ind (renderDoc ind k0 els).toArray (gctx0 ind k0) els

/-- its EOF answer -/
def docEof (ind : Indent) (k0 : Nat) (els : List El) : Ans := eofAns ind (renderDoc ind k0 els).toArray (gend ind (gctx0 ind k0) els)

/-- the lexer on a document before its `j`-th answer -/
def docSt (ind : Indent) (k0 : Nat) (els : List El) : Nat → Lexer :=
  before (mkLexer (renderDoc ind k0 els)) (docEof ind k0 els) (docAns ind k0 els)

theorem doc_step_ok (ind : Indent) (k0 : Nat) (els : List El) (hwf : DocWF ind k0 els) (j : Nat) :
    StepOK (docLines ind k0 els) (docSt ind k0 els j) ((docAns ind k0 els).getD j (docEof ind k0 els)).1
      ((docAns ind k0 els).getD j (docEof ind k0 els)).2.1 (docSt ind k0 els (j + 1)) := by
  have h := gstep_ok ind _ els (gctx0 ind k0) (ginv0 ind k0 els hwf)
  cases j with
  | succ j => exact h (j + 1)
  | zero =>
    -- the first call: `parseBeginLex`, then as between tokens
    exact (h 0).of_skip
      (nextToken_begin ind (renderDoc ind k0 els) k0 (renderEls ind els) (renderDoc_head_ne ind k0 els hwf) rfl hwf.2.1) (Nat.zero_le _)

theorem docTk_eof (ind : Indent) (k0 : Nat) (els : List El) (hwf : DocWF ind k0 els) (j : Nat) (hj : tokCount els ≤ j) :
    ((docAns ind k0 els).getD j (docEof ind k0 els)).1 = (docLayout ind k0 els).eof := by
  rw [List.getD_eq_getElem?_getD, List.getElem?_eq_none (by rw [docAns, gsteps_length]; exact hj), Option.getD_none]
  show eofTok _ = _
  rw [← (gend_inv els (gctx0 ind k0) (ginv0 ind k0 els hwf)).1.size]
  simp [eofTok, Layout.eof, docLayout]

/-- **the lexer on a document, as a `Run`** against the layout the text determines -/
def docRun (ind : Indent) (k0 : Nat) (els : List El) (hwf : DocWF ind k0 els) : Run (docLayout ind k0 els) where
  st := docSt ind k0 els
  tk j := ((docAns ind k0 els).getD j (docEof ind k0 els)).1
  N := tokCount els
  step j := (doc_step_ok ind k0 els hwf j).step
  eof j hj := docTk_eof ind k0 els hwf j hj
  sorted i j a b hij ha hb := by
    have hs := docLines_sorted ind k0 els
    simp only [docLayout, List.getElem?_toArray] at ha hb
    obtain ⟨hi, rfl⟩ := List.getElem?_eq_some_iff.mp ha
    obtain ⟨hj, rfl⟩ := List.getElem?_eq_some_iff.mp hb
    exact List.pairwise_iff_getElem.mp hs i j hi hj hij
  size_pos j := (doc_step_ok ind k0 els hwf j).pos
  size_mono j := (doc_step_ok ind k0 els hwf (j + 1)).mono
  pre j i hi := by
    have := (doc_step_ok ind k0 els hwf j).pre i hi
    simpa [docLayout] using this
  sline j := ((docAns ind k0 els).getD j (docEof ind k0 els)).2.1
  sline_lt j := (doc_step_ok ind k0 els hwf j).sl_lt
  sline_ge j := (doc_step_ok ind k0 els hwf (j + 1)).sl_ge
  onStart j a ha := by
    apply (doc_step_ok ind k0 els hwf j).onStart a
    simpa [docLayout] using ha
  beforeNextStart j b hb := by
    apply (doc_step_ok ind k0 els hwf j).beforeNextStart b
    simpa [docLayout] using hb
  onLast j a ha := by
    apply (doc_step_ok ind k0 els hwf j).onLast a
    simpa [docLayout] using ha
  span j := (doc_step_ok ind k0 els hwf j).span
  beforeNext j b hb := by
    apply (doc_step_ok ind k0 els hwf j).beforeNext b
    simpa [docLayout] using hb

theorem docRun_st0 (ind : Indent) (k0 : Nat) (els : List El) (hwf : DocWF ind k0 els) :
    (docRun ind k0 els hwf).st 0 = mkLexer (renderDoc ind k0 els) := rfl

theorem docRun_toks (ind : Indent) (k0 : Nat) (els : List El) (hwf : DocWF ind k0 els) :
    (docRun ind k0 els hwf).toks = docTokens ind k0 els := by
  show (List.range (tokCount els)).map (fun j => ((docAns ind k0 els).getD j (docEof ind k0 els)).1) = _
  rw [← gsteps_length ind (renderDoc ind k0 els).toArray els (gctx0 ind k0)]
  exact (map_range_getD (fun x : Ans => x.1) _ _).trans (gsteps_toks ind _ els _)

theorem docRun_final_lines (ind : Indent) (k0 : Nat) (els : List El) (hwf : DocWF ind k0 els) :
    ((docRun ind k0 els hwf).st (tokCount els + 1)).lines = (docLines ind k0 els).toArray := by
  show ((docAns ind k0 els).getD (tokCount els) (docEof ind k0 els)).2.2.lines = _
  rw [List.getD_eq_getElem?_getD, List.getElem?_eq_none (by rw [docAns, gsteps_length]; exact Nat.le_refl _),
    Option.getD_none]
  show ((gend ind (gctx0 ind k0) els).table ind []).toArray = _
  rw [(gend_inv (src := (renderDoc ind k0 els).toArray) els (gctx0 ind k0) (ginv0 ind k0 els hwf)).2]
  simp [GCtx.table, gctx0, docLines]

end ZnVerif.Proofs.RenderLex
