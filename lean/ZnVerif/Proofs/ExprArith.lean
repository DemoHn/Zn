/-
C01 refinement: the arithmetic nodes, for any operand computations that simulate.
-/
import ZnVerif.Proofs.ExprBase

namespace ZnVerif.Proofs
open ZnVerif.Model ZnVerif.Spec

variable {ν : Type} [NumOps ν]

section
variable {ω : Addr → Option (SVal ν)} {d k' ty : Nat} {s : VM ν} {σ : SState ν}

theorem sim_newNum (x : ν) : Sim d (Reads ω 1) s σ (newNum x) (pure (.num x)) :=
  sim_alloc (k := 0) _ _ (.num x)

theorem sim_arithOp (hty : ty = ArithAdd ∨ ty = ArithSub ∨ ty = ArithMul ∨ ty = ArithDiv ∨ ty = ArithIntDiv) (x y : ν) :
    Sim d (Reads ω 1) s σ (arithOp ty x y) (arithOpS ty x y) := by
  have div : ∀ z : ν, Sim d (Reads ω 1) s σ (if NumOps.isZero y then rtErr 90 else newNum z)
      (if NumOps.isZero y then fault 90 else pure (.num z)) := fun z => by
    cases NumOps.isZero y
    · exact sim_newNum z
    · exact sim_rt' 90 90 rfl
  rcases hty with rfl | rfl | rfl | rfl | rfl
  · exact sim_newNum _
  · exact sim_newNum _
  · exact sim_newNum _
  · exact div _
  · exact div _

theorem arithTailS_opaque (ty : Nat) (er : SM ν (SVal ν)) {v : SVal ν} (h : isOpaque v = true) :
    arithTailS ty er v true = (do let _ ← er; fault 80) := by
  cases v <;> first | rfl | cases h

theorem sim_modNode {el er : M ν Addr} {el' er' : SM ν (SVal ν)}
    (hl : Sim d (Reads ω k') s σ el el') (hr : ∀ s1, Frame s s1 → Sim d (Reads ω k') s1 σ er er') :
    Sim d (Reads ω 1) s σ (modNode el er) (do let a ← el'; arithTailS ArithModulo er' a true) := by
  refine sim_bind hl fun s1 a v hF hq => ?_
  obtain ⟨_, c, _, hc, hlay⟩ := hq.cell
  -- the right operand is evaluated and read whatever the left cell is
  have right : ∀ m' : SVal ν → SM ν (SVal ν),
      (∀ s2 a2 v2, Reads ω k' s2 a2 v2 → Sim d (Reads ω 1) s2 σ (getCell a2 >>= modCells c) (m' v2)) →
      Sim d (Reads ω 1) s1 σ (do let rv ← er; modCells (← getCell a) (← getCell rv)) (er' >>= m') := fun m' h =>
    sim_bind (hr s1 hF) fun s2 a2 v2 hF2 hq2 => sim_getCell (hF2.le _ _ hc) (h s2 a2 v2 hq2)
  have other : (∀ cr, modCells c cr = rtErr 80) → arithTailS ArithModulo er' v true = (do let _ ← er'; fault 80) →
      Sim d (Reads ω 1) s1 σ (do let rv ← er; modCells (← getCell a) (← getCell rv)) (arithTailS ArithModulo er' v true) :=
    fun h1 h2 => by
      rw [h2]
      refine right _ fun s2 a2 v2 hq2 => ?_
      obtain ⟨_, c2, _, hc2, _⟩ := hq2.cell
      exact sim_getCell hc2 (by rw [h1]; exact sim_rt' 80 80 rfl)
  cases hlay with
  | num x =>
    refine right _ fun s2 a2 v2 hq2 => ?_
    rw [modCells_num]
    refine sim_withNum rfl hq2 fun y => ?_
    show Sim d (Reads ω 1) s2 σ _ (if NumOps.isZero y then fault 90 else pure (.num _))
    cases NumOps.isZero y
    · exact sim_newNum _
    · exact sim_rt' 90 90 rfl
  | str t => exact sim_unspec
  | obj _ hop | fn _ hop | cls _ hop | exc _ hop => exact other (fun _ => rfl) (arithTailS_opaque _ _ hop)
  | _ => exact other (fun _ => rfl) rfl

theorem sim_arithNode {el er : M ν Addr} {el' er' : SM ν (SVal ν)} (hty : ty ∈ arithTys)
    (hl : Sim d (Reads ω k') s σ el el') (hr : ∀ s1, Frame s s1 → Sim d (Reads ω k') s1 σ er er') :
    Sim d (Reads ω 1) s σ (arithNode ty el er) (arithNodeS ty el' er') := by
  have basic : (ty == ArithModulo) = false →
      ty = ArithAdd ∨ ty = ArithSub ∨ ty = ArithMul ∨ ty = ArithDiv ∨ ty = ArithIntDiv →
      Sim d (Reads ω 1) s σ (arithNode ty el er) (arithNodeS ty el' er') := fun h hty => by
    simp only [arithNode, arithNodeS, h, Bool.false_eq_true, if_false, arithTailS_false]
    exact sim_bind hl fun s1 a v hF hq => sim_withNum rfl hq fun x =>
      sim_bind (hr s1 hF) fun s2 a2 v2 _ hq2 => sim_withNum rfl hq2 fun y => sim_arithOp hty x y
  simp only [arithTys, List.mem_cons, List.not_mem_nil, or_false] at hty
  rcases hty with h | h | h | h | h | rfl
  iterate 5 exact basic (by subst h; rfl) (by subst h; decide)
  exact sim_modNode hl hr

end

end ZnVerif.Proofs
