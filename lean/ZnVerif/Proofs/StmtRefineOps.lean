/-
C02 refinement: the statement fragment, and the model-only steps (`dup`, `display`, frame updates) on
scalar values.
-/
import ZnVerif.Proofs.StmtRefineState

set_option linter.unusedSectionVars false

namespace ZnVerif.Proofs
open ZnVerif.Model ZnVerif.Spec

variable {ν : Type} [NumOps ν]
variable {ω : Addr → Option (SVal ν)} {mid D : Int} {ds : List Int} {s : VM ν} {σ : SState ν}

/-- The control-flow fragment: declarations and assignments of top-scalar pure expressions, pure expression
statements, the display call `（显示：…）` on top-scalar arguments, 如果 / 每当 / 遍历 (0–2 loop variables, over a
top-scalar expression or a list / dictionary literal of top-scalar items), 输出, 结束循环, 继续循环, the empty statement. -/
inductive PureStmt : Stmt → Prop
  | varDecl (ln : Nat) (pairs : List (Nat × List Ident × Expr)) :
      (∀ p ∈ pairs, PureExpr p.2.2 ∧ TopScalar p.2.2) → PureStmt (.varDecl ln pairs)
  | expr (e : Expr) : PureExpr e → PureStmt (.expr e)
  | assign (ln : Nat) (i : Ident) (rhs : Expr) : PureExpr rhs → TopScalar rhs → PureStmt (.expr (.assign ln (.id i) rhs))
  | display (ln : Nat) (nm : Ident) (params : List Expr) : nm.lit = "显示" → (∀ p ∈ params, PureExpr p ∧ TopScalar p) →
      PureStmt (.expr (.call ln (some nm) params none))
  | branch (ln : Nat) (ifE : Expr) (ifB : Option (List Stmt)) (others : List (Expr × Option (List Stmt)))
      (hasElse : Bool) (elseB : Option (List Stmt)) :
      PureExpr ifE → (∀ l, ifB = some l → ∀ st ∈ l, PureStmt st) →
      (∀ o ∈ others, PureExpr o.1) → (∀ o ∈ others, ∀ l, o.2 = some l → ∀ st ∈ l, PureStmt st) →
      (∀ l, elseB = some l → ∀ st ∈ l, PureStmt st) → PureStmt (.branch ln ifE ifB others hasElse elseB)
  | while (ln : Nat) (cond : Expr) (body : Option (List Stmt)) :
      PureExpr cond → (∀ l, body = some l → ∀ st ∈ l, PureStmt st) → PureStmt (.while ln cond body)
  | iterate (ln : Nat) (e : Expr) (names : List Ident) (body : Option (List Stmt)) :
      IterTarget e → names.length ≤ 2 → (∀ l, body = some l → ∀ st ∈ l, PureStmt st) → PureStmt (.iterate ln e names body)
  | ret (ln : Nat) (e : Expr) : PureExpr e → PureStmt (.ret ln e)
  | break (ln : Nat) : PureStmt (.break ln)
  | continue (ln : Nat) : PureStmt (.continue ln)
  | empty (ln : Nat) : PureStmt (.empty ln)

/-- a block of the fragment (`none` = a nil block of a Go tree, which the spec leaves unspecified) -/
def PureBlock (b : Option (List Stmt)) : Prop := ∀ l, b = some l → ∀ st ∈ l, PureStmt st

/-! ### values that read within fuel 1 -/

/-- the cell of a value that reads within fuel 1: its components do not read at all (so a container is empty) -/
theorem read1_cell {h : Array (Cell ν)} {a : Addr} {v : SVal ν} (hv : contentW ω 1 h a = some v) :
    ∃ c, h[a]? = some c ∧ Layer ω (fun _ => none) a c v :=
  (contentW_succ_iff ω 0 h a v).1 hv

theorem dup_shallow {a : Addr} {v : SVal ν} (n : Nat)
    (hv : contentW ω 1 s.heap a = some v) :
    ∃ a' s', dup (n+1) a s = (.ok a', s') ∧ Frame s s' ∧ contentW ω 1 s'.heap a' = some v := by
  obtain ⟨c, hc, hl⟩ := read1_cell hv
  -- scalars and empty containers are copied into a fresh cell, every other cell is shared
  have fresh : ∀ (c' : Cell ν), dup (n+1) a s = alloc c' s → Layer ω (contentW ω 0 (s.heap.push c')) s.heap.size c' v →
      ∃ a' s', dup (n+1) a s = (.ok a', s') ∧ Frame s s' ∧ contentW ω 1 s'.heap a' = some v := fun c' h hl =>
    ⟨_, _, h, Frame.push s c', contentW_push_new 0 s.heap c' v hl⟩
  cases hl with
  | num | str | bool => exact fresh _ (Calls.getCell_bind _ hc) (by constructor)
  | arr hf => cases hf with
    | nil => exact fresh _ (Calls.getCell_bind _ hc) (.arr .nil)
    | cons h _ => cases h
  | hm ho hf => cases hf with
    | nil =>
      obtain rfl := List.map_eq_nil_iff.1 ho.symm
      exact fresh _ (Calls.getCell_bind _ hc) (.hm rfl .nil)
    | cons h _ => exact nomatch h.2.choose_spec.2
  | _ => exact ⟨a, s, Calls.getCell_bind _ hc, Frame.refl s, hv⟩

theorem joinWith_eq (sep : String) : ∀ (l : List String), Model.joinWith sep l = Spec.joinWith sep l
  | [] => rfl
  | [_] => rfl
  | x :: y :: rest => by
    simp only [Model.joinWith, Spec.joinWith]
    rw [joinWith_eq sep (y :: rest)]

theorem display_shallow {a : Addr} {v : SVal ν} (n : Nat)
    (objs : Array (String × List (String × SVal ν)))
    (hω : ∀ a v, ω a = some v → isOpaque v = true → ∃ c, s.heap[a]? = some c ∧ OpaqueShow c v)
    (hv : contentW ω 1 s.heap a = some v) :
    display (n+1) a s = (.ok (showV objs 64 v), s) := by
  obtain ⟨c, hc, hl⟩ := read1_cell hv
  cases hl with
  | arr hf => cases hf with
    | nil => exact Calls.getCell_bind _ hc
    | cons h _ => cases h
  | hm ho hf => cases hf with
    | nil => obtain rfl := List.map_eq_nil_iff.1 ho.symm; exact Calls.getCell_bind _ hc
    | cons h _ => exact nomatch h.2.choose_spec.2
  | obj hw hop | fn hw hop | cls hw hop | exc hw hop =>
    -- a non-plain cell shows as the value `ω` gives for it
    obtain ⟨c', hc', hshow⟩ := hω a v hw hop
    rw [hc] at hc'; cases hc'
    cases v <;> first | exact hshow.elim | (cases hshow; exact Calls.getCell_bind _ hc) | exact Calls.getCell_bind _ hc
  | _ => exact Calls.getCell_bind _ hc

theorem display_mapM (n : Nat) (objs : Array (String × List (String × SVal ν)))
    (hω : ∀ a v, ω a = some v → isOpaque v = true → ∃ c, s.heap[a]? = some c ∧ OpaqueShow c v) :
    ∀ {vals : List Addr} {args : List (SVal ν)}, Forall2 (fun a v => contentW ω 1 s.heap a = some v) vals args →
      vals.mapM (display (n+1)) s = (.ok (args.map (showV objs 64)), s)
  | _, _, .nil => rfl
  | _, _, .cons h rest => by
    rw [List.mapM_cons, Calls.M_bind_def, display_shallow n objs hω h]
    simp only
    rw [Calls.M_bind_def, display_mapM n objs hω rest]
    rfl

/-- the state after `setTopFrame f` -/
def topS (f : Model.Frame → Model.Frame) (s : VM ν) : VM ν :=
  match s.stack with
  | [] => s
  | fr :: rest => { s with stack := f fr :: rest }

theorem setTopFrame_eq (f : Model.Frame → Model.Frame) (s : VM ν) : setTopFrame f s = (.ok (), topS f s) := by
  simp only [setTopFrame, modifyVM, topS]
  cases s.stack <;> rfl

theorem topS_heap (f : Model.Frame → Model.Frame) (s : VM ν) : (topS f s).heap = s.heap := by
  unfold topS; cases s.stack <;> rfl

theorem StRel.topS (h : StRel ω mid D ds s σ)
    (f : Model.Frame → Model.Frame) (hf : ∀ fr, (f fr).moduleId = fr.moduleId) : StRel ω mid D ds (topS f s) σ := by
  obtain ⟨fr, rest, hst, hm⟩ := h.stack
  have e : ZnVerif.Proofs.topS f s = { s with stack := f fr :: rest } := by simp only [ZnVerif.Proofs.topS, hst]
  rw [e]
  exact ⟨h.cs, h.globals, h.scope, ⟨f fr, rest, rfl, by rw [hf]; exact hm⟩, h.out, h.display, h.ωok⟩

theorem slot_topS_line (s : VM ν) (l : Nat) : slot (topS (fun fr => { fr with line := l, started := true }) s) = slot s := by
  unfold topS slot
  cases h : s.stack <;> simp [h]

theorem slot_topS_ret (h : StRel ω mid D ds s σ) (a : Addr) :
    slot (topS (fun fr => { fr with ret := some a }) s) = some a := by
  obtain ⟨fr, rest, hst, _⟩ := h.stack
  simp only [topS, slot, hst]

theorem simS_idName {s : VM ν} {σ : SState ν} {T B} (lit : String) :
    SimS (fun s' σ' (x y : String) => s' = s ∧ σ' = σ ∧ x = y) T B s σ (matchIDName lit) (idName lit) := by
  unfold SimS matchIDName idName matchIDType classifyId
  have : Spec.strCps lit = Model.strCps lit := rfl
  rw [this]
  cases tryParseNumber (Model.strCps lit)
  · exact .inr (.inr (.inr (.ok ⟨rfl, rfl, rfl⟩)))
  · exact .inr (.inr (.inr (.sem 32)))
  · exact .inr (.inr (.inr (.sem 30)))

/-- the value of a statement: some cell that reads (within some fuel) as the spec value -/
def PVal (ω : Addr → Option (SVal ν)) : Array (Cell ν) → Addr → SVal ν → Prop := fun h a v => ∃ k, contentW ω k h a = some v

theorem simS_newNull {T B}
    (h : Inv ω mid D ds h0 s σ) : SimS (VRel ω mid D ds h0 (PVal ω)) T B s σ newNull (pure SVal.null) := by
  have hF := Frame.push s (Cell.null (ν := ν))
  have h' := h.frame hF
  exact .inr (.inr (.inr (.ok ⟨h'.1, h'.2.1, h'.2.2, 1, contentW_push_new 0 s.heap .null .null .null⟩)))

end ZnVerif.Proofs
