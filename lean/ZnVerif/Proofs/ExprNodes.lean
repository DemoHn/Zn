/-
The operator nodes of the spec evaluator as functions of the evaluations of their operands: `evalE (n+1)` on a pure
expression form is such a node applied to the evaluations at `n`.  The model's nodes (`logicNode`, `arithNode`, `hmEntry`,
…) and the equations of `evalExpr` are in Proofs/EvalArms; everything proved about the operators (fuel
monotonicity, the simulation) is proved about the two families of nodes, for arbitrary operand computations.
-/
import ZnVerif.Proofs.MonadLaws

set_option linter.unusedSectionVars false

namespace ZnVerif.Proofs
open ZnVerif.Model ZnVerif.Spec

variable {ν : Type} [NumOps ν]

def withNumS {α} (e : Nat) (K : ν → SM ν α) : SVal ν → SM ν α
  | .num x => K x
  | _ => fault e

def withBoolS {α} (e : Nat) (K : Bool → SM ν α) : SVal ν → SM ν α
  | .bool b => K b
  | _ => fault e

def andorNodeS (ty : Nat) (el er : SM ν (SVal ν)) : SM ν (SVal ν) :=
  el >>= withBoolS 80 fun lb =>
    if ty == LogicAND && !lb then pure (.bool false)
    else if ty == LogicOR && lb then pure (.bool true)
    else er >>= withBoolS 80 fun rb => pure (.bool rb)

/-- the comparison operators on two values, `valEq` on fuel `n` -/
def cmpNodeS (ty n : Nat) (a b : SVal ν) : SM ν (SVal ν) :=
  if ty == LogicXEQ || ty == LogicEQ || ty == LogicXNEQ || ty == LogicNEQ then
    match valEq n a b with
    | some eq => pure (.bool (if ty == LogicXEQ || ty == LogicEQ then eq else !eq))
    | none => fault 83
  else
    a |> withNumS 83 fun x => b |> withNumS 83 fun y =>
      pure (.bool (if ty == LogicGT then NumOps.gt x y else if ty == LogicGTE then NumOps.ge x y
                   else if ty == LogicLT then NumOps.lt x y else NumOps.le x y))

def logicNodeS (ty n : Nat) (el er : SM ν (SVal ν)) : SM ν (SVal ν) :=
  if ty == LogicAND || ty == LogicOR then andorNodeS ty el er
  else do
    let a ← el
    let b ← er
    cmpNodeS ty n a b

/-- all six arithmetic operators on two numbers (`%` is the last case) -/
def arithOpS (ty : Nat) (x y : ν) : SM ν (SVal ν) :=
  if ty == ArithAdd then pure (.num (NumOps.add x y))
  else if ty == ArithSub then pure (.num (NumOps.sub x y))
  else if ty == ArithMul then pure (.num (NumOps.mul x y))
  else if NumOps.isZero y then fault 90
  else if ty == ArithDiv then pure (.num (NumOps.div x y))
  else if ty == ArithIntDiv then pure (.num (NumOps.floor (NumOps.div x y)))
  else pure (.num (NumOps.sub x (NumOps.mul (NumOps.floor (NumOps.div x y)) y)))

/-- after the left operand: a number goes on to the right operand; under `%` (the flag) a text on the left is
text formatting (C14), left unspecified here, and any other value is an error once the right operand has run -/
def arithTailS (ty : Nat) (er : SM ν (SVal ν)) : SVal ν → Bool → SM ν (SVal ν)
  | .num x, _ => er >>= withNumS 80 (arithOpS ty x)
  | .str _, true => unspec
  | _, true => do let _ ← er; fault 80
  | _, false => fault 80

def arithNodeS (ty : Nat) (el er : SM ν (SVal ν)) : SM ν (SVal ν) := do
  let a ← el
  arithTailS ty er a (ty == ArithModulo)

theorem arithNodeS_nums {ty : Nat} {el er : SM ν (SVal ν)} {σ σ1 σ2 : SState ν} {x y : ν}
    (hl : el σ = (.ok (.num x), σ1)) (hr : er σ1 = (.ok (.num y), σ2)) :
    arithNodeS ty el er σ = arithOpS ty x y σ2 :=
  (SM.bind_ok hl).trans (SM.bind_ok hr)

theorem arithTailS_false (ty : Nat) (er : SM ν (SVal ν)) (a : SVal ν) :
    arithTailS ty er a false = withNumS 80 (fun x => er >>= withNumS 80 (arithOpS ty x)) a := by
  cases a <;> rfl

def hmEntryS (k : Expr) (ev : SM ν (SVal ν)) : SM ν (String × SVal ν) := do
  let key ← match k with
    | .str _ s => pure s
    | .id i => do let _ ← classifyId (ν := ν) i.lit; pure i.lit
    | _ => fault 80
  let v ← ev
  pure (key, v)

def idNodeS (lit : String) : SM ν (SVal ν) := do
  match ← classifyId lit with
  | .name s => lookupName s
  | .number x => pure (.num x)

theorem ordMatch_eq {α} (K : ν → ν → SM ν α) (a b : SVal ν) :
    (match a, b with
      | .num x, .num y => K x y
      | _, _ => fault 83) = withNumS 83 (fun x => withNumS 83 (K x) b) a := by
  cases a <;> first | rfl | (cases b <;> rfl)

/-- not by `rfl` like its neighbours: `evalE` matches on both operands of an ordering at once, `logicNodeS` reads them one
after the other (`ordMatch_eq`) -/
theorem evalE_logic (n ln ty : Nat) (l r : Expr) :
    evalE (ν := ν) (n+1) (.logic ln ty l r) = logicNodeS ty n (evalE n l) (evalE n r) :=
  ite_congr rfl (fun _ => rfl) fun _ => bind_congr fun a => bind_congr fun b =>
    ite_congr rfl (fun _ => rfl) fun _ => ordMatch_eq _ a b

theorem evalE_arith (n ln ty : Nat) (l r : Expr) :
    evalE (ν := ν) (n+1) (.arith ln ty l r) = arithNodeS ty (evalE n l) (evalE n r) := by rfl

theorem evalE_str (n ln : Nat) (t : String) : evalE (ν := ν) (n+1) (.str ln t) = pure (.str t) := by rfl

theorem evalE_id (n : Nat) (i : Ident) : evalE (ν := ν) (n+1) (.id i) = idNodeS i.lit := by rfl

theorem evalE_arr (n ln : Nat) (items : List Expr) :
    evalE (ν := ν) (n+1) (.arr ln items) = (do let vs ← items.mapM (evalE n); pure (.list vs)) := by rfl

theorem evalE_hm (n ln : Nat) (kvs : List (Expr × Expr)) :
    evalE (ν := ν) (n+1) (.hm ln kvs) = (do
      let pairs ← kvs.mapM fun kv => hmEntryS kv.1 (evalE n kv.2)
      pure (.dict (pairs.foldl (fun acc kv => dictSet acc kv.1 kv.2) []))) := by rfl

end ZnVerif.Proofs
