/-
Helper lemmas for C14 about the spec itself: the executable template splitter is the unique canonical
decomposition; the executable directive parser decides the documented grammar.
-/
import ZnVerif.Spec.Template

namespace ZnVerif.Proofs.Template
open ZnVerif.Spec.Template

theorem isBrace_false (c : Nat) : isBrace c = false ↔ c ≠ 0x7B ∧ c ≠ 0x7D := by
  simp [isBrace]

theorem isBrace_true (c : Nat) : isBrace c = true ↔ c = 0x7B ∨ c = 0x7D := by
  simp [isBrace]

theorem takeRun_takeWhile : ∀ l, takeRun l = (l.takeWhile (!isBrace ·), l.dropWhile (!isBrace ·))
  | [] => rfl
  | c :: r => by rw [takeRun, takeRun_takeWhile r]; cases h : isBrace c <;> simp [h]

theorem takeRun_spec (l : List Nat) :
    l = (takeRun l).1 ++ (takeRun l).2 ∧ braceFree (takeRun l).1 ∧
    (∀ c r, (takeRun l).2 = c :: r → isBrace c = true) := by
  rw [takeRun_takeWhile]
  refine ⟨List.takeWhile_append_dropWhile.symm, fun c hc => ?_, fun c r h => ?_⟩
  · simpa using List.all_eq_true.1 List.all_takeWhile c hc
  · have := List.head?_dropWhile_not (!isBrace ·) l
    rw [show l.dropWhile (!isBrace ·) = c :: r from h] at this
    simpa using this

theorem takeRun_eq {l a b : List Nat} (h : takeRun l = (a, b)) :
    l = a ++ b ∧ braceFree a ∧ ∀ c r, b = c :: r → isBrace c = true := by
  have := takeRun_spec l
  rwa [h] at this

theorem takeRun_append (a b : List Nat) (ha : braceFree a) (hb : ∀ c r, b = c :: r → isBrace c = true) :
    takeRun (a ++ b) = (a, b) := by
  have ha' : ∀ c ∈ a, (!isBrace c) = true := fun c hc => by simp [ha c hc]
  rw [takeRun_takeWhile, List.takeWhile_append_of_pos ha', List.dropWhile_append_of_pos ha']
  cases b with
  | nil => simp
  | cons c r => simp [hb c r rfl]

theorem splitFuel_sound (fuel : Nat) (t : List Nat) :
    ∀ segs, splitFuel fuel t = some segs → unparse segs = t ∧ Canonical segs := by
  fun_induction splitFuel fuel t with
  | case1 | case4 | case5 | case6 => intro _ h; cases h
  | case2 => intro _ h; cases h; exact ⟨rfl, trivial⟩
  | case3 n r d r'' hr ih =>
    intro segs h
    obtain ⟨segs', hs, rfl⟩ := Option.map_eq_some_iff.1 h
    obtain ⟨e1, e2, -⟩ := takeRun_eq hr
    obtain ⟨u, cn⟩ := ih segs' hs
    exact ⟨by simp [unparse, u, e1], e2, cn⟩
  | case7 n c r h1 h2 s r' hr ih =>
    intro segs h
    obtain ⟨segs', hs, rfl⟩ := Option.map_eq_some_iff.1 h
    obtain ⟨e1, e2, e3⟩ := takeRun_eq hr
    obtain ⟨u, cn⟩ := ih segs' hs
    refine ⟨by simp [unparse, u, e1], by simp, ?_, ?_, cn⟩
    · intro x hx
      rcases List.mem_cons.1 hx with rfl | hx
      · exact (isBrace_false x).2 ⟨h1, h2⟩
      · exact e2 x hx
    · -- the run is maximal: what follows is the end or starts with a brace, hence is no literal
      match segs', u, cn with
      | [], _, _ | .hole _ :: _, _, _ => trivial
      | .lit [] :: _, _, cn => exact cn.1 rfl
      | .lit (y :: s2) :: rest, u, cn =>
        have := cn.2.1 y (by simp)
        rw [e3 y _ u.symm] at this
        cases this

theorem split_sound (t : List Nat) (segs : List Seg) (h : split t = some segs) :
    unparse segs = t ∧ Canonical segs :=
  splitFuel_sound _ t segs h

theorem unparse_length_lit (s : List Nat) (r : List Seg) : (unparse (.lit s :: r)).length = s.length + (unparse r).length := by
  simp [unparse]

theorem splitFuel_complete : ∀ (segs : List Seg) (fuel : Nat), Canonical segs → (unparse segs).length < fuel →
    splitFuel fuel (unparse segs) = some segs := by
  intro segs
  induction segs with
  | nil =>
    intro fuel _ hf
    cases fuel with
    | zero => simp at hf
    | succ n => simp [unparse, splitFuel]
  | cons sg rest ih =>
    intro fuel hc hf
    cases fuel with
    | zero => simp at hf
    | succ n =>
      -- what follows a segment is the end or starts with a brace, unless it is a literal
      have startsBrace : ∀ rest : List Seg, Canonical rest → (match rest with | .lit _ :: _ => False | _ => True) →
          ∀ c r, unparse rest = c :: r → isBrace c = true := by
        intro rest hcr hnl c r hu
        cases rest with
        | nil => simp [unparse] at hu
        | cons sg2 rest2 =>
          cases sg2 with
          | lit _ => exact absurd hnl (by simp)
          | hole d =>
            simp [unparse] at hu
            rw [← hu.1]; simp [isBrace]
      cases sg with
      | hole d =>
        obtain ⟨hd, hcr⟩ := hc
        have hlen : (unparse rest).length < n := by simp [unparse] at hf; omega
        have hb : ∀ c r, (0x7D :: unparse rest) = c :: r → isBrace c = true := by
          intro c r h; simp at h; rw [← h.1]; simp [isBrace]
        simp only [unparse, splitFuel, if_true]
        rw [takeRun_append d _ hd hb]
        simp [ih n hcr hlen]
      | lit s =>
        obtain ⟨hne, hbf, hnl, hcr⟩ := hc
        cases s with
        | nil => exact absurd rfl hne
        | cons x s' =>
          have hx : isBrace x = false := hbf x (by simp)
          obtain ⟨x1, x2⟩ := (isBrace_false x).1 hx
          have hlen : (unparse rest).length < n := by simp [unparse] at hf; omega
          have hs' : braceFree s' := fun c hc => hbf c (by simp [hc])
          simp only [unparse, List.cons_append, splitFuel, x1, x2, if_false]
          rw [takeRun_append s' _ hs' (startsBrace rest hcr hnl)]
          simp [ih n hcr hlen]

theorem split_iff (t : List Nat) (segs : List Seg) :
    split t = some segs ↔ (unparse segs = t ∧ Canonical segs) := by
  constructor
  · exact split_sound t segs
  · rintro ⟨rfl, hc⟩
    exact splitFuel_complete segs _ hc (by omega)

theorem isDigit_iff (c : Nat) : isDigit c = true ↔ 0x30 ≤ c ∧ c ≤ 0x39 := by
  simp [isDigit]

theorem takeDigits_takeWhile : ∀ l, takeDigits l = (l.takeWhile isDigit, l.dropWhile isDigit)
  | [] => rfl
  | c :: r => by rw [takeDigits, takeDigits_takeWhile r]; cases h : isDigit c <;> simp [h]

theorem takeDigits_spec (l : List Nat) :
    l = (takeDigits l).1 ++ (takeDigits l).2 ∧ (∀ c ∈ (takeDigits l).1, isDigit c = true) ∧
    (∀ c r, (takeDigits l).2 = c :: r → isDigit c = false) := by
  rw [takeDigits_takeWhile]
  refine ⟨List.takeWhile_append_dropWhile.symm, List.all_eq_true.1 List.all_takeWhile, fun c r h => ?_⟩
  have := List.head?_dropWhile_not isDigit l
  rwa [show l.dropWhile isDigit = c :: r from h] at this

theorem takeDigits_append (ds rest : List Nat) (hd : ∀ c ∈ ds, isDigit c = true)
    (hr : ∀ c r, rest = c :: r → isDigit c = false) : takeDigits (ds ++ rest) = (ds, rest) := by
  rw [takeDigits_takeWhile, List.takeWhile_append_of_pos hd, List.dropWhile_append_of_pos hd]
  cases rest with
  | nil => simp
  | cons c r => simp [hr c r rfl]

theorem parseSuffix_some (plus : Bool) (prec : Option Nat) (l : List Nat) (d : Directive) :
    parseSuffix plus prec l = some d ↔
      d.plus = plus ∧ d.prec = prec ∧
      ((l = [] ∧ d.style = .plain) ∨ (l = [0x45] ∧ d.style = .sci) ∨ (l = [0x25] ∧ d.style = .percent)) := by
  obtain ⟨dp, dq, ds⟩ := d
  match l with
  | [] => simp [parseSuffix]; constructor <;> (intro h; simp_all)
  | [c] =>
    by_cases h3 : c = 0x45
    · subst h3; simp [parseSuffix]; constructor <;> (intro h; simp_all)
    by_cases h4 : c = 0x25
    · subst h4; simp [parseSuffix]; constructor <;> (intro h; simp_all)
    simp [parseSuffix, h3, h4]
  | _ :: _ :: _ => simp [parseSuffix]

theorem parseDirective_noplus (l : List Nat) (h : ∀ c r, l = c :: r → c ≠ 0x2B) :
    parseDirective l = parseFrac false l := by
  cases l with
  | nil => rfl
  | cons c r => simp [parseDirective, h c r rfl]

theorem parseFrac_nodot (plus : Bool) (l : List Nat) (h : ∀ c r, l = c :: r → c ≠ 0x2E) :
    parseFrac plus l = parseSuffix plus none l := by
  cases l with
  | nil => rfl
  | cons c r => simp [parseFrac, h c r rfl]

theorem parseDirective_iff (l : List Nat) (d : Directive) : parseDirective l = some d ↔ DirectiveForm l d := by
  constructor
  · intro h
    have key : ∀ (plus : Bool) (l : List Nat), parseFrac plus l = some d →
        ∃ frac suffix prec style, l = frac ++ suffix ∧ d = ⟨plus, prec, style⟩ ∧
          ((frac = [] ∧ prec = none) ∨ (∃ ds, frac = 0x2E :: ds ∧ ds ≠ [] ∧ (∀ c ∈ ds, isDigit c = true) ∧ prec = some (decimal ds))) ∧
          ((suffix = [] ∧ style = .plain) ∨ (suffix = [0x45] ∧ style = .sci) ∨ (suffix = [0x25] ∧ style = .percent)) := by
      intro plus l hl
      by_cases hdot : ∃ r, l = 0x2E :: r
      · obtain ⟨r, rfl⟩ := hdot
        obtain ⟨e1, e2, _⟩ := takeDigits_spec r
        simp only [parseFrac, if_true] at hl
        by_cases hds : (takeDigits r).1 = []
        · simp [hds] at hl
        · simp only [hds, if_false] at hl
          obtain ⟨hp, hq, hs⟩ := (parseSuffix_some _ _ _ _).1 hl
          refine ⟨0x2E :: (takeDigits r).1, (takeDigits r).2, some (decimal (takeDigits r).1), d.style, ?_, ?_, ?_, hs⟩
          · simp; exact e1
          · cases d with
            | mk dp dq dst =>
              simp only at hp hq
              subst hp; subst hq; rfl
          · exact Or.inr ⟨_, rfl, hds, e2, rfl⟩
      · rw [parseFrac_nodot plus l fun c r h hc => hdot ⟨r, by rw [h, hc]⟩] at hl
        obtain ⟨hp, hq, hs⟩ := (parseSuffix_some _ _ _ _).1 hl
        refine ⟨[], l, none, d.style, by simp, ?_, Or.inl ⟨rfl, rfl⟩, hs⟩
        cases d with
        | mk dp dq dst =>
          simp only at hp hq
          subst hp; subst hq; rfl
    by_cases hp : ∃ r, l = 0x2B :: r
    · obtain ⟨r, rfl⟩ := hp
      have : parseDirective (0x2B :: r) = parseFrac true r := by simp [parseDirective]
      rw [this] at h
      obtain ⟨frac, suffix, prec, style, rfl, rfl, hf, hs⟩ := key true r h
      have := DirectiveForm.mk [0x2B] frac suffix true prec style (Or.inr ⟨rfl, rfl⟩) hf hs
      simpa using this
    · rw [parseDirective_noplus l fun c r h hc => hp ⟨r, by rw [h, hc]⟩] at h
      obtain ⟨frac, suffix, prec, style, rfl, rfl, hf, hs⟩ := key false l h
      have := DirectiveForm.mk [] frac suffix false prec style (Or.inl ⟨rfl, rfl⟩) hf hs
      simpa using this
  · intro h
    cases h with
    | mk sign frac suffix plus prec style hsign hfrac hsuf =>
      have hsufP : parseSuffix plus prec suffix = some ⟨plus, prec, style⟩ :=
        (parseSuffix_some _ _ _ _).2 ⟨rfl, rfl, hsuf⟩
      have hsufHead : ∀ c r, suffix = c :: r → c = 0x45 ∨ c = 0x25 := by
        intro c r hc
        rcases hsuf with ⟨h, _⟩ | ⟨h, _⟩ | ⟨h, _⟩ <;> rw [h] at hc <;> simp at hc
        · exact Or.inl hc.1.symm
        · exact Or.inr hc.1.symm
      have hfracP : parseFrac plus (frac ++ suffix) = some ⟨plus, prec, style⟩ := by
        rcases hfrac with ⟨rfl, rfl⟩ | ⟨ds, rfl, hne, hds, rfl⟩
        · cases hsx : suffix with
          | nil => rw [hsx] at hsufP; simpa [parseFrac] using hsufP
          | cons c r =>
            have : c ≠ 0x2E := by
              rcases hsufHead c r hsx with h | h <;> omega
            rw [hsx] at hsufP
            simpa [parseFrac, this] using hsufP
        · have hnd : ∀ c r, suffix = c :: r → isDigit c = false := by
            intro c r hc
            rcases hsufHead c r hc with h | h <;> subst h <;> decide
          simp only [List.cons_append, parseFrac, if_true]
          rw [takeDigits_append ds suffix hds hnd]
          simp [hne, hsufP]
      rcases hsign with ⟨rfl, rfl⟩ | ⟨rfl, rfl⟩
      · -- no sign: the text must not start with `+`
        have hhead : ∀ c r, frac ++ suffix = c :: r → c ≠ 0x2B := by
          intro c r hc
          rcases hfrac with ⟨rfl, _⟩ | ⟨ds, rfl, _⟩
          · rcases hsufHead c r (by simpa using hc) with h | h <;> omega
          · simp at hc; omega
        rw [List.nil_append, parseDirective_noplus _ hhead]
        exact hfracP
      · simpa [parseDirective] using hfracP

end ZnVerif.Proofs.Template
