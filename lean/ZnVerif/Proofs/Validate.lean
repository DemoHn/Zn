/- C10 helper lemmas about Model/Validate.lean: the repaired validators never panic. -/
import ZnVerif.Model.Validate

namespace ZnVerif.Proofs.Validate
open ZnVerif.Model.Validate

theorem validateOne_guarded (v : VKind) (ty : String) : validateOne true v ty ≠ .panic := by
  unfold validateOne
  dsimp only
  split
  · split
    · split <;> simp
    · simp
  · split <;> simp

/-- the loops' step `match first with | .ok => rest | o => o`: no panic if neither part panics -/
theorem step_ne_panic {o k : Out} (ho : o ≠ .panic) (hk : k ≠ .panic) : (match o with | .ok => k | o => o) ≠ .panic := by
  cases o with
  | ok => exact hk
  | err c => nofun
  | panic => exact ho

theorem validateAllFrom_guarded (ty : String) : ∀ vs : List VKind, validateAllFrom true ty vs ≠ .panic
  | [] => nofun
  | v :: rest => step_ne_panic (validateOne_guarded v ty) (validateAllFrom_guarded ty rest)

theorem validateExact_go_guarded : ∀ (vs : List VKind) (ts : List String), validateExact.go true vs ts ≠ .panic
  | [], _ => by simp [validateExact.go]
  | _ :: _, [] => by simp [validateExact.go]
  | v :: vs, t :: ts => step_ne_panic (validateOne_guarded v t) (validateExact_go_guarded vs ts)

/-- the repaired `ValidateLeastParams` (index guard and cast guard present) never panics, for every list of
    values, every start index and every list of patterns that contain a word character -/
theorem validateLeastFrom_guarded (values : List VKind) :
    ∀ (pats : List String) (idx : Nat), (∀ p ∈ pats, (parsePat p).isSome = true) →
      validateLeastFrom true true values idx pats ≠ .panic
  | [], idx, _ => by simp [validateLeastFrom]
  | t :: rest, idx, hp => by
    have ht := hp t (by simp)
    have ih := fun i => validateLeastFrom_guarded values rest i (fun p h => hp p (by simp [h]))
    unfold validateLeastFrom
    cases hpp : parsePat t with
    | none => rw [hpp] at ht; cases ht
    | some ns =>
      obtain ⟨name, suffix⟩ := ns
      dsimp only
      split
      · split
        · simp
        · exact validateAllFrom_guarded _ _
      · split
        · split
          · simp
          · split
            · next hlen =>
              have hlen' : idx + 1 = values.length := by simpa using hlen
              have : idx < values.length := by omega
              rw [List.getElem?_eq_getElem this]
              exact step_ne_panic (validateOne_guarded _ name) (ih _)
            · simp
        · cases hv : values[idx]? with
          | none => simp
          | some v => exact step_ne_panic (validateOne_guarded v t) (ih _)

end ZnVerif.Proofs.Validate
