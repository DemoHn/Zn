/-
`Kept m` — on every outcome of `m`, a frame in which a statement has begun stays on the stack and stays started
(position counted from the bottom).  Holds for statements and blocks: the only in-place updates of a frame are
`line := …, started := true` and `ret := …` (`Fr .stmt`, Proofs/StackBalRules.lean), and everything else happens above
the frames a statement starts from.
The declarations continue `namespace ZnVerif.Proofs.LineKeep` (users write `LineKeep.Kept`, `LineKeep.allKept`).
-/
import ZnVerif.Proofs.LineKeep
set_option linter.unusedSectionVars false

namespace ZnVerif.Proofs.LineKeep
open ZnVerif.Model ZnVerif.Proofs.StackBal

variable {ν : Type} [NumOps ν]

/-- the frame at position `i` counted from the bottom of the stack exists and a statement has begun in it -/
def StartedAt (st : List Frame) (i : Nat) : Prop := ∃ f, st.reverse[i]? = some f ∧ f.started = true

theorem StartedAt.lt {st : List Frame} {i : Nat} (h : StartedAt st i) : i < st.length := by
  obtain ⟨f, h1, _⟩ := h
  obtain ⟨hi, _⟩ := List.getElem?_eq_some_iff.1 h1
  simpa using hi

theorem StartedAt.append (extra : List Frame) {st : List Frame} {i : Nat} (h : StartedAt st i) :
    StartedAt (extra ++ st) i := by
  have hlt := h.lt
  obtain ⟨f, h1, h2⟩ := h
  refine ⟨f, ?_, h2⟩
  rw [List.reverse_append, List.getElem?_append_left (by simpa using hlt)]
  exact h1

theorem startedAt_top (f : Frame) (r : List Frame) : StartedAt (f :: r) r.length ↔ f.started = true := by
  unfold StartedAt
  rw [List.reverse_cons, List.getElem?_append_right (by simp)]
  simp

theorem startedAt_below (f : Frame) (r : List Frame) {i : Nat} (hi : i < r.length) :
    StartedAt (f :: r) i ↔ StartedAt r i := by
  unfold StartedAt
  rw [List.reverse_cons, List.getElem?_append_left (by simpa using hi)]

theorem StartedAt.top {st st' : List Frame} {i : Nat} (ht : Top .stmt st st') (h : StartedAt st i) :
    StartedAt st' i := by
  cases st with
  | nil => exact absurd h.lt (Nat.not_lt_zero _)
  | cons f r =>
    obtain ⟨f', rfl, _, hs⟩ := ht
    have hlt := h.lt
    by_cases hi : i < r.length
    · rw [startedAt_below _ _ hi] at h ⊢; exact h
    · have : i = r.length := by simp at hlt; omega
      subst this
      rw [startedAt_top] at h ⊢
      exact hs h

structure Kept {α} (m : M ν α) : Prop where
  keep : ∀ s i, StartedAt s.stack i → StartedAt (m s).2.stack i

section keptrules
variable {α β : Type}

theorem Kept.ofFr {ns : Bool} {m : M ν α} (h : Fr .stmt ns m) : Kept m :=
  ⟨fun s i hi => by obtain ⟨e, _, h1, h2, _⟩ := h.run s; exact h1 ▸ (hi.top h2).append e⟩

theorem Kept.liftRes (r : Res α) : Kept (liftRes r : M ν α) := ⟨fun _ _ hi => hi⟩

end keptrules

structure AllKept (n : Nat) : Prop where
  evalStmt : ∀ st, Kept (evalStmt (ν := ν) n st)
  evalPureStmtBlock : ∀ b, Kept (evalPureStmtBlock (ν := ν) n b)
  evalStmtBlock : ∀ b, Kept (evalStmtBlock (ν := ν) n b)

theorem allKept (n : Nat) : AllKept (ν := ν) n :=
  have h := allFr (ν := ν) n
  { evalStmt := fun st => .ofFr (h.evalStmt st)
    evalPureStmtBlock := fun b => .ofFr (h.evalPureStmtBlock b)
    evalStmtBlock := fun b => .ofFr (h.evalStmtBlock b) }

end ZnVerif.Proofs.LineKeep
