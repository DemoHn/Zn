/-
C02 refinement: the statements without sub-blocks (输出, expression statements, assignment, declaration,
结束循环, 继续循环, the empty statement); the display call is in StmtRefineDisplay.
-/
import ZnVerif.Proofs.StmtRefineOps

set_option linter.unusedSectionVars false

namespace ZnVerif.Proofs
open ZnVerif.Model ZnVerif.Spec StmtNodes EvalArms

variable {ν : Type} [NumOps ν]

/-- statement-level simulation: value / returned / loop-signal relations at scope depth `D` over levels `ds` -/
abbrev SSim (ω : Addr → Option (SVal ν)) (mid : Int) (D : Int) (ds : List Int) (h0 : Array (Cell ν))
    (s : VM ν) (σ : SState ν) (m : M ν Addr) (m' : SM ν (SVal ν)) : Prop :=
  SimS (VRel ω mid D ds h0 (PVal ω)) (TRel ω mid D ds h0) (BRel ω mid D ds h0) s σ m m'

def ExprV (ω : Addr → Option (SVal ν)) (mid : Int) (D : Int) (ds : List Int) (h0 : Array (Cell ν)) (k : Nat) :
    VM ν → SState ν → Addr → SVal ν → Prop :=
  fun s σ a v => Inv ω mid D ds h0 s σ ∧ contentW ω k s.heap a = some v

section
variable {ω : Addr → Option (SVal ν)} {mid : Int} {D : Int} {ds : List Int} {h0 : Array (Cell ν)} {s : VM ν} {σ : SState ν}

theorem simS_expr_of {Q : VM ν → Addr → SVal ν → Prop} {k n m : Nat} {e : Expr} (hinv : Inv ω mid D ds h0 s σ)
    (h : Sim 0 Q s σ (evalExpr m e) (evalE m e)) (hQ : ∀ s a v, Q s a v → contentW ω k s.heap a = some v)
    (hle : m ≤ n) (he : PureExpr e) :
    SimS (ExprV ω mid D ds h0 k) NoT NoB s σ (evalExpr n e) (evalE m e) :=
  simS_weaken (fun _ _ _ _ ⟨e1, hF, hq⟩ => by subst e1; exact ⟨hinv.frame hF, hQ _ _ _ hq⟩) (fun _ _ _ _ h => h) (fun _ _ h => h)
    (simS_of_sim (T := NoT) (B := NoB) h hle he)

theorem simS_expr_any {n m : Nat} {e : Expr} (hinv : Inv ω mid D ds h0 s σ) (hle : m ≤ n) (he : PureExpr e) :
    SimS (ExprV ω mid D ds h0 m) NoT NoB s σ (evalExpr n e) (evalE m e) :=
  simS_expr_of hinv (sim_eval ω 0 m e s σ he hinv.1.envRel) (fun _ _ _ h => h) hle he

theorem simS_expr_top {n m : Nat} {e : Expr} (hinv : Inv ω mid D ds h0 s σ) (hle : m ≤ n) (he : PureExpr e) (ht : TopScalar e) :
    SimS (ExprV ω mid D ds h0 1) NoT NoB s σ (evalExpr n e) (evalE m e) :=
  simS_expr_of hinv (sim_eval_top ω m e s σ he ht hinv.1.envRel) (fun _ _ _ h => h) hle he

theorem simS_expr_target {n m : Nat} {e : Expr} (hinv : Inv ω mid D ds h0 s σ) (hle : m ≤ n) (he : IterTarget e) :
    SimS (ExprV ω mid D ds h0 2) NoT NoB s σ (evalExpr n e) (evalE m e) :=
  simS_expr_of hinv (sim_eval_target ω m e s σ he hinv.1.envRel) (fun _ _ _ h => h) hle he.pure

/-- every statement first records its line in the top frame -/
theorem sSim_line {α α'} {V : VM ν → SState ν → α → α' → Prop} {T B} (l : Nat) (K : M ν α) (m' : SM ν α')
    (hinv : Inv ω mid D ds h0 s σ)
    (h : ∀ s0, Inv ω mid D ds h0 s0 σ → SimS V T B s0 σ K m') :
    SimS V T B s σ (lineStep l >>= fun _ => K) m' := by
  refine simS_after (setTopFrame_eq _ s) (h _ ⟨hinv.1.topS _ (fun _ => rfl), ?_, ?_⟩)
  · rw [topS_heap]; exact hinv.2.1
  · rw [slot_topS_line]; exact hinv.2.2

theorem sim_ret {n m : Nat} (hle : m ≤ n) (ln : Nat) (e : Expr) (he : PureExpr e) (hinv : Inv ω mid D ds h0 s σ) :
    SSim ω mid D ds h0 s σ (evalStmt (n+1) (.ret ln e)) (execS (m+1) (.ret ln e)) := by
  rw [evalStmt_ret]
  refine sSim_line _ _ _ hinv fun s0 hinv0 => ?_
  refine simS_seq (simS_expr_any hinv0 hle he) fun s1 σ1 a v ⟨hi, hc⟩ => ?_
  refine simS_after (setTopFrame_eq _ s1) ?_
  refine simS_intro (r := .ok a) (r' := .ret v) rfl rfl (.inr (.inr (.inr (.ret
    ⟨hi.1.topS _ (fun _ => rfl), ?_, a, slot_topS_ret hi.1 a, m, ?_⟩))))
  · rw [topS_heap]; exact hi.2.1
  · rw [topS_heap]; exact hc

theorem sim_break {n m : Nat} (ln : Nat) (hinv : Inv ω mid D ds h0 s σ) :
    SSim ω mid D ds h0 s σ (evalStmt (n+1) (.break ln)) (execS (m+1) (.break ln)) := by
  rw [evalStmt_break]
  refine sSim_line _ _ _ hinv fun s0 hinv0 => ?_
  exact simS_intro (r := .err .sigBreak) (r' := .brk) rfl rfl (.inr (.inr (.inr (.brk hinv0))))

theorem sim_continue {n m : Nat} (ln : Nat) (hinv : Inv ω mid D ds h0 s σ) :
    SSim ω mid D ds h0 s σ (evalStmt (n+1) (.continue ln)) (execS (m+1) (.continue ln)) := by
  rw [evalStmt_continue]
  refine sSim_line _ _ _ hinv fun s0 hinv0 => ?_
  exact simS_intro (r := .err .sigContinue) (r' := .cont) rfl rfl (.inr (.inr (.inr (.cont hinv0))))

theorem sim_empty {n m : Nat} (ln : Nat) (hinv : Inv ω mid D ds h0 s σ) :
    SSim ω mid D ds h0 s σ (evalStmt (n+1) (.empty ln)) (execS (m+1) (.empty ln)) := by
  rw [evalStmt_empty]
  exact sSim_line _ _ _ hinv fun s0 hinv0 => simS_newNull hinv0

theorem sim_exprStmt {n m : Nat} (hle : m ≤ n) (e : Expr) (he : PureExpr e) (hinv : Inv ω mid D ds h0 s σ) :
    SSim ω mid D ds h0 s σ (evalStmt (n+1) (.expr e)) (execS (m+1) (.expr e)) := by
  rw [evalStmt_expr]
  refine sSim_line _ _ _ hinv fun s0 hinv0 => ?_
  exact simS_weaken (fun _ _ _ _ ⟨hi, hc⟩ => ⟨hi.1, hi.2.1, hi.2.2, m, hc⟩) (fun _ _ _ _ h => h.elim) (fun _ _ h => h.elim)
    (simS_expr_any hinv0 hle he)

/-- the tail of the spec's assignment: the two ways of writing it run the same -/
theorem assign_tail (name : String) (v : SVal ν) (σ : SState ν) :
    (if predefined.contains name then (fault 42 : SM ν (SVal ν)) else do assignName name v; pure v) σ =
    ((if predefined.contains name then (fault 42 : SM ν Unit) else assignName name v) >>= fun _ => pure v) σ := by
  cases predefined.contains name <;> rfl

theorem sim_assign {n m : Nat} (hle : m ≤ n) (ln : Nat) (i : Ident) (rhs : Expr) (he : PureExpr rhs) (ht : TopScalar rhs)
    (hinv : Inv ω mid D ds h0 s σ) :
    SSim ω mid D ds h0 s σ (evalStmt (n+1) (.expr (.assign ln (.id i) rhs))) (execS (m+1) (.expr (.assign ln (.id i) rhs))) := by
  rw [evalStmt_expr, execS_expr]
  refine sSim_line _ _ _ hinv fun s0 hinv0 => ?_
  cases m with
  | zero => exact simS_specFuel
  | succ m =>
  cases n with
  | zero => omega
  | succ n =>
  rw [evalExpr_assign_id, evalE_assign_id]
  refine simS_seq (simS_expr_top hinv0 (Nat.le_of_succ_le_succ hle) he ht) fun s1 σ1 a v ⟨hi, hc⟩ => ?_
  cases n with
  | zero => exact simS_modelFuel
  | succ n =>
  obtain ⟨a', s2, hdup, hF, hc'⟩ := dup_shallow (ω := ω) n hc
  refine simS_after hdup ?_
  have hi2 := hi.frame hF
  refine simS_seq (simS_idName i.lit) fun s3 σ3 x y ⟨e1, e2, e3⟩ => ?_
  subst e1 e2 e3
  refine simS_right (assign_tail x v σ3) ?_
  refine simS_seq (simS_assign hi2 x a' v hc') fun s4 σ4 _ _ ⟨h1, h2⟩ => ?_
  exact simS_pure ⟨h1.1, h1.2.1, h1.2.2, 1, by rw [h2]; exact hc'⟩

theorem listForM_nil {m : Type → Type} [Monad m] {ι : Type} (f : ι → m PUnit) : List.forM [] f = pure ⟨⟩ := rfl
theorem listForM_cons {m : Type → Type} [Monad m] {ι : Type} (f : ι → m PUnit) (a : ι) (as : List ι) :
    List.forM (a :: as) f = f a >>= fun _ => List.forM as f := rfl

theorem simS_forM {ι : Type} {f : ι → M ν Unit} {f' : ι → SM ν Unit} (I : VM ν → SState ν → Prop) :
    ∀ (l : List ι) (s : VM ν) (σ : SState ν), I s σ →
      (∀ x ∈ l, ∀ s σ, I s σ → SimS (fun s' σ' (_ _ : Unit) => I s' σ') NoT NoB s σ (f x) (f' x)) →
      SimS (fun s' σ' (_ _ : Unit) => I s' σ') NoT NoB s σ (l.forM f) (l.forM f')
  | [], s, σ, hI, _ => by rw [listForM_nil, listForM_nil]; exact simS_pure hI
  | x :: xs, s, σ, hI, h => by
    rw [listForM_cons, listForM_cons]
    exact simS_seq (h x List.mem_cons_self s σ hI)
      fun s1 σ1 _ _ hI1 => simS_forM I xs s1 σ1 hI1 fun y hy => h y (List.mem_cons_of_mem _ hy)

/-- one name of a declaration: the model declares a copy of the value, the spec the value -/
theorem sim_declStep (n : Nat) (c : Bool) (v : SVal ν) (x : Ident) (cur : Addr) (hinv : Inv ω mid D ds h0 s σ)
    (hc : contentW ω 1 s.heap cur = some v) :
    SimS (fun s' σ' (a : Addr) (_ : Unit) => Inv ω mid D ds h0 s' σ' ∧ contentW ω 1 s'.heap a = some v) NoT NoB s σ
      (declStep n c cur x) (do let nm ← idName x.lit; Spec.declare nm v c) := by
  unfold declStep
  refine simS_seq (simS_idName x.lit) fun s3 σ3 y z ⟨e1, e2, e3⟩ => ?_
  subst e1 e2 e3
  cases n with
  | zero => exact simS_modelFuel
  | succ n =>
  obtain ⟨a', s2, hdup, hF, hc'⟩ := dup_shallow (ω := ω) n hc
  refine simS_after hdup ?_
  have hi2 := hinv.frame hF
  rw [← bind_pure (Spec.declare y v c)]
  exact simS_seq (simS_declare hi2 y a' v c hc') fun s4 σ4 _ _ ⟨h1, h2, _⟩ => simS_pure ⟨h1, by rw [h2]; exact hc'⟩

/-- the names of one declaration: the model copies the value along the chain, the spec binds the value -/
theorem sim_declVars (n : Nat) (c : Bool) (v : SVal ν) : ∀ (vars : List Ident) (s : VM ν) (σ : SState ν) (cur : Addr),
    Inv ω mid D ds h0 s σ → contentW ω 1 s.heap cur = some v →
    SimS (fun s' σ' (_ : Addr) (_ : PUnit) => Inv ω mid D ds h0 s' σ') NoT NoB s σ
      (vars.foldlM (declStep n c) cur) (vars.forM fun x => do let nm ← idName x.lit; Spec.declare nm v c)
  | [], s, σ, cur, hinv, _ => by rw [List.foldlM_nil, listForM_nil]; exact simS_pure hinv
  | x :: xs, s, σ, cur, hinv, hc => by
    rw [List.foldlM_cons, listForM_cons]
    have h1 := sim_declStep n c v x cur hinv hc
    refine simS_seq h1 fun s1 σ1 a _ h => ?_
    exact sim_declVars n c v xs s1 σ1 a h.1 h.2

theorem sim_varDecl {n m : Nat} (hle : m ≤ n) (ln : Nat) (pairs : List (Nat × List Ident × Expr))
    (hp : ∀ p ∈ pairs, PureExpr p.2.2 ∧ TopScalar p.2.2) (hinv : Inv ω mid D ds h0 s σ) :
    SSim ω mid D ds h0 s σ (evalStmt (n+1) (.varDecl ln pairs)) (execS (m+1) (.varDecl ln pairs)) := by
  rw [evalStmt_varDecl, execS_varDecl]
  refine sSim_line _ _ _ hinv fun s0 hinv0 => ?_
  refine simS_seq (simS_forM (Inv ω mid D ds h0) pairs s0 σ hinv0 fun p hpm s1 σ1 hi1 => ?_)
    fun s1 σ1 _ _ hi => simS_newNull hi
  obtain ⟨ty, vars, e⟩ := p
  show SimS _ _ _ s1 σ1 (if ty == 1 || ty == 3 then _ else _) (if ty == 1 || ty == 3 then _ else _)
  split
  · refine simS_seq (simS_expr_top hi1 hle (hp _ hpm).1 (hp _ hpm).2) fun s2 σ2 a v ⟨hi2, hc⟩ => ?_
    rw [← bind_pure (List.forM vars _)]
    exact simS_seq (sim_declVars (ω := ω) n (ty == 3) v vars s2 σ2 a hi2 hc) fun _ _ _ _ hi => simS_pure hi
  · exact simS_pure hi1

end

end ZnVerif.Proofs
