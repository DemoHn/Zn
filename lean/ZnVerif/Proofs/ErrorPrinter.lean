/-
Proofs about the syntax-error display: the repaired printer (Model.ErrorPrinter.fmtLine) never panics
and shows exactly what Spec.ErrorLine says.  Each loop of the printer is shown equal to a closed form (`backOverBreaks_eq`: `S.anchor`,
`backToLineStart_eq`: `S.lineStart`, `skipIndent_eq` / `fwdToLineEnd_eq`: a run length, both through `scan_eq`), `fmtLine_eq_spec` composes
them into the oracle `S.shown`, and `shown_correct` shows the oracle `Correct`; the display theorems are projections of the two.
-/
import ZnVerif.Model.ErrorPrinter
import ZnVerif.Spec.ErrorLine

namespace ZnVerif.Proofs.ErrorPrinter

open ZnVerif.Generated
namespace M
export ZnVerif.Model.ErrorPrinter (Step Out isBreak isIndent idx slice sliceTo repeatCount lookupWidth getOffset
  sumOffsets calcCursorOffset backOverBreaks backToLineStart skipIndent fwdToLineEnd render fmtLine fmtLineLegacy)
end M
namespace S
export ZnVerif.Spec.ErrorLine (isBreak isIndent notBreak consHead physicalLines IsLineAt breakAt IsAnchor anchor
  lineStart widthIn width clamp Shown shown quotedLine caretCol)
end S

theorem isBreak_eq (c : Nat) : M.isBreak c = S.isBreak c := rfl
theorem isIndent_eq (c : Nat) : M.isIndent c = S.isIndent c := rfl

theorem indent_not_break (c : Nat) (h : S.isIndent c = true) : S.notBreak c = true := by
  simp [S.isIndent, S.notBreak, S.isBreak] at *
  omega

theorem lookupWidth_eq (t : Nat) : ∀ (bs : List Nat) (i : Nat), bs.length + i ≤ Widths.widths.length →
    M.lookupWidth t bs i = .ok (S.widthIn t (bs.zip (Widths.widths.drop i)))
  | [], i, _ => by simp [M.lookupWidth, S.widthIn]
  | b :: bs, i, h => by
    have hi : i < Widths.widths.length := by simp at h; omega
    have hd : Widths.widths.drop i = Widths.widths[i] :: Widths.widths.drop (i + 1) :=
      List.drop_eq_getElem_cons hi
    have ih := lookupWidth_eq t bs (i + 1) (by simp at h; omega)
    rw [hd]
    simp only [M.lookupWidth, List.zip_cons_cons, S.widthIn, List.getElem?_eq_getElem hi]
    split
    · rfl
    · exact ih

theorem getOffset_eq (t : Nat) : M.getOffset t = .ok (S.width t) := by
  unfold M.getOffset S.width
  by_cases h : t ∈ Widths.zeroWidthSpecials
  · simp [h]
  · have := lookupWidth_eq t Widths.widthBorders 0 (by decide)
    simp [h, this]

theorem sumOffsets_eq : ∀ (l : List Nat) (acc : Nat), M.sumOffsets l acc = .ok (acc + (l.map S.width).sum)
  | [], acc => by simp [M.sumOffsets]
  | t :: ts, acc => by
    simp [M.sumOffsets, getOffset_eq, sumOffsets_eq ts, Nat.add_assoc]

/-- proof-level name of `sourceT[k]` for `k ≤ len(source)` (the sentinel at `k = len`) -/
def charAt (src : List Nat) (k : Nat) : Nat := if h : k < src.length then src[k] else 0

theorem idx_charAt (src : List Nat) (k : Nat) (h : k ≤ src.length) :
    M.idx (src ++ [0]) (k : Int) = some (charAt src k) := by
  unfold M.idx charAt
  have h0 : ¬ ((k : Int) < 0) := by omega
  simp only [h0, if_false, Int.toNat_natCast]
  by_cases hk : k < src.length
  · simp [hk, List.getElem?_append_left hk]
  · have : k = src.length := by omega
    subst this
    simp

theorem breakAt_charAt (src : List Nat) (k : Nat) : S.breakAt src k = S.isBreak (charAt src k) := by
  unfold S.breakAt charAt
  by_cases hk : k < src.length
  · simp [hk]
  · have : src[k]? = none := by simp; omega
    simp [hk, S.isBreak]

/-- length of the run of `p`-characters starting at position `k` -/
def runLen (p : Nat → Bool) (src : List Nat) (k : Nat) : Nat := ((src.drop k).takeWhile p).length

theorem runLen_step (p : Nat → Bool) (src : List Nat) (k : Nat) :
    runLen p src k = if k < src.length ∧ p (charAt src k) = true then 1 + runLen p src (k + 1) else 0 := by
  unfold runLen charAt
  by_cases hk : k < src.length
  · rw [List.drop_eq_getElem_cons hk, List.takeWhile_cons]
    by_cases hp : p src[k] = true <;> simp [hk, hp, Nat.add_comm]
  · simp [hk, List.drop_eq_nil_of_le (Nat.le_of_not_lt hk)]

theorem charAt_ge (src : List Nat) (k : Nat) (hk : src.length ≤ k) : charAt src k = 0 := by
  unfold charAt
  have : ¬ k < src.length := by omega
  simp [this]

theorem backOverBreaks_eq (src : List Nat) : ∀ (k f : Nat), k < f → k ≤ src.length →
    M.backOverBreaks (src ++ [0]) f (k : Int) = .ok ((S.anchor src k : Nat) : Int)
  | 0, f + 1, _, _ => by simp [M.backOverBreaks, S.anchor]
  | k + 1, f + 1, hf, hk => by
    have ih := backOverBreaks_eq src k f (by omega) (by omega)
    have hpos : ((k + 1 : Nat) : Int) > 0 := by omega
    have hdec : ((k + 1 : Nat) : Int) - 1 = (k : Int) := by omega
    simp only [M.backOverBreaks, hpos, if_true, idx_charAt src (k + 1) hk, S.anchor, breakAt_charAt, isBreak_eq, hdec, ih]
    split <;> rfl

theorem backToLineStart_eq (src : List Nat) : ∀ (k f : Nat), k < f → k ≤ src.length →
    M.backToLineStart (src ++ [0]) f (k : Int) = .ok ((S.lineStart src k : Nat) : Int)
  | 0, f + 1, _, _ => by simp [M.backToLineStart, S.lineStart]
  | k + 1, f + 1, hf, hk => by
    have ih := backToLineStart_eq src k f (by omega) (by omega)
    have hpos : ((k + 1 : Nat) : Int) > 0 := by omega
    have hdec : ((k + 1 : Nat) : Int) - 1 = (k : Int) := by omega
    simp only [M.backToLineStart, hpos, if_true, hdec, idx_charAt src k (by omega), S.lineStart, breakAt_charAt,
      isBreak_eq, ih]
    by_cases hc : S.isBreak (charAt src k) = true <;> simp [hc]

/-- a loop that steps forward while `k < len(source)` and `sourceT[k]` satisfies `p` stops at the end of the run of `p` -/
theorem scan_eq (p : Nat → Bool) (src : List Nat) (g : Nat → Int → M.Step Int)
    (hg : ∀ f k, k ≤ src.length → g (f + 1) (k : Int) =
      if k < src.length ∧ p (charAt src k) = true then g f ((k + 1 : Nat) : Int) else .ok (k : Int)) :
    ∀ (f k : Nat), k ≤ src.length → src.length - k < f → g f (k : Int) = .ok ((k + runLen p src k : Nat) : Int)
  | f + 1, k, hk, hf => by
    rw [hg f k hk, runLen_step]
    by_cases h : k < src.length ∧ p (charAt src k) = true
    · rw [if_pos h, if_pos h, scan_eq p src g hg f (k + 1) (by omega) (by omega)]
      congr 2; omega
    · rw [if_neg h, if_neg h]; rfl

theorem skipIndent_eq (src : List Nat) : ∀ (f k : Nat), k ≤ src.length → src.length - k < f →
    M.skipIndent (src ++ [0]) f (k : Int) = .ok ((k + runLen S.isIndent src k : Nat) : Int) :=
  scan_eq S.isIndent src (M.skipIndent (src ++ [0])) fun f k hk => by
    simp only [M.skipIndent, idx_charAt src k hk]
    by_cases hlt : k < src.length
    · simp only [hlt, true_and]; rfl
    · -- the sentinel is no indentation
      rw [charAt_ge src k (by omega), if_neg (by decide), if_neg (fun h => hlt h.1)]

theorem fwdToLineEnd_eq (src : List Nat) : ∀ (f k : Nat), k ≤ src.length → src.length - k < f →
    M.fwdToLineEnd (src ++ [0]) (src.length : Int) f (k : Int) = .ok ((k + runLen S.notBreak src k : Nat) : Int) :=
  scan_eq S.notBreak src (M.fwdToLineEnd (src ++ [0]) src.length) fun f k hk => by
    simp only [M.fwdToLineEnd, idx_charAt src k hk, Int.ofNat_lt]
    by_cases hlt : k < src.length
    · simp only [hlt, true_and, if_true]; rfl
    · simp only [hlt, false_and, if_false]

theorem anchor_le (src : List Nat) : ∀ c, S.anchor src c ≤ c
  | 0 => Nat.le_refl 0
  | c + 1 => by
    have := anchor_le src c
    unfold S.anchor; split <;> omega

theorem anchor_isAnchor (src : List Nat) : ∀ c, S.IsAnchor src c (S.anchor src c)
  | 0 => ⟨Nat.le_refl 0, Or.inl rfl, fun i h1 h2 => by omega⟩
  | c + 1 => by
    have ih := anchor_isAnchor src c
    unfold S.anchor
    by_cases hb : S.breakAt src (c + 1) = true
    · rw [if_pos hb]
      refine ⟨by have := ih.le; omega, ih.stop, fun i h1 h2 => ?_⟩
      by_cases hi : i = c + 1
      · rw [hi]; exact hb
      · exact ih.skipped i h1 (by omega)
    · rw [if_neg hb]
      exact ⟨Nat.le_refl _, Or.inr (by simpa using hb), fun i h1 h2 => by omega⟩

theorem isAnchor_unique (src : List Nat) (c a b : Nat) (ha : S.IsAnchor src c a) (hb : S.IsAnchor src c b) : a = b := by
  apply Classical.byContradiction; intro hne
  have key : ∀ x y, S.IsAnchor src c x → S.IsAnchor src c y → x < y → False := by
    intro x y hx hy hlt
    have h1 := hx.skipped y hlt hy.le
    cases hy.stop with
    | inl h0 => omega
    | inr hf => rw [hf] at h1; exact absurd h1 (by decide)
  by_cases h : a < b
  · exact key a b ha hb h
  · exact key b a hb ha (by omega)

theorem lineStart_le (src : List Nat) : ∀ a, S.lineStart src a ≤ a
  | 0 => Nat.le_refl 0
  | a + 1 => by
    have := lineStart_le src a
    unfold S.lineStart; split <;> omega

theorem lineStart_stop (src : List Nat) : ∀ a, S.lineStart src a = 0 ∨ S.breakAt src (S.lineStart src a - 1) = true
  | 0 => Or.inl rfl
  | a + 1 => by
    unfold S.lineStart
    by_cases hb : S.breakAt src a = true
    · rw [if_pos hb]; exact Or.inr (by simpa using hb)
    · rw [if_neg hb]; exact lineStart_stop src a

theorem lineStart_nobreak (src : List Nat) : ∀ a i, S.lineStart src a ≤ i → i < a → S.breakAt src i = false
  | 0, i, _, h => by omega
  | a + 1, i, h1, h2 => by
    unfold S.lineStart at h1
    by_cases hb : S.breakAt src a = true
    · rw [if_pos hb] at h1; omega
    · rw [if_neg hb] at h1
      by_cases hi : i = a
      · rw [hi]; simpa using hb
      · exact lineStart_nobreak src a i h1 (by omega)

theorem runLen_split (src : List Nat) (a : Nat) (ha : a ≤ src.length) : ∀ (d s : Nat), a = s + d →
    (∀ i, s ≤ i → i < a → S.breakAt src i = false) →
    runLen S.notBreak src s = d + runLen S.notBreak src a
  | 0, s, h, _ => by have : a = s := by omega
                     rw [this]; simp
  | d + 1, s, h, hnb => by
    have h0 : S.notBreak (charAt src s) = true := by
      have := hnb s (Nat.le_refl s) (by omega)
      rw [breakAt_charAt] at this
      simp [S.notBreak, this]
    rw [runLen_step, if_pos ⟨by omega, h0⟩, runLen_split src a ha d (s + 1) (by omega) (fun i h1 h2 => hnb i (by omega) h2)]
    omega

theorem takeWhile_takeWhile_of_imp (p q : Nat → Bool) (h : ∀ c, p c = true → q c = true) :
    ∀ l : List Nat, (l.takeWhile q).takeWhile p = l.takeWhile p
  | [] => rfl
  | x :: xs => by
    by_cases hq : q x = true
    · by_cases hp : p x = true
      · simp [hq, hp, takeWhile_takeWhile_of_imp p q h xs]
      · simp [hq, hp]
    · have hp : ¬ p x = true := fun hp => hq (h x hp)
      simp [hq, hp]

theorem mem_takeWhile (p : Nat → Bool) (l : List Nat) (c : Nat) (h : c ∈ l.takeWhile p) : p c = true :=
  (List.all_eq_true.mp (List.all_takeWhile (p := p) (l := l))) c h

/-- pieces of the spec's answer for the line starting at `s` -/
def lineFrom (src : List Nat) (s : Nat) : List Nat := (src.drop s).takeWhile S.notBreak
def restFrom (src : List Nat) (s : Nat) : List Nat := (src.drop s).dropWhile S.notBreak
def indentFrom (src : List Nat) (s : Nat) : List Nat := (lineFrom src s).takeWhile S.isIndent
def quotedFrom (src : List Nat) (s : Nat) : List Nat := (lineFrom src s).dropWhile S.isIndent

theorem decomp (src : List Nat) (s : Nat) :
    src = src.take s ++ indentFrom src s ++ quotedFrom src s ++ restFrom src s := by
  unfold indentFrom quotedFrom restFrom
  rw [List.append_assoc (src.take s), List.takeWhile_append_dropWhile]
  unfold lineFrom
  rw [List.append_assoc, List.takeWhile_append_dropWhile, List.take_append_drop]

theorem lineFrom_length (src : List Nat) (s : Nat) : (lineFrom src s).length = runLen S.notBreak src s := rfl

theorem indentFrom_length (src : List Nat) (s : Nat) : (indentFrom src s).length = runLen S.isIndent src s := by
  unfold indentFrom lineFrom runLen
  rw [takeWhile_takeWhile_of_imp S.isIndent S.notBreak indent_not_break]

theorem indent_quoted_length (src : List Nat) (s : Nat) :
    (indentFrom src s).length + (quotedFrom src s).length = runLen S.notBreak src s := by
  rw [← lineFrom_length, ← List.length_append]
  unfold indentFrom quotedFrom
  rw [List.takeWhile_append_dropWhile]

/-- Go's two-sided clamp of an `int` into `[0, n]` -/
theorem clampInt (n : Nat) (c : Int) :
    (if (if c < 0 then 0 else c) > (n : Int) then (n : Int) else (if c < 0 then 0 else c)) = ((min c.toNat n : Nat) : Int) := by
  split <;> split <;> omega

theorem calcCursorOffset_eq (q : List Nat) (col : Int) :
    M.calcCursorOffset q col = .ok ((((q.take col.toNat).map S.width).sum : Nat) : Int) := by
  unfold M.calcCursorOffset M.sliceTo
  simp only [clampInt]
  rw [if_pos (by omega), Int.toNat_natCast, ← List.take_eq_take_min]
  simp only [sumOffsets_eq, Nat.zero_add]

theorem slice_mid (pre mid post : List Nat) :
    M.slice (pre ++ mid ++ post) (pre.length : Int) ((pre.length + mid.length : Nat) : Int) = some mid := by
  unfold M.slice
  have hc : 0 ≤ (pre.length : Int) ∧ (pre.length : Int) ≤ ((pre.length + mid.length : Nat) : Int) ∧
      ((pre.length + mid.length : Nat) : Int) ≤ ((pre ++ mid ++ post).length : Int) := by
    simp only [List.length_append]; omega
  rw [if_pos hc]
  have h1 : (((pre.length + mid.length : Nat) : Int) - (pre.length : Int)).toNat = mid.length := by omega
  rw [h1, Int.toNat_natCast, List.append_assoc, List.drop_left' rfl, List.take_left' rfl]

theorem render_eq (pre mid post : List Nat) (cursor : Nat) :
    M.render M.calcCursorOffset (pre ++ mid ++ post) (cursor : Int) (pre.length : Int)
        ((pre.length + mid.length : Nat) : Int)
      = .ok mid (((mid.take (cursor - pre.length)).map S.width).sum) := by
  have : ((cursor : Int) - (pre.length : Int)).toNat = cursor - pre.length := by omega
  unfold M.render
  rw [slice_mid]
  dsimp only
  rw [calcCursorOffset_eq, this]
  dsimp only [M.repeatCount]
  rw [if_neg (by omega)]
  simp

theorem render_line (src : List Nat) (c s : Nat) (hs : s ≤ src.length) :
    M.render M.calcCursorOffset (src ++ [0]) (c : Int) ((s + runLen S.isIndent src s : Nat) : Int)
        ((s + runLen S.notBreak src s : Nat) : Int)
      = .ok (quotedFrom src s) (((quotedFrom src s).take (c - (s + (indentFrom src s).length))).map S.width).sum := by
  have hr := render_eq (src.take s ++ indentFrom src s) (quotedFrom src s) (restFrom src s ++ [0]) c
  rw [← List.append_assoc, ← decomp src s, List.length_append, List.length_take, Nat.min_eq_left hs,
    Nat.add_assoc, indent_quoted_length, indentFrom_length] at hr
  rw [indentFrom_length]
  exact hr

theorem clamp_cast (src : List Nat) (cursorIdx : Int) :
    (if (if cursorIdx < 0 then 0 else cursorIdx) > (src.length : Int) then (src.length : Int)
      else (if cursorIdx < 0 then 0 else cursorIdx)) = ((S.clamp src cursorIdx : Nat) : Int) := clampInt _ _

theorem clamp_le (src : List Nat) (cursorIdx : Int) : S.clamp src cursorIdx ≤ src.length := by
  unfold S.clamp; omega

/-- where the line that the spec shows for `cursor` starts -/
def specStart (src : List Nat) (cursor : Int) : Nat := S.lineStart src (S.anchor src (S.clamp src cursor))

theorem specStart_le_anchor (src : List Nat) (cursor : Int) :
    specStart src cursor ≤ S.anchor src (S.clamp src cursor) := lineStart_le _ _

theorem anchor_le_length (src : List Nat) (cursor : Int) : S.anchor src (S.clamp src cursor) ≤ src.length :=
  Nat.le_trans (anchor_le _ _) (clamp_le _ _)

theorem lineRun_from_start (src : List Nat) (cursor : Int) :
    runLen S.notBreak src (specStart src cursor) =
      (S.anchor src (S.clamp src cursor) - specStart src cursor) + runLen S.notBreak src (S.anchor src (S.clamp src cursor)) := by
  have hle := specStart_le_anchor src cursor
  exact runLen_split src _ (anchor_le_length src cursor) _ _ (by omega) (lineStart_nobreak src _)

theorem shown_eq (src : List Nat) (cursor : Int) :
    S.shown src cursor =
      { pre := src.take (specStart src cursor), indent := indentFrom src (specStart src cursor),
        quoted := quotedFrom src (specStart src cursor), post := restFrom src (specStart src cursor),
        caretCol := (((quotedFrom src (specStart src cursor)).take
            (S.clamp src cursor - (specStart src cursor + (indentFrom src (specStart src cursor)).length))).map S.width).sum } := rfl

theorem fmtLine_eq_spec (src : List Nat) (cursor : Int) :
    M.fmtLine src cursor = .ok (S.quotedLine src cursor) (S.caretCol src cursor) := by
  have hc := clamp_le src cursor
  have ha := anchor_le_length src cursor
  have hs := specStart_le_anchor src cursor
  have hsplit := lineRun_from_start src cursor
  unfold M.fmtLine
  simp only [clamp_cast]
  rw [backOverBreaks_eq src _ _ (by omega) hc]
  simp only []
  rw [backToLineStart_eq src _ _ (by omega) ha]
  simp only []
  rw [skipIndent_eq src _ _ (by unfold specStart at hs; omega) (by omega)]
  simp only []
  rw [fwdToLineEnd_eq src _ _ ha (by omega)]
  simp only []
  -- the line ends where the run of non-breaks from its start ends
  have hend : S.anchor src (S.clamp src cursor) + runLen S.notBreak src (S.anchor src (S.clamp src cursor))
      = specStart src cursor + runLen S.notBreak src (specStart src cursor) := by omega
  -- `rw`, not `exact`: unifying across `S.shown` / `specStart` makes the unifier evaluate the oracle
  rw [hend, ← show specStart src cursor = S.lineStart src (S.anchor src (S.clamp src cursor)) from rfl,
    render_line src _ _ (Nat.le_trans hs ha)]
  unfold S.quotedLine S.caretCol
  rw [shown_eq]

theorem physicalLines_ne_nil : ∀ l : List Nat, S.physicalLines l ≠ []
  | [] => by simp [S.physicalLines]
  | c :: cs => by
    unfold S.physicalLines
    split
    · simp
    · cases h : S.physicalLines cs <;> simp [S.consHead]

theorem consHead_append (c : Nat) : ∀ (a b : List (List Nat)), a ≠ [] → S.consHead c (a ++ b) = S.consHead c a ++ b
  | [], _, h => absurd rfl h
  | _ :: _, _, _ => rfl

theorem physicalLines_append_break (b : Nat) (hb : S.isBreak b = true) (rest : List Nat) :
    ∀ pre : List Nat, S.physicalLines (pre ++ b :: rest) = S.physicalLines pre ++ S.physicalLines rest
  | [] => by simp [S.physicalLines, hb]
  | c :: pre => by
    have ih := physicalLines_append_break b hb rest pre
    by_cases hc : S.isBreak c = true
    · simp [S.physicalLines, hc, ih]
    · simp only [List.cons_append, S.physicalLines, hc, ih]
      exact consHead_append c _ _ (physicalLines_ne_nil pre)

theorem physicalLines_nobreak : ∀ l : List Nat, (∀ c ∈ l, S.isBreak c = false) → S.physicalLines l = [l]
  | [], _ => rfl
  | c :: cs, h => by
    have hc : S.isBreak c = false := h c (by simp)
    have ih := physicalLines_nobreak cs (fun x hx => h x (by simp [hx]))
    simp [S.physicalLines, hc, ih, S.consHead]

theorem isLineAt_mem (src : List Nat) (pos : Nat) (pre line post : List Nat) (h : S.IsLineAt src pos pre line post) :
    line ∈ S.physicalLines src := by
  have hline := physicalLines_nobreak line h.line_ok
  -- first the part up to the end of the line
  have h1 : line ∈ S.physicalLines (pre ++ line) := by
    cases h.pre_ok with
    | inl h0 => rw [h0, List.nil_append, hline]; simp
    | inr hex =>
      obtain ⟨p, b, hp, hb⟩ := hex
      rw [hp, List.append_assoc, List.singleton_append, physicalLines_append_break b hb line p, hline]
      simp
  rw [h.split]
  cases h.post_ok with
  | inl h0 => rw [h0, List.append_nil]; exact h1
  | inr hex =>
    obtain ⟨b, q, hq, hb⟩ := hex
    rw [hq, physicalLines_append_break b hb q (pre ++ line)]
    exact List.mem_append_left _ h1

theorem specStart_le_length (src : List Nat) (cursor : Int) : specStart src cursor ≤ src.length :=
  Nat.le_trans (specStart_le_anchor src cursor) (anchor_le_length src cursor)

theorem breakAt_true (src : List Nat) (j : Nat) (h : S.breakAt src j = true) :
    ∃ hj : j < src.length, S.isBreak src[j] = true := by
  unfold S.breakAt at h
  by_cases hj : j < src.length
  · refine ⟨hj, ?_⟩
    rw [List.getElem?_eq_getElem hj] at h
    exact h
  · have : src[j]? = none := by simp; omega
    rw [this] at h
    exact absurd h (by decide)

theorem shown_isLineAt (src : List Nat) (cursor : Int) :
    S.IsLineAt src (S.anchor src (S.clamp src cursor)) (S.shown src cursor).pre
      ((S.shown src cursor).indent ++ (S.shown src cursor).quoted) (S.shown src cursor).post := by
  have hsl := specStart_le_length src cursor
  have hline : indentFrom src (specStart src cursor) ++ quotedFrom src (specStart src cursor)
      = lineFrom src (specStart src cursor) := List.takeWhile_append_dropWhile
  rw [shown_eq]
  dsimp only
  refine ⟨?_, ?_, ?_, ?_, ?_⟩
  · rw [← List.append_assoc]; exact decomp src (specStart src cursor)
  · by_cases hz : specStart src cursor = 0
    · left; rw [hz]; rfl
    · right
      have hb : S.breakAt src (specStart src cursor - 1) = true := by
        cases lineStart_stop src (S.anchor src (S.clamp src cursor)) with
        | inl h0 => exact absurd h0 hz
        | inr hb => exact hb
      obtain ⟨hj, hbr⟩ := breakAt_true src _ hb
      refine ⟨src.take (specStart src cursor - 1), src[specStart src cursor - 1], ?_, hbr⟩
      have hs : specStart src cursor = (specStart src cursor - 1) + 1 := by omega
      conv => lhs; rw [hs, List.take_add_one, List.getElem?_eq_getElem hj]
      rfl
  · cases hr : restFrom src (specStart src cursor) with
    | nil => exact Or.inl rfl
    | cons b q =>
      right
      refine ⟨b, q, rfl, ?_⟩
      have := List.head?_dropWhile_not S.notBreak (src.drop (specStart src cursor))
      rw [show (src.drop (specStart src cursor)).dropWhile S.notBreak = b :: q from hr] at this
      simpa [S.notBreak] using this
  · intro c hc
    rw [hline] at hc
    have := mem_takeWhile S.notBreak _ c hc
    simpa [S.notBreak] using this
  · rw [hline, lineFrom_length, lineRun_from_start, List.length_take]
    have := specStart_le_anchor src cursor
    omega

/-- **display_total** (C05): the repaired printer returns for EVERY source and EVERY cursor — no index out of
range, no negative `strings.Repeat` count, no bad slice bounds, and the fuel of every loop suffices. -/
theorem display_total (src : List Nat) (cursor : Int) : ∃ q col, M.fmtLine src cursor = .ok q col :=
  ⟨_, _, fmtLine_eq_spec src cursor⟩

theorem display_never_panics (src : List Nat) (cursor : Int) :
    M.fmtLine src cursor ≠ .panic ∧ M.fmtLine src cursor ≠ .outOfFuel := by
  rw [fmtLine_eq_spec]; constructor <;> (intro h; cases h)

/-- everything the display promises, in one statement: the source splits as
`pre ++ indent ++ quoted ++ post` where `indent ++ quoted` is the physical line containing the cursor's anchor,
`quoted` is that line without its leading SP/TAB, and the caret column is the total display width of the
characters of `quoted` that lie before the cursor. -/
structure Correct (src : List Nat) (cursor : Int) (q : List Nat) (col : Nat) (pre indent post : List Nat) : Prop where
  anchor_ok : S.IsAnchor src (S.clamp src cursor) (S.anchor src (S.clamp src cursor))
  split : src = pre ++ indent ++ q ++ post
  line_at : S.IsLineAt src (S.anchor src (S.clamp src cursor)) pre (indent ++ q) post
  physical : indent ++ q ∈ S.physicalLines src
  indent_ok : ∀ x ∈ indent, S.isIndent x = true
  stripped : q = (indent ++ q).dropWhile S.isIndent
  caret : col = ((q.take (S.clamp src cursor - (pre.length + indent.length))).map S.width).sum

theorem shown_correct (src : List Nat) (cursor : Int) :
    Correct src cursor (S.quotedLine src cursor) (S.caretCol src cursor)
      (S.shown src cursor).pre (S.shown src cursor).indent (S.shown src cursor).post where
  anchor_ok := anchor_isAnchor src _
  split := decomp src (specStart src cursor)
  line_at := shown_isLineAt src cursor
  physical := isLineAt_mem _ _ _ _ _ (shown_isLineAt src cursor)
  indent_ok := fun x hx => mem_takeWhile S.isIndent _ x hx
  stripped := by
    show quotedFrom src (specStart src cursor) =
      (indentFrom src (specStart src cursor) ++ quotedFrom src (specStart src cursor)).dropWhile S.isIndent
    unfold indentFrom quotedFrom
    rw [List.takeWhile_append_dropWhile]
  caret := by
    unfold S.caretCol S.quotedLine
    rw [shown_eq]
    dsimp only
    rw [List.length_take, Nat.min_eq_left (specStart_le_length src cursor)]

theorem display_correct (src : List Nat) (cursor : Int) (q : List Nat) (col : Nat)
    (h : M.fmtLine src cursor = .ok q col) : ∃ pre indent post, Correct src cursor q col pre indent post := by
  rw [fmtLine_eq_spec] at h
  injection h with hq hcol
  subst hq hcol
  exact ⟨_, _, _, shown_correct src cursor⟩

/-- **quoted_line_is_physical** (C05/C18): the quoted line is a physical line of the source — the one containing
the anchor of the cursor — without its leading SP/TAB indentation. -/
theorem quoted_line_is_physical (src : List Nat) (cursor : Int) (q : List Nat) (col : Nat)
    (h : M.fmtLine src cursor = .ok q col) :
    ∃ line ∈ S.physicalLines src, q = line.dropWhile S.isIndent ∧
      ∃ pre post a, S.IsAnchor src (S.clamp src cursor) a ∧ S.IsLineAt src a pre line post := by
  obtain ⟨pre, indent, post, c⟩ := display_correct src cursor q col h
  exact ⟨indent ++ q, c.physical, c.stripped, pre, post, _, c.anchor_ok, c.line_at⟩

/-- **caret_under_offender** (C18): the caret column is the sum of the display widths of the characters of the
quoted line that precede the cursor (none when the cursor is inside the indentation, all of them when the
cursor is on a break after the line). -/
theorem caret_under_offender (src : List Nat) (cursor : Int) (q : List Nat) (col : Nat)
    (h : M.fmtLine src cursor = .ok q col) :
    ∃ pre indent post, src = pre ++ indent ++ q ++ post ∧ (∀ x ∈ indent, S.isIndent x = true) ∧
      (pre = [] ∨ ∃ p b, pre = p ++ [b] ∧ S.isBreak b = true) ∧
      col = ((q.take (S.clamp src cursor - (pre.length + indent.length))).map S.width).sum := by
  obtain ⟨pre, indent, post, c⟩ := display_correct src cursor q col h
  exact ⟨pre, indent, post, c.split, c.indent_ok, c.line_at.pre_ok, c.caret⟩

/-- an in-range cursor that is not on a break char is its own anchor: the quoted line contains the cursor -/
theorem anchor_of_ordinary (src : List Nat) (c : Nat) (h : S.breakAt src c = false) : S.anchor src c = c := by
  cases c with
  | zero => rfl
  | succ c => unfold S.anchor; rw [h]; rfl

/-! ### non-vacuity and the witnesses of the original code -/

-- `令甲为1⏎⇥输出“x”` with the cursor on `出` (position 7): line 2 without its TAB, caret after one wide char
example : M.fmtLine [0x4EE4, 0x7532, 0x4E3A, 0x31, 0xA, 0x9, 0x8F93, 0x51FA, 0x201C, 0x78, 0x201D] 7
    = .ok [0x8F93, 0x51FA, 0x201C, 0x78, 0x201D] 2 := by decide
example : S.physicalLines [0x61, 0xD, 0xA, 0x62] = [[0x61], [], [0x62]] := by decide
example : S.width 0x8F93 = 2 ∧ S.width 0x61 = 1 ∧ S.width 0x300 = 0 ∧ S.width 0xE = 0 := by decide

-- (a) cursor one past the end (what the lexer reports for 输出“\`): original panics, repaired quotes the line
example : M.fmtLineLegacy [0x8F93, 0x51FA, 0x201C, 0x5C, 0x60] 6 = .panic := by decide
example : M.fmtLine [0x8F93, 0x51FA, 0x201C, 0x5C, 0x60] 6 = .ok [0x8F93, 0x51FA, 0x201C, 0x5C, 0x60] 7 := by decide
-- (b) every character up to the cursor is a line break: index -1
example : M.fmtLineLegacy [0xA, 0xA] 1 = .panic := by decide
example : M.fmtLine [0xA, 0xA] 1 = .ok [] 0 := by decide
-- (c) cursor inside the indentation (lexer error 23 on `a⏎⇥b⏎␠␠␠␠⇥c`, cursor 9): negative Repeat count
example : M.fmtLineLegacy [0x61, 0xA, 0x9, 0x62, 0xA, 0x20, 0x20, 0x20, 0x20, 0x9, 0x63] 9 = .panic := by decide
example : M.fmtLine [0x61, 0xA, 0x9, 0x62, 0xA, 0x20, 0x20, 0x20, 0x20, 0x9, 0x63] 9 = .ok [0x63] 0 := by decide
-- (d) last line without a newline: the original quotes the appended NUL sentinel
example : M.fmtLineLegacy [0x61, 0x62, 0x63] 1 = .ok [0x61, 0x62, 0x63, 0] 1 := by decide
example : M.fmtLine [0x61, 0x62, 0x63] 1 = .ok [0x61, 0x62, 0x63] 1 := by decide
-- (e) a break at index 0 is quoted as part of line 2; (f) cursor on the LF of CRLF quotes the CR
example : M.fmtLineLegacy [0xA, 0x61, 0x62, 0xA] 2 = .ok [0xA, 0x61, 0x62] 2 := by decide
example : M.fmtLine [0xA, 0x61, 0x62, 0xA] 2 = .ok [0x61, 0x62] 1 := by decide
example : M.fmtLineLegacy [0x61, 0xD, 0xA, 0x62] 2 = .ok [0x61, 0xD] 2 := by decide
example : M.fmtLine [0x61, 0xD, 0xA, 0x62] 2 = .ok [0x61] 1 := by decide
-- a negative cursor
example : M.fmtLineLegacy [0x61] (-1) = .panic := by decide
example : M.fmtLine [0x61] (-1) = .ok [0x61] 0 := by decide

end ZnVerif.Proofs.ErrorPrinter
