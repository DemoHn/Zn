/-
Helper lemmas for C15: name → path resolution of the model (ParseLibName + LoadFile's finder) agrees with the
spec's `resolve`, and the static import relation in the model's terms (`MImports`, `MReach`, `MCycle`) agrees with
the spec's (`Imports`, `Reach`, `StaticCycle`) when no import statement uses the reserved name of the main module.
-/
import ZnVerif.Proofs.ModulesLoad

namespace ZnVerif.Proofs.Modules
open ZnVerif.Model.Modules
open ZnVerif.Spec.ModuleSem

variable {files : Files} {mainSrc : ModuleSrc}

theorem splitOn_ne_nil (sep : Nat) : ∀ l : List Nat, splitOn sep l ≠ []
  | [] => by simp [splitOn]
  | c :: cs => by
    unfold splitOn
    split
    · simp
    · split <;> simp

theorem segsAux_eq : ∀ (l : List Nat) (cur : Name) (acc : List Name),
    ∃ h t, splitOn 0x2D l = h :: t ∧ segsAux cur acc l = acc.reverse ++ ((cur.reverse ++ h) :: t)
  | [], cur, acc => ⟨[], [], rfl, by simp [segsAux]⟩
  | c :: cs, cur, acc => by
    by_cases hc : c = 0x2D
    · obtain ⟨h', t', e1, e2⟩ := segsAux_eq cs [] (cur.reverse :: acc)
      refine ⟨[], h' :: t', ?_, ?_⟩
      · simp [splitOn, hc, e1]
      · simp [segsAux, hc, e2]
    · obtain ⟨h', t', e1, e2⟩ := segsAux_eq cs (c :: cur) acc
      refine ⟨c :: h', t', ?_, ?_⟩
      · simp [splitOn, hc, e1]
      · simp [segsAux, hc, e2]

theorem segments_eq_splitOn (n : Name) : segments n = splitOn chDash n := by
  obtain ⟨h, t, e1, e2⟩ := segsAux_eq n [] []
  unfold segments
  rw [e2]
  show _ = splitOn 0x2D n
  rw [e1]; simp

theorem addZn_eq_withExt : ∀ l : List Name, l ≠ [] → addZn l = some (withExt l)
  | [], h => absurd rfl h
  | [x], _ => rfl
  | x :: y :: r, _ => by
    have ih := addZn_eq_withExt (y :: r) (by simp)
    simp only [addZn, ih, Option.map, withExt]

/-- "A-B-C" joined from its segments -/
def joinDash : List Name → Name
  | [] => []
  | [x] => x
  | x :: y :: r => x ++ chDash :: joinDash (y :: r)

theorem splitOn_append_noSep {sep : Nat} : ∀ (x : Name) (l : List Nat), sep ∉ x →
    ∃ h t, splitOn sep l = h :: t ∧ splitOn sep (x ++ l) = (x ++ h) :: t
  | [], l, _ => by
    cases hs : splitOn sep l with
    | nil => exact absurd hs (splitOn_ne_nil sep l)
    | cons h t => exact ⟨h, t, rfl, by simp [hs]⟩
  | c :: x, l, hx => by
    have hc : c ≠ sep := fun h => hx (h ▸ List.mem_cons_self ..)
    obtain ⟨h, t, e1, e2⟩ := splitOn_append_noSep x l (fun h => hx (List.mem_cons_of_mem _ h))
    refine ⟨h, t, e1, ?_⟩
    show splitOn sep (c :: (x ++ l)) = _
    simp [splitOn, hc, e2]

theorem splitOn_noSep {sep : Nat} (x : Name) (hx : sep ∉ x) : splitOn sep x = [x] := by
  obtain ⟨h, t, e1, e2⟩ := splitOn_append_noSep x [] hx
  simp [splitOn] at e1
  obtain ⟨rfl, rfl⟩ := e1
  simpa using e2

theorem splitOn_joinDash : ∀ segs : List Name, segs ≠ [] → (∀ s, s ∈ segs → chDash ∉ s) →
    splitOn chDash (joinDash segs) = segs
  | [], h, _ => absurd rfl h
  | [x], _, hs => splitOn_noSep x (hs x (List.mem_cons_self ..))
  | x :: y :: r, _, hs => by
    have ih := splitOn_joinDash (y :: r) (by simp) (fun s h => hs s (List.mem_cons_of_mem _ h))
    obtain ⟨h, t, e1, e2⟩ := splitOn_append_noSep (sep := chDash) x (chDash :: joinDash (y :: r))
      (hs x (List.mem_cons_self ..))
    show splitOn chDash (x ++ chDash :: joinDash (y :: r)) = _
    rw [e2]
    have : splitOn chDash (chDash :: joinDash (y :: r)) = [] :: (y :: r) := by
      simp [splitOn, ih]
    rw [this] at e1
    injection e1 with e1 e1'
    subst e1; subst e1'; simp

theorem joinDash_splitOn : ∀ n : Name, joinDash (splitOn chDash n) = n
  | [] => rfl
  | c :: cs => by
    have ih := joinDash_splitOn cs
    unfold splitOn
    cases hs : splitOn chDash cs with
    | nil => exact absurd hs (splitOn_ne_nil _ _)
    | cons h t =>
      rw [hs] at ih
      split
      · simp [joinDash, ih, ‹c = chDash›]
      · cases t <;> simp [joinDash] at ih ⊢ <;> exact ih

theorem withExt_length : ∀ l : List Name, (withExt l).length = l.length
  | [] => rfl
  | [x] => rfl
  | x :: y :: r => by simp [withExt, withExt_length (y :: r)]

theorem withExt_inj : ∀ (l1 l2 : List Name), withExt l1 = withExt l2 → l1 = l2
  | [], [], _ => rfl
  | [], _ :: _, h | _ :: _, [], h => by simpa [withExt_length] using congrArg List.length h
  | [x], [a], h => by simpa [withExt] using h
  | [x], _ :: _ :: _, h | _ :: _ :: _, [a], h => by simpa [withExt_length] using congrArg List.length h
  | x :: y :: r, a :: b :: r2, h => by
    simp only [withExt, List.cons.injEq] at h
    rw [h.1, withExt_inj (y :: r) (b :: r2) h.2]

/-- different names have different paths: a name is its path's components joined by dashes -/
theorem path_inj {a b : Name} (h : withExt (segments a) = withExt (segments b)) : a = b := by
  have := withExt_inj _ _ h
  rw [segments_eq_splitOn, segments_eq_splitOn] at this
  rw [← joinDash_splitOn a, ← joinDash_splitOn b, this]

theorem isLibName_iff (n : Name) : isLibName n = true ↔ (parseLibName n).libType = .std := by
  cases n with
  | nil => simp [isLibName, parseLibName]
  | cons c r =>
    by_cases h : c = 0x40
    · subst h; simp [isLibName, parseLibName, chAt]
    · have : isLibName (c :: r) = false := by
        unfold isLibName; split
        · rename_i heq; injection heq with h1 _; exact absurd h1 h
        · rfl
      simp [this, parseLibName, chAt, h]

theorem custom_iff_not_lib (n : Name) : (parseLibName n).libType = .custom ↔ isLibName n = false := by
  rcases libType_cases n with h | h
  · have := (isLibName_iff n).2 h
    simp [h, this]
  · have : isLibName n ≠ true := fun hl => by rw [(isLibName_iff n).1 hl] at h; cases h
    simp [h, this]

theorem validPart_eq_plainSegment (s : Name) : validPart s = plainSegment s := by
  unfold validPart plainSegment
  split
  · rfl
  · rfl
  · rfl
  · rename_i h1 h2 h3
    have e1 : (s == []) = false := by cases s <;> simp_all
    have e2 : (s == dot) = false := by
      apply Bool.eq_false_iff.2; intro h; exact h2 (by simpa [dot] using h)
    have e3 : (s == dotdot) = false := by
      apply Bool.eq_false_iff.2; intro h; exact h3 (by simpa [dotdot] using h)
    rw [e1, e2, e3]
    simp [chSlash, chBackslash]

theorem validParts_eq_plainName (n : Name) : validParts (splitOn chDash n) = plainName n := by
  unfold validParts plainName
  rw [segments_eq_splitOn]
  congr 1
  funext s
  exact validPart_eq_plainSegment s

theorem resolve_eq (n : Name) : resolve n =
    if isLibName n then .lib n else if plainName n then .file (withExt (segments n)) else .nothing := by
  unfold resolve isLibName
  split <;> rfl

theorem resolve_custom {n : Name} (h : (parseLibName n).libType = .custom) :
    resolve n = if plainName n then .file (withExt (segments n)) else .nothing := by
  rw [resolve_eq, (custom_iff_not_lib n).1 h]; rfl

theorem resolve_file {n : Name} {p : Path} (h : resolve n = .file p) :
    (parseLibName n).libType = .custom ∧ plainName n = true ∧ p = withExt (segments n) := by
  rw [resolve_eq] at h
  cases hl : isLibName n <;> cases hp : plainName n <;> simp [hl, hp] at h
  exact ⟨(custom_iff_not_lib n).2 hl, rfl, h.symm⟩

theorem parseLibName_custom_path {n : Name} (h : (parseLibName n).libType = .custom) :
    (parseLibName n).libPath = splitOn chDash n := by
  unfold parseLibName at h ⊢
  cases n with
  | nil => rfl
  | cons c r =>
    by_cases hc : c = chAt
    · simp [hc] at h
    · simp [hc]

theorem resolveParts_custom {n : Name} (h : (parseLibName n).libType = .custom) :
    resolveParts .repaired (parseLibName n).libPath =
      if plainName n then .path (withExt (segments n)) else .rejected := by
  unfold resolveParts
  dsimp only
  rw [parseLibName_custom_path h, validParts_eq_plainName, addZn_eq_withExt _ (splitOn_ne_nil _ _), segments_eq_splitOn]

theorem finder_custom (files : Files) {n : Name} (h : (parseLibName n).libType = .custom) :
    finder .repaired files (parseLibName n) =
      if plainName n then
        match assoc (withExt (segments n)) files with
        | some s => .src s
        | none => .notFound
      else .notFound := by
  unfold finder
  rw [h]
  dsimp only
  rw [resolveParts_custom h]
  cases plainName n
  · rfl
  · simp only [if_true]
    cases assoc (withExt (segments n)) files <;> rfl

theorem finder_eq_resolve (files : Files) (n : Name) :
    finder .repaired files (parseLibName n) =
      match resolve n with
      | .lib _ => .emptySrc
      | .nothing => .notFound
      | .file p => match assoc p files with
        | some s => .src s
        | none => .notFound := by
  rcases libType_cases n with h | h
  · rw [resolve_eq, (isLibName_iff n).2 h]; unfold finder; rw [h]; rfl
  · rw [finder_custom files h, resolve_custom h]
    cases plainName n <;> rfl

theorem resolveName_eq_resolve (n : Name) :
    resolveName .repaired n = match resolve n with
      | .file p => some p
      | _ => none := by
  unfold resolveName
  rcases libType_cases n with h | h
  · rw [h, resolve_eq, (isLibName_iff n).2 h]; rfl
  · rw [h, resolve_custom h]
    dsimp only
    rw [resolveParts_custom h]
    cases plainName n <;> rfl

theorem resolveName_some_iff (n : Name) (p : Path) : resolveName .repaired n = some p ↔ resolve n = .file p := by
  rw [resolveName_eq_resolve]
  cases resolve n <;> simp

theorem msrc_eq (files : Files) (mainSrc : ModuleSrc) (n : Name) :
    msrc files mainSrc n = if n = mainName then some mainSrc else
      match resolve n with
      | .file p => assoc p files
      | _ => none := by
  unfold msrc
  rw [finder_eq_resolve]
  cases resolve n with
  | file p => dsimp only; cases assoc p files <;> rfl
  | _ => rfl

theorem msrc_plain {n : Name} {s : ModuleSrc} (hne : n ≠ mainName)
    (h : msrc files mainSrc n = some s) :
    (parseLibName n).libType = .custom ∧ plainName n = true ∧ assoc (withExt (segments n)) files = some s := by
  rw [msrc_eq, if_neg hne] at h
  cases hr : resolve n with
  | file p => obtain ⟨h1, h2, rfl⟩ := resolve_file hr; rw [hr] at h; exact ⟨h1, h2, h⟩
  | _ => rw [hr] at h; cases h

def nodeOfName (n : Name) : Node := if n = mainName then .main else .named n

/-- no import statement names the internal name of the main module -/
def NoReserved (files : Files) : Prop :=
  ∀ p src, (p, src) ∈ files → ∀ imp, imp ∈ src.imports → imp.name ≠ mainName

theorem msrc_mem_files {mainPath : Path} (hmain : assoc mainPath files = some mainSrc)
    {n : Name} {s : ModuleSrc} (h : msrc files mainSrc n = some s) : ∃ p, (p, s) ∈ files := by
  by_cases hn : n = mainName
  · unfold msrc at h
    simp [hn] at h; subst h; exact ⟨mainPath, assoc_mem hmain⟩
  · exact ⟨_, assoc_mem (msrc_plain hn h).2.2⟩

theorem msrc_eq_sourceOf {mainPath : Path} (hmain : assoc mainPath files = some mainSrc) (n : Name) :
    msrc files mainSrc n = sourceOf files mainPath (nodeOfName n) := by
  rw [msrc_eq]
  unfold nodeOfName
  split
  · exact hmain.symm
  · simp only [sourceOf]; cases resolve n <;> rfl

theorem mimports_to_imports {mainPath : Path}
    (hmain : assoc mainPath files = some mainSrc) (hres : NoReserved files) {a b : Name}
    (h : MImports files mainSrc a b) : Imports files mainPath (nodeOfName a) (nodeOfName b) := by
  obtain ⟨src, imp, hsrc, himp, hname, hc⟩ := h
  obtain ⟨p, hp⟩ := msrc_mem_files hmain hsrc
  have hb : b ≠ mainName := hname ▸ hres p src hp imp himp
  refine ⟨src, imp, b, ?_, himp, hname, (custom_iff_not_lib b).1 hc, ?_⟩
  · rw [← msrc_eq_sourceOf hmain]; exact hsrc
  · simp [nodeOfName, hb]

theorem MWalk.snoc {a b c : Name} (w : MWalk files mainSrc a b)
    (hi : MImports files mainSrc b c) : MWalk files mainSrc a c := by
  induction w with
  | refl => exact MWalk.cons hi (MWalk.refl _)
  | cons h _ ih => exact MWalk.cons h (ih hi)

theorem MReach.mwalk {n : Name} (h : MReach files mainSrc n) : MWalk files mainSrc mainName n := by
  induction h with
  | main => exact MWalk.refl _
  | step _ hi ih => exact ih.snoc hi

theorem Reach.trans' {mainPath : Path} {a b c : Node} (h1 : Reach files mainPath a b)
    (h2 : Reach files mainPath b c) : Reach files mainPath a c := by
  induction h2 with
  | refl => exact h1
  | step _ hi ih => exact Reach.step ih hi

theorem mwalk_to_reach {mainPath : Path}
    (hmain : assoc mainPath files = some mainSrc) (hres : NoReserved files) {a b : Name}
    (w : MWalk files mainSrc a b) : Reach files mainPath (nodeOfName a) (nodeOfName b) := by
  induction w with
  | refl a => exact Reach.refl _
  | cons hi _ ih => exact Reach.trans' (Reach.step (Reach.refl _) (mimports_to_imports hmain hres hi)) ih

theorem mreach_to_reach {mainPath : Path}
    (hmain : assoc mainPath files = some mainSrc) (hres : NoReserved files) {a : Name}
    (h : MReach files mainSrc a) : Reach files mainPath .main (nodeOfName a) := by
  have := mwalk_to_reach hmain hres h.mwalk
  rwa [show nodeOfName mainName = Node.main from if_pos rfl] at this

theorem mcycle_to_static {mainPath : Path}
    (hmain : assoc mainPath files = some mainSrc) (hres : NoReserved files) (h : MCycle files mainSrc) :
    StaticCycle files mainPath := by
  obtain ⟨a, b, hr, hi, hw⟩ := h
  exact ⟨nodeOfName a, nodeOfName b, mreach_to_reach hmain hres hr, mimports_to_imports hmain hres hi,
    mwalk_to_reach hmain hres hw⟩

theorem imports_to_mimports {mainPath : Path}
    (hmain : assoc mainPath files = some mainSrc) (hres : NoReserved files) {a : Name} {c : Node}
    (h : Imports files mainPath (nodeOfName a) c) : ∃ b, c = nodeOfName b ∧ MImports files mainSrc a b := by
  obtain ⟨src, imp, n, hsrc, himp, hname, hl, hc⟩ := h
  rw [← msrc_eq_sourceOf hmain] at hsrc
  obtain ⟨p, hp⟩ := msrc_mem_files hmain hsrc
  have hb : n ≠ mainName := hname ▸ hres p src hp imp himp
  exact ⟨n, by rw [hc]; simp [nodeOfName, hb], src, imp, hsrc, himp, hname, (custom_iff_not_lib n).2 hl⟩

theorem reach_to_mwalk {mainPath : Path}
    (hmain : assoc mainPath files = some mainSrc) (hres : NoReserved files) {x y : Node}
    (h : Reach files mainPath x y) : ∀ {a : Name}, x = nodeOfName a → ∃ b, y = nodeOfName b ∧ MWalk files mainSrc a b := by
  induction h with
  | refl => intro a ha; exact ⟨a, ha, MWalk.refl _⟩
  | step _ hi ih =>
    intro a ha
    obtain ⟨b, hb, hw⟩ := ih ha
    rw [hb] at hi
    obtain ⟨c, hcn, hmi⟩ := imports_to_mimports hmain hres hi
    exact ⟨c, hcn, hw.snoc hmi⟩

theorem mwalk_reach {a b : Name} (hr : MReach files mainSrc a)
    (w : MWalk files mainSrc a b) : MReach files mainSrc b := by
  induction w with
  | refl => exact hr
  | cons hi _ ih => exact ih (MReach.step hr hi)

theorem nodeOfName_inj {a b : Name} (h : nodeOfName a = nodeOfName b) : a = b := by
  unfold nodeOfName at h
  by_cases ha : a = mainName <;> by_cases hb : b = mainName <;> simp [ha, hb] at h
  · rw [ha, hb]
  · exact h

theorem static_to_mcycle {mainPath : Path}
    (hmain : assoc mainPath files = some mainSrc) (hres : NoReserved files) (h : StaticCycle files mainPath) :
    MCycle files mainSrc := by
  obtain ⟨x, y, hr, hi, hback⟩ := h
  obtain ⟨a, ha, hwa⟩ := reach_to_mwalk hmain hres hr (a := mainName) (by simp [nodeOfName])
  rw [ha] at hi
  obtain ⟨b, hb, hmi⟩ := imports_to_mimports hmain hres hi
  obtain ⟨a', ha', hwb⟩ := reach_to_mwalk hmain hres hback hb
  cases nodeOfName_inj (ha'.symm.trans ha)
  exact ⟨a, b, mwalk_reach MReach.main hwa, hmi, hwb⟩

end ZnVerif.Proofs.Modules
