/-
Token-level round trip with layout: the claims read on `S`-states.

Proofs/StmtExprBase.lean … StmtMain.lean speak of moves (`Walk`, `Reads`) and of what holds in the state after a move.  The theorems of
Properties/C03Stmt.lean are stated about the state `S Y p1 (ts ++ rest) fl` before a rendering `ts` and the state after it, with the
conditions `InOrder`, `Glued`, and what follows said of `rest` (`Stop`, `After`, `AfterB`).  Here is the way from one to the other: tokens in
reading order are walked (`walk_of`, `walk_of_brk`), a glued run is read and nothing else is (`reads_of`, `Reads.out`), and each claim
read on such a state (`expr_roundtrip`, `CStmt.last`, `CSimple.last`, `CExec.last`; `CArgs` / `CFcall` for argument lists and calls).
`Send_single`, `Foll`, `FollB` (what `StmtEnd` / `BlockEnd` of Proofs/StmtCursor.lean say, said of `rest`) belong to this vocabulary and
are used by no proof.
-/
import ZnVerif.Proofs.StmtDecl

namespace ZnVerif.Proofs.StmtRT
open ZnVerif.Model ZnVerif.Model.Parser ZnVerif.Generated.Tokens ZnVerif.Generated.ParserTables
open ZnVerif.Spec.StmtSyntax

variable {Y : Layout} {v : Variant}

theorem walk_of : ∀ {ts : List Token}, ts ≠ [] → ∀ (p1 : Option Token) (rest : List Token) (fl : Bool), Y.InOrder (ts ++ rest) →
    Walk Y false (S Y p1 (ts ++ rest) fl) ts (Send Y ts rest)
  | [], h, _, _, _, _ => absurd rfl h
  | [t], _, p1, rest, fl, ho => ⟨p1, rest, fl, rfl, nofun, ho, rfl⟩
  | t :: u :: ts, _, p1, rest, fl, ho => by
    refine ⟨p1, u :: (ts ++ rest), fl, rfl, nofun, ho, ?_⟩
    rw [show Send Y (t :: u :: ts) rest = Send Y (u :: ts) rest from congrArg (fun a => S Y a rest (Y.jf a (Y.peek rest)))
        List.getLast?_cons_cons]
    exact walk_of (List.cons_ne_nil u ts) (some t) rest _ (inOrder_tail ho)

theorem walk_of_brk {ts : List Token} (hne : ts ≠ []) (p1 : Option Token) (rest : List Token) (fl : Bool)
    (ho : Y.InOrder (ts ++ rest)) (hb : Y.jf ts.getLast? (Y.peek rest) = true) :
    Walk Y false (S Y p1 (ts ++ rest) fl) ts (S Y ts.getLast? rest true) :=
  (congrArg (S Y ts.getLast? rest) hb : Send Y ts rest = _) ▸ walk_of hne p1 rest fl ho

theorem reads_of {ts : List Token} (hne : ts ≠ []) (p1 : Option Token) (rest : List Token) (ho : Y.InOrder (ts ++ rest))
    (hg : Y.Glued ts) : Reads Y (S Y p1 (ts ++ rest) false) ts (Send Y ts rest) := by
  obtain ⟨s', hr, rfl⟩ := Walk.reads ts (b := []) (by rw [List.append_nil]; exact walk_of hne p1 rest false ho) rfl hg
  exact hr

/-- the converse of `reads_of`: a move that reads tokens starts in an `S`-state, over a glued run in reading order -/
theorem Reads.out : ∀ {ts : List Token} {s s' : PState (List Token)}, Reads Y s ts s' → ts ≠ [] →
    ∃ p1 rest, s = S Y p1 (ts ++ rest) false ∧ s' = Send Y ts rest ∧ Y.InOrder (ts ++ rest) ∧ Y.Glued ts
  | [], _, _, _, h => absurd rfl h
  | [t], _, _, ⟨p1, r, fl, hs, hf, ho, h⟩, _ => by
    obtain rfl := hf rfl
    exact ⟨p1, r, hs, h, ho, trivial⟩
  | t :: u :: ts, _, _, ⟨p1, r, fl, hs, hf, ho, h⟩, _ => by
    obtain rfl := hf rfl
    obtain ⟨p1', rest, e, hs', ho', hg'⟩ := Reads.out h (List.cons_ne_nil u ts)
    have hb : Y.brk t (Y.peek r) = false := congrArg PState.flag e
    have hp : Y.peek r = u := congrArg PState.p2 e
    -- `r` is not empty: the end of input would have set the flag
    obtain ⟨a, r0, rfl⟩ : ∃ a r0, r = a :: r0 := by
      cases r with
      | nil => exact absurd rfl (brk_false_plain hb).2
      | cons a r0 => exact ⟨a, r0, rfl⟩
    obtain rfl : a = u := hp
    obtain rfl : r0 = ts ++ rest := congrArg PState.lex e
    exact ⟨p1, rest, hs, hs'.trans (congrArg (fun a => S Y a rest (Y.jf a (Y.peek rest))) List.getLast?_cons_cons).symm, ho,
      hb, hg'⟩

theorem initState_S (n : Nat) (ts : List Token) (ho : Y.InOrder ts) :
    initState (layoutOps Y) (n + 1) ts = .ok () (S Y none ts false) := by
  unfold initState
  rw [fetch_tok n ts (inOrder_peek_nc ho)]
  rfl

theorem Send_single (t : Token) (rest : List Token) : Send Y [t] rest = S Y (some t) rest (Y.brk t (Y.peek rest)) := rfl

/-- what follows the tokens `ts` stops an expression of follow set `F`: it is not a comma, and either the statement is complete
(a statement line break after the last token of `ts`) or the next token is not in `F` -/
def Stop (Y : Layout) (F : List Nat) (ts rest : List Token) : Prop :=
  (Y.peek rest).type ≠ cTypeCommaSep ∧ (Y.jf ts.getLast? (Y.peek rest) = true ∨ (Y.peek rest).type ∉ F)

/-- `parsePauseCommaList(ParseExpression)` on `e1、e2、…` -/
def CArgs (v : Variant) (Y : Layout) (es : List Expr) (ts : List Token) : Prop :=
  ∀ p1 rest acc, Y.InOrder (ts ++ rest) → Y.Glued ts → Stop Y (cTypePauseCommaSep :: B1 true) ts rest →
    Stable v Y (.commaExprs acc) (S Y p1 (ts ++ rest) false) (.ok (acc ++ es) (Send Y ts rest)) (fN ts)

/-- `ParseFuncCallExpr` on `f：a、b）` / `f）`: it comes to its optional 得到 after the `）`; and `ParseObjNewExpr` on the same tokens -/
def CFcall (v : Variant) (Y : Layout) (n : Ident) (ps : List Expr) (tc : List Token) : Prop :=
  (∀ (yr : Bool) p1 rest j, fN tc ≤ j + 1 → Y.InOrder (tc ++ rest) → Y.Glued tc →
    parse v (layoutOps Y) (j + 1) (.funcCall yr) (S Y p1 (tc ++ rest) false) =
      ((if yr then optYield v (layoutOps Y) j else pure none) >>= fun y => pure (Expr.call 0 (some n) ps y)) (Send Y tc rest)) ∧
  (∀ p1 rest, Y.InOrder (tc ++ rest) → Y.Glued tc →
    Stable v Y .objNew (S Y p1 (tc ++ rest) false) (.ok (.new 0 (some n) ps) (Send Y tc rest)) (fN tc))

/-- the claims in terms of `S`, `Send`, `InOrder`, `Glued`: `.loose` reads a claim about moves on `S`-states (`reads_of`), `.tight` takes one
about `S`-states back to moves (`Reads.out`) — `fcall_args` has its hypothesis in the one form and the lemma it rests on in the other -/
theorem FcallClaim.loose {n : Ident} {ps : List Expr} {tc : List Token} (h : FcallClaim v Y n ps tc) (hne : tc ≠ []) :
    CFcall v Y n ps tc :=
  ⟨fun yr p1 rest j hj ho hg => h.1 yr _ _ j (by unfold fN at hj; omega) (reads_of hne p1 rest ho hg),
   fun p1 rest ho hg => h.2 _ _ (reads_of hne p1 rest ho hg)⟩

theorem CArgs.tight {es : List Expr} {ts : List Token} (h : CArgs v Y es ts) (hne : ts ≠ []) : ArgsClaim v Y es ts := by
  intro s s' acc hr hs
  obtain ⟨p1, rest, rfl, rfl, ho, hg⟩ := hr.out hne
  exact h p1 rest acc ho hg hs

theorem fcall_zero {f rp : Token} (hf : f.type = cTypeIdentifier) (hr : rp.type = cTypeFuncQuoteR) :
    CFcall v Y (Y.idOf f) [] [f, rp] := (fcall_zero_t hf hr).loose (by simp)

theorem fcall_args {f colon rp : Token} {es : List Expr} {ta : List Token} (hf : f.type = cTypeIdentifier)
    (hc : colon.type = cTypeFuncCall) (hr : rp.type = cTypeFuncQuoteR) (Fa : Facts Y ta) (Ca : CArgs v Y es ta) :
    CFcall v Y (Y.idOf f) es (f :: colon :: ta ++ [rp]) := (fcall_args_t hf hc hr (Ca.tight Fa.ne)).loose (by simp)

theorem expr_roundtrip {e : Expr} {ts : List Token} (h : LinE Y 1 e ts) (hg : Y.Glued ts) (p1 : Option Token) (rest : List Token)
    (ho : Y.InOrder (ts ++ rest)) (hs : Stop Y F1 ts rest) :
    Stable v Y (.expr true) (S Y p1 (ts ++ rest) false) (.ok e (Send Y ts rest)) (16 * ts.length + 16) :=
  expr_reads h (reads_of (linE_facts h).ne p1 rest ho hg) hs

/-- what follows a statement whose lines are indented by `d` (`a` = its last token): a statement line break, then the end of
input, or a line indented less, or a line indented alike that does not start with 再如 / 否则; never a comma -/
structure After (Y : Layout) (d : Nat) (a : Option Token) (rest : List Token) : Prop where
  brk : Y.jf a (Y.peek rest) = true
  nc : (Y.peek rest).type ≠ cTypeCommaSep
  dedent : (Y.peek rest).type = cTypeEOF ∨ Y.ind (Y.peek rest) < d ∨
    (Y.ind (Y.peek rest) = d ∧ (Y.peek rest).type ∉ condKeywords)

/-- what follows a block indented by `d`: a statement line break, then the end of input or a line indented less -/
structure AfterB (Y : Layout) (d : Nat) (a : Option Token) (rest : List Token) : Prop where
  brk : Y.jf a (Y.peek rest) = true
  nc : (Y.peek rest).type ≠ cTypeCommaSep
  dedent : (Y.peek rest).type = cTypeEOF ∨ Y.ind (Y.peek rest) < d

theorem AfterB.toAfter {d : Nat} {a : Option Token} {rest : List Token} (h : AfterB Y d a rest) : After Y d a rest :=
  ⟨h.brk, h.nc, h.dedent.elim Or.inl (fun h => Or.inr (Or.inl h))⟩

theorem AfterB.ends {d : Nat} {a : Option Token} {rest : List Token} (h : AfterB Y d a rest) :
    (Y.peek rest).type = cTypeEOF ∨ Y.ind (Y.peek rest) ≠ d :=
  h.dedent.elim Or.inl (fun h => Or.inr (by omega))

/-- the claims in terms of `S`, `InOrder` and the last token of the rendering -/
theorem CStmt.last {d : Nat} {st : Stmt} {ts : List Token} (h : CStmt v Y d st ts) (hne : ts ≠ []) (p1 : Option Token)
    (rest : List Token) (fl : Bool) (ho : Y.InOrder (ts ++ rest)) (ha : After Y d ts.getLast? rest) :
    Stable v Y .statement (S Y p1 (ts ++ rest) fl) (.ok st (S Y ts.getLast? rest true)) (16 * ts.length + 20) :=
  h _ _ (walk_of_brk hne p1 rest fl ho ha.brk) rfl ⟨ha.nc, ha.dedent⟩

theorem CSimple.last {st : Stmt} {ts : List Token} (h : CSimple v Y st ts) (hne : ts ≠ []) (p1 : Option Token)
    (rest : List Token) (fl : Bool) (ho : Y.InOrder (ts ++ rest)) (hnc : (Y.peek rest).type ≠ cTypeCommaSep)
    (hfin : Y.jf ts.getLast? (Y.peek rest) = true ∨ (Y.peek rest).type = cTypeStmtSep) :
    Stable v Y .statement (S Y p1 (ts ++ rest) fl) (.ok st (S Y ts.getLast? rest (Y.jf ts.getLast? (Y.peek rest))))
      (16 * ts.length + 20) :=
  h _ _ (walk_of hne p1 rest fl ho) ⟨hnc, hfin⟩

/-- `After` without the line break -/
structure Foll (Y : Layout) (d : Nat) (rest : List Token) : Prop where
  nc : (Y.peek rest).type ≠ cTypeCommaSep
  dedent : (Y.peek rest).type = cTypeEOF ∨ Y.ind (Y.peek rest) < d ∨
    (Y.ind (Y.peek rest) = d ∧ (Y.peek rest).type ∉ condKeywords)

/-- `AfterB` without the line break -/
structure FollB (Y : Layout) (d : Nat) (rest : List Token) : Prop where
  nc : (Y.peek rest).type ≠ cTypeCommaSep
  dedent : (Y.peek rest).type = cTypeEOF ∨ Y.ind (Y.peek rest) < d

theorem CExec.last {d : Nat} {x : ExecBlock} {ts : List Token} (h : CExec v Y d x ts) (hne : ts ≠ []) (p1 : Option Token)
    (rest : List Token) (ho : Y.InOrder (ts ++ rest)) (ha : AfterB Y d ts.getLast? rest) :
    Stable v Y (.execBlock d) (S Y p1 (ts ++ rest) false) (.ok x (S Y ts.getLast? rest true)) (16 * ts.length + 48) :=
  h _ _ (walk_of_brk hne p1 rest false ho ha.brk) rfl rfl ⟨ha.nc, ha.dedent⟩

end ZnVerif.Proofs.StmtRT
