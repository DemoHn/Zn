/-
What `parse_good` means for `Parser.Parse`: `parse_post` (a production that succeeds), `initState_spec` (`ParseAST`'s first `next()`) and
`parseAST_spec`, one statement covering all four outcomes of `parseAST`, with the fuel `fuelFor`; `tokenOps_ok`: the token-level lexer meets
`LexOK`.  The namespace is that of Proofs/ParserGood.lean.
-/
import ZnVerif.Proofs.ParserGoodTop

namespace ZnVerif.Proofs.ParserGood
open ZnVerif.Model ZnVerif.Model.Parser ZnVerif.Generated.Tokens
open ZnVerif.Spec.Grammar ZnVerif.Proofs.ParserHoare

variable {σ : Type} {ops : LexOps σ} {B : Nat} {μ : σ → Nat} {I : σ → Prop}

/-- fuel that suffices for a whole source, linear in the measure `k` of the input: `need μ .program` of the start state plus
one, i.e. 24 (the weight of a token in `need`) per unit of measure and `rank .program + 1 = 19` -/
def fuelFor (k : Nat) : Nat := 24 * k + 19

theorem initState_spec (hl : LexOK ops B μ I) (n : Nat) (l : σ) (hI : I l) :
    Sat (initState ops n l) (fun _ s => Inv ops B I s ∧ m μ s ≤ μ l) (ErrOK B) (n ≤ μ l) := by
  unfold initState
  have hf := fetch_spec hl n l hI
  generalize fetch ops n l = r at hf ⊢
  cases r with
  | err e => exact hf
  | panic => exact hf
  | fuel => exact hf
  | ok tk l' =>
    simp only at hf ⊢
    show Inv ops B I _ ∧ _
    refine ⟨⟨hf.1, hf.2.1, (by intro t ht; cases ht), ?_, ?_⟩, ?_⟩
    · simp only
      have hb := findLineIdx_bound (ops.lines l') tk.startIdx 0
      by_cases hz : (ops.lines l').size = 0
      · right; exact ⟨hz, trivial, hb.2 (by omega)⟩
      · left; exact ⟨by omega, hb.1 (by omega)⟩
    · intro h
      rcases h with h | h
      · exact (hf.2.2.2.1 h).2
      · cases h
    · simp only [m]
      by_cases he : tk.type = cTypeEOF
      · simp only [he, if_true]; omega
      · simp only [he, if_false]; have := (hf.2.2.2.1 he).1; omega

theorem parse_post (hl : LexOK ops B μ I) {n : Nat} {nt : NT} {s s' : PState σ} {r : nt.Out} (hs : Inv ops B I s) (hpre : PreC nt)
    (h : parse Variant.fixed ops n nt s = .ok r s') : Post ops B μ I nt s r s' := by
  have := parse_good hl n nt s hs hpre
  rwa [h] at this

/-- `Parser.Parse` on the repaired tree: a returned tree is complete, an error is a syntax error inside the source, there is no
Go run-time panic, and `fuelFor (μ l)` units of fuel are enough -/
theorem parseAST_spec (hl : LexOK ops B μ I) (n : Nat) (l : σ) (hI : I l) :
    match parseAST Variant.fixed ops n l with
    | .tree t => Complete t
    | .synErr e => ErrOK B e
    | .otherErr => False
    | .outOfFuel => n < fuelFor (μ l) := by
  unfold parseAST
  have hi := initState_spec hl n l hI
  generalize initState ops n l = r0 at hi ⊢
  cases r0 with
  | err e => exact hi
  | panic => exact hi
  | fuel => simp only [Sat] at hi ⊢; unfold fuelFor; omega
  | ok u s0 =>
    obtain ⟨hs0, hm0⟩ := hi
    simp only
    have hp := parse_good hl n .program s0 hs0 trivial
    generalize parse Variant.fixed ops n .program s0 = r1 at hp ⊢
    cases r1 with
    | err e => exact hp
    | panic => exact hp
    | fuel =>
      simp only [Sat, need, rank] at hp ⊢
      unfold fuelFor
      omega
    | ok pg s1 =>
      simp only [Sat] at hp ⊢
      by_cases he : s1.p2.type ≠ cTypeEOF
      · rw [if_pos he]
        -- the repaired tree reports the first left-over token (`getInvalidSyntaxPeek`)
        have hv : ((if Variant.fixed.leftoverFix then errPeek Variant.fixed 20 else errCurr Variant.fixed) : PM σ Unit) =
            errPeek Variant.fixed 20 := rfl
        rw [hv, errPeek_fixed]
        exact ⟨Nat.le_refl 20, (by decide : 20 ≤ 27), hp.1.inv.p2⟩
      · rw [if_neg he]
        exact hp.2.2

theorem tokenOps_ok (B : Nat) : LexOK tokenOps B List.length (fun l => ∀ t ∈ l, t.startIdx ≤ B) where
  tok := by
    intro l t l' hI h
    cases l with
    | nil =>
      simp only [tokenOps, Prod.mk.injEq, TokRes.tok.injEq] at h
      obtain ⟨rfl, rfl⟩ := h
      exact ⟨hI, Nat.zero_le _, Nat.le_refl _, fun h => absurd rfl h, Nat.le_refl _⟩
    | cons a r =>
      simp only [tokenOps, Prod.mk.injEq, TokRes.tok.injEq] at h
      obtain ⟨rfl, rfl⟩ := h
      refine ⟨fun t ht => hI t (List.mem_cons_of_mem _ ht), hI _ (List.mem_cons_self ..), ?_, fun _ => ⟨?_, ?_⟩, ?_⟩
      · simp
      · simp
      · simp [tokenOps]
      · simp [tokenOps]
  err := by
    intro l e l' _ h
    cases l <;> simp [tokenOps] at h
  nopanic := by
    intro l l' _ h
    cases l <;> simp [tokenOps] at h

end ZnVerif.Proofs.ParserGood
