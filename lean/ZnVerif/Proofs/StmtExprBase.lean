/-
Token-level round trip with layout, part 2a: expressions — follow sets, claims, and the operator levels.

Claims `C1 … C7`, one per precedence level, for the rendering relation `LinX Y cfg` (`cfg` = the parser's `AsVarAssign`); every
claim is "stable" (it holds for every fuel from a bound on).  A claim is about a move `Reads Y s ts s'` over the rendering
(Proofs/StmtCursor.lean) after which the expression `Stops`: the next token is not a comma and either the statement is complete
there or the next token is not in the follow set of the level, `B1 cfg … B7`, extended by `FO e` (`FO e` adds `、` when `e` ends
with an open method-call chain).

Fuel.  Between `ParseExpression` and `ParseBasicExpr` lie 8 levels, each a head production and a tail production: 2 units per
level, so a token costs at most `16`.  The claim of level `k` asks for `16 * tokens + c`, where `c` grows by 2 per level from
`C7` (3 in direct style) to `C1` (14) and is 16 for a whole expression; the list-like nodes and the statements add what their own
loop and probe steps use (`fN` = 16 for the last expression + 4; `+ 20 … + 52` in Proofs/StmtSimple … Properties/C03Stmt).

Level 7 (member chains and basic forms) is stated in continuation style and with an optional trailing comma `cm`: the comma after
an operand is swallowed by whatever the parser probes next (the member tail, 得到, the `、` of a chain); after it the parser is in
the state after `ts ++ cm` whichever production swallowed it.
-/
import ZnVerif.Proofs.StmtCursor

namespace ZnVerif.Proofs.StmtRT
open ZnVerif.Model ZnVerif.Model.Parser ZnVerif.Generated.Tokens ZnVerif.Generated.ParserTables
open ZnVerif.Spec.StmtSyntax

variable {Y : Layout} {v : Variant}

-- token types that would continue an expression of the given level (or be swallowed / skipped)
def B7 : List Nat := [cTypeMapHash, cTypeObjDotW, cTypeObjDotIIW, cTypeCommaSep, cTypeComment, cTypeGetResultW]
def B6 : List Nat := B7 ++ mulDivTypes
def B5 : List Nat := B6 ++ addSubTypes
def B4 (cfg : Bool) : List Nat := B5 ++ lv4Types cfg
def B3 (cfg : Bool) : List Nat := B4 cfg ++ lv3ValidTypes
def B2 (cfg : Bool) : List Nat := B3 cfg ++ [cTypeLogicAndW]
def B1 (cfg : Bool) : List Nat := B2 cfg ++ [cTypeLogicOrW]

/-- `、` continues an expression that ends with an open method-call chain -/
def FO (e : Expr) : List Nat := if openEnd e then [cTypePauseCommaSep] else []

/-- the follow set of a whole expression (where `=` assigns), whatever its right edge -/
def F1 : List Nat := B1 true ++ [cTypePauseCommaSep]

theorem not_mem_of_append_left {a : Nat} {l1 l2 : List Nat} (h : a ∉ l1 ++ l2) : a ∉ l1 :=
  fun h' => h (List.mem_append_left _ h')
theorem not_mem_of_append_right {a : Nat} {l1 l2 : List Nat} (h : a ∉ l1 ++ l2) : a ∉ l2 :=
  fun h' => h (List.mem_append_right _ h')

theorem FO_logic (l ty : Nat) (a b : Expr) : FO (.logic l ty a b) = FO b := by unfold FO; rw [openEnd]
theorem FO_arith (l ty : Nat) (a b : Expr) : FO (.arith l ty a b) = FO b := by unfold FO; rw [openEnd]
theorem FO_assign (l : Nat) (a b : Expr) : FO (.assign l a b) = FO b := by unfold FO; rw [openEnd]

theorem openEnd_setLine (l : Nat) (e : Expr) : openEnd (e.setLine l) = openEnd e := by
  cases e <;> first | (simp [Expr.setLine, openEnd]; done) | (rename_i y; cases y <;> simp [Expr.setLine, openEnd])

theorem FO_setLine (l : Nat) (e : Expr) : FO (e.setLine l) = FO e := by unfold FO; rw [openEnd_setLine]

theorem FO_sub (e : Expr) : ∀ ty, ty ∈ FO e → ty = cTypePauseCommaSep := by
  intro ty h
  unfold FO at h
  split at h
  · simpa using h
  · simp at h

theorem not_mem_BFO {B : List Nat} {e : Expr} {ty : Nat} (h1 : ty ∉ B) (h2 : ty ≠ cTypePauseCommaSep) : ty ∉ B ++ FO e := by
  intro h
  rcases List.mem_append.mp h with h | h
  · exact h1 h
  · exact h2 (FO_sub e ty h)

/-- One level of left-associative binary operators, as the parser reads it (by fuel): `head` reads an operand with `sub` and hands
it to `tail`, which reads `{ operator operand }` and builds the nodes with `node line tokenType left right`.  The levels of 或, 且,
`+ −` and `* / | %` are the instances `lv1`, `lv2`, `lv5`, `lv6`.  The model has these as four pairs of productions of one shape; the two
equations (`rfl` for each instance) are fields, so that `CL.up`, `CL.done`, `CL.binop` step through ANY level by rewriting with them
and never open a production. -/
structure OpLevel (Y : Layout) where
  head : Nat → PM (List Token) Expr
  sub : Nat → PM (List Token) Expr
  tail : Expr → Nat → PM (List Token) Expr
  tys : List Nat
  node : Nat → Nat → Expr → Expr → Expr
  head_eq : ∀ m s, head (m + 1) s = (sub m >>= fun l => tail l m) s
  tail_eq : ∀ m el s, tail el (m + 1) s = (do
    match ← tryConsume (layoutOps Y) m tys with
    | some tk => do
      let r ← sub m
      let l ← lineOf (layoutOps Y) tk
      tail (node l tk.type el r) m
    | none => pure el) s

def lv1 (v : Variant) (Y : Layout) (cfg : Bool) : OpLevel Y where
  head n := parse v (layoutOps Y) n (.expr cfg)
  sub n := parse v (layoutOps Y) n (.lv2 cfg)
  tail el n := parse v (layoutOps Y) n (.lv1Tail cfg el)
  tys := [cTypeLogicOrW]
  node l _ a b := .logic l cLogicOR a b
  head_eq _ _ := rfl
  tail_eq _ _ _ := rfl

def lv2 (v : Variant) (Y : Layout) (cfg : Bool) : OpLevel Y where
  head n := parse v (layoutOps Y) n (.lv2 cfg)
  sub n := parse v (layoutOps Y) n (.lv3 cfg)
  tail el n := parse v (layoutOps Y) n (.lv2Tail cfg el)
  tys := [cTypeLogicAndW]
  node l _ a b := .logic l cLogicAND a b
  head_eq _ _ := rfl
  tail_eq _ _ _ := rfl

def lv5 (v : Variant) (Y : Layout) : OpLevel Y where
  head n := parse v (layoutOps Y) n .arith
  sub n := parse v (layoutOps Y) n .mulDiv
  tail el n := parse v (layoutOps Y) n (.arithTail el)
  tys := addSubTypes
  node l ty a b := .arith l (lookupD addSubOverride ty addSubDefault) a b
  head_eq _ _ := rfl
  tail_eq _ _ _ := rfl

def lv6 (v : Variant) (Y : Layout) : OpLevel Y where
  head n := parse v (layoutOps Y) n .mulDiv
  sub n := parse v (layoutOps Y) n .member
  tail el n := parse v (layoutOps Y) n (.mulDivTail el)
  tys := mulDivTypes
  node l ty a b := .arith l (lookupD mulDivTypeMap ty 0) a b
  head_eq _ _ := rfl
  tail_eq _ _ _ := rfl

theorem OpLevel.tail_now (L : OpLevel Y) (e : Expr) {s : PState (List Token)} (h : Stops L.tys s) :
    StableR (L.tail e) s (.ok e s) 1 := by
  refine stable_of 1 (by omega) fun m hn => ?_
  rw [L.tail_eq]
  exact andThen (tryConsume_stops m h) rfl

theorem memberTail_now (e : Expr) {s : PState (List Token)} (h : Stops [cTypeMapHash, cTypeObjDotW, cTypeObjDotIIW] s) :
    Stable v Y (.memberTail e) s (.ok e s) 1 :=
  stable_of 1 (by omega) fun m hn => andThen (tryConsume_stops m h) rfl

/-- fuel bound of level `k` on `ts`: 16 per token (2 units for each of the 8 levels below an expression) and 2 for each of the
`8 - k` levels from `k` down to the basic forms; looser levels sit higher in the call chain -/
def D (k : Nat) (ts : List Token) : Nat := 16 * ts.length + 2 * (8 - k)

/-- nothing, or one comma -/
def CommaOpt (cm : List Token) : Prop := cm = [] ∨ ∃ c : Token, c.type = cTypeCommaSep ∧ cm = [c]

/-- level 7, continuation style: whatever the member tail does with `e` after the rendering and an optional comma, the member
production does on the rendering -/
def C7 (v : Variant) (Y : Layout) (e : Expr) (ts : List Token) : Prop :=
  ∀ cm s s1 s' r n, CommaOpt cm → 1 ≤ n → Reads Y s ts s1 → Reads Y s1 cm s' → Stops (cTypeGetResultW :: FO e) s' →
    Stable v Y (.memberTail e) s' r n → Stable v Y .member s r (n + D 7 ts)

/-- direct style: `run` on a rendering of `e` returns `e` and stops right after it -/
def CD (Y : Layout) (run : Nat → PM (List Token) Expr) (F : List Nat) (c : Nat) (e : Expr) (ts : List Token) : Prop :=
  ∀ s s', Reads Y s ts s' → Stops (F ++ FO e) s' → StableR run s (.ok e s') (16 * ts.length + c)

/-- continuation style, for a level of left-associative operators: whatever the tail does with `e` after the rendering, the head
does on the rendering -/
def CL (L : OpLevel Y) (F : List Nat) (c : Nat) (e : Expr) (ts : List Token) : Prop :=
  ∀ s s' r n, 1 ≤ n → Reads Y s ts s' → Stops (F ++ FO e) s' →
    StableR (L.tail e) s' r n → StableR L.head s r (n + (16 * ts.length + c))

def C6 (v : Variant) (Y : Layout) : Expr → List Token → Prop := CL (lv6 v Y) B7 4
def C5 (v : Variant) (Y : Layout) : Expr → List Token → Prop := CL (lv5 v Y) B6 6
def C4 (v : Variant) (Y : Layout) (cfg : Bool) : Expr → List Token → Prop :=
  CD Y (fun n => parse v (layoutOps Y) n (.lv4 cfg)) (B4 cfg) 8
def C3 (v : Variant) (Y : Layout) (cfg : Bool) : Expr → List Token → Prop :=
  CD Y (fun n => parse v (layoutOps Y) n (.lv3 cfg)) (B3 cfg) 10
def C2 (v : Variant) (Y : Layout) (cfg : Bool) : Expr → List Token → Prop := CL (lv2 v Y cfg) (B3 cfg) 12
def C1 (v : Variant) (Y : Layout) (cfg : Bool) : Expr → List Token → Prop := CL (lv1 v Y cfg) (B2 cfg) 14

def Claim (v : Variant) (Y : Layout) (cfg : Bool) : Nat → Expr → List Token → Prop
  | 1 => C1 v Y cfg | 2 => C2 v Y cfg | 3 => C3 v Y cfg | 4 => C4 v Y cfg | 5 => C5 v Y | 6 => C6 v Y | 7 => C7 v Y
  | _ => fun _ _ => False

/-- level 7 without a trailing comma -/
theorem C7.nil {e : Expr} {ts : List Token} (h : C7 v Y e ts) {s s' : PState (List Token)} (r : Res (List Token) Expr) (n : Nat)
    (hn : 1 ≤ n) (hr : Reads Y s ts s') (hs : Stops (cTypeGetResultW :: FO e) s') (K : Stable v Y (.memberTail e) s' r n) :
    Stable v Y .member s r (n + D 7 ts) :=
  h [] s s' s' r n (Or.inl rfl) hn hr rfl hs K

/-- token types an expression can start with -/
def exprHeads : List Nat :=
  [cTypeIdentifier, cTypeString, cTypeStmtQuoteL, cTypeArrayQuoteL, cTypeFuncQuoteL, cTypeVarOneW, cTypeObjThisW]

/-- token types a basic expression (`ParseBasicExpr`) can start with -/
def basicHeads : List Nat :=
  [cTypeIdentifier, cTypeString, cTypeStmtQuoteL, cTypeArrayQuoteL, cTypeFuncQuoteL, cTypeVarOneW]

theorem exprHeads_spec : ∀ ty ∈ exprHeads, ty ≠ cTypeEOF ∧ ty ≠ cTypeCommaSep := by decide

theorem basicHeads_sub : ∀ ty ∈ basicHeads, ty ∈ exprHeads := by decide

/-- what the induction over `LinX` carries beside the claim: a rendering of an expression is not empty and starts with a token an
expression can start with — so a probe for anything else misses before it (`Stops.of_mem`) -/
structure Facts (Y : Layout) (ts : List Token) : Prop where
  ne : ts ≠ []
  first : (Y.peek ts).type ∈ exprHeads

theorem facts_append {ta tb : List Token} (ha : Facts Y ta) : Facts Y (ta ++ tb) where
  ne := by simp [ha.ne]
  first := by rw [peek_append ha.ne]; exact ha.first

theorem facts_cons {t : Token} {r : List Token} {c : Nat} (ht : t.type = c) (h : c ∈ exprHeads := by decide) : Facts Y (t :: r) :=
  ⟨by simp, ht ▸ h⟩

theorem Facts.nc {ts : List Token} (h : Facts Y ts) (rest : List Token) : (Y.peek (ts ++ rest)).type ≠ cTypeCommaSep := by
  rw [peek_append h.ne]; exact (exprHeads_spec _ h.first).2

theorem Facts.neof {ts : List Token} (h : Facts Y ts) (rest : List Token) : (Y.peek (ts ++ rest)).type ≠ cTypeEOF := by
  rw [peek_append h.ne]; exact (exprHeads_spec _ h.first).1

theorem Facts.head {ts : List Token} (h : Facts Y ts) {g : Bool} {s s' : PState (List Token)} (hr : Walk Y g s ts s') :
    s.p2.type ∈ exprHeads := (hr.peek h.ne).1 ▸ h.first

theorem commaOpt_cases {cm : List Token} (h : CommaOpt cm) : cm = [] ∨ ∃ c : Token, c.type = cTypeCommaSep ∧ cm = [c] := h

/-- the member tail before an optional comma is the member tail after it: its first probe swallows the comma -/
theorem tail_comma {e : Expr} {cm : List Token} {s1 s' : PState (List Token)} {r : Res (List Token) Expr} {n : Nat}
    (hcm : CommaOpt cm) (h : Reads Y s1 cm s') (hnc : s'.p2.type ≠ cTypeCommaSep) (hn : 1 ≤ n)
    (K : Stable v Y (.memberTail e) s' r n) : Stable v Y (.memberTail e) s1 r (n + 1) := by
  rcases hcm with rfl | ⟨c, hc, rfl⟩
  · obtain rfl := h.nil
    exact Stable.mono K (Nat.le_succ _)
  · refine stable_of 2 (by omega) fun m hn' => ?_
    rw [← K (m + 2) (by omega)]
    show pMemberTail v (layoutOps Y) (m + 1) _ e _ = pMemberTail v (layoutOps Y) (m + 1) _ e _
    unfold pMemberTail
    exact bind_congr (tryConsume_reads_comma m _ hc h hnc)

theorem B7_member {ty : Nat} (h : ty ∉ B7) : ty ∉ [cTypeMapHash, cTypeObjDotW, cTypeObjDotIIW] := by
  simp only [B7, List.mem_cons, List.not_mem_nil, or_false, not_or] at h ⊢
  exact ⟨h.1, h.2.1, h.2.2.1⟩

theorem B7_yield {ty : Nat} (h : ty ∉ B7) : ty ≠ cTypeGetResultW := by
  simp only [B7, List.mem_cons, List.not_mem_nil, or_false, not_or] at h
  exact h.2.2.2.2.2

theorem stop7 {B : List Nat} {e : Expr} {s : PState (List Token)} (hB : ∀ ty, ty ∉ B → ty ∉ B7) (hs : Stops (B ++ FO e) s) :
    Stops (cTypeGetResultW :: FO e) s ∧ Stops [cTypeMapHash, cTypeObjDotW, cTypeObjDotIIW] s :=
  ⟨hs.mono fun ty h hm => by
      rcases List.mem_cons.mp hm with hm | hm
      · exact B7_yield (hB ty (not_mem_of_append_left h)) hm
      · exact not_mem_of_append_right h hm,
   hs.mono fun ty h => B7_member (hB ty (not_mem_of_append_left h))⟩

theorem sub_app {B B' : List Nat} {e : Expr} (h : ∀ ty, ty ∉ B → ty ∉ B') : ∀ ty, ty ∉ B ++ FO e → ty ∉ B' ++ FO e := by
  intro ty hn hm
  rcases List.mem_append.mp hm with hm | hm
  · exact h ty (not_mem_of_append_left hn) hm
  · exact not_mem_of_append_right hn hm

/-- a level done: with its tail ended, the head is in direct style; the follow set `F'` adds the level's operators to `F` -/
theorem CL.done {L : OpLevel Y} {F : List Nat} {c : Nat} {e : Expr} {ts : List Token} (C : CL L F c e ts) (F' : List Nat)
    (hF : ∀ ty, ty ∉ F' → ty ∉ F ∧ ty ∉ L.tys) : CD Y L.head F' (c + 1) e ts := by
  intro s s' hr hs n' hn
  exact C s s' (.ok e s') 1 (Nat.le_refl _) hr (hs.mono (sub_app fun ty h => (hF ty h).1))
    (L.tail_now e (hs.mono fun ty h => (hF ty (not_mem_of_append_left h)).2)) n' (by omega)

/-- an operand of the level is an expression of the level -/
theorem CL.up {L : OpLevel Y} {F Fs : List Nat} {c cs : Nat} {e : Expr} {ts : List Token} (C : CD Y L.sub Fs cs e ts)
    (hc : cs + 1 ≤ c) (hF : ∀ ty, ty ∉ F → ty ∉ Fs) : CL L F c e ts := by
  intro s s' r n hn1 hr hs hstab
  refine stable_of 1 (by omega) fun m hn => ?_
  rw [L.head_eq]
  exact andThen (C s s' hr (hs.mono (sub_app hF)) m (by omega)) (hstab m (by omega))

/-- `a op b` at a level of left-associative operators: `a` of the level, `b` an operand.  The tail after `a` consumes the
operator, reads `b`, and goes on as the tail after `a op b`.  (`cs ≤ 14`: the operand's constant is at most that of the loosest
level, so the two units the tail spends fit under the level's own bound.) -/
theorem CL.binop {L : OpLevel Y} {F Fs : List Nat} {c cs : Nat} {t : Token} {a b : Expr} {ta tb : List Token}
    (ht : t.type ∈ L.tys) (hty : ∀ ty ∈ L.tys, ty ∉ F ∧ ty ≠ cTypeCommaSep ∧ ty ≠ cTypePauseCommaSep)
    (hFO : ∀ l ty a b, FO (L.node l ty a b) = FO b) (hF : ∀ ty, ty ∉ F → ty ∉ Fs) (hcs : cs ≤ 14)
    (Ca : CL L F c a ta) (Cb : CD Y L.sub Fs cs b tb) :
    CL L F c (L.node (Y.sl t) t.type a b) (ta ++ t :: tb) := by
  intro s s' r n hn1 h hs hstab
  obtain ⟨htF, htc, htp⟩ := hty _ ht
  rw [hFO] at hs
  obtain ⟨s1, ha, h⟩ := h.append
  obtain ⟨s2, h1, hb⟩ := h.cons
  have key : StableR (L.tail a) s1 r (max n (16 * tb.length + cs) + 2) := by
    refine stable_of 2 (by omega) fun m hn => ?_
    rw [L.tail_eq]
    exact andThen (tryConsume_reads m ht htc h1) (andThen (Cb s2 s' hb (hs.mono (sub_app hF)) (m + 1) (by omega))
      (andThen (lineOf_S t _) (hstab (m + 1) (by omega))))
  refine fun n' hn => Ca s s1 r _ (by omega) ha (h1.stops htc (not_mem_BFO htF htp)) key n' ?_
  simp only [List.length_append, List.length_cons] at hn
  omega

theorem B43 (cfg : Bool) {ty : Nat} : ty ∉ B3 cfg → ty ∉ B4 cfg := not_mem_of_append_left
theorem B54 (cfg : Bool) {ty : Nat} : ty ∉ B4 cfg → ty ∉ B5 := not_mem_of_append_left

theorem c7_done {e : Expr} {ts : List Token} (h : C7 v Y e ts) : CD Y (fun n => parse v (layoutOps Y) n .member) B7 3 e ts := by
  intro s s' hr hs n' hn
  obtain ⟨hs1, hs2⟩ := stop7 (fun _ h => h) hs
  exact h.nil (.ok e s') 1 (Nat.le_refl _) hr hs1 (memberTail_now e hs2) n' (by unfold D; omega)

theorem up6 (e : Expr) (ts : List Token) (h : C7 v Y e ts) : C6 v Y e ts := CL.up (c7_done h) (by decide) fun _ h => h

/-- an operand followed by a comma -/
theorem comma6 (c : Token) (e : Expr) (ts : List Token) (hc : c.type = cTypeCommaSep) (h : C7 v Y e ts) :
    C6 v Y e (ts ++ [c]) := by
  refine CL.up (L := lv6 v Y) (Fs := B7) (cs := 3) ?_ (by decide) fun _ h => h
  intro s s' hr hs n' hn
  obtain ⟨hs1, hs2⟩ := stop7 (fun _ h => h) hs
  obtain ⟨s1, h1, h2⟩ := hr.append
  exact h [c] s s1 s' (.ok e s') 1 (Or.inr ⟨c, hc, rfl⟩) (Nat.le_refl _) h1 h2 hs1 (memberTail_now e hs2) n'
    (by unfold D; simp only [List.length_append, List.length_cons, List.length_nil] at hn; omega)

theorem c6_done {e : Expr} {ts : List Token} (h : C6 v Y e ts) : CD Y (lv5 v Y).sub B6 5 e ts :=
  CL.done h B6 fun _ h => ⟨not_mem_of_append_left h, not_mem_of_append_right h⟩

theorem c5_done {e : Expr} {ts : List Token} (h : C5 v Y e ts) : CD Y (fun n => parse v (layoutOps Y) n .arith) B5 7 e ts :=
  CL.done h B5 fun _ h => ⟨not_mem_of_append_left h, not_mem_of_append_right h⟩

theorem c2_done {cfg : Bool} {e : Expr} {ts : List Token} (h : C2 v Y cfg e ts) : CD Y (lv1 v Y cfg).sub (B2 cfg) 13 e ts :=
  CL.done h (B2 cfg) fun _ h => ⟨not_mem_of_append_left h, not_mem_of_append_right h⟩

theorem up5 (e : Expr) (ts : List Token) (h : C6 v Y e ts) : C5 v Y e ts := CL.up (c6_done h) (by decide) fun _ h => h

theorem up4 (cfg : Bool) (e : Expr) (ts : List Token) (h : C5 v Y e ts) : C4 v Y cfg e ts := by
  intro s s' hr hs
  exact stable_of 1 (by omega) fun m hn => andThen (c5_done h s s' hr (hs.mono (sub_app fun _ => B54 cfg)) m (by omega))
    (andThen (tryConsume_stops (tys := lv4Types cfg) m (hs.mono fun _ h => not_mem_of_append_right (not_mem_of_append_left h))) rfl)

theorem up3 (cfg : Bool) (e : Expr) (ts : List Token) (h : C4 v Y cfg e ts) : C3 v Y cfg e ts := by
  intro s s' hr hs
  exact stable_of 1 (by omega) fun m hn => andThen (h s s' hr (hs.mono (sub_app fun _ => B43 cfg)) m (by omega))
    (andThen (tryConsume_stops m (hs.mono fun _ h => not_mem_of_append_right (not_mem_of_append_left h))) rfl)

theorem up2 (cfg : Bool) (e : Expr) (ts : List Token) (h : C3 v Y cfg e ts) : C2 v Y cfg e ts :=
  CL.up (L := lv2 v Y cfg) h (by decide) fun _ h => h

theorem up1 (cfg : Bool) (e : Expr) (ts : List Token) (h : C2 v Y cfg e ts) : C1 v Y cfg e ts :=
  CL.up (c2_done h) (by decide) fun _ h => h

theorem c1_done {cfg : Bool} {e : Expr} {ts : List Token} (C : C1 v Y cfg e ts) :
    CD Y (fun n => parse v (layoutOps Y) n (.expr cfg)) (B1 cfg) 16 e ts := fun s s' hr hs n' hn =>
  CL.done C (B1 cfg) (fun _ h => ⟨not_mem_of_append_left h, not_mem_of_append_right h⟩) s s' hr hs n' (by omega)

theorem lv3_nc : ∀ ty ∈ lv3ValidTypes, ty ≠ cTypeCommaSep ∧ ty ≠ cTypePauseCommaSep := by decide
theorem lv4_nc : ∀ cfg, ∀ ty ∈ lv4Types cfg, ty ≠ cTypeCommaSep ∧ ty ≠ cTypePauseCommaSep := by decide
theorem lv3_not_B4 : ∀ cfg, ∀ ty ∈ lv3ValidTypes, ty ∉ B4 cfg := by decide
theorem lv4_not_B5 : ∀ cfg, ∀ ty ∈ lv4Types cfg, ty ∉ B5 := by decide

theorem or_spec : ∀ cfg, ∀ ty ∈ [cTypeLogicOrW], ty ∉ B2 cfg ∧ ty ≠ cTypeCommaSep ∧ ty ≠ cTypePauseCommaSep := by decide
theorem and_spec : ∀ cfg, ∀ ty ∈ [cTypeLogicAndW], ty ∉ B3 cfg ∧ ty ≠ cTypeCommaSep ∧ ty ≠ cTypePauseCommaSep := by decide
theorem addSub_spec : ∀ ty ∈ addSubTypes, ty ∉ B6 ∧ ty ≠ cTypeCommaSep ∧ ty ≠ cTypePauseCommaSep := by decide
theorem mulDiv_spec : ∀ ty ∈ mulDivTypes, ty ∉ B7 ∧ ty ≠ cTypeCommaSep ∧ ty ≠ cTypePauseCommaSep := by decide

/-- `a 或 b` -/
theorem case_or (cfg : Bool) (t : Token) (a b : Expr) (ta tb : List Token) (ht : t.type = cTypeLogicOrW)
    (Ca : C1 v Y cfg a ta) (Cb : C2 v Y cfg b tb) :
    C1 v Y cfg (.logic (Y.sl t) cLogicOR a b) (ta ++ t :: tb) :=
  CL.binop (L := lv1 v Y cfg) (by rw [ht]; exact List.mem_singleton_self _) (or_spec cfg) (fun _ _ _ _ => FO_logic ..)
    (fun _ h => h) (by decide) Ca (c2_done Cb)

/-- `a 且 b` -/
theorem case_and (cfg : Bool) (t : Token) (a b : Expr) (ta tb : List Token) (ht : t.type = cTypeLogicAndW)
    (Ca : C2 v Y cfg a ta) (Cb : C3 v Y cfg b tb) :
    C2 v Y cfg (.logic (Y.sl t) cLogicAND a b) (ta ++ t :: tb) :=
  CL.binop (L := lv2 v Y cfg) (by rw [ht]; exact List.mem_singleton_self _) (and_spec cfg) (fun _ _ _ _ => FO_logic ..)
    (fun _ h => h) (by decide) Ca Cb

/-- `a + b`, `a - b` -/
theorem case_add (t : Token) (a b : Expr) (ta tb : List Token) (ht : t.type ∈ addSubTypes)
    (Ca : C5 v Y a ta) (Cb : C6 v Y b tb) :
    C5 v Y (.arith (Y.sl t) (lookupD addSubOverride t.type addSubDefault) a b) (ta ++ t :: tb) :=
  CL.binop (L := lv5 v Y) ht addSub_spec (fun _ _ _ _ => FO_arith ..) (fun _ h => h) (by decide) Ca (c6_done Cb)

/-- `a * b`, `a / b`, `a | b`, `a % b` -/
theorem case_mul (t : Token) (a b : Expr) (ta tb : List Token) (ht : t.type ∈ mulDivTypes)
    (Ca : C6 v Y a ta) (Cb : C7 v Y b tb) :
    C6 v Y (.arith (Y.sl t) (lookupD mulDivTypeMap t.type 0) a b) (ta ++ t :: tb) :=
  CL.binop (L := lv6 v Y) ht mulDiv_spec (fun _ _ _ _ => FO_arith ..) (fun _ h => h) (by decide) Ca (c7_done Cb)

/-- `a < b` and the other comparisons: exactly one -/
theorem case_cmp (cfg : Bool) (t : Token) (a b : Expr) (ta tb : List Token) (ht : t.type ∈ lv3ValidTypes)
    (Ca : C4 v Y cfg a ta) (Cb : C4 v Y cfg b tb) :
    C3 v Y cfg (.logic (Y.sl t) (lookupD logicTypeMap t.type 0) a b) (ta ++ t :: tb) := by
  intro s s' h hs
  refine stable_of 2 (by omega) fun m hn => ?_
  have htc := lv3_nc _ ht
  rw [FO_logic] at hs
  obtain ⟨s1, ha, h⟩ := h.append
  obtain ⟨s2, h1, hb⟩ := h.cons
  simp only [List.length_append, List.length_cons] at hn
  exact andThen (Ca s s1 ha (h1.stops htc.1 (not_mem_BFO (lv3_not_B4 cfg _ ht) htc.2)) (m + 1) (by omega))
    (andThen (tryConsume_reads m ht htc.1 h1) (andThen (Cb s2 s' hb (hs.mono (sub_app fun _ => B43 cfg)) (m + 1) (by omega))
      (andThen (lineOf_S t _) rfl)))

/-- `a = b`, `a 为 b`: one assignment, the target assignable -/
theorem case_assign (cfg : Bool) (t : Token) (a b : Expr) (ta tb : List Token) (ht : t.type ∈ lv4Types cfg)
    (hassn : a.isAssignable = true) (Ca : C5 v Y a ta) (Cb : C5 v Y b tb) :
    C4 v Y cfg (.assign (Y.sl t) a b) (ta ++ t :: tb) := by
  intro s s' h hs
  refine stable_of 2 (by omega) fun m hn => ?_
  have htc := lv4_nc cfg _ ht
  rw [FO_assign] at hs
  obtain ⟨s1, ha, h⟩ := h.append
  obtain ⟨s2, h1, hb⟩ := h.cons
  simp only [List.length_append, List.length_cons] at hn
  refine andThen (c5_done Ca s s1 ha (h1.stops htc.1 (not_mem_BFO (lv4_not_B5 cfg _ ht) htc.2)) (m + 1) (by omega))
    (andThen (tryConsume_reads (tys := lv4Types cfg) m ht htc.1 h1) ?_)
  simp only [hassn, if_true]
  exact andThen (c5_done Cb s2 s' hb (hs.mono (sub_app fun _ => B54 cfg)) (m + 1) (by omega)) (andThen (lineOf_S t _) rfl)

/-- the member tail in state `st` does what it does in state `st'` -/
def TailEq (v : Variant) (Y : Layout) (e : Expr) (st st' : PState (List Token)) : Prop :=
  ∀ (r : Res (List Token) Expr) n, 1 ≤ n → Stable v Y (.memberTail e) st' r n → Stable v Y (.memberTail e) st r (n + 1)

theorem TailEq.refl (e : Expr) (st : PState (List Token)) : TailEq v Y e st st := fun _ _ _ h => Stable.mono h (Nat.le_succ _)

/-- a basic expression is a member expression: `ParseMemberExpr` = `ParseBasicExpr`, then the member tail -/
theorem c7_of_basic (e : Expr) (ts : List Token) (hne : ts ≠ []) (hfirst : (Y.peek ts).type ∈ basicHeads) (B : Nat)
    (hB : B + 2 ≤ D 7 ts)
    (hb : ∀ cm s s1 s', CommaOpt cm → Reads Y s ts s1 → Reads Y s1 cm s' → Stops (cTypeGetResultW :: FO e) s' →
      ∃ st, Stable v Y .basic s (.ok e st) B ∧ TailEq v Y e st s') :
    C7 v Y e ts := by
  intro cm s s1 s' r n hcm hn1 h1 h2 hs K
  refine stable_of 1 (by omega) fun m hn => ?_
  obtain ⟨st, hbasic, hte⟩ := hb cm s s1 s' hcm h1 h2 hs
  exact andThen (tryConsume_stops m (.of_mem (H := basicHeads) ((h1.peek hne).1 ▸ hfirst)))
    (andThen (hbasic m (by omega)) (hte r n hn1 K m (by omega)))

/-- … in the common case that the basic expression ends with its last token (nothing is probed after it) -/
theorem c7_of_basic_plain (e : Expr) (ts : List Token) (hne : ts ≠ []) (hfirst : (Y.peek ts).type ∈ basicHeads) (B : Nat)
    (hB : B + 2 ≤ D 7 ts) (hb : ∀ s s1, Reads Y s ts s1 → Stable v Y .basic s (.ok e s1) B) : C7 v Y e ts :=
  c7_of_basic e ts hne hfirst B hB fun _ s s1 _ hcm h1 h2 hs => ⟨s1, hb s s1 h1, fun _ _ hn K => tail_comma hcm h2 hs.1 hn K⟩

/-- one more step `d :: step` (`之 p`, `# i`, `# { e }`) of a member chain -/
theorem c7_step (r e' : Expr) (tr : List Token) (d : Token) (step : List Token) (Cr : C7 v Y r tr)
    (hd : d.type ∈ [cTypeMapHash, cTypeObjDotW, cTypeObjDotIIW]) (c : Nat) (hc : c + 1 ≤ 16 * (step.length + 1))
    (hstep : ∀ s1 s2 (R : Res (List Token) Expr) n, 1 ≤ n → Reads Y s1 (d :: step) s2 →
      Stable v Y (.memberTail e') s2 R n → Stable v Y (.memberTail r) s1 R (n + c)) :
    C7 v Y e' (tr ++ d :: step) := by
  intro cm s s2 s' R n hcm hn1 h h2 hs K
  obtain ⟨s1, h1, hst⟩ := h.append
  have hty : d.type ≠ cTypeCommaSep ∧ d.type ≠ cTypeGetResultW ∧ d.type ≠ cTypePauseCommaSep := by
    simp only [List.mem_cons, List.not_mem_nil, or_false] at hd
    rcases hd with h | h | h <;> rw [h] <;> decide
  have hsr : Stops (cTypeGetResultW :: FO r) s1 :=
    hst.stops hty.1 fun hm => (List.mem_cons.mp hm).elim hty.2.1 fun hm => hty.2.2 (FO_sub r _ hm)
  refine Stable.mono (Cr.nil R (n + 1 + c) (by omega) h1 hsr
    (hstep s1 s2 R (n + 1) (by omega) hst (tail_comma hcm h2 hs.1 hn1 K))) ?_
  unfold D
  simp only [List.length_append, List.length_cons]
  omega

/-- fuel for the list-like nodes: a whole expression (`+ 16`) and the four steps of the loop around it -/
def fN (ts : List Token) : Nat := 16 * ts.length + 20

/-- `parsePauseCommaList(ParseExpression)` on `e1、e2、…` -/
def ArgsClaim (v : Variant) (Y : Layout) (es : List Expr) (ts : List Token) : Prop :=
  ∀ s s' acc, Reads Y s ts s' → Stops (cTypePauseCommaSep :: B1 true) s' →
    Stable v Y (.commaExprs acc) s (.ok (acc ++ es) s') (fN ts)

/-- `ParseFuncCallExpr` on `f：a、b）` / `f）` with fuel `j + 1`, `16 * tc.length ≤ j`, comes to its optional 得到 after the `）`; and
`ParseObjNewExpr` on the same tokens.  (`case_call` has `16 * tc.length + 16` units for the whole of `（f）`, which is why the bound
is this and not `fN tc`.) -/
def FcallClaim (v : Variant) (Y : Layout) (n : Ident) (ps : List Expr) (tc : List Token) : Prop :=
  (∀ (yr : Bool) s s' j, 16 * tc.length ≤ j → Reads Y s tc s' →
    parse v (layoutOps Y) (j + 1) (.funcCall yr) s =
      ((if yr then optYield v (layoutOps Y) j else pure none) >>= fun y => pure (Expr.call 0 (some n) ps y)) s') ∧
  (∀ s s', Reads Y s tc s' → Stable v Y .objNew s (.ok (.new 0 (some n) ps) s') (fN tc))

/-- the loop `{ 、（ call }` of a method-call chain; an optional comma after the chain is swallowed -/
def CChain (v : Variant) (Y : Layout) (cs : List Expr) (tcs : List Token) : Prop :=
  ∀ cm s s1 s' acc, CommaOpt cm → Reads Y s tcs s1 → Reads Y s1 cm s' → Stops [cTypePauseCommaSep] s' →
    Stable v Y (.chainLoop acc) s (.ok (acc ++ cs) s') (fN tcs)

/-- the loop of a list literal on the items after the first one, up to and including `】` -/
def CItems (v : Variant) (Y : Layout) (es : List Expr) (ts : List Token) : Prop :=
  ts ≠ [] → ∀ s s1 s' (rb : Token) acc, rb.type = cTypeArrayQuoteR → Reads Y s ts s1 → Reads Y s1 [rb] s' →
    Stable v Y (.arrayLoop acc) s (.ok (.arr 0 (acc ++ es)) s') (fN ts)

/-- the loop of a dictionary literal on the pairs after the first one, up to and including `】` -/
def CKvs (v : Variant) (Y : Layout) (kvs : List (Expr × Expr)) (ts : List Token) : Prop :=
  ∀ s s1 s' (rb : Token) acc, rb.type = cTypeArrayQuoteR → Reads Y s ts s1 → Reads Y s1 [rb] s' →
    Stable v Y (.hashLoop acc) s (.ok (.hm 0 (acc ++ kvs)) s') (fN ts)

end ZnVerif.Proofs.StmtRT
