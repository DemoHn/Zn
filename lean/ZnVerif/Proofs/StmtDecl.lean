/-
Token-level round trip with layout, part 6: function bodies (输入 line, statements, 拦截 handlers), 如何 / 如何新建 declarations,
定义 with its members.
-/
import ZnVerif.Proofs.StmtBlock

namespace ZnVerif.Proofs.StmtRT
open ZnVerif.Model ZnVerif.Model.Parser ZnVerif.Generated.Tokens ZnVerif.Generated.ParserTables
open ZnVerif.Spec.StmtSyntax

variable {Y : Layout} {v : Variant}

/-- `ParseExecBlock`'s loop in its statement / handler state on a move over a rendering of the handlers `cs` -/
def CHandlers (v : Variant) (Y : Layout) (d : Nat) (cs : List (Option Ident × Option (List Stmt))) (ts : List Token) : Prop :=
  ∀ s s' st inputs stmts catches, (st = ExSt.stmt ∨ st = ExSt.catch_) → Walk Y false s ts s' → (ts ≠ [] → s'.flag = true) →
    BlockEnd Y d s' →
    Stable v Y (.execLoop d st inputs stmts catches) s (.ok (.mk inputs (some stmts) (catches ++ cs)) s') (16 * ts.length + 22)

/-- `ParseExecBlock` on a move over a rendering of the body `x`, from a state whose flag is unset -/
def CExec (v : Variant) (Y : Layout) (d : Nat) (x : ExecBlock) (ts : List Token) : Prop :=
  ∀ s s', Walk Y false s ts s' → s.flag = false → s'.flag = true → BlockEnd Y d s' →
    Stable v Y (.execBlock d) s (.ok x s') (16 * ts.length + 48)

/-- `ParseClassDeclareStmt`'s loop on a move over a rendering of the members -/
def CMembers (v : Variant) (Y : Layout) (d : Nat) (ps : List (Option Ident × Expr)) (ms gs : List Stmt) (ts : List Token) : Prop :=
  ∀ s s' props methods getters, Walk Y false s ts s' → (ts ≠ [] → s'.flag = true) → BlockEnd Y d s' →
    Stable v Y (.classLoop d props methods getters) s (.ok (props ++ ps, methods ++ ms, getters ++ gs) s') (16 * ts.length + 22)

theorem hand_nil (d : Nat) : CHandlers v Y d [] [] := by
  intro s s' st inputs stmts catches hst hw _ hf
  refine stable_of 1 (by omega) fun m hn => ?_
  obtain rfl := hw.nil
  refine andThen (getS_S _) ?_
  have hsti : ¬ st = ExSt.input := by rcases hst with rfl | rfl <;> decide
  simp only [hf.cond, Bool.false_eq_true, if_false, hsti, List.append_nil]
  rfl

/-- `name：` and the block after it: what `ParseCatchErrorStmt` reads after 拦截 -/
theorem catch_rt {d : Nat} {cls colon : Token} {b : List Stmt} {tb : List Token}
    (hcls : cls.type = cTypeIdentifier) (hcol : colon.type = cTypeFuncCall)
    (hind : Y.ind colon = d) (hne : tb ≠ []) (hH : Heads Y (d + 1) stmtHeads tb) (hB : CLoop v Y (d + 1) b tb)
    {s s2 s3 : PState (List Token)} (h : Reads Y s [cls, colon] s2) (h3 : Walk Y false s2 tb s3) (hb : s3.flag = true)
    (hf : BlockEnd Y (d + 1) s3) (m : Nat) (hm : 16 * tb.length + 23 ≤ m + 1) :
    parse v (layoutOps Y) (m + 2) .catchStmt s = .ok (some (Y.idOf cls), some b) s3 := by
  obtain ⟨s1, h1, h2⟩ := h.cons
  obtain ⟨k2, k3, k4⟩ := colon_block (v := v) hcol hind hne hH hB h2 h3 hb hf (m + 1) hm
  exact andThen (parseID_reads m hcls h1) (andThen k2 (andThen k3 (andThen k4 rfl)))

theorem hand_cons {d : Nat} {kw cls colon : Token} {b : List Stmt} {tb : List Token}
    {cs : List (Option Ident × Option (List Stmt))} {tc : List Token}
    (hk : kw.type = cTypeCatchErrorW) (hcls : cls.type = cTypeIdentifier) (hcol : colon.type = cTypeFuncCall)
    (hg : Y.Glued [kw, cls, colon]) (hik : Y.ind kw = d) (hind : Y.ind colon = d) (hne : tb ≠ [])
    (hH : Heads Y (d + 1) stmtHeads tb) (hB : CLoop v Y (d + 1) b tb) (hC : CHandlers v Y d cs tc)
    (hHc : Heads Y d [cTypeCatchErrorW] tc) (hsep : Y.Sep tb tc) :
    CHandlers v Y d ((some (Y.idOf cls), some b) :: cs) (kw :: cls :: colon :: (tb ++ tc)) := by
  intro s s' st inputs stmts catches hst hw hb hf
  refine stable_of 3 (by omega) fun m hn => ?_
  simp only [List.length_cons, List.length_append] at hn
  obtain ⟨s0, s2, h0, hr, hw⟩ := Walk.header [cls, colon] (b := tb ++ tc) hw hg
  obtain ⟨s3, h3, h4⟩ := hw.append
  have hfl' := hb (by simp)
  have hfl := flag_mid h3 h4 hne hsep fun _ => hfl'
  obtain ⟨hp, hi⟩ := h0.peek (by simp)
  refine andThen (getS_S _) ?_
  rw [if_pos (blockCond_peek (s := s) (by rw [hp]; show kw.type ≠ _; rw [hk]; decide) (hi.trans hik))]
  -- the statement state and the handler state read a handler in the same way
  rcases hst with rfl | rfl <;>
  · refine andThen rfl (andThen (tryConsume_tok (m + 1) hk h0.unset) (andThen
      (catch_rt (v := v) hcls hcol hind hne hH hB hr h3 hfl (blockEnd_mid h4 hHc (by decide) hf.toStmt.inner) m (by omega))
      ((hC s3 s' .catch_ inputs stmts (catches ++ [(some (Y.idOf cls), some b)]) (Or.inr rfl) h4 (fun _ => hfl') hf (m + 2)
        (by omega)).trans ?_)))
    rw [List.append_assoc]
    rfl

theorem body_head {d : Nat} {tb tc : List Token} (hHb : Heads Y d stmtHeads tb) (hHc : Heads Y d [cTypeCatchErrorW] tc)
    (hne : tb ++ tc ≠ []) :
    (Y.peek (tb ++ tc)).type ∈ cTypeCatchErrorW :: stmtHeads ∧ Y.ind (Y.peek (tb ++ tc)) = d := by
  by_cases h : tb = []
  · subst h
    have h2 : tc ≠ [] := by simpa using hne
    have := hHc h2
    simp only [List.nil_append]
    exact ⟨by have := this.1; simp only [List.mem_cons, List.not_mem_nil, or_false] at this; simp [this], this.2⟩
  · rw [peek_append h]
    have := hHb h
    exact ⟨List.mem_cons_of_mem _ this.1, this.2⟩

theorem bodyHeads_spec : ∀ ty ∈ cTypeCatchErrorW :: stmtHeads, ty ≠ cTypeEOF ∧ ty ≠ cTypeCommaSep := by decide

/-- statements, then handlers: the loop in its statement state -/
theorem exec_stmts {d : Nat} {body : List Stmt} {tb : List Token} {cs : List (Option Ident × Option (List Stmt))}
    {tc : List Token} (hBb : CLoop v Y d body tb) (hC : CHandlers v Y d cs tc) (hHc : Heads Y d [cTypeCatchErrorW] tc)
    (hsep : Y.Sep tb tc) {s s' : PState (List Token)} (inputs : List Ident) (hw : Walk Y false s (tb ++ tc) s')
    (hb : tb ++ tc ≠ [] → s'.flag = true) (hf : BlockEnd Y d s') :
    Stable v Y (.execLoop d .stmt inputs [] []) s (.ok (.mk inputs (some body) cs) s')
      (16 * tc.length + 22 + (16 * tb.length + 21)) := by
  obtain ⟨s1, h1, h2⟩ := hw.append
  exact hBb _ (execLoop_loop d inputs) s s1 [] _ _ h1 (fun h => flag_mid h1 h2 h hsep hb)
    (stmtEnd_mid h2 hHc (by decide) hf.toStmt)
    (hC s1 s' .stmt inputs body [] (Or.inl rfl) h2 (fun h => hb (by simp [h])) hf)

theorem execLoop_noInput {d : Nat} (m : Nat) {s : PState (List Token)} (inputs : List Ident)
    (hhd : s.p2.type ∈ cTypeCatchErrorW :: stmtHeads ∧ peekIndentOf (layoutOps Y) s = d) :
    parse v (layoutOps Y) (m + 1) (.execLoop d .input inputs [] []) s =
      parse v (layoutOps Y) m (.execLoop d .stmt inputs [] []) s := by
  refine andThen (getS_S _) ?_
  rw [if_pos (blockCond_peek (bodyHeads_spec _ hhd.1).1 hhd.2)]
  exact andThen (tryConsume_stops m (.of_mem hhd.1)) rfl

theorem exec_plain {d : Nat} {body : List Stmt} {tb : List Token} {cs : List (Option Ident × Option (List Stmt))}
    {tc : List Token} (hBb : CLoop v Y d body tb) (hHb : Heads Y d stmtHeads tb) (hC : CHandlers v Y d cs tc)
    (hHc : Heads Y d [cTypeCatchErrorW] tc) (hsep : Y.Sep tb tc) (hne : tb ++ tc ≠ []) :
    CExec v Y d (.mk [] (some body) cs) (tb ++ tc) := by
  intro s s' hw _ hfl hf
  refine stable_of 2 (by omega) fun m hn => ?_
  simp only [List.length_append] at hn
  have hhd := body_head hHb hHc hne
  obtain ⟨hp, hi⟩ := hw.peek hne
  show parse v (layoutOps Y) (m + 1) (.execLoop d .input [] [] []) _ = _
  rw [execLoop_noInput m [] ⟨hp ▸ hhd.1, hi.trans hhd.2⟩, exec_stmts (v := v) hBb hC hHc hsep [] hw (fun _ => hfl) hf m (by omega)]

theorem exec_input {d : Nat} {kw : Token} {ids : List Ident} {ti : List Token} {body : List Stmt} {tb : List Token}
    {cs : List (Option Ident × Option (List Stmt))} {tc : List Token}
    (hk : kw.type = cTypeInputW) (hi : LinIds Y ids ti) (hg : Y.Glued (kw :: ti)) (hik : Y.ind kw = d)
    (hBb : CLoop v Y d body tb) (hHb : Heads Y d stmtHeads tb) (hC : CHandlers v Y d cs tc)
    (hHc : Heads Y d [cTypeCatchErrorW] tc) (hsep0 : Y.Sep (kw :: ti) (tb ++ tc)) (hsep : Y.Sep tb tc) (hne : tb ++ tc ≠ []) :
    CExec v Y d (.mk ids (some body) cs) (kw :: ti ++ (tb ++ tc)) := by
  intro s s' hw hs0 hfl hf
  refine stable_of 4 (by omega) fun m hn => ?_
  simp only [List.length_cons, List.length_append] at hn
  obtain ⟨s1, hr, hw2⟩ := Walk.reads (kw :: ti) (b := tb ++ tc) hw hs0 hg
  obtain ⟨s0, h0, h1⟩ := hr.cons
  have hhd := body_head hHb hHc hne
  obtain ⟨hp, hi1⟩ := hw2.peek hne
  have hhd1 : s1.p2.type ∈ cTypeCatchErrorW :: stmtHeads ∧ peekIndentOf (layoutOps Y) s1 = d := ⟨hp ▸ hhd.1, hi1.trans hhd.2⟩
  have hfl1 := flag_mid hr.weaken hw2 (by simp) hsep0 fun _ => hfl
  obtain ⟨hp0, hi0⟩ := h0.peek (by simp)
  refine andThen (getS_S _) ?_
  rw [if_pos (blockCond_peek (s := s) (by rw [hp0]; show kw.type ≠ _; rw [hk]; decide) (hi0.trans hik))]
  exact andThen (tryConsume_tok (m + 1) hk h0)
    (andThen (ids_roundtrip (v := v) hi s0 s1 [] h1 ⟨(bodyHeads_spec _ hhd1.1).2, Or.inl hfl1⟩ (m + 2) (by omega))
      ((execLoop_noInput (m + 1) _ hhd1).trans
        (exec_stmts (v := v) hBb hC hHc hsep ([] ++ ids) hw2 (fun _ => hfl) hf (m + 1) (by omega))))

/-- `parseFunctionBlock`: name, `？`, the body one step deeper -/
theorem functionBlock_rt {d : Nat} {name q : Token} {x : ExecBlock} {tx : List Token}
    (hname : name.type = cTypeIdentifier) (hq : q.type = cTypeFuncDeclare) (hind : Y.ind q = d)
    (hne : tx ≠ []) (hpx : (Y.peek tx).type ≠ cTypeEOF ∧ Y.ind (Y.peek tx) = d + 1) (hX : CExec v Y (d + 1) x tx)
    {s s2 s' : PState (List Token)} (h : Reads Y s [name, q] s2) (hw : Walk Y false s2 tx s') (hfl : s'.flag = true)
    (hf : BlockEnd Y (d + 1) s') (m : Nat) (hm : 16 * tx.length + 48 ≤ m + 1) :
    parse v (layoutOps Y) (m + 2) .functionBlock s = .ok (Y.idOf name, x) s' := by
  obtain ⟨s1, h1, h2⟩ := h.cons
  obtain ⟨hp, hi⟩ := hw.peek hne
  exact andThen (parseID_reads m hname h1) (andThen (consume_tok m hq h2)
    (andThen (expectBlockIndent_reads h2 hind (hi.trans hpx.2))
      (andThen (hX s2 s' hw (h2.flag_open (by rw [hq]; decide) (hp ▸ hpx.1)) hfl hf (m + 1) hm) rfl)))

theorem stmt_func {d : Nat} {kw name q : Token} {x : ExecBlock} {tx : List Token}
    (hk : kw.type = cTypeFuncW) (hname : name.type = cTypeIdentifier) (hq : q.type = cTypeFuncDeclare)
    (hg : Y.Glued [kw, name, q]) (hind : Y.ind q = d) (hne : tx ≠ [])
    (hpx : (Y.peek tx).type ≠ cTypeEOF ∧ Y.ind (Y.peek tx) = d + 1) (hX : CExec v Y (d + 1) x tx) :
    CStmt v Y d (.funcDecl (Y.sl kw) (some (Y.idOf name)) cDeclareTypeFunc (some x)) (kw :: name :: q :: tx) := by
  intro s s' hw hfl ha
  refine stable_of 4 (by omega) fun m hn => ?_
  simp only [List.length_cons] at hn
  obtain ⟨s0, s2, h0, hr, hw⟩ := Walk.header [name, q] (b := tx) hw hg
  exact statement_kw (v := v) (m + 2) (.funcDecl 0 (some (Y.idOf name)) cDeclareTypeFunc (some x)) hk h0 (Or.inl hfl)
    (andThen (tryConsume_stops (m + 3) (hr.stops_tok hname))
      (andThen (functionBlock_rt (v := v) hname hq hind hne hpx hX hr hw hfl ha.inner (m + 1) (by omega)) rfl))

theorem stmt_ctor {d : Nat} {kw nw name q : Token} {x : ExecBlock} {tx : List Token}
    (hk : kw.type = cTypeFuncW) (hnw : nw.type = cTypeObjNewW) (hname : name.type = cTypeIdentifier)
    (hq : q.type = cTypeFuncDeclare) (hg : Y.Glued [kw, nw, name, q]) (hind : Y.ind q = d) (hne : tx ≠ [])
    (hpx : (Y.peek tx).type ≠ cTypeEOF ∧ Y.ind (Y.peek tx) = d + 1) (hX : CExec v Y (d + 1) x tx) :
    CStmt v Y d (.funcDecl (Y.sl kw) (some (Y.idOf name)) cDeclareTypeConstructor (some x)) (kw :: nw :: name :: q :: tx) := by
  intro s s' hw hfl ha
  refine stable_of 4 (by omega) fun m hn => ?_
  simp only [List.length_cons] at hn
  obtain ⟨s0, s3, h0, hr, hw⟩ := Walk.header [nw, name, q] (b := tx) hw hg
  obtain ⟨s1, h1, hr⟩ := hr.cons
  exact statement_kw (v := v) (m + 2) (.funcDecl 0 (some (Y.idOf name)) cDeclareTypeConstructor (some x)) hk h0 (Or.inl hfl)
    (andThen (tryConsume_tok (m + 2) hnw h1)
      (andThen (functionBlock_rt (v := v) hname hq hind hne hpx hX hr hw hfl ha.inner (m + 1) (by omega)) rfl))

theorem classChild_spec : ∀ ty ∈ classChildTypes, ty ≠ cTypeEOF ∧ ty ≠ cTypeCommaSep := by decide

theorem mem_nil (d : Nat) : CMembers v Y d [] [] [] [] := by
  intro s s' props methods getters hw _ hf
  refine stable_of 1 (by omega) fun m hn => ?_
  obtain rfl := hw.nil
  refine andThen (getS_S _) ?_
  simp only [hf.cond, Bool.false_eq_true, if_false, List.append_nil]
  rfl

/-- the loop of `ParseClassDeclareStmt` where a member starts: the keyword is consumed, its branch runs -/
theorem classLoop_kw {d : Nat} (m : Nat) {kw : Token} {s s1 : PState (List Token)}
    (props : List (Option Ident × Expr)) (methods getters : List Stmt)
    (hk : kw.type ∈ classChildTypes) (hik : Y.ind kw = d) (h : Walk Y false s [kw] s1) :
    parse v (layoutOps Y) (m + 2) (.classLoop d props methods getters) s =
      (if kw.type = cTypeFuncW then do
        let r ← parse v (layoutOps Y) (m + 1) .functionBlock
        parse v (layoutOps Y) (m + 1) (.classLoop d props (methods ++ [.funcDecl 0 (some r.1) cDeclareTypeFunc (some r.2)]) getters)
      else if kw.type = cTypeGetterW then do
        let r ← parse v (layoutOps Y) (m + 1) .functionBlock
        parse v (layoutOps Y) (m + 1) (.classLoop d props methods (getters ++ [.funcDecl 0 (some r.1) cDeclareTypeGetter (some r.2)]))
      else if kw.type = cTypeObjThisW then do
        let p ← parse v (layoutOps Y) (m + 1) .propertyDecl
        parse v (layoutOps Y) (m + 1) (.classLoop d (props ++ [p]) methods getters)
      else parse v (layoutOps Y) (m + 1) (.classLoop d props methods getters)) s1 := by
  have hs := classChild_spec _ hk
  obtain ⟨hp, hi⟩ := h.peek (by simp)
  refine andThen (getS_S _) ?_
  rw [if_pos (blockCond_peek (s := s) (hp ▸ hs.1) (hi.trans hik))]
  exact andThen rfl (andThen (tryConsume_reads m hk hs.2 h.unset) rfl)

theorem mem_prop {d : Nat} {kw name asg : Token} {e : Expr} {te : List Token} {ps : List (Option Ident × Expr)}
    {ms gs : List Stmt} {tm : List Token}
    (hk : kw.type = cTypeObjThisW) (hname : name.type = cTypeIdentifier) (hasg : asg.type ∈ [cTypeAssignW, cTypeAssignMark])
    (he : LinE Y 1 e te) (hg : Y.Glued (kw :: name :: asg :: te)) (hik : Y.ind kw = d) (hM : CMembers v Y d ps ms gs tm)
    (hHm : Heads Y d classChildTypes tm) (hsep : Y.Sep (kw :: name :: asg :: te) tm) :
    CMembers v Y d ((some (Y.idOf name), e) :: ps) ms gs (kw :: name :: asg :: te ++ tm) := by
  intro s s' props methods getters hw hb hf
  refine stable_of 3 (by omega) fun m hn => ?_
  simp only [List.length_cons, List.length_append] at hn
  obtain ⟨s0, s3, h0, hr, h4⟩ := Walk.header (name :: asg :: te) (b := tm) (by simpa using hw) hg
  have hfl' := hb (by simp)
  have hfl := flag_mid (t1 := kw :: name :: asg :: te) (Walk.trans (a := [kw]) h0 hr.weaken) h4 (by simp) hsep fun _ => hfl'
  obtain ⟨s1, h1, hr⟩ := hr.cons
  obtain ⟨s2, h2, h3⟩ := hr.cons
  have hasgc : asg.type ≠ cTypeCommaSep := by
    intro hh; rw [hh] at hasg; revert hasg; decide
  rw [classLoop_kw (m + 1) props methods getters (by rw [hk]; decide) hik h0]
  simp (decide := true) only [hk, if_false, if_true]
  have hprop : parse v (layoutOps Y) (m + 2) .propertyDecl s0 = .ok (some (Y.idOf name), e) s3 :=
    andThen (parseID_reads m hname h1) (andThen (consume_reads m hasg hasgc h2)
      (andThen (expr_reads (v := v) he h3 ⟨(stmtEnd_mid h4 hHm (by decide) hf.toStmt).nc, Or.inl hfl⟩ (m + 1) (by omega)) rfl))
  refine andThen hprop ((hM s3 s' (props ++ [(some (Y.idOf name), e)]) methods getters h4 (fun _ => hfl') hf (m + 2) (by omega)).trans ?_)
  rw [List.append_assoc]
  rfl

/-- a method (`如何`) or a getter (`何为`) of a class: `ParseClassDeclareStmt`'s loop reads the function block and goes on with
the node appended to the methods, or to the getters -/
theorem mem_func {d : Nat} {kw name q : Token} {x : ExecBlock} {tx : List Token} {ps : List (Option Ident × Expr)}
    {ms gs : List Stmt} {tm : List Token} (g : Bool)
    (hk : kw.type = if g then cTypeGetterW else cTypeFuncW) (hname : name.type = cTypeIdentifier) (hq : q.type = cTypeFuncDeclare)
    (hg : Y.Glued [kw, name, q]) (hik : Y.ind kw = d) (hind : Y.ind q = d) (hne : tx ≠ [])
    (hpx : (Y.peek tx).type ≠ cTypeEOF ∧ Y.ind (Y.peek tx) = d + 1) (hX : CExec v Y (d + 1) x tx)
    (hM : CMembers v Y d ps ms gs tm) (hHm : Heads Y d classChildTypes tm) (hsep : Y.Sep tx tm) :
    CMembers v Y d ps
      (if g then ms else .funcDecl 0 (some (Y.idOf name)) cDeclareTypeFunc (some x) :: ms)
      (if g then .funcDecl 0 (some (Y.idOf name)) cDeclareTypeGetter (some x) :: gs else gs) (kw :: name :: q :: (tx ++ tm)) := by
  intro s s' props methods getters hw hb hf
  refine stable_of 3 (by omega) fun m hn => ?_
  simp only [List.length_cons, List.length_append] at hn
  obtain ⟨s0, s2, h0, hr, hw⟩ := Walk.header [name, q] (b := tx ++ tm) hw hg
  obtain ⟨s3, h3, h4⟩ := hw.append
  have hfl' := hb (by simp)
  have hfb := functionBlock_rt (v := v) hname hq hind hne hpx hX hr h3 (flag_mid h3 h4 hne hsep fun _ => hfl')
    (blockEnd_mid h4 hHm (fun ty h => (classChild_spec ty h).2) hf.toStmt.inner) m (by omega)
  rw [classLoop_kw (m + 1) props methods getters (by rw [hk]; cases g <;> decide) hik h0]
  cases g
  · simp only [hk, Bool.false_eq_true, if_false, if_true]
    refine andThen hfb ((hM s3 s' props _ getters h4 (fun _ => hfl') hf (m + 2) (by omega)).trans ?_)
    rw [List.append_assoc]
    rfl
  · simp (decide := true) only [hk, if_false, if_true]
    refine andThen hfb ((hM s3 s' props methods _ h4 (fun _ => hfl') hf (m + 2) (by omega)).trans ?_)
    rw [List.append_assoc]
    rfl

theorem stmt_class {d : Nat} {kw name colon : Token} {ps : List (Option Ident × Expr)} {ms gs : List Stmt} {tm : List Token}
    (hk : kw.type = cTypeObjDefineW) (hname : name.type = cTypeIdentifier) (hcol : colon.type = cTypeFuncCall)
    (hg : Y.Glued [kw, name, colon]) (hind : Y.ind colon = d) (hne : tm ≠ []) (hM : CMembers v Y (d + 1) ps ms gs tm)
    (hHm : Heads Y (d + 1) classChildTypes tm) :
    CStmt v Y d (.classDecl (Y.sl kw) (some (Y.idOf name)) ps ms gs) (kw :: name :: colon :: tm) := by
  intro s s' hw hfl ha
  refine stable_of 4 (by omega) fun m hn => ?_
  simp only [List.length_cons] at hn
  obtain ⟨s0, s2, h0, hr, hw⟩ := Walk.header [name, colon] (b := tm) hw hg
  obtain ⟨s1, h1, h2⟩ := hr.cons
  exact statement_kw (v := v) (m + 2) (.classDecl 0 (some (Y.idOf name)) ps ms gs) hk h0 (Or.inl hfl)
    (andThen (parseID_reads (m + 1) hname h1) (andThen (consume_tok (m + 1) hcol h2)
      (andThen (expectBlockIndent_reads h2 hind (hHm.at hw hne).2)
        (andThen (hM s2 s' [] [] [] hw (fun _ => hfl) ha.inner (m + 2) (by omega)) rfl))))

end ZnVerif.Proofs.StmtRT
