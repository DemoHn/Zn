/-
The production lemmas of `step_good`, part 2: ParseBasicExpr, arrays / dictionaries, calls, method chains, 新建.
-/
import ZnVerif.Proofs.ParserGood

namespace ZnVerif.Proofs.ParserGood
open ZnVerif.Model ZnVerif.Model.Parser ZnVerif.Generated.Tokens ZnVerif.Generated.ParserTables
open ZnVerif.Spec.Grammar ZnVerif.Proofs.ParserHoare

variable {σ : Type} {ops : LexOps σ} {B : Nat} {μ : σ → Nat} {I : σ → Prop} (hl : LexOK ops B μ I) {n : Nat} {rec : Rec σ}
  (hg : Good ops B μ I n rec)
include hl hg

omit hg in
theorem optYield_bind {nt : NT} {s0 s : PState σ} {c : Bool} {α : Type} {Q : α → PState σ → Prop} {f : Option Ident → PM σ α}
    (a : At ops B μ I s0 s c) (hk : ∀ y s', At ops B μ I s0 s' c → Sat (f y s') Q (ErrOK B) (n + 1 < need μ nt s0)) :
    Sat ((optYield Variant.fixed ops n >>= f) s) Q (ErrOK B) (n + 1 < need μ nt s0) := by
  refine sat_bind.mpr ?_
  apply tryConsume_bind hl a (by decide)
  · intro s1 a1 _
    exact hk none s1 a1
  · intro tk s1 a1 _
    apply parseID_bind hl a1
    intro i s2 a2
    exact hk (some i) s2 a2.weaken

theorem pBasic_good : GoodAt ops B μ I (n + 1) .basic (pBasic Variant.fixed ops n rec) := by
  intro s hs _
  apply tryConsume_bind hl (.refl hs) (by decide)
  · intro s1 a1 _
    exact errPeek_sat a1.inv (by decide)
  · intro tk s1 a1 hmem
    -- whatever the branch returns gets its line set
    have fin : ∀ e s2, At ops B μ I s s2 true → CExpr e →
        Sat ((do let l ← lineOf ops tk; pure (e.setLine l) : PM σ Expr) s2) (Post ops B μ I .basic s) (ErrOK B)
          (n + 1 < need μ .basic s) :=
      fun e s2 a2 hc => lineOf_bind fun l => a2.post (cexpr_setLine l hc)
    refine sat_bind.mpr ?_
    refine sat_ite.mpr ⟨fun _ => ?_, fun _ => sat_ite.mpr ⟨fun _ => ?_, fun _ => sat_ite.mpr ⟨fun _ => ?_, fun _ =>
      sat_ite.mpr ⟨fun _ => ?_, fun _ => sat_ite.mpr ⟨fun _ => ?_, fun _ => sat_ite.mpr ⟨fun _ => ?_, fun _ => ?_⟩⟩⟩⟩⟩⟩
    · exact sat_bind.mpr (newID_sat fun i => fin _ s1 a1 (.id _))
    · apply newString_sat
      intro l' str
      exact fin _ s1 a1 (.str _ _)
    · apply hg.callS a1 .array rfl trivial (Or.inl rfl)
      intro e s2 a2 hc2
      exact fin e s2 a2 hc2
    · apply hg.bindS a1 (.expr true) rfl trivial (Or.inl rfl)
      intro e s2 a2 hc2
      apply consume_bind hl a2 (by decide)
      intro s3 a3
      exact fin e s3 a3 hc2
    · apply tryConsume_bind hl a1 (by decide)
      · intro s2 a2 _
        apply hg.callS a2 (.funcCall true) rfl trivial (Or.inl rfl)
        intro e s3 a3 hc3
        exact fin e s3 a3 (ccall_cexpr hc3)
      · intro tk2 s2 a2 _
        apply hg.callS a2 .objNew rfl trivial (Or.inl rfl)
        intro e s3 a3 hc3
        exact fin e s3 a3 hc3
    · apply hg.callS a1 .memberFuncCall rfl trivial (Or.inl rfl)
      intro e s2 a2 hc2
      exact fin e s2 a2 hc2
    · -- unreachable: the token type is one of the six
      exfalso
      simp only [basicValidTypes, List.mem_cons, List.not_mem_nil, or_false] at hmem
      simp only [cTypeIdentifier, cTypeString, cTypeArrayQuoteL, cTypeStmtQuoteL, cTypeFuncQuoteL, cTypeVarOneW] at *
      omega

theorem pArrayNonEmpty_good {s s0 : PState σ} {c : Bool} (a : At ops B μ I s0 s c) :
    Sat (pArrayNonEmpty ops n rec s) (Post ops B μ I .array s0) (ErrOK B) (n + 1 < need μ .array s0) := by
  apply hg.bindS a (.expr false) rfl trivial (Or.inr (by simp [rank]))
  intro e1 s1 a1 hc1
  apply tryConsume_bind hl a1 (by decide)
  · intro s2 a2 _
    apply hg.callS a2 (.arrayLoop [e1]) rfl (List.forall_mem_singleton.mpr hc1) (Or.inl rfl)
    intro r s3 a3 hc3
    exact a3.post hc3
  · intro tk s2 a2 _
    refine sat_ite.mpr ⟨fun _ => a2.post (.arr _ _ (List.forall_mem_singleton.mpr hc1)), fun _ => sat_ite.mpr ⟨fun _ => ?_, fun _ => ?_⟩⟩
    · apply hg.bindS a2 (.expr false) rfl trivial (Or.inl rfl)
      intro r s3 a3 hc3
      refine sat_bind.mpr ?_
      apply hg.callS (a3.flag false) (.hashLoop [(e1, r)]) rfl (List.forall_mem_singleton.mpr ⟨hc1, hc3⟩) (Or.inl rfl)
      intro r' s4 a4 hc4
      exact a4.post hc4
    · apply hg.callS a2 (.arrayLoop []) rfl (by intro e he; simp at he) (Or.inl rfl)
      intro r s3 a3 hc3
      exact a3.post hc3

theorem pArray_good : GoodAt ops B μ I (n + 1) .array (pArray Variant.fixed ops n rec) := by
  intro s hs _
  apply tryConsume_bind hl (.refl hs) (by decide)
  · intro s1 a1 _
    exact pArrayNonEmpty_good hl hg a1
  · intro tk s1 a1 _
    refine sat_ite.mpr ⟨fun _ => ?_, fun _ => sat_ite.mpr ⟨fun _ => ?_, fun _ => pArrayNonEmpty_good hl hg a1⟩⟩
    · exact lineOf_bind fun l => a1.post (.arr _ _ (by intro e he; simp at he))
    · apply consume_bind hl a1 (by decide)
      intro s2 a2
      exact lineOf_bind fun l => a2.post (.hm _ _ (by intro e he; simp at he) (by intro e he; simp at he))

theorem pArrayLoop_good (items : List Expr) : GoodAt ops B μ I (n + 1) (.arrayLoop items) (pArrayLoop ops n rec items) := by
  intro s hs (hpre : ∀ e ∈ items, CExpr e)
  apply hg.bindS (.refl hs) (.expr false) rfl trivial (Or.inr (by simp [rank]))
  intro e s1 a1 hc1
  have hall : ∀ x ∈ items ++ [e], CExpr x := mem_snoc hpre hc1
  apply tryConsume_bind hl a1 (by decide)
  · intro s2 a2 _
    apply hg.callS a2 (.arrayLoop _) rfl hall (Or.inl rfl)
    intro r s3 a3 hc3
    exact a3.post hc3
  · intro tk s2 a2 _
    exact a2.post (.arr _ _ hall)

theorem pHashLoop_good (kvs : List (Expr × Expr)) :
    GoodAt ops B μ I (n + 1) (.hashLoop kvs) (pHashLoop Variant.fixed ops n rec kvs) := by
  intro s hs (hpre : ∀ kv ∈ kvs, CExpr kv.1 ∧ CExpr kv.2)
  apply tryConsume_bind hl (.refl hs) (by decide)
  · intro s1 a1 _
    apply hg.bindS a1 (.expr false) rfl trivial (Or.inr (by simp [rank]))
    intro k s2 a2 hc2
    apply consume_bind hl a2 (by decide)
    intro s3 a3
    apply hg.bindS a3 (.expr false) rfl trivial (Or.inl rfl)
    intro x s4 a4 hc4
    refine sat_bind.mpr ?_
    apply hg.callS (a4.flag false) (.hashLoop _) rfl (mem_snoc (a := (k, x)) hpre ⟨hc2, hc4⟩) (Or.inl rfl)
    intro r s5 a5 hc5
    exact a5.post hc5
  · intro tk s1 a1 _
    exact a1.post (.hm _ _ (fun kv h => (hpre kv h).1) (fun kv h => (hpre kv h).2))

theorem pFuncCall_good (y : Bool) : GoodAt ops B μ I (n + 1) (.funcCall y) (pFuncCall Variant.fixed ops n rec y) := by
  intro s hs _
  apply parseID_bind hl (.refl hs)
  intro name s1 a1
  -- after the parameter list
  have rest : ∀ ps s2, At ops B μ I s s2 true → (∀ p ∈ ps, CExpr p) →
      Sat ((do
        consume Variant.fixed ops n [cTypeFuncQuoteR]
        let y ← (if y then optYield Variant.fixed ops n else pure none)
        pure (Expr.call 0 (some name) ps y) : PM σ Expr) s2)
        (Post ops B μ I (.funcCall y) s) (ErrOK B) (n + 1 < need μ (.funcCall y) s) := by
    intro ps s2 a2 hps
    apply consume_bind hl a2 (by decide)
    intro s3 a3
    cases y
    · exact a3.post (.mk _ _ _ _ hps)
    · apply optYield_bind hl a3
      intro yv s4 a4
      exact a4.post (.mk _ _ _ _ hps)
  refine sat_bind.mpr ?_
  apply tryConsume_bind hl a1 (by decide)
  · intro s2 a2 _
    exact rest [] s2 a2 (by intro p hp; simp at hp)
  · intro tk s2 a2 _
    apply hg.callS a2 (.commaExprs []) rfl (by intro p hp; simp at hp) (Or.inl rfl)
    intro ps s3 a3 hc3
    exact rest ps s3 a3 hc3.2

theorem pCommaExprs_good (acc : List Expr) : GoodAt ops B μ I (n + 1) (.commaExprs acc) (pCommaExprs ops n rec acc) := by
  intro s hs (hpre : ∀ e ∈ acc, CExpr e)
  apply hg.bindS (.refl hs) (.expr true) rfl trivial (Or.inr (by simp [rank]))
  intro e s1 a1 hc1
  have hall : ∀ x ∈ acc ++ [e], CExpr x := mem_snoc hpre hc1
  apply tryConsume_bind hl a1 (by decide)
  · intro s2 a2 _
    exact a2.post ⟨by simp, hall⟩
  · intro tk s2 a2 _
    apply hg.callS a2 (.commaExprs _) rfl hall (Or.inl rfl)
    intro r s3 a3 hc3
    exact a3.post hc3

theorem pCommaIds_good (acc : List Ident) : GoodAt ops B μ I (n + 1) (.commaIds acc) (pCommaIds Variant.fixed ops n rec acc) := by
  intro s hs _
  apply parseID_bind hl (.refl hs)
  intro i s1 a1
  apply tryConsume_bind hl a1 (by decide)
  · intro s2 a2 _
    exact a2.post (by show acc ++ [i] ≠ []; simp)
  · intro tk s2 a2 _
    apply hg.callS a2 (.commaIds _) rfl trivial (Or.inl rfl)
    intro r s3 a3 hc3
    exact a3.post hc3

theorem pChainLoop_good (chain : List Expr) :
    GoodAt ops B μ I (n + 1) (.chainLoop chain) (pChainLoop Variant.fixed ops n rec chain) := by
  intro s hs (hpre : chain ≠ [] ∧ ∀ f ∈ chain, CCall f)
  apply tryConsume_bind hl (.refl hs) (by decide)
  · intro s1 a1 _
    exact a1.post_le rfl (fun h => h.elim) hpre
  · intro tk s1 a1 _
    apply consume_bind hl a1 (by decide)
    intro s2 a2
    apply hg.bindS a2 (.funcCall false) rfl trivial (Or.inl rfl)
    intro f s3 a3 hc3
    apply hg.callN a3 (.chainLoop _) ⟨by simp, mem_snoc hpre.2 hc3⟩ (Or.inl rfl)
    intro r s4 a4 hc4
    exact a4.post hc4

theorem pMemberFuncCall_good : GoodAt ops B μ I (n + 1) .memberFuncCall (pMemberFuncCall Variant.fixed ops n rec) := by
  intro s hs _
  apply hg.bindS (.refl hs) (.expr true) rfl trivial (Or.inr (by simp [rank]))
  intro root s1 a1 hc1
  apply consume_bind hl a1 (by decide)
  intro s2 a2
  apply hg.bindS a2 (.funcCall false) rfl trivial (Or.inl rfl)
  intro f s3 a3 hc3
  apply hg.bindN a3 (.chainLoop [f]) ⟨by simp, List.forall_mem_singleton.mpr hc3⟩ (Or.inl rfl)
  intro chain s4 a4 hc4
  apply optYield_bind hl a4
  intro y s5 a5
  exact a5.post (.mcall _ _ _ _ hc1 hc4.1 hc4.2)

theorem pObjNew_good : GoodAt ops B μ I (n + 1) .objNew (pObjNew Variant.fixed ops n rec) := by
  intro s hs _
  apply parseID_bind hl (.refl hs)
  intro cls s1 a1
  apply tryConsume_bind hl a1 (by decide)
  · intro s2 a2 _
    apply consume_bind hl a2 (by decide)
    intro s3 a3
    exact a3.post (.new _ _ _ (by intro p hp; simp at hp))
  · intro tk s2 a2 _
    apply hg.bindS a2 (.commaExprs []) rfl (by intro p hp; simp at hp) (Or.inl rfl)
    intro ps s3 a3 hc3
    apply consume_bind hl a3 (by decide)
    intro s4 a4
    exact a4.post (.new _ _ _ hc3.2)

end ZnVerif.Proofs.ParserGood
