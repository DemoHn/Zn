/-
A `Run` (Proofs/LexRun.lean) step by step, with nothing about documents or renderings in it: what a `Run` asks of every step of the
lexer (`StepOK`, against the final line table `F`), a chain of such steps from a lexer on (`Steps`; what is passed inside the call that
answers a token does not show: `of_skip`), the chain read by index once its last answer repeats (`Steps.at`), and `lexAll` along a `Run`
(`lexAll_run`, `Run.lexAll`).
-/
import ZnVerif.Proofs.LexRun
import ZnVerif.Proofs.LexSegment

namespace ZnVerif.Proofs.RenderLex
open ZnVerif.Model ZnVerif.Generated.Tokens
open ZnVerif.Spec.StmtSyntax (Layout)
open ZnVerif.Proofs.LexRun

/-- from `l`, the token `t` — which starts on line `sl` — is answered and the lexer becomes `l'`; `F` is the final line table -/
structure StepOK (F : List LineInfo) (l : Lexer) (t : Token) (sl : Nat) (l' : Lexer) : Prop where
  step : nextToken l = (.ok t, l')
  pos : 0 < l'.lines.size
  mono : l.lines.size ≤ l'.lines.size
  pre : ∀ i, i < l'.lines.size →
    l'.lines[i]?.map (·.startIdx) = F[i]?.map (·.startIdx) ∧ l'.lines[i]?.map (·.indents) = F[i]?.map (·.indents)
  sl_lt : sl < l'.lines.size
  sl_ge : l.lines.size - 1 ≤ sl
  onStart : ∀ a, F[sl]? = some a → a.startIdx ≤ t.startIdx
  beforeNextStart : ∀ b, F[sl + 1]? = some b → t.startIdx < b.startIdx
  onLast : ∀ a, F[l'.lines.size - 1]? = some a → a.startIdx ≤ t.endIdx
  span : t.startIdx ≤ t.endIdx
  beforeNext : ∀ b, F[l'.lines.size]? = some b → t.endIdx < b.startIdx

/-- one answer of the lexer: the token, the line it starts on, the lexer afterwards -/
abbrev Ans := Token × Nat × Lexer

/-- from `l`, the lexer gives the answers `xs` one after the other, each step as a `Run` asks -/
def Steps (F : List LineInfo) : Lexer → List Ans → Prop
  | _, [] => True
  | l, x :: xs => StepOK F l x.1 x.2.1 x.2.2 ∧ Steps F x.2.2 xs

/-- what is passed inside the call that answers the token (blanks, line breaks, the beginning of the text) does not show -/
theorem StepOK.of_skip {F : List LineInfo} {l l₁ l' : Lexer} {t : Token} {sl : Nat} (h : StepOK F l₁ t sl l')
    (hn : nextToken l = nextToken l₁) (hs : l.lines.size ≤ l₁.lines.size) : StepOK F l t sl l' :=
  ⟨hn.trans h.step, h.pos, Nat.le_trans hs h.mono, h.pre, h.sl_lt, by have := h.sl_ge; omega, h.onStart,
    h.beforeNextStart, h.onLast, h.span, h.beforeNext⟩

theorem Steps.of_skip {F : List LineInfo} {l l₁ : Lexer} {xs : List Ans} (h : Steps F l₁ xs)
    (hn : nextToken l = nextToken l₁) (hs : l.lines.size ≤ l₁.lines.size) : Steps F l xs := by
  cases xs with
  | nil => trivial
  | cons x xs => exact ⟨h.1.of_skip hn hs, h.2⟩

/-- the lexer before the `j`-th answer of `xs`, then `z` for ever -/
def before (l : Lexer) (z : Ans) (xs : List Ans) : Nat → Lexer
  | 0 => l
  | j + 1 => (xs.getD j z).2.2

theorem before_cons (l : Lexer) (z y : Ans) (ys : List Ans) (j : Nat) :
    before l z (y :: ys) (j + 1) = before y.2.2 z ys j := by cases j <;> rfl

/-- a chain whose last answer repeats, read by index -/
theorem Steps.at {F : List LineInfo} {z : Ans} (hz : StepOK F z.2.2 z.1 z.2.1 z.2.2) : ∀ (xs : List Ans) (l : Lexer),
    Steps F l (xs ++ [z]) →
    ∀ j, StepOK F (before l z xs j) (xs.getD j z).1 (xs.getD j z).2.1 (before l z xs (j + 1))
  | [], _, h, 0 => h.1
  | [], _, _, _ + 1 => hz
  | _ :: _, _, h, 0 => h.1
  | y :: ys, _, h, j + 1 => by
    rw [before_cons, before_cons]
    exact Steps.at hz ys y.2.2 h.2 j

theorem map_range_getD {α β : Type} (f : α → β) (xs : List α) (z : α) :
    (List.range xs.length).map (fun j => f (xs.getD j z)) = xs.map f := by
  apply List.ext_getElem (by simp)
  intro i h1 _
  have hi : i < xs.length := by simpa using h1
  simp [List.getD_eq_getElem?_getD, hi]

theorem lexAll_run {Y : Layout} (R : Run Y) (hne : ∀ j, j < R.N → (R.tk j).type ≠ cTypeEOF) :
    ∀ (n i : Nat) (acc : List Token) (fuel : Nat), R.N - i = n → i ≤ R.N → n + 1 ≤ fuel →
      lexAll fuel (R.st i) acc =
        (acc.reverse ++ (List.range' i (R.N - i)).map R.tk ++ [Y.eof], some (.ok ()), R.st (R.N + 1)) := by
  intro n
  induction n with
  | zero =>
    intro i acc fuel hn hi hf
    obtain ⟨fuel, rfl⟩ : ∃ f, fuel = f + 1 := ⟨fuel - 1, by omega⟩
    have hiN : i = R.N := by omega
    subst hiN
    rw [lexAll_succ, R.step, R.eof _ (Nat.le_refl _)]
    simp [Layout.eof]
  | succ n ih =>
    intro i acc fuel hn hi hf
    obtain ⟨fuel, rfl⟩ : ∃ f, fuel = f + 1 := ⟨fuel - 1, by omega⟩
    have hlt : i < R.N := by omega
    rw [lexAll_succ, R.step]
    have hty : ((R.tk i).type == cTypeEOF) = false := by simpa using hne i hlt
    simp only [hty, Bool.false_eq_true, ↓reduceIte]
    rw [ih (i + 1) (R.tk i :: acc) fuel (by omega) (by omega) (by omega)]
    have : R.N - i = (R.N - (i + 1)) + 1 := by omega
    rw [this, List.range'_succ]
    simp

end ZnVerif.Proofs.RenderLex

namespace ZnVerif.Proofs.LexRun
open ZnVerif.Model ZnVerif.Generated.Tokens ZnVerif.Spec.StmtSyntax

theorem Run.lexAll {Y : Layout} (R : Run Y) (hne : ∀ t ∈ R.toks, t.type ≠ cTypeEOF) (fuel : Nat) (hf : R.N + 1 ≤ fuel) :
    lexAll fuel (R.st 0) [] = (R.toks ++ [Y.eof], some (.ok ()), R.st (R.N + 1)) := by
  rw [RenderLex.lexAll_run R (fun j hj => hne _ (List.mem_map.mpr ⟨j, List.mem_range.mpr hj, rfl⟩)) R.N 0 [] fuel rfl (Nat.zero_le _) hf,
    Run.toks, List.range_eq_range']
  rfl

end ZnVerif.Proofs.LexRun
