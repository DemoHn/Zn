/-
The one induction over the tagged parser (repaired variant): its notions and rules (the production lemmas are in
Proofs/ParserGoodExpr … ParserGoodTop; `step_good` and `parse_good` stand at the end of Proofs/ParserGoodTop.lean).
`Good n rec`: every call `rec nt s` from a state satisfying the window invariant, with complete accumulators, ends in
  * `ok a s'` with the invariant, no more tokens left than before (strictly fewer for the productions listed in `strict`),
    a current token once there was one, and `a` complete in the sense of Spec/Grammar (`PostC`);
  * or a syntax error with code 20…27 and a cursor inside the source;
  * never a Go run-time panic;
  * `fuel` only if `n < need nt s = 24 · tokensLeft + rank nt`.
`step_good : Good n rec → Good (n+1) (step n rec)` is proved production by production (Proofs/ParserGoodExpr … ParserGoodTop) with the
rules of this file — one for a recursive call, one for each primitive that consumes through `next()` — which thread one fact through
a production (`At`: where it started, where it stands, whether it has consumed).  A primitive never ends a production, so its rule
(`…_bind`) is stated for the primitive with what follows it and applies to the production as written; a recursive call may be the
last action (`Good.call…`) or not (`Good.bind…`);
`parse_good : Good n (parse n)` follows by induction on `n`.
(`At` and `Good` here are not `Model.LinesInv.At` / `.Good` of Proofs/LinesInv.lean, which speak of the lexer's line table.)
-/
import ZnVerif.Proofs.ParserHoare
import ZnVerif.Spec.Grammar

namespace ZnVerif.Proofs.ParserGood
open ZnVerif.Model ZnVerif.Model.Parser ZnVerif.Generated.Tokens
open ZnVerif.Spec.Grammar ZnVerif.Proofs.ParserHoare

variable {σ : Type}

/-- position in the chains of calls that consume nothing before the call -/
def rank : NT → Nat
  | .memberTail _ | .basic | .commaIds _ | .funcCall _ | .objNew | .functionBlock | .throwStmt | .catchStmt
  | .importStmt | .classDecl | .classLoop .. | .propertyDecl | .chainLoop _ => 2
  | .member | .mulDivTail _ => 3
  | .mulDiv | .arithTail _ => 4
  | .arith => 5
  | .lv4 _ => 6
  | .lv3 _ | .lv2Tail .. => 7
  | .lv2 _ | .lv1Tail .. => 8
  | .expr _ => 9
  | .array | .arrayLoop _ | .hashLoop _ | .commaExprs _ | .memberFuncCall | .whileLoop | .iteratorRest _ | .varOneLead
  | .throwLoop _ | .branchLoop .. | .vdPair => 10
  | .branch | .varDecl | .varDeclLoop .. => 11
  | .statement => 12
  | .blockLoop .. | .execLoop _ .stmt .. | .execLoop _ .catch_ .. => 13
  | .block _ | .execLoop _ .input .. => 14
  | .execBlock _ => 15
  | .programLoop _ true .. => 16
  | .programLoop _ false .. => 17
  | .program => 18

/-- fuel that suffices for `nt` from state `s` -/
def need (μ : σ → Nat) (nt : NT) (s : PState σ) : Nat := 24 * m μ s + rank nt

/-- productions that consume at least one token whenever they succeed; the others are the ε-productions: the program and block
loops, the operator tails, the chain / throw / class loops (each returns without consuming when its continuation token is absent) -/
def strict : NT → Bool
  | .program | .programLoop .. | .lv1Tail .. | .lv2Tail .. | .arithTail _ | .mulDivTail _ | .memberTail _
  | .chainLoop _ | .varDeclLoop .. | .block _ | .blockLoop .. | .branchLoop .. | .execBlock _ | .execLoop ..
  | .throwLoop _ | .classLoop .. => false
  | _ => true

def PairOK (p : Nat × List Ident × Expr) : Prop := (p.1 = 1 ∨ p.1 = 3) ∧ p.2.1 ≠ [] ∧ CExpr p.2.2
def BlockOK (b : Option (List Stmt)) : Prop := ∃ l, b = some l ∧ ∀ s ∈ l, CStmt s
def CatchOK (c : Option Ident × Option (List Stmt)) : Prop := c.1.isSome ∧ BlockOK c.2
def PropOK (p : Option Ident × Expr) : Prop := p.1.isSome ∧ CExpr p.2
def ImportOK (im : Import) : Prop := im.name.isSome ∧ (im.libType = 1 ∨ im.libType = 2)

def BranchPre (st : BrSt) (b : BranchAcc) : Prop :=
  b.hasElse = false ∧ b.elseB = none ∧ (∀ o ∈ b.others, CExpr o.1 ∧ BlockOK o.2) ∧
  (st ≠ .init → CExpr b.ifE ∧ BlockOK b.ifB)

/-- what is assumed of the accumulators a loop tag carries -/
def PreC : NT → Prop
  | .programLoop _ _ ims ex => (∀ im ∈ ims, ImportOK im) ∧ (∀ x, ex = some x → CExec x)
  | .lv1Tail _ el | .lv2Tail _ el | .arithTail el | .mulDivTail el | .memberTail el => CExpr el
  | .arrayLoop items => ∀ e ∈ items, CExpr e
  | .hashLoop kvs => ∀ kv ∈ kvs, CExpr kv.1 ∧ CExpr kv.2
  | .commaExprs acc => ∀ e ∈ acc, CExpr e
  | .chainLoop c => c ≠ [] ∧ ∀ f ∈ c, CCall f
  | .varDeclLoop _ ps => ∀ p ∈ ps, PairOK p
  | .blockLoop _ acc => ∀ s ∈ acc, CStmt s
  | .branchLoop _ st acc => BranchPre st acc
  | .execLoop _ _ _ stmts cs => (∀ s ∈ stmts, CStmt s) ∧ ∀ c ∈ cs, CatchOK c
  | .iteratorRest ids => ids.length ≤ 2
  | .throwLoop acc => acc ≠ [] ∧ ∀ e ∈ acc, CExpr e
  | .classLoop _ ps ms gs => (∀ p ∈ ps, PropOK p) ∧ (∀ f ∈ ms, CFunc 1 f) ∧ (∀ g ∈ gs, CFunc 2 g)
  | _ => True

/-- what a successful production returns: a complete piece of tree -/
def PostC : (nt : NT) → nt.Out → Prop
  | .program, a | .programLoop .., a => Complete a
  | .statement, a | .varDecl, a | .whileLoop, a | .branch, a | .branchLoop .., a | .varOneLead, a | .iteratorRest _, a
  | .throwStmt, a | .classDecl, a => CStmt a
  | .expr _, a | .lv1Tail .., a | .lv2 _, a | .lv2Tail .., a | .lv3 _, a | .lv4 _, a | .arith, a | .arithTail _, a
  | .mulDiv, a | .mulDivTail _, a | .member, a | .memberTail _, a | .basic, a | .array, a | .arrayLoop _, a | .hashLoop _, a
  | .memberFuncCall, a | .objNew, a => CExpr a
  | .funcCall _, a => CCall a
  | .commaExprs _, a | .throwLoop _, a => a ≠ [] ∧ ∀ e ∈ a, CExpr e
  | .chainLoop _, a => a ≠ [] ∧ ∀ f ∈ a, CCall f
  | .commaIds _, a => a ≠ []
  | .varDeclLoop .., a => ∀ p ∈ a, PairOK p
  | .vdPair, a => PairOK a
  | .block _, a | .blockLoop .., a => ∀ s ∈ a, CStmt s
  | .functionBlock, a => CExec a.2
  | .execBlock _, a | .execLoop .., a => CExec a
  | .catchStmt, a => CatchOK a
  | .importStmt, a => ImportOK a
  | .classLoop .., a => (∀ p ∈ a.1, PropOK p) ∧ (∀ f ∈ a.2.1, CFunc 1 f) ∧ (∀ g ∈ a.2.2, CFunc 2 g)
  | .propertyDecl, a => PropOK a

/-- the block loops of an exec block consume something whenever their loop condition holds on entry; so does the loop of
ParseBranchStmt entered in its initial state (the mandatory if-branch) -/
def CondStrict (ops : LexOps σ) : NT → PState σ → Prop
  | .execBlock i, s | .execLoop i .., s => blockCond ops i s = true
  | .branchLoop _ .init _, _ => True
  | _, _ => False

/-- Where the proof of a production stands: the production started in `s0` and has come to `s`, and `c` says that a token has been
consumed on the way.  The rules below take and give back this one fact instead of inequalities between measures, and the fuel
side condition of every call and primitive follows from it: after a token has been consumed, for any callee (a rank is less than
the weight 24 of a token); before, for callees of lower rank. -/
structure At (ops : LexOps σ) (B : Nat) (μ : σ → Nat) (I : σ → Prop) (s0 s : PState σ) (c : Bool) : Prop where
  inv : Inv ops B I s
  le : m μ s ≤ m μ s0
  hq : q s0 ≤ q s
  lt : c = true → m μ s < m μ s0 ∧ q s = 1

def Post (ops : LexOps σ) (B : Nat) (μ : σ → Nat) (I : σ → Prop) (nt : NT) (s : PState σ) (a : nt.Out) (s' : PState σ) : Prop :=
  At ops B μ I s s' (strict nt) ∧ (CondStrict ops nt s → At ops B μ I s s' true) ∧ PostC nt a

/-- `x` is good as the production `nt` at fuel `k`: from every state with the window invariant, the accumulators of `nt` complete,
it ends as `Post` says or in a syntax error inside the source, never in a panic, and out of fuel only if `k` is less than `nt`
needs from there.  A production lemma shows this of the body `pX … rec` at fuel `n + 1`, its recursive calls `rec` being good at
fuel `n`. -/
def GoodAt (ops : LexOps σ) (B : Nat) (μ : σ → Nat) (I : σ → Prop) (k : Nat) (nt : NT) (x : PM σ nt.Out) : Prop :=
  ∀ s, Inv ops B I s → PreC nt → Sat (x s) (Post ops B μ I nt s) (ErrOK B) (k < need μ nt s)

def Good (ops : LexOps σ) (B : Nat) (μ : σ → Nat) (I : σ → Prop) (n : Nat) (rec : Rec σ) : Prop :=
  ∀ nt, GoodAt ops B μ I n nt (rec nt)

theorem mem_snoc {α : Type} {P : α → Prop} {l : List α} {a : α} (hl : ∀ x ∈ l, P x) (ha : P a) : ∀ x ∈ l ++ [a], P x :=
  List.forall_mem_append.mpr ⟨hl, List.forall_mem_singleton.mpr ha⟩

section calls
variable {ops : LexOps σ} {B : Nat} {μ : σ → Nat} {I : σ → Prop} {n : Nat} {rec : Rec σ}

theorem inv_flag {s : PState σ} (b : Bool) (h : Inv ops B I s) : Inv ops B I { s with flag := b } :=
  ⟨h.lex, h.p2, h.p1, h.lines, h.nonempty⟩

theorem rank_bounds (nt : NT) : 2 ≤ rank nt ∧ rank nt < 24 := by
  cases nt <;> simp [rank] <;> (try split) <;> omega

variable {s0 s s' : PState σ} {c : Bool}

theorem At.refl (hs : Inv ops B I s) : At ops B μ I s s false :=
  ⟨hs, Nat.le_refl _, Nat.le_refl _, fun h => by cases h⟩

theorem At.weaken (a : At ops B μ I s0 s true) : At ops B μ I s0 s c :=
  ⟨a.inv, a.le, a.hq, fun _ => a.lt rfl⟩

theorem At.flag (b : Bool) (a : At ops B μ I s0 s c) : At ops B μ I s0 { s with flag := b } c :=
  ⟨inv_flag b a.inv, a.le, a.hq, a.lt⟩

theorem At.step_le (a : At ops B μ I s0 s c) (hi : Inv ops B I s') (hm : m μ s' ≤ m μ s) (hq : q s ≤ q s') :
    At ops B μ I s0 s' c :=
  ⟨hi, Nat.le_trans hm a.le, Nat.le_trans a.hq hq, fun h => by
    have := a.lt h; have := q_le_one s'; exact ⟨by omega, by omega⟩⟩

theorem At.step_lt (a : At ops B μ I s0 s c) (hi : Inv ops B I s') (hm : m μ s' < m μ s) (hq : q s' = 1) :
    At ops B μ I s0 s' true := by
  have := a.le; have := q_le_one s0
  exact ⟨hi, by omega, by omega, fun _ => ⟨by omega, hq⟩⟩

theorem At.fuel_prim (a : At ops B μ I s0 s c) (nt : NT) : n ≤ m μ s → n + 1 < need μ nt s0 := by
  have := a.le; have := (rank_bounds nt).1
  unfold need; omega

theorem At.fuel_call (a : At ops B μ I s0 s c) {nt nt' : NT} (hr : c = true ∨ rank nt' < rank nt) :
    n < need μ nt' s → n + 1 < need μ nt s0 := by
  have := a.le; have := (rank_bounds nt').2
  unfold need
  rcases hr with hr | hr
  · have := (a.lt hr).1; omega
  · omega

theorem At.need_le (a : At ops B μ I s0 s c) {nt : NT} : n + 1 < need μ nt s → n + 1 < need μ nt s0 := by
  have := a.le; unfold need; omega

theorem At.post {nt : NT} {r : nt.Out} (a : At ops B μ I s0 s true) (hc : PostC nt r) : Post ops B μ I nt s0 r s :=
  ⟨a.weaken, fun _ => a, hc⟩

theorem At.post_le {nt : NT} {r : nt.Out} (a : At ops B μ I s0 s c) (hst : strict nt = false)
    (hx : CondStrict ops nt s0 → At ops B μ I s0 s true) (hc : PostC nt r) : Post ops B μ I nt s0 r s := by
  exact ⟨⟨a.inv, a.le, a.hq, fun h => by rw [hst] at h; cases h⟩, hx, hc⟩

variable {nt : NT}

/-- calling `nt'` from `s`: allowed after a token has been consumed, or if `nt'` has lower rank.  The continuation learns that the
call has consumed when `nt'` is strict (`callS`) or entered under `CondStrict` (`callX`); `callN` is the rule for the other callees. -/
theorem Good.call (hg : Good ops B μ I n rec) (a : At ops B μ I s0 s c) (nt' : NT) (hpre : PreC nt')
    (hr : c = true ∨ rank nt' < rank nt) {Q : nt'.Out → PState σ → Prop}
    (hk : ∀ r s', At ops B μ I s0 s' c → (strict nt' = true ∨ CondStrict ops nt' s → At ops B μ I s0 s' true) → PostC nt' r →
      Q r s') :
    Sat (rec nt' s) Q (ErrOK B) (n + 1 < need μ nt s0) :=
  (hg nt' s a.inv hpre).imp (fun r s' h => hk r s' (a.step_le h.1.inv h.1.le h.1.hq)
    (fun hx => hx.elim (fun hst => a.step_lt h.1.inv (h.1.lt hst).1 (h.1.lt hst).2)
      (fun hc => a.step_lt (h.2.1 hc).inv ((h.2.1 hc).lt rfl).1 ((h.2.1 hc).lt rfl).2)) h.2.2) (a.fuel_call hr)

theorem Good.callS (hg : Good ops B μ I n rec) (a : At ops B μ I s0 s c) (nt' : NT) (hst : strict nt' = true) (hpre : PreC nt')
    (hr : c = true ∨ rank nt' < rank nt) {Q : nt'.Out → PState σ → Prop}
    (hk : ∀ r s', At ops B μ I s0 s' true → PostC nt' r → Q r s') :
    Sat (rec nt' s) Q (ErrOK B) (n + 1 < need μ nt s0) :=
  hg.call a nt' hpre hr fun r s' _ h => hk r s' (h (Or.inl hst))

theorem Good.callN (hg : Good ops B μ I n rec) (a : At ops B μ I s0 s c) (nt' : NT) (hpre : PreC nt')
    (hr : c = true ∨ rank nt' < rank nt) {Q : nt'.Out → PState σ → Prop}
    (hk : ∀ r s', At ops B μ I s0 s' c → PostC nt' r → Q r s') :
    Sat (rec nt' s) Q (ErrOK B) (n + 1 < need μ nt s0) :=
  hg.call a nt' hpre hr fun r s' h _ => hk r s' h

theorem Good.callX (hg : Good ops B μ I n rec) (a : At ops B μ I s0 s c) (nt' : NT) (hpre : PreC nt')
    (hcond : CondStrict ops nt' s) (hr : c = true ∨ rank nt' < rank nt) {Q : nt'.Out → PState σ → Prop}
    (hk : ∀ r s', At ops B μ I s0 s' true → PostC nt' r → Q r s') :
    Sat (rec nt' s) Q (ErrOK B) (n + 1 < need μ nt s0) :=
  hg.call a nt' hpre hr fun r s' _ h => hk r s' (h (Or.inr hcond))

/-- the same for a call that is followed by something -/
theorem Good.bindS (hg : Good ops B μ I n rec) (a : At ops B μ I s0 s c) (nt' : NT) (hst : strict nt' = true) (hpre : PreC nt')
    (hr : c = true ∨ rank nt' < rank nt) {α : Type} {Q : α → PState σ → Prop} {f : nt'.Out → PM σ α}
    (hk : ∀ r s', At ops B μ I s0 s' true → PostC nt' r → Sat (f r s') Q (ErrOK B) (n + 1 < need μ nt s0)) :
    Sat ((rec nt' >>= f) s) Q (ErrOK B) (n + 1 < need μ nt s0) :=
  sat_bind.mpr (hg.callS a nt' hst hpre hr hk)

theorem Good.bindN (hg : Good ops B μ I n rec) (a : At ops B μ I s0 s c) (nt' : NT) (hpre : PreC nt')
    (hr : c = true ∨ rank nt' < rank nt) {α : Type} {Q : α → PState σ → Prop} {f : nt'.Out → PM σ α}
    (hk : ∀ r s', At ops B μ I s0 s' c → PostC nt' r → Sat (f r s') Q (ErrOK B) (n + 1 < need μ nt s0)) :
    Sat ((rec nt' >>= f) s) Q (ErrOK B) (n + 1 < need μ nt s0) :=
  sat_bind.mpr (hg.callN a nt' hpre hr hk)

variable (hl : LexOK ops B μ I)
include hl

variable {α : Type} {Q : α → PState σ → Prop}

theorem next_bind {f : Unit → PM σ α} (a : At ops B μ I s0 s c) (hne : s.p2.type ≠ cTypeEOF)
    (hk : ∀ s', At ops B μ I s0 s' true → Sat (f () s') Q (ErrOK B) (n + 1 < need μ nt s0)) :
    Sat ((next ops n >>= f) s) Q (ErrOK B) (n + 1 < need μ nt s0) :=
  sat_bind.mpr (next_sat hl a.inv hne (fun s' hi hm hp => hk s' (a.step_lt hi hm (by simp [q, hp]))) (a.fuel_prim nt))

/-- `tryConsume tys` (EOF is never asked for): either nothing matched — the state is the same or a comma was swallowed — or the
matched token became the current token -/
theorem tryConsume_bind {tys : List Nat} {f : Option Token → PM σ α} (a : At ops B μ I s0 s c) (htys : cTypeEOF ∉ tys)
    (hnone : ∀ s', At ops B μ I s0 s' c → (s' = s ∨ At ops B μ I s0 s' true) → Sat (f none s') Q (ErrOK B) (n + 1 < need μ nt s0))
    (hsome : ∀ tk s', At ops B μ I s0 s' true → tk.type ∈ tys → Sat (f (some tk) s') Q (ErrOK B) (n + 1 < need μ nt s0)) :
    Sat ((tryConsume ops n tys >>= f) s) Q (ErrOK B) (n + 1 < need μ nt s0) := by
  refine sat_bind.mpr ?_
  -- after the optional comma
  have key : ∀ s1, At ops B μ I s0 s1 c → (s1 = s ∨ At ops B μ I s0 s1 true) →
      Sat (tryConsumeCore ops n tys s1) (fun r s' => Sat (f r s') Q (ErrOK B) (n + 1 < need μ nt s0)) (ErrOK B)
        (n + 1 < need μ nt s0) := by
    intro s1 a1 hrel
    unfold tryConsumeCore
    simp only [sat_bind, sat_getS]
    rw [sat_ite]
    refine ⟨fun _ => hnone s1 a1 hrel, fun _ => ?_⟩
    rw [sat_ite]
    refine ⟨fun hc => ?_, fun _ => hnone s1 a1 hrel⟩
    have hmem : s1.p2.type ∈ tys := by simpa using hc
    exact next_bind hl a1 (fun h => htys (h ▸ hmem)) fun s2 a2 => hsome _ s2 a2 hmem
  unfold tryConsume
  simp only [sat_bind, sat_getS]
  rw [sat_ite]
  exact ⟨fun hc => next_bind hl a (by rw [hc]; decide) fun s1 a1 => key s1 a1.weaken (Or.inr a1), fun _ => key s a (Or.inl rfl)⟩

theorem consume_bind {tys : List Nat} {f : Unit → PM σ α} (a : At ops B μ I s0 s c) (htys : cTypeEOF ∉ tys)
    (hk : ∀ s', At ops B μ I s0 s' true → Sat (f () s') Q (ErrOK B) (n + 1 < need μ nt s0)) :
    Sat ((consume Variant.fixed ops n tys >>= f) s) Q (ErrOK B) (n + 1 < need μ nt s0) :=
  sat_bind.mpr (tryConsume_bind hl a htys (fun s' a' _ => errPeek_sat a'.inv (by decide)) fun _ s' a' _ => hk s' a')

theorem parseID_bind {f : Ident → PM σ α} (a : At ops B μ I s0 s c)
    (hk : ∀ i s', At ops B μ I s0 s' true → Sat (f i s') Q (ErrOK B) (n + 1 < need μ nt s0)) :
    Sat ((parseID Variant.fixed ops n >>= f) s) Q (ErrOK B) (n + 1 < need μ nt s0) :=
  sat_bind.mpr (tryConsume_bind hl a (by decide) (fun s' a' _ => errPeek_sat a'.inv (by decide))
    fun _ s' a' _ => newID_sat fun i => hk i s' a')

/-- the loop `for { tryConsume(tys) }`: it gives no token back, and its `k` passes run out only when the fuel does (every pass
consumes a token; the caller has `k = n`, so `At.fuel_prim` is its third argument) -/
theorem swallowAll_bind {tys : List Nat} (htys : cTypeEOF ∉ tys) {f : Unit → PM σ α} :
    ∀ (k : Nat) {s : PState σ}, At ops B μ I s0 s c → (k ≤ m μ s → n + 1 < need μ nt s0) →
      (∀ s', At ops B μ I s0 s' c → Sat (f () s') Q (ErrOK B) (n + 1 < need μ nt s0)) →
      Sat ((swallowAll ops n tys k >>= f) s) Q (ErrOK B) (n + 1 < need μ nt s0)
  | 0, _, _, hF, _ => hF (Nat.zero_le _)
  | k + 1, s, a, hF, hk => by
    unfold swallowAll
    simp only [sat_bind]
    -- one pass, seen from `s`: it consumes, so `k` passes are left for fewer tokens
    refine (sat_bind.mp (tryConsume_bind hl (nt := nt) (f := pure) (.refl a.inv) htys ?_ ?_)).imp (fun _ _ h => h) a.need_le
    · exact fun s' a' _ => hk s' (a.step_le a'.inv a'.le a'.hq)
    · intro _ s' a' _
      have := a'.lt rfl
      exact sat_bind.mp (swallowAll_bind htys k (a.step_lt a'.inv this.1 this.2).weaken (fun h => hF (by omega)) hk)

omit hl

/-- `expectBlockIndent` after a token has been consumed: both lines of the window are known lines -/
theorem blockIndent_bind {f : Option Nat → PM σ α} {E : SynErr → Prop} {F : Prop} (a : At ops B μ I s0 s true)
    (hnone : Sat (f none s) Q E F) (hsome : ∀ bi, Sat (f (some bi) s) Q E F) :
    Sat ((expectBlockIndent ops >>= f) s) Q E F := by
  refine sat_bind.mpr ?_
  unfold expectBlockIndent
  have hp1 : s.p1.isSome := by
    have hq := (a.lt rfl).2
    unfold q at hq
    by_cases h : s.p1.isSome
    · exact h
    · simp [h] at hq
  have hsz := a.inv.nonempty (Or.inr hp1)
  have hlines := a.inv.lines
  have h1 : s.sl1 < (ops.lines s.lex).size := by omega
  have h2 : s.sl2 < (ops.lines s.lex).size := by omega
  simp only [Array.getElem?_eq_getElem h1, Array.getElem?_eq_getElem h2]
  split
  · exact hsome _
  · exact hnone

end calls

theorem cexpr_setLine {e : Expr} (l : Nat) (h : CExpr e) : CExpr (e.setLine l) := by
  cases h <;> simp only [Expr.setLine] <;> constructor <;> assumption

theorem ccall_cexpr {e : Expr} (h : CCall e) : CExpr e := by
  cases h; constructor; assumption

theorem cstmt_setLine {s : Stmt} (l : Nat) (h : CStmt s) : CStmt (s.setLine l) := by
  cases h <;> simp only [Stmt.setLine]
  case expr e he => exact .expr _ (cexpr_setLine l he)
  all_goals (constructor <;> assumption)

end ZnVerif.Proofs.ParserGood
