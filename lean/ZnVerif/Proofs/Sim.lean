/-
A small simulation calculus between the model's state monad `M` and the spec's `SM`:
`Sim d Q s σ m m'` says that the spec computation `m'` leaves the spec state `σ` alone and, unless it is
`unspecified`, the model computation `m` started in `s` only allocates (`Frame`) and ends with the
matching outcome (`OutRel`): values related by `Q`, runtime error ↔ raised fault with the same code (but for
`specCode`: 84 ↦ 83), semantic error ↔ fatal, out of fuel ↔ out of fuel (or, when `d ≠ 0`, spec fault 83).
The rules: `sim_bind`, `sim_pure`, the failures, a step of one side alone (`sim_left`, `sim_right`, `sim_getCell`), `sim_weaken`,
`Sim.specified` to take a simulation apart.  `Reads ω k` is the value relation of the refinement (the result cell reads as the
spec value within fuel `k`); `sim_alloc`: a fresh cell against a pure value.
-/
import ZnVerif.Proofs.Calls
import ZnVerif.Proofs.MonadLaws
import ZnVerif.Proofs.Content

set_option linter.unusedSectionVars false

namespace ZnVerif.Proofs
open ZnVerif.Model ZnVerif.Spec

variable {ν : Type} [NumOps ν]

/-- the model state after a pure evaluation: same machine, heap extended -/
structure Frame (s s' : VM ν) : Prop where
  same : s' = { s with heap := s'.heap }
  le : HeapLe s.heap s'.heap

theorem Frame.refl (s : VM ν) : Frame s s := ⟨rfl, HeapLe.refl _⟩

theorem Frame.trans {s s' s'' : VM ν} (a : Frame s s') (b : Frame s' s'') : Frame s s'' := by
  refine ⟨?_, a.le.trans b.le⟩
  have h1 := a.same; have h2 := b.same
  rw [h2, h1]

theorem Frame.push (s : VM ν) (c : Cell ν) : Frame s { s with heap := s.heap.push c } :=
  ⟨rfl, HeapLe.push _ _⟩

/-- the spec semantics reports a non-number right operand of an ordering comparison with code 83, the
evaluator with 84; every other code is the same -/
def specCode (c : Nat) : Nat := if c = 84 then 83 else c

/-- matching outcomes.  `d` is the nesting depth of the values bound in the environment beyond scalars:
only when `d ≠ 0` can the model's structural comparison run out of fuel where the spec's `valEq`
(which answers `none` both for "not comparable" and for "out of fuel") makes `evalE` raise fault 83. -/
inductive OutRel {α α' : Type} (d : Nat) (Q : α → α' → Prop) : Res α → R ν α' → Prop
  | ok {a v} : Q a v → OutRel d Q (.ok a) (.ok v)
  | rt (c : Nat) : OutRel d Q (.err (.rt c)) (.raise (.fault (specCode c)))
  | sem (c : Nat) : OutRel d Q (.err (.sem c)) (.fatal c)
  | fuel : OutRel d Q .fuel .fuel
  | fuelCmp : d ≠ 0 → OutRel d Q .fuel (.raise (.fault 83))

def Sim {α α' : Type} (d : Nat) (Q : VM ν → α → α' → Prop) (s : VM ν) (σ : SState ν) (m : M ν α) (m' : SM ν α') : Prop :=
  ∃ r', m' σ = (r', σ) ∧ (r' = .unspecified ∨ ∃ r s', m s = (r, s') ∧ Frame s s' ∧ OutRel d (Q s') r r')

section rules
variable {α α' β β' : Type} {d : Nat} {Q : VM ν → α → α' → Prop} {Q2 : VM ν → β → β' → Prop}
  {s : VM ν} {σ : SState ν}

theorem sim_bind {m : M ν α} {m' : SM ν α'} {f : α → M ν β} {f' : α' → SM ν β'}
    (h1 : Sim d Q s σ m m')
    (h2 : ∀ s1 a v, Frame s s1 → Q s1 a v → Sim d Q2 s1 σ (f a) (f' v)) :
    Sim d Q2 s σ (m >>= f) (m' >>= f') := by
  obtain ⟨r', hm', h⟩ := h1
  rcases h with rfl | ⟨r, s1, hm, hF, hO⟩
  · exact ⟨.unspecified, by rw [SM.bind_def, hm'], .inl rfl⟩
  · cases hO with
    | ok hq =>
      obtain ⟨r2', hf', h⟩ := h2 s1 _ _ hF hq
      refine ⟨r2', by rw [SM.bind_def, hm']; exact hf', ?_⟩
      rcases h with rfl | ⟨r2, s2, hf, hF2, hO2⟩
      · exact .inl rfl
      · exact .inr ⟨r2, s2, by rw [Calls.M_bind_def, hm]; exact hf, hF.trans hF2, hO2⟩
    | rt c =>
      exact ⟨_, by rw [SM.bind_def, hm'], .inr ⟨_, s1, by rw [Calls.M_bind_def, hm], hF, .rt c⟩⟩
    | sem c =>
      exact ⟨_, by rw [SM.bind_def, hm'], .inr ⟨_, s1, by rw [Calls.M_bind_def, hm], hF, .sem c⟩⟩
    | fuel =>
      exact ⟨_, by rw [SM.bind_def, hm'], .inr ⟨_, s1, by rw [Calls.M_bind_def, hm], hF, .fuel⟩⟩
    | fuelCmp hd =>
      exact ⟨_, by rw [SM.bind_def, hm'], .inr ⟨_, s1, by rw [Calls.M_bind_def, hm], hF, .fuelCmp hd⟩⟩

theorem sim_pure {a : α} {v : α'} (h : Q s a v) : Sim d Q s σ (pure a) (pure v) :=
  ⟨.ok v, rfl, .inr ⟨.ok a, s, rfl, Frame.refl s, .ok h⟩⟩

theorem sim_rt' (c c' : Nat) (h : c' = specCode c) : Sim d Q s σ (rtErr c) (fault c') :=
  ⟨_, rfl, .inr ⟨_, s, rfl, Frame.refl s, h ▸ .rt c⟩⟩

theorem sim_sem (c : Nat) : Sim d Q s σ (throwE (.sem c)) (sfail (.fatal c)) :=
  ⟨_, rfl, .inr ⟨_, s, rfl, Frame.refl s, .sem c⟩⟩

theorem sim_fuel : Sim d Q s σ outOfFuel (sfail .fuel) :=
  ⟨_, rfl, .inr ⟨_, s, rfl, Frame.refl s, .fuel⟩⟩

theorem sim_unspec {m : M ν α} : Sim d Q s σ m unspec := ⟨_, rfl, .inl rfl⟩

theorem sim_left {m m2 : M ν α} {m' : SM ν α'} (h : m s = m2 s) (h2 : Sim d Q s σ m2 m') : Sim d Q s σ m m' := by
  obtain ⟨r', hm', h'⟩ := h2
  exact ⟨r', hm', h'.imp id fun ⟨r, s', hm, x⟩ => ⟨r, s', h ▸ hm, x⟩⟩

theorem sim_right {m : M ν α} {m' m2' : SM ν α'} (h : m' σ = m2' σ) (h2 : Sim d Q s σ m m2') : Sim d Q s σ m m' := by
  obtain ⟨r', hm', h'⟩ := h2
  exact ⟨r', h ▸ hm', h'⟩

theorem sim_weaken {Q' : VM ν → α → α' → Prop} {m : M ν α} {m' : SM ν α'}
    (hq : ∀ s a v, Q s a v → Q' s a v) (h : Sim d Q s σ m m') : Sim d Q' s σ m m' := by
  obtain ⟨r', hm', h'⟩ := h
  refine ⟨r', hm', h'.imp id fun ⟨r, s', hm, hF, hO⟩ => ⟨r, s', hm, hF, ?_⟩⟩
  cases hO with
  | ok h => exact .ok (hq _ _ _ h)
  | rt c => exact .rt c
  | sem c => exact .sem c
  | fuel => exact .fuel
  | fuelCmp hd => exact .fuelCmp hd

theorem Sim.specified {m : M ν α} {m' : SM ν α'} (h : Sim d Q s σ m m') (hs : (m' σ).1 ≠ .unspecified) :
    ∃ r s' r', m s = (r, s') ∧ m' σ = (r', σ) ∧ Frame s s' ∧ OutRel d (Q s') r r' := by
  obtain ⟨r', h1, h2⟩ := h
  rcases h2 with rfl | ⟨r, s1, h3, hF, hO⟩
  · rw [h1] at hs; exact absurd rfl hs
  · exact ⟨r, s1, r', h3, h1, hF, hO⟩

theorem sim_getCell {a : Addr} {c : Cell ν} {K : Cell ν → M ν α} {m' : SM ν α'}
    (hc : s.heap[a]? = some c) (h : Sim d Q s σ (K c) m') : Sim d Q s σ (getCell a >>= K) m' :=
  sim_left (Calls.getCell_bind K hc) h

end rules

/-- the value relation of the refinement: the result cell reads (within fuel `k`) as the spec value -/
def Reads (ω : Addr → Option (SVal ν)) (k : Nat) (s : VM ν) (a : Addr) (v : SVal ν) : Prop :=
  contentW ω k s.heap a = some v

variable {ω : Addr → Option (SVal ν)}

theorem Reads.frame {k : Nat} {s s' : VM ν} {a : Addr} {v : SVal ν}
    (h : Reads ω k s a v) (hF : Frame s s') : Reads ω k s' a v := contentW_heap hF.le h

theorem Reads.mono {k k' : Nat} {s : VM ν} {a : Addr} {v : SVal ν}
    (h : Reads ω k s a v) (hk : k ≤ k') : Reads ω k' s a v := contentW_mono hk h

theorem sim_alloc {d : Nat} {k : Nat} {s : VM ν} {σ : SState ν} (c : Cell ν) (v : SVal ν)
    (hl : Layer ω (contentW ω k (s.heap.push c)) s.heap.size c v) :
    Sim d (Reads ω (k+1)) s σ (alloc c) (pure v) :=
  ⟨.ok v, rfl, .inr ⟨.ok s.heap.size, { s with heap := s.heap.push c }, rfl, Frame.push s c,
    .ok (contentW_push_new k s.heap c v hl)⟩⟩

end ZnVerif.Proofs
