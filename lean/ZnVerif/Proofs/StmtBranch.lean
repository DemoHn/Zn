/-
Token-level round trip with layout, part 5: 如果 … 再如 … 否则.
-/
import ZnVerif.Proofs.StmtBlock

namespace ZnVerif.Proofs.StmtRT
open ZnVerif.Model ZnVerif.Model.Parser ZnVerif.Generated.Tokens ZnVerif.Generated.ParserTables
open ZnVerif.Spec.StmtSyntax

variable {Y : Layout} {v : Variant}

theorem toStmt_same (acc : BranchAcc) (h1 : acc.hasElse = false) (h2 : acc.elseB = none) :
    BranchAcc.toStmt { acc with others := acc.others ++ [], hasElse := false, elseB := none } = acc.toStmt := by
  unfold BranchAcc.toStmt
  simp [h1, h2]

/-- the loop header in the states "after the 如果 block" / "after a 再如 block" when no 再如 / 否则 follows -/
theorem branchHeader_none {d : Nat} (m : Nat) (st : BrSt) (hst : st = .ifB ∨ st = .other) {s : PState (List Token)}
    (hfl : s.flag = true) (hne : s.p2.type ≠ cTypeEOF) (hf : StmtEnd Y d s) :
    branchHeader (layoutOps Y) m d st s = .ok none s := by
  have hd : peekIndentOf (layoutOps Y) s < d ∨ (peekIndentOf (layoutOps Y) s = d ∧ s.p2.type ∉ condKeywords) :=
    hf.dedent.elim (fun h => absurd h hne) id
  have hset : (setFlag : PM (List Token) Unit) { s with flag := false } = .ok () s := by
    cases s; subst hfl; rfl
  rcases hst with rfl | rfl <;>
  · refine andThen (getS_S _) ?_
    rcases hd with hd | hd
    · rw [if_pos (by omega)]
      rfl
    · rw [if_neg (fun h => h hd.1)]
      exact andThen rfl (andThen (tryConsume_stops (s := { s with flag := false }) m ⟨hf.nc, Or.inr hd.2⟩) (andThen hset rfl))

/-- the loop header when 再如 / 否则 follows on a line indented like the 如果 -/
theorem branchHeader_some {d : Nat} (m : Nat) (st : BrSt) (hst : st = .ifB ∨ st = .other) {kw : Token}
    {s s1 : PState (List Token)} (hk : kw.type ∈ condKeywords) (hind : Y.ind kw = d) (h : Walk Y false s [kw] s1) :
    branchHeader (layoutOps Y) (m + 1) d st s =
      .ok (some (if kw.type = cTypeCondOtherW then .other else .elseB)) s1 := by
  have hkc : kw.type ≠ cTypeCommaSep := by
    intro h; rw [h] at hk; revert hk; decide
  have hi : peekIndentOf (layoutOps Y) s = d := (h.peek (by simp)).2.trans hind
  rcases hst with rfl | rfl <;>
  · refine andThen (getS_S _) ?_
    rw [if_neg (fun h => h hi)]
    exact andThen rfl (andThen (tryConsume_reads m hk hkc h.unset) rfl)

theorem branchLoop_cond (st : BrSt) {s : PState (List Token)} (ht : s.p2.type ≠ cTypeEOF) :
    (v.ifFix && st == BrSt.init || decide (s.p2.type ≠ cTypeEOF)) = true := by
  simp [ht]

theorem tail_nil (d : Nat) : CTail v Y d [] false none [] := by
  intro s s' st acc hst h1 h2 hw hfl _ hf
  refine stable_of 1 (by omega) fun m hn => ?_
  obtain rfl := hw.nil
  have hst' : (st == BrSt.init) = false := by rcases hst with rfl | rfl <;> rfl
  refine andThen (getS_S _) ?_
  simp only [toStmt_same acc h1 h2]
  by_cases he : s'.p2.type = cTypeEOF
  · rw [if_neg (by simp [hst', he])]
    rfl
  · rw [if_pos (branchLoop_cond st he)]
    exact andThen (branchHeader_none m st hst hfl he hf) rfl

theorem tail_else {d : Nat} {kw colon : Token} {b : List Stmt} {tb : List Token}
    (hk : kw.type = cTypeCondElseW) (hcol : colon.type = cTypeFuncCall) (hg : Y.Glued [kw, colon]) (hik : Y.ind kw = d)
    (hind : Y.ind colon = d) (hne : tb ≠ []) (hH : Heads Y (d + 1) stmtHeads tb) (hB : CLoop v Y (d + 1) b tb) :
    CTail v Y d [] true (some b) (kw :: colon :: tb) := by
  intro s s' st acc hst h1 h2 hw _ hfl hf
  refine stable_of 2 (by omega) fun m hn => ?_
  simp only [List.length_cons] at hn
  obtain ⟨s0, s2, h0, hr, h3⟩ := Walk.header [colon] (b := tb) hw hg
  obtain ⟨k2, k3, k4⟩ := colon_block (v := v) hcol hind hne hH hB hr h3 hfl hf.inner (m + 1) (by omega)
  refine andThen (getS_S _) ?_
  rw [if_pos (branchLoop_cond st (by rw [(h0.peek (by simp)).1]; show kw.type ≠ _; rw [hk]; decide))]
  refine andThen (branchHeader_some m st hst (by rw [hk]; decide) hik h0) ?_
  have hko : ¬ kw.type = cTypeCondOtherW := by rw [hk]; decide
  simp only [hko, if_false, ne_eq, not_true_eq_false]
  refine andThen rfl (andThen k2 (andThen k3 (andThen k4 ?_)))
  simp only [List.append_nil]
  rfl

/-- what the passes of `ParseBranchStmt`'s loop for 如果 and 再如 do after the loop header: the condition up to its `：`, the
block, then the loop again in the state `st` with the branch recorded in `acc'` — which is the tail's business.  The `do` block in the
statement is the tail of the `match` on the loop header inside `pBranchLoop`, with the recording left open (`acc'`): the 如果 pass and
the 再如 pass run the same text there, and no definition of the model is that text. -/
theorem branch_pass {d : Nat} {colon : Token} {c : Expr} {tc : List Token} {b : List Stmt} {tb : List Token}
    {os : List (Expr × Option (List Stmt))} {he : Bool} {eb : Option (List Stmt)} {tt : List Token}
    (hc : LinE Y 1 c tc) (hcol : colon.type = cTypeFuncCall) (hind : Y.ind colon = d)
    (hne : tb ≠ []) (hH : Heads Y (d + 1) stmtHeads tb) (hB : CLoop v Y (d + 1) b tb) (hT : CTail v Y d os he eb tt)
    (hHt : Heads Y d condKeywords tt) (hsep : Y.Sep tb tt) {s s2 s' : PState (List Token)}
    (h : Reads Y s (tc ++ [colon]) s2) (hw : Walk Y false s2 (tb ++ tt) s') (hb : s'.flag = true) (hf : StmtEnd Y d s') (m : Nat)
    (hm : 16 * tc.length + 16 ≤ m) (hm2 : 16 * tb.length + 23 ≤ m) (hm3 : 16 * tt.length + 22 ≤ m)
    (st : BrSt) (hst : st = .ifB ∨ st = .other) (acc' : Expr → List Stmt → BranchAcc)
    (e1 : (acc' c b).hasElse = false) (e2 : (acc' c b).elseB = none) :
    (do let cond ← parse v (layoutOps Y) m (.expr true)
        consume v (layoutOps Y) m [cTypeFuncCall]
        match ← expectBlockIndent (layoutOps Y) with
        | none => errPeek v 21
        | some bi => do
          let blk ← parse v (layoutOps Y) m (.block bi)
          parse v (layoutOps Y) m (.branchLoop d st (acc' cond blk))) s =
      .ok (BranchAcc.toStmt { acc' c b with others := (acc' c b).others ++ os, hasElse := he, elseB := eb }) s' := by
  obtain ⟨s1, h1, h2⟩ := h.append
  obtain ⟨s3, h3, h4⟩ := hw.append
  have hfl := flag_mid h3 h4 hne hsep fun _ => hb
  obtain ⟨k2, k3, k4⟩ := colon_block (v := v) hcol hind hne hH hB h2 h3 hfl (blockEnd_mid h4 hHt (by decide) hf.inner) m hm2
  exact andThen (expr_reads (v := v) hc h1 (h2.stops_tok hcol) m hm) (andThen k2 (andThen k3 (andThen k4
    (hT s3 s' st (acc' c b) hst e1 e2 h4 hfl hb hf m hm3))))

theorem tail_other {d : Nat} {kw colon : Token} {c : Expr} {tc : List Token} {b : List Stmt} {tb : List Token}
    {os : List (Expr × Option (List Stmt))} {he : Bool} {eb : Option (List Stmt)} {tt : List Token}
    (hk : kw.type = cTypeCondOtherW) (hc : LinE Y 1 c tc) (hcol : colon.type = cTypeFuncCall)
    (hg : Y.Glued (kw :: tc ++ [colon])) (hik : Y.ind kw = d) (hind : Y.ind colon = d) (hne : tb ≠ [])
    (hH : Heads Y (d + 1) stmtHeads tb) (hB : CLoop v Y (d + 1) b tb) (hT : CTail v Y d os he eb tt)
    (hHt : Heads Y d condKeywords tt) (hsep : Y.Sep tb tt) :
    CTail v Y d ((c, some b) :: os) he eb (kw :: tc ++ colon :: (tb ++ tt)) := by
  intro s s' st acc hst h1 h2 hw _ hb hf
  refine stable_of 2 (by omega) fun m hn => ?_
  simp only [List.length_cons, List.length_append] at hn
  obtain ⟨s0, s2, h0, hr, hw⟩ := Walk.header (tc ++ [colon]) (b := tb ++ tt) (by simpa using hw) hg
  refine andThen (getS_S _) ?_
  rw [if_pos (branchLoop_cond st (by rw [(h0.peek (by simp)).1]; show kw.type ≠ _; rw [hk]; decide))]
  refine andThen (branchHeader_some m st hst (by rw [hk]; decide) hik h0) ?_
  simp only [hk, if_true]
  refine (branch_pass hc hcol hind hne hH hB hT hHt hsep hr hw hb hf (m + 1) (by omega) (by omega) (by omega)
    .other (Or.inr rfl) (fun cond blk => { acc with others := acc.others ++ [(cond, some blk)] }) h1 h2).trans ?_
  simp only [List.append_assoc, List.singleton_append]

/-- 如果 c：block, then the tail -/
theorem stmt_branch {d : Nat} {kw colon : Token} {c : Expr} {tc : List Token} {b : List Stmt} {tb : List Token}
    {os : List (Expr × Option (List Stmt))} {he : Bool} {eb : Option (List Stmt)} {tt : List Token}
    (hk : kw.type = cTypeCondW) (hc : LinE Y 1 c tc) (hcol : colon.type = cTypeFuncCall)
    (hg : Y.Glued (kw :: tc ++ [colon])) (hik : Y.ind kw = d) (hind : Y.ind colon = d) (hne : tb ≠ [])
    (hH : Heads Y (d + 1) stmtHeads tb) (hB : CLoop v Y (d + 1) b tb) (hT : CTail v Y d os he eb tt)
    (hHt : Heads Y d condKeywords tt) (hsep : Y.Sep tb tt) :
    CStmt v Y d (.branch (Y.sl kw) c (some b) os he eb) (kw :: tc ++ colon :: (tb ++ tt)) := by
  intro s s' hw hfl ha
  refine stable_of 4 (by omega) fun m hn => ?_
  simp only [List.length_cons, List.length_append] at hn
  obtain ⟨s0, s2, h0, hr, hw⟩ := Walk.header (tc ++ [colon]) (b := tb ++ tt) (by simpa using hw) hg
  have hfc := linE_facts hc
  have hp2 : s0.p2.type ≠ cTypeEOF := by
    rw [(hr.peek (by simp [hfc.ne])).1, peek_append hfc.ne]; exact (exprHeads_spec _ hfc.first).1
  refine statement_kw (v := v) (m + 2) (.branch 0 c (some b) os he eb) hk h0 (Or.inl hfl) ?_
  -- `ParseBranchStmt` enters its loop with the indentation of the line of 如果; the first pass has no header to read
  refine andThen (getS_S _) ?_
  rw [h0.currIndent, hik]
  refine andThen (getS_S _) ?_
  rw [if_pos (branchLoop_cond .init hp2)]
  exact andThen (x := branchHeader (layoutOps Y) (m + 1) d .init) rfl
    (branch_pass hc hcol hind hne hH hB hT hHt hsep hr hw hfl ha (m + 1) (by omega) (by omega) (by omega)
      .ifB (Or.inl rfl) (fun cond blk => { ifE := cond, ifB := some blk }) rfl rfl)

end ZnVerif.Proofs.StmtRT
