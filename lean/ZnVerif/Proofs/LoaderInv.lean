/-
The module table under the evaluator and the loader of `Model/Interp.lean`: it only grows at the end, a module keeps its
name, and distinct names stay distinct (`ModKept`).  The evaluator writes export lists only (`addExport`), the loader
appends a module only after `findModuleByName` has failed for its name (`allocateModule`).  Instance of `LoaderPrims`, so
`allPres` and `Pres.importWith` / `Pres.evalProgram` give it for every function.
Declares into `namespace ZnVerif.Proofs.Balance`, like Proofs/Balance.lean.
-/
import ZnVerif.Proofs.LoaderPres
set_option linter.unusedSectionVars false
set_option linter.unusedVariables false

namespace ZnVerif.Proofs.Balance
open ZnVerif.Model ZnVerif.Proofs.Calls

variable {ν : Type} [NumOps ν]

/-- the names of the allocated modules, by module id -/
def modNames (s : VM ν) : List String := s.modules.toList.map (·.name)

/-- the module table only grows at the end, names are kept, distinct names stay distinct -/
def ModKept (s s' : VM ν) : Prop :=
  (∃ extra, modNames s' = modNames s ++ extra) ∧ ((modNames s).Nodup → (modNames s').Nodup)

theorem ModKept.of_names_eq {s s' : VM ν} (h : modNames s' = modNames s) : ModKept s s' :=
  ⟨⟨[], by simp [h]⟩, fun hn => by rw [h]; exact hn⟩

theorem ModKept.of_modules_eq {s s' : VM ν} (h : s'.modules = s.modules) : ModKept s s' :=
  ModKept.of_names_eq (by unfold modNames; rw [h])

instance : PreRel (ModKept (ν := ν)) where
  refl s := ModKept.of_names_eq rfl
  trans := by
    rintro a b c ⟨⟨e1, h1⟩, n1⟩ ⟨⟨e2, h2⟩, n2⟩
    exact ⟨⟨e1 ++ e2, by rw [h2, h1, List.append_assoc]⟩, fun h => n2 (n1 h)⟩

theorem names_set (a : Array Module) (i : Nat) (md : Module) (e : List (String × Addr)) (h : a[i]? = some md) :
    (a.set! i { md with exports := e }).toList.map (·.name) = a.toList.map (·.name) := by
  apply List.ext_getElem?
  intro j
  simp only [List.getElem?_map, Array.set!_eq_setIfInBounds, Array.toList_setIfInBounds, List.getElem?_set]
  by_cases hij : i = j
  · subst hij
    have h' : a.toList[i]? = some md := by simpa using h
    simp only [if_true, h']
    split <;> simp_all
  · simp [hij]

instance : Stable (ModKept (ν := ν)) where
  heap s h := ModKept.of_modules_eq rfl
  stack s st cs := ModKept.of_modules_eq rfl
  exports s i md e h := ModKept.of_names_eq (names_set s.modules i md e h)

theorem ModKept.put (s : VM ν) (mid : Int) (sc : Scope) : ModKept s (putScope mid sc s) :=
  .of_modules_eq (putScope_modules _ _ _)

instance : ScopePrims (ModKept (ν := ν)) where
  emit l := ⟨fun s => ModKept.of_modules_eq rfl⟩
  pushFrame := .pushFrame_of_put fun _ _ _ => .put _ _ _
  declareElement _ _ _ _ := .declareElement_of_put fun _ _ _ _ _ => .put _ _ _
  setElement _ _ := .setElement_of_put fun _ _ _ _ _ => .put _ _ _
  withScope := Pres.withScope_of_put (fun _ _ _ => .put _ _ _) fun _ _ _ _ => .put _ _ _

theorem findModuleByName_eq (name : String) (s : VM ν) :
    findModuleByName name s = (modNames s).findIdx? (· == name) := by
  unfold findModuleByName modNames
  rw [List.findIdx?_map]; rfl

theorem findModuleByName_none_iff (name : String) (s : VM ν) :
    findModuleByName name s = none ↔ name ∉ modNames s := by
  rw [findModuleByName_eq, List.findIdx?_eq_none_iff]
  exact ⟨fun h hm => by simpa using h name hm, fun h x hx => by simpa using fun hxn : x = name => h (hxn ▸ hx)⟩

theorem modNames_push {s s' : VM ν} {m : Module} (h : s'.modules = s.modules.push m) :
    modNames s' = modNames s ++ [m.name] := by
  simp [modNames, h]

theorem findModuleByName_push {s s' : VM ν} {m : Module} (h : s'.modules = s.modules.push m) (name : String) :
    findModuleByName name s' =
      (findModuleByName name s).or (if m.name == name then some s.modules.size else none) := by
  unfold findModuleByName
  rw [h, Array.toList_push, List.findIdx?_append]
  simp [List.findIdx?_cons]

instance : LoaderPrims (ModKept (ν := ν)) where
  graph s g := ModKept.of_modules_eq rfl
  beginBoundScope := .beginBoundScope_of_put fun _ _ _ => .put _ _ _
  pushModule s m hfresh := by
    have hn := modNames_push (s := s) (s' := { s with modules := s.modules.push m }) rfl
    refine ⟨⟨[m.name], hn⟩, fun hnd => ?_⟩
    rw [hn]
    exact List.nodup_append.2 ⟨hnd, List.nodup_cons.2 ⟨by simp, List.nodup_nil⟩, by
      intro a ha b hb
      simp only [List.mem_singleton] at hb
      subst hb
      intro hab; subst hab
      exact (findModuleByName_none_iff _ s).1 hfresh ha⟩

theorem findModuleByName_append {s s' : VM ν} {extra : List String} (he : modNames s' = modNames s ++ extra)
    {name : String} {i : Nat} (hf : findModuleByName name s = some i) : findModuleByName name s' = some i := by
  rw [findModuleByName_eq] at hf ⊢
  rw [he, List.findIdx?_append, hf]; rfl

theorem findModuleByName_kept {s s' : VM ν} (h : ModKept s s') {name : String} {i : Nat}
    (hf : findModuleByName name s = some i) : findModuleByName name s' = some i :=
  let ⟨⟨_, he⟩, _⟩ := h
  findModuleByName_append he hf

end ZnVerif.Proofs.Balance
