/-
C10, the base of the totality proofs for the built-in members of Model/Interp.lean: the heap invariant (`CellOk`, `HeapOk`,
the two heap orders `Pre` / `Ext`), a small Hoare calculus — `Hoare I R s Q (m s)`: never a panic, the end state satisfies `I` and its heap is
`R`-related to the start, a value satisfies `Q`; `RO m s Q`: the state is not touched — and in it what the members
call: the validators, the dictionary builders, `display`, `compareXEQ`, `dup`.  The members themselves (`getProperty`,
`setProperty`, `builtinMethod`, `reduceLHS`, `reduceRHS`) are Proofs/BuiltinMembers.lean; `construct` and the display function are
Proofs/InvLaws.lean, proved there once for both invariants.
-/
import ZnVerif.Proofs.Calls
import ZnVerif.Proofs.AssocList
import ZnVerif.Proofs.LeafEffects
set_option linter.unusedSectionVars false

namespace ZnVerif.Proofs.Builtins
open ZnVerif.Model ZnVerif.Proofs.Calls

variable {ν : Type} [NumOps ν]

theorem pure_apply {α} (a : α) (s : VM ν) : (pure a : M ν α) s = (.ok a, s) := M_pure_def a s

/-! ## outcomes are comparable, so that test vectors can be evaluated by the kernel (`decide +kernel`) -/

deriving instance DecidableEq for Res

abbrev Heap (ν : Type) := Array (Cell ν)

/-- the cell at `a` is a class (Go: the `model *ClassModel` field of an object is typed) -/
def IsCls (h : Heap ν) (a : Nat) : Prop := ∃ n c p m, h[a]? = some (Cell.cls n c p m)

/-- every address stored in the cell points into the heap; a dictionary's key order lists keys of its
    map, without repetition (the invariant of value.HashMap); an object's class is a class -/
def CellOk (h : Heap ν) : Cell ν → Prop
  | .arr items => ∀ x ∈ items, x < h.size
  | .hm vals order => (∀ p ∈ vals, p.2 < h.size) ∧ (∀ k ∈ order, (lookup k vals).isSome = true) ∧ order.Nodup
  | .obj c props => IsCls h c ∧ ∀ p ∈ props, p.2 < h.size
  | .cls _ _ props methods => (∀ p ∈ props, p.2 < h.size) ∧ (∀ p ∈ methods, p.2 < h.size)
  | _ => True

def HeapOk (h : Heap ν) : Prop := ∀ (a : Nat) (c : Cell ν), h[a]? = some c → CellOk h c

/-- `WfHeap s`: every address stored in a cell of the heap is smaller than the heap size (plus the two typing
    facts above) -/
def WfHeap (s : VM ν) : Prop := HeapOk s.heap

/-- heap extension by allocation only: every old cell is still there, unchanged (word for word `HeapLe` of Proofs/Content) -/
def Pre (h h' : Heap ν) : Prop := ∀ (a : Nat) (c : Cell ν), h[a]? = some c → h'[a]? = some c

/-- heap evolution by allocation and by overwriting cells that are not classes -/
structure Ext (h h' : Heap ν) : Prop where
  size : h.size ≤ h'.size
  cls : ∀ a : Nat, IsCls h a → IsCls h' a

theorem Pre.refl (h : Heap ν) : Pre h h := fun _ _ x => x
theorem Pre.trans {a b c : Heap ν} (h1 : Pre a b) (h2 : Pre b c) : Pre a c := fun x y hx => h2 x y (h1 x y hx)
theorem Ext.refl (h : Heap ν) : Ext h h := ⟨Nat.le_refl _, fun _ x => x⟩
theorem Ext.of_eq {h h' : Heap ν} (e : h' = h) : Ext h h' := e ▸ Ext.refl h
theorem Ext.trans {a b c : Heap ν} (h1 : Ext a b) (h2 : Ext b c) : Ext a c :=
  ⟨Nat.le_trans h1.size h2.size, fun x hx => h2.cls x (h1.cls x hx)⟩

theorem lt_size_of_get {h : Heap ν} {a : Nat} {c : Cell ν} (hc : h[a]? = some c) : a < h.size := by
  rcases Nat.lt_or_ge a h.size with hl | hg
  · exact hl
  · rw [Array.getElem?_eq_none hg] at hc; cases hc

theorem get_of_lt_size {h : Heap ν} {a : Nat} (ha : a < h.size) : ∃ c, h[a]? = some c :=
  ⟨h[a], Array.getElem?_eq_getElem ha⟩

theorem Pre.size {h h' : Heap ν} (p : Pre h h') : h.size ≤ h'.size := by
  rcases Nat.lt_or_ge h'.size h.size with hl | hg
  · obtain ⟨c, hc⟩ := get_of_lt_size (h := h) (a := h'.size) hl
    have h2 : h'.size < h'.size := lt_size_of_get (p h'.size c hc)
    exact absurd h2 (Nat.lt_irrefl _)
  · exact hg

theorem Pre.ext {h h' : Heap ν} (p : Pre h h') : Ext h h' :=
  ⟨p.size, fun _ ⟨n, c, pr, m, hc⟩ => ⟨n, c, pr, m, p _ _ hc⟩⟩

theorem CellOk.mono {h h' : Heap ν} (e : Ext h h') {c : Cell ν} (hc : CellOk h c) : CellOk h' c := by
  cases c with
  | arr items => exact fun x hx => Nat.lt_of_lt_of_le (hc x hx) e.size
  | hm vals order => exact ⟨fun p hp => Nat.lt_of_lt_of_le (hc.1 p hp) e.size, hc.2.1, hc.2.2⟩
  | obj c props => exact ⟨e.cls _ hc.1, fun p hp => Nat.lt_of_lt_of_le (hc.2 p hp) e.size⟩
  | cls n ct props methods =>
    exact ⟨fun p hp => Nat.lt_of_lt_of_le (hc.1 p hp) e.size, fun p hp => Nat.lt_of_lt_of_le (hc.2 p hp) e.size⟩
  | _ => trivial

theorem pre_push (h : Heap ν) (c : Cell ν) : Pre h (h.push c) := by
  intro a c' hc
  have := lt_size_of_get hc
  rw [Array.getElem?_push_lt this]
  rwa [Array.getElem?_eq_getElem this] at hc

theorem heapOk_push {h : Heap ν} (hh : HeapOk h) {c : Cell ν} (hc : CellOk h c) : HeapOk (h.push c) := by
  intro a c' hc'
  have e : Ext h (h.push c) := (pre_push h c).ext
  by_cases ha : a < h.size
  · rw [Array.getElem?_push_lt ha] at hc'
    have : h[a]? = some c' := by rw [Array.getElem?_eq_getElem ha]; exact hc'
    exact (hh a c' this).mono e
  · have hsz : a < (h.push c).size := lt_size_of_get hc'
    have : a = h.size := by rw [Array.size_push] at hsz; omega
    subst this
    simp at hc'
    subst hc'
    exact hc.mono e

theorem heapOk_set {h : Heap ν} (hh : HeapOk h) {a : Nat} {old c : Cell ν} (ha : h[a]? = some old)
    (hold : (Leaf.sortOf old).mutable = true) (hc : CellOk h c) :
    HeapOk (h.set! a c) ∧ Ext h (h.set! a c) := by
  have halt : a < h.size := lt_size_of_get ha
  have e : Ext h (h.set! a c) := by
    refine ⟨by simp, ?_⟩
    rintro b ⟨n, ct, p, m, hb⟩
    by_cases hab : a = b
    · subst hab
      rw [ha] at hb
      cases hb
      cases hold
    · exact ⟨n, ct, p, m, by simp [hab]; exact hb⟩
  refine ⟨?_, e⟩
  intro b c' hb
  by_cases hab : a = b
  · subst hab
    simp [halt] at hb
    subst hb
    exact hc.mono e
  · simp [hab] at hb
    exact (hh b c' hb).mono e

/-- outcome of a run started in `s`: never a panic; the heap stays well-formed and is related to the initial
    one by `R` whatever the outcome (value, error, out of fuel, not modelled); a value satisfies `Q` -/
def Post {α} (R : Heap ν → Heap ν → Prop) (s : VM ν) (Q : α → VM ν → Prop) : Res α × VM ν → Prop
  | (.ok a, s') => HeapOk s'.heap ∧ R s.heap s'.heap ∧ Q a s'
  | (.panic, _) => False
  | (_, s') => HeapOk s'.heap ∧ R s.heap s'.heap

class RelOk (R : Heap ν → Heap ν → Prop) : Prop where
  refl : ∀ h, R h h
  trans : ∀ {a b c}, R a b → R b c → R a c

instance : RelOk (Pre (ν := ν)) := ⟨Pre.refl, Pre.trans⟩
instance : RelOk (Ext (ν := ν)) := ⟨Ext.refl, Ext.trans⟩

/-- The judgment of the totality proofs.  A run started in `s` has not panicked; its end state satisfies the invariant `I`
    and its heap is `R`-related to the heap of `s`, whatever the outcome (value, error, out of fuel, not modelled); a value
    satisfies `Q`.  `I` is `WfHeap` for the built-in members and `VI` (Proofs/VarInputVM.lean) for the input-variable texts;
    `Post R` is the first of these written by cases on the outcome, `VPost` the second, and `RO m s` is the case "the state
    is `s`" (`post_iff`, `vpost_iff`, `ro_iff`). -/
structure Hoare {α} (I : VM ν → Prop) (R : Heap ν → Heap ν → Prop) (s : VM ν) (Q : α → VM ν → Prop) (p : Res α × VM ν) :
    Prop where
  ne_panic : p.1 ≠ .panic
  inv : I p.2
  rel : R s.heap p.2.heap
  val : ∀ {a}, p.1 = .ok a → Q a p.2

section hoare
variable {I J : VM ν → Prop} {R : Heap ν → Heap ν → Prop} {α β : Type} {s : VM ν}

theorem Hoare.ok {Q : α → VM ν → Prop} {a : α} {s' : VM ν} (h : I s') (r : R s.heap s'.heap) (q : Q a s') :
    Hoare I R s Q (.ok a, s') := ⟨nofun, h, r, fun e => by cases e; exact q⟩

theorem Hoare.pure [RelOk R] {Q : α → VM ν → Prop} {a : α} (h : I s) (q : Q a s) : Hoare I R s Q ((pure a : M ν α) s) :=
  .ok h (RelOk.refl _) q

/-- an error answered in the start state (`throwE e`, `rtErr c`) -/
theorem Hoare.err [RelOk R] {Q : α → VM ν → Prop} (e : Err) (h : I s) : Hoare I R s Q ((.err e : Res α), s) :=
  ⟨nofun, h, RelOk.refl _, nofun⟩
theorem Hoare.fuel [RelOk R] {Q : α → VM ν → Prop} (h : I s) : Hoare I R s Q ((outOfFuel : M ν α) s) :=
  ⟨nofun, h, RelOk.refl _, nofun⟩
theorem Hoare.notModelled [RelOk R] {Q : α → VM ν → Prop} (h : I s) : Hoare I R s Q ((notModelled : M ν α) s) :=
  ⟨nofun, h, RelOk.refl _, nofun⟩

theorem Hoare.weaken {Q Q' : α → VM ν → Prop} {p : Res α × VM ν} (h : Hoare I R s Q p)
    (hq : ∀ a s', I s' → R s.heap s'.heap → Q a s' → Q' a s') : Hoare I R s Q' p :=
  ⟨h.ne_panic, h.inv, h.rel, fun e => hq _ _ h.inv h.rel (h.val e)⟩

theorem Hoare.change {R' : Heap ν → Heap ν → Prop} {Q : α → VM ν → Prop} {p : Res α × VM ν} (h : Hoare I R s Q p)
    (hj : I p.2 → R s.heap p.2.heap → J p.2 ∧ R' s.heap p.2.heap) : Hoare J R' s Q p :=
  ⟨h.ne_panic, (hj h.inv h.rel).1, (hj h.inv h.rel).2, h.val⟩

theorem Hoare.ofPre {Q : α → VM ν → Prop} {p : Res α × VM ν} (h : Hoare I Pre s Q p) : Hoare I Ext s Q p :=
  h.change fun i r => ⟨i, r.ext⟩

theorem Hoare.good {Q : α → VM ν → Prop} {p : Res α × VM ν} (h : Hoare I Ext s Q p) :
    p.1 ≠ .panic ∧ I p.2 ∧ s.heap.size ≤ p.2.heap.size ∧ ∀ a, p.1 = .ok a → Q a p.2 :=
  ⟨h.ne_panic, h.inv, h.rel.size, fun _ => h.val⟩

theorem Hoare.start {t : VM ν} (e : t.heap = s.heap) {Q : α → VM ν → Prop} {p : Res α × VM ν} (h : Hoare I R t Q p) :
    Hoare I R s Q p :=
  ⟨h.ne_panic, h.inv, e ▸ h.rel, h.val⟩

theorem Hoare.bind [RelOk R] {m : M ν α} {f : α → M ν β} {Q1 : α → VM ν → Prop} {Q2 : β → VM ν → Prop}
    (h1 : Hoare I R s Q1 (m s))
    (h2 : ∀ a s', I s' → R s.heap s'.heap → Q1 a s' → Hoare I R s' Q2 (f a s')) :
    Hoare I R s Q2 ((m >>= f) s) := by
  rw [M_bind_def]
  rcases hm : m s with ⟨r, s1⟩
  rw [hm] at h1
  cases r with
  | ok a =>
    have h3 := h2 a s1 h1.inv h1.rel (h1.val rfl)
    exact ⟨h3.ne_panic, h3.inv, RelOk.trans h1.rel h3.rel, h3.val⟩
  | panic => exact absurd rfl h1.ne_panic
  | _ => exact ⟨nofun, h1.inv, h1.rel, nofun⟩

/-- an allocating first part, what follows may overwrite: the continuation is told that nothing old has changed so far.  This is why the
    relation has two strengths: a copy (`post_dup`) is judged by `Pre`, so that the `setCell` after it still finds the receiver's cell
    (`pre1 _ _ hc` in `post_builtinMethod`); `Ext` alone would have forgotten it. -/
theorem Hoare.bind_pre {m : M ν α} {f : α → M ν β} {Q1 : α → VM ν → Prop} {Q2 : β → VM ν → Prop}
    (h1 : Hoare I Pre s Q1 (m s))
    (h2 : ∀ a s', I s' → Pre s.heap s'.heap → Q1 a s' → Hoare I Ext s' Q2 (f a s')) :
    Hoare I Ext s Q2 ((m >>= f) s) :=
  .bind (h1.weaken (Q' := fun a s' => Pre s.heap s'.heap ∧ Q1 a s') fun _ _ _ r q => ⟨r, q⟩).ofPre
    fun a s' hs' _ q => h2 a s' hs' q.1 q.2

theorem Hoare.ite {c : Prop} [Decidable c] {a b : M ν α} {Q : α → VM ν → Prop} (ha : c → Hoare I R s Q (a s))
    (hb : ¬ c → Hoare I R s Q (b s)) : Hoare I R s Q ((if c then a else b) s) := by
  split
  · exact ha ‹_›
  · exact hb ‹_›

theorem Hoare.getCell {a : Nat} {c : Cell ν} {f : Cell ν → M ν β} {Q : β → VM ν → Prop} (hc : s.heap[a]? = some c)
    (h : Hoare I R s Q (f c s)) : Hoare I R s Q ((Model.getCell a >>= f) s) := by
  rw [M_bind_def, getCell_ok hc]; exact h

theorem Hoare.getCell_of_lt {a : Nat} (ha : a < s.heap.size) {f : Cell ν → M ν β} {Q : β → VM ν → Prop}
    (h : ∀ c, s.heap[a]? = some c → Hoare I R s Q (f c s)) : Hoare I R s Q ((Model.getCell a >>= f) s) := by
  obtain ⟨c, hc⟩ := get_of_lt_size ha
  exact .getCell hc (h c hc)

theorem Hoare.mapM [RelOk R] {f : α → M ν β} {P : β → VM ν → Prop}
    (hP : ∀ b (s s' : VM ν), P b s → R s.heap s'.heap → P b s') :
    ∀ (l : List α) (s : VM ν), I s →
      (∀ x ∈ l, ∀ s' : VM ν, I s' → R s.heap s'.heap → Hoare I R s' P (f x s')) →
      Hoare I R s (fun bs s' => ∀ b ∈ bs, P b s') (l.mapM f s) := by
  intro l
  induction l with
  | nil => intro s hs _; rw [List.mapM_nil]; exact .pure hs nofun
  | cons x xs ih =>
    intro s hs hf
    rw [List.mapM_cons]
    refine .bind (hf x (by simp) s hs (RelOk.refl _)) (fun b s1 hs1 r1 hb => ?_)
    refine .bind (ih s1 hs1 (fun y hy s' hs' r' => hf y (by simp [hy]) s' hs' (RelOk.trans r1 r'))) (fun bs s2 hs2 r2 hbs => ?_)
    exact .pure hs2 (List.forall_mem_cons.2 ⟨hP _ _ _ hb r2, hbs⟩)

theorem Hoare.foldlM [RelOk R] {f : β → α → M ν β} {P : β → VM ν → Prop} :
    ∀ (l : List α) (b : β) (s : VM ν), I s → P b s →
      (∀ x ∈ l, ∀ (b : β) (s' : VM ν), I s' → R s.heap s'.heap → P b s' → Hoare I R s' P (f b x s')) →
      Hoare I R s P (l.foldlM f b s) := by
  intro l
  induction l with
  | nil => intro b s hs hb _; rw [List.foldlM_nil]; exact .pure hs hb
  | cons x xs ih =>
    intro b s hs hb hf
    rw [List.foldlM_cons]
    refine .bind (hf x (by simp) b s hs (RelOk.refl _) hb) (fun b1 s1 hs1 r1 hb1 => ?_)
    exact ih b1 s1 hs1 hb1 (fun y hy b' s' hs' r' hb' => hf y (by simp [hy]) b' s' hs' (RelOk.trans r1 r') hb')

end hoare

section calculus
variable {R : Heap ν → Heap ν → Prop} [RelOk R] {α β : Type}

theorem post_iff {s : VM ν} {Q : α → VM ν → Prop} {p : Res α × VM ν} : Post R s Q p ↔ Hoare WfHeap R s Q p := by
  rcases p with ⟨r, s'⟩
  cases r <;> first
    | exact ⟨fun h => .ok h.1 h.2.1 h.2.2, fun h => ⟨h.inv, h.rel, h.val rfl⟩⟩
    | exact ⟨False.elim, fun h => h.ne_panic rfl⟩
    | exact ⟨fun h => ⟨nofun, h.1, h.2, nofun⟩, fun h => ⟨h.inv, h.rel⟩⟩

theorem Post.ok {s s' : VM ν} {Q : α → VM ν → Prop} {a : α} (h : HeapOk s'.heap) (r : R s.heap s'.heap) (q : Q a s') :
    Post R s Q (.ok a, s') := ⟨h, r, q⟩

theorem Post.err {s : VM ν} {Q : α → VM ν → Prop} (e : Err) (h : HeapOk s.heap) : Post R s Q ((.err e : Res α), s) :=
  ⟨h, RelOk.refl _⟩

theorem Post.notModelled {s : VM ν} {Q : α → VM ν → Prop} (h : HeapOk s.heap) : Post R s Q ((notModelled : M ν α) s) :=
  ⟨h, RelOk.refl _⟩

theorem Post.frame {s : VM ν} {Q : α → VM ν → Prop} {p : Res α × VM ν} (h : Post R s Q p) :
    HeapOk p.2.heap ∧ R s.heap p.2.heap :=
  ⟨(post_iff.1 h).inv, (post_iff.1 h).rel⟩

theorem Post.ne_panic {s : VM ν} {Q : α → VM ν → Prop} {p : Res α × VM ν} (h : Post R s Q p) : ∀ s', p ≠ (.panic, s') := by
  rintro s' rfl
  exact h

end calculus

theorem alloc_apply (c : Cell ν) (s : VM ν) : alloc c s = (.ok s.heap.size, { s with heap := s.heap.push c }) := rfl

theorem setCell_apply {s : VM ν} {a : Nat} (c : Cell ν) (h : a < s.heap.size) :
    setCell a c s = (.ok (), { s with heap := s.heap.set! a c }) := by
  unfold setCell; rw [if_pos h]

theorem post_alloc {s : VM ν} (hs : HeapOk s.heap) {c : Cell ν} (hc : CellOk s.heap c) :
    Hoare WfHeap Pre s (fun r s' => r < s'.heap.size) (alloc c s) := by
  rw [alloc_apply]
  refine .ok (heapOk_push hs hc) (pre_push _ _) ?_
  show s.heap.size < (s.heap.push c).size
  rw [Array.size_push]; exact Nat.lt_succ_self _

theorem post_setCell {s : VM ν} (hs : HeapOk s.heap) {a : Nat} {old c : Cell ν} (ha : s.heap[a]? = some old)
    (hold : (Leaf.sortOf old).mutable = true) (hc : CellOk s.heap c) :
    Hoare WfHeap Ext s (fun _ _ => True) (setCell a c s) := by
  rw [setCell_apply c (lt_size_of_get ha)]
  obtain ⟨h1, h2⟩ := heapOk_set hs ha hold hc
  exact .ok h1 h2 trivial

/-- a result that is not a panic; a value satisfies `Q` -/
def ResOk {α} (Q : α → Prop) : Res α → Prop
  | .ok a => Q a
  | .panic => False
  | _ => True

/-- `m` run in `s` does not change the state and does not panic -/
def RO {α} (m : M ν α) (s : VM ν) (Q : α → Prop) : Prop := ∃ r, m s = (r, s) ∧ ResOk Q r

section ro
variable {α β : Type} {s : VM ν}

theorem RO.pure {Q : α → Prop} {a : α} (q : Q a) : RO (pure a : M ν α) s Q := ⟨.ok a, rfl, q⟩
theorem RO.rtErr {Q : α → Prop} (c : Nat) : RO (rtErr c : M ν α) s Q := ⟨.err (.rt c), rfl, trivial⟩
theorem RO.fuel {Q : α → Prop} : RO (outOfFuel : M ν α) s Q := ⟨.fuel, rfl, trivial⟩

instance : RelOk (fun (_ _ : Heap ν) => True) := ⟨fun _ => trivial, fun _ _ => trivial⟩

theorem ro_iff {m : M ν α} {Q : α → Prop} :
    RO m s Q ↔ Hoare (· = s) (fun _ _ => True) s (fun a _ => Q a) (m s) := by
  constructor
  · rintro ⟨r, hr, hq⟩
    rw [hr]
    exact ⟨fun e => by subst e; exact hq, rfl, trivial, fun e => by subst e; exact hq⟩
  · intro h
    refine ⟨(m s).1, Prod.ext rfl h.inv, ?_⟩
    cases hr : (m s).1 with
    | ok a => exact h.val hr
    | panic => exact h.ne_panic hr
    | _ => trivial

theorem RO.getCell_bind {a : Nat} {c : Cell ν} {f : Cell ν → M ν β} {Q : β → Prop} (hc : s.heap[a]? = some c)
    (h : RO (f c) s Q) : RO (Model.getCell a >>= f) s Q :=
  ro_iff.2 (.getCell hc (ro_iff.1 h))

theorem RO.weaken {m : M ν α} {Q Q' : α → Prop} (h : RO m s Q) (hq : ∀ a, Q a → Q' a) : RO m s Q' :=
  ro_iff.2 ((ro_iff.1 h).weaken fun a _ _ _ => hq a)

theorem RO.bind {m : M ν α} {f : α → M ν β} {Q1 : α → Prop} {Q2 : β → Prop}
    (h1 : RO m s Q1) (h2 : ∀ a, Q1 a → RO (f a) s Q2) : RO (m >>= f) s Q2 :=
  ro_iff.2 (.bind (ro_iff.1 h1) fun a s' e _ q => by subst e; exact ro_iff.1 (h2 a q))

theorem RO.post_bind {I : VM ν → Prop} {R : Heap ν → Heap ν → Prop} [RelOk R] {m : M ν α} {f : α → M ν β} {Q1 : α → Prop}
    {Q2 : β → VM ν → Prop} (hs : I s) (h1 : RO m s Q1) (h2 : ∀ a, Q1 a → Hoare I R s Q2 (f a s)) :
    Hoare I R s Q2 ((m >>= f) s) := by
  obtain ⟨r, hr, hq⟩ := h1
  rw [M_bind_def, hr]
  cases r with
  | ok a => exact h2 a hq
  | panic => exact hq.elim
  | _ => exact ⟨nofun, hs, RelOk.refl _, nofun⟩

theorem RO.hoare {I : VM ν → Prop} {R : Heap ν → Heap ν → Prop} [RelOk R] {m : M ν α} {Q : α → Prop} {Q' : α → VM ν → Prop}
    (hs : I s) (h : RO m s Q) (hq : ∀ a, Q a → Q' a s) : Hoare I R s Q' (m s) := by
  obtain ⟨r, hr, hr'⟩ := h
  rw [hr]
  cases r with
  | ok a => exact .ok hs (RelOk.refl _) (hq a hr')
  | panic => exact hr'.elim
  | _ => exact ⟨nofun, hs, RelOk.refl _, nofun⟩

theorem RO.post {R : Heap ν → Heap ν → Prop} [RelOk R] {m : M ν α} {Q : α → Prop} (hs : HeapOk s.heap) (h : RO m s Q) :
    Post R s (fun a s' => s' = s ∧ Q a) (m s) :=
  post_iff.2 (RO.hoare hs h fun _ q => ⟨rfl, q⟩)

theorem RO.forM {l : List α} {f : α → M ν PUnit} {P : α → Prop} (h : ∀ x ∈ l, RO (f x) s (fun _ => P x)) :
    RO (l.forM f) s (fun _ => ∀ x ∈ l, P x) := by
  induction l with
  | nil => exact ⟨.ok ⟨⟩, rfl, fun x hx => by cases hx⟩
  | cons x xs ih =>
    simp only [List.forM]
    refine RO.bind (h x (by simp)) (fun _ hx => ?_)
    refine RO.weaken (ih (fun y hy => h y (by simp [hy]))) (fun _ hxs => ?_)
    intro y hy
    rcases List.mem_cons.mp hy with rfl | hy
    · exact hx
    · exact hxs y hy

theorem RO.mapM {l : List α} {f : α → M ν β} {P : β → Prop} (h : ∀ x ∈ l, RO (f x) s P) :
    RO (l.mapM f) s (fun bs => ∀ b ∈ bs, P b) := by
  induction l with
  | nil => rw [List.mapM_nil]; exact RO.pure nofun
  | cons x xs ih =>
    rw [List.mapM_cons]
    refine RO.bind (h x (by simp)) (fun b hb => ?_)
    refine RO.bind (ih (fun y hy => h y (by simp [hy]))) (fun bs hbs => ?_)
    exact RO.pure (List.forall_mem_cons.2 ⟨hb, hbs⟩)

/-- with nothing said of the value, read-only is closed under `pure` and `bind`: the loop rules of `Calls.Closed` apply -/
theorem RO.closed : Closed (fun {α} (m : M ν α) => RO m s (fun _ => True)) :=
  ⟨fun _ => RO.pure trivial, fun h1 h2 => RO.bind h1 fun a _ => h2 a⟩

end ro

theorem ro_validateOne {s : VM ν} {a : Nat} (ty : String) (ha : a < s.heap.size) :
    RO (validateOne a ty) s (fun _ => ∃ c, s.heap[a]? = some c ∧ typeMatches c ty = true) := by
  obtain ⟨c, hc⟩ := get_of_lt_size ha
  unfold validateOne
  refine RO.getCell_bind hc ?_
  split
  · next h => exact RO.pure ⟨c, hc, h⟩
  · exact RO.rtErr _

theorem ro_validateAll {s : VM ν} {vals : List Addr} (ty : String) (hv : ∀ v ∈ vals, v < s.heap.size) :
    RO (validateAll vals ty) s (fun _ => ∀ v ∈ vals, ∃ c, s.heap[v]? = some c ∧ typeMatches c ty = true) := by
  unfold validateAll
  exact RO.forM (fun v hvm => ro_validateOne ty (hv v hvm))

theorem ro_validateExact {s : VM ν} {vals : List Addr} (tys : List String) (hv : ∀ v ∈ vals, v < s.heap.size) :
    RO (validateExact vals tys) s (fun _ => vals.length = tys.length ∧
      ∀ p ∈ vals.zip tys, ∃ c, s.heap[p.1]? = some c ∧ typeMatches c p.2 = true) := by
  unfold validateExact
  split
  · exact RO.rtErr _
  · next hlen =>
    refine RO.weaken (RO.forM (P := fun p => ∃ c, s.heap[p.1]? = some c ∧ typeMatches c p.2 = true) (fun p hp => ?_))
      (fun _ h => ⟨by simpa using hlen, h⟩)
    exact ro_validateOne p.2 (hv p.1 (List.of_mem_zip hp).1)

theorem lookup_isSome_of_mem {β} {k : String} {v : β} : ∀ {l : List (String × β)}, (k, v) ∈ l → (lookup k l).isSome = true :=
  fun h => (lookup_isSome_iff k _).2 (List.mem_map_of_mem (f := Prod.fst) h)

theorem CellOk.hm_get {h : Heap ν} {vals : List (String × Addr)} {order : List String} (hok : CellOk h (.hm vals order))
    {k : String} (hk : k ∈ order) : ∃ v, lookup k vals = some v ∧ v < h.size := by
  cases hl : lookup k vals with
  | none => have := hok.2.1 k hk; rw [hl] at this; cases this
  | some v => exact ⟨v, rfl, hok.1 (k, v) (mem_of_lookup hl)⟩

/-- the dictionary part of `CellOk` -/
def HmOk (h : Heap ν) (vals : List (String × Addr)) (order : List String) : Prop :=
  (∀ p ∈ vals, p.2 < h.size) ∧ (∀ k ∈ order, (lookup k vals).isSome = true) ∧ order.Nodup

theorem hmAppend_ok {h : Heap ν} {vals : List (String × Addr)} {order : List String} (hok : HmOk h vals order)
    (k : String) {v : Nat} (hv : v < h.size) : HmOk h (hmAppend vals order k v).1 (hmAppend vals order k v).2 := by
  obtain ⟨h1, h2, h3⟩ := hok
  unfold hmAppend
  split
  · next x hx =>
    -- the key is there: same keys, one value replaced
    refine ⟨fun p hp => (mem_assocSet hp).elim (· ▸ hv) (h1 p), fun k2 hk2 => ?_, h3⟩
    rw [lookup_isSome_iff, map_fst_assocSet k v vals ((lookup_isSome_iff k vals).1 (by rw [hx]; rfl)), ← lookup_isSome_iff]
    exact h2 k2 hk2
  · next hx =>
    -- a new key: appended to both lists
    have hnot : k ∉ order := fun hk => by have := h2 k hk; rw [hx] at this; cases this
    refine ⟨fun p hp => ?_, fun k2 hk2 => ?_, List.nodup_append.mpr ⟨h3, List.nodup_cons.2 ⟨List.not_mem_nil, List.nodup_nil⟩, ?_⟩⟩
    · rcases List.mem_append.mp hp with hp | hp
      · exact h1 p hp
      · exact List.mem_singleton.1 hp ▸ hv
    · rw [lookup_isSome_iff, List.map_append, List.mem_append]
      exact (List.mem_append.mp hk2).imp (fun hk2 => (lookup_isSome_iff k2 vals).1 (h2 k2 hk2)) id
    · exact fun a ha b hb heq => hnot (List.mem_singleton.1 hb ▸ heq ▸ ha)

theorem HmOk.cellOk {h : Heap ν} {vals : List (String × Addr)} {order : List String} (hok : HmOk h vals order) :
    CellOk h (.hm vals order) := hok

theorem newHashMapCell_ok {h : Heap ν} (kvs : List (String × Addr)) (hk : ∀ p ∈ kvs, p.2 < h.size) :
    CellOk h (newHashMapCell kvs : Cell ν) :=
  HmOk.cellOk <| List.foldlRecOn kvs (fun acc kv => hmAppend acc.1 acc.2 kv.1 kv.2) (b := ([], []))
    (motive := fun st => HmOk h st.1 st.2) ⟨by simp, by simp, by simp⟩ fun st hst kv hkv => hmAppend_ok hst kv.1 (hk kv hkv)

theorem ro_display : ∀ (n : Nat) {s : VM ν} {a : Nat}, HeapOk s.heap → a < s.heap.size →
    RO (display n a) s (fun _ => True) := by
  intro n
  induction n with
  | zero => intro s a _ _; exact RO.fuel
  | succ n ih =>
    intro s a hs ha
    obtain ⟨c, hc⟩ := get_of_lt_size ha
    have hok := hs a c hc
    unfold display
    refine RO.getCell_bind hc ?_
    cases c with
    | num x => exact RO.pure trivial
    | str t => exact RO.pure trivial
    | bool b => exact RO.pure trivial
    | null => exact RO.pure trivial
    | arr items =>
      refine RO.bind (RO.closed.mapM (fun x hx => ih hs (hok x hx))) (fun _ _ => RO.pure trivial)
    | hm vals order =>
      refine RO.bind (RO.closed.mapM (fun k hk => ?_)) (fun _ _ => RO.pure trivial)
      -- the key order lists keys of the map (`CellOk`): the `goPanic` arm of the lookup is not reached
      obtain ⟨v, hl, hv⟩ := hok.hm_get hk
      rw [hl]
      exact RO.bind (ih hs hv) (fun _ _ => RO.pure trivial)
    | obj cl props =>
      obtain ⟨nm, ct, pr, ms, hcl⟩ := hok.1
      refine RO.getCell_bind hcl ?_
      exact RO.pure trivial
    | fn f => exact RO.pure trivial
    | cls nm ct pr ms => exact RO.pure trivial
    | exc msg => exact RO.pure trivial

theorem ro_compareXEQ : ∀ (n : Nat) {s : VM ν} {l r : Nat}, HeapOk s.heap → l < s.heap.size → r < s.heap.size →
    RO (compareXEQ n l r) s (fun _ => True) := by
  intro n
  induction n with
  | zero => intro s l r _ _ _; exact RO.fuel
  | succ n ih =>
    intro s l r hs hl hr
    obtain ⟨cl, hcl⟩ := get_of_lt_size hl
    obtain ⟨cr, hcr⟩ := get_of_lt_size hr
    have hokl := hs l cl hcl
    have hokr := hs r cr hcr
    unfold compareXEQ
    refine RO.getCell_bind hcl ?_
    refine RO.getCell_bind hcr ?_
    cases cl with
    | null => exact RO.pure trivial
    | num x => exact RO.pure trivial
    | str x => exact RO.pure trivial
    | bool x => exact RO.pure trivial
    | arr xs =>
      cases cr with
      | arr ys =>
        dsimp only
        split
        · exact RO.pure trivial
        · refine RO.closed.allM (fun p hp => ?_)
          have := List.of_mem_zip hp
          exact ih hs (hokl p.1 this.1) (hokr p.2 this.2)
      | _ => exact RO.pure trivial
    | hm lv lo =>
      cases cr with
      | hm rv ro =>
        dsimp only
        split
        · exact RO.pure trivial
        · refine RO.closed.allM (fun k hk => ?_)
          cases hrl : lookup k rv with
          | none => exact RO.pure trivial
          | some b =>
            obtain ⟨a, hll, ha⟩ := hokl.hm_get hk
            rw [hll]
            exact ih hs ha (hokr.1 (k, b) (mem_of_lookup hrl))
      | _ => exact RO.pure trivial
    | obj _ _ => exact RO.rtErr _
    | fn _ => exact RO.rtErr _
    | cls _ _ _ _ => exact RO.rtErr _
    | exc _ => exact RO.rtErr _

theorem lt_stable (b : Nat) (s s' : VM ν) (h : b < s.heap.size) (p : Pre s.heap s'.heap) : b < s'.heap.size :=
  Nat.lt_of_lt_of_le h p.size

theorem post_dup : ∀ (n : Nat) {s : VM ν} {a : Nat}, HeapOk s.heap → a < s.heap.size →
    Hoare WfHeap Pre s (fun r s' => r < s'.heap.size) (dup n a s) := by
  intro n
  induction n with
  | zero => intro s a hs _; exact Hoare.fuel hs
  | succ n ih =>
    intro s a hs ha
    obtain ⟨c, hc⟩ := get_of_lt_size ha
    have hok := hs a c hc
    unfold dup
    refine Hoare.getCell hc ?_
    cases c with
    | bool b => exact post_alloc hs (c := .bool b) trivial
    | str t => exact post_alloc hs (c := .str t) trivial
    | num x => exact post_alloc hs (c := .num x) trivial
    | null => exact Hoare.pure hs ha
    | arr items =>
      refine Hoare.bind (Hoare.mapM (P := fun b s => b < s.heap.size) lt_stable items s hs
        (fun x hx s' hs' r' => ih hs' (Nat.lt_of_lt_of_le (hok x hx) r'.size))) (fun items' s1 hs1 _ hit => ?_)
      exact post_alloc hs1 (c := .arr items') hit
    | hm vals order =>
      refine Hoare.bind (Hoare.mapM (P := fun (b : String × Addr) s => b.2 < s.heap.size)
        (fun b s s' h p => Nat.lt_of_lt_of_le h p.size) order s hs
        (fun k hk s' hs' r' => ?_)) (fun kvs s1 hs1 _ hkvs => ?_)
      · obtain ⟨v, hl, hv⟩ := hok.hm_get hk
        rw [hl]
        exact Hoare.bind (ih hs' (Nat.lt_of_lt_of_le hv r'.size)) (fun v' s2 hs2 _ hv' => Hoare.pure hs2 hv')
      · exact post_alloc hs1 (newHashMapCell_ok kvs hkvs)
    | obj _ _ => exact Hoare.pure hs ha
    | fn _ => exact Hoare.pure hs ha
    | cls _ _ _ _ => exact Hoare.pure hs ha
    | exc _ => exact Hoare.pure hs ha

end ZnVerif.Proofs.Builtins
