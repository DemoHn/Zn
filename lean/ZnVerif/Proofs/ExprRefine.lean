/-
C01: the model evaluator refines the spec semantics on the pure expression fragment: `sim_eval`
(induction on fuel; the operator nodes are in ExprLogic / ExprArith, the literals in ExprLits; `sim_eval_node` is the step for
every form but a literal).  For the statement level, where stored values must stay scalar: `TopScalar` expressions read within
fuel 1 (`sim_eval_top`), the targets of 遍历 (`IterTarget`) within fuel 2 (`sim_eval_target`).
-/
import ZnVerif.Proofs.ExprLogic
import ZnVerif.Proofs.ExprArith
import ZnVerif.Proofs.ExprLits

namespace ZnVerif.Proofs
open ZnVerif.Model ZnVerif.Spec

variable {ν : Type} [NumOps ν] {ω : Addr → Option (SVal ν)}

/-- expressions whose top node is not a list / dictionary literal: their value is a scalar, or whatever a name holds -/
inductive TopScalar : Expr → Prop
  | id (i : Ident) : TopScalar (.id i)
  | str (ln : Nat) (t : String) : TopScalar (.str ln t)
  | logic (ln ty : Nat) (l r : Expr) : TopScalar (.logic ln ty l r)
  | arith (ln ty : Nat) (l r : Expr) : TopScalar (.arith ln ty l r)

theorem sim_zero {d k : Nat} (e : Expr) (s : VM ν) (σ : SState ν) :
    Sim d (Reads ω k) s σ (evalExpr 0 e) (evalE 0 e) := sim_fuel

/-- a node other than a literal, given the simulation of its operands at fuel `n`: a name reads within `d+1`
(the depth of the environment), an operator yields a scalar -/
theorem sim_eval_node {d n : Nat}
    (ih : ∀ (e : Expr) (s : VM ν) (σ : SState ν), PureExpr e → EnvRel ω d s σ →
      Sim d (Reads ω (n + d)) s σ (evalExpr n e) (evalE n e))
    (e : Expr) (s : VM ν) (σ : SState ν) (he : PureExpr e) (ht : TopScalar e) (henv : EnvRel ω d s σ) :
    Sim d (Reads ω (d + 1)) s σ (evalExpr (n+1) e) (evalE (n+1) e) := by
  have scalar : ∀ {s : VM ν} {m : M ν Addr} {m' : SM ν (SVal ν)}, Sim d (Reads ω 1) s σ m m' → Sim d (Reads ω (d + 1)) s σ m m' :=
    sim_weaken fun _ _ _ h => h.mono (Nat.le_add_left 1 d)
  cases ht with
  | id i =>
    rw [evalExpr_id, evalE_id]
    refine sim_bind (sim_matchID i.lit) fun s1 x y hF hxy => ?_
    cases hxy with
    | name t => exact sim_find (henv.frame hF) t
    | number x => exact scalar (sim_alloc (k := 0) _ _ (.num x))
  | str ln t =>
    rw [evalExpr_str, evalE_str]
    exact scalar (sim_alloc (k := 0) _ _ (.str t))
  | logic ln ty l r =>
    cases he with
    | logic _ _ _ _ hty hl hr =>
    rw [evalExpr_logic, evalE_logic]
    exact scalar (sim_logicNode hty (ih l s σ hl henv) fun s1 hF => ih r s1 σ hr (henv.frame hF))
  | arith ln ty l r =>
    cases he with
    | arith _ _ _ _ hty hl hr =>
    rw [evalExpr_arith, evalE_arith]
    exact scalar (sim_arithNode hty (ih l s σ hl henv) fun s1 hF => ih r s1 σ hr (henv.frame hF))

theorem sim_eval (ω : Addr → Option (SVal ν)) (d : Nat) : ∀ (n : Nat) (e : Expr) (s : VM ν) (σ : SState ν),
    PureExpr e → EnvRel ω d s σ → Sim d (Reads ω (n + d)) s σ (evalExpr n e) (evalE n e)
  | 0, e, s, σ, _, _ => sim_zero e s σ
  | n+1, e, s, σ, he, henv => by
    have ih := sim_eval ω d n
    have node : TopScalar e → Sim d (Reads ω (n + 1 + d)) s σ (evalExpr (n+1) e) (evalE (n+1) e) := fun ht =>
      sim_weaken (fun _ _ _ h => Reads.mono h (by omega)) (sim_eval_node ih e s σ he ht henv)
    cases he with
    | id i => exact node (.id i)
    | str ln t => exact node (.str ln t)
    | logic ln ty l r => exact node (.logic ln ty l r)
    | arith ln ty l r => exact node (.arith ln ty l r)
    | arr ln items hitems =>
      exact sim_weaken (fun _ _ _ h => h.mono (by omega))
        (sim_arr' ln items s σ fun e he s1 hF1 => ih e s1 σ (hitems e he) (henv.frame hF1))
    | hm ln kvs hitems =>
      exact sim_weaken (fun _ _ _ h => h.mono (by omega))
        (sim_hm' ln kvs s σ fun kv hkv s1 hF1 => ih kv.2 s1 σ (hitems kv hkv) (henv.frame hF1))

/-! ### results that read within a fixed small fuel (used by the statement-level refinement, where
stored values must stay scalar for the environment relation `EnvRel ω 0` to be kept) -/

theorem sim_eval_top (ω : Addr → Option (SVal ν)) : ∀ (n : Nat) (e : Expr) (s : VM ν) (σ : SState ν),
    PureExpr e → TopScalar e → EnvRel ω 0 s σ → Sim 0 (Reads ω 1) s σ (evalExpr n e) (evalE n e)
  | 0, e, s, σ, _, _, _ => sim_zero e s σ
  | n+1, e, s, σ, he, ht, henv => sim_eval_node (sim_eval ω 0 n) e s σ he ht henv

/-- what a loop may iterate over with scalar loop variables: a top-scalar expression (a name holding an
empty container, …) or a list / dictionary literal of top-scalar items -/
inductive IterTarget : Expr → Prop
  | top (e : Expr) : PureExpr e → TopScalar e → IterTarget e
  | arr (ln : Nat) (items : List Expr) : (∀ e ∈ items, PureExpr e ∧ TopScalar e) → IterTarget (.arr ln items)
  | hm (ln : Nat) (kvs : List (Expr × Expr)) : (∀ kv ∈ kvs, PureExpr kv.2 ∧ TopScalar kv.2) → IterTarget (.hm ln kvs)

theorem IterTarget.pure {e : Expr} (h : IterTarget e) : PureExpr e := by
  cases h with
  | top _ hp _ => exact hp
  | arr ln items hi => exact .arr _ _ fun e he => (hi e he).1
  | hm ln kvs hi => exact .hm _ _ fun kv hkv => (hi kv hkv).1

theorem sim_eval_target (ω : Addr → Option (SVal ν)) (n : Nat) (e : Expr) (s : VM ν) (σ : SState ν)
    (he : IterTarget e) (henv : EnvRel ω 0 s σ) : Sim 0 (Reads ω 2) s σ (evalExpr n e) (evalE n e) := by
  cases he with
  | top _ hp ht => exact sim_weaken (fun _ _ _ h => h.mono (by omega)) (sim_eval_top ω n e s σ hp ht henv)
  | arr ln items hi =>
    cases n with
    | zero => exact sim_zero _ s σ
    | succ n =>
      exact sim_arr' (k := 1) ln items s σ fun e he s1 hF1 =>
        sim_eval_top ω n e s1 σ (hi e he).1 (hi e he).2 (henv.frame hF1)
  | hm ln kvs hi =>
    cases n with
    | zero => exact sim_zero _ s σ
    | succ n =>
      exact sim_hm' (k := 1) ln kvs s σ fun kv hkv s1 hF1 =>
        sim_eval_top ω n kv.2 s1 σ (hi kv hkv).1 (hi kv hkv).2 (henv.frame hF1)

end ZnVerif.Proofs
