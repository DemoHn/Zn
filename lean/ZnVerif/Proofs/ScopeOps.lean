/-
What the operations on one `Scope` value of the evaluator model do (Model/Interp.lean: `Scope.declare`, `Scope.set`,
`Scope.beginScope`, `Scope.endScope`) — no machine state, no monad: the `SortedDepths` invariant and what keeps it, what a
declaration adds and an assignment leaves (`declare_ok`, `set_ok`), the errors they can answer (`declare_error`, `set_error`),
a name bound by a constant cannot be assigned (`set_go_const_prefix`), and what `EndScope` forgets after a list of declarations
and assignments (`ScopeOp`, `applyOps`, `applyOps_keeps`, `endScope_forgets_declared`).
Continues `namespace ZnVerif.Proofs.Calls`, like Proofs/Handlers.lean.
-/
import ZnVerif.Model.Interp
import ZnVerif.Proofs.SortedByKey

namespace ZnVerif.Proofs.Calls
open ZnVerif.Model

/-- symbols are stacked by non-increasing depth from the top, none deeper than the scope's current depth -/
def SortedDepths (sc : Scope) : Prop :=
  sc.syms.Pairwise (fun a b => b.depth ≤ a.depth) ∧ ∀ sy ∈ sc.syms, sy.depth ≤ sc.depth

/-- everything about a symbol except its value -/
def symKey (sy : Sym) : String × Int × Bool × Option Int := (sy.name, sy.depth, sy.isConst, sy.ext)

theorem sortedDepths_empty : SortedDepths {} := ⟨List.Pairwise.nil, by intro sy h; cases h⟩

theorem SortedDepths.beginScope {sc : Scope} (h : SortedDepths sc) : SortedDepths sc.beginScope := by
  refine ⟨h.1, ?_⟩
  intro sy hs
  have := h.2 sy hs
  show sy.depth ≤ sc.depth + 1
  omega

theorem declare_ok {sc sc' : Scope} {name : String} {v : Addr} {c : Bool} {ext : Option Int}
    (h : sc.declare name v c ext = .ok sc') :
    sc' = { sc with syms := { name, depth := sc.depth, isConst := c, ext, val := v } :: sc.syms } := by
  unfold Scope.declare at h
  split at h
  · cases h
  · cases h; rfl

theorem declare_depth {sc sc' : Scope} {name : String} {v : Addr} {c : Bool} {ext : Option Int}
    (h : sc.declare name v c ext = .ok sc') : sc'.depth = sc.depth := by
  rw [declare_ok h]

theorem SortedDepths.declare {sc sc' : Scope} {name : String} {v : Addr} {c : Bool} {ext : Option Int}
    (hs : SortedDepths sc) (h : sc.declare name v c ext = .ok sc') : SortedDepths sc' := by
  rw [declare_ok h]
  refine ⟨List.Pairwise.cons ?_ hs.1, ?_⟩
  · intro sy hsy; exact hs.2 sy hsy
  · intro sy hsy
    rcases List.mem_cons.mp hsy with h | h
    · subst h; exact Int.le_refl _
    · exact hs.2 sy h

theorem set_go_keys (name : String) (v : Addr) :
    ∀ (l l' : List Sym), Scope.set.go name v l = some (.ok l') → l'.map symKey = l.map symKey
  | [], l', h => by simp [Scope.set.go] at h
  | sy :: rest, l', h => by
    unfold Scope.set.go at h
    split at h
    · split at h
      · cases h
      · cases h; rfl
    · split at h
      · cases h
      · cases h
      · rename_i rest' hr
        cases h
        simp [set_go_keys name v rest rest' hr]

theorem set_ok {sc sc' : Scope} {name : String} {v : Addr} (h : sc.set name v = .ok sc') :
    sc'.depth = sc.depth ∧ sc'.syms.map symKey = sc.syms.map symKey := by
  unfold Scope.set at h
  split at h
  · cases h
  · cases h
  · rename_i syms hg
    cases h
    exact ⟨rfl, set_go_keys name v _ _ hg⟩

theorem set_depth {sc sc' : Scope} {name : String} {v : Addr} (h : sc.set name v = .ok sc') :
    sc'.depth = sc.depth := (set_ok h).1

theorem sortedDepths_of_keys {sc sc' : Scope} (hd : sc'.depth = sc.depth)
    (hk : sc'.syms.map symKey = sc.syms.map symKey) (hs : SortedDepths sc) : SortedDepths sc' := by
  have hdm : sc'.syms.map (·.depth) = sc.syms.map (·.depth) := by
    have := congrArg (List.map (fun k : String × Int × Bool × Option Int => k.2.1)) hk
    simpa [List.map_map, symKey, Function.comp_def] using this
  constructor
  · have h1 : (sc.syms.map (·.depth)).Pairwise (fun a b => b ≤ a) := List.pairwise_map.mpr hs.1
    rw [← hdm] at h1
    exact List.pairwise_map.mp h1
  · intro sy hsy
    have : sy.depth ∈ sc'.syms.map (·.depth) := List.mem_map.mpr ⟨sy, hsy, rfl⟩
    rw [hdm] at this
    obtain ⟨sy0, h0, he⟩ := List.mem_map.mp this
    rw [hd, ← he]; exact hs.2 sy0 h0

theorem SortedDepths.set {sc sc' : Scope} {name : String} {v : Addr}
    (hs : SortedDepths sc) (h : sc.set name v = .ok sc') : SortedDepths sc' :=
  sortedDepths_of_keys (set_ok h).1 (set_ok h).2 hs

theorem endScope_syms {sc : Scope} (hs : SortedDepths sc) :
    sc.endScope.syms = sc.syms.filter (fun sy => sy.depth ≤ sc.depth - 1) :=
  dropWhile_eq_filter_of_sorted Sym.depth _ _ hs.1

theorem endScope_depth (sc : Scope) : sc.endScope.depth = sc.depth - 1 := rfl
theorem beginScope_depth (sc : Scope) : sc.beginScope.depth = sc.depth + 1 := rfl

theorem SortedDepths.endScope {sc : Scope} (hs : SortedDepths sc) : SortedDepths sc.endScope := by
  constructor
  · rw [endScope_syms hs]; exact List.Pairwise.filter _ hs.1
  · intro sy hsy
    rw [endScope_syms hs] at hsy
    have := (List.mem_filter.mp hsy).2
    simpa [endScope_depth] using this

/-- operations a body performs on its scope between `BeginScope` and `EndScope` -/
inductive ScopeOp where
  | declare (name : String) (v : Addr) (isConst : Bool) (ext : Option Int)
  | set (name : String) (v : Addr)

def ScopeOp.apply : ScopeOp → Scope → Except Err Scope
  | .declare name v c ext, sc => sc.declare name v c ext
  | .set name v, sc => sc.set name v

def ScopeOp.isSet : ScopeOp → Bool
  | .set .. => true
  | _ => false

/-- run the operations in order; a failing one (43, 44, 42) leaves the scope as it was and is skipped -/
def applyOps : List ScopeOp → Scope → Scope
  | [], sc => sc
  | op :: rest, sc =>
    match op.apply sc with
    | .ok sc' => applyOps rest sc'
    | .error _ => applyOps rest sc

theorem applyOps_keeps (P : Scope → Prop) :
    ∀ (ops : List ScopeOp) (sc : Scope), (∀ op ∈ ops, ∀ sc sc', P sc → op.apply sc = .ok sc' → P sc') → P sc →
      P (applyOps ops sc)
  | [], _, _, h => h
  | op :: rest, sc, hstep, h => by
    unfold applyOps
    have hrest := fun o ho => hstep o (List.mem_cons_of_mem _ ho)
    cases hop : op.apply sc with
    | error e => exact applyOps_keeps P rest sc hrest h
    | ok sc' => exact applyOps_keeps P rest sc' hrest (hstep op List.mem_cons_self sc sc' h hop)

theorem applyOps_decl (ops : List ScopeOp) (hdecl : ∀ op ∈ ops, op.isSet = false) (sc : Scope) :
    ∃ pre, applyOps ops sc = { sc with syms := pre ++ sc.syms } ∧ ∀ sy ∈ pre, sy.depth = sc.depth := by
  induction ops generalizing sc with
  | nil => exact ⟨[], rfl, nofun⟩
  | cons op ops ih =>
    have ih := ih fun o ho => hdecl o (List.mem_cons_of_mem _ ho)
    unfold applyOps
    cases hop : op.apply sc with
    | error e => exact ih sc
    | ok sc' =>
      cases op with
      | set name v => cases hdecl _ List.mem_cons_self
      | declare name v c ext =>
        obtain ⟨pre, h1, h2⟩ := ih sc'
        have hd : sc'.depth = sc.depth := declare_depth hop
        refine ⟨pre ++ [⟨name, sc.depth, c, ext, v⟩], ?_, fun sy hsy => ?_⟩
        · show applyOps ops sc' = _
          rw [h1, hd, declare_ok hop, List.append_assoc]; rfl
        · rcases List.mem_append.1 hsy with h | h
          · exact (h2 sy h).trans hd
          · cases List.mem_singleton.1 h; rfl

/-- with declarations only, the scope after `EndScope` is literally the scope before `BeginScope`: the loop of `EndScope`
drops the new symbols, all one level deeper, and stops at the first old one -/
theorem endScope_forgets_declared (sc : Scope) (hs : SortedDepths sc) (ops : List ScopeOp)
    (hdecl : ∀ op ∈ ops, op.isSet = false) :
    (applyOps ops sc.beginScope).endScope = sc := by
  obtain ⟨pre, h1, h2⟩ := applyOps_decl ops hdecl sc.beginScope
  rw [h1]
  cases sc with | mk syms depth =>
  simp only [Scope.endScope, Scope.beginScope, Int.add_sub_cancel, Scope.mk.injEq, and_true] at h2 ⊢
  rw [List.dropWhile_append_of_pos fun sy hsy => by simp [h2 sy hsy]; omega]
  cases syms with
  | nil => rfl
  | cons sy rest => exact List.dropWhile_cons_of_neg (by simpa using hs.2 sy List.mem_cons_self)

theorem declare_error {sc : Scope} {name : String} {v : Addr} {c : Bool} {ext : Option Int} {e : Err}
    (h : sc.declare name v c ext = .error e) : e = .rt 43 := by
  unfold Scope.declare at h
  split at h
  · cases h; rfl
  · cases h

theorem set_go_error (name : String) (v : Addr) :
    ∀ (l : List Sym) (e : Err), Scope.set.go name v l = some (.error e) → e = .rt 44
  | [], e, h => by simp [Scope.set.go] at h
  | sy :: rest, e, h => by
    unfold Scope.set.go at h
    split at h
    · split at h
      · cases h; rfl
      · cases h
    · split at h
      · cases h
      · rename_i e' hr
        cases h
        exact set_go_error name v rest _ hr
      · cases h

theorem set_error {sc : Scope} {name : String} {v : Addr} {e : Err} (h : sc.set name v = .error e) :
    ∃ k, e = .rt k := by
  unfold Scope.set at h
  split at h
  · cases h; exact ⟨_, rfl⟩
  · rename_i e' hg
    cases h
    exact ⟨_, set_go_error name v _ _ hg⟩
  · cases h

theorem set_go_const_prefix (x : String) (w : Addr) (rest : List Sym) :
    ∀ (pre : List Sym), (∀ sy ∈ pre, sy.isConst = true) → (∃ sy ∈ pre, sy.name = x) →
      Scope.set.go x w (pre ++ rest) = some (.error (.rt 44))
  | [], _, h => by obtain ⟨sy, hm, _⟩ := h; cases hm
  | sy :: pre, hc, h => by
    rw [List.cons_append]
    unfold Scope.set.go
    by_cases hn : (sy.name == x) = true
    · simp only [hn, if_true, hc sy List.mem_cons_self]
    · simp only [hn, Bool.false_eq_true, if_false]
      have hrest : ∃ sy' ∈ pre, sy'.name = x := by
        obtain ⟨sy', hm, hx⟩ := h
        rcases List.mem_cons.mp hm with rfl | hm'
        · exact absurd (by simpa using hx) hn
        · exact ⟨sy', hm', hx⟩
      rw [set_go_const_prefix x w rest pre (fun s hs => hc s (List.mem_cons_of_mem _ hs)) hrest]

end ZnVerif.Proofs.Calls
