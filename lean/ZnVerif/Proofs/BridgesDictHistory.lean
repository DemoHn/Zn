/-
Whole histories of the evaluator's dictionary operations against `Model/Containers.lean` and the ordered-map spec.

* `dictStepI` / `dictRunI`: the pure core of the evaluator's dictionary operations (`hmAppend`, `assocErase` /
  `List.erase`, `lookup` — the functions `Model/Interp.lean` itself calls) in the operation vocabulary of
  `Model/Containers.lean`; `dictStepI_bridge` relates one step to `Containers.dictStep`, `dictStepI_spec` composes that
  with C12's `dictStep_spec`.
* `DictCalls n a s ops s'`: histories of *evaluator calls* (monadic level): from state `s` a sequence of successful
  mutating calls on the dictionary cell `a` — 写入, 移除, `D#k = v` as the evaluator makes them (`builtinMethod`,
  `reduceLHS`), interleaved with any steps that leave the cell as it is (reads, other evaluation) — leads to `s'`; `ops`
  records what was done, in the vocabulary of `Containers`, with the key texts and the values actually stored (for 写入 the `dup`
  result).  `dictCalls_core`: whatever dictionary the cell held, at the end it holds the fold of `dictStepI` over `ops`
  (`coreAfter`); `coreAfter_spec`: from a cell with the invariant that fold is the insertion-ordered map after `ops` and
  the invariant holds at the end (`dictCalls_spec` puts the two together).
-/
import ZnVerif.Proofs.BridgesDictOps
set_option linter.unusedSectionVars false

namespace ZnVerif.Proofs.Bridges
open ZnVerif ZnVerif.Model
open ZnVerif.Model.Containers (HashMap DictOp OpResult)

variable {ν : Type} [NumOps ν]

abbrev DictSt := List (String × Addr) × List String

def dictStepI (sub : Addr → String → Option Addr) (st : DictSt) : DictOp Addr → DictSt × OpResult Addr
  | .get keys => (st, Containers.getResult (Containers.hmGet sub (toC st.1 st.2) keys))
  | .set k v => (hmAppend st.1 st.2 k v, .elem v)
  | .delete k =>
    match lookup k st.1 with
    | some v => ((assocErase k st.1, st.2.erase k), .elem v)
    | none => (st, .null)
  | .ivRead k => (st, match lookup k st.1 with | some v => .elem v | none => .err 41)
  | .ivWrite k v => (hmAppend st.1 st.2 k v, .unit)

def dictRunI (sub : Addr → String → Option Addr) : DictSt → List (DictOp Addr) → List (OpResult Addr × DictSt)
  | _, [] => []
  | st, op :: ops => let r := dictStepI sub st op; (r.2, r.1) :: dictRunI sub r.1 ops

theorem hmGet_congr (sub : Addr → String → Option Addr) {vals : List (String × Addr)} {order : List String}
    {hm : HashMap Addr} (hR : Rhm vals order hm) (keys : List String) :
    Containers.hmGet sub hm keys = Containers.hmGet sub (toC vals order) keys := by
  cases keys with
  | nil => rfl
  | cons k ks =>
    simp only [Containers.hmGet]
    rw [← hR.get k, ← (Rhm_toC vals order).get k]

theorem dictStepI_bridge (sub : Addr → String → Option Addr) {st : DictSt} {hm : HashMap Addr}
    (hR : Rhm st.1 st.2 hm) (hwf : dictWF st.1 st.2) (op : DictOp Addr) :
    ∃ hm', Containers.dictStep sub hm op = .ok (hm', (dictStepI sub st op).2) ∧
      Rhm (dictStepI sub st op).1.1 (dictStepI sub st op).1.2 hm' ∧
      dictWF (dictStepI sub st op).1.1 (dictStepI sub st op).1.2 := by
  obtain ⟨vals, order⟩ := st
  cases op with
  | get keys =>
    refine ⟨hm, ?_, hR, hwf⟩
    simp only [Containers.dictStep, dictStepI, hmGet_congr sub hR keys]
  | set k v | ivWrite k v =>
    exact ⟨_, rfl, hmAppend_bridge hR k v, hmAppend_wf k v hwf⟩
  | delete k =>
    simp only [Containers.dictStep, dictStepI]
    cases hl : lookup k vals with
    | none =>
      rw [erase_absent_bridge hR k hl]
      exact ⟨hm, rfl, hR, hwf⟩
    | some v =>
      obtain ⟨hm', hd, hR'⟩ := erase_bridge hR hwf k v hl
      rw [hd]
      exact ⟨hm', rfl, hR', erase_wf k hwf⟩
  | ivRead k =>
    refine ⟨hm, ?_, hR, hwf⟩
    simp only [Containers.dictStep, dictStepI, Containers.ivMapRead, ← hR.get k]
    cases lookup k vals <;> rfl

theorem dictStepI_spec (sub : Addr → String → Option Addr) {st : DictSt} (hwf : dictWF st.1 st.2) (op : DictOp Addr) :
    Spec.CollHistory.dictStep sub st.1 op = ((dictStepI sub st op).1.1, (dictStepI sub st op).2) ∧
      dictWF (dictStepI sub st op).1.1 (dictStepI sub st op).1.2 := by
  have hR := Rhm_toC st.1 st.2
  obtain ⟨hm', hs, hR', hwf'⟩ := dictStepI_bridge sub hR hwf op
  obtain ⟨hm'', r, hs2, _, hspec⟩ := ZnVerif.Proofs.Containers.dictStep_spec sub (inv_of_dictWF hwf) op
  cases hs.symm.trans hs2
  rw [abs_eq_vals hR hwf, abs_eq_vals hR' hwf'] at hspec
  exact ⟨hspec, hwf'⟩

theorem dictRunI_spec (sub : Addr → String → Option Addr) (ops : List (DictOp Addr)) : ∀ (st : DictSt),
    dictWF st.1 st.2 →
    (dictRunI sub st ops).map (fun p => (p.1, p.2.1)) = Spec.CollHistory.dictRun sub st.1 ops ∧
    ∀ p ∈ dictRunI sub st ops, dictWF p.2.1 p.2.2 := by
  induction ops with
  | nil => intro st _; exact ⟨rfl, by simp [dictRunI]⟩
  | cons op ops ih =>
    intro st hwf
    obtain ⟨hstep, hwf'⟩ := dictStepI_spec sub hwf op
    obtain ⟨ih1, ih2⟩ := ih (dictStepI sub st op).1 hwf'
    refine ⟨by simp only [dictRunI, Spec.CollHistory.dictRun, List.map_cons, hstep, ih1], fun p hp => ?_⟩
    rcases List.mem_cons.1 hp with rfl | hp
    · exact hwf'
    · exact ih2 p hp

/-- `NewHashMap` on any literal, duplicate keys included -/
theorem newHashMapCell_spec (kvs : List (String × Addr)) :
    ∃ vals order, (newHashMapCell kvs : Cell ν) = .hm vals order ∧ dictWF vals order ∧
      Rhm vals order (Containers.newHashMap kvs) ∧ vals = Spec.OrderedMap.ofList kvs := by
  have hR := hmFold_bridge kvs ([], []) Containers.emptyHashMap ⟨rfl, fun _ => rfl⟩
  have hwf := List.foldlRecOn kvs (fun acc kv => hmAppend acc.1 acc.2 kv.1 kv.2) (b := ([], []))
    (motive := fun st => dictWF st.1 st.2) ⟨rfl, List.nodup_nil⟩ fun st h kv _ => hmAppend_wf kv.1 kv.2 h
  refine ⟨_, _, newHashMapCell_eq_foldl kvs, hwf, hR, ?_⟩
  rw [← abs_eq_vals hR hwf]
  exact (ZnVerif.Proofs.Containers.newHashMap_spec kvs).2

inductive DictCalls (n : Nat) (a : Addr) : VM ν → List (DictOp Addr) → VM ν → Prop
  | done (s : VM ν) : DictCalls n a s [] s
  /-- any step that leaves cell `a` as it is (reads, evaluation of other expressions, allocation) -/
  | other {s s1 s2 : VM ν} {ops : List (DictOp Addr)} : s1.heap[a]? = s.heap[a]? →
      DictCalls n a s1 ops s2 → DictCalls n a s ops s2
  /-- `D之（写入：k，v）` succeeded; `v'` is the copy `dup` made of `v` -/
  | set {s sd s1 s2 : VM ν} {k v v' r : Addr} {key : String} {ops : List (DictOp Addr)} :
      s.heap[k]? = some (.str key) → dup n v s = (.ok v', sd) → builtinMethod n a "写入" [k, v] s = (.ok r, s1) →
      DictCalls n a s1 ops s2 → DictCalls n a s (.set key v' :: ops) s2
  /-- `D之（移除：k）` succeeded -/
  | delete {s s1 s2 : VM ν} {k r : Addr} {key : String} {ops : List (DictOp Addr)} :
      s.heap[k]? = some (.str key) → builtinMethod n a "移除" [k] s = (.ok r, s1) →
      DictCalls n a s1 ops s2 → DictCalls n a s (.delete key :: ops) s2
  /-- `D#key = v` succeeded -/
  | ivWrite {s s1 s2 : VM ν} {v : Addr} {key : String} {idx : Int} {ops : List (DictOp Addr)} :
      reduceLHS (2, a, key, idx) v s = (.ok (), s1) →
      DictCalls n a s1 ops s2 → DictCalls n a s (.ivWrite key v :: ops) s2

/-- the ordered map after a history of abstract operations (the answers are not needed for the state; `sub` matters for `.get`
alone, which changes nothing) -/
def omapAfter (sub : Addr → String → Option Addr) (m : Spec.OrderedMap.OMap Addr) (ops : List (DictOp Addr)) :
    Spec.OrderedMap.OMap Addr :=
  ops.foldl (fun m op => (Spec.CollHistory.dictStep sub m op).1) m

/-- the state of the evaluator's pure core after a history -/
def coreAfter (sub : Addr → String → Option Addr) (st : DictSt) (ops : List (DictOp Addr)) : DictSt :=
  ops.foldl (fun st op => (dictStepI sub st op).1) st

/-- no invariant is needed for the cell to follow the pure core: each recorded call stores the step of `dictStepI` -/
theorem dictCalls_core (sub : Addr → String → Option Addr) (n : Nat) (a : Addr) {s s' : VM ν} {ops : List (DictOp Addr)}
    (h : DictCalls n a s ops s') : ∀ (vals : List (String × Addr)) (order : List String),
    s.heap[a]? = some (.hm vals order) →
    s'.heap[a]? = some (.hm (coreAfter sub (vals, order) ops).1 (coreAfter sub (vals, order) ops).2) := by
  induction h with
  | done s => exact fun vals order hc => hc
  | other hsame _ ih => exact fun vals order hc => ih vals order (hsame ▸ hc)
  | @set s sd s1 s2 k v v' r key ops hk hd hcall _ ih =>
    intro vals order hc
    obtain ⟨v'', s1', hd', hlt, rfl, _⟩ := bm_hm_set_ok n a vals order s k v key r s1 hc hk hcall
    cases hd.symm.trans hd'
    exact ih _ _ (get_set_eq _ _ _ hlt)
  | @delete s s1 s2 k r key ops hk hcall _ ih =>
    intro vals order hc
    have hlt := lt_size_of_getElem? hc
    rw [bm_hm_remove n a vals order s k key hc hk] at hcall
    simp only [coreAfter, List.foldl_cons, dictStepI]
    cases hl : lookup key vals with
    | none =>
      rw [hl] at hcall
      cases hcall
      refine ih _ _ ?_
      show (s.heap.push Cell.null)[a]? = _
      rw [Array.getElem?_push_lt hlt, ← hc]
      simp [hlt]
    | some v0 =>
      rw [hl] at hcall
      cases hcall
      exact ih _ _ (get_set_eq _ _ _ hlt)
  | @ivWrite s s1 s2 v key idx ops hcall _ ih =>
    intro vals order hc
    rw [lhs_hm a vals order s key idx v hc] at hcall
    obtain ⟨hlt, rfl⟩ := setCell_ok_inv hcall
    exact ih _ _ (get_set_eq _ _ _ hlt)

theorem coreAfter_spec (sub : Addr → String → Option Addr) (ops : List (DictOp Addr)) : ∀ st : DictSt, dictWF st.1 st.2 →
    (coreAfter sub st ops).1 = omapAfter sub st.1 ops ∧ dictWF (coreAfter sub st ops).1 (coreAfter sub st ops).2 := by
  induction ops with
  | nil => exact fun st h => ⟨rfl, h⟩
  | cons op ops ih =>
    intro st hwf
    obtain ⟨hstep, hwf'⟩ := dictStepI_spec sub hwf op
    have := ih _ hwf'
    simpa only [coreAfter, omapAfter, List.foldl_cons, hstep] using this

theorem dictCalls_spec (sub : Addr → String → Option Addr) (n : Nat) (a : Addr) {s s' : VM ν} {ops : List (DictOp Addr)}
    (h : DictCalls n a s ops s') : ∀ (vals : List (String × Addr)) (order : List String),
    s.heap[a]? = some (.hm vals order) → dictWF vals order →
    ∃ order', s'.heap[a]? = some (.hm (omapAfter sub vals ops) order') ∧ dictWF (omapAfter sub vals ops) order' := by
  intro vals order hc hwf
  obtain ⟨h1, h2⟩ := coreAfter_spec sub ops (vals, order) hwf
  exact ⟨_, h1 ▸ dictCalls_core sub n a h vals order hc, h1 ▸ h2⟩

end ZnVerif.Proofs.Bridges
