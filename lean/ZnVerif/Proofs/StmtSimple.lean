/-
Token-level round trip with layout, part 3: the claims (what each production does on a rendering), `ParseStatement` in general,
and the simple statements (expression statement, 令, 输出, 抛出, 结束循环, 继续循环).
-/
import ZnVerif.Proofs.StmtExpr

namespace ZnVerif.Proofs.StmtRT
open ZnVerif.Model ZnVerif.Model.Parser ZnVerif.Generated.Tokens ZnVerif.Generated.ParserTables
open ZnVerif.Spec.StmtSyntax

variable {Y : Layout} {v : Variant}

/-- token types a statement can start with -/
def stmtHeads : List Nat :=
  [cTypeIdentifier, cTypeString, cTypeStmtQuoteL, cTypeDeclareW, cTypeCondW, cTypeFuncW, cTypeReturnW, cTypeWhileLoopW,
   cTypeVarOneW, cTypeIteratorW, cTypeObjDefineW, cTypeThrowErrorW, cTypeBreakW, cTypeContinueW,
   cTypeArrayQuoteL, cTypeFuncQuoteL, cTypeObjThisW, cTypeStmtSep]

theorem stmtHeads_spec : ∀ ty ∈ stmtHeads, ty ≠ cTypeEOF ∧ ty ≠ cTypeCommaSep ∧ ty ∉ condKeywords := by decide

theorem exprHeads_stmtHeads : ∀ ty ∈ exprHeads, ty ∈ stmtHeads ∧ (ty ≠ cTypeVarOneW → ty ∉ stmtValidTypes) := by decide

/-- the dispatch of `ParseStatement` on the type of the leading keyword.  On a constant type the chain of `if`s evaluates, so that
`stmtBody ops fuel rec cTypeWhileLoopW` IS `rec .whileLoop` for the unifier: no lemma per keyword is needed. -/
def stmtBody {σ : Type} (ops : LexOps σ) (fuel : Nat) (rec : Rec σ) (ty : Nat) : PM σ Stmt :=
  if ty = cTypeDeclareW then rec .varDecl
  else if ty = cTypeCondW then rec .branch
  else if ty = cTypeFuncW then do
    match ← tryConsume ops fuel [cTypeObjNewW] with
    | some _ => do
      let r ← rec .functionBlock
      pure (.funcDecl 0 (some r.1) cDeclareTypeConstructor (some r.2))
    | none => do
      let r ← rec .functionBlock
      pure (.funcDecl 0 (some r.1) cDeclareTypeFunc (some r.2))
  else if ty = cTypeReturnW then do
    let e ← rec (.expr true)
    pure (.ret 0 e)
  else if ty = cTypeWhileLoopW then rec .whileLoop
  else if ty = cTypeVarOneW then rec .varOneLead
  else if ty = cTypeIteratorW then rec (.iteratorRest [])
  else if ty = cTypeObjDefineW then rec .classDecl
  else if ty = cTypeThrowErrorW then rec .throwStmt
  else if ty = cTypeBreakW then pure (.break 0)
  else if ty = cTypeContinueW then pure (.continue 0)
  else goPanic

/-- `pStatement` (Model/Parser.lean) binds this dispatch by a `let body := …` inside its `do` block, so the model has no name under
which a lemma could say what the dispatch does: `stmtBody` is that `let`, and this equation (`rfl`) puts it in place.  `statement_kw`
rewrites with it once; nothing else needs to look inside `pStatement`. -/
theorem pStatement_eq {σ : Type} (v : Variant) (ops : LexOps σ) (fuel : Nat) (rec : Rec σ) :
    pStatement v ops fuel rec = (do
      unsetFlag
      match ← tryConsume ops fuel stmtValidTypes with
      | some tk =>
        if tk.type = cTypeStmtSep then pure (.empty 0)
        else do
          let st ← stmtBody ops fuel rec tk.type
          let l ← lineOf ops tk
          endOfStmt v
          pure (st.setLine l)
      | none => do
        let e ← rec (.expr true)
        endOfStmt v
        pure (.expr e)) := rfl

/-- a statement that starts with a keyword (of type `c`): the keyword's production runs on the state after the keyword, the
statement must be complete afterwards (flag set, or a `；` next), the node gets the keyword's line -/
theorem statement_kw (m : Nat) {kw : Token} {c : Nat} (st : Stmt) {s s1 s' : PState (List Token)} (hk : kw.type = c)
    (h : Walk Y false s [kw] s1) (hfin : s'.flag = true ∨ s'.p2.type = cTypeStmtSep)
    (hB : stmtBody (layoutOps Y) (m + 1) (parse v (layoutOps Y) (m + 1)) c s1 = .ok st s')
    (hkw : c ∈ stmtValidTypes := by decide) (hnc : c ≠ cTypeCommaSep := by decide) (hns : c ≠ cTypeStmtSep := by decide) :
    parse v (layoutOps Y) (m + 2) .statement s = .ok (st.setLine (Y.sl kw)) s' := by
  show pStatement v (layoutOps Y) (m + 1) _ _ = _
  rw [pStatement_eq]
  refine andThen rfl (andThen (tryConsume_tok m hk h.unset hkw hnc) ?_)
  simp only [hk, hns, if_false]
  exact andThen hB (andThen (lineOf_S kw _) (andThen (endOfStmt_ok hfin) rfl))

/-- `ParseStatement` on a move over a rendering of the statement `st` whose lines are indented by `d`, after which the statement
is complete and ends: it returns `st` -/
def CStmt (v : Variant) (Y : Layout) (d : Nat) (st : Stmt) (ts : List Token) : Prop :=
  ∀ s s', Walk Y false s ts s' → s'.flag = true → StmtEnd Y d s' → Stable v Y .statement s (.ok st s') (16 * ts.length + 20)

/-- `Facts` for a statement: its rendering is not empty and starts with a token a statement can start with -/
structure StmtFacts (Y : Layout) (ts : List Token) : Prop where
  ne : ts ≠ []
  head : (Y.peek ts).type ∈ stmtHeads

/-- what follows a simple statement: not a comma; a statement line break, or a `；` -/
structure SimpleEnd (s : PState (List Token)) : Prop where
  nc : s.p2.type ≠ cTypeCommaSep
  fin : s.flag = true ∨ s.p2.type = cTypeStmtSep

theorem SimpleEnd.stops {s : PState (List Token)} (h : SimpleEnd s) (F : List Nat) (hF : cTypeStmtSep ∉ F := by decide) : Stops F s :=
  ⟨h.nc, h.fin.imp id (fun h' => by rw [h']; exact hF)⟩

/-- `ParseStatement` on a move over a rendering of a simple statement `st`, followed by a statement line break or a `；` -/
def CSimple (v : Variant) (Y : Layout) (st : Stmt) (ts : List Token) : Prop :=
  ∀ s s', Walk Y false s ts s' → SimpleEnd s' → Stable v Y .statement s (.ok st s') (16 * ts.length + 20)

theorem CSimple.toCStmt {d : Nat} {st : Stmt} {ts : List Token} (h : CSimple v Y st ts) : CStmt v Y d st ts :=
  fun s s' hw hfl he => h s s' hw ⟨he.nc, Or.inl hfl⟩

theorem linIds_facts {ids : List Ident} {ts : List Token} (h : LinIds Y ids ts) :
    ts ≠ [] ∧ (Y.peek ts).type = cTypeIdentifier := by
  cases h with
  | one t ht => exact ⟨by simp, ht⟩
  | cons t p ids ts ht hp h => exact ⟨by simp, ht⟩

/-- `parsePauseCommaList(parseID)` on `a、b、c` -/
theorem ids_roundtrip {ids : List Ident} {ts : List Token} (h : LinIds Y ids ts) :
    ∀ (s s' : PState (List Token)) (acc : List Ident), Reads Y s ts s' → Stops [cTypePauseCommaSep] s' →
      Stable v Y (.commaIds acc) s (.ok (acc ++ ids) s') (ts.length + 1) := by
  induction h with
  | one t ht =>
    intro s s' acc hr hs
    exact stable_of 2 (by simp) fun m hn => andThen (parseID_reads m ht hr) (andThen (tryConsume_stops (m + 1) hs) rfl)
  | cons t p ids ts ht hp h ih =>
    intro s s' acc hr hs
    refine stable_of 2 (by simp) fun m hn => ?_
    obtain ⟨s1, h1, hr⟩ := hr.cons
    obtain ⟨s2, h2, h3⟩ := hr.cons
    refine andThen (parseID_reads m ht h1) (andThen (tryConsume_tok m hp h2)
      ((ih s2 s' (acc ++ [Y.idOf t]) h3 hs (m + 1) (by simp at hn ⊢; omega)).trans ?_))
    rw [List.append_assoc]
    rfl

/-- the argument list of 抛出: the first expression, then `{ 、 expression }` -/
theorem args_roundtrip {es : List Expr} {ts : List Token} (h : LinArgs Y es ts) :
    ∀ (s s' : PState (List Token)) (acc : List Expr), Reads Y s ts s' → Stops (cTypePauseCommaSep :: F1) s' →
      ∀ n, 16 * ts.length + 17 ≤ n →
        (parse v (layoutOps Y) n (.expr true) >>= fun e => parse v (layoutOps Y) n (.throwLoop (acc ++ [e]))) s
          = .ok (acc ++ es) s' := by
  induction h with
  | one e ts h =>
    intro s s' acc hr hs n hn
    obtain ⟨m, rfl⟩ : ∃ m, n = m + 1 := ⟨n - 1, by omega⟩
    exact andThen (expr_reads (v := v) h hr (hs.sub fun _ => List.mem_cons_of_mem _) (m + 1) (by omega))
      (andThen (tryConsume_stops m (hs.sub fun ty hm => by simp at hm; simp [hm])) rfl)
  | cons p e te es ts h hopen hp hr ih =>
    intro s s' acc hrd hs n hn
    simp only [List.length_append, List.length_cons] at hn
    obtain ⟨m, rfl⟩ : ∃ m, n = m + 2 := ⟨n - 2, by omega⟩
    obtain ⟨s1, h1, hrd⟩ := hrd.append
    obtain ⟨s2, h2, h3⟩ := hrd.cons
    have hFO : FO e = [] := by unfold FO; simp [hopen]
    refine andThen (expr_reads_open (v := v) h h1 (by rw [hFO, List.append_nil]; exact h2.stops_tok hp) (m + 2) (by omega))
      (andThen (tryConsume_tok m hp h2) ((ih s2 s' (acc ++ [e]) h3 hs (m + 1) (by omega)).trans ?_))
    rw [List.append_assoc]
    rfl

theorem vdAssign_spec : ∀ ty ∈ vdAssignKeywords, ty ≠ cTypeCommaSep ∧ ty ∉ [cTypePauseCommaSep] := by decide

/-- `parseVDAssignPair` on `a、b 设为 e` -/
theorem vdPair_rt {asg : Token} {ids : List Ident} {ti : List Token} {e : Expr} {te : List Token}
    (hi : LinIds Y ids ti) (hasg : asg.type ∈ vdAssignKeywords) (he : LinE Y 1 e te) {s s' : PState (List Token)}
    (h : Reads Y s (ti ++ asg :: te) s') (hs : Stops F1 s') (m : Nat)
    (hm1 : ti.length + 1 ≤ m + 1) (hm2 : 16 * te.length + 16 ≤ m + 1) :
    parse v (layoutOps Y) (m + 2) .vdPair s = .ok (vdTypeOf asg, ids, e) s' := by
  have hasgc := vdAssign_spec _ hasg
  obtain ⟨s1, h1, h⟩ := h.append
  obtain ⟨s2, h2, h3⟩ := h.cons
  exact andThen (ids_roundtrip (v := v) hi s s1 [] h1 (h2.stops hasgc.1 hasgc.2) (m + 1) hm1)
    (andThen (tryConsume_reads m hasg hasgc.1 h2) (andThen (expr_reads (v := v) he h3 hs (m + 1) hm2) rfl))

theorem head_of_expr {e : Expr} {ts : List Token} (h : LinE Y 1 e ts) : StmtFacts Y ts := by
  have hf := linE_facts h
  exact ⟨hf.ne, (exprHeads_stmtHeads _ hf.first).1⟩

/-- `ParseStatement` on an expression statement: no keyword is consumed, the expression is read where `=` assigns -/
theorem stmt_expr {e : Expr} {ts : List Token} (h : LinE Y 1 e ts) (hg : Y.Glued ts) (h1 : (Y.peek ts).type ≠ cTypeVarOneW) :
    CSimple v Y (.expr e) ts := by
  intro s s' hw ha
  refine stable_of 1 (by omega) fun m hn => ?_
  obtain ⟨hne, hhd⟩ := linE_facts h
  have hp := (hw.peek hne).1
  exact andThen rfl (andThen (tryConsume_stops (s := { s with flag := false }) m
      ⟨hp ▸ (exprHeads_spec _ hhd).2, Or.inr (hp ▸ (exprHeads_stmtHeads _ hhd).2 h1)⟩)
    (andThen (expr_reads (v := v) h (hw.fresh hne hg) (ha.stops F1) m (by omega)) (andThen (endOfStmt_ok ha.fin) rfl)))

theorem stmt_break {kw : Token} (hk : kw.type = cTypeBreakW) : CSimple v Y (.break (Y.sl kw)) [kw] := by
  intro s s' hw ha
  exact stable_of 2 (by omega) fun m hn => statement_kw m (.break 0) hk hw ha.fin rfl

theorem stmt_continue {kw : Token} (hk : kw.type = cTypeContinueW) : CSimple v Y (.continue (Y.sl kw)) [kw] := by
  intro s s' hw ha
  exact stable_of 2 (by omega) fun m hn => statement_kw m (.continue 0) hk hw ha.fin rfl

/-- `ParseStatement` on `输出 e` -/
theorem stmt_ret {kw : Token} {e : Expr} {te : List Token} (hk : kw.type = cTypeReturnW) (h : LinE Y 1 e te)
    (hg : Y.Glued (kw :: te)) : CSimple v Y (.ret (Y.sl kw) e) (kw :: te) := by
  intro s s' hw ha
  refine stable_of 2 (by omega) fun m hn => ?_
  simp only [List.length_cons] at hn
  obtain ⟨s0, h0, h1⟩ := hw.glued hg
  exact statement_kw (v := v) m (.ret 0 e) hk h0 ha.fin (andThen (expr_reads (v := v) h h1 (ha.stops F1) (m + 1) (by omega)) rfl)

/-- `ParseStatement` on `令 a、b 设为 e` (one pair on the line of 令) -/
theorem stmt_decl {kw asg : Token} {ids : List Ident} {ti : List Token} {e : Expr} {te : List Token}
    (hk : kw.type = cTypeDeclareW) (hi : LinIds Y ids ti) (hasg : asg.type ∈ vdAssignKeywords) (h : LinE Y 1 e te)
    (hg : Y.Glued (kw :: ti ++ asg :: te)) :
    CSimple v Y (.varDecl (Y.sl kw) [(vdTypeOf asg, ids, e)]) (kw :: ti ++ asg :: te) := by
  intro s s' hw ha
  refine stable_of 4 (by omega) fun m hn => ?_
  simp only [List.length_cons, List.length_append] at hn
  obtain ⟨s0, h0, h1⟩ := Walk.glued (a := ti ++ asg :: te) hw hg
  obtain ⟨hine, hit⟩ := linIds_facts hi
  have hp : s0.p2.type = (Y.peek ti).type := by rw [(h1.peek (by simp [hine])).1, peek_append hine]
  exact statement_kw (v := v) (m + 2) (.varDecl 0 [(vdTypeOf asg, ids, e)]) hk h0 ha.fin
    (andThen (tryConsume_stops (m + 2) (.of_type (hp.trans hit)))
      (andThen (vdPair_rt (v := v) hi hasg h h1 (ha.stops F1) m (by omega) (by omega)) rfl))

/-- `ParseStatement` on `抛出 类：e1、e2！` -/
theorem stmt_throw {kw cls colon bang : Token} {es : List Expr} {tes : List Token}
    (hk : kw.type = cTypeThrowErrorW) (hcls : cls.type = cTypeIdentifier) (hcol : colon.type = cTypeFuncCall)
    (hes : LinArgs Y es tes) (hbang : bang.type = cTypeExceptionT) (hg : Y.Glued (kw :: cls :: colon :: tes ++ [bang])) :
    CSimple v Y (.throw (Y.sl kw) (some (Y.idOf cls)) es) (kw :: cls :: colon :: tes ++ [bang]) := by
  intro s s' hw ha
  refine stable_of 4 (by omega) fun m hn => ?_
  simp only [List.length_cons, List.length_append, List.length_nil] at hn
  obtain ⟨s0, h0, h⟩ := Walk.glued (a := cls :: colon :: tes ++ [bang]) hw hg
  obtain ⟨s1, h1, h⟩ := Walk.cons (ts := colon :: tes ++ [bang]) h
  obtain ⟨s2, h2, h⟩ := Walk.cons (ts := tes ++ [bang]) h
  obtain ⟨s3, h3, h4⟩ := h.append
  refine statement_kw (v := v) (m + 2) (.throw 0 (some (Y.idOf cls)) es) hk h0 ha.fin
    (andThen (parseID_reads (m + 1) hcls h1) (andThen (consume_tok (m + 1) hcol h2) ?_))
  -- `e ← expr; es ← throwLoop [e]` is the bind `args_roundtrip` speaks of
  exact (bind_ok2 (k := fun es => do
      consume v (layoutOps Y) (m + 2) [cTypeExceptionT]
      pure (Stmt.throw 0 (some (Y.idOf cls)) es))
    (args_roundtrip (v := v) hes s2 s3 [] h3 (h4.stops_tok hbang) (m + 2) (by omega))).trans
      (andThen (consume_tok (m + 1) hbang h4) rfl)

/-- `以 x（m：a）、（n）`, optionally `得到 X`, as a statement -/
theorem stmt_mcall {kw l : Token} {root : Expr} {tr : List Token} {n : Ident} {ps : List Expr} {tc : List Token}
    {cs : List Expr} {tcs : List Token} {yl : Option (Token × Token)} (hk : kw.type = cTypeVarOneW) (hr : LinE Y 1 root tr)
    (hl : l.type = cTypeFuncQuoteL) (hf : LinX Y true 0 (.fcall n ps) tc) (hc : LinX Y true 0 (.chain cs) tcs) (hy : YieldOK yl)
    (hg : Y.Glued (kw :: tr ++ l :: tc ++ tcs ++ yieldToks yl)) :
    CSimple v Y (.expr (.mcall (Y.sl kw) root (.call 0 (some n) ps none :: cs) (Y.yieldId yl)))
      (kw :: tr ++ l :: tc ++ tcs ++ yieldToks yl) := by
  intro s s' hw ha
  refine stable_of 3 (by omega) fun m hn => ?_
  simp only [List.length_cons, List.length_append] at hn
  obtain ⟨s0, h0, h⟩ := Walk.glued (a := tr ++ l :: tc ++ tcs ++ yieldToks yl) hw hg
  obtain ⟨s4, h, h5⟩ := h.append
  obtain ⟨s3, h, h4⟩ := h.append
  obtain ⟨s1, h1, h⟩ := h.append
  obtain ⟨s2, h2, h3⟩ := h.cons
  refine statement_kw (v := v) (m + 1) (.expr (.mcall 0 root (.call 0 (some n) ps none :: cs) (Y.yieldId yl))) hk h0 ha.fin
    (andThen (expr_reads (v := v) hr h1 (h2.stops_tok hl) (m + 1) (by omega)) (andThen (tryConsume_tok m hl h2) ?_))
  simp only [hl, if_true]
  refine (mcall_tail (v := v) (α := Stmt) (cm := []) (fcall_reads hf).2 (chain_claim hc) hy (Or.inl rfl) h3 h4 h5 rfl
    ((ha.stops [cTypeGetResultW, cTypePauseCommaSep]).sub (yFO_sub yl)) m (by unfold fN; omega)
    (fun chain y => pure (.expr (.mcall 0 root chain y)))).trans ?_
  rw [ySt_nil]
  rfl

theorem kwFacts {kw : Token} {r : List Token} {c : Nat} (hk : kw.type = c) (h : c ∈ stmtHeads := by decide) :
    StmtFacts Y (kw :: r) := ⟨by simp, hk ▸ h⟩

theorem linSimple_claim {s : Stmt} {ts : List Token} (h : LinSimple Y s ts) : StmtFacts Y ts ∧ CSimple v Y s ts := by
  cases h with
  | exprStmt e ts he hg h1 => exact ⟨head_of_expr he, stmt_expr he hg h1⟩
  | mcallStmt kw l root tr n ps tc cs tcs yl hk hr hl hf hc hy hg =>
    exact ⟨kwFacts hk, stmt_mcall hk hr hl hf hc hy hg⟩
  | declStmt kw asg ids ti e te hk hi hasg he hg => exact ⟨kwFacts hk, stmt_decl hk hi hasg he hg⟩
  | retStmt kw e te hk he hg => exact ⟨kwFacts hk, stmt_ret hk he hg⟩
  | throwStmt kw cls colon bang es tes hk hcls hcol hes hbang hg =>
    exact ⟨kwFacts hk, stmt_throw hk hcls hcol hes hbang hg⟩
  | breakStmt kw hk => exact ⟨kwFacts hk, stmt_break hk⟩
  | continueStmt kw hk => exact ⟨kwFacts hk, stmt_continue hk⟩

end ZnVerif.Proofs.StmtRT
