/-
Token-level round trip with layout, part 1: the parser state over `layoutOps Y`, and what the primitives (`next`, `tryConsume`,
`consume`, `parseID`, `expectBlockIndent`, `blockCond`, `lineOf`, `endOfStmt`) do on it.

THE INVARIANT.  Every state the parser reaches on a token list read against the layout `Y` is `S Y p1 ts fl`:
  `p1`  the token consumed last (none before the first `next`),
  `ts`  the tokens from the peek token on (the peek token is `Y.peek ts`: the head, or EOF),
  `fl`  the statement-complete flag;
the four line fields are functions of `p1` and `ts` (`Y.sl`, `Y.el` of the two window tokens) — this is where `InOrder` is used:
`next` searches the line table from the previous position on, which finds the same line as a search from the top exactly when
lines do not decrease.  Consuming `t` (when `u` follows) turns `S p1 (t :: r) fl` into `S (some t) r (fl || Y.brk t u)`: the flag is set
by a statement line break between `t` and `u` and stays set until a production resets it.  Hence: inside `Glued` tokens the flag
stays false; after the last token of a statement (`Sep`) it is true — `Send ts rest` is the state after consuming `ts`.

What the round trip uses of this file: `next_S` and `tryConsume_hit` (one token consumed from an `S`-state), from which
Proofs/StmtCursor.lean makes a relation between states with a token list between them — every later file speaks of that —; the
primitives that do not move the window, said of ANY state (`Stops` / `tryConsume_stops`, `lineOf_S`, `getS_S`); `andThen` and its two
companions, by which a production is stepped through; `Stable` / `stable_of` for the fuel.
The other lemmas (`tryConsume_miss`, `consume_hit`, `newID_S`, `setFlag_S`, `endOfStmt_flag`, `currIndentOf_S`, `blockCond_true` / `_false`,
`peek_nil`, `eof_type`, `parse_succ`, …) say what a primitive of the model does on an `S`-state; the production proofs take the
any-state forms of Proofs/StmtCursor.lean instead.
-/
import ZnVerif.Spec.StmtSyntax
import ZnVerif.Proofs.ParserHoare

namespace ZnVerif.Proofs.StmtRT
open ZnVerif.Model ZnVerif.Model.Parser ZnVerif.Generated.Tokens ZnVerif.Generated.ParserTables
open ZnVerif.Spec.StmtSyntax

theorem findLineIdx_from (L : Array LineInfo) (c i : Nat) (h : i ≤ findLineIdx L c 0) :
    findLineIdx L c i = findLineIdx L c 0 := by
  obtain ⟨_, h2, h3⟩ := ParserHoare.findLineIdx_spec L c 0
  by_cases h0 : L.size = 0
  · have := (ParserHoare.findLineIdx_bound L c 0).2 (by omega)
    rw [this] at h
    rw [Nat.le_zero.mp h]
  · have := (ParserHoare.findLineIdx_bound L c 0).1 (by omega)
    exact ParserHoare.findLineIdx_eq L c h (by omega) (fun x _ hx => h2 x (Nat.zero_le _) hx) h3

variable (Y : Layout)

def slO : Option Token → Nat
  | none => 0
  | some t => Y.sl t
def elO : Option Token → Nat
  | none => 0
  | some t => Y.el t

/-- parser state over `layoutOps Y`: current token `p1`, tokens from the peek token on `ts`, flag `fl` -/
def S (p1 : Option Token) (ts : List Token) (fl : Bool) : PState (List Token) :=
  { lex := ts.tail, p1 := p1, p2 := Y.peek ts, sl1 := slO Y p1, el1 := elO Y p1, sl2 := Y.sl (Y.peek ts), el2 := Y.el (Y.peek ts),
    flag := fl }

/-- the state after the tokens `ts` have been consumed and `rest` follows -/
def Send (ts rest : List Token) : PState (List Token) := S Y ts.getLast? rest (Y.jf ts.getLast? (Y.peek rest))

/-- a token that is neither EOF, nor a comma, nor a comment -/
def Plain (t : Token) : Prop := t.type ≠ cTypeEOF ∧ t.type ≠ cTypeCommaSep ∧ t.type ≠ cTypeComment

variable {Y} {v : Variant}

theorem peek_cons (t : Token) (r : List Token) : Y.peek (t :: r) = t := rfl
theorem peek_nil : Y.peek [] = Y.eof := rfl
theorem eof_type : Y.eof.type = cTypeEOF := rfl

theorem peek_append {ts : List Token} (h : ts ≠ []) (rest : List Token) : Y.peek (ts ++ rest) = Y.peek ts := by
  cases ts with
  | nil => exact absurd rfl h
  | cons a r => rfl

theorem inOrder_peek_nc {r : List Token} (h : Y.InOrder r) : (Y.peek r).type ≠ cTypeComment := by
  cases r with
  | nil => show cTypeEOF ≠ cTypeComment; decide
  | cons a r => exact h.1

theorem inOrder_tail {t : Token} {r : List Token} (h : Y.InOrder (t :: r)) : Y.InOrder r := h.2.2.2

theorem sl_lt_size (t : Token) : Y.sl t < Y.lines.size := (ParserHoare.findLineIdx_bound Y.lines t.startIdx 0).1 Y.ne

theorem lines_sl (t : Token) : ∃ li, Y.lines[Y.sl t]? = some li ∧ li.indents = Y.ind t := by
  have h := sl_lt_size (Y := Y) t
  refine ⟨Y.lines[Y.sl t], by simp [h], ?_⟩
  simp [Layout.ind, Layout.indent, h]

theorem fetch_tok (n : Nat) (r : List Token) (h : (Y.peek r).type ≠ cTypeComment) :
    fetch (layoutOps Y) (n + 1) r = .ok (Y.peek r) r.tail := by
  cases r with
  | nil => simp [fetch, layoutOps, Layout.peek] at h ⊢; exact fun h' => absurd h' h
  | cons a r => simp [fetch, layoutOps, Layout.peek] at h ⊢; exact fun h' => absurd h' h

/-- `next()`: the peek token becomes the current one and the flag records a statement line break after it; the lines of the new
peek token, searched from those of the old one, are its lines (`InOrder`) -/
theorem next_S (n : Nat) (p1 : Option Token) (t : Token) (r : List Token) (fl : Bool) (ho : Y.InOrder (t :: r)) :
    next (layoutOps Y) (n + 1) (S Y p1 (t :: r) fl) = .ok () (S Y (some t) r (fl || Y.brk t (Y.peek r))) := by
  unfold next
  have hf : fetch (layoutOps Y) (n + 1) (S Y p1 (t :: r) fl).lex = .ok (Y.peek r) r.tail :=
    fetch_tok n r (inOrder_peek_nc (inOrder_tail ho))
  rw [hf]
  have h1 : findLineIdx Y.lines (Y.peek r).startIdx (Y.sl t) = Y.sl (Y.peek r) := findLineIdx_from _ _ _ ho.2.1
  have h2 : findLineIdx Y.lines (Y.peek r).endIdx (Y.el t) = Y.el (Y.peek r) := findLineIdx_from _ _ _ ho.2.2.1
  show Res.ok () _ = Res.ok () _
  congr 1
  simp only [S, layoutOps, peek_cons, h1, h2, slO, elO, Layout.brk]

/-- a computation that starts with `x`, when `x` yields `a` and moves to `s'`, is what follows on `a` from `s'`.  A production lemma
ends in a chain of these, one per step of the production: unifying `(?x >>= ?f) ?s` with `parse v (layoutOps Y) (m + 1) nt s` opens the
production's `do` block, and the `fun a =>` of a bind or a `match` on the value a step returned reduce on the way. -/
theorem andThen {α β : Type} {x : PM (List Token) α} {f : α → PM (List Token) β} {s s' : PState (List Token)} {a : α}
    {r : Res (List Token) β} (h : x s = .ok a s') (k : f a s' = r) : (x >>= f) s = r := by
  show PM.bind x f s = _
  unfold PM.bind
  rw [h]
  exact k

theorem bind_congr {α β : Type} {x : PM (List Token) α} {f : α → PM (List Token) β} {s s' : PState (List Token)}
    (h : x s = x s') : (x >>= f) s = (x >>= f) s' := by
  show PM.bind x f s = PM.bind x f s'
  unfold PM.bind
  rw [h]

/-- `andThen` where the first step is itself `x >>= f` and the production has it flattened (`a ← x; b ← f a; k b`) -/
theorem bind_ok2 {α β γ : Type} {x : PM (List Token) α} {f : α → PM (List Token) β} {k : β → PM (List Token) γ}
    {s s' : PState (List Token)} {b : β} (h : (x >>= f) s = .ok b s') : (x >>= fun a => f a >>= k) s = k b s' := by
  have h' : PM.bind x f s = .ok b s' := h
  show PM.bind x (fun a => PM.bind (f a) k) s = _
  unfold PM.bind at h' ⊢
  cases hx : x s with
  | ok a s1 =>
    rw [hx] at h'
    simp only at h' ⊢
    rw [h']
  | err e => rw [hx] at h'; cases h'
  | panic => rw [hx] at h'; cases h'
  | fuel => rw [hx] at h'; cases h'

theorem tryConsume_hit (n : Nat) {tys : List Nat} {p1 : Option Token} {t : Token} {r : List Token}
    (hmem : t.type ∈ tys) (hc : t.type ≠ cTypeCommaSep) (ho : Y.InOrder (t :: r)) :
    tryConsume (layoutOps Y) (n + 1) tys (S Y p1 (t :: r) false) = .ok (some t) (S Y (some t) r (Y.brk t (Y.peek r))) := by
  unfold tryConsume
  have h1 : (S Y p1 (t :: r) false).p2.type ≠ cTypeCommaSep := hc
  simp only [Bind.bind, PM.bind, getS, h1, if_false]
  unfold tryConsumeCore
  have h2 : tys.contains (S Y p1 (t :: r) false).p2.type = true := by simpa [S, Layout.peek] using hmem
  have h3 : (S Y p1 (t :: r) false).flag = false := rfl
  simp only [Bind.bind, PM.bind, getS, h2, h3, if_true, Bool.false_eq_true, if_false, next_S n p1 t r false ho,
    Bool.false_or]
  rfl

/-- nothing of `F` continues here: the peek token is not a comma, and the statement is complete or the peek token is not in `F`
(`Stop Y F ts rest` is `Stops F (Send Y ts rest)`) -/
def Stops (F : List Nat) (s : PState (List Token)) : Prop := s.p2.type ≠ cTypeCommaSep ∧ (s.flag = true ∨ s.p2.type ∉ F)

theorem tryConsume_stops (n : Nat) {tys : List Nat} {s : PState (List Token)} (h : Stops tys s) :
    tryConsume (layoutOps Y) n tys s = .ok none s := by
  unfold tryConsume
  simp only [Bind.bind, PM.bind, getS, h.1, if_false]
  unfold tryConsumeCore
  simp only [Bind.bind, PM.bind, getS]
  rcases h.2 with h | h
  · simp [h, Pure.pure, PM.pure]
  · by_cases hf : s.flag = true
    · simp [hf, Pure.pure, PM.pure]
    · simp [hf, h, Pure.pure, PM.pure]

theorem tryConsume_miss (n : Nat) (tys : List Nat) (p1 : Option Token) (ts : List Token) (fl : Bool)
    (h : fl = true ∨ (Y.peek ts).type ∉ tys) (hc : (Y.peek ts).type ≠ cTypeCommaSep) :
    tryConsume (layoutOps Y) n tys (S Y p1 ts fl) = .ok none (S Y p1 ts fl) :=
  tryConsume_stops n ⟨hc, h⟩

theorem consume_hit (n : Nat) {tys : List Nat} {p1 : Option Token} {t : Token} {r : List Token}
    (hmem : t.type ∈ tys) (hc : t.type ≠ cTypeCommaSep) (ho : Y.InOrder (t :: r)) :
    consume v (layoutOps Y) (n + 1) tys (S Y p1 (t :: r) false) = .ok () (S Y (some t) r (Y.brk t (Y.peek r))) :=
  andThen (tryConsume_hit n hmem hc ho) rfl

theorem lineOf_S (tk : Token) (s : PState (List Token)) : lineOf (layoutOps Y) tk s = .ok (Y.sl tk) s := rfl

theorem newID_S (tk : Token) (s : PState (List Token)) : newID (layoutOps Y) tk s = .ok (Y.idOf tk) s := rfl

theorem setFlag_S (p1 : Option Token) (ts : List Token) (fl : Bool) :
    (setFlag : PM (List Token) Unit) (S Y p1 ts fl) = .ok () (S Y p1 ts true) := rfl

theorem getS_S (s : PState (List Token)) : (getS : PM (List Token) _) s = .ok s s := rfl

theorem endOfStmt_flag (p1 : Option Token) (ts : List Token) :
    (endOfStmt v : PM (List Token) Unit) (S Y p1 ts true) = .ok () (S Y p1 ts true) := by
  unfold endOfStmt
  simp [S]

theorem peekIndentOf_S (p1 : Option Token) (ts : List Token) (fl : Bool) :
    peekIndentOf (layoutOps Y) (S Y p1 ts fl) = Y.ind (Y.peek ts) := rfl

theorem currIndentOf_S (t : Token) (ts : List Token) (fl : Bool) :
    currIndentOf (layoutOps Y) (S Y (some t) ts fl) = Y.ind t := rfl

theorem blockCond_S (d : Nat) (p1 : Option Token) (ts : List Token) (fl : Bool) :
    blockCond (layoutOps Y) d (S Y p1 ts fl) = (decide ((Y.peek ts).type ≠ cTypeEOF) && Y.ind (Y.peek ts) == d) := rfl

theorem blockCond_true (d : Nat) (p1 : Option Token) (ts : List Token) (fl : Bool)
    (h1 : (Y.peek ts).type ≠ cTypeEOF) (h2 : Y.ind (Y.peek ts) = d) : blockCond (layoutOps Y) d (S Y p1 ts fl) = true := by
  rw [blockCond_S]; simp [h1, h2]

theorem blockCond_false (d : Nat) (p1 : Option Token) (ts : List Token) (fl : Bool)
    (h : (Y.peek ts).type = cTypeEOF ∨ Y.ind (Y.peek ts) ≠ d) : blockCond (layoutOps Y) d (S Y p1 ts fl) = false := by
  rw [blockCond_S]
  rcases h with h | h
  · simp [h]
  · simp [h]

theorem expectBlockIndent_S (c : Token) (ts : List Token) (fl : Bool) (d : Nat) (hc : Y.ind c = d) (hp : Y.ind (Y.peek ts) = d + 1) :
    expectBlockIndent (layoutOps Y) (S Y (some c) ts fl) = .ok (some (d + 1)) (S Y (some c) ts fl) := by
  unfold expectBlockIndent
  obtain ⟨l2, h2, i2⟩ := lines_sl (Y := Y) (Y.peek ts)
  obtain ⟨l1, h1, i1⟩ := lines_sl (Y := Y) c
  have e2 : ((layoutOps Y).lines (S Y (some c) ts fl).lex)[(S Y (some c) ts fl).sl2]? = some l2 := h2
  have e1 : ((layoutOps Y).lines (S Y (some c) ts fl).lex)[(S Y (some c) ts fl).sl1]? = some l1 := h1
  simp only [e1, e2]
  have : l2.indents = l1.indents + 1 := by omega
  simp [this]
  omega

/-- `parse` yields `r` for every fuel from `n` on -/
def Stable (v : Variant) (Y : Layout) (nt : NT) (s : PState (List Token)) (r : Res (List Token) nt.Out) (n : Nat) : Prop :=
  ∀ n', n ≤ n' → parse v (layoutOps Y) n' nt s = r

/-- the computation `run n` yields `r` for every fuel `n` from a bound on.  `Stable v Y nt` is `StableR fun n => parse v (layoutOps Y) n nt`
by unfolding, and the proofs pass from one to the other without a word: a claim stated with `Stable` is proved by `stable_of` and handed to
lemmas about `StableR`. -/
def StableR {α : Type} (run : Nat → PM (List Token) α) (s : PState (List Token)) (r : Res (List Token) α) (n : Nat) : Prop :=
  ∀ n', n ≤ n' → run n' s = r

/-- a claim for every fuel from `b` on is proved at the fuels `m + k`: `k ≤ b` is at least the number of units the proof unfolds (more,
where a sub-claim asks for a constant amount of fuel whatever `m` is: `stmt_iter1`) -/
theorem stable_of {α : Type} {run : Nat → PM (List Token) α} {s : PState (List Token)} {r : Res (List Token) α} {b : Nat} (k : Nat)
    (hk : k ≤ b) (h : ∀ m, b ≤ m + k → run (m + k) s = r) : StableR run s r b := fun n' hn => by
  obtain ⟨m, rfl⟩ : ∃ m, n' = m + k := ⟨n' - k, by omega⟩
  exact h m hn

theorem Stable.mono {nt : NT} {s : PState (List Token)} {r : Res (List Token) nt.Out} {n m : Nat}
    (h : Stable v Y nt s r n) (hnm : n ≤ m) : Stable v Y nt s r m := fun n' h' => h n' (Nat.le_trans hnm h')

theorem parse_succ (n : Nat) (nt : NT) (s : PState (List Token)) :
    parse v (layoutOps Y) (n + 1) nt s =
      step v (layoutOps Y) n (parse v (layoutOps Y) n) nt s := rfl

theorem brk_false_plain {t u : Token} (h : Y.brk t u = false) : t.type ≠ cTypeEOF ∧ u.type ≠ cTypeEOF := by
  unfold Layout.brk meetStmtLineBreak at h
  by_cases h1 : t.type = cTypeEOF ∨ u.type = cTypeEOF
  · simp [h1] at h
  · exact ⟨fun h' => h1 (Or.inl h'), fun h' => h1 (Or.inr h')⟩

theorem brk_eof (t u : Token) (h : u.type = cTypeEOF) : Y.brk t u = true := by
  unfold Layout.brk meetStmtLineBreak
  simp [h]

/-- nothing breaks after `， 、 { 【 ： ？` -/
theorem brk_after_open {t u : Token} (ht : t.type ∈ exceptCurrentTokenTypes) (hu : u.type ≠ cTypeEOF) : Y.brk t u = false := by
  unfold Layout.brk meetStmtLineBreak
  have h1 : t.type ≠ cTypeEOF := by
    intro h; rw [h] at ht; revert ht; decide
  simp [h1, hu, ht]

theorem getLast?_isSome {ts : List Token} (h : ts ≠ []) : ∃ t, ts.getLast? = some t := by
  cases hh : ts.getLast? with
  | none => simp [List.getLast?_eq_none_iff] at hh; exact absurd hh h
  | some y => exact ⟨y, rfl⟩

end ZnVerif.Proofs.StmtRT
