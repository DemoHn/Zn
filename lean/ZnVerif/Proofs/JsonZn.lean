/-
Helper lemmas for C19 at the level of Zn values: UTF-8 round trip, AppendKVPair (first place, last value),
element ↔ plain value conversions, printed texts are Zn texts; the two library functions by the shape of their argument
(`parseJson_eq`, `generateJson_eq`, `jsonBytesToElement_eq`, `generateJson_dict`), which is what Properties/C19 reads.
The file continues `namespace ZnVerif.Proofs.Json`: its lemmas are `Proofs.Json.…` (`Json.utf8DecodeRune_wf`, `Json.build_roundtrip`).
-/
import ZnVerif.Proofs.Json
import ZnVerif.Proofs.Utf8
namespace ZnVerif.Proofs.Json
open ZnVerif.Model.Json
open ZnVerif.Proofs.Utf8 (WellFormed wellFormed_encode wf_shape accept_cont)

theorem isScalar_iff (c : Nat) : isScalar c = true ↔ Spec.IsScalar c := by
  simp only [isScalar, isSurrogate, Bool.and_eq_true, decide_eq_true_eq, Bool.not_eq_true', decide_eq_false_iff_not,
    Spec.IsScalar]
  omega

/-- on scalar values `EncodeRune` is the encoding form of the Unicode Standard -/
theorem utf8EncodeCp_eq {c : Nat} (hc : isScalar c = true) : utf8EncodeCp c = Spec.encode c := by
  simp only [isScalar, Bool.and_eq_true, decide_eq_true_eq, Bool.not_eq_true'] at hc
  rw [utf8EncodeCp, hc.2, if_pos hc.1, Spec.encode]; rfl

theorem isCont_of {b : Nat} (h : 0x80 ≤ b ∧ b ≤ 0xBF) : isCont b = true := decide_eq_true h

/-- the six bits of a continuation byte, as the JSON model takes them -/
theorem cont_sub {b : Nat} (h : 0x80 ≤ b ∧ b ≤ 0xBF) : b % 0x40 = b - 0x80 := by omega

/-- `DecodeRune` as the JSON model calls it (lead byte apart, size less one) reads a well-formed sequence as its payload
and looks no further -/
theorem utf8DecodeRune_wf : ∀ {b0 : Nat} {tl : List Nat}, WellFormed (b0 :: tl) → ∀ rest,
    utf8DecodeRune b0 (tl ++ rest) = (Spec.payload (b0 :: tl), tl.length)
  | _, _, .one h, rest => if_pos h
  | b0, _, .two h h' h1, rest => by
    have e0 : b0 % 0x20 = b0 - 0xC0 := by omega
    simp only [List.cons_append, utf8DecodeRune, Spec.payload, e0, cont_sub h1]
    clear e0
    rw [if_neg (by omega), if_pos (by omega), if_pos (isCont_of h1)]; rfl
  | b0, _, .three h h' h1 h2, rest => by
    have e0 : b0 % 0x10 = b0 - 0xE0 := by omega
    simp only [List.cons_append, utf8DecodeRune, Spec.payload, e0, cont_sub (accept_cont (by decide) (by decide) h1),
      cont_sub h2]
    clear e0
    rw [if_neg (by omega), if_neg (by omega), if_pos (by omega), if_pos ⟨h1.1, h1.2, isCont_of h2⟩]; rfl
  | b0, _, .four h h' h1 h2 h3, rest => by
    have e0 : b0 % 8 = b0 - 0xF0 := by omega
    simp only [List.cons_append, utf8DecodeRune, Spec.payload, e0, cont_sub (accept_cont (by decide) (by decide) h1),
      cont_sub h2, cont_sub h3]
    clear e0
    rw [if_neg (by omega), if_neg (by omega), if_neg (by omega), if_pos (by omega),
      if_pos ⟨h1.1, h1.2, isCont_of h2, isCont_of h3⟩]; rfl

theorem utf8_decode_encode_cp (c : Nat) (hc : isScalar c = true) (rest : List Nat) :
    utf8DecodeLossy (utf8EncodeCp c ++ rest) = c :: utf8DecodeLossy rest := by
  have hw := wellFormed_encode ((isScalar_iff c).1 hc)
  obtain ⟨b0, tl, he, _⟩ := wf_shape hw.1
  rw [he] at hw
  rw [utf8EncodeCp_eq hc, he, List.cons_append, utf8DecodeLossy, utf8DecodeRune_wf hw.1, hw.2, List.drop_left' rfl]

/-- a text of Unicode scalar values survives `string(data)` / `[]byte(text)` -/
theorem utf8_decode_encode (s : Text) (hs : s.all isScalar = true) : utf8DecodeLossy (utf8Encode s) = s := by
  induction s with
  | nil => simp [utf8Encode, utf8DecodeLossy]
  | cons c s ih =>
    simp only [List.all_cons, Bool.and_eq_true] at hs
    rw [utf8Encode, utf8_decode_encode_cp c hs.1, ih hs.2]

variable {ν : Type} {α : Type}

theorem appendKV_absent (acc : List (Text × α)) (k : Text) (v : α) (h : acc.any (fun p => p.1 == k) = false) :
    appendKV acc k v = acc ++ [(k, v)] := by
  simp [appendKV, h]

theorem appendAll_distinct : ∀ (kvs acc : List (Text × α)), distinctKeys kvs = true →
    (∀ p ∈ kvs, acc.any (fun q => q.1 == p.1) = false) → appendAll acc kvs = acc ++ kvs
  | [], acc, _, _ => by simp [appendAll]
  | (k, v) :: kvs, acc, hd, hacc => by
    simp only [distinctKeys, Bool.and_eq_true, Bool.not_eq_true', List.any_eq_false] at hd
    have ih := appendAll_distinct kvs (acc ++ [(k, v)]) hd.2 (fun p hp => by
      have hne : ¬ k = p.1 := fun e => hd.1 p hp (by simp [e])
      simp [hacc p (List.mem_cons_of_mem _ hp), hne])
    rw [appendAll, List.foldl_cons, appendKV_absent acc k v (hacc _ (List.mem_cons_self ..))]
    rw [appendAll] at ih
    rw [ih, List.append_assoc]; rfl

theorem appendAll_nil_distinct (kvs : List (Text × α)) (h : distinctKeys kvs = true) : appendAll [] kvs = kvs := by
  simpa using appendAll_distinct kvs [] h (by intro p _; rfl)

/-- `keyOrder = append(keyOrder, key)` unless the key is there already -/
def addKey (ks : List Text) (k : Text) : List Text := if ks.contains k then ks else ks ++ [k]

theorem any_key_eq_contains (acc : List (Text × α)) (k : Text) :
    acc.any (fun p => p.1 == k) = (keysOf acc).contains k := by
  induction acc with
  | nil => rfl
  | cons p acc ih =>
    simp only [List.any_cons, keysOf, List.map_cons, List.contains_cons] at ih ⊢
    rw [ih]
    congr 1
    exact Bool.eq_iff_iff.mpr ⟨fun h => by simpa using (beq_iff_eq.mp h).symm, fun h => by simpa using (beq_iff_eq.mp h).symm⟩

theorem keysOf_appendKV (acc : List (Text × α)) (k : Text) (v : α) :
    keysOf (appendKV acc k v) = addKey (keysOf acc) k := by
  unfold appendKV addKey
  rw [any_key_eq_contains]
  split
  · simp only [keysOf, List.map_map]
    apply List.map_congr_left
    intro p _
    simp only [Function.comp]
    split <;> rfl
  · simp [keysOf]

theorem keysOf_appendAll (ms : List (Text × α)) : ∀ acc : List (Text × α),
    keysOf (appendAll acc ms) = (keysOf ms).foldl addKey (keysOf acc) := by
  induction ms with
  | nil => intro acc; rfl
  | cons p ms ih =>
    intro acc
    simp only [appendAll, List.foldl_cons, keysOf, List.map_cons] at ih ⊢
    rw [ih, ← keysOf, ← keysOf, keysOf_appendKV]
    rfl

theorem foldl_addKey (l : List Text) : ∀ ks : List Text,
    l.foldl addKey ks = ks ++ (firstOccurrences l).filter (fun x => !ks.contains x) := by
  induction l with
  | nil => intro ks; simp [firstOccurrences]
  | cons k l ih =>
    intro ks
    simp only [List.foldl_cons, firstOccurrences, List.filter_cons]
    rw [ih]
    unfold addKey
    by_cases hk : ks.contains k = true
    · simp only [hk, if_true, Bool.not_true, Bool.false_eq_true, if_false, List.filter_filter]
      congr 1
      apply List.filter_congr
      intro x _
      cases hx : ks.contains x
      · have : x ≠ k := by intro h; subst h; rw [hk] at hx; cases hx
        simp [this]
      · simp only [Bool.not_true, Bool.false_and]
    · simp only [hk, Bool.false_eq_true, if_false, Bool.not_false, if_true, List.filter_filter, List.append_assoc,
        List.cons_append, List.nil_append]
      congr 2
      apply List.filter_congr
      intro x _
      simp only [List.contains_append, List.contains_cons, List.contains_nil, Bool.or_false, Bool.not_or]
      cases ks.contains x <;> simp [bne]

theorem keysOf_appendAll_nil (ms : List (Text × α)) : keysOf (appendAll [] ms) = firstOccurrences (keysOf ms) := by
  rw [keysOf_appendAll, foldl_addKey]
  simp [keysOf]

theorem getV_appendKV (acc : List (Text × α)) (k : Text) (v : α) (k' : Text) :
    getV (appendKV acc k v) k' = if k == k' then some v else getV acc k' := by
  -- the key is present: every pair with it is rewritten, and `find?` looks through the map; or absent: the pair goes to the end
  unfold appendKV getV
  split
  · rename_i hany
    rw [List.find?_map]
    have hcomp : ((fun p : Text × α => p.1 == k') ∘ fun p => if (p.1 == k) = true then (p.1, v) else p)
        = fun p => p.1 == k' := by
      funext p; simp only [Function.comp]; split <;> rfl
    rw [hcomp]
    cases hf : acc.find? (fun p => p.1 == k') with
    | none =>
      have hnone := List.find?_eq_none.mp hf
      by_cases hkk : (k == k') = true
      · exfalso
        obtain ⟨q, hq, hqk⟩ := List.any_eq_true.mp hany
        have := hnone q hq
        rw [beq_iff_eq.mp hqk, hkk] at this
        exact this rfl
      · simp [hkk]
    | some q =>
      have hq : (q.1 == k') = true := List.find?_some (p := fun p : Text × α => p.1 == k') hf
      by_cases hkk : (k == k') = true
      · have : q.1 = k := by rw [beq_iff_eq.mp hkk]; exact beq_iff_eq.mp hq
        simp [hkk, this]
      · have : ¬ q.1 = k := by
          intro h; rw [h] at hq; exact hkk hq
        simp [hkk, this]
  · rename_i hany
    simp only [Bool.not_eq_true] at hany
    rw [List.find?_append]
    by_cases hkk : (k == k') = true
    · have hnone : acc.find? (fun p => p.1 == k') = none := by
        apply List.find?_eq_none.mpr
        intro q hq hqk
        have := List.any_eq_false.mp hany q hq
        rw [← beq_iff_eq.mp hkk] at hqk
        exact this hqk
      simp [hnone, hkk]
    · simp [hkk]

theorem getV_appendAll (ms : List (Text × α)) (k : Text) : ∀ acc : List (Text × α),
    getV (appendAll acc ms) k = match lastValue ms k with
      | some v => some v
      | none => getV acc k := by
  induction ms with
  | nil => intro acc; rfl
  | cons p ms ih =>
    intro acc
    obtain ⟨k1, v1⟩ := p
    simp only [appendAll, List.foldl_cons] at ih ⊢
    rw [ih, lastValue]
    cases lastValue ms k with
    | some v => rfl
    | none => simp only [getV_appendKV]; split <;> rfl

theorem getV_appendAll_nil (ms : List (Text × α)) (k : Text) : getV (appendAll [] ms) k = lastValue ms k := by
  rw [getV_appendAll]
  cases lastValue ms k <;> rfl

mutual
theorem build_roundtrip (C : NumCodec ν) : ∀ e : JV ν, e.noOther = true → e.keysDistinct = true →
    buildElementFromPlainValue C (buildPlainValueFromElement e).toPlain = e
  | .null, _, _ | .bool _, _, _ | .num _, _, _ | .str _, _, _ => by
    simp [buildPlainValueFromElement, PV.toPlain, buildElementFromPlainValue]
  | .other _, h, _ => by simp [JV.noOther] at h
  | .list xs, h, hk => by
    simp only [JV.noOther] at h
    simp only [JV.keysDistinct] at hk
    simp [buildPlainValueFromElement, PV.toPlain, buildElementFromPlainValue, build_roundtripL C xs h hk]
  | .dict kvs, h, hk => by
    simp only [JV.noOther] at h
    simp only [JV.keysDistinct, Bool.and_eq_true] at hk
    simp [buildPlainValueFromElement, PV.toPlain, buildElementFromPlainValue, build_roundtripM C kvs h hk.2,
      appendAll_nil_distinct kvs hk.1]
theorem build_roundtripL (C : NumCodec ν) : ∀ xs : List (JV ν), noOtherL xs = true → keysDistinctL xs = true →
    buildElemL C (toPlainL (buildPlainL xs)) = xs
  | [], _, _ => by simp [buildPlainL, toPlainL, buildElemL]
  | x :: xs, h, hk => by
    simp only [noOtherL, Bool.and_eq_true] at h
    simp only [keysDistinctL, Bool.and_eq_true] at hk
    simp [buildPlainL, toPlainL, buildElemL, build_roundtrip C x h.1 hk.1, build_roundtripL C xs h.2 hk.2]
theorem build_roundtripM (C : NumCodec ν) : ∀ kvs : List (Text × JV ν), noOtherM kvs = true → keysDistinctM kvs = true →
    buildElemM C (toPlainM (buildPlainM kvs)) = kvs
  | [], _, _ => by simp [buildPlainM, toPlainM, buildElemM]
  | (k, v) :: kvs, h, hk => by
    simp only [noOtherM, Bool.and_eq_true] at h
    simp only [keysDistinctM, Bool.and_eq_true] at hk
    simp [buildPlainM, toPlainM, buildElemM, build_roundtrip C v h.1 hk.1, build_roundtripM C kvs h.2 hk.2]
end

theorem buildElemM_map (C : NumCodec ν) (ms : List (Text × PV ν)) :
    buildElemM C (toPlainM ms) = ms.map (fun p => (p.1, buildElementFromPlainValue C p.2.toPlain)) := by
  induction ms with
  | nil => simp [toPlainM, buildElemM]
  | cons p ms ih => obtain ⟨k, v⟩ := p; simp [toPlainM, buildElemM, ih]

theorem keysOf_buildPlainM (kvs : List (Text × JV ν)) : keysOf (buildPlainM kvs) = keysOf kvs := by
  induction kvs with
  | nil => rfl
  | cons p kvs ih => obtain ⟨k, v⟩ := p; simp only [buildPlainM, keysOf, List.map_cons] at ih ⊢; rw [ih]

theorem lastValue_map {α β : Type} (f : α → β) (ms : List (Text × α)) (k : Text) :
    lastValue (ms.map (fun p => (p.1, f p.2))) k = (lastValue ms k).map f := by
  induction ms with
  | nil => rfl
  | cons p ms ih =>
    obtain ⟨k1, v1⟩ := p
    simp only [List.map_cons, lastValue, ih]
    cases lastValue ms k with
    | some v => rfl
    | none => simp only [Option.map_none]; split <;> rfl

theorem isScalar_of_lt (c : Nat) (h : c < 0x80) : isScalar c = true := by
  simp only [isScalar, isSurrogate, Bool.and_eq_true, decide_eq_true_eq, Bool.not_eq_true', decide_eq_false_iff_not]
  omega

theorem hexChar_lt (up : Bool) (d : Nat) (h : d < 16) : hexChar up d < 0x80 := by
  unfold hexChar; split <;> (try split) <;> omega

theorem hex4_scalar (up : Bool) (n : Nat) : (hex4 up n).all isScalar = true := by
  simp only [hex4, List.all_cons, List.all_nil, Bool.and_true, Bool.and_eq_true]
  refine ⟨?_, ?_, ?_, ?_⟩ <;> exact isScalar_of_lt _ (hexChar_lt up _ (Nat.mod_lt _ (by decide)))

theorem escChar_scalar (f : EscForm) (c : Nat) (hc : isScalar c = true) : (escChar f c).all isScalar = true := by
  cases f with
  | lit => simp [escChar, hc]
  | short =>
    simp only [escChar]
    cases h : shortCode c with
    | none => simp [hc]
    | some x => simp [isScalar_of_lt _ (unShort_shortCode c x h).1, isScalar_of_lt 0x5C (by decide)]
  | uni up =>
    simp only [escChar]
    split <;> simp [hex4_scalar, isScalar_of_lt 0x5C (by decide), isScalar_of_lt 0x75 (by decide), List.all_append]

theorem printStr_scalar (st : Style) (s : Text) (hs : s.all isScalar = true) : (printStr st s).all isScalar = true := by
  have hb : (printStrBody st s).all isScalar = true := by
    induction s with
    | nil => rfl
    | cons c s ih =>
      simp only [List.all_cons, Bool.and_eq_true] at hs
      simp [printStrBody, List.all_append, escChar_scalar _ c hs.1, ih hs.2]
  simp [printStr, List.all_append, hb, isScalar_of_lt 0x22 (by decide)]

theorem ws_scalar (w : Text) (hw : w.all isWs = true) : w.all isScalar = true :=
  List.all_eq_true.2 fun c hc => isScalar_of_lt c (by
    have := List.all_eq_true.1 hw c hc
    simp only [isWs, Bool.or_eq_true, decide_eq_true_eq] at this
    omega)

theorem numChars_scalar (t : Text) (ht : t.all isNumChar = true) : t.all isScalar = true :=
  List.all_eq_true.2 fun c hc => isScalar_of_lt c (by
    have := List.all_eq_true.1 ht c hc
    simp only [isNumChar, isDigit, Bool.or_eq_true, decide_eq_true_eq] at this
    omega)

mutual
theorem print_scalar (C : NumCodec ν) (hC : C.Lawful) (st : Style) (hst : StyleOk st) :
    ∀ p : PV ν, p.scalarTexts = true → p.finite C = true → (print C st p).all isScalar = true
  | .null, _, _ | .bool true, _, _ | .bool false, _, _ => by simp only [print]; decide
  | .num x, _, h => by
    simp only [print]
    exact numChars_scalar _ (isJsonNumber_all _ (hC.token x (by simpa [PV.finite] using h)))
  | .str s, hs, _ => by simp only [print]; exact printStr_scalar st s (by simpa [PV.scalarTexts] using hs)
  | .arr [], _, _ => by
    simp [print, List.all_append, isScalar_of_lt, ws_scalar _ hst.inEmpty]
  | .arr (x :: xs), hs, h => by
    simp only [PV.scalarTexts, scalarTextsL, Bool.and_eq_true] at hs
    simp only [PV.finite, finiteL, Bool.and_eq_true] at h
    simp [print, List.all_append, isScalar_of_lt, ws_scalar _ hst.afterOpen, ws_scalar _ hst.beforeClose,
      print_scalar C hC st hst x hs.1 h.1, printTail_scalar C hC st hst xs hs.2 h.2]
  | .obj [], _, _ => by
    simp [print, List.all_append, isScalar_of_lt, ws_scalar _ hst.inEmpty]
  | .obj ((k, v) :: kvs), hs, h => by
    simp only [PV.scalarTexts, scalarTextsM, Bool.and_eq_true] at hs
    simp only [PV.finite, finiteM, Bool.and_eq_true] at h
    simp [print, List.all_append, isScalar_of_lt, ws_scalar _ hst.afterOpen, ws_scalar _ hst.beforeClose,
      ws_scalar _ hst.beforeColon, ws_scalar _ hst.afterColon, printStr_scalar st k hs.1.1,
      print_scalar C hC st hst v hs.1.2 h.1, printMTail_scalar C hC st hst kvs hs.2 h.2]
theorem printTail_scalar (C : NumCodec ν) (hC : C.Lawful) (st : Style) (hst : StyleOk st) :
    ∀ xs : List (PV ν), scalarTextsL xs = true → finiteL C xs = true → (printTail C st xs).all isScalar = true
  | [], _, _ => by simp [printTail]
  | x :: xs, hs, h => by
    simp only [scalarTextsL, Bool.and_eq_true] at hs
    simp only [finiteL, Bool.and_eq_true] at h
    simp [printTail, List.all_append, isScalar_of_lt, ws_scalar _ hst.beforeComma, ws_scalar _ hst.afterComma,
      print_scalar C hC st hst x hs.1 h.1, printTail_scalar C hC st hst xs hs.2 h.2]
theorem printMTail_scalar (C : NumCodec ν) (hC : C.Lawful) (st : Style) (hst : StyleOk st) :
    ∀ kvs : List (Text × PV ν), scalarTextsM kvs = true → finiteM C kvs = true → (printMTail C st kvs).all isScalar = true
  | [], _, _ => by simp [printMTail]
  | (k, v) :: kvs, hs, h => by
    simp only [scalarTextsM, Bool.and_eq_true] at hs
    simp only [finiteM, Bool.and_eq_true] at h
    simp [printMTail, List.all_append, isScalar_of_lt, ws_scalar _ hst.beforeComma, ws_scalar _ hst.afterComma,
      ws_scalar _ hst.beforeColon, ws_scalar _ hst.afterColon, printStr_scalar st k hs.1.1,
      print_scalar C hC st hst v hs.1.2 h.1, printMTail_scalar C hC st hst kvs hs.2 h.2]
end

theorem refPrint_goStyle (C : NumCodec ν) (p : PV ν) : refPrint C goStyle p = print C goStyle p := by
  simp [refPrint, goStyle]

theorem parseJson_eq (C : NumCodec ν) (values : List (JV ν)) :
    FN_parseJson C values = match values with
      | [.str s] => jsonBytesToElement C (utf8Encode s)
      | [_] => .rtError errInvalidParamType
      | _ => .rtError errExactParams := by
  match values with
  | [] | _ :: _ :: _ => simp [FN_parseJson, validateExactParams]
  | [v] => cases v <;> rfl

theorem generateJson_eq (C : NumCodec ν) (values : List (JV ν)) :
    FN_generateJson C values = match values with
      | [.dict kvs] => elementToJSONString C (.dict kvs)
      | [_] => .rtError errInvalidParamType
      | _ => .rtError errExactParams := by
  match values with
  | [] | _ :: _ :: _ => simp [FN_generateJson, validateExactParams]
  | [v] => cases v <;> rfl

/-- `JSONStringToElement`: a dictionary for an object, the exception for everything else -/
theorem jsonBytesToElement_eq (C : NumCodec ν) (bytes : List Nat) :
    jsonBytesToElement C bytes = match unmarshalPlainValue C bytes with
      | .ok (.obj ms) => .ok (.dict (appendAll [] (buildElemM C (toPlainM ms))))
      | _ => .raise exceptionClass := by
  unfold jsonBytesToElement
  cases unmarshalPlainValue C bytes with
  | error e => rfl
  | ok p => cases p <;> simp [PV.toPlain, buildElementFromPlainValue]

theorem generateJson_dict (C : NumCodec ν) (hC : C.Lawful) (kvs : List (Text × JV ν))
    (hsc : (buildPlainValueFromElement (.dict kvs)).scalarTexts = true)
    (hfin : (buildPlainValueFromElement (.dict kvs)).finite C = true) :
    FN_generateJson C [.dict kvs] = .ok (.str (print C goStyle (buildPlainValueFromElement (.dict kvs)))) := by
  rw [generateJson_eq]
  simp only [elementToJSONString, marshalElement, write_value C _ hfin,
    utf8_decode_encode _ (print_scalar C hC goStyle goStyle_ok _ hsc hfin)]

/-- In Go an empty `case` does not fall through: of the ten integer kinds the switch names, only `int64` becomes a
number; the other nine leave the switch and reach the `%v` fallback, i.e. become the decimal *text*.  (No caller passes
integers: the decoder only produces `nil`, `bool`, `float64`, `string`, `[]any`, `plainObject`.) -/
theorem only_int64_becomes_number (C : NumCodec ν) (k : IntKind) (i : Int) :
    buildElementFromPlainValue C (.int k i) = if k = .int64 then .num (C.ofInt i) else .str (decimalText i) := by
  cases k <;> simp [buildElementFromPlainValue]

end ZnVerif.Proofs.Json
