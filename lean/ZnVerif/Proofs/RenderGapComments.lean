/-
C03 at character level, free layout: comments — `// …`, `注：…`, `注123：…` (to the end of the line), `/* … */` and `注：“…”` / `注：「…」`
(which may span lines).

`dispatch_cmt`, `dispatch_mcmt`: with the cursor on the first character of a comment, the dispatch of `NextToken` answers ONE comment
token that covers exactly the comment; nothing but the cursor changes, except that every line break inside appends a line to the table.
A comment is read in three steps, each an equation: how it opens (`parseComment_slash`, `parseComment_note`: `parseComment` is the content
loop of some kind from some lexer), its body (`cmt_multi_run`: the loop moves over the body), how it closes (`cmtStep_close_slash`,
`cmtStep_close_quote`, `cmtStep_end_single`).
-/
import ZnVerif.Proofs.RenderTable

namespace ZnVerif.Proofs.RenderLex
open ZnVerif.Model ZnVerif.Generated.Tokens
open ZnVerif.Spec ZnVerif.Spec.RenderChars
open ZnVerif.Spec.Lines

theorem setCursor_congr (l : Lexer) {a b : Nat} (h : a = b) : l.setCursor a = l.setCursor b := by rw [h]

/-- one character of a comment body — no line break, and not one that ends a comment of this kind or counts for it (`OKChar`;
nothing is asked in a `//` or `注：` comment) —: the loop goes on, the quote counter untouched -/
theorem cmtStep_body (s cty : Nat) (l : Lexer) (q c : Nat) (r : List Nat) (h : l.rest = c :: r)
    (hc : c ≠ 0 ∧ isBreak c = false) (hok : OKChar cty c (r.headD 0)) : parseCommentStep s cty l q = (.cont q, l.adv) := by
  obtain ⟨hp, hr⟩ := Lexer.rest_cons h
  have hcur : l.adv.cur = c := hp
  have hpeek : l.adv.peek = r.headD 0 := rest_headD hr
  have a0 : (c == runeEOF) = false := by simpa [runeEOF] using hc.1
  have a1 : (c == runeCR || c == runeLF) = false := hc.2
  obtain ⟨o1, o2, o3⟩ := hok
  unfold parseCommentStep
  simp only [hcur, hpeek, a0, a1, Bool.false_eq_true, ↓reduceIte]
  -- the remaining tests: a quote character only counts for its own comment kind, `*` only ends a `/* */` comment before `/`
  have n1 : c = cLeftDoubleQuoteI ∨ c = cRightDoubleQuoteI → (cty == ccommentTypeQuoteI) = false := by
    intro hq; rw [Bool.eq_false_iff]; intro e
    exact hq.elim (o2 (beq_iff_eq.mp e)).1 (o2 (beq_iff_eq.mp e)).2
  have n2 : c = cLeftDoubleQuoteII ∨ c = cRightDoubleQuoteII → (cty == ccommentTypeQuoteII) = false := by
    intro hq; rw [Bool.eq_false_iff]; intro e
    exact hq.elim (o3 (beq_iff_eq.mp e)).1 (o3 (beq_iff_eq.mp e)).2
  have n3 : c = cMultiplyOp → (cty == ccommentTypeSlash && r.headD 0 == cSlashOp) = false := by
    intro hq; rw [Bool.eq_false_iff]; intro e
    rw [Bool.and_eq_true, beq_iff_eq, beq_iff_eq] at e
    exact o1 e.1 ⟨hq, e.2⟩
  cases f1 : c == cLeftDoubleQuoteI
  case true => simp only [↓reduceIte, n1 (Or.inl (beq_iff_eq.mp f1)), Bool.false_eq_true]
  cases f2 : c == cLeftDoubleQuoteII
  case true => simp only [↓reduceIte, n2 (Or.inl (beq_iff_eq.mp f2)), Bool.false_eq_true]
  cases f3 : c == cRightDoubleQuoteI
  case true => simp only [↓reduceIte, n1 (Or.inr (beq_iff_eq.mp f3)), Bool.false_eq_true]
  cases f4 : c == cRightDoubleQuoteII
  case true => simp only [↓reduceIte, n2 (Or.inr (beq_iff_eq.mp f4)), Bool.false_eq_true]
  cases f5 : c == cMultiplyOp
  case true => simp only [↓reduceIte, n3 (beq_iff_eq.mp f5), Bool.false_eq_true]
  simp only [↓reduceIte, Bool.false_eq_true]

theorem okChar_single (c nxt : Nat) : OKChar ccommentTypeSingle c nxt := by
  refine ⟨?_, ?_, ?_⟩ <;> intro e <;> exact absurd e (by decide)

theorem plainBody_head {c : Nat} {b : List Nat} (hb : Cmt.plainBody (c :: b)) : c ≠ 0 ∧ isBreak c = false := by
  obtain ⟨h0, hcr, hlf⟩ := hb c List.mem_cons_self
  exact ⟨h0, by simpa [isBreak, runeCR, runeLF] using And.intro hcr hlf⟩

theorem skipDigits_run : ∀ (ds : List Nat), (∀ d ∈ ds, isPureNumber d = true) → ∀ (l : Lexer) (tl : List Nat),
    l.rest = ds ++ tl → isPureNumber (tl.headD 0) = false → skipDigits l = l.setCursor (l.cursor + 1 + ds.length) := by
  intro ds
  induction ds with
  | nil =>
    intro _ l tl h ht
    have hcur : l.adv.cur = tl.headD 0 := rest_headD (by simpa using h)
    rw [skipDigits]
    simp only [hcur, ht, Bool.false_eq_true, ↓reduceDIte]
    rfl
  | cons d ds ih =>
    intro hds l tl h ht
    have h' : l.rest = d :: (ds ++ tl) := by simpa using h
    obtain ⟨hp, hr⟩ := Lexer.rest_cons h'
    have hcur : l.adv.cur = d := hp
    rw [skipDigits]
    simp only [hcur, hds d List.mem_cons_self, ↓reduceDIte]
    rw [ih (fun x hx => hds x (List.mem_cons_of_mem _ hx)) l.adv tl hr ht]
    simp [Lexer.setCursor, Lexer.adv]
    omega

/-- what `parseComment` answers once the comment is open: the content loop of kind `cty` from `l1` -/
def opened (s cty : Nat) (l1 : Lexer) (q : Nat) : Option Token × Lexer :=
  (some (parseCommentLoop s cty l1 q).1, (parseCommentLoop s cty l1 q).2)

theorem dispatch_opened {l l1 : Lexer} {cty q : Nat} (hc : l.cur = cCharZHU ∨ l.cur = cSlashOp)
    (hcom : parseComment l = opened l.cursor cty l1 q) :
    dispatchToken l = (.ok (parseCommentLoop l.cursor cty l1 q).1, (parseCommentLoop l.cursor cty l1 q).2) := by
  have : scannerOf l.cur = .comment := by rcases hc with e | e <;> rw [e] <;> decide
  rw [dispatchToken_eq, this, hcom]
  rfl

/-- `//` opens a comment to the end of the line, `/*` one that `*/` closes -/
theorem parseComment_slash {l : Lexer} {c : Nat} {tl : List Nat} (h : here l = cSlashOp :: c :: tl)
    (hc : c = cSlashOp ∨ c = cMultiplyOp) :
    parseComment l = opened l.cursor (if c = cSlashOp then ccommentTypeSingle else ccommentTypeSlash) l.adv 0 := by
  obtain ⟨h1, hr⟩ := here_cons h
  have h2 : l.peek = c := (Lexer.rest_cons hr).1
  unfold parseComment opened
  rcases hc with rfl | rfl <;> simp [h1, h2, cCharZHU, cSlashOp, cMultiplyOp]

/-- `注`, digits, `：`: a left quote next opens a quoted comment (which may span lines), anything else a comment to the end of the line -/
theorem parseComment_note {l : Lexer} {ds tl : List Nat} (hds : ∀ d ∈ ds, isPureNumber d = true)
    (h : here l = cCharZHU :: (ds ++ cColon :: tl)) :
    parseComment l =
      if tl.headD 0 = cLeftDoubleQuoteI then opened l.cursor ccommentTypeQuoteI (l.setCursor (l.cursor + (ds.length + 2))) 1
      else if tl.headD 0 = cLeftDoubleQuoteII then opened l.cursor ccommentTypeQuoteII (l.setCursor (l.cursor + (ds.length + 2))) 1
      else opened l.cursor ccommentTypeSingle (l.setCursor (l.cursor + (ds.length + 1))) 0 := by
  obtain ⟨hc, hr⟩ := here_cons h
  have hsk : skipDigits l = l.setCursor (l.cursor + (ds.length + 1)) := by
    rw [skipDigits_run ds hds l (cColon :: tl) hr (by show isPureNumber cColon = false; decide)]
    exact setCursor_congr l (by omega)
  obtain ⟨hcc, hrc⟩ := here_cons (here_append (l := l) (a := cCharZHU :: ds) (b := cColon :: tl) (by simpa using h))
  have hpk : (l.setCursor (l.cursor + (ds.length + 1))).peek = tl.headD 0 := rest_headD hrc
  have a1 : (l.cur == cCharZHU) = true := by rw [hc]; decide
  unfold parseComment opened
  simp only [a1, ↓reduceIte, hsk, List.length_cons] at hcc hpk ⊢
  simp only [hcc, beq_self_eq_true, hpk, beq_iff_eq, ↓reduceIte]
  rfl

/-! ### comments that span lines: `/* … */` over several lines, `注：“…”`, `注：「…」`, `注123：“…”`

`cmt_multi_run`: the content loop of `parseComment` over a body with line breaks appends one line-table entry per line break (start
right after it, indentation 0, `LineText` nil), exactly `lineStarts` of the body; `dispatch_mcmt`: ONE comment token.
Bodies of the quoted kinds must not contain the comment's own quote pair (nesting is not covered). -/

/-- the comment kinds that may span lines -/
def MultiCty (cty : Nat) : Prop := cty = ccommentTypeSlash ∨ cty = ccommentTypeQuoteI ∨ cty = ccommentTypeQuoteII

theorem multi_not_single {cty : Nat} (h : MultiCty cty) : (cty == ccommentTypeSingle) = false := by
  rcases h with rfl | rfl | rfl <;> decide

theorem cmtStep_pair (s cty : Nat) (l : Lexer) (q c c' : Nat) (r : List Nat) (h : l.rest = c :: c' :: r)
    (hc : isPair c c' = true) (hcty : MultiCty cty) :
    parseCommentStep s cty l q = (.cont q, l.adv.adv.pushLine { indents := 0, startIdx := l.cursor + 3 }) := by
  obtain ⟨hp, hp2, -⟩ := Lexer.rest_cons2 h
  have hs := multi_not_single hcty
  have hcc : (c = runeCR ∧ c' = runeLF) ∨ (c = runeLF ∧ c' = runeCR) := by simpa [isPair, runeCR, runeLF] using hc
  unfold parseCommentStep
  rcases hcc with ⟨rfl, rfl⟩ | ⟨rfl, rfl⟩ <;>
    simp [Lexer.adv_cur, Lexer.adv_peek, hp, hp2, hs, runeEOF, runeCR, runeLF]

theorem cmtStep_single (s cty : Nat) (l : Lexer) (q c : Nat) (r : List Nat) (h : l.rest = c :: r)
    (hc : isBreak c = true) (hn : isPair c (r.headD 0) = false) (hcty : MultiCty cty) :
    parseCommentStep s cty l q = (.cont q, l.adv.pushLine { indents := 0, startIdx := l.cursor + 2 }) := by
  obtain ⟨hp, hr⟩ := Lexer.rest_cons h
  have hcur : l.adv.cur = c := hp
  have hpk : l.adv.peek = r.headD 0 := rest_headD hr
  have hs := multi_not_single hcty
  have hc0 : (c == runeEOF) = false := by
    have : c = 0x0D ∨ c = 0x0A := by simpa [isBreak] using hc
    rcases this with rfl | rfl <;> decide
  unfold parseCommentStep
  have hnl : (c == runeCR || c == runeLF) = true := hc
  have hcond : ((c == runeCR && r.headD 0 == runeLF) || (c == runeLF && r.headD 0 == runeCR)) = false := hn
  simp only [hcur, hpk, hc0, hnl, hs, hcond, Bool.false_eq_true, ↓reduceIte, Lexer.adv_cursor]

theorem grown_rest {l : Lexer} {n : Nat} {ls : List Nat} {a b : List Nat} (h : l.rest = a ++ b) (hn : a.length = n) :
    (l.grownTo l.lines (l.cursor + n) ls).rest = b := by
  subst hn
  exact Lexer.rest_skip (l := l) (a := a) (b := b) h

/-- **the body of a comment**, of any kind: the content loop moves over it, one line-table entry per line break inside (start right
after it, indentation 0, `LineText` nil: `lineStarts` of the body).  Line breaks are for the kinds that may span lines, and then what
follows the body is no line break (it would pair with a break at the body's end). -/
theorem cmt_multi_run (s cty : Nat) (post b : List Nat) (h0 : ∀ c ∈ b, c ≠ 0) (hok : BodyOK cty post b)
    (hm : (∀ c ∈ b, isBreak c = false) ∨ (MultiCty cty ∧ isBreak (post.headD 0) = false)) (l : Lexer) (q : Nat)
    (h : l.rest = b ++ post) :
    parseCommentLoop s cty l q =
      parseCommentLoop s cty (l.grownTo l.lines (l.cursor + b.length) (lineStarts (l.cursor + 1) b)) q := by
  induction hk : b.length using Nat.strongRecOn generalizing b l with
  | _ k ih =>
  subst hk
  have at_ : ∀ {l₁ l₂ : Lexer}, l₁ = l₂ → parseCommentLoop s cty l₁ q = parseCommentLoop s cty l₂ q := fun e => by rw [e]
  cases b with
  | nil => exact at_ (by simp [Lexer.grownTo, lineStarts])
  | cons c b' =>
    have h' : l.rest = c :: (b' ++ post) := by simpa using h
    have h0' : ∀ x ∈ b', x ≠ 0 := fun x hx => h0 x (List.mem_cons_of_mem _ hx)
    have hm' : (∀ x ∈ b', isBreak x = false) ∨ (MultiCty cty ∧ isBreak (post.headD 0) = false) :=
      hm.imp_left fun a x hx => a x (List.mem_cons_of_mem _ hx)
    by_cases hb : isBreak c = true
    · obtain ⟨hcty, hpost⟩ : MultiCty cty ∧ isBreak (post.headD 0) = false :=
        hm.resolve_left fun a => by rw [a c List.mem_cons_self] at hb; cases hb
      by_cases hpair : isPair c ((b' ++ post).headD 0) = true
      · -- the partner is part of the body (what follows the body is no line break)
        cases b' with
        | nil =>
          exfalso
          simp only [List.nil_append, isPair, Bool.or_eq_true, Bool.and_eq_true, beq_iff_eq] at hpair
          have : isBreak (post.headD 0) = true := by rcases hpair with ⟨_, e⟩ | ⟨_, e⟩ <;> rw [e] <;> decide
          rw [hpost] at this; cases this
        | cons d b'' =>
          have hpair' : isPair c d = true := by simpa using hpair
          have h'' : l.rest = c :: d :: (b'' ++ post) := by simpa using h'
          rw [parseCommentLoop_cont (cmtStep_pair s cty l q c d _ h'' hpair' hcty),
            ih b''.length (by simp; omega) b'' (fun x hx => h0' x (List.mem_cons_of_mem _ hx)) hok.2.2
              (hm'.imp_left fun a x hx => a x (List.mem_cons_of_mem _ hx)) _ (by simpa using (Lexer.rest_cons2 h'').2.2) rfl,
            lineStarts_pair (l.cursor + 1) c d b'' hpair']
          exact at_ (by simp [Lexer.grownTo, scannedLine, Lexer.pushLine, Lexer.adv, Nat.add_assoc]; omega)
      · have hpair' : isPair c ((b' ++ post).headD 0) = false := by simpa using hpair
        have hls : lineStarts (l.cursor + 1) (c :: b') = (l.cursor + 2) :: lineStarts (l.cursor + 2) b' := by
          apply Model.lineStarts_single _ _ _ hb
          intro d hd
          cases b' with
          | nil => simp at hd
          | cons x xs => simp at hd; subst hd; simpa using hpair'
        rw [parseCommentLoop_cont (cmtStep_single s cty l q c _ h' hb hpair' hcty),
          ih b'.length (by simp) b' h0' hok.2 hm' _ (by simpa using (Lexer.rest_cons h').2) rfl, hls]
        exact at_ (by simp [Lexer.grownTo, scannedLine, Lexer.pushLine, Lexer.adv, Nat.add_assoc]; omega)
    · have hb' : isBreak c = false := by simpa using hb
      rw [parseCommentLoop_cont (cmtStep_body s cty l q c _ h' ⟨h0 c List.mem_cons_self, hb'⟩ hok.1),
        ih b'.length (by simp) b' h0' hok.2 hm' l.adv (Lexer.rest_cons h').2 rfl,
        lineStarts_plain (l.cursor + 1) c b' hb']
      exact at_ (by simp [Lexer.grownTo, Lexer.adv, Nat.add_assoc]; omega)

theorem cmtStep_close_slash (s : Nat) (l : Lexer) (q : Nat) (r : List Nat) (h : l.rest = cMultiplyOp :: cSlashOp :: r) :
    parseCommentStep s ccommentTypeSlash l q =
      (.done { type := cTypeComment, startIdx := s, endIdx := l.cursor + 3 }, l.setCursor (l.cursor + 3)) := by
  obtain ⟨q1, q2, _⟩ := Lexer.rest_cons2 h
  have hcur : l.adv.cur = cMultiplyOp := q1
  have hpeek : l.adv.peek = cSlashOp := q2
  unfold parseCommentStep
  simp only [hcur, hpeek]
  simp [runeEOF, runeCR, runeLF, cMultiplyOp, cSlashOp, cLeftDoubleQuoteI, cLeftDoubleQuoteII,
    cRightDoubleQuoteI, cRightDoubleQuoteII, Lexer.adv, Lexer.setCursor]

/-- its right quote closes a quoted comment (no quote pair nested inside: the count is 1) -/
theorem cmtStep_close_quote (s cty Q' : Nat)
    (hq : (Q' = cRightDoubleQuoteI ∧ cty = ccommentTypeQuoteI) ∨ (Q' = cRightDoubleQuoteII ∧ cty = ccommentTypeQuoteII))
    (l : Lexer) (r : List Nat) (h : l.rest = Q' :: r) :
    parseCommentStep s cty l 1 =
      (.done { type := cTypeComment, startIdx := s, endIdx := l.cursor + 2 }, l.setCursor (l.cursor + 2)) := by
  have hcur : l.adv.cur = Q' := (Lexer.rest_cons h).1
  unfold parseCommentStep
  simp only [hcur]
  rcases hq with ⟨rfl, rfl⟩ | ⟨rfl, rfl⟩ <;>
    simp [runeEOF, runeCR, runeLF, cLeftDoubleQuoteI, cLeftDoubleQuoteII, cRightDoubleQuoteI, cRightDoubleQuoteII,
      ccommentTypeQuoteI, ccommentTypeQuoteII, Lexer.adv, Lexer.setCursor]

theorem cmtStep_end_single (s : Nat) (l : Lexer) (q : Nat) (r : List Nat) (h : l.rest = r)
    (hend : r.headD 0 = 0 ∨ r.headD 0 = runeCR ∨ r.headD 0 = runeLF) :
    parseCommentStep s ccommentTypeSingle l q =
      (.done { type := cTypeComment, startIdx := s, endIdx := l.cursor + 1 }, l.adv) := by
  have hcur : l.adv.cur = r.headD 0 := rest_headD h
  unfold parseCommentStep
  simp only [hcur]
  rcases hend with e | e | e <;> rw [e] <;> simp [runeEOF, runeCR, runeLF, Lexer.adv]

theorem mcmt_cty (c : MCmt) : MultiCty c.cty := by
  cases c with
  | block b => exact Or.inl rfl
  | quoted curly ds b => cases curly <;> simp [MultiCty, MCmt.cty]

theorem bodyOK_post {cty : Nat} {post post' : List Nat} (h : post.headD 0 = post'.headD 0) :
    ∀ b, BodyOK cty post b → BodyOK cty post' b := by
  intro b
  induction b with
  | nil => intro _; trivial
  | cons c r ih =>
    intro hb
    refine ⟨?_, ih hb.2⟩
    have := hb.1
    cases r with
    | nil =>
      simp only [List.nil_append] at this ⊢
      rw [← h]; exact this
    | cons x xs => simpa using this

/-- the quote count a comment that may span lines starts with -/
def mcmtCount : MCmt → Nat
  | .block _ => 0
  | .quoted .. => 1

theorem mcmt_open (c : MCmt) (hds : match c with | .block _ => True | .quoted _ ds _ => ∀ d ∈ ds, isPureNumber d = true)
    {l : Lexer} {tl : List Nat} {n : Nat} (hn : c.pre.length = n + 1) (h : here l = c.pre ++ tl) :
    parseComment l = opened l.cursor c.cty (l.setCursor (l.cursor + n)) (mcmtCount c) := by
  cases c with
  | block b =>
    obtain rfl : n = 1 := by simpa [MCmt.pre] using hn.symm
    rw [parseComment_slash (c := cMultiplyOp) (by simpa [MCmt.pre] using h) (Or.inr rfl), if_neg (by decide)]
    rfl
  | quoted curly ds b =>
    obtain rfl : n = ds.length + 2 := by simpa [MCmt.pre] using hn.symm
    cases curly
    · rw [parseComment_note (tl := cLeftDoubleQuoteI :: tl) hds (by simpa [MCmt.pre] using h), List.headD_cons, if_pos rfl]
      rfl
    · rw [parseComment_note (tl := cLeftDoubleQuoteII :: tl) hds (by simpa [MCmt.pre] using h), List.headD_cons,
        if_neg (by decide), if_pos rfl]
      rfl

theorem mcmt_close (c : MCmt) (s : Nat) {l : Lexer} {r : List Nat} (h : l.rest = c.suf ++ r) :
    parseCommentStep s c.cty l (mcmtCount c) =
      (.done { type := cTypeComment, startIdx := s, endIdx := l.cursor + (c.suf.length + 1) },
        l.setCursor (l.cursor + (c.suf.length + 1))) := by
  cases c with
  | block b => exact cmtStep_close_slash s l 0 r h
  | quoted curly ds b =>
    cases curly
    · exact cmtStep_close_quote s _ _ (Or.inl ⟨rfl, rfl⟩) l r h
    · exact cmtStep_close_quote s _ _ (Or.inr ⟨rfl, rfl⟩) l r h

theorem dispatch_mcmt (c : MCmt) (hw : c.WF) (l : Lexer) (rest : List Nat) (h : here l = c.pre ++ (c.body ++ (c.suf ++ rest))) :
    dispatchToken l = (.ok { type := cTypeComment, startIdx := l.cursor, endIdx := l.cursor + c.chars.length },
      l.grownTo l.lines (l.cursor + c.chars.length) (lineStarts (l.cursor + c.pre.length) c.body)) := by
  obtain ⟨hb0, hbok, hds⟩ := hw
  obtain ⟨n, hn⟩ : ∃ n, c.pre.length = n + 1 := by cases c <;> exact ⟨_, rfl⟩
  have hc : l.cur = cCharZHU ∨ l.cur = cSlashOp := by rw [here_headD h]; cases c <;> simp [MCmt.pre]
  have hsuf : c.suf.headD 0 = (c.suf ++ rest).headD 0 ∧ isBreak (c.suf.headD 0) = false := by
    cases c with
    | block b => exact ⟨rfl, (by decide : isBreak cMultiplyOp = false)⟩
    | quoted curly ds b =>
      cases curly
      · exact ⟨rfl, (by decide : isBreak cRightDoubleQuoteI = false)⟩
      · exact ⟨rfl, (by decide : isBreak cRightDoubleQuoteII = false)⟩
  have hr2 : (l.setCursor (l.cursor + n)).rest = c.body ++ (c.suf ++ rest) := rest_of_here h hn
  rw [dispatch_opened hc (mcmt_open c hds hn h),
    cmt_multi_run _ _ (c.suf ++ rest) c.body hb0 (bodyOK_post hsuf.1 _ hbok) (Or.inr ⟨mcmt_cty c, hsuf.1 ▸ hsuf.2⟩) _ _ hr2,
    parseCommentLoop_done (mcmt_close c _ (grown_rest hr2 rfl)), (mcmt_len c).1, hn]
  simp [Lexer.grownTo, Lexer.setCursor, Nat.add_assoc]
  omega


theorem lineStarts_plainBody (p : Nat) (b : List Nat) (hb : Cmt.plainBody b) : lineStarts p b = [] :=
  lineStarts_nobreak p b fun c hc => by simpa [isBreak, runeCR, runeLF] using (hb c hc).2

/-- a body without `*/` never closes a `/* */` comment, also not with the `*` of the closing `*/` -/
theorem bodyOK_of_noClose : ∀ b : List Nat, Cmt.noClose b = true → BodyOK ccommentTypeSlash [cMultiplyOp, cSlashOp] b
  | [], _ => trivial
  | [c], _ => ⟨⟨fun _ h => absurd h.2 (by decide), fun e => absurd e (by decide), fun e => absurd e (by decide)⟩, trivial⟩
  | c :: d :: b, h => by
    simp only [Cmt.noClose, Bool.and_eq_true, Bool.not_eq_true', Bool.and_eq_false_iff, beq_eq_false_iff_ne] at h
    exact ⟨⟨fun _ hcd => h.1.elim (· hcd.1) (· hcd.2), fun e => absurd e (by decide), fun e => absurd e (by decide)⟩,
      bodyOK_of_noClose (d :: b) h.2⟩

theorem bodyOK_single (post : List Nat) : ∀ b : List Nat, BodyOK ccommentTypeSingle post b
  | [] => trivial
  | _ :: b => ⟨okChar_single _ _, bodyOK_single post b⟩

theorem single_run (s : Nat) (b rest : List Nat) (hb : Cmt.plainBody b)
    (he : rest.headD 0 = 0 ∨ rest.headD 0 = runeCR ∨ rest.headD 0 = runeLF) (l : Lexer) (q : Nat) (h : l.rest = b ++ rest) :
    parseCommentLoop s ccommentTypeSingle l q =
      ({ type := cTypeComment, startIdx := s, endIdx := l.cursor + b.length + 1 }, l.setCursor (l.cursor + b.length + 1)) := by
  rw [cmt_multi_run _ _ rest b (fun x hx => (hb x hx).1) (bodyOK_single rest b)
      (Or.inl fun x hx => (plainBody_head (b := []) (fun y hy => hb y (by simp at hy; rw [hy]; exact hx))).2) l q h,
    lineStarts_plainBody _ b hb, parseCommentLoop_done (cmtStep_end_single _ _ _ rest (grown_rest h rfl) he)]
  simp [Lexer.grownTo, Lexer.adv, Lexer.setCursor]

theorem dispatch_cmt (c : Cmt) (hw : c.WF) (rest : List Nat) (he : c.Ends rest) (l : Lexer) (h : here l = c.spelling ++ rest) :
    dispatchToken l = (.ok { type := cTypeComment, startIdx := l.cursor, endIdx := l.cursor + c.spelling.length },
      l.setCursor (l.cursor + c.spelling.length)) := by
  cases c with
  | line b =>
    have h' : here l = cSlashOp :: cSlashOp :: (b ++ rest) := by simpa [Cmt.spelling] using h
    rw [dispatch_opened (Or.inr (here_cons h').1) (parseComment_slash h' (Or.inl rfl)), if_pos rfl,
      single_run _ b rest hw he l.adv 0 (Lexer.rest_cons (here_cons h').2).2]
    simp [Cmt.spelling, Lexer.adv, Lexer.setCursor]
    omega
  | block b =>
    -- the `/* */` comment that may span lines, with no line start inside
    have := dispatch_mcmt (.block b) ⟨fun x hx => (hw.1 x hx).1, bodyOK_of_noClose b hw.2, trivial⟩ l rest
      (by simpa [Cmt.spelling, MCmt.pre, MCmt.body, MCmt.suf] using h)
    rwa [show (MCmt.block b).body = b from rfl, lineStarts_plainBody _ b hw.1, Lexer.grownTo_nil] at this
  | note ds b =>
    obtain ⟨hds, hb, hq1, hq2⟩ := hw
    have h' : here l = cCharZHU :: (ds ++ cColon :: (b ++ rest)) := by simpa [Cmt.spelling] using h
    -- what follows the colon is no left quote: the body's first character, or what ends the line
    have hq : (b ++ rest).headD 0 ≠ cLeftDoubleQuoteI ∧ (b ++ rest).headD 0 ≠ cLeftDoubleQuoteII := by
      cases b with
      | nil => rcases he with e | e | e <;> simp only [List.nil_append, e] <;> decide
      | cons x b' => exact ⟨hq1, hq2⟩
    have hr2 : (l.setCursor (l.cursor + (ds.length + 1))).rest = b ++ rest :=
      rest_of_here (a := cCharZHU :: (ds ++ [cColon])) (by simpa using h') (by simp)
    rw [dispatch_opened (Or.inl (here_cons h').1) ((parseComment_note hds h').trans (by rw [if_neg hq.1, if_neg hq.2])),
      single_run _ b rest hb he _ 0 hr2]
    simp [Cmt.spelling, Lexer.setCursor]
    omega

end ZnVerif.Proofs.RenderLex
