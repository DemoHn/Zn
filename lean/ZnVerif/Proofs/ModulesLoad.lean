/-
Helper lemmas for C15: the invariants of the loader (Model.Modules.loadModule / evalImport / evalProgram).

* `LInv` — control invariant at the points where imports are processed: the list "modules on the import stack
  (outermost first), then closed modules (most recently closed first)" is topologically sorted for the dependency
  graph, consecutive stack entries are linked by an edge, every registered module is on the stack or closed.
  Hence: an import of a module on the stack closes a cycle (→ the DFS answers true → 63), an import of a closed
  module does not.
* `SInv` — state invariant (holds at every state, also where a run fails): registry ↔ module names, every edge
  is a static import of a module reachable from the main module, every module body started at most once and
  after its imports were done.  Its fields: `main0 nodup regName regAll` the registry `nameMap` and the module names
  are inverse bijections and the main module is number 0; `edges` every edge of the graph joins registered modules,
  leaves a module reachable from the main one and is one of its import statements (or enters a library); `bodies`
  no body started twice; `logBound` a started body belongs to a registered module; `before` when a body starts, every
  module its source imports has its `done` event earlier in the log, and the edge is recorded; `doneBody` a done
  module has run its body; `libStd` a `lib` event belongs to a library name; `doneReach` a done module is reachable
  from the main module and has a source.

The vocabulary of the specifications (`evalImport_spec` … `runWith_spec`, all stated with `Res.Sat`):
* `Ext vm vm'` — what a loader step may do to the state: more module names at the end, more edges, more registry
  entries, more events at the front of the log; nothing is removed.
* `msrc`, `MImports a b`, `MReach n`, `MWalk a b`, `MCycle` — the static import relation in the loader's own terms:
  the source run for a name; "the source of `a` has an import statement naming the custom module `b`"; reachable from
  the main module through such statements; a chain of them; a reachable cycle.
* `InImports vm m rest nm src` — the loader is inside the import loop of the module `m`: both invariants hold, the call
  stack is the import stack `m :: rest`, and `m` is registered as `nm`, runs `src` and is reachable.  It is the pre- and the
  postcondition of every step of that loop (a successful step also gives `Ext`); `ErrPost` — after a failing step;
  `LoadSpec` — what `evalImport` assumes about the function that loads a module (proved for `loadModule` by induction
  on its fuel).

Everything from `msrc` on — `SInv`, `LInv`, the specifications, and with them Proofs/ModulesPath … ModulesView — is about the repaired
finder (`Variant.repaired`) only.  `evalImport` here is the abstract loader's (Model/Modules: a `match` on `Res`), which the proofs
unfold branch by branch; the evaluator's loader (Model/Interp) has an `evalImport` of its own, and the branch equations
`evalImport_std / _custom / _found` of Proofs/LoaderRun are about that one.
-/
import ZnVerif.Proofs.ModulesBasic
import ZnVerif.Proofs.ModulesDfs

namespace ZnVerif.Proofs.Modules
open ZnVerif.Model.Modules
open ZnVerif.Spec.ModuleSem (Walk HasCycle)
open ZnVerif.Proofs.ModulesDfs

variable {files : Files} {mainSrc : ModuleSrc} {O : Oracle} {libs : Libs}

/-- consecutive entries (top first) are joined by an edge from the lower to the upper one -/
def Linked (g : Graph) : List Nat → Prop
  | [] => True
  | [_] => True
  | a :: b :: r => (b, a) ∈ g ∧ Linked g (b :: r)

theorem Linked.tail {g : Graph} {a : Nat} {r : List Nat} (h : Linked g (a :: r)) : Linked g r := by
  cases r with
  | nil => trivial
  | cons b r => exact h.2

theorem Linked.mono {g g' : Graph} (hs : ∀ e, e ∈ g → e ∈ g') : ∀ {l : List Nat}, Linked g l → Linked g' l
  | [], _ => trivial
  | [_], _ => trivial
  | _ :: b :: r, h => ⟨hs _ h.1, Linked.mono hs (l := b :: r) h.2⟩

theorem linked_walk {g : Graph} : ∀ {r : List Nat} {t x : Nat}, Linked g (t :: r) → x ∈ t :: r → Walk g x t
  | [], t, x, _, hx => by
    rcases List.mem_cons.1 hx with rfl | h
    · exact Walk.refl _
    · cases h
  | b :: r, t, x, hl, hx => by
    rcases List.mem_cons.1 hx with rfl | h
    · exact Walk.refl _
    · exact Walk.snoc (linked_walk (r := r) hl.2 h) hl.1

theorem topo_add_edge_away {g : Graph} {a b : Nat} : ∀ {c : List Nat}, Topo g c → a ∉ c → Topo (g ++ [(a, b)]) c
  | [], _, _ => trivial
  | x :: c, ht, ha => by
    refine ⟨fun y hy => ?_, topo_add_edge_away ht.2 (fun h => ha (List.mem_cons_of_mem _ h))⟩
    rcases List.mem_append.1 hy with h | h
    · exact ht.1 y h
    · simp at h; exact absurd (h.1 ▸ List.mem_cons_self ..) ha

theorem topo_add_edge {g : Graph} {a b : Nat} {c : List Nat} : ∀ {p : List Nat}, Topo g (p ++ c) → a ∉ c → b ∈ c →
    Topo (g ++ [(a, b)]) (p ++ c)
  | [], ht, ha, _ => topo_add_edge_away ht ha
  | x :: p, ht, ha, hb => by
    refine ⟨fun y hy => ?_, topo_add_edge (p := p) ht.2 ha hb⟩
    rcases List.mem_append.1 hy with h | h
    · exact ht.1 y h
    · simp at h; rw [h.2]; exact List.mem_append_right _ hb

theorem topo_insert_noedge {g : Graph} {n : Nat} {c : List Nat} (hn : ∀ x y, (x, y) ∈ g → x ≠ n) :
    ∀ {p : List Nat}, Topo g (p ++ c) → Topo g (p ++ n :: c)
  | [], ht => ⟨fun y hy => absurd rfl (hn _ _ hy), ht⟩
  | x :: p, ht => by
    refine ⟨fun y hy => ?_, topo_insert_noedge hn (p := p) ht.2⟩
    rcases List.mem_append.1 (ht.1 y hy) with h' | h'
    · exact List.mem_append_left _ h'
    · exact List.mem_append_right _ (List.mem_cons_of_mem _ h')

theorem topo_insert {g : Graph} {a n : Nat} {c p : List Nat} (hn : ∀ x y, (x, y) ∈ g → x ≠ n) (han : a ≠ n)
    (ht : Topo g (p ++ c)) (ha : a ∉ c) : Topo (g ++ [(a, n)]) (p ++ n :: c) :=
  topo_add_edge (topo_insert_noedge hn ht) (fun h => (List.mem_cons.1 h).elim han ha) (List.mem_cons_self ..)

def closedOf : List Ev → List Nat
  | [] => []
  | .done m :: r => m :: closedOf r
  | .lib m :: r => m :: closedOf r
  | _ :: r => closedOf r

def bodiesOf : List Ev → List Nat
  | [] => []
  | .body m :: r => m :: bodiesOf r
  | _ :: r => bodiesOf r

theorem mem_closedOf {x : Nat} : ∀ {l : List Ev}, x ∈ closedOf l ↔ (Ev.done x ∈ l ∨ Ev.lib x ∈ l)
  | [] => by simp [closedOf]
  | e :: r => by cases e <;> simp [closedOf, mem_closedOf (l := r), or_assoc, or_left_comm]

theorem mem_bodiesOf {x : Nat} : ∀ {l : List Ev}, x ∈ bodiesOf l ↔ Ev.body x ∈ l
  | [] => by simp [bodiesOf]
  | e :: r => by cases e <;> simp [bodiesOf, mem_bodiesOf (l := r)]

structure Ext (vm vm' : VM) : Prop where
  names : ∃ l, namesOf vm' = namesOf vm ++ l
  graph : ∀ e, e ∈ vm.graph → e ∈ vm'.graph
  nameMap : ∀ n id, assoc n vm.nameMap = some id → assoc n vm'.nameMap = some id
  log : ∃ l, vm'.log = l ++ vm.log

theorem Ext.rfl' (vm : VM) : Ext vm vm := ⟨⟨[], by simp⟩, fun _ h => h, fun _ _ h => h, ⟨[], by simp⟩⟩

theorem Ext.trans {a b c : VM} (h1 : Ext a b) (h2 : Ext b c) : Ext a c := by
  obtain ⟨l1, e1⟩ := h1.names
  obtain ⟨l2, e2⟩ := h2.names
  obtain ⟨m1, f1⟩ := h1.log
  obtain ⟨m2, f2⟩ := h2.log
  exact ⟨⟨l1 ++ l2, by rw [e2, e1, List.append_assoc]⟩, fun e h => h2.graph e (h1.graph e h),
    fun n id h => h2.nameMap n id (h1.nameMap n id h), ⟨m2 ++ m1, by rw [f2, f1, List.append_assoc]⟩⟩

theorem Ext.of_same {vm vm' : VM} (h : Same vm vm') : Ext vm vm' :=
  ⟨⟨[], by rw [h.names]; simp⟩, fun _ he => h.graph ▸ he, fun _ _ hn => h.nameMap ▸ hn, ⟨[], by rw [h.log]; simp⟩⟩

theorem Ext.names_get {vm vm' : VM} (h : Ext vm vm') {i : Nat} {n : Name} (hi : (namesOf vm)[i]? = some n) :
    (namesOf vm')[i]? = some n := by
  obtain ⟨l, e⟩ := h.names
  rw [e, List.getElem?_append_left (List.getElem?_eq_some_iff.1 hi).1]
  exact hi

theorem Ext.length_le {vm vm' : VM} (h : Ext vm vm') : (namesOf vm).length ≤ (namesOf vm').length := by
  obtain ⟨l, e⟩ := h.names
  rw [e, List.length_append]; omega

theorem Ext.mem_log {vm vm' : VM} (h : Ext vm vm') {e : Ev} (he : e ∈ vm.log) : e ∈ vm'.log := by
  obtain ⟨l, e'⟩ := h.log
  rw [e']; exact List.mem_append_right _ he

theorem ext_record (vm : VM) (e : Ev) : Ext vm (vm.record e) :=
  ⟨⟨[], by simp [namesOf, VM.record]⟩, fun _ h => h, fun _ _ h => h, ⟨[e], rfl⟩⟩

/-- the source the loader runs for the module registered under the name `n` -/
def msrc (files : Files) (mainSrc : ModuleSrc) (n : Name) : Option ModuleSrc :=
  if n = mainName then some mainSrc else
  match finder .repaired files (parseLibName n) with
  | .src s => some s
  | _ => none

def MImports (files : Files) (mainSrc : ModuleSrc) (a b : Name) : Prop :=
  ∃ src imp, msrc files mainSrc a = some src ∧ imp ∈ src.imports ∧ imp.name = b ∧
    (parseLibName b).libType = .custom

inductive MReach (files : Files) (mainSrc : ModuleSrc) : Name → Prop
  | main : MReach files mainSrc mainName
  | step {a b : Name} : MReach files mainSrc a → MImports files mainSrc a b → MReach files mainSrc b

theorem libType_cases (n : Name) : (parseLibName n).libType = .std ∨ (parseLibName n).libType = .custom := by
  unfold parseLibName
  cases n with
  | nil => exact Or.inr rfl
  | cons c r => by_cases h : c = chAt <;> simp [h]

theorem parseLibName_originalName (n : Name) : (parseLibName n).originalName = n := by
  unfold parseLibName
  cases n with
  | nil => rfl
  | cons c r => by_cases h : c = chAt <;> simp [h]

theorem mainName_custom : (parseLibName mainName).libType = .custom := by decide

theorem MImports.custom {a b : Name} (h : MImports files mainSrc a b) :
    (parseLibName b).libType = .custom := by
  obtain ⟨_, _, _, _, _, hc⟩ := h; exact hc

theorem MReach.custom {files : Files} {mainSrc : ModuleSrc} {n : Name} (h : MReach files mainSrc n) :
    (parseLibName n).libType = .custom := by
  cases h with
  | main => exact mainName_custom
  | step _ hi => exact hi.custom

theorem msrc_main (files : Files) (mainSrc : ModuleSrc) : msrc files mainSrc mainName = some mainSrc := by
  simp [msrc]

theorem msrc_of_finder {n : Name} {s : ModuleSrc} (hne : n ≠ mainName)
    (hf : finder .repaired files (parseLibName n) = .src s) : msrc files mainSrc n = some s := by
  unfold msrc; simp [hne, hf]

structure SInv (files : Files) (mainSrc : ModuleSrc) (vm : VM) : Prop where
  main0 : (namesOf vm)[0]? = some mainName
  nodup : (namesOf vm).Nodup
  regName : ∀ n id, assoc n vm.nameMap = some id → (namesOf vm)[id]? = some n
  regAll : ∀ i n, (namesOf vm)[i]? = some n → assoc n vm.nameMap = some i
  edges : ∀ a b, (a, b) ∈ vm.graph → ∃ na nb, (namesOf vm)[a]? = some na ∧ (namesOf vm)[b]? = some nb ∧
      MReach files mainSrc na ∧ ((parseLibName nb).libType = .std ∨ MImports files mainSrc na nb)
  bodies : (bodiesOf vm.log).Nodup
  logBound : ∀ x, Ev.body x ∈ vm.log → x < (namesOf vm).length
  before : ∀ l1 m l2, vm.log = l1 ++ Ev.body m :: l2 → ∀ nm src, (namesOf vm)[m]? = some nm →
      msrc files mainSrc nm = some src → ∀ imp, imp ∈ src.imports → (parseLibName imp.name).libType = .custom →
        ∃ id, assoc imp.name vm.nameMap = some id ∧ Ev.done id ∈ l2 ∧ (m, id) ∈ vm.graph
  doneBody : ∀ x, Ev.done x ∈ vm.log → Ev.body x ∈ vm.log
  libStd : ∀ x, Ev.lib x ∈ vm.log → ∃ n, (namesOf vm)[x]? = some n ∧ (parseLibName n).libType = .std
  doneReach : ∀ x, Ev.done x ∈ vm.log → ∃ n, (namesOf vm)[x]? = some n ∧ MReach files mainSrc n ∧
      ∃ src, msrc files mainSrc n = some src

structure LInv (files : Files) (mainSrc : ModuleSrc) (vm : VM) (stack : List Nat) : Prop where
  topo : Topo vm.graph (stack.reverse ++ closedOf vm.log)
  src : ∀ a b, (a, b) ∈ vm.graph → a ∈ stack ∨ a ∈ closedOf vm.log
  linked : Linked vm.graph stack
  nodup : stack.Nodup
  disj : ∀ x, x ∈ stack → x ∉ closedOf vm.log
  reg : ∀ n id, assoc n vm.nameMap = some id → id ∈ stack ∨ id ∈ closedOf vm.log
  cbound : ∀ x, x ∈ closedOf vm.log → x < (namesOf vm).length
  sreach : ∀ x, x ∈ stack → ∃ nx, (namesOf vm)[x]? = some nx ∧ MReach files mainSrc nx ∧
    ∃ src, msrc files mainSrc nx = some src
  nobody : ∀ x, x ∈ stack → Ev.body x ∉ vm.log

/-- the invariants read a state only through the four components that `Same` keeps -/
theorem SInv.of_same {vm vm' : VM} (hs : Same vm vm') (h : SInv files mainSrc vm) : SInv files mainSrc vm' := by
  obtain ⟨h1, h2, h3, h3', h4, h5, h6, h7, h8, h9, h10⟩ := h
  constructor <;> simp only [hs.names, hs.graph, hs.nameMap, hs.log] <;> assumption

theorem LInv.of_same {vm vm' : VM} {st : List Nat} (hs : Same vm vm') (h : LInv files mainSrc vm st) :
    LInv files mainSrc vm' st := by
  obtain ⟨h1, h2, h3, h4, h5, h6, h7, h8, h9⟩ := h
  refine ⟨?_, ?_, ?_, h4, ?_, ?_, ?_, ?_, ?_⟩ <;> simp only [hs.names, hs.graph, hs.nameMap, hs.log] <;> assumption

theorem getElem?_lt {α} {l : List α} {i : Nat} {a : α} (h : l[i]? = some a) : i < l.length :=
  (List.getElem?_eq_some_iff.1 h).1

theorem SInv.index_inj {vm : VM} (h : SInv files mainSrc vm) {i j : Nat} {n : Name}
    (hi : (namesOf vm)[i]? = some n) (hj : (namesOf vm)[j]? = some n) : i = j :=
  Option.some.inj ((h.regAll i n hi).symm.trans (h.regAll j n hj))

theorem SInv.no_edge_from_std {vm : VM} (h : SInv files mainSrc vm)
    {x : Nat} {n : Name} (hx : (namesOf vm)[x]? = some n) (hn : (parseLibName n).libType = .std) :
    ∀ a b, (a, b) ∈ vm.graph → a ≠ x := by
  intro a b he hax
  obtain ⟨na, _, h1, _, h3, _⟩ := h.edges a b he
  rw [hax, hx] at h1
  cases h1
  rw [h3.custom] at hn
  cases hn

theorem LInv.lt_of_stack {vm : VM} {st : List Nat} (h : LInv files mainSrc vm st)
    {x : Nat} (hx : x ∈ st) : x < (namesOf vm).length := by
  obtain ⟨_, hn, _⟩ := h.sreach x hx
  exact getElem?_lt hn

theorem LInv.src_lt {vm : VM} {st : List Nat} (h : LInv files mainSrc vm st)
    {a b : Nat} (he : (a, b) ∈ vm.graph) : a < (namesOf vm).length :=
  (h.src a b he).elim h.lt_of_stack (h.cbound a)

theorem LInv.done_of_reg {vm : VM} {st : List Nat} (hL : LInv files mainSrc vm st)
    (hS : SInv files mainSrc vm) {n : Name} {id : Nat} (hreg : assoc n vm.nameMap = some id)
    (hty : (parseLibName n).libType = .custom) (hns : id ∉ st) : Ev.done id ∈ vm.log := by
  rcases hL.reg n id hreg with h | h
  · exact absurd h hns
  · rcases mem_closedOf.1 h with h | h
    · exact h
    · obtain ⟨k, hk, hs⟩ := hS.libStd id h
      rw [hS.regName n id hreg] at hk
      cases hk
      rw [hty] at hs; cases hs

theorem namesOf_length (vm : VM) : (namesOf vm).length = vm.modules.length := by simp [namesOf]

/-- `AllocateModule` for a name that is not registered, called while the module `top` is current: the resulting state and
    number, as an equation (`Alloc.of_allocate` below reads it as the field-wise relation `Alloc`) -/
theorem allocate_fresh {vm : VM} {n : Name} {top : Nat} (h : assoc n vm.nameMap = none) (hcs : vm.cs = some top) :
    vm.allocateModule n =
      ({ vm with modules := vm.modules ++ [⟨n, []⟩], graph := vm.graph ++ [(top, vm.modules.length)],
                 nameMap := aset n vm.modules.length vm.nameMap, cs := some vm.modules.length },
       vm.modules.length) := by
  unfold VM.allocateModule VM.findModuleByName VM.addModule
  rw [h, hcs]

theorem allocate_existing {vm : VM} {n : Name} {id : Nat} (h : assoc n vm.nameMap = some id) :
    vm.allocateModule n = (vm, id) := by
  unfold VM.allocateModule VM.findModuleByName
  rw [h]

theorem addDep_eq {vm : VM} {n : Name} {id m : Nat} (hn : assoc n vm.nameMap = some id) (hcs : vm.cs = some m) :
    vm.addModuleDependency n = { vm with graph := vm.graph ++ [(m, id)], nameMap := aset n id vm.nameMap } := by
  unfold VM.addModuleDependency
  rw [hn]; dsimp only; rw [hcs]

/-- `vm'` is `vm` with one more module: `n`, numbered `(namesOf vm).length`, imported by `top` -/
structure Alloc (vm vm' : VM) (n : Name) (top : Nat) : Prop where
  fresh : assoc n vm.nameMap = none
  names : namesOf vm' = namesOf vm ++ [n]
  graph : vm'.graph = vm.graph ++ [(top, (namesOf vm).length)]
  nameMap : vm'.nameMap = aset n (namesOf vm).length vm.nameMap
  log : vm'.log = vm.log

theorem Alloc.of_allocate {vm : VM} {n : Name} {top : Nat} (h : assoc n vm.nameMap = none) (hcs : vm.cs = some top) :
    Alloc vm (vm.allocateModule n).1 n top ∧ (vm.allocateModule n).2 = (namesOf vm).length := by
  rw [allocate_fresh h hcs]
  exact ⟨⟨h, by simp [namesOf], by simp [namesOf], by simp [namesOf], rfl⟩, by simp [namesOf]⟩

theorem Alloc.same {vm v1 v2 : VM} {n : Name} {top : Nat} (h : Alloc vm v1 n top) (hs : Same v1 v2) : Alloc vm v2 n top :=
  ⟨h.fresh, hs.names.trans h.names, hs.graph.trans h.graph, hs.nameMap.trans h.nameMap, hs.log.trans h.log⟩

theorem Alloc.ext {vm vm' : VM} {n : Name} {top : Nat} (h : Alloc vm vm' n top) : Ext vm vm' :=
  ⟨⟨_, h.names⟩, fun e he => by rw [h.graph]; exact List.mem_append_left _ he,
    fun _ _ hk => by rw [h.nameMap]; exact assoc_aset_fresh h.fresh _ hk, ⟨[], h.log⟩⟩

theorem Alloc.names_old {vm vm' : VM} {n : Name} {top : Nat} (h : Alloc vm vm' n top) {i : Nat} {k : Name}
    (hk : (namesOf vm)[i]? = some k) : (namesOf vm')[i]? = some k := h.ext.names_get hk

theorem Alloc.names_new {vm vm' : VM} {n : Name} {top : Nat} (h : Alloc vm vm' n top) :
    (namesOf vm')[(namesOf vm).length]? = some n := by
  rw [h.names]; simp

theorem getElem?_append_one {α} {l : List α} {a b : α} {i : Nat} (h : (l ++ [a])[i]? = some b) :
    l[i]? = some b ∨ (i = l.length ∧ b = a) := by
  by_cases hi : i < l.length
  · rw [List.getElem?_append_left hi] at h; exact Or.inl h
  · have hlt := getElem?_lt h
    simp only [List.length_append, List.length_cons, List.length_nil] at hlt
    have : i = l.length := by omega
    subst this
    simp at h
    exact Or.inr ⟨rfl, h.symm⟩

/-- allocating a new module `n` on behalf of the module `top` that imports it -/
theorem SInv.alloc {vm vm' : VM} {n nt : Name} {top : Nat}
    (h : SInv files mainSrc vm) (ha : Alloc vm vm' n top)
    (htop : (namesOf vm)[top]? = some nt) (hreach : MReach files mainSrc nt)
    (himp : (parseLibName n).libType = .std ∨ MImports files mainSrc nt n) : SInv files mainSrc vm' := by
  have hnotin : n ∉ namesOf vm := by
    intro hm
    obtain ⟨i, hi⟩ := List.getElem?_of_mem hm
    have := ha.fresh
    rw [h.regAll i n hi] at this; cases this
  have hlog := ha.log
  constructor
  · exact ha.names_old h.main0
  · rw [ha.names, List.nodup_append]
    refine ⟨h.nodup, by simp, ?_⟩
    intro a haa b hb
    simp at hb; subst hb
    intro hab; subst hab; exact hnotin haa
  · intro k id hk
    rw [ha.nameMap, assoc_aset] at hk
    split at hk
    · cases hk; subst_vars; exact ha.names_new
    · exact ha.names_old (h.regName k id hk)
  · intro i k hk
    rw [ha.names] at hk
    rw [ha.nameMap, assoc_aset]
    rcases getElem?_append_one hk with hk' | ⟨hi, hkn⟩
    · rw [if_neg (fun hkn : k = n => hnotin (hkn ▸ List.mem_of_getElem? hk'))]; exact h.regAll i k hk'
    · rw [if_pos hkn, hi]
  · intro a b he
    rw [ha.graph] at he
    rcases List.mem_append.1 he with he | he
    · obtain ⟨na, nb, h1, h2, h3, h4⟩ := h.edges a b he
      exact ⟨na, nb, ha.names_old h1, ha.names_old h2, h3, h4⟩
    · simp at he
      obtain ⟨rfl, rfl⟩ := he
      exact ⟨nt, n, ha.names_old htop, ha.names_new, hreach, himp⟩
  · rw [hlog]; exact h.bodies
  · intro x hx
    rw [hlog] at hx
    exact Nat.lt_of_lt_of_le (h.logBound x hx) ha.ext.length_le
  · intro l1 m l2 hl nm src hnm hsrc imp himp' hc
    rw [hlog] at hl
    have hm : m < (namesOf vm).length := h.logBound m (by rw [hl]; simp)
    rw [ha.names, List.getElem?_append_left hm] at hnm
    obtain ⟨id, h1, h2, h3⟩ := h.before l1 m l2 hl nm src hnm hsrc imp himp' hc
    exact ⟨id, ha.ext.nameMap _ _ h1, h2, ha.ext.graph _ h3⟩
  · rw [hlog]; exact h.doneBody
  · intro x hx
    rw [hlog] at hx
    obtain ⟨k, hk, hs⟩ := h.libStd x hx
    exact ⟨k, ha.names_old hk, hs⟩
  · intro x hx
    rw [hlog] at hx
    obtain ⟨k, hk, hs⟩ := h.doneReach x hx
    exact ⟨k, ha.names_old hk, hs⟩

/-- recording an event: a body starts once, after its module's imports are done; `done` follows `body`; only library
    modules are made available by `lib` -/
theorem SInv.record {vm : VM} (h : SInv files mainSrc vm) (e : Ev)
    (hbody : ∀ m, e = .body m → Ev.body m ∉ vm.log ∧ ∃ nm src, (namesOf vm)[m]? = some nm ∧
      msrc files mainSrc nm = some src ∧ ∀ imp, imp ∈ src.imports → (parseLibName imp.name).libType = .custom →
        ∃ id, assoc imp.name vm.nameMap = some id ∧ Ev.done id ∈ vm.log ∧ (m, id) ∈ vm.graph)
    (hdone : ∀ x, e = .done x → Ev.body x ∈ vm.log ∧ ∃ n, (namesOf vm)[x]? = some n ∧ MReach files mainSrc n ∧
      ∃ src, msrc files mainSrc n = some src)
    (hlib : ∀ x, e = .lib x → ∃ n, (namesOf vm)[x]? = some n ∧ (parseLibName n).libType = .std) :
    SInv files mainSrc (vm.record e) := by
  obtain ⟨h1, h2, h3, h3', h4, h5, h6, h7, h8, h9, h10⟩ := h
  have hmem : ∀ {e' : Ev}, e' ∈ (vm.record e).log → e' = e ∨ e' ∈ vm.log := List.mem_cons.1
  refine ⟨h1, h2, h3, h3', h4, ?_, ?_, ?_, ?_, ?_, ?_⟩
  · show (bodiesOf (e :: vm.log)).Nodup
    cases e with
    | body m => exact List.nodup_cons.2 ⟨fun hm => (hbody m rfl).1 (mem_bodiesOf.1 hm), h5⟩
    | _ => exact h5
  · intro x hx
    rcases hmem hx with he | hx
    · obtain ⟨_, nm, _, hnm, _⟩ := hbody x he.symm
      exact getElem?_lt hnm
    · exact h6 x hx
  · intro l1 m l2 hl nm src hnm hsrc imp himp hc
    cases l1 with
    | nil =>
      obtain ⟨rfl, rfl⟩ := List.cons.inj hl
      obtain ⟨_, nm', src', hnm', hsrc', himps⟩ := hbody m rfl
      rw [show (namesOf (vm.record (.body m)))[m]? = (namesOf vm)[m]? from rfl, hnm'] at hnm
      cases hnm
      rw [hsrc'] at hsrc; cases hsrc
      exact himps imp himp hc
    | cons a l1' => exact h7 l1' m l2 (List.cons.inj hl).2 nm src hnm hsrc imp himp hc
  · intro x hx
    rcases hmem hx with he | hx
    · exact List.mem_cons_of_mem _ (hdone x he.symm).1
    · exact List.mem_cons_of_mem _ (h8 x hx)
  · intro x hx
    rcases hmem hx with he | hx
    · exact hlib x he.symm
    · exact h9 x hx
  · intro x hx
    rcases hmem hx with he | hx
    · exact (hdone x he.symm).2
    · exact h10 x hx

theorem SInv.record_enter {vm : VM} (h : SInv files mainSrc vm) (x : Nat) :
    SInv files mainSrc (vm.record (.enter x)) := h.record _ nofun nofun nofun

theorem SInv.addDep {vm : VM} {m id : Nat} {nm n : Name}
    (h : SInv files mainSrc vm) (hreg : assoc n vm.nameMap = some id) (hcs : vm.cs = some m)
    (hm : (namesOf vm)[m]? = some nm) (hreach : MReach files mainSrc nm) (himp : MImports files mainSrc nm n) :
    SInv files mainSrc (vm.addModuleDependency n) := by
  rw [addDep_eq hreg hcs]
  have hmap : ∀ k, assoc k (aset n id vm.nameMap) = assoc k vm.nameMap := assoc_aset_idem hreg
  obtain ⟨h1, h2, h3, h3', h4, h5, h6, h7, h8, h9, h10⟩ := h
  refine ⟨h1, h2, fun k i hk => h3 k i (hmap k ▸ hk), fun i k hk => (hmap k).trans (h3' i k hk), ?_, h5, h6, ?_, h8, h9, h10⟩
  · intro a b he
    rcases List.mem_append.1 he with he | he
    · exact h4 a b he
    · simp at he; obtain ⟨rfl, rfl⟩ := he
      exact ⟨nm, n, hm, h3 n b hreg, hreach, Or.inr himp⟩
  · intro l1 x l2 hl nx src hnx hsrc imp himp' hc
    obtain ⟨i, e1, e2, e3⟩ := h7 l1 x l2 hl nx src hnx hsrc imp himp' hc
    exact ⟨i, (hmap _).trans e1, e2, List.mem_append_left _ e3⟩

/-- a new module is pushed on the import stack -/
theorem LInv.push_new {vm vm' : VM} {n : Name} {top : Nat} {rest : List Nat}
    (h : LInv files mainSrc vm (top :: rest)) (ha : Alloc vm vm' n top)
    (hlb : ∀ x, Ev.body x ∈ vm.log → x < (namesOf vm).length)
    (hreach : MReach files mainSrc n) {sn : ModuleSrc} (hsn : msrc files mainSrc n = some sn) :
    LInv files mainSrc vm' ((namesOf vm).length :: top :: rest) := by
  have hNc : (namesOf vm).length ∉ closedOf vm.log := fun hc => Nat.lt_irrefl _ (h.cbound _ hc)
  have hNs : (namesOf vm).length ∉ top :: rest := fun hc => Nat.lt_irrefl _ (h.lt_of_stack hc)
  have hlog := ha.log
  constructor
  · rw [hlog, ha.graph]
    have := topo_insert (fun x y he hx => Nat.lt_irrefl _ (hx ▸ h.src_lt he))
      (fun e => hNs (by rw [← e]; exact List.mem_cons_self ..)) h.topo (h.disj top (List.mem_cons_self ..))
    simpa [List.reverse_cons, List.append_assoc] using this
  · intro a b he
    rw [ha.graph] at he; rw [hlog]
    rcases List.mem_append.1 he with he | he
    · exact (h.src a b he).imp (List.mem_cons_of_mem _) (fun h => h)
    · simp at he; rw [he.1]; exact Or.inl (List.mem_cons_of_mem _ (List.mem_cons_self ..))
  · exact ⟨by rw [ha.graph]; simp, Linked.mono ha.ext.graph h.linked⟩
  · exact List.nodup_cons.2 ⟨hNs, h.nodup⟩
  · intro x hx
    rw [hlog]
    rcases List.mem_cons.1 hx with rfl | hx
    · exact hNc
    · exact h.disj x hx
  · intro k id hk
    rw [ha.nameMap, assoc_aset] at hk
    rw [hlog]
    split at hk
    · cases hk; exact Or.inl (List.mem_cons_self ..)
    · exact (h.reg k id hk).imp (List.mem_cons_of_mem _) (fun h => h)
  · intro x hx
    rw [hlog] at hx
    exact Nat.lt_of_lt_of_le (h.cbound x hx) ha.ext.length_le
  · intro x hx
    rcases List.mem_cons.1 hx with rfl | hx
    · exact ⟨n, ha.names_new, hreach, sn, hsn⟩
    · obtain ⟨nx, h1, h2⟩ := h.sreach x hx
      exact ⟨nx, ha.names_old h1, h2⟩
  · intro x hx hb
    rw [hlog] at hb
    rcases List.mem_cons.1 hx with rfl | hx
    · exact Nat.lt_irrefl _ (hlb _ hb)
    · exact h.nobody x hx hb

theorem LInv.record_enter {vm : VM} {st : List Nat} (h : LInv files mainSrc vm st)
    (x : Nat) : LInv files mainSrc (vm.record (.enter x)) st :=
  ⟨h.topo, h.src, h.linked, h.nodup, h.disj, h.reg, h.cbound, h.sreach,
    fun y hy hb => h.nobody y hy ((List.mem_cons.1 hb).elim nofun (fun h => h))⟩

/-- the module on top of the import stack has run its body: it becomes the most recently closed module -/
theorem LInv.close {vm vm' : VM} {m : Nat} {rest : List Nat}
    (h : LInv files mainSrc vm (m :: rest)) (hs : Same (vm.record (.body m)) vm') :
    LInv files mainSrc (vm'.record (.done m)) rest := by
  have hlog : (vm'.record (.done m)).log = Ev.done m :: Ev.body m :: vm.log := congrArg _ hs.log
  have hclosed : closedOf (vm'.record (.done m)).log = m :: closedOf vm.log := by rw [hlog]; rfl
  have hg : vm'.graph = vm.graph := hs.graph
  have hn : namesOf vm' = namesOf vm := hs.names
  have hm : vm'.nameMap = vm.nameMap := hs.nameMap
  have hnd := List.nodup_cons.1 h.nodup
  constructor
  · rw [hclosed]; show Topo vm'.graph _; rw [hg]
    simpa [List.reverse_cons, List.append_assoc] using h.topo
  · intro a b he
    rw [hclosed]
    rcases h.src a b (hg ▸ he) with ha | ha
    · rcases List.mem_cons.1 ha with rfl | ha
      · exact Or.inr (List.mem_cons_self ..)
      · exact Or.inl ha
    · exact Or.inr (List.mem_cons_of_mem _ ha)
  · show Linked vm'.graph _; rw [hg]; exact h.linked.tail
  · exact hnd.2
  · intro x hx
    rw [hclosed]
    intro hc
    rcases List.mem_cons.1 hc with rfl | hc
    · exact hnd.1 hx
    · exact h.disj x (List.mem_cons_of_mem _ hx) hc
  · intro k i hk
    rw [hclosed]
    rcases h.reg k i (hm ▸ hk) with h' | h'
    · rcases List.mem_cons.1 h' with rfl | h'
      · exact Or.inr (List.mem_cons_self ..)
      · exact Or.inl h'
    · exact Or.inr (List.mem_cons_of_mem _ h')
  · intro x hx
    rw [hclosed] at hx
    show x < (namesOf vm').length; rw [hn]
    rcases List.mem_cons.1 hx with rfl | hx
    · exact h.lt_of_stack (List.mem_cons_self ..)
    · exact h.cbound x hx
  · intro x hx
    show ∃ nx, (namesOf vm')[x]? = _ ∧ _; rw [hn]
    exact h.sreach x (List.mem_cons_of_mem _ hx)
  · intro x hx hb
    rw [hlog] at hb
    simp at hb
    rcases hb with rfl | hb
    · exact hnd.1 hx
    · exact h.nobody x (List.mem_cons_of_mem _ hx) hb

/-- a library module allocated by this import: closed at once -/
theorem LInv.new_lib {vm vm' : VM} {n : Name} {top : Nat} {rest : List Nat}
    (h : LInv files mainSrc vm (top :: rest)) (ha : Alloc vm vm' n top) :
    LInv files mainSrc (vm'.record (.lib (namesOf vm).length)) (top :: rest) := by
  have hclosed : closedOf (vm'.record (.lib (namesOf vm).length)).log = (namesOf vm).length :: closedOf vm.log := by
    show _ :: closedOf vm'.log = _; rw [ha.log]
  have hNs : (namesOf vm).length ∉ top :: rest := fun hc => Nat.lt_irrefl _ (h.lt_of_stack hc)
  constructor
  · rw [hclosed]; show Topo vm'.graph _; rw [ha.graph]
    exact topo_insert (fun x y he hx => Nat.lt_irrefl _ (hx ▸ h.src_lt he))
      (fun e => hNs (by rw [← e]; exact List.mem_cons_self ..)) h.topo (h.disj top (List.mem_cons_self ..))
  · intro a b he
    rw [hclosed]
    rcases List.mem_append.1 (ha.graph ▸ he) with he | he
    · exact (h.src a b he).imp (fun h => h) (List.mem_cons_of_mem _)
    · simp at he; rw [he.1]; exact Or.inl (List.mem_cons_self ..)
  · exact Linked.mono ha.ext.graph h.linked
  · exact h.nodup
  · intro x hx
    rw [hclosed]
    intro hc
    rcases List.mem_cons.1 hc with rfl | hc
    · exact hNs hx
    · exact h.disj x hx hc
  · intro k id hk
    rw [hclosed]
    rw [show (vm'.record (.lib (namesOf vm).length)).nameMap = vm'.nameMap from rfl, ha.nameMap, assoc_aset] at hk
    split at hk
    · cases hk; exact Or.inr (List.mem_cons_self ..)
    · exact (h.reg k id hk).imp (fun h => h) (List.mem_cons_of_mem _)
  · intro x hx
    rw [hclosed] at hx
    show x < (namesOf vm').length
    rw [ha.names, List.length_append]
    rcases List.mem_cons.1 hx with rfl | hx
    · simp
    · have := h.cbound x hx; omega
  · intro x hx
    obtain ⟨nx, h1, h2⟩ := h.sreach x hx
    exact ⟨nx, ha.names_old h1, h2⟩
  · intro x hx hb
    exact h.nobody x hx (ha.log ▸ (List.mem_cons.1 hb).elim nofun (fun h => h))

/-- the current module imports a module that is already closed: one more edge -/
theorem LInv.addDep {vm : VM} {n : Name} {top id : Nat} {rest : List Nat}
    (h : LInv files mainSrc vm (top :: rest)) (hreg : assoc n vm.nameMap = some id) (hcs : vm.cs = some top)
    (hid : id ∈ closedOf vm.log) : LInv files mainSrc (vm.addModuleDependency n) (top :: rest) := by
  rw [addDep_eq hreg hcs]
  refine ⟨topo_add_edge (p := (top :: rest).reverse) h.topo (h.disj top (List.mem_cons_self ..)) hid, ?_,
    Linked.mono (fun e he => List.mem_append_left _ he) h.linked, h.nodup, h.disj,
    fun k i hk => h.reg k i (assoc_aset_idem hreg k ▸ hk), h.cbound, h.sreach, h.nobody⟩
  intro a b he
  rcases List.mem_append.1 he with he | he
  · exact h.src a b he
  · simp at he; rw [he.1]; exact Or.inl (List.mem_cons_self ..)

/-- a library module that was allocated before is imported again -/
theorem LInv.old_lib {vm : VM} {id : Nat} {st : List Nat}
    (h : LInv files mainSrc vm st) (hout : ∀ a b, (a, b) ∈ vm.graph → a ≠ id) (hns : id ∉ st)
    (hlt : id < (namesOf vm).length) : LInv files mainSrc (vm.record (.lib id)) st := by
  have hclosed : closedOf (vm.record (.lib id)).log = id :: closedOf vm.log := rfl
  constructor
  · rw [hclosed]; exact topo_insert_noedge hout h.topo
  · intro a b he
    rw [hclosed]
    exact (h.src a b he).imp (fun h => h) (List.mem_cons_of_mem _)
  · exact h.linked
  · exact h.nodup
  · intro x hx
    rw [hclosed]
    intro hc
    rcases List.mem_cons.1 hc with rfl | hc
    · exact hns hx
    · exact h.disj x hx hc
  · intro k i hk
    rw [hclosed]
    exact (h.reg k i hk).imp (fun h => h) (List.mem_cons_of_mem _)
  · intro x hx
    rw [hclosed] at hx
    rcases List.mem_cons.1 hx with rfl | hx
    · exact hlt
    · exact h.cbound x hx
  · exact h.sreach
  · intro x hx hb
    exact h.nobody x hx ((List.mem_cons.1 hb).elim nofun (fun h => h))

theorem kept_addExportsIgnoringDup (m : Nat) : ∀ (l : List (Name × Val)) (vm : VM), Kept vm (addExportsIgnoringDup m vm l)
  | [], vm => Kept.rfl' vm
  | (n, v) :: r, vm => by
    unfold addExportsIgnoringDup
    cases ha : vm.addExport m n v with
    | none => exact kept_addExportsIgnoringDup m r vm
    | some vm1 => exact (kept_addExport ha).trans (kept_addExportsIgnoringDup m r vm1)

/-- frame property of the binding of imported names -/
def BindFrame (vm : VM) (r : Res VM) : Prop :=
  r.Sat (Kept vm) (fun e vm' => Same vm vm' ∧ (e = .code 42 ∨ e = .code 43))

theorem BindFrame.after {vm vm1 : VM} {r : Res VM} (h1 : Kept vm vm1) (h2 : BindFrame vm1 r) : BindFrame vm r := by
  cases r with
  | ok vm2 => exact h1.trans h2
  | err e vm2 => exact ⟨h1.same.trans h2.1, h2.2⟩

theorem declareExternals_frame (mid : Nat) : ∀ (l : List (Name × Val)) (vm : VM),
    BindFrame vm (declareExternals mid vm l)
  | [], vm => Kept.rfl' vm
  | (n, v) :: r, vm => by
    unfold declareExternals
    cases hd : vm.declareExternal n v mid with
    | err e vm' =>
      obtain ⟨rfl, he⟩ := declareExternal_err hd
      exact ⟨Same.rfl' _, he⟩
    | ok vm1 => exact (declareExternals_frame mid r vm1).after (kept_declareExternal hd)

theorem bindImports_frame (O : Oracle) (vm : VM) (mid : Nat) (items : List Name) :
    BindFrame vm (bindImports O vm mid items) := by
  unfold bindImports
  cases items <;> exact declareExternals_frame mid _ vm

theorem redeclareExports_frame : ∀ (l : List (Name × Val)) (vm : VM), BindFrame vm (redeclareExports vm l)
  | [], vm => Kept.rfl' vm
  | (n, v) :: r, vm => by
    unfold redeclareExports
    cases hd : vm.declareConst n v with
    | err e vm' =>
      obtain ⟨rfl, he⟩ := declareConst_err hd
      exact ⟨Same.rfl' _, he⟩
    | ok vm1 => exact (redeclareExports_frame r vm1).after (kept_declareConst hd)

/-- the order oracle of the DFS enumerates every node -/
def OracleOK (O : Oracle) : Prop := ∀ g v, v ∈ nodes g → v ∈ O.dfsOrder g

theorem checkDependency_cases (O : Oracle) (vm : VM) (n : Name) :
    (checkDependency O vm n).Sat (fun vm' => vm' = vm ∧ (OracleOK O → assoc n vm.nameMap ≠ none → ¬ HasCycle vm.graph))
      (fun e vm' => vm' = vm ∧ e = .code 63 ∧ HasCycle vm.graph) := by
  unfold checkDependency
  cases hn : assoc n vm.nameMap with
  | none => exact ⟨rfl, fun _ h => absurd rfl h⟩
  | some id =>
    dsimp only
    obtain ⟨b, hc, ht, hf⟩ := checkCircular_spec vm.graph (O.dfsOrder vm.graph)
    rw [hc]
    cases b with
    | true => exact ⟨rfl, rfl, ht rfl⟩
    | false => exact ⟨rfl, fun hO _ => hf rfl (hO vm.graph)⟩

/-- the loader is inside the import loop of the module `m` (registered as `nm`, running `src`), with `rest` below it on
    the import stack: both invariants hold and the call stack is the import stack.  Every step of the loop keeps it. -/
structure InImports (files : Files) (mainSrc : ModuleSrc) (vm : VM) (m : Nat) (rest : List Nat) (nm : Name) (src : ModuleSrc) :
    Prop where
  sinv : SInv files mainSrc vm
  linv : LInv files mainSrc vm (m :: rest)
  stack : vm.stack = m :: rest
  cs : vm.cs = some m
  name : (namesOf vm)[m]? = some nm
  src : msrc files mainSrc nm = some src
  reach : MReach files mainSrc nm

theorem InImports.of_kept {vm vm' : VM} {m : Nat} {rest : List Nat} {nm : Name} {src : ModuleSrc}
    (h : InImports files mainSrc vm m rest nm src) (hk : Kept vm vm') : InImports files mainSrc vm' m rest nm src :=
  ⟨h.sinv.of_same hk.same, h.linv.of_same hk.same, hk.stack.trans h.stack, hk.cs.trans h.cs,
    hk.same.names ▸ h.name, h.src, h.reach⟩

/-- the import statement has been carried out: its module is registered, done, and the edge is recorded -/
def ImpDone (vm : VM) (m : Nat) (imp : Imp) : Prop :=
  (parseLibName imp.name).libType = .custom →
    ∃ id, assoc imp.name vm.nameMap = some id ∧ Ev.done id ∈ vm.log ∧ (m, id) ∈ vm.graph

theorem ImpDone.mono {vm vm' : VM} {m : Nat} {imp : Imp} (he : Ext vm vm') (h : ImpDone vm m imp) :
    ImpDone vm' m imp := by
  intro hc
  obtain ⟨id, h1, h2, h3⟩ := h hc
  exact ⟨id, he.nameMap _ _ h1, he.mem_log h2, he.graph _ h3⟩

/-- a step that fails with the modules `st` on the import stack and `f` levels of nesting left: the state invariant
    holds where it stopped; no module of `st` has started its body; 63 means a cycle; the loader's fuel runs out only
    `f` levels further down.  `fuel` is the whole idea of `C15.loader_terminates`: every level of nesting that the fuel still allows
    is one more entry on an import stack without duplicates, and such a stack has at most `files.length + 1` entries
    (`stack_length_le`) -/
structure ErrPost (files : Files) (mainSrc : ModuleSrc) (st : List Nat) (f : Nat) (e : Err) (vm' : VM) :
    Prop where
  sinv : SInv files mainSrc vm'
  nobody : ∀ x, x ∈ st → Ev.body x ∉ vm'.log
  cycle : e = .code 63 → HasCycle vm'.graph
  fuel : e = .loadFuel → ∃ st', LInv files mainSrc vm' st' ∧ st.length + f ≤ st'.length

theorem ErrPost.other {st : List Nat} {f : Nat} {vm' : VM} {e : Err}
    (hS : SInv files mainSrc vm') (hnb : ∀ x, x ∈ st → Ev.body x ∉ vm'.log) (h63 : e ≠ .code 63)
    (hf : e ≠ .loadFuel) : ErrPost files mainSrc st f e vm' :=
  ⟨hS, hnb, fun h => absurd h h63, fun h => absurd h hf⟩

/-- seen from the module below the top of the import stack -/
theorem ErrPost.pop {m : Nat} {rest : List Nat} {f : Nat} {vm' : VM} {e : Err}
    (h : ErrPost files mainSrc (m :: rest) f e vm') : ErrPost files mainSrc rest (f + 1) e vm' :=
  ⟨h.sinv, fun x hx => h.nobody x (List.mem_cons_of_mem _ hx), h.cycle,
    fun hf => (h.fuel hf).imp fun _ hst => ⟨hst.1, by have := hst.2; simp only [List.length_cons] at this; omega⟩⟩

/-- what `execAnotherModule` is assumed to do for a module that is not registered yet, called with `f` levels of
    nesting left -/
def LoadSpec (files : Files) (mainSrc : ModuleSrc) (f : Nat) (load : VM → LibNameInfo → Res (VM × Nat)) : Prop :=
  ∀ (vm : VM) (m : Nat) (rest : List Nat) (nm : Name) (src : ModuleSrc) (imp : Imp),
    InImports files mainSrc vm m rest nm src →
    imp ∈ src.imports → assoc imp.name vm.nameMap = none → (parseLibName imp.name).libType = .custom →
    (load vm (parseLibName imp.name)).Sat
      (fun p => InImports files mainSrc p.1 m rest nm src ∧ Ext vm p.1 ∧ assoc imp.name p.1.nameMap = some p.2 ∧
        Ev.done p.2 ∈ p.1.log ∧ (m, p.2) ∈ p.1.graph)
      (ErrPost files mainSrc (m :: rest) f)

theorem bind_after {f : Nat} {vm vm1 : VM} {m : Nat} {rest : List Nat} {nm : Name} {src : ModuleSrc}
    {imp : Imp} (mid : Nat) (hin : InImports files mainSrc vm1 m rest nm src) (hE : Ext vm vm1) (hd : ImpDone vm1 m imp) :
    (bindImports O vm1 mid imp.items).Sat
      (fun vm' => InImports files mainSrc vm' m rest nm src ∧ Ext vm vm' ∧ ImpDone vm' m imp)
      (ErrPost files mainSrc (m :: rest) f) := by
  refine Res.Sat.mono (bindImports_frame O vm1 mid imp.items) (fun vm2 hk => ?_) (fun e vm2 hb => ?_)
  · exact ⟨hin.of_kept hk, hE.trans (Ext.of_same hk.same), hd.mono (Ext.of_same hk.same)⟩
  · refine ErrPost.other (hin.sinv.of_same hb.1) (hin.linv.of_same hb.1).nobody ?_ ?_ <;>
      rcases hb.2 with rfl | rfl <;> decide

/-- a library import up to the point where the names are bound: the library's module is allocated on first use, its
    frame pushed, its names registered as exports, the frame popped -/
theorem std_import_state {vm : VM} {m : Nat} {rest : List Nat} {nm : Name}
    {src : ModuleSrc} {imp : Imp} (hin : InImports files mainSrc vm m rest nm src)
    (hty : (parseLibName imp.name).libType = .std) :
    SInv files mainSrc (vm.allocateModule imp.name).1 ∧ Ext vm (vm.allocateModule imp.name).1 ∧
    (vm.allocateModule imp.name).1.stack = vm.stack ∧ (vm.allocateModule imp.name).1.log = vm.log ∧
    ∀ vm3, Same (vm.allocateModule imp.name).1 vm3 →
      SInv files mainSrc (vm3.record (.lib (vm.allocateModule imp.name).2)) ∧
      LInv files mainSrc (vm3.record (.lib (vm.allocateModule imp.name).2)) (m :: rest) := by
  have hS := hin.sinv
  have hL := hin.linv
  cases hreg : assoc imp.name vm.nameMap with
  | none =>
    obtain ⟨ha, hN⟩ := Alloc.of_allocate hreg hin.cs
    have hSa := hS.alloc ha hin.name hin.reach (Or.inl hty)
    refine ⟨hSa, ha.ext, by rw [allocate_fresh hreg hin.cs], ha.log, fun vm3 s13 => ⟨?_, ?_⟩⟩
    · refine (hSa.of_same s13).record _ nofun nofun (fun x hx => ⟨imp.name, ?_, hty⟩)
      cases hx
      rw [s13.names, hN]; exact ha.names_new
    · rw [hN]; exact hL.new_lib (ha.same s13)
  | some id =>
    rw [allocate_existing hreg]
    have hidn : (namesOf vm)[id]? = some imp.name := hS.regName _ _ hreg
    refine ⟨hS, Ext.rfl' _, rfl, rfl, fun vm3 s13 => ⟨?_, ?_⟩⟩
    · refine (hS.of_same s13).record _ nofun nofun (fun x hx => ⟨imp.name, ?_, hty⟩)
      cases hx
      rw [s13.names]; exact hidn
    · refine (hL.of_same s13).old_lib (s13.graph ▸ hS.no_edge_from_std hidn hty) (fun hmem => ?_)
        (s13.names ▸ getElem?_lt hidn)
      obtain ⟨nx, h1, h2, _⟩ := hL.sreach id hmem
      rw [hidn] at h1; cases h1
      rw [h2.custom] at hty; cases hty

theorem ext_addDep {vm : VM} {n : Name} {id m : Nat} (hn : assoc n vm.nameMap = some id) (hcs : vm.cs = some m) :
    Ext vm (vm.addModuleDependency n) := by
  rw [addDep_eq hn hcs]
  exact ⟨⟨[], by simp [namesOf]⟩, fun e he => List.mem_append_left _ he,
    fun k i hk => (assoc_aset_idem hn k).trans hk, ⟨[], rfl⟩⟩

theorem existing_import_done (hO : OracleOK O)
    {vm vm2 : VM} {m id : Nat} {rest : List Nat} {n : Name}
    (hS : SInv files mainSrc vm) (hL : LInv files mainSrc vm (m :: rest)) (hcs : vm.cs = some m)
    (hreg : assoc n vm.nameMap = some id) (hty : (parseLibName n).libType = .custom)
    (hc : checkDependency O (vm.addModuleDependency n) n = .ok vm2) : Ev.done id ∈ vm.log := by
  have hcd := checkDependency_cases O (vm.addModuleDependency n) n
  rw [hc] at hcd
  have hnocyc : ¬ HasCycle (vm.addModuleDependency n).graph :=
    hcd.2 hO (by rw [(ext_addDep hreg hcs).nameMap _ _ hreg]; simp)
  refine hL.done_of_reg hS hreg hty (fun hmem => hnocyc ?_)
  rw [addDep_eq hreg hcs]
  exact ⟨m, id, by simp, Walk.mono (fun e he => List.mem_append_left _ he) (linked_walk hL.linked hmem)⟩

theorem evalImport_spec {f : Nat}
    {load : VM → LibNameInfo → Res (VM × Nat)} (hO : OracleOK O) (hload : LoadSpec files mainSrc f load)
    {vm : VM} {m : Nat} {rest : List Nat} {nm : Name} {src : ModuleSrc} {imp : Imp}
    (hin : InImports files mainSrc vm m rest nm src) (himp : imp ∈ src.imports) :
    (evalImport O libs load vm imp).Sat
      (fun vm' => InImports files mainSrc vm' m rest nm src ∧ Ext vm vm' ∧ ImpDone vm' m imp)
      (ErrPost files mainSrc (m :: rest) f) := by
  unfold evalImport
  dsimp only
  cases hty : (parseLibName imp.name).libType with
  | vendor => exact ⟨hin, Ext.rfl' _, fun hc => by rw [hty] at hc; cases hc⟩
  | std =>
    dsimp only
    obtain ⟨hSa, hEa, hsta, hloga, hfin⟩ := std_import_state hin hty
    cases assoc imp.name libs with
    | none => exact ErrPost.other hSa (hloga ▸ hin.linv.nobody) (by decide) (by decide)
    | some names =>
      dsimp only
      generalize O.exportOrder (names.map (fun n => (n, Val.native))) = exl
      have k2 := kept_addExportsIgnoringDup (vm.allocateModule imp.name).2 exl
        ((vm.allocateModule imp.name).1.pushFrame (vm.allocateModule imp.name).2)
      have hpop := popFrame_cons (r := m :: rest) (show (addExportsIgnoringDup _ _ exl).stack = _ by
        rw [k2.stack, pushFrame_stack, hsta, hin.stack])
      rw [hpop]
      have s13 := ((same_pushFrame _ _).trans k2.same).trans (same_popFrame hpop)
      obtain ⟨hS3, hL3⟩ := hfin _ s13
      have hE3 := hEa.trans ((Ext.of_same s13).trans (ext_record _ (.lib (vm.allocateModule imp.name).2)))
      exact bind_after _ ⟨hS3, hL3, rfl, rfl, hE3.names_get hin.name, hin.src, hin.reach⟩ hE3
        (fun hc => by rw [hty] at hc; cases hc)
  | custom =>
    dsimp only
    have hMI : MImports files mainSrc nm imp.name := ⟨src, imp, hin.src, himp, rfl, hty⟩
    unfold VM.findModuleByName
    cases hreg : assoc imp.name vm.nameMap with
    | none =>
      have hl := hload vm m rest nm src imp hin himp hreg hty
      cases hr : load vm (parseLibName imp.name) with
      | err e vm' => rw [hr] at hl; exact hl
      | ok p =>
        rw [hr] at hl
        obtain ⟨vm1, mid⟩ := p
        obtain ⟨hin1, hE1, h1, h2, h3⟩ := hl
        refine (checkDependency_cases O vm1 imp.name).bind ?_ ?_
        · rintro e vm' ⟨rfl, rfl, hcyc⟩
          exact ⟨hin1.sinv, hin1.linv.nobody, fun _ => hcyc, nofun⟩
        · rintro vm2 ⟨rfl, _⟩
          exact bind_after mid hin1 hE1 (fun _ => ⟨mid, h1, h2, h3⟩)
    | some id =>
      dsimp only
      have hS1 := hin.sinv.addDep hreg hin.cs hin.name hin.reach hMI
      have hE1 := ext_addDep hreg hin.cs
      have hcd := checkDependency_cases O (vm.addModuleDependency imp.name) imp.name
      cases hc : checkDependency O (vm.addModuleDependency imp.name) imp.name with
      | err e vm' =>
        rw [hc] at hcd
        obtain ⟨rfl, rfl, hcyc⟩ := hcd
        exact ⟨hS1, by rw [addDep_eq hreg hin.cs]; exact hin.linv.nobody, fun _ => hcyc, nofun⟩
      | ok vm2 =>
        have hdone := existing_import_done hO hin.sinv hin.linv hin.cs hreg hty hc
        rw [hc] at hcd
        obtain ⟨rfl, _⟩ := hcd
        have hL1 := hin.linv.addDep hreg hin.cs (mem_closedOf.2 (Or.inl hdone))
        have heq := addDep_eq hreg hin.cs
        exact bind_after id
          ⟨hS1, hL1, by rw [heq]; exact hin.stack, by rw [heq]; exact hin.cs, hE1.names_get hin.name, hin.src, hin.reach⟩ hE1
          (fun _ => ⟨id, hE1.nameMap _ _ hreg, hE1.mem_log hdone, by rw [heq]; simp⟩)

theorem evalImports_spec {f : Nat}
    {load : VM → LibNameInfo → Res (VM × Nat)} (hO : OracleOK O) (hload : LoadSpec files mainSrc f load)
    {m : Nat} {rest : List Nat} {nm : Name} {src : ModuleSrc} :
    ∀ (imps : List Imp) (vm : VM), InImports files mainSrc vm m rest nm src → (∀ i, i ∈ imps → i ∈ src.imports) →
      (evalImports O libs load vm imps).Sat
        (fun vm' => InImports files mainSrc vm' m rest nm src ∧ Ext vm vm' ∧ ∀ i, i ∈ imps → ImpDone vm' m i)
        (ErrPost files mainSrc (m :: rest) f)
  | [], vm, hin, _ => ⟨hin, Ext.rfl' _, fun _ h => by cases h⟩
  | i :: r, vm, hin, hsub => by
    unfold evalImports
    refine (evalImport_spec (libs := libs) hO hload hin (hsub i (List.mem_cons_self ..))).bind
      (fun _ _ h => h) (fun vm1 h1 => ?_)
    obtain ⟨hin1, hE1, hd⟩ := h1
    refine (evalImports_spec hO hload r vm1 hin1 (fun j hj => hsub j (List.mem_cons_of_mem _ hj))).mono ?_
      (fun _ _ h => h)
    rintro vm2 ⟨hin2, hE2, hd2⟩
    refine ⟨hin2, hE1.trans hE2, fun j hj => ?_⟩
    rcases List.mem_cons.1 hj with rfl | hj
    · exact hd.mono hE2
    · exact hd2 j hj

theorem evalProgram_spec {cf f : Nat}
    {load : VM → LibNameInfo → Res (VM × Nat)} (hO : OracleOK O) (hload : LoadSpec files mainSrc f load)
    {vm : VM} {m : Nat} {rest : List Nat} {nm : Name} {src : ModuleSrc} (hin : InImports files mainSrc vm m rest nm src) :
    (evalProgram O libs cf load vm m src).Sat
      (fun vm' => SInv files mainSrc vm' ∧ LInv files mainSrc vm' rest ∧ vm'.stack = m :: rest ∧ vm'.cs = some m ∧
        Ext vm vm' ∧ Ev.done m ∈ vm'.log)
      (ErrPost files mainSrc rest (f + 1)) := by
  unfold evalProgram
  refine (evalImports_spec (libs := libs) hO hload src.imports vm hin (fun _ h => h)).bind
    (fun _ _ h => h.pop) (fun vm1 h1 => ?_)
  obtain ⟨hin1, hE1, hd⟩ := h1
  have hSb : SInv files mainSrc (vm1.record (.body m)) := by
    refine hin1.sinv.record _ (fun x hx => ?_) nofun nofun
    cases hx
    exact ⟨hin1.linv.nobody m (List.mem_cons_self ..), nm, src, hin1.name, hin1.src, fun imp hi hc => hd imp hi hc⟩
  have hEb : Ext vm (vm1.record (.body m)) := hE1.trans (ext_record _ _)
  refine Res.Sat.bind (evalBody_frame cf (vm1.record (.body m)) src.body) ?_ ?_
  · rintro e vm' ⟨hs, hbe⟩
    refine ErrPost.other (hSb.of_same hs) (fun x hx hb => ?_) hbe.2.1 hbe.2.2.2
    rcases List.mem_cons.1 (hs.log ▸ hb) with e | hb
    · cases e; exact (List.nodup_cons.1 hin1.linv.nodup).1 hx
    · exact hin1.linv.nobody x (List.mem_cons_of_mem _ hx) hb
  · rintro vm2 ⟨hs, hst, hcs⟩
    refine ⟨(hSb.of_same hs).record _ nofun (fun x hx => ?_) nofun, hin1.linv.close hs, hst.trans hin1.stack, ?_,
      (hEb.trans (Ext.of_same hs)).trans (ext_record _ _), List.mem_cons_self ..⟩
    · cases hx
      exact ⟨hs.log ▸ List.mem_cons_self .., nm, hs.names ▸ hin1.name, hin1.reach, src, hin1.src⟩
    · exact (hcs (by show vm1.cs = vm1.stack.head?; rw [hin1.cs, hin1.stack]; rfl)).trans hin1.cs

/-- the state in which the imports of the newly allocated module `n` start: its frame is on top -/
def entered (vm : VM) (n : Name) : VM :=
  ((vm.allocateModule n).1.pushFrame (vm.allocateModule n).2).record (.enter (vm.allocateModule n).2)

/-- `execAnotherModule` up to the point where the new module's program starts -/
theorem load_entry {vm : VM} {m : Nat} {rest : List Nat} {nm : Name}
    {src s : ModuleSrc} {imp : Imp} (hin : InImports files mainSrc vm m rest nm src)
    (himp : imp ∈ src.imports) (hreg : assoc imp.name vm.nameMap = none)
    (hty : (parseLibName imp.name).libType = .custom)
    (hfind : finder .repaired files (parseLibName imp.name) = .src s) :
    Ext vm (entered vm imp.name) ∧
    assoc imp.name (entered vm imp.name).nameMap = some (vm.allocateModule imp.name).2 ∧
    (m, (vm.allocateModule imp.name).2) ∈ (entered vm imp.name).graph ∧
    InImports files mainSrc (entered vm imp.name) (vm.allocateModule imp.name).2 (m :: rest) imp.name s := by
  have hMI : MImports files mainSrc nm imp.name := ⟨src, imp, hin.src, himp, rfl, hty⟩
  have hne : imp.name ≠ mainName := by
    intro h; rw [h, hin.sinv.regAll 0 mainName hin.sinv.main0] at hreg; cases hreg
  have hreach : MReach files mainSrc imp.name := MReach.step hin.reach hMI
  have hsn := msrc_of_finder (mainSrc := mainSrc) hne hfind
  obtain ⟨ha, hN⟩ := Alloc.of_allocate hreg hin.cs
  have hs := same_pushFrame (vm.allocateModule imp.name).1 (namesOf vm).length
  unfold entered
  rw [hN]
  refine ⟨(ha.ext.trans (Ext.of_same hs)).trans (ext_record _ _),
    ha.nameMap ▸ assoc_aset_same _ _ _, ha.graph ▸ List.mem_append_right _ (List.mem_cons_self ..),
    ((hin.sinv.alloc ha hin.name hin.reach (Or.inr hMI)).of_same hs).record_enter _,
    ((hin.linv.push_new ha hin.sinv.logBound hreach hsn).of_same hs).record_enter _, ?_, rfl, ha.names_new, hsn, hreach⟩
  rw [allocate_fresh hreg hin.cs]; exact congrArg _ hin.stack

theorem loadModule_spec {cf : Nat}
    (hO : OracleOK O) : ∀ f, LoadSpec files mainSrc f (loadModule .repaired O files libs cf f)
  | 0 => fun vm m rest _ _ _ hin _ _ _ => ⟨hin.sinv, hin.linv.nobody, nofun, fun _ => ⟨m :: rest, hin.linv, Nat.le_refl _⟩⟩
  | f + 1 => by
    intro vm m rest nm src imp hin himp hreg hty
    unfold loadModule
    cases hfind : finder .repaired files (parseLibName imp.name) with
    | panic => exact ErrPost.other hin.sinv hin.linv.nobody (by decide) (by decide)
    | notFound => exact ErrPost.other hin.sinv hin.linv.nobody (by decide) (by decide)
    | emptySrc => exact ErrPost.other hin.sinv hin.linv.nobody (by decide) (by decide)
    | src s =>
      dsimp only
      rw [parseLibName_originalName]
      obtain ⟨hE1, hmap1, hg1, hin1⟩ := load_entry hin himp hreg hty hfind
      refine (evalProgram_spec (libs := libs) (cf := cf) hO (loadModule_spec hO f) hin1).bind
        (fun _ _ h => h) (fun vm2 h2 => ?_)
      obtain ⟨hS2, hL2, hst2, hcs2, hE2, hdone2⟩ := h2
      refine Res.Sat.bind (redeclareExports_frame _ vm2.beginScope) ?_ ?_
      · rintro e vm' ⟨hs, he⟩
        have hs' := (kept_beginScope vm2).same.trans hs
        refine ErrPost.other (hS2.of_same hs') (hL2.of_same hs').nobody ?_ ?_ <;>
          rcases he with rfl | rfl <;> decide
      · intro vm3 hk
        have hpop := popFrame_cons (hk.stack.trans ((beginScope_stack vm2).trans hst2))
        rw [hpop]
        have hs4 := ((kept_beginScope vm2).trans hk).same.trans (same_popFrame hpop)
        have hE4 := hE2.trans (Ext.of_same hs4)
        exact ⟨⟨hS2.of_same hs4, hL2.of_same hs4, rfl, rfl, (hE1.trans hE4).names_get hin.name, hin.src, hin.reach⟩,
          hE1.trans hE4, hE4.nameMap _ _ hmap1, (Ext.of_same hs4).mem_log hdone2, hE4.graph _ hg1⟩

/-- the state in which the main program's imports start -/
def vmStart : VM := entered VM.init mainName

theorem runWith_eq (v : Variant) (O : Oracle) (files : Files) (libs : Libs) (lf cf : Nat) (src : ModuleSrc) :
    runWith v O files libs lf cf src =
      match evalProgram O libs cf (loadModule v O files libs cf lf) vmStart 0 src with
      | .err e vm' => .err e vm'
      | .ok vm2 => match vm2.popFrame with
        | none => .err .panic vm2
        | some vm3 => .ok vm3 := rfl

theorem start_invariants (files : Files) (mainSrc : ModuleSrc) : InImports files mainSrc vmStart 0 [] mainName mainSrc := by
  have hl : vmStart.log = [Ev.enter 0] := rfl
  have hreg : ∀ n id, assoc n vmStart.nameMap = some id → n = mainName ∧ id = 0 := by
    intro n id h
    simp only [show vmStart.nameMap = [(mainName, 0)] from rfl, assoc] at h
    split at h
    · cases h; exact ⟨Eq.symm (by assumption), rfl⟩
    · cases h
  have hnolog : ∀ {e : Ev}, e ∈ vmStart.log → e = .enter 0 := fun h => by simpa [hl] using h
  refine ⟨⟨rfl, List.pairwise_singleton _ _, ?_, ?_, nofun, List.nodup_nil, ?_, ?_, ?_, ?_, ?_⟩,
    ⟨⟨nofun, trivial⟩, nofun, trivial, List.pairwise_singleton _ _, fun _ _ => nofun, ?_, nofun, ?_, ?_⟩,
    rfl, rfl, rfl, msrc_main _ _, MReach.main⟩
  · intro n id h
    obtain ⟨rfl, rfl⟩ := hreg n id h; rfl
  · intro i n h
    cases i with
    | zero => cases h; rfl
    | succ k => cases h
  · intro x h; cases hnolog h
  · intro l1 m l2 h
    have := hnolog (h ▸ List.mem_append_right l1 (List.mem_cons_self ..))
    cases this
  · intro x h; cases hnolog h
  · intro x h; cases hnolog h
  · intro x h; cases hnolog h
  · intro n id h
    exact Or.inl ((hreg n id h).2 ▸ List.mem_cons_self ..)
  · intro x hx
    cases List.mem_singleton.1 hx
    exact ⟨mainName, rfl, MReach.main, mainSrc, msrc_main _ _⟩
  · intro x _ h; cases hnolog h

/-- what a completed run leaves behind, graph side: both invariants with an empty import stack, and the main module done.  Hence every
    module reachable through import statements has been loaded, with its edges (`Final.reach_done`), and there is no reachable
    cycle (`Final.no_mcycle`) -/
structure Final (files : Files) (mainSrc : ModuleSrc) (vm : VM) : Prop where
  sinv : SInv files mainSrc vm
  linv : LInv files mainSrc vm []
  done0 : Ev.done 0 ∈ vm.log

/-- a run of the repaired loader: a completed run has closed every module; a failed one still satisfies the state
    invariant, and if it ran out of loader fuel the import stack was at least `lf + 1` deep -/
theorem runWith_spec {lf cf : Nat} (hO : OracleOK O) :
    (runWith .repaired O files libs lf cf mainSrc).Sat (fun vm' => Final files mainSrc vm' ∧ vm'.stack = [])
      (ErrPost files mainSrc [] (lf + 1)) := by
  rw [runWith_eq]
  refine (evalProgram_spec (libs := libs) (cf := cf) hO (loadModule_spec hO lf) (start_invariants files mainSrc)).bind
    (fun _ _ h => h) ?_
  rintro vm2 ⟨hS2, hL2, hst2, -, -, hdone⟩
  have hpop := popFrame_cons hst2
  rw [hpop]
  have hs := same_popFrame hpop
  exact ⟨⟨hS2.of_same hs, hL2.of_same hs, hdone⟩, rfl⟩


theorem runWith_sinv {lf cf : Nat} (hO : OracleOK O) :
    SInv files mainSrc (finish (runWith .repaired O files libs lf cf mainSrc)).vm :=
  ((runWith_spec (libs := libs) (lf := lf) (cf := cf) hO).mono (fun _ h => h.1.sinv) fun _ _ h => h.sinv).finish_vm

theorem run_eq {v : Variant} {cf : Nat} {mainPath : Path} 
    (hmain : assoc mainPath files = some mainSrc) :
    run v O files libs cf mainPath = finish (runWith v O files libs (loadFuelFor files) cf mainSrc) := by
  unfold run; rw [hmain]

theorem run_sinv {cf : Nat} {mainPath : Path} 
    (hO : OracleOK O) (hmain : assoc mainPath files = some mainSrc) :
    SInv files mainSrc (run .repaired O files libs cf mainPath).vm :=
  run_eq hmain ▸ runWith_sinv hO

inductive MWalk (files : Files) (mainSrc : ModuleSrc) : Name → Name → Prop
  | refl (a : Name) : MWalk files mainSrc a a
  | cons {a b c : Name} : MImports files mainSrc a b → MWalk files mainSrc b c → MWalk files mainSrc a c

/-- a cycle of the static import relation that is reachable from the main module -/
def MCycle (files : Files) (mainSrc : ModuleSrc) : Prop :=
  ∃ a b, MReach files mainSrc a ∧ MImports files mainSrc a b ∧ MWalk files mainSrc b a

/-- an edge out of a module that has an outgoing edge itself is an import statement -/
theorem SInv.edge_imports {vm : VM} (hS : SInv files mainSrc vm) {a b c : Nat}
    (e : (a, b) ∈ vm.graph) (e' : (b, c) ∈ vm.graph) {na : Name} (ha : (namesOf vm)[a]? = some na) :
    ∃ nb, (namesOf vm)[b]? = some nb ∧ MReach files mainSrc na ∧ MImports files mainSrc na nb := by
  obtain ⟨na', nb, h1, h2, h3, h4⟩ := hS.edges a b e
  rw [ha] at h1; cases h1
  rcases h4 with hstd | hi
  · exact absurd rfl (hS.no_edge_from_std h2 hstd _ _ e')
  · exact ⟨nb, h2, h3, hi⟩

theorem walk_to_mwalk {vm : VM} (hS : SInv files mainSrc vm) {x y : Nat}
    (w : Walk vm.graph x y) : ∀ {nx : Name}, (namesOf vm)[x]? = some nx → (∃ z, (y, z) ∈ vm.graph) →
      ∃ ny, (namesOf vm)[y]? = some ny ∧ MWalk files mainSrc nx ny := by
  induction w with
  | refl a => intro nx hx _; exact ⟨nx, hx, MWalk.refl _⟩
  | @cons a b c e w ih =>
    intro nx hx hy
    have hb : ∃ z, (b, z) ∈ vm.graph := by
      cases w with
      | refl => exact hy
      | cons e' _ => exact ⟨_, e'⟩
    obtain ⟨z, e'⟩ := hb
    obtain ⟨nb, h2, _, hi⟩ := hS.edge_imports e e' hx
    obtain ⟨ny, hny, hw⟩ := ih h2 hy
    exact ⟨ny, hny, MWalk.cons hi hw⟩

theorem graph_cycle_to_mcycle {vm : VM} (hS : SInv files mainSrc vm)
    (hc : HasCycle vm.graph) : MCycle files mainSrc := by
  obtain ⟨a, b, e, w⟩ := hc
  obtain ⟨na, _, h1, _⟩ := hS.edges a b e
  have hb : ∃ z, (b, z) ∈ vm.graph := by
    cases w with
    | refl => exact ⟨_, e⟩
    | cons e' _ => exact ⟨_, e'⟩
  obtain ⟨z, e'⟩ := hb
  obtain ⟨nb, h2, h3, hi⟩ := hS.edge_imports e e' h1
  obtain ⟨ny, hny, hw⟩ := walk_to_mwalk hS w h2 ⟨b, e⟩
  rw [h1] at hny; cases hny
  exact ⟨na, nb, h3, hi, hw⟩

theorem SInv.imports_done {vm : VM} (h : SInv files mainSrc vm)
    {x : Nat} {na nb : Name} (hx : (namesOf vm)[x]? = some na) (hd : Ev.done x ∈ vm.log)
    (hi : MImports files mainSrc na nb) :
    ∃ y, (namesOf vm)[y]? = some nb ∧ Ev.done y ∈ vm.log ∧ (x, y) ∈ vm.graph := by
  obtain ⟨src, imp, hsrc, himp, hname, hc⟩ := hi
  obtain ⟨l1, l2, hl⟩ := List.append_of_mem (h.doneBody x hd)
  obtain ⟨id, h1, h2, h3⟩ := h.before l1 x l2 hl na src hx hsrc imp himp (hname ▸ hc)
  refine ⟨id, hname ▸ h.regName _ _ h1, ?_, h3⟩
  rw [hl]; exact List.mem_append_right _ (List.mem_cons_of_mem _ h2)

theorem SInv.mwalk_to_walk {vm : VM} (h : SInv files mainSrc vm)
    {na nb : Name} (w : MWalk files mainSrc na nb) : ∀ {x : Nat}, (namesOf vm)[x]? = some na → Ev.done x ∈ vm.log →
      ∃ y, (namesOf vm)[y]? = some nb ∧ Walk vm.graph x y := by
  induction w with
  | refl a => intro x hx _; exact ⟨x, hx, Walk.refl _⟩
  | cons hi _ ih =>
    intro x hx hd
    obtain ⟨y, hy, hdy, he⟩ := h.imports_done hx hd hi
    obtain ⟨z, hz, hw⟩ := ih hy hdy
    exact ⟨z, hz, Walk.cons he hw⟩

theorem LInv.no_cycle {vm : VM} {st : List Nat} (hL : LInv files mainSrc vm st) :
    ¬ HasCycle vm.graph :=
  topo_no_cycle hL.topo fun p q hpq =>
    (hL.src p q hpq).elim (fun h => List.mem_append_left _ (List.mem_reverse.2 h)) (List.mem_append_right _)

theorem no_mcycle_at {vm : VM} {st : List Nat} (hS : SInv files mainSrc vm)
    (hL : LInv files mainSrc vm st) {x : Nat} {a b : Name} (hx : (namesOf vm)[x]? = some a) (hd : Ev.done x ∈ vm.log)
    (hi : MImports files mainSrc a b) (hw : MWalk files mainSrc b a) : False := by
  obtain ⟨y, hy, hdy, he⟩ := hS.imports_done hx hd hi
  obtain ⟨z, hz, hwalk⟩ := hS.mwalk_to_walk hw hy hdy
  cases hS.index_inj hz hx
  exact hL.no_cycle ⟨_, y, he, hwalk⟩

theorem Final.reach_done {vm : VM} (h : Final files mainSrc vm)
    {n : Name} (hr : MReach files mainSrc n) : ∃ x, (namesOf vm)[x]? = some n ∧ Ev.done x ∈ vm.log := by
  induction hr with
  | main => exact ⟨0, h.sinv.main0, h.done0⟩
  | step _ hi ih =>
    obtain ⟨x, hx, hd⟩ := ih
    obtain ⟨y, hy, hdy, _⟩ := h.sinv.imports_done hx hd hi
    exact ⟨y, hy, hdy⟩

theorem Final.no_mcycle {vm : VM} (h : Final files mainSrc vm) :
    ¬ MCycle files mainSrc := by
  rintro ⟨a, b, hr, hi, hw⟩
  obtain ⟨x, hx, hd⟩ := h.reach_done hr
  exact no_mcycle_at h.sinv h.linv hx hd hi hw

end ZnVerif.Proofs.Modules
