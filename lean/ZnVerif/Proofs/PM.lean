/-
Helper lemmas for C20, in this order: facts about the list functions of the model (`decAt`, `takeUnreg`, `setState`,
`markDead`, `delChild` = `List.eraseP`); the inductive invariant `Inv` of the repaired master bookkeeping and its
preservation by every event (`inv_step`); what `quiet` says of a state (`quiet_spec`) and when a start-up is enabled
(`exists_decAt_iff`); what a time-out leaves in the table; the worker pool's request accounting (`Pool.run_all`); termination of the master's own work (`drain_spec`, measure
`workLeft`); an event only takes away the worker it is about (`alive_step`).  Property statements are in Properties/C20.lean.
-/
import ZnVerif.Model.PM

namespace ZnVerif.Proofs.PM
open ZnVerif.Model.PM

theorem reserved_append (bs : List Batch) (b : Batch) : reserved (bs ++ [b]) = reserved bs + b.remaining := by
  induction bs with
  | nil => simp [reserved]
  | cons x xs ih => simp [reserved, ih]; omega

theorem decAt_reserved (i : Nat) (bs bs' : List Batch) (h : decAt i bs = some bs') : reserved bs = reserved bs' + 1 := by
  fun_induction decAt i bs generalizing bs' with
  | case1 => cases h
  | case2 b bs hb => cases h; simp [reserved]; omega
  | case3 => cases h
  | case4 i b bs ih =>
    obtain ⟨r, hr, rfl⟩ := Option.map_eq_some_iff.1 h
    have := ih r hr
    simp [reserved]; omega

theorem takeUnreg_perm (pid : Nat) (us : List (Nat × Bool)) (a : Bool) (us' : List (Nat × Bool))
    (h : takeUnreg pid us = some (a, us')) : us.Perm ((pid, a) :: us') := by
  fun_induction takeUnreg pid us generalizing us' with
  | case1 => cases h
  | case2 u us hp => cases h; rw [← hp]
  | case3 u us hp ih =>
    obtain ⟨⟨a', r⟩, hr, heq⟩ := Option.map_eq_some_iff.1 h
    cases heq
    exact ((ih r hr).cons u).trans (List.Perm.swap _ _ _)

theorem hasKey_false_iff (cs : List Child) (pid : Nat) : hasKey cs pid = false ↔ pid ∉ cs.map (·.pid) := by
  simp only [hasKey, List.any_eq_false, beq_iff_eq, List.mem_map, not_exists, not_and]

theorem map_pids {f : Child → Child} (hf : ∀ c, (f c).pid = c.pid) (cs : List Child) :
    (cs.map f).map (·.pid) = cs.map (·.pid) := by
  rw [List.map_map]; exact List.map_congr_left fun c _ => hf c

theorem setState_pids (cs : List Child) (pid : Nat) (st : WState) :
    (setState cs pid st).map (·.pid) = cs.map (·.pid) :=
  map_pids (fun c => by split <;> rfl) cs

theorem markDead_pids (pid : Nat) (cs : List Child) : (markDead pid cs).map (·.pid) = cs.map (·.pid) :=
  map_pids (fun c => by split <;> rfl) cs

theorem markDeadU_pids (pid : Nat) (us : List (Nat × Bool)) : (markDeadU pid us).map (·.1) = us.map (·.1) := by
  unfold markDeadU
  rw [List.map_map]; exact List.map_congr_left fun u _ => by simp only [Function.comp]; split <;> rfl

theorem setState_alive (cs : List Child) (pid : Nat) (st : WState) :
    (setState cs pid st).countP (·.alive) = cs.countP (·.alive) := by
  unfold setState
  rw [List.countP_map]; exact List.countP_congr fun c _ => by simp only [Function.comp]; split <;> rfl

theorem delChild_eq_eraseP (pid : Nat) (cs : List Child) : delChild pid cs = cs.eraseP (·.pid == pid) := by
  fun_induction delChild pid cs with
  | case1 => rfl
  | case2 c cs h => simp [h]
  | case3 c cs h ih => simp [h, ih]

theorem delChild_length (pid : Nat) (cs : List Child) (h : pid ∈ cs.map (·.pid)) :
    cs.length = (delChild pid cs).length + 1 := by
  obtain ⟨c, hc, hp⟩ := List.mem_map.1 h
  have := List.length_pos_of_mem hc
  rw [delChild_eq_eraseP, List.length_eraseP_of_mem (p := (·.pid == pid)) hc (beq_iff_eq.2 hp)]
  omega

theorem delChild_sublist (pid : Nat) (cs : List Child) : (delChild pid cs).Sublist cs :=
  delChild_eq_eraseP pid cs ▸ List.eraseP_sublist

theorem mem_delChild_of_ne (pid : Nat) (cs : List Child) (ch : Child) (hne : ch.pid ≠ pid) :
    ch ∈ delChild pid cs ↔ ch ∈ cs :=
  delChild_eq_eraseP pid cs ▸ List.mem_eraseP_of_neg (by simpa using hne)

theorem delChild_split (pid : Nat) {cs : List Child} (hnd : (cs.map (·.pid)).Nodup) {ch : Child} (hm : ch ∈ cs)
    (hp : ch.pid = pid) : ∃ l₁ l₂, cs = l₁ ++ ch :: l₂ ∧ delChild pid cs = l₁ ++ l₂ ∧ pid ∉ (l₁ ++ l₂).map (·.pid) := by
  obtain ⟨c, l₁, l₂, h1, hc, rfl, he⟩ := List.exists_of_eraseP hm (p := (·.pid == pid)) (beq_iff_eq.2 hp)
  rw [← delChild_eq_eraseP] at he
  have hcp : c.pid = pid := beq_iff_eq.1 hc
  simp only [List.map_append, List.map_cons, List.nodup_append, List.nodup_cons, List.mem_cons] at hnd
  have hnot : pid ∉ (l₁ ++ l₂).map (·.pid) := by
    simp only [List.map_append, List.mem_append, not_or]
    exact ⟨fun h => hnd.2.2 _ h _ (.inl rfl) hcp.symm, hcp ▸ hnd.2.1.1⟩
  have : ch = c := by
    rcases List.mem_append.1 hm with h | h
    · exact absurd (List.mem_map.2 ⟨ch, List.mem_append_left _ h, hp⟩) hnot
    · rcases List.mem_cons.1 h with h | h
      · exact h
      · exact absurd (List.mem_map.2 ⟨ch, List.mem_append_right _ h, hp⟩) hnot
  exact ⟨l₁, l₂, this ▸ rfl, he, hnot⟩

theorem delChild_pids_of_nodup (pid : Nat) (cs : List Child) (hnd : (cs.map (·.pid)).Nodup) :
    pid ∉ (delChild pid cs).map (·.pid) := by
  by_cases hm : pid ∈ cs.map (·.pid)
  · obtain ⟨ch, hc, hp⟩ := List.mem_map.1 hm
    obtain ⟨l₁, l₂, _, he, hnot⟩ := delChild_split pid hnd hc hp
    rwa [he]
  · exact fun h => hm ((delChild_sublist pid cs).map _ |>.subset h)

theorem delChild_dead (pid : Nat) (cs : List Child) (ch : Child) (hnd : (cs.map (·.pid)).Nodup) (hm : ch ∈ cs)
    (hp : ch.pid = pid) (ha : ch.alive = false) :
    (delChild pid cs).countP (fun x => !x.alive) + 1 = cs.countP (fun x => !x.alive) := by
  obtain ⟨l₁, l₂, hcs, he, _⟩ := delChild_split pid hnd hm hp
  rw [he, hcs]
  simp [List.countP_append, ha]
  omega

theorem markDeadU_of_not_mem (pid : Nat) (us : List (Nat × Bool)) (h : pid ∉ us.map (·.1)) : markDeadU pid us = us := by
  unfold markDeadU
  refine (List.map_congr_left fun u hu => ?_).trans (List.map_id us)
  rw [if_neg fun e => h (List.mem_map.2 ⟨u, hu, e⟩)]; rfl

theorem mem_markDead_setState_of_ne (pid : Nat) (st : WState) (cs : List Child) (ch : Child) (hne : ch.pid ≠ pid) :
    ch ∈ markDead pid (setState cs pid st) ↔ ch ∈ cs := by
  simp only [markDead, setState, List.map_map, List.mem_map, Function.comp]
  constructor
  · rintro ⟨x, hx, rfl⟩
    by_cases hp : x.pid = pid
    · simp [hp] at hne
    · simpa [hp] using hx
  · intro h
    exact ⟨ch, h, by simp [hne]⟩

theorem isDeadChild_iff (s : State) (pid : Nat) :
    isDeadChild s pid = true ↔ ∃ ch ∈ s.childs, ch.pid = pid ∧ ch.alive = false := by
  simp [isDeadChild]

theorem isDeadChild_mem (s : State) (pid : Nat) (h : isDeadChild s pid = true) : pid ∈ s.childs.map (·.pid) :=
  have ⟨ch, hm, hp, _⟩ := (isDeadChild_iff s pid).1 h
  List.mem_map.mpr ⟨ch, hm, hp⟩

def pidsOf (s : State) : List Nat := s.childs.map (·.pid) ++ s.unreg.map (·.1)

/-- `refCount` counts exactly the registered processes, the started-but-unregistered ones and the starts still
owed by unfinished batches; it stays between `InitProcs` and `MaxProcs`; tracked pids are distinct and older than
the next pid the OS hands out. -/
structure Inv (c : Config) (s : State) : Prop where
  count : s.refCount = (s.childs.length : Int) + (s.unreg.length : Int) + (reserved s.batches : Int)
  lo : (c.init : Int) ≤ s.refCount
  hi : s.refCount ≤ (c.max : Int)
  nodup : (pidsOf s).Nodup
  fresh : ∀ p ∈ pidsOf s, p < s.nextPid

theorem inv_init (c : Config) (h : c.init ≤ c.max) : Inv c (init .repaired c) := by
  refine ⟨?_, ?_, ?_, ?_, ?_⟩ <;> simp [init, reserved, pidsOf]
  exact h

theorem Inv.childs_nodup {c : Config} {s : State} (hI : Inv c s) : (s.childs.map (·.pid)).Nodup :=
  (List.nodup_append.1 hI.nodup).1

/-- a step that tracks no new pid keeps the two clauses about pids; the three about counting are the step's own -/
theorem Inv.shrink {c : Config} {s s' : State} (hI : Inv c s) (hsub : (pidsOf s').Sublist (pidsOf s))
    (hn : s.nextPid ≤ s'.nextPid)
    (count : s'.refCount = (s'.childs.length : Int) + (s'.unreg.length : Int) + (reserved s'.batches : Int))
    (lo : (c.init : Int) ≤ s'.refCount) (hi : s'.refCount ≤ (c.max : Int)) : Inv c s' :=
  ⟨count, lo, hi, hsub.nodup hI.nodup, fun p hp => Nat.lt_of_lt_of_le (hI.fresh p (hsub.subset hp)) hn⟩

theorem inv_update (c : Config) (s : State) (pid : Nat) (st : WState) (hI : Inv c s) :
    Inv c (updateH c s pid st) := by
  have hsub : ∀ (r : Int) (bs : List Batch),
      (pidsOf { s with childs := setState s.childs pid st, refCount := r, batches := bs }).Sublist (pidsOf s) := by
    intro r bs; simp only [pidsOf, setState_pids]; exact List.Sublist.refl _
  have hlen : (setState s.childs pid st).length = s.childs.length := List.length_map _
  have hc := hI.count
  have hlo := hI.lo
  have hhi := hI.hi
  unfold updateH
  dsimp only
  split
  · exact hI.shrink (hsub _ _) (Nat.le_refl _) (by dsimp only; rw [hlen]; exact hc) hlo hhi
  · -- no idle worker left: `min batch (max − refCount)` more starts are reserved (≥ 0 since `refCount ≤ max`), as a new batch
    refine hI.shrink (hsub _ _) (Nat.le_refl _) ?_ ?_ ?_ <;> dsimp only
    · rw [reserved_append, hlen]
      split <;> (push_cast; omega)
    · split <;> omega
    · split <;> omega

theorem inv_exit (c : Config) (s : State) (pid : Nat) (hI : Inv c s) : Inv c (exitH s pid) :=
  hI.shrink (by simp only [exitH, pidsOf, markDead_pids, markDeadU_pids]; exact List.Sublist.refl _) (Nat.le_refl _)
    (by simpa [exitH, markDead, markDeadU] using hI.count) hI.lo hI.hi

theorem inv_del (c : Config) (s : State) (pid : Nat) (hI : Inv c s)
    (hd : isDeadChild s pid = true) : Inv c (delH c s pid) := by
  have hlen := delChild_length pid s.childs (isDeadChild_mem s pid hd)
  have hsub : ∀ (r : Int) (bs : List Batch),
      (pidsOf { s with childs := delChild pid s.childs, refCount := r, batches := bs }).Sublist (pidsOf s) :=
    fun r bs => List.Sublist.append ((delChild_sublist pid s.childs).map _) (List.Sublist.refl _)
  have hc := hI.count
  have hlo := hI.lo
  have hhi := hI.hi
  unfold delH
  dsimp only
  split
  · refine hI.shrink (hsub _ _) (Nat.le_refl _) ?_ ?_ ?_ <;> dsimp only
    · rw [reserved_append]; push_cast; omega
    · omega
    · omega
  · refine hI.shrink (hsub _ _) (Nat.le_refl _) ?_ ?_ ?_ <;> dsimp only <;> omega

/-- registering `pid`: it was tracked as unregistered, hence (distinct pids) is no key of `childs`; it moves from one
table to the other -/
theorem add_spec (c : Config) (s : State) (hI : Inv c s) (pid : Nat) (a : Bool) (us : List (Nat × Bool))
    (ht : takeUnreg pid s.unreg = some (a, us)) :
    hasKey s.childs pid = false ∧ (addH .repaired s pid a us).childs = s.childs ++ [⟨pid, .idle, a⟩] ∧
      (pidsOf (addH .repaired s pid a us)).Perm (pidsOf s) := by
  have hperm : (pidsOf s).Perm (s.childs.map (·.pid) ++ pid :: us.map (·.1)) :=
    List.Perm.append_left _ ((takeUnreg_perm pid s.unreg a us ht).map _)
  have hk : hasKey s.childs pid = false := by
    refine (hasKey_false_iff _ _).mpr fun hm => ?_
    exact (List.nodup_append.1 (hperm.nodup_iff.mp hI.nodup)).2.2 pid hm pid List.mem_cons_self rfl
  have hch : (addH .repaired s pid a us).childs = s.childs ++ [⟨pid, .idle, a⟩] := by
    simp only [addH, setChild, hk, Bool.false_eq_true, if_false]
  refine ⟨hk, hch, List.Perm.trans ?_ hperm.symm⟩
  rw [pidsOf, hch]
  simp only [addH, List.map_append, List.map_cons, List.map_nil, List.append_assoc, List.singleton_append]
  exact List.Perm.refl _

theorem inv_step (c : Config) (s s' : State) (e : Ev) (hI : Inv c s)
    (hs : step .repaired c s e = some s') : Inv c s' := by
  cases e with
  | spawnStart b =>
    obtain ⟨bs, hb, rfl⟩ := Option.map_eq_some_iff.1 hs
    obtain ⟨hc, hlo, hhi, hnd, hfr⟩ := hI
    -- one reserved start becomes one unregistered process; its pid is `nextPid`, above every tracked pid (`fresh`)
    have hr := decAt_reserved b s.batches bs hb
    have hp : pidsOf { s with batches := bs, unreg := s.unreg ++ [(s.nextPid, true)], nextPid := s.nextPid + 1 } =
        pidsOf s ++ [s.nextPid] := by simp [pidsOf]
    refine ⟨?_, hlo, hhi, ?_, ?_⟩
    · simp only [List.length_append, List.length_cons, List.length_nil]; push_cast; omega
    · rw [hp, List.nodup_append]
      refine ⟨hnd, by simp, fun a ha b hb => ?_⟩
      cases List.mem_singleton.1 hb
      exact Nat.ne_of_lt (hfr a ha)
    · intro p hp'
      rw [hp, List.mem_append, List.mem_singleton] at hp'
      show p < s.nextPid + 1
      rcases hp' with hp' | rfl
      · exact Nat.lt_succ_of_lt (hfr p hp')
      · exact Nat.lt_succ_self _
  | add pid =>
    obtain ⟨⟨a, us⟩, ht, rfl⟩ := Option.map_eq_some_iff.1 hs
    obtain ⟨_, hch, hperm⟩ := add_spec c s hI pid a us ht
    have hl := (takeUnreg_perm pid s.unreg a us ht).length_eq
    refine ⟨?_, hI.lo, hI.hi, hperm.nodup_iff.mpr hI.nodup, fun p hp => hI.fresh p (hperm.mem_iff.mp hp)⟩
    rw [hch]
    have := hI.count
    simp only [addH, List.length_append, List.length_cons, List.length_nil] at hl ⊢
    push_cast; omega
  | update pid st =>
    cases hs
    exact inv_update c s pid st hI
  | exit pid =>
    obtain ⟨_, ⟨⟩⟩ := Option.ite_none_right_eq_some.1 hs
    exact inv_exit c s pid hI
  | del pid =>
    obtain ⟨hd, ⟨⟩⟩ := Option.ite_none_right_eq_some.1 hs
    exact inv_del c s pid hI hd
  | timeoutKill pid =>
    obtain ⟨_, ⟨⟩⟩ := Option.ite_none_right_eq_some.1 hs
    exact inv_exit c _ pid (inv_update c s pid .stopped hI)

theorem inv_run (c : Config) (evs : List Ev) (s s' : State) (hI : Inv c s)
    (h : run .repaired c s evs = some s') : Inv c s' := by
  fun_induction run .repaired c s evs with
  | case1 s => cases h; exact hI
  | case2 s e es s1 hs ih => exact ih (inv_step c s s1 e hI hs) h
  | case3 => cases h

theorem inv_reachable (c : Config) (hcfg : c.init ≤ c.max) (s : State) (h : Reachable .repaired c s) : Inv c s := by
  obtain ⟨evs, h⟩ := h
  exact inv_run c evs _ s (inv_init c hcfg) h

theorem aliveCount_le (s : State) : aliveCount s ≤ s.childs.length + s.unreg.length := by
  unfold aliveCount
  have h1 := List.countP_le_length (p := fun ch : Child => ch.alive) (l := s.childs)
  have h2 := List.countP_le_length (p := fun u : Nat × Bool => u.2) (l := s.unreg)
  omega

theorem quiet_spec (s : State) (hq : quiet s = true) :
    reserved s.batches = 0 ∧ s.unreg = [] ∧ aliveCount s = s.childs.length := by
  simp only [quiet, Bool.and_eq_true, beq_iff_eq, List.isEmpty_iff, List.all_eq_true] at hq
  obtain ⟨⟨h1, h2⟩, h3⟩ := hq
  refine ⟨h1, h2, ?_⟩
  simp only [aliveCount, h2, List.countP_nil, Nat.add_zero]
  exact List.countP_eq_length.mpr (by simpa using h3)

theorem firstOpen_decAt (bs : List Batch) (i : Nat) (h : firstOpen bs = some i) : ∃ bs', decAt i bs = some bs' := by
  fun_induction firstOpen bs generalizing i with
  | case1 => cases h
  | case2 b bs hb => cases h; exact ⟨{ b with remaining := b.remaining - 1 } :: bs, by simp [decAt, hb]⟩
  | case3 b bs hb ih =>
    obtain ⟨j, hj, rfl⟩ := Option.map_eq_some_iff.1 h
    obtain ⟨bs', hb'⟩ := ih j hj
    exact ⟨b :: bs', by simp [decAt, hb']⟩

theorem firstOpen_none (bs : List Batch) (h : firstOpen bs = none) : reserved bs = 0 := by
  fun_induction firstOpen bs with
  | case1 => rfl
  | case2 => cases h
  | case3 b bs hb ih => simp only [reserved, ih (Option.map_eq_none_iff.1 h)]; omega

theorem exists_decAt_iff (bs : List Batch) : (∃ i bs', decAt i bs = some bs') ↔ 0 < reserved bs := by
  constructor
  · rintro ⟨i, bs', h⟩
    have := decAt_reserved i bs bs' h
    omega
  · intro h
    cases hf : firstOpen bs with
    | none => have := firstOpen_none bs hf; omega
    | some i => exact ⟨i, firstOpen_decAt bs i hf⟩

theorem updateH_childs (c : Config) (s : State) (pid : Nat) (st : WState) :
    (updateH c s pid st).childs = setState s.childs pid st := by
  unfold updateH; simp only; split <;> rfl

theorem updateH_unreg (c : Config) (s : State) (pid : Nat) (st : WState) : (updateH c s pid st).unreg = s.unreg := by
  unfold updateH; simp only; split <;> rfl

theorem delH_childs (c : Config) (s : State) (pid : Nat) : (delH c s pid).childs = delChild pid s.childs := by
  unfold delH; simp only; split <;> rfl

theorem delH_unreg (c : Config) (s : State) (pid : Nat) : (delH c s pid).unreg = s.unreg := by
  unfold delH; simp only; split <;> rfl

theorem Worker.step_taken (w w' : Worker) (e : WEv) : w.step e = some w' →
    match e with
    | .accept r => w.phase = .accepting ∧ w'.phase = .serving r ∧ (Worker.taken w').Perm (r :: Worker.taken w)
    | _ => (Worker.taken w').Perm (Worker.taken w) := by
  -- the arms of `Worker.step` in the order of the model: per event, one arm for each phase it distinguishes
  fun_cases Worker.step w e with
  | case1 r hp => -- accept, accepting
    rintro ⟨⟩
    refine ⟨hp, rfl, ?_⟩
    simp only [Worker.taken, hp, List.append_nil, List.append_assoc, List.singleton_append]
    exact List.perm_middle
  | case3 r hp => rintro ⟨⟩; simp [Worker.taken, hp] -- finish, serving
  | case5 r hp | case8 r hp => -- timeout / crash, serving: the request is dropped
    rintro ⟨⟩
    simp only [Worker.taken, hp, List.append_nil, List.append_assoc]
    exact List.Perm.append_left _ (List.perm_append_comm (l₁ := w.dropped) (l₂ := [r]))
  | case9 hp => rintro ⟨⟩; simp [Worker.taken, hp] -- crash, accepting
  | case2 | case4 | case6 | case7 => nofun -- the event is not enabled in that phase

theorem modifyAt_flatten_perm (f : Worker → Option Worker) (xs : List Nat)
    (hf : ∀ w w', f w = some w' → (Worker.taken w').Perm (xs ++ Worker.taken w))
    (i : Nat) (ws ws' : List Worker) (h : modifyAt f i ws = some ws') :
      ((ws'.map Worker.taken).flatten).Perm (xs ++ (ws.map Worker.taken).flatten) := by
  fun_induction modifyAt f i ws generalizing ws' with
  | case1 => cases h
  | case2 w ws =>
    obtain ⟨w', hw, rfl⟩ := Option.map_eq_some_iff.1 h
    simp only [List.map_cons, List.flatten_cons, ← List.append_assoc]
    exact List.Perm.append_right _ (hf w w' hw)
  | case3 i w ws ih =>
    obtain ⟨r, hr, rfl⟩ := Option.map_eq_some_iff.1 h
    simp only [List.map_cons, List.flatten_cons]
    refine (List.Perm.append_left _ (ih r hr)).trans ?_
    simp only [← List.append_assoc]
    exact List.Perm.append_right _ List.perm_append_comm

theorem step_workers_all (p : Pool) (we : WEv) (hwe : ∀ w w', w.step we = some w' → (Worker.taken w').Perm (Worker.taken w))
    (i : Nat) (ws : List Worker) (hm : modifyAt (·.step we) i p.workers = some ws) :
    (Pool.all { p with workers := ws }).Perm (Pool.all p) := by
  have := modifyAt_flatten_perm (·.step we) [] (fun w w' hw => by simpa using hwe w w' hw) i p.workers ws hm
  simpa [Pool.all] using List.Perm.append_right p.queue this

theorem Pool.step_all (p p' : Pool) (e : PEv) (h : p.step e = some p') : (Pool.all p').Perm (Pool.all p) := by
  cases e with
  | accept i =>
    simp only [Pool.step] at h
    split at h
    · cases h
    · next r q hq =>
      obtain ⟨ws, hm, rfl⟩ := Option.map_eq_some_iff.1 h
      have := modifyAt_flatten_perm (·.step (.accept r)) [r]
        (fun w w' hw => by simpa using (Worker.step_taken w w' (.accept r) hw).2.2) i p.workers ws hm
      simp only [Pool.all, hq]
      refine (List.Perm.append_right _ this).trans ?_
      simp only [List.cons_append]
      exact List.perm_middle.symm
  | finish i | timeout i | crash i =>
    obtain ⟨ws, hm, rfl⟩ := Option.map_eq_some_iff.1 h
    exact step_workers_all p _ (fun w w' => Worker.step_taken w w' _) i ws hm
  | spawn =>
    cases h
    simp [Pool.all, Worker.fresh, Worker.taken]

theorem Pool.run_all (evs : List PEv) (p p' : Pool) (h : Pool.run p evs = some p') : (Pool.all p').Perm (Pool.all p) := by
  fun_induction Pool.run p evs with
  | case1 p => cases h; exact List.Perm.refl _
  | case2 p e es p1 hs ih => exact (ih h).trans (Pool.step_all p p1 e hs)
  | case3 => cases h

theorem nextInternal_none (s : State) : nextInternal s = none → quiet s = true := by
  fun_cases nextInternal s with
  | case1 | case2 | case3 => nofun
  | case4 hu hf hd =>
    intro _
    simp only [quiet, Bool.and_eq_true, beq_iff_eq, List.isEmpty_iff, List.all_eq_true]
    refine ⟨⟨firstOpen_none _ hf, hu⟩, fun ch hm => ?_⟩
    simpa using List.find?_eq_none.mp hd ch hm

/-- the event `nextInternal` picks is enabled and lowers `workLeft`: a registration takes an entry out of `unreg`; a start uses up
one reserved start (weight 2) and adds an entry to `unreg`; a deletion removes a dead child (weight 3) and may reserve one refill
start (weight 2) -/
theorem nextInternal_progress (c : Config) (s : State) (hI : Inv c s) (e : Ev) : nextInternal s = some e →
    e.internal = true ∧ ∃ s', step .repaired c s e = some s' ∧ workLeft s' < workLeft s := by
  fun_cases nextInternal s with
  | case1 u us hu =>
    rintro ⟨⟩
    refine ⟨rfl, ?_⟩
    have ht : takeUnreg u.1 s.unreg = some (u.2, us) := by simp [hu, takeUnreg]
    obtain ⟨hk, _, _⟩ := add_spec c s hI u.1 u.2 us ht
    refine ⟨addH .repaired s u.1 u.2 us, by simp [step, ht], ?_⟩
    simp only [workLeft, deadCount, addH, setChild, hk, Bool.false_eq_true, if_false, hu, List.length_cons,
      List.countP_cons, List.countP_append, List.countP_nil]
    cases u.2 <;> simp <;> omega
  | case2 hu i hf =>
    rintro ⟨⟩
    refine ⟨rfl, ?_⟩
    obtain ⟨bs', hb⟩ := firstOpen_decAt _ _ hf
    have hr := decAt_reserved i s.batches bs' hb
    refine ⟨_, by simp [step, hb]; rfl, ?_⟩
    simp only [workLeft, deadCount, hu, List.nil_append, List.length_cons, List.length_nil, List.countP_cons,
      List.countP_nil]
    simp; omega
  | case3 hu hf ch hd =>
    rintro ⟨⟩
    refine ⟨rfl, ?_⟩
    have hm := List.mem_of_find?_eq_some hd
    have ha : ch.alive = false := by simpa using List.find?_some hd
    have hdead := (isDeadChild_iff s ch.pid).2 ⟨ch, hm, rfl, ha⟩
    refine ⟨delH c s ch.pid, by simp [step, hdead], ?_⟩
    have hcnt := delChild_dead ch.pid s.childs ch hI.childs_nodup hm rfl ha
    obtain ⟨hc, hlo, hhi, _, _⟩ := hI
    unfold delH
    simp only
    split
    · next hlt =>
      have : ((c.init : Int) - (s.refCount - 1)).toNat = 1 := by omega
      simp only [workLeft, deadCount, reserved_append, this]
      omega
    · simp only [workLeft, deadCount]
      omega
  | case4 => nofun

theorem drain_spec (c : Config) : ∀ (n : Nat) (s : State), Inv c s → workLeft s ≤ n →
    run .repaired c s (drainTrace .repaired c n s) = some (drain .repaired c n s) ∧
    (∀ e ∈ drainTrace .repaired c n s, e.internal = true) ∧ quiet (drain .repaired c n s) = true
  | 0, s, hI, hn => by
    have hq : nextInternal s = none := by
      cases hni : nextInternal s with
      | none => rfl
      | some e =>
        obtain ⟨_, s', _, hlt⟩ := nextInternal_progress c s hI e hni
        omega
    exact ⟨rfl, by simp [drainTrace], by simpa [drain] using nextInternal_none s hq⟩
  | n + 1, s, hI, hn => by
    cases hni : nextInternal s with
    | none => exact ⟨by simp [drainTrace, drain, hni, run], by simp [drainTrace, hni],
        by simpa [drain, hni] using nextInternal_none s hni⟩
    | some e =>
      obtain ⟨hint, s', hs, hlt⟩ := nextInternal_progress c s hI e hni
      have ih := drain_spec c n s' (inv_step c s s' e hI hs) (by omega)
      refine ⟨by simpa [drainTrace, drain, hni, hs, run] using ih.1, ?_, by simpa [drain, hni, hs] using ih.2.2⟩
      intro e' he'
      simp only [drainTrace, hni, hs, List.mem_cons] at he'
      rcases he' with rfl | he'
      · exact hint
      · exact ih.2.1 e' he'

def Ev.target : Ev → Option Nat
  | .exit p | .timeoutKill p | .del p => some p
  | _ => none

theorem mem_alivePids (s : State) (j : Nat) :
    j ∈ alivePids s ↔ (∃ ch ∈ s.childs, ch.alive = true ∧ ch.pid = j) ∨ (∃ u ∈ s.unreg, u.2 = true ∧ u.1 = j) := by
  simp only [alivePids, List.mem_append, List.mem_map, List.mem_filter, and_assoc]

theorem alivePids_length (s : State) : (alivePids s).length = aliveCount s := by
  simp [alivePids, aliveCount, List.countP_eq_length_filter]

theorem alive_update (c : Config) (s : State) (pid : Nat) (st : WState) (j : Nat) (hj : j ∈ alivePids s) :
    j ∈ alivePids (updateH c s pid st) := by
  rw [mem_alivePids] at hj ⊢
  rw [updateH_childs, updateH_unreg]
  rcases hj with ⟨ch, h1, h2, h3⟩ | h
  · left
    refine ⟨if ch.pid = pid then { ch with st := st } else ch, ?_, ?_, ?_⟩
    · exact List.mem_map.mpr ⟨ch, h1, rfl⟩
    · split <;> simp [h2]
    · split <;> simp [h3]
  · exact Or.inr h

theorem alive_exit (s : State) (pid : Nat) (j : Nat) (hne : j ≠ pid) (hj : j ∈ alivePids s) :
    j ∈ alivePids (exitH s pid) := by
  rw [mem_alivePids] at hj ⊢
  rcases hj with ⟨ch, h1, h2, h3⟩ | ⟨u, h1, h2, h3⟩
  · left
    refine ⟨ch, ?_, h2, h3⟩
    simp only [exitH, markDead, List.mem_map]
    exact ⟨ch, h1, by simp [h3, hne]⟩
  · right
    refine ⟨u, ?_, h2, h3⟩
    simp only [exitH, markDeadU, List.mem_map]
    exact ⟨u, h1, by simp [h3, hne]⟩

theorem alive_step (c : Config) (s s' : State) (e : Ev) (hI : Inv c s) (hs : step .repaired c s e = some s')
    (j : Nat) (hne : Ev.target e ≠ some j) (hj : j ∈ alivePids s) : j ∈ alivePids s' := by
  cases e with
  | spawnStart b =>
    obtain ⟨bs, _, rfl⟩ := Option.map_eq_some_iff.1 hs
    rw [mem_alivePids] at hj ⊢
    rcases hj with h | ⟨u, h1, h2, h3⟩
    · exact Or.inl h
    · exact Or.inr ⟨u, List.mem_append_left _ h1, h2, h3⟩
  | add pid =>
    obtain ⟨⟨a, us⟩, ht, rfl⟩ := Option.map_eq_some_iff.1 hs
    obtain ⟨hk, _, _⟩ := add_spec c s hI pid a us ht
    rw [mem_alivePids] at hj ⊢
    simp only [addH, setChild, hk, Bool.false_eq_true, if_false]
    rcases hj with ⟨ch, h1, h2, h3⟩ | ⟨u, h1, h2, h3⟩
    · exact Or.inl ⟨ch, List.mem_append_left _ h1, h2, h3⟩
    · rcases List.mem_cons.1 ((takeUnreg_perm pid s.unreg a us ht).mem_iff.1 h1) with rfl | hu
      · exact Or.inl ⟨⟨pid, .idle, a⟩, by simp, h2, h3⟩
      · exact Or.inr ⟨u, hu, h2, h3⟩
  | update pid st =>
    cases hs
    exact alive_update c s pid st j hj
  | exit pid =>
    obtain ⟨_, ⟨⟩⟩ := Option.ite_none_right_eq_some.1 hs
    exact alive_exit s pid j (fun h => hne (congrArg some h.symm)) hj
  | del pid =>
    obtain ⟨_, ⟨⟩⟩ := Option.ite_none_right_eq_some.1 hs
    have hjp : j ≠ pid := fun h => hne (congrArg some h.symm)
    rw [mem_alivePids] at hj ⊢
    rw [delH_childs, delH_unreg]
    rcases hj with ⟨ch, h1, h2, h3⟩ | h
    · exact Or.inl ⟨ch, (mem_delChild_of_ne pid _ ch (by rw [h3]; exact hjp)).mpr h1, h2, h3⟩
    · exact Or.inr h
  | timeoutKill pid =>
    obtain ⟨_, ⟨⟩⟩ := Option.ite_none_right_eq_some.1 hs
    exact alive_exit _ pid j (fun h => hne (congrArg some h.symm)) (alive_update c s pid .stopped j hj)

end ZnVerif.Proofs.PM
