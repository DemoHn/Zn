/-
Helper lemmas for C14: the small unicode/utf8 model of Model/TextOps.lean — decoding undoes encoding on
scalar values, so a text that is a sequence of characters is walked character by character.
-/
import ZnVerif.Model.TextOps
import ZnVerif.Proofs.Utf8

namespace ZnVerif.Proofs.TextUtf8
open ZnVerif.Model.TextOps
open ZnVerif.Proofs.Utf8 (WellFormed wellFormed_encode wf_shape)

def ValidText (t : List Nat) : Prop := ∀ c ∈ t, isScalar c = true

theorem validText_cons (c : Nat) (t : List Nat) : ValidText (c :: t) ↔ isScalar c = true ∧ ValidText t := by
  simp [ValidText]

theorem validText_append (a b : List Nat) : ValidText (a ++ b) ↔ ValidText a ∧ ValidText b := by
  simp only [ValidText, List.mem_append]
  constructor
  · intro h; exact ⟨fun c hc => h c (Or.inl hc), fun c hc => h c (Or.inr hc)⟩
  · rintro ⟨h1, h2⟩ c (hc | hc)
    · exact h1 c hc
    · exact h2 c hc

theorem isScalar_iff (c : Nat) : isScalar c = true ↔ (c < 0xD800 ∨ (0xE000 ≤ c ∧ c ≤ 0x10FFFF)) := by
  simp [isScalar]

theorem encodeRune_ne_nil (c : Nat) : encodeRune c ≠ [] := by
  unfold encodeRune; split <;> (try split) <;> (try split) <;> (try split) <;> simp

theorem encodeRune_length_pos (c : Nat) : 0 < (encodeRune c).length :=
  List.length_pos_iff.mpr (encodeRune_ne_nil c)

/-- on scalar values `AppendRune` is the encoding form of the Unicode Standard -/
theorem encodeRune_eq {c : Nat} (hc : isScalar c = true) : encodeRune c = Spec.encode c := by
  rw [encodeRune, hc, Spec.encode]; rfl

theorem isCont_iff (b : Nat) : isCont b = true ↔ 0x80 ≤ b ∧ b ≤ 0xBF := by
  simp only [isCont, Bool.and_eq_true, decide_eq_true_eq]

/-- `DecodeRuneInString` reads a well-formed sequence as its payload and looks no further -/
theorem decodeRune_wf : ∀ {bs : List Nat}, WellFormed bs → ∀ rest, decodeRune (bs ++ rest) = (Spec.payload bs, bs.length)
  | _, .one h, rest => if_pos h
  | _, .two h h' h1, rest => by
    simp only [List.cons_append, decodeRune]
    rw [if_neg (by omega), if_neg (by omega), if_pos h', if_pos ((isCont_iff _).2 h1)]; rfl
  | _, .three h h' h1 h2, rest => by
    simp only [List.cons_append, decodeRune]
    rw [if_neg (by omega), if_neg (by omega), if_neg (by omega), if_pos h',
      if_pos ⟨h1.1, h1.2, (isCont_iff _).2 h2⟩]; rfl
  | _, .four h h' h1 h2 h3, rest => by
    simp only [List.cons_append, decodeRune]
    rw [if_neg (by omega), if_neg (by omega), if_neg (by omega), if_neg (by omega), if_pos h',
      if_pos ⟨h1.1, h1.2, (isCont_iff _).2 h2, (isCont_iff _).2 h3⟩]; rfl

theorem decodeRune_encode (c : Nat) (hc : isScalar c = true) (rest : List Nat) :
    decodeRune (encodeRune c ++ rest) = (c, (encodeRune c).length) := by
  have hw := wellFormed_encode ((isScalar_iff c).1 hc)
  rw [encodeRune_eq hc, decodeRune_wf hw.1, hw.2]

theorem encodeRune_shape (c : Nat) (hc : isScalar c = true) :
    ∃ b bs, encodeRune c = b :: bs ∧ isCont b = false ∧ ∀ x ∈ bs, isCont x = true := by
  obtain ⟨b, tl, he, hb, htl⟩ := wf_shape (wellFormed_encode ((isScalar_iff c).1 hc)).1
  exact ⟨b, tl, by rw [encodeRune_eq hc, he], Bool.eq_false_iff.2 fun hk => hb ((isCont_iff b).1 hk),
    fun x hx => (isCont_iff x).2 (htl x hx)⟩

theorem encode_cons (c : Nat) (t : List Nat) : encode (c :: t) = encodeRune c ++ encode t := by
  simp [encode]

theorem encode_append (a b : List Nat) : encode (a ++ b) = encode a ++ encode b := by
  simp [encode]

theorem encode_nil : encode [] = [] := rfl

theorem encode_eq_nil {t : List Nat} (h : encode t = []) : t = [] := by
  cases t with
  | nil => rfl
  | cons c t =>
    rw [encode_cons] at h
    exact absurd (List.append_eq_nil_iff.1 h).1 (encodeRune_ne_nil c)

theorem encode_ne_nil {t : List Nat} (h : t ≠ []) : encode t ≠ [] := fun he => h (encode_eq_nil he)

/-- decoding reads an encoded text off the front of any byte string, character by character: the lead byte fixes the
length, so nothing behind the encoding is looked at (unique decodability) -/
theorem decodeLoop_encode_append : ∀ (t : List Nat), ValidText t → ∀ (y : List Nat) fuel, (encode t ++ y).length ≤ fuel →
    decodeLoop fuel (encode t ++ y) = t.map (fun c => (c, encodeRune c)) ++ decodeLoop (fuel - t.length) y
  | [], _, y, fuel, _ => by simp [encode_nil]
  | c :: t, hv, y, fuel, hf => by
    obtain ⟨hc, hvt⟩ := (validText_cons c t).1 hv
    obtain ⟨b, bs, hb, _, _⟩ := encodeRune_shape c hc
    have hdec := decodeRune_encode c hc (encode t ++ y)
    rw [encode_cons, List.append_assoc] at hf ⊢
    rw [List.length_append] at hf
    obtain ⟨n, rfl⟩ : ∃ n, fuel = n + 1 := ⟨fuel - 1, by rw [hb] at hf; simp at hf; omega⟩
    rw [hb] at hdec hf ⊢
    rw [List.cons_append, decodeLoop, ← List.cons_append, hdec]
    dsimp only
    rw [List.take_left', List.drop_left', decodeLoop_encode_append t hvt y n (by simp at hf ⊢; omega)]
    · simp [hb]
    · rfl
    · rfl

theorem decodeLoop_nil : ∀ fuel, decodeLoop fuel [] = []
  | 0 => rfl
  | _ + 1 => rfl

theorem decodeLoop_encode (t : List Nat) (hv : ValidText t) (fuel : Nat) (hf : (encode t).length ≤ fuel) :
    decodeLoop fuel (encode t) = t.map (fun c => (c, encodeRune c)) := by
  have := decodeLoop_encode_append t hv [] fuel (by simpa using hf)
  rwa [List.append_nil, decodeLoop_nil, List.append_nil] at this

theorem runes_encode (t : List Nat) (hv : ValidText t) : runes (encode t) = t := by
  simp [runes, decodeLoop_encode t hv _ (Nat.le_refl _), List.map_map, Function.comp_def]

theorem length_encode (t : List Nat) (hv : ValidText t) : length (encode t) = t.length := by
  simp [length, decodeLoop_encode t hv _ (Nat.le_refl _)]

theorem chars_encode (t : List Nat) (hv : ValidText t) : chars (encode t) = t.map encodeRune := by
  simp [chars, decodeLoop_encode t hv _ (Nat.le_refl _), List.map_map, Function.comp_def]

theorem explode_encode (t : List Nat) (hv : ValidText t) : explode (encode t) = t.map encodeRune := by
  simp [explode, decodeLoop_encode t hv _ (Nat.le_refl _), List.map_map, Function.comp_def]

theorem encodeRune_low (c : Nat) (h : c < 0x80) : encodeRune c = [c] := by
  simp [encodeRune, h]

/-- a text of ASCII characters: it is its own encoding -/
def Ascii (l : List Nat) : Prop := ∀ c ∈ l, c < 0x80

theorem encode_ascii : ∀ (l : List Nat), Ascii l → encode l = l
  | [], _ => rfl
  | c :: l, h => by
    have hc : c < 0x80 := h c (by simp)
    rw [encode_cons, encodeRune_low c hc, encode_ascii l (fun x hx => h x (by simp [hx]))]
    rfl

theorem validText_ascii (l : List Nat) (h : Ascii l) : ValidText l := by
  intro c hc
  have := h c hc
  rw [isScalar_iff]; omega

end ZnVerif.Proofs.TextUtf8
