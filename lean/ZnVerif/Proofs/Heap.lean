/-
The heap vocabulary of the evaluator model (Model/Interp.lean), used by C07, the frame lemmas (HeapFrames, HeapMono)
and the container bridges: `content` (the deep read of a value as a `Tree`), `Reach`, `Valid`, `Fresh`, `Disj`, `Ext`, `Sep`;
a value depends only on the cells below it (`reach_congr`, `content_congr`; `frame_lemma`, `content_ext` are instances);
what `dup` establishes (`DupPost`, `dup_spec`); histories of mutations through one holder (`MutSeq`, `mutSeq_preserves`);
objects are identities: equal deep reads reach the very same object cells (`content_eq_reach_ref`); `content` is defined
exactly on well-formed acyclic values (`content_defined_iff`); one store into a receiver's cell (`StoreStep`) keeps every
readable value readable.  Also `mapM_cons_inv`, a successful `mapM` in `M ν`
read back (the inversions of `bind` are in Proofs/Calls.lean).
-/
import ZnVerif.Proofs.AssocList
import ZnVerif.Proofs.Calls
set_option linter.unusedSectionVars false

namespace ZnVerif.Model

variable {ν : Type} [NumOps ν]

theorem mapM_nil' {α β} (f : α → M ν β) (s : VM ν) : List.mapM f [] s = (.ok [], s) := by
  simp [pure]

theorem mapM_cons_ok {α β} (f : α → M ν β) (x : α) (xs : List α) (s s1 s2 : VM ν) (b : β) (bs : List β)
    (h1 : f x s = (.ok b, s1)) (h2 : List.mapM f xs s1 = (.ok bs, s2)) :
    List.mapM f (x :: xs) s = (.ok (b :: bs), s2) := by
  simp [List.mapM_cons, bind, h1, h2, pure]

theorem mapM_cons_inv {α β} (f : α → M ν β) (x : α) (xs : List α) (s s2 : VM ν) (r : List β)
    (h : List.mapM f (x :: xs) s = (.ok r, s2)) :
    ∃ b bs s1, f x s = (.ok b, s1) ∧ List.mapM f xs s1 = (.ok bs, s2) ∧ r = b :: bs := by
  simp only [List.mapM_cons, bind] at h
  cases h1 : f x s with | mk r1 s1 =>
  rw [h1] at h
  cases r1 <;> simp at h
  rename_i b
  cases h2 : List.mapM f xs s1 with | mk r2 s2' =>
  rw [h2] at h
  cases r2 <;> simp [pure] at h
  rename_i bs
  exact ⟨b, bs, s1, rfl, by rw [h2, h.2], h.1.symm⟩

theorem omapM_nil {α β} (f : α → Option β) : List.mapM f [] = some [] := by simp

theorem omapM_cons {α β} (f : α → Option β) (x : α) (xs : List α) (ts : List β) :
    List.mapM f (x :: xs) = some ts ↔ ∃ t ts', f x = some t ∧ List.mapM f xs = some ts' ∧ ts = t :: ts' := by
  rw [List.mapM_cons]
  cases h1 : f x <;> cases h2 : List.mapM f xs <;> simp [eq_comm]

theorem omapM_mono {α β} (f g : α → Option β) (l : List α)
    (hfg : ∀ x ∈ l, ∀ t, f x = some t → g x = some t) :
    ∀ ts, List.mapM f l = some ts → List.mapM g l = some ts := by
  induction l with
  | nil => intro ts h; simpa using h
  | cons x xs ih =>
    intro ts h
    rcases (omapM_cons f x xs ts).1 h with ⟨t, ts', h1, h2, rfl⟩
    exact (omapM_cons g x xs _).2 ⟨t, ts', hfg x (by simp) t h1,
      ih (fun y hy => hfg y (by simp [hy])) ts' h2, rfl⟩

theorem omapM_congr {α β} (f g : α → Option β) (l : List α) (hfg : ∀ x ∈ l, f x = g x) :
    List.mapM f l = List.mapM g l := by
  induction l with
  | nil => simp
  | cons x xs ih =>
    rw [List.mapM_cons, List.mapM_cons, hfg x (by simp), ih (fun y hy => hfg y (by simp [hy]))]

theorem omapM_mem {α β} (f : α → Option β) (l : List α) :
    ∀ ts, List.mapM f l = some ts → ∀ x ∈ l, ∃ t, f x = some t ∧ t ∈ ts := by
  induction l with
  | nil => intro ts _ x hx; simp at hx
  | cons y ys ih =>
    intro ts h x hx
    rcases (omapM_cons f y ys ts).1 h with ⟨t, ts', h1, h2, rfl⟩
    rcases List.mem_cons.1 hx with rfl | hx
    · exact ⟨t, h1, by simp⟩
    · rcases ih ts' h2 x hx with ⟨t', h3, h4⟩
      exact ⟨t', h3, by simp [h4]⟩

theorem omapM_length {α β} (f : α → Option β) (l : List α) :
    ∀ ts, List.mapM f l = some ts → ts.length = l.length := by
  induction l with
  | nil => intro ts h; simp at h; simp [← h]
  | cons y ys ih =>
    intro ts h
    rcases (omapM_cons f y ys ts).1 h with ⟨t, ts', h1, h2, rfl⟩
    simp [ih ts' h2]

theorem omapM_pair {α α' β} (f : α → Option β) (g : α' → Option β) (l : List α) :
    ∀ (l' : List α') ts, List.mapM f l = some ts → List.mapM g l' = some ts →
      ∀ x ∈ l, ∃ y ∈ l', ∃ t, f x = some t ∧ g y = some t := by
  induction l with
  | nil => intro l' ts _ _ x hx; simp at hx
  | cons a as ih =>
    intro l' ts h h' x hx
    rcases (omapM_cons f a as ts).1 h with ⟨t, ts', h1, h2, rfl⟩
    cases l' with
    | nil => simp at h'
    | cons b bs =>
      rcases (omapM_cons g b bs _).1 h' with ⟨u, us, g1, g2, e⟩
      injection e with e1 e2
      subst e1; subst e2
      rcases List.mem_cons.1 hx with rfl | hx
      · exact ⟨b, by simp, t, h1, g1⟩
      · rcases ih bs ts' h2 g2 x hx with ⟨y, hy, t', q1, q2⟩
        exact ⟨y, by simp [hy], t', q1, q2⟩

/-- what a value *is*, independent of where it is stored: the deep read of a cell.  Lists and dictionaries
are read through; objects, methods, types and exceptions are identities (`ref` of their address). -/
inductive Tree (ν : Type) where
  | num (x : ν)
  | str (s : String)
  | bool (b : Bool)
  | null
  | list (items : List (Tree ν))
  | dict (kvs : List (String × Tree ν))
  | ref (a : Addr)

/-- the cells a list / dictionary cell links to (objects do not link: they are shared by design) -/
def Cell.children : Cell ν → List Addr
  | .arr items => items
  | .hm vals _ => vals.map Prod.snd
  | _ => []

/-- the kinds `value.DuplicateValue` copies -/
def Cell.isMutable : Cell ν → Bool
  | .num _ | .str _ | .bool _ | .arr _ | .hm _ _ => true
  | _ => false

def Cell.wf : Cell ν → Bool
  | .hm vals order => decide (dictWF vals order)
  | _ => true

/-- the tree of a cell, given the trees of its children -/
def Cell.rebuild (a : Addr) : Cell ν → List (Tree ν) → Tree ν
  | .num x, _ => .num x
  | .str s, _ => .str s
  | .bool b, _ => .bool b
  | .null, _ => .null
  | .arr _, ts => .list ts
  | .hm vals _, ts => .dict ((vals.map Prod.fst).zip ts)
  | .obj _ _, _ | .fn _, _ | .cls _ _ _ _, _ | .exc _, _ => .ref a

/-- deep read of the value at `a`, descending at most `n` levels.  `none` when the fuel does not suffice
(in particular on a cyclic value), on a dangling address and on an ill-formed dictionary cell. -/
def content : Nat → Array (Cell ν) → Addr → Option (Tree ν)
  | 0, _, _ => none
  | n+1, h, a =>
    match h[a]? with
    | none => none
    | some c => if c.wf then (c.children.mapM (content n h)).map (c.rebuild a) else none

/-- `i` is reachable from `a` through list / dictionary links (reflexive, transitive) -/
inductive Reach (h : Array (Cell ν)) : Addr → Addr → Prop
  | refl (a : Addr) : Reach h a a
  | step {a : Addr} {c : Cell ν} {x i : Addr} : h[a]? = some c → x ∈ c.children → Reach h x i → Reach h a i

/-- a cell of a kind that is never copied (空, object, method, type, exception) -/
def Shared (h : Array (Cell ν)) (i : Addr) : Prop := ∃ c, h[i]? = some c ∧ c.isMutable = false
/-- a cell of a kind that `DuplicateValue` copies (number, text, boolean, list, dictionary) -/
def Mutable (h : Array (Cell ν)) (i : Addr) : Prop := ∃ c, h[i]? = some c ∧ c.isMutable = true
/-- no dangling link below `a` -/
def Valid (h : Array (Cell ν)) (a : Addr) : Prop := ∀ i, Reach h a i → i < h.size
/-- everything reachable from `b` was allocated at or after `old`, or is of a shared kind -/
def Fresh (old : Nat) (h : Array (Cell ν)) (b : Addr) : Prop := ∀ i, Reach h b i → old ≤ i ∨ Shared h i
/-- `a` and `b` have no copied-kind cell in common -/
def Disj (h : Array (Cell ν)) (a b : Addr) : Prop := ∀ i, Reach h a i → Reach h b i → Shared h i
/-- `h'` is `h` plus newly allocated cells; `HeapLe` of Proofs/Content and `Builtins.Pre` say the same cell by cell, without the sizes -/
def Ext (h h' : Array (Cell ν)) : Prop := h.size ≤ h'.size ∧ ∀ i, i < h.size → h'[i]? = h[i]?

/-- acyclicity below `a`: a rank on addresses that strictly decreases along every link reachable from `a` -/
def Acyclic (h : Array (Cell ν)) (a : Addr) : Prop :=
  ∃ rk : Addr → Nat, ∀ i c x, Reach h a i → h[i]? = some c → x ∈ c.children → rk x < rk i

/-- every cell reachable from `a` exists and (for dictionaries) satisfies the HashMap invariant -/
def WellFormed (h : Array (Cell ν)) (a : Addr) : Prop :=
  ∀ i, Reach h a i → ∃ c, h[i]? = some c ∧ c.wf = true

theorem not_shared_of_mutable {h : Array (Cell ν)} {i : Addr} (hm : Mutable h i) : ¬ Shared h i := by
  rintro ⟨c, hc, hs⟩; rcases hm with ⟨c', hc', hm⟩
  rw [hc] at hc'; injection hc' with e; subst e; rw [hs] at hm; cases hm

theorem Reach.trans {h : Array (Cell ν)} {a b c : Addr} (h1 : Reach h a b) (h2 : Reach h b c) : Reach h a c := by
  induction h1 with
  | refl => exact h2
  | step hc hx _ ih => exact .step hc hx (ih h2)

theorem Reach.child {h : Array (Cell ν)} {a x : Addr} {c : Cell ν} (hc : h[a]? = some c) (hx : x ∈ c.children) :
    Reach h a x := .step hc hx (.refl x)

theorem Ext.refl (h : Array (Cell ν)) : Ext h h := ⟨Nat.le_refl _, fun _ _ => rfl⟩

theorem Ext.trans {h1 h2 h3 : Array (Cell ν)} (a : Ext h1 h2) (b : Ext h2 h3) : Ext h1 h3 :=
  ⟨Nat.le_trans a.1 b.1, fun i hi => by rw [b.2 i (Nat.lt_of_lt_of_le hi a.1), a.2 i hi]⟩

theorem Ext.push (h : Array (Cell ν)) (c : Cell ν) : Ext h (h.push c) :=
  ⟨by simp, fun i hi => by simp [Array.getElem?_push, Nat.ne_of_lt hi]⟩

theorem lt_size_of_getElem? {h : Array (Cell ν)} {a : Addr} {c : Cell ν} (hc : h[a]? = some c) : a < h.size := by
  rcases Nat.lt_or_ge a h.size with hlt | hge
  · exact hlt
  · rw [Array.getElem?_eq_none hge] at hc; cases hc

theorem Ext.get {h h' : Array (Cell ν)} (e : Ext h h') {a : Addr} {c : Cell ν} (hc : h[a]? = some c) :
    h'[a]? = some c := by rw [e.2 a (lt_size_of_getElem? hc), hc]

theorem get_set_ne (h : Array (Cell ν)) (i j : Addr) (c : Cell ν) (hne : i ≠ j) : (h.set! i c)[j]? = h[j]? := by
  simp [hne]

theorem get_set_eq (h : Array (Cell ν)) (i : Addr) (c : Cell ν) (hlt : i < h.size) : (h.set! i c)[i]? = some c := by
  simp [hlt]

theorem get_set_self_inv (h : Array (Cell ν)) (i : Addr) (c c' : Cell ν) (hc : (h.set! i c)[i]? = some c') : c' = c := by
  have hlt : i < h.size := by
    have := lt_size_of_getElem? hc
    simpa using this
  rw [get_set_eq h i c hlt] at hc
  injection hc with e; exact e.symm

theorem reach_congr {h h' : Array (Cell ν)} {a j : Addr} (hag : ∀ i, Reach h a i → h'[i]? = h[i]?) :
    Reach h' a j ↔ Reach h a j := by
  constructor
  · intro hr
    induction hr with
    | refl => exact .refl _
    | @step a0 c x j0 hc hx _ ih =>
      rw [hag a0 (.refl _)] at hc
      exact .step hc hx (ih fun i hi => hag i (.step hc hx hi))
  · intro hr
    induction hr with
    | refl => exact .refl _
    | @step a0 c x j0 hc hx _ ih =>
      exact .step (by rw [hag a0 (.refl _)]; exact hc) hx (ih fun i hi => hag i (.step hc hx hi))

theorem content_congr : ∀ (n : Nat) (h h' : Array (Cell ν)) (a : Addr), (∀ i, Reach h a i → h'[i]? = h[i]?) →
    content n h' a = content n h a := by
  intro n
  induction n with
  | zero => intro h h' a _; rfl
  | succ m ih =>
    intro h h' a hag
    simp only [content]
    rw [hag a (.refl a)]
    cases hc : h[a]? with
    | none => rfl
    | some c =>
      simp only
      rw [omapM_congr (content m h') (content m h) c.children
        (fun x hx => ih h h' x (fun i hr => hag i (.step hc hx hr)))]

theorem content_succ (n : Nat) (h : Array (Cell ν)) (a : Addr) (c : Cell ν) (hc : h[a]? = some c) :
    content (n+1) h a = if c.wf then (c.children.mapM (content n h)).map (c.rebuild a) else none := by
  simp [content, hc]

theorem content_some_inv {n : Nat} {h : Array (Cell ν)} {a : Addr} {t : Tree ν} (ht : content n h a = some t) :
    ∃ m c ts, n = m + 1 ∧ h[a]? = some c ∧ c.wf = true ∧ c.children.mapM (content m h) = some ts ∧
      t = c.rebuild a ts := by
  cases n with
  | zero => simp [content] at ht
  | succ m =>
    cases hc : h[a]? with
    | none => simp [content, hc] at ht
    | some c =>
      rw [content_succ m h a c hc] at ht
      by_cases hw : c.wf = true
      · simp only [hw, if_true] at ht
        cases hm : c.children.mapM (content m h) with
        | none => simp [hm] at ht
        | some ts => simp [hm] at ht; exact ⟨m, c, ts, rfl, rfl, hw, hm, ht.symm⟩
      · simp [hw] at ht

theorem content_of_parts {m : Nat} {h : Array (Cell ν)} {a : Addr} {c : Cell ν} {ts : List (Tree ν)}
    (hc : h[a]? = some c) (hw : c.wf = true) (hm : c.children.mapM (content m h) = some ts) :
    content (m+1) h a = some (c.rebuild a ts) := by
  rw [content_succ m h a c hc]; simp [hw, hm]

theorem content_fuel_mono {h : Array (Cell ν)} :
    ∀ (n : Nat) (a : Addr) (t : Tree ν), content n h a = some t → content (n+1) h a = some t := by
  intro n
  induction n with
  | zero => intro a t ht; simp [content] at ht
  | succ m ih =>
    intro a t ht
    rcases content_some_inv ht with ⟨m', c, ts, hm, hc, hw, hch, rfl⟩
    cases hm
    exact content_of_parts hc hw (omapM_mono _ _ _ (fun x _ t' => ih x t') ts hch)

theorem content_fuel_le {h : Array (Cell ν)} {n k : Nat} (hk : n ≤ k) {a : Addr} {t : Tree ν}
    (ht : content n h a = some t) : content k h a = some t := by
  induction hk with
  | refl => exact ht
  | step _ ih => exact content_fuel_mono _ a t ih

theorem content_reach : ∀ (n : Nat) {h : Array (Cell ν)} {a i : Addr} {t : Tree ν}, content n h a = some t → Reach h a i →
    ∃ t', content n h i = some t' := by
  intro n
  induction n with
  | zero => intro h a i t ht; simp [content] at ht
  | succ m ih =>
    intro h a i t ht hr
    rcases content_some_inv ht with ⟨m', c, ts, hm, hc, hw, hch, rfl⟩
    cases hm
    cases hr with
    | refl => exact ⟨_, ht⟩
    | step hc' hx hr' =>
      rw [hc] at hc'; injection hc' with e; subst e
      rcases omapM_mem _ _ ts hch _ hx with ⟨t', ht', _⟩
      rcases ih ht' hr' with ⟨t'', h''⟩
      exact ⟨t'', content_fuel_mono _ _ _ h''⟩

theorem content_wellFormed {n : Nat} {h : Array (Cell ν)} {a : Addr} {t : Tree ν} (ht : content n h a = some t) :
    WellFormed h a := by
  intro i hr
  rcases content_reach n ht hr with ⟨t', ht'⟩
  rcases content_some_inv ht' with ⟨_, c, _, _, hc, hw, _, _⟩
  exact ⟨c, hc, hw⟩

theorem content_valid (n : Nat) {h : Array (Cell ν)} {a : Addr} {t : Tree ν} (ht : content n h a = some t) : Valid h a :=
  fun i hr => let ⟨_, hc, _⟩ := content_wellFormed ht i hr; lt_size_of_getElem? hc

theorem Valid.of_reach {h : Array (Cell ν)} {a x : Addr} (v : Valid h a) (hr : Reach h a x) : Valid h x :=
  fun i hi => v i (hr.trans hi)

theorem reach_ext {h h' : Array (Cell ν)} (e : Ext h h') {a : Addr} (v : Valid h a) {i : Addr} :
    Reach h' a i ↔ Reach h a i := reach_congr fun j hj => e.2 j (v j hj)

theorem content_ext {h h' : Array (Cell ν)} (e : Ext h h') (n : Nat) (a : Addr) (t : Tree ν) (ht : content n h a = some t) :
    content n h' a = some t := by
  rw [content_congr n h h' a fun j hj => e.2 j (content_valid n ht j hj)]; exact ht

theorem Valid.ext {h h' : Array (Cell ν)} (e : Ext h h') {a : Addr} (v : Valid h a) : Valid h' a :=
  fun i hi => Nat.lt_of_lt_of_le (v i ((reach_ext e v).1 hi)) e.1

theorem Shared.ext {h h' : Array (Cell ν)} (e : Ext h h') {i : Addr} (s : Shared h i) : Shared h' i := by
  rcases s with ⟨c, hc, hs⟩; exact ⟨c, e.get hc, hs⟩

theorem Fresh.ext {h h' : Array (Cell ν)} (e : Ext h h') {old : Nat} {b : Addr} (v : Valid h b) (f : Fresh old h b) :
    Fresh old h' b := by
  intro i hi
  rcases f i ((reach_ext e v).1 hi) with h1 | h1
  · exact .inl h1
  · exact .inr (h1.ext e)

theorem Fresh.new_of_mutable {old : Nat} {h : Array (Cell ν)} {b i : Addr} (f : Fresh old h b) (hr : Reach h b i)
    (hm : Mutable h i) : old ≤ i := (f i hr).resolve_right (not_shared_of_mutable hm)

theorem Fresh.mono {h : Array (Cell ν)} {old old' : Nat} (hle : old' ≤ old) {b : Addr} (f : Fresh old h b) : Fresh old' h b :=
  fun i hi => (f i hi).imp (Nat.le_trans hle) id

theorem newHashMapCell_of_nodup (kvs : List (String × Addr)) (hnd : (kvs.map Prod.fst).Nodup) :
    (newHashMapCell kvs : Cell ν) = .hm kvs (kvs.map Prod.fst) := by
  have key : ∀ (step : List (String × Addr) × List String → String × Addr → List (String × Addr) × List String),
      (∀ acc kv, lookup kv.1 acc.1 = none → step acc kv = (acc.1 ++ [kv], acc.2 ++ [kv.1])) →
      ∀ (l pre : List (String × Addr)), ((pre ++ l).map Prod.fst).Nodup →
      l.foldl step (pre, pre.map Prod.fst) = (pre ++ l, (pre ++ l).map Prod.fst) := by
    intro step hstep l
    induction l with
    | nil => intro pre _; simp
    | cons p ps ih =>
      intro pre hnd
      have hnot : p.1 ∉ pre.map Prod.fst := by
        intro hmem
        simp only [List.map_append, List.map_cons] at hnd
        rw [List.nodup_append] at hnd
        exact hnd.2.2 _ hmem _ (by simp) rfl
      rw [List.foldl_cons, hstep _ _ ((lookup_eq_none_iff _ _).2 hnot)]
      have := ih (pre ++ [p]) (by simpa using hnd)
      simpa using this
  simp only [newHashMapCell]
  rw [show (([], []) : List (String × Addr) × List String) = ([], ([] : List (String × Addr)).map Prod.fst) from rfl]
  rw [key _ (by intro acc kv h; simp [h]) kvs [] (by simpa using hnd)]
  simp

theorem zip_map_fst {α β} : ∀ (l : List α) (l' : List β), l'.length = l.length → (l.zip l').map Prod.fst = l := by
  intro l l' h; rw [List.map_fst_zip]; omega

theorem zip_map_snd {α β} : ∀ (l : List α) (l' : List β), l'.length = l.length → (l.zip l').map Prod.snd = l' := by
  intro l l' h; rw [List.map_snd_zip]; omega

/-- `order.mapM (look the key up, run F on the value, pair it with the key)` — the loop shape of DuplicateValue and
String() on dictionaries — is `F` mapped over the values, in order, when the HashMap invariant holds -/
theorem hm_mapM_ok (F : Addr → M ν Addr) (full : List (String × Addr)) :
    ∀ (vals : List (String × Addr)) (s s' : VM ν) (vs : List Addr),
      (∀ k v, (k, v) ∈ vals → lookup k full = some v) →
      List.mapM F (vals.map Prod.snd) s = (.ok vs, s') →
      List.mapM (m := M ν) (fun k => do
        match lookup k full with
        | some v => do let v' ← F v; pure (k, v')
        | none => goPanic) (vals.map Prod.fst) s = (Res.ok ((vals.map Prod.fst).zip vs), s') := by
  intro vals
  induction vals with
  | nil => intro s s' vs _ h; simp [pure] at h ⊢; exact h.2
  | cons p ps ih =>
    intro s s' vs hl h
    rcases mapM_cons_inv F _ _ _ _ _ h with ⟨b, bs, s1, h1, h2, rfl⟩
    have hp : lookup p.1 full = some p.2 := hl p.1 p.2 (by simp)
    refine mapM_cons_ok _ _ _ _ s1 _ _ _ ?_ (ih s1 s' bs (fun k v hm => hl k v (by simp [hm])) h2)
    simp [hp, bind, h1, pure]

/-- nothing but the heap differs -/
def SameBut (s s' : VM ν) : Prop := s' = { s with heap := s'.heap }

theorem SameBut.refl (s : VM ν) : SameBut s s := rfl

theorem SameBut.trans {s1 s2 s3 : VM ν} (a : SameBut s1 s2) (b : SameBut s2 s3) : SameBut s1 s3 := by
  unfold SameBut at *
  rw [b, a]

theorem SameBut.push (s : VM ν) (c : Cell ν) : SameBut s { s with heap := s.heap.push c } := rfl

theorem SameBut.globals {s s' : VM ν} (h : SameBut s s') : s'.globals = s.globals := by unfold SameBut at h; rw [h]
theorem SameBut.stack {s s' : VM ν} (h : SameBut s s') : s'.stack = s.stack := by unfold SameBut at h; rw [h]
theorem SameBut.csModuleID {s s' : VM ν} (h : SameBut s s') : s'.csModuleID = s.csModuleID := by unfold SameBut at h; rw [h]

theorem reach_leaf {h : Array (Cell ν)} {b i : Addr} {c : Cell ν} (hc : h[b]? = some c) (hl : c.children = [])
    (hr : Reach h b i) : i = b := by
  cases hr with
  | refl => rfl
  | step hc' hx _ =>
    rw [hc] at hc'; injection hc' with e; subst e; rw [hl] at hx; cases hx

/-- what `dup n a` establishes when it answers `b` in state `s'`, started in `s` where `a` reads as `t` -/
structure DupPost (n : Nat) (s : VM ν) (t : Tree ν) (b : Addr) (s' : VM ν) : Prop where
  same : SameBut s s'
  ext : Ext s.heap s'.heap
  cont : content n s'.heap b = some t
  valid : Valid s'.heap b
  fresh : Fresh s.heap.size s'.heap b

def DupSpec (ν : Type) [NumOps ν] (n : Nat) : Prop :=
  ∀ (a : Addr) (s : VM ν) (t : Tree ν), content n s.heap a = some t →
    ∃ b s', dup n a s = (.ok b, s') ∧ DupPost n s t b s'

theorem dup_list (n : Nat) (IH : DupSpec ν n) :
    ∀ (l : List Addr) (s : VM ν) (ts : List (Tree ν)), l.mapM (content n s.heap) = some ts →
      ∃ vs s', l.mapM (dup n) s = (.ok vs, s') ∧ SameBut s s' ∧ Ext s.heap s'.heap ∧
        vs.mapM (content n s'.heap) = some ts ∧ ∀ v ∈ vs, Valid s'.heap v ∧ Fresh s.heap.size s'.heap v := by
  intro l
  induction l with
  | nil =>
    intro s ts h
    refine ⟨[], s, by simp [pure], SameBut.refl s, Ext.refl _, ?_, by simp⟩
    simpa using h
  | cons x xs ih =>
    intro s ts h
    rcases (omapM_cons _ x xs ts).1 h with ⟨t, ts', h1, h2, rfl⟩
    rcases IH x s t h1 with ⟨b, s1, hd, hp⟩
    have h2' : xs.mapM (content n s1.heap) = some ts' :=
      omapM_mono _ _ _ (fun y _ t' => content_ext hp.ext n y t') ts' h2
    rcases ih s1 ts' h2' with ⟨vs, s2, hm, hsame, hext, hcont, hall⟩
    refine ⟨b :: vs, s2, mapM_cons_ok _ _ _ _ _ _ _ _ hd hm, hp.same.trans hsame, hp.ext.trans hext, ?_, ?_⟩
    · exact (omapM_cons _ b vs _).2 ⟨t, ts', content_ext hext n b t hp.cont, hcont, rfl⟩
    · intro v hv
      rcases List.mem_cons.1 hv with rfl | hv
      · exact ⟨hp.valid.ext hext, hp.fresh.ext hext hp.valid⟩
      · exact ⟨(hall v hv).1, (hall v hv).2.mono hp.ext.1⟩

theorem alloc_container_post (n : Nat) (s s1 : VM ν) (vs : List Addr) (ts : List (Tree ν)) (c' : Cell ν) (t : Tree ν)
    (hsame : SameBut s s1) (hext : Ext s.heap s1.heap)
    (hcont : vs.mapM (content n s1.heap) = some ts)
    (hall : ∀ v ∈ vs, Valid s1.heap v ∧ Fresh s.heap.size s1.heap v)
    (hch : c'.children = vs) (hw : c'.wf = true) (ht : c'.rebuild s1.heap.size ts = t) :
    DupPost (n+1) s t s1.heap.size { s1 with heap := s1.heap.push c' } := by
  have e1 : Ext s1.heap (s1.heap.push c') := Ext.push _ _
  have hb : (s1.heap.push c')[s1.heap.size]? = some c' := by simp
  refine ⟨hsame.trans (SameBut.push _ _), hext.trans e1, ?_, ?_, ?_⟩
  · show content (n+1) (s1.heap.push c') s1.heap.size = some t
    rw [← ht]
    refine content_of_parts hb hw ?_
    rw [hch]
    exact omapM_mono _ _ _ (fun y _ t' => content_ext e1 n y t') ts hcont
  · intro i hr
    show i < (s1.heap.push c').size
    cases hr with
    | refl => simp
    | step hc' hx hr' =>
      rw [hb] at hc'; injection hc' with e; subst e; rw [hch] at hx
      exact (hall _ hx).1.ext e1 i hr'
  · intro i hr
    show s.heap.size ≤ i ∨ Shared (s1.heap.push c') i
    cases hr with
    | refl => exact .inl hext.1
    | step hc' hx hr' =>
      rw [hb] at hc'; injection hc' with e; subst e; rw [hch] at hx
      exact (hall _ hx).2.ext e1 (hall _ hx).1 i hr'

theorem alloc_leaf_post (n : Nat) (s : VM ν) (c : Cell ν) (a : Addr) (hl : c.children = []) (hw : c.wf = true)
    (hr : ∀ a b ts, c.rebuild a ts = c.rebuild b []) :
    DupPost (n+1) s (c.rebuild a []) s.heap.size { s with heap := s.heap.push c } := by
  refine alloc_container_post n s s [] [] c _ (SameBut.refl s) (Ext.refl _) (by simp) (by simp) hl hw (hr _ _ _)

theorem dup_spec : ∀ n, DupSpec ν n := by
  intro n
  induction n with
  | zero => intro a s t ht; simp [content] at ht
  | succ n ih =>
    intro a s t ht
    rcases content_some_inv ht with ⟨m, c, ts, hm, hc, hw, hch, rfl⟩
    cases hm
    -- by the kind of the cell: a shared kind answers the address itself (`hshared`); a number, text or boolean is allocated
    -- again (`alloc_leaf_post`); a container duplicates its links one after the other in a growing heap (`dup_list`) and
    -- allocates a cell over the duplicates (`alloc_container_post`).  For a dictionary the HashMap invariant turns the loop
    -- over the keys into a map over the values (`hm_mapM_ok`) and `NewHashMap` into the plain cell (`newHashMapCell_of_nodup`)
    have hshared : c.isMutable = false → c.children = [] →
        dup (n+1) a s = (.ok a, s) → ∃ b s', dup (n+1) a s = (.ok b, s') ∧ DupPost (n+1) s (c.rebuild a ts) b s' := by
      intro hnm hl hd
      refine ⟨a, s, hd, SameBut.refl s, Ext.refl _, ht, content_valid _ ht, ?_⟩
      intro i hr
      rw [reach_leaf hc hl hr]
      exact .inr ⟨c, hc, hnm⟩
    cases c with
    | num x =>
      refine ⟨s.heap.size, { s with heap := s.heap.push (.num x) }, by simp [dup, bind, getCell, hc, newNum, alloc], ?_⟩
      exact alloc_leaf_post n s (.num x) a rfl rfl (fun _ _ _ => rfl)
    | str x =>
      refine ⟨s.heap.size, { s with heap := s.heap.push (.str x) }, by simp [dup, bind, getCell, hc, newStr, alloc], ?_⟩
      exact alloc_leaf_post n s (.str x) a rfl rfl (fun _ _ _ => rfl)
    | bool x =>
      refine ⟨s.heap.size, { s with heap := s.heap.push (.bool x) }, by simp [dup, bind, getCell, hc, newBool, alloc], ?_⟩
      exact alloc_leaf_post n s (.bool x) a rfl rfl (fun _ _ _ => rfl)
    | null => exact hshared rfl rfl (by simp [dup, bind, getCell, hc, pure])
    | obj k p => exact hshared rfl rfl (by simp [dup, bind, getCell, hc, pure])
    | fn f => exact hshared rfl rfl (by simp [dup, bind, getCell, hc, pure])
    | cls nm ct p ms => exact hshared rfl rfl (by simp [dup, bind, getCell, hc, pure])
    | exc m => exact hshared rfl rfl (by simp [dup, bind, getCell, hc, pure])
    | arr items =>
      rcases dup_list n ih items s ts hch with ⟨vs, s1, hmap, hsame, hext, hcont, hall⟩
      refine ⟨s1.heap.size, { s1 with heap := s1.heap.push (.arr vs) }, ?_, ?_⟩
      · simp [dup, bind, getCell, hc, hmap, alloc]
      · exact alloc_container_post n s s1 vs ts (.arr vs) _ hsame hext hcont hall rfl rfl rfl
    | hm vals order =>
      have hwf : dictWF vals order := by simpa [Cell.wf] using hw
      rcases hwf with ⟨hord, hnd⟩
      subst hord
      rcases dup_list n ih (vals.map Prod.snd) s ts hch with ⟨vs, s1, hmap, hsame, hext, hcont, hall⟩
      have hlen : vs.length = (vals.map Prod.fst).length := by
        rw [← omapM_length _ _ _ hcont, omapM_length _ _ _ hch]; simp [Cell.children]
      have hkv := hm_mapM_ok (dup n) vals vals s s1 vs (lookup_of_mem_nodup vals hnd) hmap
      have hfst : ((vals.map Prod.fst).zip vs).map Prod.fst = vals.map Prod.fst := zip_map_fst _ _ hlen
      have hcell : (newHashMapCell ((vals.map Prod.fst).zip vs) : Cell ν) = .hm ((vals.map Prod.fst).zip vs) (vals.map Prod.fst) := by
        rw [newHashMapCell_of_nodup _ (by rw [hfst]; exact hnd), hfst]
      refine ⟨s1.heap.size, { s1 with heap := s1.heap.push (.hm ((vals.map Prod.fst).zip vs) (vals.map Prod.fst)) }, ?_, ?_⟩
      · simp only [dup, bind, getCell, hc]
        simp only [bind] at hkv
        erw [hkv]
        simp [alloc, hcell]
      · refine alloc_container_post n s s1 vs ts _ _ hsame hext hcont hall (zip_map_snd _ _ hlen) ?_ ?_
        · simp [Cell.wf, dictWF, hfst, hnd]
        · simp [Cell.rebuild, hfst]

theorem dup_post {n : Nat} {a b : Addr} {s s' : VM ν} {t : Tree ν} (ht : content n s.heap a = some t)
    (hd : dup n a s = (.ok b, s')) : DupPost n s t b s' := by
  rcases dup_spec n a s t ht with ⟨b0, s0, hd0, hp⟩
  rw [hd] at hd0
  injection hd0 with e1 e2
  injection e1 with e1
  subst e1; subst e2
  exact hp

theorem reach_set_of_not_reach {h : Array (Cell ν)} {a i : Addr} (c : Cell ν) (hn : ¬ Reach h a i) {j : Addr} :
    Reach (h.set! i c) a j ↔ Reach h a j :=
  reach_congr fun k hk => get_set_ne h i k c (by rintro rfl; exact hn hk)

theorem frame_lemma (c : Cell ν) (i : Addr) :
    ∀ (n : Nat) (h : Array (Cell ν)) (a : Addr), ¬ Reach h a i → content n (h.set! i c) a = content n h a :=
  fun n h a hn => content_congr n h _ a fun k hk => get_set_ne h i k c (by rintro rfl; exact hn hk)

theorem reach_after_write {h : Array (Cell ν)} {b i j : Addr} (c : Cell ν) (hr : Reach (h.set! i c) b j) :
    Reach h b j ∨ ∃ x ∈ c.children, Reach h x j := by
  induction hr with
  | refl => exact .inl (.refl _)
  | @step a0 c0 x j0 hc hx _ ih =>
    by_cases hne : i = a0
    · subst hne
      have := get_set_self_inv h i c c0 hc
      subst this
      rcases ih with h1 | h1
      · exact .inr ⟨x, hx, h1⟩
      · exact .inr h1
    · rw [get_set_ne h i a0 c hne] at hc
      rcases ih with h1 | h1
      · exact .inl (.step hc hx h1)
      · exact .inr h1

/-- the separation invariant between two values -/
structure Sep (h : Array (Cell ν)) (a b : Addr) : Prop where
  va : Valid h a
  vb : Valid h b
  disj : Disj h a b

theorem Disj.symm {h : Array (Cell ν)} {a b : Addr} (d : Disj h a b) : Disj h b a := fun i h1 h2 => d i h2 h1
theorem Sep.symm {h : Array (Cell ν)} {a b : Addr} (s : Sep h a b) : Sep h b a := ⟨s.vb, s.va, s.disj.symm⟩

/-- a history of heap changes made *through* `b` while `a` is another holder:
allocations, and writes into copied-kind cells reachable (at that time) from `b` which store links to cells that are
themselves separated from `a` (e.g. reachable from `b`, or freshly duplicated — `sep_child_of_reach`, `sep_child_of_fresh`). -/
inductive MutSeq (a b : Addr) : Array (Cell ν) → Array (Cell ν) → Prop
  | done (h : Array (Cell ν)) : MutSeq a b h h
  | grow {h h1 h' : Array (Cell ν)} : Ext h h1 → MutSeq a b h1 h' → MutSeq a b h h'
  | write {h h' : Array (Cell ν)} {i : Addr} {c : Cell ν} :
      Reach h b i → Mutable h i → (∀ x ∈ c.children, Valid h x ∧ Disj h a x) →
      MutSeq a b (h.set! i c) h' → MutSeq a b h h'

theorem Sep.grow {h h1 : Array (Cell ν)} {a b : Addr} (sp : Sep h a b) (e : Ext h h1) : Sep h1 a b :=
  ⟨sp.va.ext e, sp.vb.ext e, fun i h1 h2 =>
    (sp.disj i ((reach_ext e sp.va).1 h1) ((reach_ext e sp.vb).1 h2)).ext e⟩

theorem Sep.not_reach {h : Array (Cell ν)} {a b i : Addr} (sp : Sep h a b) (hr : Reach h b i) (hm : Mutable h i) :
    ¬ Reach h a i := fun ha => not_shared_of_mutable hm (sp.disj i ha hr)

theorem Sep.write {h : Array (Cell ν)} {a b i : Addr} {c : Cell ν} (sp : Sep h a b)
    (hr : Reach h b i) (hm : Mutable h i) (hch : ∀ x ∈ c.children, Valid h x ∧ Disj h a x) :
    Sep (h.set! i c) a b := by
  have hn := sp.not_reach hr hm
  refine ⟨?_, ?_, ?_⟩
  · intro j hj
    have := sp.va j ((reach_set_of_not_reach c hn).1 hj)
    simpa using this
  · intro j hj
    have : j < h.size := by
      rcases reach_after_write c hj with h1 | ⟨x, hx, h1⟩
      · exact sp.vb j h1
      · exact (hch x hx).1 j h1
    simpa using this
  · intro j ha hb
    have ha' := (reach_set_of_not_reach c hn).1 ha
    have hne : i ≠ j := by rintro rfl; exact hn ha'
    have hs : Shared h j := by
      rcases reach_after_write c hb with h1 | ⟨x, hx, h1⟩
      · exact sp.disj j ha' h1
      · exact (hch x hx).2 j ha' h1
    rcases hs with ⟨c0, hc0, hs⟩
    exact ⟨c0, by rw [get_set_ne h i j c hne]; exact hc0, hs⟩

/-- **independence**: no history of mutations through `b` changes the deep read of a separated `a`,
and separation is kept (so the same holds for whatever is done next) -/
theorem mutSeq_preserves {a b : Addr} {h h' : Array (Cell ν)} (ms : MutSeq a b h h') :
    ∀ (n : Nat) (t : Tree ν), Sep h a b → content n h a = some t → content n h' a = some t ∧ Sep h' a b := by
  induction ms with
  | done h => intro n t sp ht; exact ⟨ht, sp⟩
  | grow e _ ih => intro n t sp ht; exact ih n t (sp.grow e) (content_ext e n _ t ht)
  | @write h h' i c hr hm hch _ ih =>
    intro n t sp ht
    refine ih n t (sp.write hr hm hch) ?_
    rw [frame_lemma c i n h a (sp.not_reach hr hm)]; exact ht

/-- links that may be stored by a write through `b`: anything already below `b` … -/
theorem sep_child_of_reach {h : Array (Cell ν)} {a b x : Addr} (sp : Sep h a b) (hr : Reach h b x) :
    Valid h x ∧ Disj h a x :=
  ⟨sp.vb.of_reach hr, fun i h1 h2 => sp.disj i h1 (hr.trans h2)⟩

/-- … and anything freshly allocated after `a` was complete (a `dup`, a literal, a computed number) -/
theorem sep_child_of_fresh {h0 h : Array (Cell ν)} {a x : Addr} (e : Ext h0 h) (va : Valid h0 a) (vx : Valid h x)
    (fx : Fresh h0.size h x) : Valid h x ∧ Disj h a x := by
  refine ⟨vx, fun i h1 h2 => ?_⟩
  have hlt : i < h0.size := va i ((reach_ext e va).1 h1)
  rcases fx i h2 with h3 | h3
  · exact absurd hlt (Nat.not_lt.2 h3)
  · exact h3

theorem sep_after_dup {n : Nat} {a b : Addr} {s s' : VM ν} {t : Tree ν} (ht : content n s.heap a = some t)
    (hd : dup n a s = (.ok b, s')) : Sep s'.heap a b := by
  have hp := dup_post ht hd
  have va := content_valid n ht
  exact ⟨va.ext hp.ext, hp.valid, (sep_child_of_fresh hp.ext va hp.valid hp.fresh).2⟩

/-- an object, method, type or exception cell -/
def IsRef (h : Array (Cell ν)) (o : Addr) : Prop := ∃ c, h[o]? = some c ∧ c.isMutable = false ∧ c ≠ .null

theorem rebuild_ref_inv {a b : Addr} {c c' : Cell ν} {ts ts' : List (Tree ν)} (hm : c.isMutable = false) (hn : c ≠ .null)
    (he : c.rebuild a ts = c'.rebuild b ts') : b = a := by
  cases c <;> simp [Cell.isMutable] at hm hn <;> cases c' <;> simp [Cell.rebuild] at he <;> exact he.symm

theorem rebuild_children_inv {a b : Addr} {c c' : Cell ν} {ts ts' : List (Tree ν)}
    (hl : ts.length = c.children.length) (hl' : ts'.length = c'.children.length) (hne : c.children ≠ [])
    (he : c.rebuild a ts = c'.rebuild b ts') : ts = ts' := by
  cases c <;> simp [Cell.children] at hne hl <;> cases c' <;> simp [Cell.rebuild, Cell.children] at he hl' <;> try exact he
  rename_i vals order vals' order'
  have h1 := congrArg (List.map Prod.snd) he
  rwa [zip_map_snd _ _ (by simpa using hl), zip_map_snd _ _ (by simpa using hl')] at h1

theorem content_eq_reach_ref : ∀ (n : Nat) (h h' : Array (Cell ν)) (a b : Addr) (t : Tree ν),
    content n h a = some t → content n h' b = some t → ∀ o, IsRef h o → Reach h a o → Reach h' b o := by
  intro n
  induction n with
  | zero => intro h h' a b t ht; simp [content] at ht
  | succ m ih =>
    intro h h' a b t ht ht' o ho hr
    rcases content_some_inv ht with ⟨_, c, ts, hm, hc, hw, hch, e1⟩
    cases hm
    rcases content_some_inv ht' with ⟨_, c', ts', hm, hc', hw', hch', e2⟩
    cases hm
    have he : c.rebuild a ts = c'.rebuild b ts' := e1.symm.trans e2
    cases hr with
    | refl =>
      rcases ho with ⟨c0, hc0, hmu, hnn⟩
      rw [hc] at hc0; injection hc0 with e; subst e
      rw [rebuild_ref_inv hmu hnn he]; exact .refl _
    | @step _ c0 x _ hc0 hx hr' =>
      rw [hc] at hc0; injection hc0 with e; subst e
      have hts : ts = ts' := rebuild_children_inv (omapM_length _ _ _ hch) (omapM_length _ _ _ hch')
        (by intro hnil; rw [hnil] at hx; cases hx) he
      subst hts
      rcases omapM_pair _ _ _ _ ts hch hch' x hx with ⟨y, hy, t', q1, q2⟩
      exact .step hc' hy (ih h h' x y t' q1 q2 o ho hr')

/-- object, method, type, exception: the kinds whose deep read is their own address -/
def Cell.isRefKind : Cell ν → Bool
  | .obj _ _ | .fn _ | .cls _ _ _ _ | .exc _ => true
  | _ => false

theorem not_isRef_cases {h : Array (Cell ν)} {i : Addr} {c : Cell ν} (hc : h[i]? = some c) (hn : ¬ IsRef h i) :
    c.isRefKind = false := by
  cases c <;> first | rfl | exact absurd ⟨_, hc, rfl, by intro hh; cases hh⟩ hn

/-- rewriting an object (method, type, exception) cell in place — a property write, a constructor definition — changes
no deep read: lists and dictionaries hold the object's identity, not its state -/
theorem content_set_ref (o : Addr) (c0 c : Cell ν) (h0 : c0.isRefKind = true) (h1 : c.isRefKind = true) :
    ∀ (n : Nat) (h : Array (Cell ν)) (a : Addr), h[o]? = some c0 → content n (h.set! o c) a = content n h a := by
  intro n
  induction n with
  | zero => intro h a _; rfl
  | succ m ih =>
    intro h a hc
    by_cases hao : o = a
    · subst hao
      simp only [content]
      rw [get_set_eq h o c (lt_size_of_getElem? hc), hc]
      cases c0 <;> simp [Cell.isRefKind] at h0 <;> cases c <;> simp [Cell.isRefKind] at h1 <;>
        simp [Cell.wf, Cell.children, Cell.rebuild]
    · simp only [content]
      rw [get_set_ne h o a c hao]
      cases hc' : h[a]? with
      | none => rfl
      | some c1 =>
        simp only
        rw [omapM_congr (content m (h.set! o c)) (content m h) c1.children (fun x _ => ih h x hc)]

theorem omapM_total {α β} (f : α → Option β) : ∀ (l : List α), (∀ x ∈ l, ∃ t, f x = some t) → ∃ ts, List.mapM f l = some ts := by
  intro l
  induction l with
  | nil => intro _; exact ⟨[], by simp⟩
  | cons x xs ih =>
    intro hall
    rcases hall x (by simp) with ⟨t, ht⟩
    rcases ih (fun y hy => hall y (by simp [hy])) with ⟨ts, hts⟩
    exact ⟨t :: ts, (omapM_cons f x xs _).2 ⟨t, ts, ht, hts, rfl⟩⟩

/-- a rank that decreases along links bounds the fuel that `content` (and `dup`) needs -/
theorem content_of_acyclic {h : Array (Cell ν)} {a : Addr} (rk : Addr → Nat)
    (hacy : ∀ i c x, Reach h a i → h[i]? = some c → x ∈ c.children → rk x < rk i) (hwf : WellFormed h a) :
    ∀ (m : Nat) (i : Addr), Reach h a i → rk i < m → ∃ t, content m h i = some t := by
  intro m
  induction m with
  | zero => intro i _ hlt; cases hlt
  | succ m ih =>
    intro i hr hlt
    rcases hwf i hr with ⟨c, hc, hw⟩
    rcases omapM_total (content m h) c.children (fun x hx =>
      ih x (hr.trans (Reach.child hc hx)) (Nat.lt_of_lt_of_le (hacy i c x hr hc hx) (Nat.le_of_lt_succ hlt))) with ⟨ts, hts⟩
    exact ⟨_, content_of_parts hc hw hts⟩

theorem sizeOf_lt_rebuild {a : Addr} {c : Cell ν} {ts : List (Tree ν)} {t : Tree ν}
    (hl : ts.length = c.children.length) (ht : t ∈ ts) : sizeOf t < sizeOf (c.rebuild a ts) := by
  have h1 := List.sizeOf_lt_of_mem ht
  cases c <;> simp [Cell.children] at hl <;> try (subst hl; cases ht)
  · simp only [Cell.rebuild, Tree.list.sizeOf_spec]; omega
  · rename_i vals order
    simp only [Cell.rebuild, Tree.dict.sizeOf_spec]
    obtain ⟨i, hi, rfl⟩ := List.mem_iff_getElem.1 ht
    have hm : ((vals.map Prod.fst)[i]'(by simp; omega), ts[i]) ∈ (vals.map Prod.fst).zip ts :=
      List.mem_iff_getElem.2 ⟨i, by simp; omega, by simp⟩
    have h2 := List.sizeOf_lt_of_mem hm
    simp only [Prod.mk.sizeOf_spec] at h2
    omega

theorem acyclic_of_content {n : Nat} {h : Array (Cell ν)} {a : Addr} {t : Tree ν} (ht : content n h a = some t) :
    Acyclic h a := by
  -- the rank of a cell is the size of the tree it reads as: the trees of its links are proper parts of it
  refine ⟨fun i => sizeOf (content n h i), fun i c x hr hc hx => ?_⟩
  rcases content_reach n ht hr with ⟨ti, hti⟩
  rcases content_some_inv hti with ⟨m, c', ts, rfl, hc', _, hch, rfl⟩
  rw [hc] at hc'; injection hc' with e; subst e
  rcases omapM_mem _ _ ts hch x hx with ⟨tx, htx, hmem⟩
  show sizeOf (content (m+1) h x) < sizeOf (content (m+1) h i)
  rw [hti, content_fuel_mono m x tx htx]
  have := sizeOf_lt_rebuild (a := i) (c := c) (omapM_length _ _ ts hch) hmem
  simp only [Option.some.sizeOf_spec]
  omega

theorem content_defined_iff (h : Array (Cell ν)) (a : Addr) :
    (∃ n t, content n h a = some t) ↔ Acyclic h a ∧ WellFormed h a := by
  constructor
  · rintro ⟨n, t, ht⟩; exact ⟨acyclic_of_content ht, content_wellFormed ht⟩
  · rintro ⟨⟨rk, hacy⟩, hwf⟩
    rcases content_of_acyclic rk hacy hwf (rk a + 1) a (.refl _) (Nat.lt_succ_self _) with ⟨t, ht⟩
    exact ⟨_, t, ht⟩

/-- the deep read of `a` is defined for some fuel: everything below `a` exists, is well formed and acyclic
(`content_defined_iff`) — exactly the values on which `dup`, `display` and comparison terminate -/
def Readable (h : Array (Cell ν)) (a : Addr) : Prop := ∃ n t, content n h a = some t

theorem Readable.ext {h h' : Array (Cell ν)} (e : Ext h h') {a : Addr} (r : Readable h a) : Readable h' a := by
  rcases r with ⟨n, t, ht⟩; exact ⟨n, t, content_ext e n a t ht⟩

theorem Readable.of_reach {h : Array (Cell ν)} {a i : Addr} (r : Readable h a) (hr : Reach h a i) : Readable h i := by
  rcases r with ⟨n, t, ht⟩
  rcases content_reach n ht hr with ⟨t', ht'⟩
  exact ⟨n, t', ht'⟩

theorem readable_list {h : Array (Cell ν)} : ∀ (l : List Addr), (∀ x ∈ l, Readable h x) →
    ∃ n ts, l.mapM (content n h) = some ts := by
  intro l
  induction l with
  | nil => intro _; exact ⟨0, [], by simp⟩
  | cons x xs ih =>
    intro hall
    rcases hall x (by simp) with ⟨n1, t, ht⟩
    rcases ih (fun y hy => hall y (by simp [hy])) with ⟨n2, ts, hts⟩
    refine ⟨max n1 n2, t :: ts, (omapM_cons _ x xs _).2 ⟨t, ts, content_fuel_le (Nat.le_max_left _ _) ht, ?_, rfl⟩⟩
    exact omapM_mono _ _ _ (fun y _ t' h' => content_fuel_le (Nat.le_max_right _ _) h') ts hts

theorem no_cycle_below {n : Nat} {h : Array (Cell ν)} {a i x : Addr} {t : Tree ν} {c : Cell ν}
    (ht : content n h a = some t) (hr : Reach h a i) (hc : h[i]? = some c) (hx : x ∈ c.children) : ¬ Reach h x i := by
  rcases acyclic_of_content ht with ⟨rk, hrk⟩
  have key : ∀ p q, Reach h p q → Reach h a p → rk q ≤ rk p := by
    intro p q hpq
    induction hpq with
    | refl => intro _; exact Nat.le_refl _
    | @step p0 c0 y q0 hc0 hy _ ih =>
      intro hap
      exact Nat.le_of_lt (Nat.lt_of_le_of_lt (ih (hap.trans (Reach.child hc0 hy))) (hrk p0 c0 y hap hc0 hy))
  intro hxi
  have h1 := key x i hxi (hr.trans (Reach.child hc hx))
  have h2 := hrk i c x hr hc hx
  omega

theorem write_readable {h : Array (Cell ν)} {r : Addr} {c' : Cell ν} (hlt : r < h.size) (hw : c'.wf = true)
    (hch : ∀ x ∈ c'.children, Readable h x ∧ ¬ Reach h x r) :
    ∀ a, Readable h a → Readable (h.set! r c') a := by
  rcases readable_list c'.children (fun x hx => (hch x hx).1) with ⟨N, ts, hts⟩
  have hts' : c'.children.mapM (content N (h.set! r c')) = some ts := by
    rw [omapM_congr (content N (h.set! r c')) (content N h) c'.children
      (fun x hx => frame_lemma c' r N h x (hch x hx).2)]
    exact hts
  have hr : ∃ t, content (N+1) (h.set! r c') r = some t := ⟨_, content_of_parts (get_set_eq h r c' hlt) hw hts'⟩
  -- `N + 1` is fuel for the new cell (its links read at `N`, and not through `r`).  A value that read at `n` before the
  -- write reads at `n + (N+1)` after it: where the read meets `r` it has `N + 1` left, elsewhere the cells are the old ones
  have key : ∀ n a t, content n h a = some t → ∃ t', content (n + (N+1)) (h.set! r c') a = some t' := by
    intro n
    induction n with
    | zero => intro a t ht; simp [content] at ht
    | succ m ih =>
      intro a t ht
      by_cases hra : r = a
      · subst hra
        rcases hr with ⟨t', ht'⟩
        exact ⟨t', content_fuel_le (by omega) ht'⟩
      · rcases content_some_inv ht with ⟨m', c, ts0, hm, hc, hwc, hch0, _⟩
        cases hm
        rcases omapM_total (content (m + (N+1)) (h.set! r c')) c.children (fun x hx => by
          rcases omapM_mem _ _ ts0 hch0 x hx with ⟨tx, htx, _⟩
          exact ih x tx htx) with ⟨ts1, hts1⟩
        refine ⟨c.rebuild a ts1, ?_⟩
        have : m + 1 + (N + 1) = (m + (N + 1)) + 1 := by omega
        rw [this]
        exact content_of_parts (by rw [get_set_ne h r a c' hra]; exact hc) hwc hts1
  intro a ⟨n, t, ht⟩
  rcases key n a t ht with ⟨t', ht'⟩
  exact ⟨_, t', ht'⟩

/-- **one store into the cell `r`**, as every mutator of the model performs it: either nothing but allocations; or
allocations, then `r`'s (copied-kind) cell is replaced by a well-formed cell each of whose links is one of `r`'s own old
links or a readable value all of whose copied-kind cells were allocated since the start; then allocations -/
inductive StoreStep (r : Addr) : Array (Cell ν) → Array (Cell ν) → Prop
  | noop {h h' : Array (Cell ν)} : Ext h h' → StoreStep r h h'
  | store {h h1 h' : Array (Cell ν)} {c c' : Cell ν} : Ext h h1 → h[r]? = some c → c.isMutable = true →
      (c.wf = true → c'.wf = true) →
      (∀ x ∈ c'.children, x ∈ c.children ∨ (Readable h1 x ∧ Fresh h.size h1 x)) →
      Ext (h1.set! r c') h' → StoreStep r h h'

theorem StoreStep.mutSeq {r a b : Addr} {h h' : Array (Cell ν)} (st : StoreStep r h h') (hr : Reach h b r) (hs : Sep h a b) :
    MutSeq a b h h' := by
  cases st with
  | noop e => exact .grow e (.done _)
  | store e1 hc hm hw hch e2 =>
    rename_i h1 c c'
    have hs1 := hs.grow e1
    have hr1 : Reach h1 b r := (reach_ext e1 hs.vb).2 hr
    refine .grow e1 (.write hr1 ⟨c, e1.get hc, hm⟩ (fun x hx => ?_) (.grow e2 (.done _)))
    rcases hch x hx with hx | ⟨⟨n, t, ht⟩, hf⟩
    · exact sep_child_of_reach hs1 (hr1.trans (Reach.child (e1.get hc) hx))
    · exact sep_child_of_fresh e1 hs.va (content_valid n ht) hf

theorem write_keeps_readable {h1 : Array (Cell ν)} {r : Addr} {c c' : Cell ν} (hc1 : h1[r]? = some c)
    (hw : c.wf = true → c'.wf = true)
    (hch : ∀ x ∈ c'.children, x ∈ c.children ∨ (Readable h1 x ∧ ¬ Reach h1 x r)) :
    ∀ a, Readable h1 a → Readable (h1.set! r c') a := by
  intro a ra1
  have hlt1 := lt_size_of_getElem? hc1
  by_cases hreach : Reach h1 a r
  · rcases ra1 with ⟨n, t, ht⟩
    have hwc : c.wf = true := by
      rcases content_wellFormed ht r hreach with ⟨c0, hc0, hw0⟩
      rw [hc1] at hc0; injection hc0 with e; subst e; exact hw0
    refine write_readable hlt1 (hw hwc) (fun x hx => ?_) a ⟨n, t, ht⟩
    rcases hch x hx with hx | hx
    · exact ⟨Readable.of_reach ⟨n, t, ht⟩ (hreach.trans (Reach.child hc1 hx)), no_cycle_below ht hreach hc1 hx⟩
    · exact hx
  · rcases ra1 with ⟨n, t, ht⟩
    exact ⟨n, t, by rw [frame_lemma c' r n h1 a hreach]; exact ht⟩

theorem StoreStep.readable {r : Addr} {h h' : Array (Cell ν)} (st : StoreStep r h h') :
    ∀ a, Readable h a → Readable h' a := by
  cases st with
  | noop e => exact fun a ra => ra.ext e
  | store e1 hc hm hw hch e2 =>
    rename_i h1 c c'
    intro a ra
    have hc1 := e1.get hc
    refine Readable.ext e2 (write_keeps_readable hc1 hw (fun x hx => ?_) a (ra.ext e1))
    rcases hch x hx with hx | ⟨hrd, hf⟩
    · exact .inl hx
    · refine .inr ⟨hrd, fun hxr => ?_⟩
      rcases hf r hxr with h1' | h1'
      · exact absurd (lt_size_of_getElem? hc) (Nat.not_lt.2 h1')
      · exact not_shared_of_mutable ⟨c, hc1, hm⟩ h1'

theorem StoreStep.acyclic {r : Addr} {h h' : Array (Cell ν)} (st : StoreStep r h h') (a : Addr)
    (ha : Acyclic h a ∧ WellFormed h a) : Acyclic h' a ∧ WellFormed h' a :=
  (content_defined_iff h' a).1 (st.readable a ((content_defined_iff h a).2 ha))

end ZnVerif.Model
