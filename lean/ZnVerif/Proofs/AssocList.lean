/-
The association lists of Model/Interp.lean — `lookup`, `assocSet`, `assocErase` (property tables, dictionaries, scopes of
names) and the two dictionary builders `hmAppend`, `newHashMapCell`: what each computes, said once, and the invariant
`dictWF` of a dictionary cell that they keep.  Keys are looked up
from the front, `assocSet` overwrites the first entry of its key or appends, `assocErase` removes the first entry.
-/
import ZnVerif.Model.Interp

namespace ZnVerif.Model

universe u
variable {β : Type u}

theorem lookup_cons (k k' : String) (v : β) (l : List (String × β)) :
    lookup k ((k', v) :: l) = if k = k' then some v else lookup k l := rfl

theorem lookup_eq_none_iff (k : String) : ∀ l : List (String × β), lookup k l = none ↔ k ∉ l.map Prod.fst
  | [] => by simp [lookup]
  | (k', v) :: rest => by
    by_cases h : k = k'
    · simp [lookup, h]
    · simp [lookup, h, lookup_eq_none_iff k rest]

theorem lookup_isSome_iff (k : String) (l : List (String × β)) : (lookup k l).isSome = true ↔ k ∈ l.map Prod.fst := by
  rw [← Option.ne_none_iff_isSome, Ne, lookup_eq_none_iff, Classical.not_not]

theorem lookup_of_mem_nodup : ∀ (l : List (String × β)), (l.map Prod.fst).Nodup → ∀ k v, (k, v) ∈ l → lookup k l = some v
  | (k', v') :: ps, hnd, k, v, hm => by
    rw [List.map_cons, List.nodup_cons] at hnd
    rw [lookup_cons]
    rcases List.mem_cons.1 hm with e | hm'
    · cases e; rw [if_pos rfl]
    · have hne : k ≠ k' := fun e => hnd.1 (e ▸ List.mem_map.2 ⟨(k, v), hm', rfl⟩)
      rw [if_neg hne, lookup_of_mem_nodup ps hnd.2 k v hm']

theorem mem_of_lookup {k : String} {v : β} : ∀ {l : List (String × β)}, lookup k l = some v → (k, v) ∈ l
  | [], h => nomatch h
  | (k', v') :: rest, h => by
    rw [lookup_cons] at h
    split at h
    · next heq => cases h; subst heq; exact List.mem_cons_self
    · exact List.mem_cons_of_mem _ (mem_of_lookup h)

theorem snd_mem_of_lookup {k : String} {v : β} {l : List (String × β)} (h : lookup k l = some v) : v ∈ l.map Prod.snd :=
  List.mem_map_of_mem (f := Prod.snd) (mem_of_lookup h)

theorem lookup_append (k : String) : ∀ l l' : List (String × β), lookup k (l ++ l') = (lookup k l).or (lookup k l')
  | [], _ => rfl
  | (k', v) :: rest, l' => by
    rw [List.cons_append, lookup_cons, lookup_cons, lookup_append k rest l']
    split <;> rfl

theorem lookup_assocSet (k : String) (v : β) (k' : String) : ∀ l : List (String × β),
    lookup k' (assocSet k v l) = if k' = k then some v else lookup k' l
  | [] => rfl
  | (k0, v0) :: rest => by
    unfold assocSet
    split
    · next h => subst h; rw [lookup_cons, lookup_cons]; split <;> rfl
    · next h =>
      rw [lookup_cons, lookup_cons, lookup_assocSet k v k' rest]
      split
      · next h0 => subst h0; rw [if_neg (Ne.symm h)]
      · rfl

theorem mem_assocSet {k : String} {v : β} {p : String × β} : ∀ {l : List (String × β)}, p ∈ assocSet k v l → p = (k, v) ∨ p ∈ l
  | [], h => .inl (List.mem_singleton.1 h)
  | (k', v') :: rest, h => by
    unfold assocSet at h
    split at h
    · exact (List.mem_cons.1 h).imp_right (List.mem_cons_of_mem _)
    · rcases List.mem_cons.1 h with h | h
      · exact .inr (h ▸ List.mem_cons_self)
      · exact (mem_assocSet h).imp_right (List.mem_cons_of_mem _)

theorem snd_mem_assocSet {k : String} {v x : β} {l : List (String × β)} (h : x ∈ (assocSet k v l).map Prod.snd) :
    x ∈ l.map Prod.snd ∨ x = v := by
  obtain ⟨p, hp, rfl⟩ := List.mem_map.1 h
  exact (mem_assocSet hp).elim (fun e => .inr (e ▸ rfl)) fun hp => .inl (List.mem_map_of_mem (f := Prod.snd) hp)

theorem map_fst_assocSet (k : String) (v : β) : ∀ l : List (String × β), k ∈ l.map Prod.fst →
    (assocSet k v l).map Prod.fst = l.map Prod.fst
  | (k', v') :: rest, h => by
    unfold assocSet
    split
    · next e => rw [e]; rfl
    · next e =>
      rw [List.map_cons, List.map_cons, map_fst_assocSet k v rest ((List.mem_cons.1 h).resolve_left e)]

theorem mem_assocErase {k : String} {p : String × β} : ∀ {l : List (String × β)}, p ∈ assocErase k l → p ∈ l
  | (k', v') :: rest, h => by
    unfold assocErase at h
    split at h
    · exact List.mem_cons_of_mem _ h
    · exact (List.mem_cons.1 h).elim (· ▸ List.mem_cons_self) fun h => List.mem_cons_of_mem _ (mem_assocErase h)

theorem snd_mem_assocErase {k : String} {x : β} {l : List (String × β)} (h : x ∈ (assocErase k l).map Prod.snd) :
    x ∈ l.map Prod.snd := by
  obtain ⟨p, hp, rfl⟩ := List.mem_map.1 h
  exact List.mem_map_of_mem (f := Prod.snd) (mem_assocErase hp)

theorem assocErase_keys (k : String) : ∀ (l : List (String × β)), (assocErase k l).map Prod.fst = (l.map Prod.fst).erase k
  | [] => rfl
  | (k', v') :: ps => by
    unfold assocErase
    split
    · next h => subst h; simp
    · next h =>
      have : ¬ (k' == k) = true := by simpa using Ne.symm h
      simp [this, assocErase_keys k ps]

theorem lookup_assocErase_of_ne {k k' : String} (hne : k' ≠ k) : ∀ l : List (String × β),
    lookup k' (assocErase k l) = lookup k' l
  | [] => rfl
  | (k0, v0) :: rest => by
    unfold assocErase
    split
    · next h => subst h; rw [lookup_cons, if_neg hne]
    · rw [lookup_cons, lookup_cons, lookup_assocErase_of_ne hne rest]

theorem lookup_assocErase (k k' : String) : ∀ l : List (String × β), (l.map Prod.fst).Nodup →
    lookup k' (assocErase k l) = if k' = k then none else lookup k' l
  | [], _ => by split <;> rfl
  | (k0, v0) :: rest, hnd => by
    rw [List.map_cons, List.nodup_cons] at hnd
    unfold assocErase
    split
    · next h =>
      subst h
      rw [lookup_cons]
      split
      · next h' => rw [h']; exact (lookup_eq_none_iff k rest).2 hnd.1
      · rfl
    · next h =>
      rw [lookup_cons, lookup_cons, lookup_assocErase k k' rest hnd.2]
      split
      · next h0 => rw [if_neg (h0 ▸ Ne.symm h)]
      · rfl

theorem snd_mem_hmAppend {vals : List (String × Addr)} {order : List String} {k : String} {v x : Addr}
    (h : x ∈ (hmAppend vals order k v).1.map Prod.snd) : x ∈ vals.map Prod.snd ∨ x = v := by
  unfold hmAppend at h
  split at h
  · exact snd_mem_assocSet h
  · simpa using h

/-- invariant of value.HashMap: `keyOrder` lists exactly the keys of the Go map, each once, in the order of
the association list (kept by NewHashMap, AppendKVPair and the removal loop — `hmAppend_wf`, `erase_wf` below, `newHashMapCell_of_nodup` in Heap.lean) -/
def dictWF (vals : List (String × Addr)) (order : List String) : Prop :=
  vals.map Prod.fst = order ∧ order.Nodup

instance (vals : List (String × Addr)) (order : List String) : Decidable (dictWF vals order) := by
  unfold dictWF; exact inferInstance

theorem hmAppend_wf {vals : List (String × Addr)} {order : List String} (k : String) (v : Addr) (h : dictWF vals order) :
    dictWF (hmAppend vals order k v).1 (hmAppend vals order k v).2 := by
  rcases h with ⟨h1, h2⟩
  unfold hmAppend
  cases hl : lookup k vals with
  | some _ =>
    simp only
    refine ⟨?_, h2⟩
    rw [map_fst_assocSet k v vals (Classical.byContradiction fun hn => by
        rw [(lookup_eq_none_iff k vals).2 hn] at hl; cases hl), h1]
  | none =>
    simp only
    have hk : k ∉ order := by rw [← h1]; exact (lookup_eq_none_iff k vals).1 hl
    refine ⟨by simp [h1], ?_⟩
    rw [List.nodup_append]
    exact ⟨h2, by simp, fun a ha b hb => by simp at hb; subst hb; rintro rfl; exact hk ha⟩

theorem erase_wf {vals : List (String × Addr)} {order : List String} (k : String) (h : dictWF vals order) :
    dictWF (assocErase k vals) (order.erase k) :=
  ⟨by rw [assocErase_keys, h.1], h.2.erase k⟩

/-- `NewHashMap` is `AppendKVPair` entry by entry -/
theorem newHashMapCell_eq_foldl {ν : Type} (kvs : List (String × Addr)) :
    (newHashMapCell kvs : Cell ν) =
      .hm (kvs.foldl (fun acc kv => hmAppend acc.1 acc.2 kv.1 kv.2) ([], [])).1
          (kvs.foldl (fun acc kv => hmAppend acc.1 acc.2 kv.1 kv.2) ([], [])).2 := rfl

end ZnVerif.Model
