/-
C02: the model's statement evaluator refines the spec semantics on the control-flow fragment
(induction on the model's fuel, for every smaller spec fuel; the cases are in StmtRefineSimple /
StmtRefineDisplay / StmtRefineCtl / StmtRefineIter).
-/
import ZnVerif.Proofs.StmtRefineIter

namespace ZnVerif.Proofs
open ZnVerif.Model ZnVerif.Spec

variable {ν : Type} [NumOps ν]

theorem stmtSim_succ {ω : Addr → Option (SVal ν)} {mid : Int} {n m : Nat} (hle : m ≤ n) (hB : BlockSim ω mid n m) :
    StmtSim ω mid (n+1) (m+1) := by
  intro st s σ D ds h0 hst hinv
  cases hst with
  | varDecl ln pairs hp => exact sim_varDecl hle ln pairs hp hinv
  | expr e he => exact sim_exprStmt hle e he hinv
  | assign ln i rhs he ht => exact sim_assign hle ln i rhs he ht hinv
  | display ln nm params hnm hp => exact sim_display hle ln nm params hnm hp hinv
  | branch ln ifE ifB others hasElse elseB h1 h2 h3 h4 h5 =>
    exact sim_branch hle hB ln ifE ifB others hasElse elseB h1 h2 h3 (fun o ho => h4 o ho) h5 hinv
  | «while» ln cond body h1 h2 => exact sim_while hle hB ln cond body h1 h2 hinv
  | iterate ln e names body h1 h2 h3 => exact sim_iterate hle hB ln e names body h1 h2 h3 hinv
  | ret ln e he => exact sim_ret hle ln e he hinv
  | «break» ln => exact sim_break ln hinv
  | «continue» ln => exact sim_continue ln hinv
  | empty ln => exact sim_empty ln hinv

theorem stmt_block_sim (ω : Addr → Option (SVal ν)) (mid : Int) : ∀ (n m : Nat), m ≤ n → StmtSim ω mid n m ∧ BlockSim ω mid n m
  | 0, m, _ => by
    refine ⟨?_, blockSim_modelFuel m⟩
    intro st s σ D ds h0 _ _
    exact simS_modelFuel
  | n+1, 0, _ => by
    refine ⟨?_, blockSim_specFuel (n+1)⟩
    intro st s σ D ds h0 _ _
    exact simS_specFuel
  | n+1, 1, _ => ⟨stmtSim_succ (Nat.zero_le n) (blockSim_specFuel n), blockSim_specFuel1 (n+1)⟩
  | n+1, m+2, h =>
    ⟨stmtSim_succ (by omega) (stmt_block_sim ω mid n (m+1) (by omega)).2,
     sim_block (stmt_block_sim ω mid n m (by omega)).1⟩

end ZnVerif.Proofs
