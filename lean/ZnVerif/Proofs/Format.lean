/-
Helper lemmas for C14: the template scanner of `formatString` (table regenerated from the Go switch), its
index stack and the fill loop, against the segment semantics of Spec/Template.lean.
-/
import ZnVerif.Proofs.Directive

namespace ZnVerif.Proofs.Format
open ZnVerif.Model.Format ZnVerif.Generated
open ZnVerif.Spec.Template
open ZnVerif.Proofs.Directive (dirRun_eq stateOf)
open ZnVerif.Proofs.Template (isBrace_false isBrace_true takeRun_eq split_sound)

/-! ### the regenerated scanner table is the documented machine (states 1 begin, 2 literal, 3 format) -/

def refScanLookup (st ch : Nat) : ScanAct :=
  if ch = 0x7B then
    (if st = 1 then .move 3 [(0, 2), (1, 1)] 0 else if st = 2 then .move 3 [(1, 0), (0, 2), (1, 1)] 0 else .fail)
  else if ch = 0x7D then (if st = 3 then .move 1 [(1, 0)] 1 else .fail)
  else (if st = 1 then .move 2 [(0, 1), (1, 0)] 0 else .stay)

theorem scanLookup_eq_ref (st ch : Nat) : scanLookup st ch = refScanLookup st ch := by
  unfold scanLookup scanRows refScanLookup
  simp only [FormatDFA.scanCases, FormatDFA.scanStrict, List.find?, List.contains_cons, List.contains_nil]
  by_cases h1 : ch = 0x7B
  · subst h1; by_cases a : st = 1 <;> by_cases b : st = 2 <;> simp [a, b]
  by_cases h2 : ch = 0x7D
  · subst h2; by_cases a : st = 3 <;> simp [a]
  have e1 : ((0x7B : Nat) == ch) = false := by simp; omega
  have e2 : ((0x7D : Nat) == ch) = false := by simp; omega
  by_cases a : st = 1 <;> simp [e1, e2, h1, h2, a]

/-- one iteration of the scanner as the Go double switch reads, the pushed indices worked out -/
theorem scanStep_ref (st : Nat) (S : List Nat) (k idx c : Nat) : scanStep ⟨st, S, k⟩ idx c =
    if c = 0x7B then
      (if st = 1 then some ⟨3, S ++ [2, idx + 1], k⟩
       else if st = 2 then some ⟨3, S ++ [idx, 2, idx + 1], k⟩ else none)
    else if c = 0x7D then (if st = 3 then some ⟨1, S ++ [idx], k + 1⟩ else none)
    else if st = 1 then some ⟨2, S ++ [1, idx], k⟩ else some ⟨st, S, k⟩ := by
  simp only [scanStep, scanLookup_eq_ref, refScanLookup]
  by_cases h1 : c = 0x7B
  · simp only [if_pos h1]; by_cases a : st = 1 <;> by_cases b : st = 2 <;> simp [a, b]
  by_cases h2 : c = 0x7D
  · simp only [if_neg h1, if_pos h2]; by_cases a : st = 3 <;> simp [a]
  simp only [if_neg h1, if_neg h2]; by_cases a : st = 1 <;> simp [a]

theorem scan_stay (st : Nat) (hst : st = 2 ∨ st = 3) (a : List Nat) (ha : braceFree a) :
    ∀ (S : List Nat) (k idx : Nat) (rest : List Nat),
    scanLoop ⟨st, S, k⟩ idx (a ++ rest) = scanLoop ⟨st, S, k⟩ (idx + a.length) rest := by
  induction a with
  | nil => intro S k idx rest; simp
  | cons c a ih =>
    intro S k idx rest
    obtain ⟨h1, h2⟩ := (isBrace_false c).1 (ha c (by simp))
    rw [List.cons_append, scanLoop, scanStep_ref, if_neg h1, if_neg h2, if_neg (by omega)]
    dsimp only
    rw [ih (fun x hx => ha x (by simp [hx]))]
    congr 1
    simp; omega

/-- the `[type, start, end]` triples of a segment list whose text starts at index `i` -/
def encodeSegs : Nat → List Seg → List Nat
  | _, [] => []
  | i, .lit s :: r => 1 :: i :: (i + s.length) :: encodeSegs (i + s.length) r
  | i, .hole d :: r => 2 :: (i + 1) :: (i + 1 + d.length) :: encodeSegs (i + d.length + 2) r

/-- the code after the scan loop: close a pending literal run, `len(fmtStack) % 3` check -/
def finish (r : Option ScanSt) (n : Nat) : Option (List Nat × Nat) :=
  match r with
  | none => none
  | some s =>
    let stack := if s.state = 2 then s.stack ++ [n] else s.stack
    if stack.length % 3 ≠ 0 then none else some (stack, s.count)

/-- a literal run that ends at a brace or at the end behaves like the closed triple followed by a fresh start -/
theorem close_literal (S : List Nat) (k i i' : Nat) (r' : List Nat)
    (hr : ∀ c r, r' = c :: r → isBrace c = true) :
    finish (scanLoop ⟨2, S ++ [1, i], k⟩ i' r') (i' + r'.length) =
    finish (scanLoop ⟨1, S ++ [1, i, i'], k⟩ i' r') (i' + r'.length) := by
  cases r' with
  | nil => simp [scanLoop, finish]
  | cons c r =>
    rcases (isBrace_true c).1 (hr c r rfl) with rfl | rfl <;> simp [scanLoop, scanStep_ref]

/-- From the begin state, with whole triples on the stack, the scanner followed by `finish` does what the splitter does:
the stack grows by the triples of the segments (`encodeSegs`), the count by the number of holes, and it fails exactly where
`splitFuel` does.  The cases are `splitFuel`'s: 1 out of fuel, 2 end of text, 3 `{d}` closed, 4 a `{` inside a hole, 5 a hole
left open, 6 a stray `}`, 7 a literal run. -/
theorem scan_split (fuel : Nat) (rest : List Nat) : ∀ (i : Nat) (S : List Nat) (k : Nat),
    rest.length < fuel → S.length % 3 = 0 →
    finish (scanLoop ⟨1, S, k⟩ i rest) (i + rest.length) =
      (splitFuel fuel rest).map (fun segs => (S ++ encodeSegs i segs, k + (holes segs).length)) := by
  fun_induction splitFuel fuel rest with
  | case1 => intro _ _ _ h; cases h
  | case2 => intro i S k _ hS; simp [scanLoop, finish, encodeSegs, holes]; omega
  | case3 n r d r'' hr ih =>
    intro i S k hlen hS
    obtain ⟨rfl, e2, -⟩ := takeRun_eq hr
    rw [scanLoop, scanStep_ref, if_pos rfl, if_pos rfl]; dsimp only
    rw [scan_stay 3 (.inr rfl) _ e2, scanLoop, scanStep_ref, if_neg (by decide), if_pos rfl, if_pos rfl]; dsimp only
    have hn : i + (0x7B :: (d ++ 0x7D :: r'')).length = i + 1 + d.length + 1 + r''.length := by
      simp; omega
    rw [hn,
      ih _ (S ++ [2, i + 1] ++ [i + 1 + d.length]) _ (by simp at hlen; omega) (by simp; omega)]
    cases splitFuel n r'' with
    | none => rfl
    | some segs => simp [encodeSegs, holes]; exact ⟨by congr 1; omega, by omega⟩
  | case4 n r d c' r'' hc hr =>
    intro i S k _ hS
    obtain ⟨rfl, e2, e3⟩ := takeRun_eq hr
    have h1 : c' = 0x7B := ((isBrace_true c').1 (e3 _ _ rfl)).resolve_right hc
    rw [scanLoop, scanStep_ref, if_pos rfl, if_pos rfl]; dsimp only
    rw [scan_stay 3 (.inr rfl) _ e2, h1, scanLoop, scanStep_ref]; rfl
  | case5 n r d hr =>
    intro i S k _ hS
    obtain ⟨rfl, e2, -⟩ := takeRun_eq hr
    rw [scanLoop, scanStep_ref, if_pos rfl, if_pos rfl]; dsimp only
    rw [scan_stay 3 (.inr rfl) _ e2]
    simp [scanLoop, finish]; omega
  | case6 n r => intro i S k _ _; rw [scanLoop, scanStep_ref]; rfl
  | case7 n c r h1 h2 s r' hr ih =>
    intro i S k hlen hS
    obtain ⟨rfl, e2, e3⟩ := takeRun_eq hr
    rw [scanLoop, scanStep_ref, if_neg h1, if_neg h2, if_pos rfl]; dsimp only
    rw [scan_stay 2 (.inl rfl) _ e2]
    have hn : i + (c :: (s ++ r')).length = (i + 1 + s.length) + r'.length := by simp; omega
    rw [hn, close_literal S k i _ r' e3,
      ih _ (S ++ [1, i, i + 1 + s.length]) k (by simp at hlen; omega) (by simp; omega)]
    cases splitFuel n r' with
    | none => rfl
    | some segs => simp [encodeSegs, holes]; exact ⟨by omega, by congr 1; omega⟩

section
variable {ν κ : Type} (env : Env ν κ)

/-- the fill loop in terms of segments -/
def fillRef : List Seg → List (Arg ν κ) → Except FmtErr (List (List Nat))
  | [], _ => .ok []
  | .lit s :: r, args => (fillRef r args).map (s :: ·)
  | .hole _ :: _, [] => .error .panic
  | .hole d :: r, a :: args =>
    match elementToString env d a with
    | .error e => .error e
    | .ok str => (fillRef r args).map (str :: ·)

theorem drop_take_mid (pre s x : List Nat) : ((pre ++ (s ++ x)).drop pre.length).take s.length = s := by
  simp

/-- the slices `formatStrRune[start:end]` named by the stack are the segments' texts: no slice is out of range -/
theorem fill_encode : ∀ (segs : List Seg) (pre : List Nat) (args : List (Arg ν κ)),
    fill env (pre ++ unparse segs) (encodeSegs pre.length segs) args = fillRef env segs args := by
  intro segs
  induction segs with
  | nil => intro pre args; simp [encodeSegs, fill, fillRef]
  | cons sg r ih =>
    -- `pre` is the text already passed: the next triple is in range (`hguard`) and cuts out the next segment (`hslice`);
    -- the induction hypothesis is used with the segment appended to `pre`
    intro pre args
    cases sg with
    | lit s =>
      have hguard : pre.length ≤ pre.length + s.length ∧
          pre.length + s.length ≤ (pre ++ unparse (Seg.lit s :: r)).length := by
        simp [unparse]
      have hslice : ((pre ++ unparse (Seg.lit s :: r)).drop pre.length).take (pre.length + s.length - pre.length) = s := by
        have : pre.length + s.length - pre.length = s.length := by omega
        rw [this]; simp [unparse]
      simp only [encodeSegs, fill, hguard, and_self, if_true, hslice, FormatDFA.scan_fmtTypeLiteral, fillRef]
      have := ih (pre ++ s) args
      simp only [List.length_append, List.append_assoc] at this
      simp only [unparse]
      rw [this]
    | hole d =>
      have hguard : pre.length + 1 ≤ pre.length + 1 + d.length ∧
          pre.length + 1 + d.length ≤ (pre ++ unparse (Seg.hole d :: r)).length := by
        simp [unparse]; omega
      have hslice : ((pre ++ unparse (Seg.hole d :: r)).drop (pre.length + 1)).take (pre.length + 1 + d.length - (pre.length + 1)) = d := by
        have h1 : pre.length + 1 + d.length - (pre.length + 1) = d.length := by omega
        have h2 : pre ++ unparse (Seg.hole d :: r) = (pre ++ [0x7B]) ++ (d ++ 0x7D :: unparse r) := by simp [unparse]
        have h3 : pre.length + 1 = (pre ++ [0x7B]).length := by simp
        rw [h1, h2, h3]
        exact drop_take_mid _ _ _
      have hlen : (pre ++ 0x7B :: (d ++ [0x7D])).length = pre.length + d.length + 2 := by simp; omega
      have htxt : pre ++ 0x7B :: (d ++ [0x7D]) ++ unparse r = pre ++ unparse (Seg.hole d :: r) := by simp [unparse]
      cases args with
      | nil =>
        simp only [encodeSegs, fill, hguard, and_self, if_true, hslice, FormatDFA.scan_fmtTypeLiteral,
          FormatDFA.scan_fmtTypeFormatter, fillRef]
        simp
      | cons a args' =>
        have hih' := ih (pre ++ 0x7B :: (d ++ [0x7D])) args'
        rw [hlen, htxt] at hih'
        simp only [encodeSegs, fill, hguard, and_self, if_true, hslice, FormatDFA.scan_fmtTypeLiteral,
          FormatDFA.scan_fmtTypeFormatter, fillRef]
        simp only [show ¬ (2 = 1) by decide, if_false]
        cases elementToString env d a with
        | error e => rfl
        | ok str => simp only [hih']

theorem sprint_render (dir : Directive) (x : ν) :
    sprintFlags env (stateOf dir).flags x = renderNum env dir x := by
  obtain ⟨plus, prec, style⟩ := dir
  cases style <;> cases prec <;> simp [sprintFlags, DirSt.flags, stateOf, renderNum]

theorem parseNumberFormatter_spec (d : List Nat) (x : ν) :
    parseNumberFormatter env d x =
      match (parseDirective d).filter Directive.withinLimit with
      | none => .error .badDirective
      | some dir => .ok (renderNum env dir x) := by
  unfold parseNumberFormatter
  rw [dirRun_eq]
  cases (parseDirective d).filter Directive.withinLimit with
  | none => rfl
  | some dir => simp [sprint_render]

theorem elementToString_render (d : List Nat) (a : Arg ν κ) :
    (elementToString env d a).toOption = render env d a := by
  cases d with
  | nil => cases a <;> rfl
  | cons c rest =>
    by_cases hc : c = 0x23
    · subst hc
      cases a with
      | num x =>
        simp only [elementToString, render, if_true, parseNumberFormatter_spec]
        cases hp : parseDirective rest with
        | none => simp [Option.filter]; rfl
        | some dir =>
          by_cases hw : dir.withinLimit = true <;> (simp [Option.filter, hw]; rfl)
      | plain v | other =>
        simp only [elementToString, render, if_true]
        cases parseDirective rest <;> rfl
    · simp [elementToString, render, hc]; rfl

theorem elementToString_ne_panic (d : List Nat) (a : Arg ν κ) : elementToString env d a ≠ .error .panic := by
  cases d with
  | nil => cases a <;> simp [elementToString]
  | cons c rest =>
    by_cases hc : c = 0x23
    · subst hc
      cases a with
      | num x =>
        simp only [elementToString, if_true, parseNumberFormatter_spec]
        cases (parseDirective rest).filter Directive.withinLimit <;> simp
      | plain v | other => simp [elementToString]
    · simp [elementToString, hc]

theorem map_cons_spec (x : Except FmtErr (List (List Nat))) (s : List Nat) :
    ((x.map (s :: ·)).map List.flatten).toOption = ((x.map List.flatten).toOption).map (s ++ ·) ∧
      (x ≠ .error .panic → x.map (s :: ·) ≠ .error .panic) := by
  cases x with
  | error e => exact ⟨rfl, fun h h' => h (by cases e <;> first | rfl | cases h')⟩
  | ok v => exact ⟨rfl, fun _ h' => by cases h'⟩

theorem fillRef_spec : ∀ (segs : List Seg) (args : List (Arg ν κ)), args.length = (holes segs).length →
    ((fillRef env segs args).map List.flatten).toOption = fillSegs env segs args ∧
    fillRef env segs args ≠ .error .panic := by
  intro segs
  induction segs with
  | nil =>
    intro args h
    cases args with
    | nil => exact ⟨rfl, by simp [fillRef]⟩
    | cons a r => simp [holes] at h
  | cons sg r ih =>
    intro args h
    cases sg with
    | lit s =>
      obtain ⟨h1, h2⟩ := ih args (by simpa [holes] using h)
      obtain ⟨e1, e2⟩ := map_cons_spec (fillRef env r args) s
      exact ⟨by rw [fillRef, e1, h1, fillSegs], e2 h2⟩
    | hole d =>
      cases args with
      | nil => simp [holes] at h
      | cons a args' =>
        obtain ⟨h1, h2⟩ := ih args' (by simpa [holes] using h)
        have hr := elementToString_render env d a
        have hp := elementToString_ne_panic env d a
        simp only [fillRef, fillSegs]
        cases he : elementToString env d a with
        | error e =>
          rw [he] at hr hp
          exact ⟨by rw [← hr]; rfl, by simpa using hp⟩
        | ok str =>
          rw [he] at hr
          have hr' : render env d a = some str := by rw [← hr]; rfl
          obtain ⟨e1, e2⟩ := map_cons_spec (fillRef env r args') str
          exact ⟨by simp only [hr', e1, h1], e2 h2⟩

theorem fillSegs_none_iff : ∀ (segs : List Seg) (args : List (Arg ν κ)),
    fillSegs env segs args = none ↔
      (args.length ≠ (holes segs).length ∨
       ∃ (k : Nat) (d : List Nat) (a : Arg ν κ), (holes segs)[k]? = some d ∧ args[k]? = some a ∧ render env d a = none) := by
  intro segs
  induction segs with
  | nil =>
    intro args
    cases args with
    | nil | cons a r => simp [fillSegs, holes]
  | cons sg r ih =>
    intro args
    cases sg with
    | lit s =>
      simp only [fillSegs, holes, Option.map_eq_none_iff]
      exact ih args
    | hole d =>
      cases args with
      | nil => simp [fillSegs, holes]
      | cons a args' =>
        simp only [fillSegs, holes]
        cases hx : render env d a with
        | none =>
          simp only [true_iff]
          exact Or.inr ⟨0, d, a, rfl, rfl, hx⟩
        | some x =>
          simp only [Option.map_eq_none_iff]
          rw [ih args']
          constructor
          · rintro (h | ⟨k, d', a', h1, h2, h3⟩)
            · exact Or.inl (by simpa using h)
            · exact Or.inr ⟨k + 1, d', a', by simpa using h1, by simpa using h2, h3⟩
          · rintro (h | ⟨k, d', a', h1, h2, h3⟩)
            · exact Or.inl (by simpa using h)
            · cases k with
              | zero =>
                simp at h1 h2
                subst h1; subst h2
                rw [hx] at h3; simp at h3
              | succ k => exact Or.inr ⟨k, d', a', by simpa using h1, by simpa using h2, h3⟩

theorem fillSegs_length (segs : List Seg) (args : List (Arg ν κ)) (out : List Nat)
    (h : fillSegs env segs args = some out) : args.length = (holes segs).length :=
  Decidable.of_not_not fun hn => by
    rw [(fillSegs_none_iff env segs args).2 (.inl hn)] at h; cases h

theorem render_nil_none_iff (a : Arg ν κ) : render env [] a = none ↔ a = .other := by
  cases a <;> simp [render]

theorem render_cons_none_iff (c : Nat) (rest : List Nat) (a : Arg ν κ) :
    render env (c :: rest) a = none ↔
      (c ≠ 0x23 ∨ (∀ x, a ≠ .num x) ∨ ∀ dir, parseDirective rest = some dir → dir.withinLimit = false) := by
  by_cases hc : c = 0x23
  · subst hc
    simp only [render, if_true, ne_eq, not_true_eq_false, false_or]
    cases a with
    | num x =>
      cases hp : parseDirective rest with
      | none => simp
      | some dir =>
        by_cases hw : dir.withinLimit = true <;> simp [hw]
    | plain v | other => cases parseDirective rest <;> simp
  · simp [render, hc]

/-- the part of `formatString` after the scanner -/
def afterScan (t : List Nat) (args : List (Arg ν κ)) : Option (List Nat × Nat) → Except FmtErr (List Nat)
  | none => .error .invalidTemplate
  | some (stack, cnt) =>
    if args.length ≠ cnt then .error .unmatchParams else (fill env t stack args).map List.flatten

theorem formatString_afterScan (t : List Nat) (args : List (Arg ν κ)) :
    formatString env t args = afterScan env t args (finish (scanLoop ⟨1, [], 0⟩ 0 t) t.length) := by
  have e1 : FormatDFA.scanBegin = 1 := rfl
  have e2 : FormatDFA.scanCloseState = 2 := rfl
  have e3 : FormatDFA.scanModulus = 3 := rfl
  unfold formatString
  rw [e1]
  cases scanLoop ⟨1, [], 0⟩ 0 t with
  | none => rfl
  | some s =>
    simp only [e2, e3, finish]
    by_cases hmod : (if s.state = 2 then s.stack ++ [t.length] else s.stack).length % 3 ≠ 0
    · rw [if_pos hmod, if_pos hmod]; rfl
    · rw [if_neg hmod, if_neg hmod]; rfl

theorem formatString_exact (t : List Nat) (args : List (Arg ν κ)) :
    formatString env t args =
      match split t with
      | none => .error .invalidTemplate
      | some segs =>
        if args.length ≠ (holes segs).length then .error .unmatchParams
        else (fillRef env segs args).map List.flatten := by
  have hscan := scan_split (t.length + 1) t 0 [] 0 (by omega) (by simp)
  simp only [Nat.zero_add, List.nil_append] at hscan
  have hsplit : splitFuel (t.length + 1) t = split t := rfl
  rw [hsplit] at hscan
  rw [formatString_afterScan, hscan]
  cases hsp : split t with
  | none => rfl
  | some segs =>
    have hu := (split_sound t segs hsp).1
    simp only [Option.map_some, afterScan]
    by_cases hn : args.length ≠ (holes segs).length
    · rw [if_pos hn, if_pos hn]
    · rw [if_neg hn, if_neg hn]
      have := fill_encode env segs [] args
      simp only [List.nil_append, List.length_nil, hu] at this
      rw [this]

end

end ZnVerif.Proofs.Format
