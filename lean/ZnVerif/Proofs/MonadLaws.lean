/-
The spec monad `Spec.SM`: its bind case by case, and that it is lawful (the evaluator monad `Model.M`: Proofs/Calls).
-/
import ZnVerif.Spec.Sem

namespace ZnVerif.Proofs

variable {ν : Type}

open ZnVerif.Spec in
theorem SM.bind_def {α β} (m : SM ν α) (f : α → SM ν β) (σ : SState ν) :
    (m >>= f) σ = match m σ with
      | (.ok a, s') => f a s'
      | (.brk, s') => (.brk, s')
      | (.cont, s') => (.cont, s')
      | (.ret v, s') => (.ret v, s')
      | (.raise e, s') => (.raise e, s')
      | (.fatal c, s') => (.fatal c, s')
      | (.unspecified, s') => (.unspecified, s')
      | (.fuel, s') => (.fuel, s') := rfl

open ZnVerif.Spec in
theorem SM.bind_ok {α β} {m : SM ν α} {f : α → SM ν β} {σ σ' : SState ν} {a : α} (h : m σ = (.ok a, σ')) :
    (m >>= f) σ = f a σ' := by rw [SM.bind_def, h]

open ZnVerif.Spec in
instance : LawfulMonad (SM ν) := LawfulMonad.mk'
  (id_map := by
    intro α x; funext s
    show (x >>= fun a => pure (id a)) s = x s
    rw [SM.bind_def]
    rcases x s with ⟨r, s'⟩; cases r <;> rfl)
  (pure_bind := by intros; rfl)
  (bind_assoc := by
    intro α β γ x f g; funext s
    rw [SM.bind_def, SM.bind_def, SM.bind_def]
    rcases x s with ⟨r, s'⟩; cases r <;> rfl)

end ZnVerif.Proofs
