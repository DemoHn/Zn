/-
The frame rule of the lexer's scanners, stated on the lexer state alone so that the model's termination proofs can cite
it: `Frame k l l'` — `l'` is `l` moved forward over characters that are no line break, same text, same recorded line
starts.  `charAt`, `Plain`, `starts` are its vocabulary; the line-table invariant built on it is in Proofs/LinesInv.lean.
-/
import ZnVerif.Model.LexCore
import ZnVerif.Proofs.LineStarts

namespace ZnVerif.Model
open Spec.Lines

theorem modify_startIdx (ls : Array LineInfo) (i : Nat) (f : LineInfo → LineInfo)
    (hfx : ∀ x, (f x).startIdx = x.startIdx) :
    (ls.modify i f).toList.map (·.startIdx) = ls.toList.map (·.startIdx) := by
  rw [Array.toList_modify]
  apply List.ext_getElem
  · simp
  · intro n h1 h2
    simp only [List.getElem_map, List.getElem_modify]
    split <;> simp [hfx]

namespace LinesInv

/-- `Lexer.getChar` as a function of the text alone -/
def charAt (src : Array Nat) (i : Nat) : Nat := if h : i < src.size then src[i] else 0

theorem getChar_eq (l : Lexer) (i : Nat) : l.getChar i = charAt l.src i := rfl
theorem cur_eq (l : Lexer) : l.cur = charAt l.src l.cursor := rfl
theorem peek_eq (l : Lexer) : l.peek = charAt l.src (l.cursor + 1) := rfl
theorem peek2_eq (l : Lexer) : l.peek2 = charAt l.src (l.cursor + 2) := rfl

theorem charAt_ge {src : Array Nat} {i : Nat} (h : src.size ≤ i) : charAt src i = 0 := by
  unfold charAt; simp [Nat.not_lt.mpr h]

theorem lt_of_charAt_ne_zero {src : Array Nat} {i : Nat} (h : charAt src i ≠ 0) : i < src.size := by
  apply Classical.byContradiction
  intro hn
  exact h (charAt_ge (Nat.le_of_not_lt hn))

theorem break_eq (c : Nat) : (c == runeCR || c == runeLF) = isBreak c := rfl
theorem pair_eq (c d : Nat) : ((c == runeCR && d == runeLF) || (c == runeLF && d == runeCR)) = isPair c d := rfl

theorem nb_of_pred (P : Nat → Bool) (h13 : P 0x0D = false) (h10 : P 0x0A = false) {c : Nat} (h : P c = true) :
    isBreak c = false := by
  cases hb : isBreak c with
  | false => rfl
  | true =>
    rcases isBreak_cases hb with e | e
    · rw [e, h13] at h; cases h
    · rw [e, h10] at h; cases h

theorem nb_of_eq {c k : Nat} (h : (c == k) = true) (hk : isBreak k = false) : isBreak c = false := by
  have : c = k := by simpa using h
  rw [this]; exact hk

theorem nb_of_not (c : Nat) (h : (c == runeCR || c == runeLF) = false) : isBreak c = false := h

theorem nb_zero : isBreak 0 = false := by decide

theorem pair_false_of_nb {c d : Nat} (h : isBreak c = false) : isPair c d = false := by
  cases hp : isPair c d with
  | false => rfl
  | true => rw [pair_break_left hp] at h; cases h

theorem nb_of_pred_false (P : Nat → Bool) (h13 : P 0x0D = true) (h10 : P 0x0A = true) {c : Nat}
    (h : P c = false) : isBreak c = false := by
  cases hb : isBreak c with
  | false => rfl
  | true =>
    rcases isBreak_cases hb with e | e
    · rw [e, h13] at h; cases h
    · rw [e, h10] at h; cases h

/-- no line break at the positions `a ≤ i < b` of the text (`Model.Plain`, Proofs/Literal.lean, is a property of one character: ordinary
for `parseString`) -/
def Plain (src : Array Nat) (a b : Nat) : Prop := ∀ i, a ≤ i → i < b → isBreak (charAt src i) = false

theorem Plain.empty (src : Array Nat) (a : Nat) : Plain src a a := by
  intro i h1 h2; omega

theorem Plain.append {src : Array Nat} {a b c : Nat} (h1 : Plain src a b) (h2 : Plain src b c) : Plain src a c := by
  intro i hi1 hi2
  by_cases h : i < b
  · exact h1 i hi1 h
  · exact h2 i (by omega) hi2

theorem Plain.one {src : Array Nat} {a : Nat} (h : isBreak (charAt src a) = false) : Plain src a (a + 1) := by
  intro i h1 h2
  have : i = a := by omega
  rw [this]; exact h

theorem Plain.snoc {src : Array Nat} {a b : Nat} (h1 : Plain src a b) (h : isBreak (charAt src b) = false) :
    Plain src a (b + 1) := h1.append (Plain.one h)

def starts (l : Lexer) : List Nat := l.lines.toList.map (·.startIdx)


theorem starts_pushLine (l : Lexer) (li : LineInfo) : starts (l.pushLine li) = starts l ++ [li.startIdx] := by
  simp [starts, Lexer.pushLine]

theorem starts_modify (l : Lexer) (i : Nat) (f : LineInfo → LineInfo) (hf : ∀ x, (f x).startIdx = x.startIdx) :
    starts { l with lines := l.lines.modify i f } = starts l :=
  modify_startIdx l.lines i f hf

theorem starts_congr {l l' : Lexer} (h : l'.lines = l.lines) : starts l' = starts l := by
  unfold starts; rw [h]

/-- `l'` is `l` moved forward over non-break characters; `k = 0`: cursors on the next character to consume,
`k = 1`: cursors on the last consumed character -/
structure Frame (k : Nat) (l l' : Lexer) : Prop where
  src : l'.src = l.src
  sts : starts l' = starts l
  bl : l'.beginLex = l.beginLex
  le : l.cursor ≤ l'.cursor
  plain : Plain l.src (l.cursor + k) (l'.cursor + k)

theorem Frame.refl (k : Nat) (l : Lexer) : Frame k l l :=
  ⟨rfl, rfl, rfl, Nat.le_refl _, Plain.empty _ _⟩

theorem Frame.trans {k : Nat} {a b c : Lexer} (h1 : Frame k a b) (h2 : Frame k b c) : Frame k a c :=
  ⟨by rw [h2.src, h1.src], by rw [h2.sts, h1.sts], by rw [h2.bl, h1.bl], Nat.le_trans h1.le h2.le,
    h1.plain.append (by have := h2.plain; rw [h1.src] at this; exact this)⟩

theorem Frame.of_eq {k : Nat} {l l' : Lexer} (h1 : l'.src = l.src) (h2 : starts l' = starts l)
    (h3 : l'.beginLex = l.beginLex) (h4 : l'.cursor = l.cursor) : Frame k l l' :=
  ⟨h1, h2, h3, Nat.le_of_eq h4.symm, by rw [h4]; exact Plain.empty _ _⟩

theorem Frame.adv0 {l : Lexer} (h : isBreak l.cur = false) : Frame 0 l l.adv :=
  ⟨rfl, rfl, rfl, Nat.le_succ _, Plain.one h⟩

theorem Frame.adv1 {l : Lexer} (h : isBreak l.peek = false) : Frame 1 l l.adv :=
  ⟨rfl, rfl, rfl, Nat.le_succ _, Plain.one h⟩

/-- from the view of the loops (`k = 1`) to the view between tokens (`k = 0`): the character under the first cursor is no
break, and one more `Next()` leaves the last consumed character -/
theorem Frame.close {l l' : Lexer} (h : Frame 1 l l') (h0 : isBreak l.cur = false) : Frame 0 l l'.adv :=
  ⟨h.src, h.sts, h.bl, Nat.le_succ_of_le h.le, (Plain.one h0).append h.plain⟩

end LinesInv
end ZnVerif.Model
