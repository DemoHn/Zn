/-
Comment tokens are invisible to the parser (the theorem: Proofs/CmtSim.lean): the two runs as a frame of the relational logic of Proofs/ParserSim.lean.

Two runs of the parser model over the token-level lexer `layoutOps Y`: the "clean" run on a token list without its comments, and the
"raw" run on the list with the comments, with `K` more fuel in every `next()` (`K` bounds the length of the raw list).  The state of
the clean run is `cl s` (= `s` with `lex := clean s.lex`) where `s` is the state of the raw run.

`fetch_clean`: the head of `next()` on both lists — leading comments are skipped, one unit of fuel each; `frame Y K`, `frame_laws`: the two
runs as a frame and its laws (all but `next` immediate: the clean state is the raw state with another token list, and the parser reads
the lines through the same `Y`).
(`Le K r2 r1`, `R K s x2 x1` spell the frame's judgment out on its own terms; no proof goes through them.  `cl_*` read the fields of `cl s`.)
-/
import ZnVerif.Spec.StmtSyntax
import ZnVerif.Proofs.ParserSim

namespace ZnVerif.Proofs.CmtSim
open ZnVerif.Model ZnVerif.Model.Parser ZnVerif.Generated.Tokens
open ZnVerif.Spec.StmtSyntax

def noC (t : Token) : Bool := t.type != cTypeComment
def clean (l : List Token) : List Token := l.filter noC

theorem clean_cons_comment {t : Token} {r : List Token} (h : t.type = cTypeComment) : clean (t :: r) = clean r := by
  have : noC t = false := by simp [noC, h]
  simp only [clean, List.filter_cons, this]; rfl

theorem clean_cons_other {t : Token} {r : List Token} (h : t.type ≠ cTypeComment) : clean (t :: r) = t :: clean r := by
  have : noC t = true := by simp [noC, h]
  simp only [clean, List.filter_cons, this]; rfl

theorem clean_of_no_comment {ts : List Token} (h : ∀ t ∈ ts, t.type ≠ cTypeComment) : clean ts = ts := by
  unfold clean
  rw [List.filter_eq_self]
  intro t ht
  simp [noC, h t ht]

abbrev St := PState (List Token)

/-- the state of the run on the cleaned list -/
def cl (s : St) : St := { s with lex := clean s.lex }

@[simp] theorem cl_p1 (s : St) : (cl s).p1 = s.p1 := rfl
@[simp] theorem cl_p2 (s : St) : (cl s).p2 = s.p2 := rfl
@[simp] theorem cl_sl1 (s : St) : (cl s).sl1 = s.sl1 := rfl
@[simp] theorem cl_el1 (s : St) : (cl s).el1 = s.el1 := rfl
@[simp] theorem cl_sl2 (s : St) : (cl s).sl2 = s.sl2 := rfl
@[simp] theorem cl_el2 (s : St) : (cl s).el2 = s.el2 := rfl
@[simp] theorem cl_flag (s : St) : (cl s).flag = s.flag := rfl
@[simp] theorem cl_lex (s : St) : (cl s).lex = clean s.lex := rfl

section
variable (Y : Layout)

@[simp] theorem cl_blockCond (d : Nat) (s : St) : blockCond (layoutOps Y) d (cl s) = blockCond (layoutOps Y) d s := rfl
@[simp] theorem cl_peekIndentOf (s : St) : peekIndentOf (layoutOps Y) (cl s) = peekIndentOf (layoutOps Y) s := rfl
@[simp] theorem cl_currIndentOf (s : St) : currIndentOf (layoutOps Y) (cl s) = currIndentOf (layoutOps Y) s := rfl
@[simp] theorem cl_meetStmtBreak (s : St) : meetStmtBreak (cl s) = meetStmtBreak s := rfl

end

/-- clean result versus raw result -/
def Le (K : Nat) {β : Type} (r2 r1 : Res (List Token) β) : Prop :=
  match r2, r1 with
  | .fuel, _ => True
  | .ok a2 s2, .ok a1 s1 => a2 = a1 ∧ s2 = cl s1 ∧ s1.lex.length ≤ K
  | .err e2, .err e1 => e2 = e1
  | .panic, .panic => True
  | _, _ => False

/-- clean computation versus raw computation, from the raw state `s` -/
def R (K : Nat) {β : Type} (s : St) (x2 x1 : PM (List Token) β) : Prop :=
  s.lex.length ≤ K → Le K (x2 (cl s)) (x1 s)

variable {K : Nat} {β : Type} {s : St}

theorem Le.refl_err (e : SynErr) : Le K (.err e : Res (List Token) β) (.err e) := rfl
theorem Le.refl_panic : Le K (.panic : Res (List Token) β) .panic := trivial

theorem R_throwErr (e : SynErr) : R K s (throwErr e : PM (List Token) β) (throwErr e) := fun _ => rfl

variable (Y : Layout)

theorem eof_not_comment : ¬ Y.eof.type = cTypeComment := by
  show ¬ cTypeEOF = cTypeComment
  decide

/-- leading comments are skipped, each costs one unit of fuel -/
theorem fetch_clean (m : Nat) : ∀ (l : List Token) (j : Nat), l.length ≤ j →
    ∃ tk l1, fetch (layoutOps Y) (m + 1) (clean l) = .ok tk (clean l1) ∧
      fetch (layoutOps Y) (m + 1 + j) l = .ok tk l1 ∧ l1.length ≤ l.length
  | [], j, _ => by
    refine ⟨Y.eof, [], ?_, ?_, Nat.le_refl _⟩
    · simp only [clean, List.filter_nil, fetch, layoutOps, eof_not_comment, if_false]
    · rw [show m + 1 + j = (m + j) + 1 by omega]
      simp only [fetch, layoutOps, eof_not_comment, if_false]
  | t :: r, j, hj => by
    by_cases hc : t.type = cTypeComment
    · obtain ⟨j', rfl⟩ : ∃ j', j = j' + 1 := ⟨j - 1, by simp only [List.length_cons] at hj; omega⟩
      obtain ⟨tk, l1, h1, h2, h3⟩ := fetch_clean m r j' (by simp only [List.length_cons] at hj; omega)
      refine ⟨tk, l1, ?_, ?_, ?_⟩
      · rw [clean_cons_comment hc]; exact h1
      · rw [show m + 1 + (j' + 1) = (m + 1 + j') + 1 by omega]
        rw [← h2]
        simp only [fetch, layoutOps, hc, if_true]
      · simp only [List.length_cons]; omega
    · refine ⟨t, r, ?_, ?_, ?_⟩
      · rw [clean_cons_other hc]
        simp only [fetch, layoutOps, hc, if_false]
      · rw [show m + 1 + j = (m + j) + 1 by omega]
        simp only [fetch, layoutOps, hc, if_false]
      · simp only [List.length_cons]; omega

/-- the two runs as a frame of Proofs/ParserSim.lean: the clean run first (it may run out of fuel where the raw run, with `K` more
in every `next()`, does not); the token count plays no part; `R K s x2 x1` above is `ParserSim.Sim (frame Y K) 0 (cl s) s x2 x1 Any`
written out -/
def frame (K : Nat) : ParserSim.Frame (List Token) (List Token) where
  o₁ := layoutOps Y
  o₂ := layoutOps Y
  K := K
  lax := True
  Rel _ s₂ s₁ := s₂ = cl s₁ ∧ s₁.lex.length ≤ K
  Tok _ _ := True

theorem frame_laws (K : Nat) : (frame Y K).Laws where
  fuel := Or.inl trivial
  tok_mono _ _ := trivial
  win := by rintro _ _ _ ⟨rfl, _⟩; rfl
  tok_p2 _ := trivial
  flag := by rintro _ _ _ _ ⟨rfl, h⟩; exact ⟨rfl, h⟩
  indents := by rintro _ _ _ ⟨rfl, _⟩ _ _; rfl
  line := by rintro _ _ _ _ ⟨rfl, _⟩ _; rfl
  next := by
    rintro m j _ s ⟨rfl, hI⟩
    cases m with
    | zero => exact ParserSim.Out.fuel (Or.inl trivial)
    | succ m =>
      obtain ⟨tk, l1, h1, h2, h3⟩ := fetch_clean Y m s.lex K hI
      show ParserSim.Out (frame Y K) j ParserSim.Any (next (layoutOps Y) (m + 1) (cl s)) (next (layoutOps Y) (m + 1 + K) s)
      unfold next
      rw [cl_lex, h1, h2]
      exact ⟨rfl, j, Nat.le_refl _, ⟨rfl, by show l1.length ≤ K; omega⟩, trivial⟩

end ZnVerif.Proofs.CmtSim
