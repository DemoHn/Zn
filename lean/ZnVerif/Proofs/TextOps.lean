/-
Helper lemmas for C14: 取样 (index arithmetic + positions), 分隔 (byte-level cutting never lands inside a character), and
what 匹配 / 替换 / 格式化 / 转换数值 take from here: an encoded pattern is found at character boundaries only (`prefix_encode`,
`not_prefix_at_cont`, `tokens_one_encode`), and the pieces joined are the text (`join_splitOn`, `encode_join`).
-/
import ZnVerif.Proofs.TextScan

namespace ZnVerif.Proofs.TextOps
open ZnVerif.Model ZnVerif.Spec
open ZnVerif.Proofs.TextUtf8 ZnVerif.Proofs.TextScan

/-- the positions `a..b` of a sequence whose first element has position `p`: drop up to `a`, take up to `b` -/
theorem pick_eq {α : Type} (a b : Int) : ∀ (cs : List α) (p : Int),
    TextOps.pick a b p cs = (cs.drop (a - p).toNat).take (b + 1 - max a p).toNat
  | [], p => by simp [TextOps.pick]
  | c :: r, p => by
    rw [TextOps.pick, pick_eq a b r (p + 1)]
    by_cases h : a ≤ p ∧ p ≤ b
    · rw [if_pos h, show (a - p).toNat = 0 by omega, show (a - (p + 1)).toNat = 0 by omega,
        show (b + 1 - max a p).toNat = (b + 1 - max a (p + 1)).toNat + 1 by omega]
      rfl
    · rw [if_neg h]
      by_cases hp : p < a
      · rw [show (a - p).toNat = (a - (p + 1)).toNat + 1 by omega, show max a (p + 1) = max a p by omega]
        rfl
      · rw [show (b + 1 - max a (p + 1)).toNat = 0 by omega, show (b + 1 - max a p).toNat = 0 by omega]
        rfl

theorem pick_map {α β : Type} (f : α → β) (a b : Int) (cs : List α) (p : Int) :
    TextOps.pick a b p (cs.map f) = (TextOps.pick a b p cs).map f := by
  rw [pick_eq, pick_eq, List.map_take, List.map_drop]

theorem slice_map {α β : Type} (f : α → β) (cs : List α) (i j : Int) :
    Spec.TextOps.slice (cs.map f) i j = (Spec.TextOps.slice cs i j).map (List.map f) := by
  unfold Spec.TextOps.slice
  simp only [List.length_map]
  split
  · rfl
  · split
    · rfl
    · simp [Except.map, pick_map]

def liftErr : Spec.TextOps.SliceErr → Model.TextOps.SliceErr
  | .startIndex => .startIndex
  | .endIndex => .endIndex

/-- `strExecSlice` (rune version) on an encoded text = the spec's positions a..b, encoded -/
theorem slice_encode (t : List Nat) (hv : ValidText t) (i j : Int) :
    Model.TextOps.slice (Model.TextOps.encode t) i j =
      match Spec.TextOps.slice t i j with
      | .ok r => .ok (Model.TextOps.encode r)
      | .error e => .error (liftErr e) := by
  unfold Model.TextOps.slice Spec.TextOps.slice Spec.TextOps.position
  rw [runes_encode t hv]
  dsimp only
  have hpos : ∀ k : Int, (if k < 0 then (t.length : Int) + k + 1 else k) = (if k < 0 then (t.length : Int) + 1 + k else k) := by
    intro k; split <;> omega
  rw [hpos, hpos]
  generalize ha : (if i < 0 then (t.length : Int) + 1 + i else i) = a
  by_cases h1 : a < 1
  · simp [h1, liftErr]
  · rw [if_neg h1, if_neg h1]
    by_cases h2 : j > (t.length : Int)
    · simp [h2, liftErr]
    · rw [if_neg h2, if_neg h2]
      generalize hb : (if j < 0 then (t.length : Int) + 1 + j else j) = b
      have hbn : b ≤ t.length := by
        rw [← hb]; split <;> omega
      dsimp only
      rw [pick_eq, show max a 1 = a by omega]
      by_cases h3 : a > b
      · rw [if_pos h3, show (b + 1 - a).toNat = 0 by omega]
        rfl
      · rw [if_neg h3, if_pos (by omega), show (b - (a - 1)).toNat = (b + 1 - a).toNat by omega]

/-- an occurrence of the encoded separator at a character boundary is an occurrence of the separator -/
theorem prefix_encode (sep t : List Nat) (hvs : ValidText sep) (hvt : ValidText t) :
    (Model.TextOps.encode sep).isPrefixOf (Model.TextOps.encode t) = sep.isPrefixOf t := by
  apply Bool.eq_iff_iff.2
  rw [List.isPrefixOf_iff_prefix, List.isPrefixOf_iff_prefix]
  constructor
  · -- the decoder reads `sep` off the front of `encode t`, and it reads `t`
    rintro ⟨y, h⟩
    have := runes_encode t hvt
    rw [← h, Model.TextOps.runes, decodeLoop_encode_append sep hvs y _ (Nat.le_refl _), List.map_append, List.map_map] at this
    exact ⟨_, (by rw [Function.comp_def, List.map_id'] : _ = _).trans this⟩
  · rintro ⟨r, rfl⟩
    exact ⟨_, (encode_append sep r).symm⟩

theorem not_prefix_at_cont {pat : List Nat} {b0 : Nat} {pb : List Nat} (hpat : pat = b0 :: pb)
    (hb0 : Model.TextOps.isCont b0 = false) {x : Nat} (hx : Model.TextOps.isCont x = true) (l : List Nat) :
    pat.isPrefixOf (x :: l) = false := by
  have hne : b0 ≠ x := by
    intro h; rw [h, hx] at hb0; cases hb0
  rw [hpat]; simp [List.isPrefixOf, hne]

/-- the Go routine and the spec are the same loop, one on bytes, one on characters -/
theorem splitGo_eq_splitOn (sep : List Nat) : ∀ (s : List Nat) (skip : Nat) (cur : List Nat),
    Model.TextOps.splitGo sep skip cur s = Spec.TextOps.splitOn sep skip cur s := by
  intro s
  induction s with
  | nil => intro skip cur; cases skip <;> rfl
  | cons b rest ih =>
    intro skip cur
    cases skip with
    | succ k => simp only [Model.TextOps.splitGo, Spec.TextOps.splitOn]; exact ih k cur
    | zero =>
      simp only [Model.TextOps.splitGo, Spec.TextOps.splitOn]
      split
      · rw [ih]
      · rw [ih]

/-- a non-empty pattern of characters: the bytes of its encoding are found in the encoding of a text exactly where the
pattern is found among the characters -/
theorem tokens_one_encode {pat : List Nat} (hp : pat ≠ []) (hvp : ValidText pat) (t : List Nat) (hvt : ValidText t) :
    tokens (one (Model.TextOps.encode pat)) 0 (Model.TextOps.encode t) =
      (tokens (one pat) 0 t).flatMap (Sum.elim (fun c => (Model.TextOps.encodeRune c).map .inl) fun v => [.inr v]) := by
  refine tokens_encode id ?_ ?_ ?_ t hvt
  · obtain ⟨p0, pat', rfl⟩ := List.exists_cons_of_ne_nil hp
    obtain ⟨b0, bs, hb, hb0, _⟩ := encodeRune_shape p0 ((validText_cons p0 pat').1 hvp).1
    intro x l hx
    rw [one, not_prefix_at_cont (by rw [encode_cons, hb]; rfl) hb0 hx]; rfl
  · intro t hvt
    rw [one, one, prefix_encode pat t hvp hvt]
    by_cases h : pat.isPrefixOf t = true
    · obtain ⟨r, rfl⟩ := List.isPrefixOf_iff_prefix.1 h
      rw [if_pos h, if_pos h, Option.map_some, List.take_left]
    · rw [if_neg h, if_neg h]; rfl
  · intro t n v h
    rw [one] at h
    by_cases hpre : pat.isPrefixOf t = true
    · rw [if_pos hpre] at h; cases h; exact List.length_pos_iff.2 hp
    · rw [if_neg hpre] at h; cases h

/-- the byte-level cutting of an encoded text by an encoded (non-empty) separator yields exactly the encoded
pieces of the character-level cutting: no cut lands inside a character -/
theorem splitGo_encode (sep : List Nat) (hsep : sep ≠ []) (hvs : ValidText sep) (t : List Nat) (hvt : ValidText t) :
    Model.TextOps.splitGo (Model.TextOps.encode sep) 0 [] (Model.TextOps.encode t) =
      (Spec.TextOps.splitOn sep 0 [] t).map Model.TextOps.encode := by
  rw [splitGo_eq_splitOn, splitOn_tokens, splitOn_tokens, tokens_one_encode hsep hvs t hvt]
  exact pieces_encode _ []

/-- `strExecSplit` on encoded texts = the spec's pieces, encoded -/
theorem split_encode (t sep : List Nat) (hvt : ValidText t) (hvs : ValidText sep) :
    Model.TextOps.split (Model.TextOps.encode t) (Model.TextOps.encode sep) =
      (Spec.TextOps.split t sep).map Model.TextOps.encode := by
  unfold Model.TextOps.split Spec.TextOps.split
  by_cases hs : sep = []
  · subst hs
    simp only [encode_nil, if_true]
    rw [explode_encode t hvt]
    simp [Model.TextOps.encode]
  · rw [if_neg (encode_ne_nil hs), if_neg hs]
    exact splitGo_encode sep hs hvs t hvt

theorem join_cons_ne (sep p : List Nat) (ps : List (List Nat)) (h : ps ≠ []) :
    TextOps.join sep (p :: ps) = p ++ sep ++ TextOps.join sep ps := by
  cases ps with
  | nil => exact absurd rfl h
  | cons q r => rfl

theorem splitOn_ne_nil (sep : List Nat) : ∀ (t : List Nat) (k : Nat) (cur : List Nat),
    TextOps.splitOn sep k cur t ≠ [] := by
  intro t
  induction t with
  | nil => intro k cur; simp [TextOps.splitOn]
  | cons c t ih =>
    intro k cur
    cases k with
    | succ k => simp [TextOps.splitOn, ih]
    | zero =>
      simp only [TextOps.splitOn]
      split
      · simp
      · exact ih 0 _

/-- joined by the separator, the pieces are the text (the part of the separator still being passed over is
accounted for by `k`) -/
theorem join_splitOn (sep : List Nat) (hsep : sep ≠ []) : ∀ (t : List Nat) (k : Nat) (cur : List Nat), k ≤ t.length →
    TextOps.join sep (TextOps.splitOn sep k cur t) = cur ++ t.drop k := by
  intro t
  induction t with
  | nil => intro k cur hk; simp at hk; subst hk; simp [TextOps.splitOn, TextOps.join]
  | cons c t ih =>
    intro k cur hk
    cases k with
    | succ k =>
      simp only [TextOps.splitOn, List.drop_succ_cons]
      exact ih k cur (by simp at hk; omega)
    | zero =>
      simp only [TextOps.splitOn, List.drop_zero]
      by_cases hp : sep.isPrefixOf (c :: t) = true
      · rw [if_pos hp, join_cons_ne _ _ _ (splitOn_ne_nil sep t _ _)]
        obtain ⟨r, hr⟩ := List.isPrefixOf_iff_prefix.1 hp
        cases sep with
        | nil => exact absurd rfl hsep
        | cons s sep' =>
          simp at hr
          obtain ⟨rfl, rfl⟩ := hr
          simp only [List.length_cons, Nat.add_sub_cancel]
          rw [ih sep'.length [] (by simp)]
          simp
      · rw [if_neg hp, ih 0 (cur ++ [c]) (Nat.zero_le _)]
        simp

theorem encode_join (sep : List Nat) : ∀ (ps : List (List Nat)),
    Model.TextOps.encode (Spec.TextOps.join sep ps) =
      Spec.TextOps.join (Model.TextOps.encode sep) (ps.map Model.TextOps.encode)
  | [] => rfl
  | [p] => rfl
  | p :: q :: r => by
    have ih := encode_join sep (q :: r)
    simp only [Spec.TextOps.join, List.map_cons, encode_append] at ih ⊢
    rw [ih]

end ZnVerif.Proofs.TextOps
