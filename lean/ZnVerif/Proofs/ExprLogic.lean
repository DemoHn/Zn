/-
C01 refinement: the logic (且 或) and comparison nodes, for any operand computations that simulate.
-/
import ZnVerif.Proofs.ExprBase

namespace ZnVerif.Proofs
open ZnVerif.Model ZnVerif.Spec

variable {ν : Type} [NumOps ν]

section
variable {ω : Addr → Option (SVal ν)} {d n k' ty : Nat} {s : VM ν} {σ : SState ν}

theorem sim_newBool (b : Bool) : Sim d (Reads ω 1) s σ (newBool b) (pure (.bool b)) :=
  sim_alloc (k := 0) _ _ (.bool b)

theorem sim_andorNode {el er : M ν Addr} {el' er' : SM ν (SVal ν)} (hty : ty = LogicAND ∨ ty = LogicOR)
    (hl : Sim d (Reads ω k') s σ el el') (hr : ∀ s1, Frame s s1 → Sim d (Reads ω k') s1 σ er er') :
    Sim d (Reads ω 1) s σ (andorNode ty el er) (andorNodeS ty el' er') := by
  refine sim_bind hl fun s1 a v hF hq => sim_withBool rfl hq fun lb => ?_
  have right : ∀ f : Bool → Bool, (∀ rb, f rb = rb) → Sim d (Reads ω 1) s1 σ
      (do let rv ← er; getCell rv >>= withBool 80 fun rb => newBool (f rb)) (er' >>= withBoolS 80 fun rb => pure (.bool rb)) :=
    fun f hf => sim_bind (hr s1 hF) fun s2 a2 v2 _ hq2 => sim_withBool rfl hq2 fun rb => by
      rw [hf]; exact sim_newBool rb
  rcases hty with rfl | rfl <;> cases lb
  · exact sim_newBool false
  · exact right _ fun _ => rfl
  · exact right _ fun _ => rfl
  · exact sim_newBool true

theorem sim_eqNode {a a2 : Addr} {v v2 : SVal ν} (hty : ty = LogicEQ ∨ ty = LogicXEQ ∨ ty = LogicNEQ ∨ ty = LogicXNEQ)
    (hq : Reads ω (n + d) s a v) (hq2 : Reads ω (n + d) s a2 v2) :
    Sim d (Reads ω 1) s σ (cmpNode ty (compareXEQ n) a a2) (cmpNodeS ty n v v2) := by
  have eq : ∀ f : Bool → Bool, Sim d (Reads ω 1) s σ (do let b ← compareXEQ n a a2; newBool (f b))
      (match valEq n v v2 with
        | some eq => pure (.bool (f eq))
        | none => fault 83) := fun f => by
    obtain ⟨X, hX, hR⟩ := cmp_sim ω s n (n + d) a a2 v v2 hq hq2
    generalize valEq n v v2 = o at hR ⊢
    cases hR with
    | ok bv => exact sim_left (by rw [Calls.M_bind_def, hX]) (sim_newBool _)
    | err _ => exact sim_left (m2 := rtErr 83) (by rw [Calls.M_bind_def, hX]; rfl) (sim_rt' 83 83 rfl)
    | fuel h => exact sim_left (m2 := outOfFuel) (by rw [Calls.M_bind_def, hX]; rfl) (sim_fuelCmp (by omega))
  rcases hty with rfl | rfl | rfl | rfl
  · exact eq fun b => b
  · exact eq fun b => b
  · exact eq fun b => !b
  · exact eq fun b => !b

theorem sim_orderNode {a a2 : Addr} {v v2 : SVal ν} (hty : ty = LogicGT ∨ ty = LogicGTE ∨ ty = LogicLT ∨ ty = LogicLTE)
    (hq : Reads ω k' s a v) (hq2 : Reads ω k' s a2 v2) :
    Sim d (Reads ω 1) s σ (cmpNode ty (compareXEQ n) a a2) (cmpNodeS ty n v v2) := by
  have order : ∀ f : ν → ν → Bool, Sim d (Reads ω 1) s σ
      (getCell a >>= withNum 83 fun x => getCell a2 >>= withNum 84 fun y => newBool (f x y))
      (v |> withNumS 83 fun x => v2 |> withNumS 83 fun y => pure (.bool (f x y))) :=
    fun f => sim_withNum rfl hq fun x => sim_withNum rfl hq2 fun y => sim_newBool _
  rcases hty with rfl | rfl | rfl | rfl <;> exact order _

theorem sim_logicNode {el er : M ν Addr} {el' er' : SM ν (SVal ν)} (hty : ty ∈ logicTys)
    (hl : Sim d (Reads ω (n + d)) s σ el el') (hr : ∀ s1, Frame s s1 → Sim d (Reads ω (n + d)) s1 σ er er') :
    Sim d (Reads ω 1) s σ (logicNode ty (compareXEQ n) el er) (logicNodeS ty n el' er') := by
  have cmp : (ty == LogicAND || ty == LogicOR) = false →
      (∀ s2 a a2 v v2, Reads ω (n + d) s2 a v → Reads ω (n + d) s2 a2 v2 →
        Sim d (Reads ω 1) s2 σ (cmpNode ty (compareXEQ n) a a2) (cmpNodeS ty n v v2)) →
      Sim d (Reads ω 1) s σ (logicNode ty (compareXEQ n) el er) (logicNodeS ty n el' er') := fun h hc => by
    simp only [logicNode, logicNodeS, h, Bool.false_eq_true, if_false]
    exact sim_bind hl fun s1 a v hF hq => sim_bind (hr s1 hF) fun s2 a2 v2 hF2 hq2 => hc s2 a a2 v v2 (hq.frame hF2) hq2
  have cls : (ty = LogicAND ∨ ty = LogicOR) ∨ (ty = LogicEQ ∨ ty = LogicXEQ ∨ ty = LogicNEQ ∨ ty = LogicXNEQ) ∨
      (ty = LogicGT ∨ ty = LogicGTE ∨ ty = LogicLT ∨ ty = LogicLTE) := by
    simp only [logicTys, List.mem_cons, List.not_mem_nil, or_false] at hty
    rcases hty with h | h | h | h | h | h | h | h | h | h <;> subst h <;> decide
  rcases cls with h | h | h
  · rw [logicNode_andor h]; rcases h with rfl | rfl <;> exact sim_andorNode (by decide) hl hr
  · exact cmp (by rcases h with rfl | rfl | rfl | rfl <;> rfl) fun _ _ _ _ _ hq hq2 => sim_eqNode h hq hq2
  · exact cmp (by rcases h with rfl | rfl | rfl | rfl <;> rfl) fun _ _ _ _ _ hq hq2 => sim_orderNode h hq hq2

end

end ZnVerif.Proofs
