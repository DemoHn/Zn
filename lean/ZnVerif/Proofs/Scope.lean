/-
Helper lemmas for C06: the array/loop code of `Model/Scope.lean` read as list operations on the live
symbols (`endScope_live` … `declareExternalValue_live`; what an assignment and a declaration answer are the relations
`SetLoop` and `Declared`, which the later files take by cases), the live symbols grouped by depth read as the spec's
frame stack (`abs`), the one-step simulation `step_sim` under the invariant `Sim` and its lift to histories `run_sim`.
Core Lean only.
-/
import ZnVerif.Model.ScopeRun
import ZnVerif.Proofs.SortedByKey

namespace ZnVerif.Proofs.Scope
open ZnVerif.SymTab ZnVerif.Spec.Scopes

variable {α : Type}

structure Entry (α : Type) where
  sym : LocalSymbol
  value : α
  ext : Option Nat

/-- symbols `n-1, …, 0` with their values and their `externalRefs` entries -/
def liveAux (locals : Array LocalSymbol) (values : Array α) (refs : List (Nat × Nat)) : Nat → List (Entry α)
  | 0 => []
  | n + 1 =>
    match locals[n]?, values[n]? with
    | some s, some v => ⟨s, v, refLookup refs n⟩ :: liveAux locals values refs n
    | _, _ => liveAux locals values refs n     -- not the case when `n < size` of both (see `WF`)

def live (σ : Scope α) : List (Entry α) := liveAux σ.locals σ.values σ.externalRefs σ.localCount

/-- the slices are long enough for `localCount` -/
def WF (σ : Scope α) : Prop := σ.localCount ≤ σ.locals.size ∧ σ.localCount ≤ σ.values.size

theorem liveAux_succ (locals : Array LocalSymbol) (values : Array α) (refs) (n : Nat)
    (h1 : n < locals.size) (h2 : n < values.size) :
    liveAux locals values refs (n + 1) = ⟨locals[n], values[n], refLookup refs n⟩ :: liveAux locals values refs n := by
  simp [liveAux, h1, h2]

theorem liveAux_succ' (locals : Array LocalSymbol) (values : Array α) (refs) (n : Nat) (s : LocalSymbol) (v : α)
    (h1 : locals[n]? = some s) (h2 : values[n]? = some v) :
    liveAux locals values refs (n + 1) = ⟨s, v, refLookup refs n⟩ :: liveAux locals values refs n := by
  simp [liveAux, h1, h2]

theorem liveAux_congr (l1 l2 : Array LocalSymbol) (v1 v2 : Array α) (r1 r2 : List (Nat × Nat)) (n : Nat)
    (hl : ∀ k, k < n → l1[k]? = l2[k]?) (hv : ∀ k, k < n → v1[k]? = v2[k]?)
    (hr : ∀ k, k < n → refLookup r1 k = refLookup r2 k) :
    liveAux l1 v1 r1 n = liveAux l2 v2 r2 n := by
  induction n with
  | zero => rfl
  | succ n ih =>
    have ih' := ih (fun k hk => hl k (by omega)) (fun k hk => hv k (by omega)) (fun k hk => hr k (by omega))
    simp only [liveAux, hl n (by omega), hv n (by omega), hr n (by omega), ih']

/-- every `externalRefs` key points at a live top-level symbol (true as long as imports are top-level) -/
def RefsOK (σ : Scope α) : Prop :=
  ∀ k m, (k, m) ∈ σ.externalRefs → k < σ.localCount ∧ ∃ s, σ.locals[k]? = some s ∧ s.depth ≤ 0

theorem refLookup_mem (refs : List (Nat × Nat)) (i m : Nat) (h : refLookup refs i = some m) : (i, m) ∈ refs := by
  induction refs with
  | nil => simp [refLookup] at h
  | cons p refs ih =>
    obtain ⟨k, m'⟩ := p
    by_cases hk : k = i
    · simp only [refLookup, hk, if_true, Option.some.injEq] at h
      simp [hk, h]
    · simp only [refLookup, hk, if_false] at h
      exact List.mem_cons_of_mem _ (ih h)

theorem refLookup_fresh {σ : Scope α} (h : RefsOK σ) : refLookup σ.externalRefs σ.localCount = none := by
  cases hr : refLookup σ.externalRefs σ.localCount with
  | none => rfl
  | some m => have := (h _ _ (refLookup_mem _ _ _ hr)).1; omega

theorem popLoop_spec (locals : Array LocalSymbol) (values : Array α) (refs) (d : Int) (n : Nat)
    (h1 : n ≤ locals.size) (h2 : n ≤ values.size) :
    ∃ n', n' ≤ n ∧ Scope.popLoop locals d n = .ok n' ∧
      liveAux locals values refs n' = (liveAux locals values refs n).dropWhile (fun e => decide (e.sym.depth > d)) := by
  induction n with
  | zero => exact ⟨0, Nat.le_refl _, rfl, rfl⟩
  | succ n ih =>
    have hl : n < locals.size := by omega
    have hv : n < values.size := by omega
    obtain ⟨n', hn', hp, hlive⟩ := ih (by omega) (by omega)
    rw [liveAux_succ _ _ _ _ hl hv]
    by_cases hd : locals[n].depth > d
    · refine ⟨n', by omega, ?_, ?_⟩
      · simp [Scope.popLoop, hl, hd, hp]
      · simp [List.dropWhile, hd, hlive]
    · refine ⟨n + 1, Nat.le_refl _, ?_, ?_⟩
      · simp [Scope.popLoop, hl, hd]
      · rw [liveAux_succ _ _ _ _ hl hv]; simp [List.dropWhile, hd]

theorem popLoop_keeps (locals : Array LocalSymbol) (d : Int) (n n' k : Nat) (s : LocalSymbol)
    (hk : k < n) (hs : locals[k]? = some s) (hd : s.depth ≤ d)
    (hp : Scope.popLoop locals d n = .ok n') : k < n' := by
  induction n with
  | zero => omega
  | succ n ih =>
    simp only [Scope.popLoop] at hp
    cases hln : locals[n]? with
    | none => simp [hln] at hp
    | some s' =>
      simp only [hln] at hp
      by_cases hd' : s'.depth > d
      · simp only [hd', if_true] at hp
        have : k ≠ n := by
          intro hkn; subst hkn; rw [hs] at hln; cases hln; omega
        exact ih (by omega) hp
      · simp only [hd', if_false] at hp
        cases hp; exact hk

theorem endScope_live {σ : Scope α} (hwf : WF σ) :
    ∃ σ', σ.endScope = .ok σ' ∧ WF σ' ∧ σ'.currentDepth = σ.currentDepth - 1 ∧
      live σ' = (live σ).dropWhile (fun e => decide (e.sym.depth > σ.currentDepth - 1)) ∧
      (0 ≤ σ.currentDepth - 1 → RefsOK σ → RefsOK σ') := by
  obtain ⟨n', hn', hp, hlive⟩ :=
    popLoop_spec σ.locals σ.values σ.externalRefs (σ.currentDepth - 1) σ.localCount hwf.1 hwf.2
  refine ⟨{ σ with currentDepth := σ.currentDepth - 1, localCount := n' }, by simp [Scope.endScope, hp],
    ⟨Nat.le_trans hn' hwf.1, Nat.le_trans hn' hwf.2⟩, rfl, hlive, fun h0 hrefs k m hkm => ?_⟩
  obtain ⟨hk, s, hs, hsd⟩ := hrefs k m hkm
  exact ⟨popLoop_keeps σ.locals _ σ.localCount n' k s hk hs (by omega) hp, s, hs, hsd⟩

def nameIs (name : String) (e : Entry α) : Bool := decide (e.sym.name = name)

theorem findLoop_spec (locals : Array LocalSymbol) (values : Array α) (refs) (name : String) (n : Nat)
    (h1 : n ≤ locals.size) (h2 : n ≤ values.size) :
    (∃ i, i < n ∧ Scope.findLoop locals name n = .ok (some i) ∧ ∃ (hl : i < locals.size) (hv : i < values.size),
        (liveAux locals values refs n).find? (nameIs name) = some ⟨locals[i], values[i], refLookup refs i⟩) ∨
    (Scope.findLoop locals name n = .ok none ∧ (liveAux locals values refs n).find? (nameIs name) = none) := by
  induction n with
  | zero => right; exact ⟨rfl, rfl⟩
  | succ n ih =>
    have hl : n < locals.size := by omega
    have hv : n < values.size := by omega
    rw [liveAux_succ _ _ _ _ hl hv]
    by_cases hn : locals[n].name = name
    · left
      refine ⟨n, by omega, ?_, hl, hv, ?_⟩
      · simp [Scope.findLoop, hl, hn]
      · simp [List.find?, nameIs, hn]
    · rcases ih (by omega) (by omega) with ⟨i, hi, hf, hl', hv', hfind⟩ | ⟨hf, hfind⟩
      · left
        refine ⟨i, by omega, ?_, hl', hv', ?_⟩
        · simp [Scope.findLoop, hl, hn, hf]
        · rw [List.find?_cons_of_neg (by simp [nameIs, hn])]; exact hfind
      · right
        refine ⟨?_, ?_⟩
        · simp [Scope.findLoop, hl, hn, hf]
        · rw [List.find?_cons_of_neg (by simp [nameIs, hn])]; exact hfind

theorem getValue_live {σ : Scope α} (hwf : WF σ) (name : String) :
    σ.getValue name = .ok (((live σ).find? (nameIs name)).map (·.value)) := by
  unfold live
  rcases findLoop_spec σ.locals σ.values σ.externalRefs name σ.localCount hwf.1 hwf.2 with
    ⟨i, _, hf, _, hv, hfind⟩ | ⟨hf, hfind⟩
  · rw [hfind]; simp [Scope.getValue, Scope.getSymbolID, hf, hv]
  · rw [hfind]; simp [Scope.getValue, Scope.getSymbolID, hf]

theorem getValueWithModuleID_live {σ : Scope α} (hwf : WF σ) (name : String) :
    σ.getValueWithModuleID name = .ok (match (live σ).find? (nameIs name) with
      | some e => (some e.value, extID e.ext)
      | none => (none, -1)) := by
  unfold live
  rcases findLoop_spec σ.locals σ.values σ.externalRefs name σ.localCount hwf.1 hwf.2 with
    ⟨i, _, hf, _, hv, hfind⟩ | ⟨hf, hfind⟩
  · rw [hfind]
    cases hr : refLookup σ.externalRefs i <;>
      simp [Scope.getValueWithModuleID, Scope.getSymbolID, hf, hv, hr, extID]
  · rw [hfind]; simp [Scope.getValueWithModuleID, Scope.getSymbolID, hf]

/-- overwrite the value of the first entry called `name` -/
def setFirst : List (Entry α) → String → α → List (Entry α)
  | [], _, _ => []
  | e :: rest, name, v => if e.sym.name = name then { e with value := v } :: rest else e :: setFirst rest name v

/-- what the loop of `SetValue` answers from index `n` down, read on the live list: 42 for an unknown name, 44 for a
constant, else the newest symbol of that name gets the value (only `values` changes, and only below `n`) -/
inductive SetLoop (σ : Scope α) (name : String) (v : α) (n : Nat) : GoRes (Scope α) → Prop
  | unbound : (liveAux σ.locals σ.values σ.externalRefs n).find? (nameIs name) = none → SetLoop σ name v n (.err 42)
  | const {e : Entry α} : (liveAux σ.locals σ.values σ.externalRefs n).find? (nameIs name) = some e →
      e.sym.isConst = true → SetLoop σ name v n (.err 44)
  | set {e : Entry α} {vs : Array α} : (liveAux σ.locals σ.values σ.externalRefs n).find? (nameIs name) = some e →
      e.sym.isConst = false → vs.size = σ.values.size → (∀ k, n ≤ k → vs[k]? = σ.values[k]?) →
      liveAux σ.locals vs σ.externalRefs n = setFirst (liveAux σ.locals σ.values σ.externalRefs n) name v →
      SetLoop σ name v n (.ok { σ with values := vs })

theorem setLoop_spec (σ : Scope α) (name : String) (v : α) (n : Nat)
    (h1 : n ≤ σ.locals.size) (h2 : n ≤ σ.values.size) : SetLoop σ name v n (Scope.setLoop σ name v n) := by
  induction n with
  | zero => exact .unbound rfl
  | succ n ih =>
    have hl : n < σ.locals.size := by omega
    have hv : n < σ.values.size := by omega
    have hcons := liveAux_succ σ.locals σ.values σ.externalRefs n hl hv
    by_cases hn : σ.locals[n].name = name
    · have hfind : (liveAux σ.locals σ.values σ.externalRefs (n + 1)).find? (nameIs name) = some _ :=
        hcons ▸ List.find?_cons_of_pos (by simp [nameIs, hn])
      cases hc : σ.locals[n].isConst with
      | true =>
        rw [show Scope.setLoop σ name v (n + 1) = .err 44 by simp [Scope.setLoop, hl, hn, hc, errAssignToConstant]]
        exact .const hfind hc
      | false =>
        rw [show Scope.setLoop σ name v (n + 1) = .ok { σ with values := σ.values.set n v hv } by
          simp [Scope.setLoop, hl, hn, hc, hv]]
        have hother : ∀ k, n ≠ k → (σ.values.set n v hv)[k]? = σ.values[k]? := fun k hk => by
          rw [Array.getElem?_set]; simp [hk]
        refine .set hfind hc (by simp) (fun k hk => hother k (by omega)) ?_
        rw [liveAux_succ _ _ _ _ hl (by simp [hv]), hcons]
        simp only [setFirst, hn, if_true]
        congr 1
        · simp
        · exact liveAux_congr _ _ _ _ _ _ _ (fun _ _ => rfl) (fun k hk => hother k (by omega)) (fun _ _ => rfl)
    -- a miss at `n`: the loop answers as it does below `n`; the write, if any, happened below `n`, so the entry at `n`
    -- still shows `values[n]` (`hkeep`)
    · have hskip : ∀ {o}, (liveAux σ.locals σ.values σ.externalRefs n).find? (nameIs name) = o →
          (liveAux σ.locals σ.values σ.externalRefs (n + 1)).find? (nameIs name) = o := fun h =>
        hcons ▸ (List.find?_cons_of_neg (by simp [nameIs, hn])).trans h
      have ih' := ih (by omega) (by omega)
      rw [show Scope.setLoop σ name v (n + 1) = Scope.setLoop σ name v n by simp [Scope.setLoop, hl, hn]]
      generalize Scope.setLoop σ name v n = g at ih' ⊢
      cases ih' with
      | unbound hf => exact .unbound (hskip hf)
      | const hf hc => exact .const (hskip hf) hc
      | @set e vs hf hc hsize hkeep hlive =>
        refine .set (hskip hf) hc hsize (fun k hk => hkeep k (by omega)) ?_
        have hk : vs[n]? = some σ.values[n] := (hkeep n (Nat.le_refl _)).trans (getElem?_pos σ.values n hv)
        rw [liveAux_succ' _ _ _ _ _ _ (getElem?_pos σ.locals n hl) hk, hcons, hlive]
        simp only [setFirst, hn, if_false]

theorem WF.set_values {σ : Scope α} (h : WF σ) {vs : Array α} (hs : vs.size = σ.values.size) :
    WF { σ with values := vs } := ⟨h.1, hs ▸ h.2⟩

theorem setValue_live {σ : Scope α} (hwf : WF σ) (name : String) (v : α) :
    SetLoop σ name v σ.localCount (σ.setValue name v) :=
  setLoop_spec σ name v σ.localCount hwf.1 hwf.2

/-- the redeclaration test of `declareValue`, on the list -/
def declClash (name : String) (d : Int) : List (Entry α) → Bool
  | [] => false
  | e :: rest =>
    if e.sym.depth < d then false
    else if e.sym.name = name ∧ e.sym.depth = d then true
    else declClash name d rest

theorem declCheck_spec (locals : Array LocalSymbol) (values : Array α) (refs) (name : String) (d : Int) (n : Nat)
    (h1 : n ≤ locals.size) (h2 : n ≤ values.size) :
    Scope.declCheck locals name d n =
      if declClash name d (liveAux locals values refs n) then .err 43 else .ok () := by
  induction n with
  | zero => simp [Scope.declCheck, liveAux, declClash]
  | succ n ih =>
    have hl : n < locals.size := by omega
    have hv : n < values.size := by omega
    rw [liveAux_succ _ _ _ _ hl hv]
    simp only [Scope.declCheck, hl, getElem?_pos, declClash]
    by_cases hd : locals[n].depth < d
    · simp [hd]
    · by_cases hn : locals[n].name = name ∧ locals[n].depth = d
      · simp [hn, errNameRedeclared]
      · simp only [hd, hn, if_false]
        exact ih (by omega) (by omega)

theorem trunc_push_size {β} (xs : Array β) (n : Nat) (x : β) (h : n ≤ xs.size) :
    ((xs.extract 0 n).push x).size = n + 1 := by
  simp [Array.size_extract]; omega

theorem trunc_push_lt {β} (xs : Array β) (n : Nat) (x : β) (h : n ≤ xs.size) (k : Nat) (hk : k < n) :
    ((xs.extract 0 n).push x)[k]? = xs[k]? := by
  rw [Array.getElem?_push]
  simp [Array.size_extract, Array.getElem?_extract]
  have : min n xs.size = n := by omega
  simp [this]
  have : ¬ k = n := by omega
  simp [this, hk]

theorem trunc_push_eq {β} (xs : Array β) (n : Nat) (x : β) (h : n ≤ xs.size) :
    ((xs.extract 0 n).push x)[n]? = some x := by
  rw [Array.getElem?_push]
  have : min n xs.size = n := by omega
  simp [Array.size_extract, this]

theorem declareValueC_clash {σ : Scope α} (hwf : WF σ) {name : String}
    (hcl : declClash name σ.currentDepth (live σ) = true) (v : α) (c : Bool) : σ.declareValueC name v c = .err 43 := by
  have hc := declCheck_spec σ.locals σ.values σ.externalRefs name σ.currentDepth σ.localCount hwf.1 hwf.2
  unfold live at hcl
  simp [Scope.declareValueC, hc, hcl]

/-- what `declareValue` does when there is no clash: truncate at `localCount` and push.  The live list of the result, read
through any reference table `R` that agrees with the scope's on the old symbols, is the old live list with the new
symbol in front, carrying whatever `R` holds at its index. -/
theorem declareValueC_fresh {σ : Scope α} (hwf : WF σ) {name : String}
    (hcl : declClash name σ.currentDepth (live σ) = false) (v : α) (c : Bool) :
    ∃ σ', σ.declareValueC name v c = .ok σ' ∧ WF σ' ∧ σ'.currentDepth = σ.currentDepth ∧
      σ'.externalRefs = σ.externalRefs ∧ σ'.localCount = σ.localCount + 1 ∧
      (∀ k, k < σ.localCount → σ'.locals[k]? = σ.locals[k]?) ∧
      σ'.locals[σ.localCount]? = some ⟨name, σ.currentDepth, c⟩ ∧
      ∀ R : List (Nat × Nat), (∀ k, k < σ.localCount → refLookup R k = refLookup σ.externalRefs k) →
        liveAux σ'.locals σ'.values R (σ.localCount + 1) =
          ⟨⟨name, σ.currentDepth, c⟩, v, refLookup R σ.localCount⟩ :: live σ := by
  obtain ⟨h1, h2⟩ := hwf
  have hc := declCheck_spec σ.locals σ.values σ.externalRefs name σ.currentDepth σ.localCount h1 h2
  unfold live at hcl ⊢
  rw [hcl] at hc
  refine ⟨{ σ with
      locals := (σ.locals.extract 0 σ.localCount).push ⟨name, σ.currentDepth, c⟩
      values := (σ.values.extract 0 σ.localCount).push v
      localCount := σ.localCount + 1 }, by simp [Scope.declareValueC, hc, h1, h2], ?_, rfl, rfl, rfl,
    fun k hk => trunc_push_lt _ _ _ h1 k hk, trunc_push_eq _ _ _ h1, fun R hR => ?_⟩
  · exact ⟨by simp only []; rw [trunc_push_size _ _ _ h1]; omega, by simp only []; rw [trunc_push_size _ _ _ h2]; omega⟩
  · rw [liveAux_succ' _ _ _ _ _ _ (trunc_push_eq _ _ _ h1) (trunc_push_eq _ _ _ h2)]
    congr 1
    exact liveAux_congr _ _ _ _ _ _ _ (fun k hk => trunc_push_lt _ _ _ h1 k hk)
      (fun k hk => trunc_push_lt _ _ _ h2 k hk) hR

/-- what a declaration answers on `σ`, read on the live list: 43 for a name of the current block, else a state with the
new symbol (module of origin `x`) in front; the reference table stays sound if imports are declared at the top level -/
inductive Declared (σ : Scope α) (name : String) (v : α) (c : Bool) (x : Option Nat) : GoRes (Scope α) → Prop
  | clash : declClash name σ.currentDepth (live σ) = true → Declared σ name v c x (.err 43)
  | fresh {σ' : Scope α} : declClash name σ.currentDepth (live σ) = false → WF σ' →
      σ'.currentDepth = σ.currentDepth → ((∀ m, x = some m → σ.currentDepth ≤ 0) → RefsOK σ → RefsOK σ') →
      live σ' = ⟨⟨name, σ.currentDepth, c⟩, v, x⟩ :: live σ → Declared σ name v c x (.ok σ')

theorem declareValueC_live {σ : Scope α} (hwf : WF σ) (hrefs : RefsOK σ) (name : String) (v : α) (c : Bool) :
    Declared σ name v c none (σ.declareValueC name v c) := by
  cases hcl : declClash name σ.currentDepth (live σ) with
  | true => rw [declareValueC_clash hwf hcl]; exact .clash hcl
  | false =>
    obtain ⟨σ', hdecl, hwf', hdep', hrefs', hcnt', hl, hs, hall⟩ := declareValueC_fresh hwf hcl v c
    rw [hdecl]
    refine .fresh hcl hwf' hdep' (fun _ _ k m hkm => ?_) ?_
    · obtain ⟨hk, s, hs0, hsd⟩ := hrefs k m (hrefs' ▸ hkm)
      exact ⟨by omega, s, (hl k hk).trans hs0, hsd⟩
    · show liveAux σ'.locals σ'.values σ'.externalRefs σ'.localCount = _
      rw [hcnt', hrefs', hall _ (fun _ _ => rfl), refLookup_fresh hrefs]

theorem declareExternalValue_live {σ : Scope α} (hwf : WF σ) (name : String) (v : α) (m : Nat) :
    Declared σ name v true (some m) (σ.declareExternalValue name v m) := by
  unfold Scope.declareExternalValue
  cases hcl : declClash name σ.currentDepth (live σ) with
  | true => rw [declareValueC_clash hwf hcl]; exact .clash hcl
  | false =>
    obtain ⟨σ', hdecl, hwf', hdep', hrefs', hcnt', hl, hs, hall⟩ := declareValueC_fresh hwf hcl v true
    have hkey : σ'.localCount - 1 = σ.localCount := by omega
    rw [hdecl]
    refine .fresh hcl hwf' hdep' (fun hd0 hrefs k m' hkm => ?_) ?_
    · show k < σ'.localCount ∧ ∃ s, σ'.locals[k]? = some s ∧ s.depth ≤ 0
      rcases List.mem_cons.1 hkm with heq | hmem
      · cases heq
        rw [hkey]
        exact ⟨by omega, _, hs, hd0 _ rfl⟩
      · obtain ⟨hk, s, hs0, hsd⟩ := hrefs k m' (hrefs' ▸ hmem)
        exact ⟨by omega, s, (hl k hk).trans hs0, hsd⟩
    · show liveAux σ'.locals σ'.values ((σ'.localCount - 1, m) :: σ'.externalRefs) σ'.localCount = _
      rw [hkey, hcnt', hrefs', hall _ (fun k hk => by simp [refLookup, Nat.ne_of_gt hk])]
      simp [refLookup]

def toB (e : Entry α) : Binding α := ⟨e.sym.name, e.value, e.sym.isConst, e.ext⟩

def atDepth (d : Nat) (e : Entry α) : Bool := decide (e.sym.depth = (d : Int))

/-- frames `d, d-1, …, 0`: frame `k` holds the symbols declared at depth `k` -/
def absAux : Nat → List (Entry α) → Stack α
  | 0, L => [L.map toB]
  | d + 1, L => (L.takeWhile (atDepth (d + 1))).map toB :: absAux d (L.dropWhile (atDepth (d + 1)))

/-- the abstraction function: model state ↦ spec state -/
def abs (σ : Scope α) : Stack α := absAux σ.currentDepth.toNat (live σ)

theorem find_take_drop (p q : Entry α → Bool) (L : List (Entry α)) :
    L.find? p = match (L.takeWhile q).find? p with
      | some b => some b
      | none => (L.dropWhile q).find? p := by
  conv => lhs; rw [← List.takeWhile_append_dropWhile (p := q) (l := L), List.find?_append]
  cases (L.takeWhile q).find? p <;> rfl

theorem frame_find_map (L : List (Entry α)) (name : String) :
    Frame.find (L.map toB) name = (L.find? (nameIs name)).map toB := by
  unfold Frame.find
  rw [List.find?_map]
  rfl

theorem lookupB_absAux (d : Nat) (L : List (Entry α)) (name : String) :
    lookupB (absAux d L) name = (L.find? (nameIs name)).map toB := by
  induction d generalizing L with
  | zero =>
    simp only [absAux, lookupB, frame_find_map]
    cases L.find? (nameIs name) <;> rfl
  | succ d ih =>
    simp only [absAux, lookupB, frame_find_map, ih]
    rw [find_take_drop (nameIs name) (atDepth (d + 1)) L]
    cases (L.takeWhile (atDepth (d + 1))).find? (nameIs name) <;> rfl

theorem absAux_cons (d : Nat) (e : Entry α) (L : List (Entry α)) (he : e.sym.depth = (d : Int)) :
    absAux d (e :: L) = match absAux d L with
      | f :: rest => (toB e :: f) :: rest
      | [] => [] := by
  cases d with
  | zero => simp [absAux]
  | succ d => simp [absAux, List.takeWhile, List.dropWhile, atDepth, he]

/-- depths of the live symbols, newest first: within `[0, d]` and non-increasing towards older symbols -/
def DepthsOK (d : Nat) (ds : List Int) : Prop :=
  (∀ x ∈ ds, 0 ≤ x ∧ x ≤ (d : Int)) ∧ ds.Pairwise (fun a b => b ≤ a)

def depths (L : List (Entry α)) : List Int := L.map (fun e => e.sym.depth)

theorem declClash_eq (name : String) (d : Nat) (L : List (Entry α))
    (h : ∀ x ∈ depths L, x ≤ (d : Int)) :
    declClash name (d : Int) L = ((L.takeWhile (atDepth d)).map toB).any (fun b => decide (b.name = name)) := by
  induction L with
  | nil => rfl
  | cons e L ih =>
    have he : e.sym.depth ≤ (d : Int) := h _ (by simp [depths])
    have ih' := ih (fun x hx => h x (by simp [depths] at hx ⊢; exact Or.inr hx))
    by_cases hd : e.sym.depth = (d : Int)
    · have hnlt : ¬ e.sym.depth < (d : Int) := by omega
      by_cases hn : e.sym.name = name
      · simp [declClash, List.takeWhile, atDepth, hd, hn, toB]
      · simp only [declClash, hn, false_and, if_false, List.takeWhile, atDepth, hd, decide_true, List.map,
          List.any, toB, decide_false, Bool.false_or]
        simpa [atDepth] using ih'
    · have hlt : e.sym.depth < (d : Int) := by omega
      simp [declClash, List.takeWhile, atDepth, hd, hlt]

theorem takeWhile_all (L : List (Entry α)) (h : ∀ x ∈ depths L, 0 ≤ x ∧ x ≤ ((0 : Nat) : Int)) :
    L.takeWhile (atDepth 0) = L := by
  induction L with
  | nil => rfl
  | cons e L ih =>
    have he := h e.sym.depth (by simp [depths])
    have hq : atDepth 0 e = true := by simp only [atDepth, decide_eq_true_eq]; omega
    rw [List.takeWhile_cons_of_pos hq, ih (fun x hx => h x (by simp [depths] at hx ⊢; exact Or.inr hx))]

/-- the one link between scope.go's redeclaration loop (`declClash`, which stops at the first shallower symbol) and the
spec's `Frame.binds` of the innermost frame -/
theorem top_binds (name : String) (d : Nat) (L : List (Entry α)) (h : ∀ x ∈ depths L, 0 ≤ x ∧ x ≤ (d : Int)) :
    ∃ f rest, absAux d L = f :: rest ∧ f.binds name = declClash name (d : Int) L := by
  rw [declClash_eq name d L (fun x hx => (h x hx).2)]
  cases d with
  | zero => exact ⟨_, _, rfl, by rw [takeWhile_all L h]; rfl⟩
  | succ d => exact ⟨_, _, rfl, rfl⟩

theorem frame_set_map (L : List (Entry α)) (name : String) (v : α) :
    Frame.set (L.map toB) name v = (setFirst L name v).map toB := by
  induction L with
  | nil => rfl
  | cons e L ih =>
    by_cases hn : e.sym.name = name
    · simp [Frame.set, setFirst, toB, hn]
    · simp only [List.map, Frame.set, setFirst, toB, hn, if_false, List.cons.injEq, true_and]
      exact ih

theorem setFirst_noop (L : List (Entry α)) (name : String) (v : α) (h : L.any (nameIs name) = false) :
    setFirst L name v = L := by
  induction L with
  | nil => rfl
  | cons e L ih =>
    simp only [List.any, Bool.or_eq_false_iff, nameIs, decide_eq_false_iff_not] at h
    simp only [setFirst, h.1, if_false]
    rw [ih h.2]

theorem binds_map (L : List (Entry α)) (name : String) :
    Frame.binds (L.map toB) name = L.any (nameIs name) := by
  unfold Frame.binds; rw [List.any_map]; rfl

theorem takeWhile_setFirst (q : Nat) (L : List (Entry α)) (name : String) (v : α) :
    (setFirst L name v).takeWhile (atDepth q) = setFirst (L.takeWhile (atDepth q)) name v := by
  induction L with
  | nil => rfl
  | cons e L ih =>
    by_cases hq : atDepth q e = true
    · by_cases hn : e.sym.name = name
      · have hq' : atDepth q { e with value := v } = true := by simpa [atDepth] using hq
        simp [setFirst, hn, List.takeWhile, hq, hq']
      · simp only [setFirst, hn, if_false, List.takeWhile, hq]
        rw [ih]
    · by_cases hn : e.sym.name = name
      · have hq' : ¬ atDepth q { e with value := v } = true := by simpa [atDepth] using hq
        simp [setFirst, hn, List.takeWhile, hq, hq']
      · simp [setFirst, hn, List.takeWhile, hq]

theorem dropWhile_setFirst (q : Nat) (L : List (Entry α)) (name : String) (v : α) :
    (setFirst L name v).dropWhile (atDepth q) =
      if (L.takeWhile (atDepth q)).any (nameIs name) then L.dropWhile (atDepth q)
      else setFirst (L.dropWhile (atDepth q)) name v := by
  induction L with
  | nil => rfl
  | cons e L ih =>
    by_cases hq : atDepth q e = true
    · by_cases hn : e.sym.name = name
      · have hq' : atDepth q { e with value := v } = true := by simpa [atDepth] using hq
        simp [setFirst, hn, List.takeWhile, List.dropWhile, hq, hq', nameIs]
      · simp only [setFirst, hn, if_false, List.takeWhile, List.dropWhile, hq, List.any, nameIs, decide_false,
          Bool.false_or]
        rw [ih]
    · by_cases hn : e.sym.name = name
      · have hq' : ¬ atDepth q { e with value := v } = true := by simpa [atDepth] using hq
        simp [setFirst, hn, List.takeWhile, List.dropWhile, hq, hq']
      · simp [setFirst, hn, List.takeWhile, List.dropWhile, hq]

theorem setB_absAux (d : Nat) (L : List (Entry α)) (name : String) (v : α) :
    setB (absAux d L) name v = absAux d (setFirst L name v) := by
  induction d generalizing L with
  | zero =>
    simp only [absAux, setB, binds_map, frame_set_map]
    by_cases hb : L.any (nameIs name) = true
    · simp [hb]
    · simp only [hb, Bool.false_eq_true, if_false]
      rw [setFirst_noop L name v (by simpa using hb)]
  | succ d ih =>
    simp only [absAux, setB, binds_map, frame_set_map, takeWhile_setFirst, dropWhile_setFirst]
    by_cases hb : (L.takeWhile (atDepth (d + 1))).any (nameIs name) = true
    · simp [hb]
    · simp only [hb, Bool.false_eq_true, if_false]
      rw [setFirst_noop _ name v (by simpa using hb), ih]

theorem depths_setFirst (L : List (Entry α)) (name : String) (v : α) : depths (setFirst L name v) = depths L := by
  induction L with
  | nil => rfl
  | cons e L ih =>
    by_cases hn : e.sym.name = name
    · simp [setFirst, hn, depths]
    · simp only [setFirst, hn, if_false, depths, List.map] at ih ⊢
      rw [ih]

theorem absAux_begin (d : Nat) (L : List (Entry α)) (h : ∀ x ∈ depths L, x ≤ (d : Int)) :
    absAux (d + 1) L = [] :: absAux d L := by
  cases L with
  | nil => simp [absAux]
  | cons e L =>
    have he : e.sym.depth ≤ (d : Int) := h _ (by simp [depths])
    have : atDepth (d + 1) e = false := by
      simp only [atDepth, decide_eq_false_iff_not]; push_cast; omega
    simp [absAux, List.takeWhile, List.dropWhile, this]

theorem dropWhile_deeper (d : Nat) (L : List (Entry α)) (h : ∀ x ∈ depths L, x ≤ ((d + 1 : Nat) : Int)) :
    L.dropWhile (fun e => decide (e.sym.depth > (d : Int))) = L.dropWhile (atDepth (d + 1)) := by
  induction L with
  | nil => rfl
  | cons e L ih =>
    have he : e.sym.depth ≤ ((d + 1 : Nat) : Int) := h _ (by simp [depths])
    have ih' := ih (fun x hx => h x (by simp [depths] at hx ⊢; exact Or.inr hx))
    by_cases hd : e.sym.depth > (d : Int)
    · have h2 : atDepth (d + 1) e = true := by
        simp only [atDepth, decide_eq_true_eq]; push_cast at he ⊢; omega
      rw [List.dropWhile_cons_of_pos (by simpa using hd), List.dropWhile_cons_of_pos h2]
      exact ih'
    · have h2 : ¬ atDepth (d + 1) e = true := by
        simp only [atDepth, decide_eq_true_eq]; push_cast; omega
      rw [List.dropWhile_cons_of_neg (by simpa using hd), List.dropWhile_cons_of_neg h2]

theorem depthsOK_pop (d : Nat) (L : List (Entry α)) (h : DepthsOK (d + 1) (depths L)) :
    DepthsOK d (depths (L.dropWhile (fun e => decide (e.sym.depth > (d : Int))))) := by
  have hp := List.pairwise_map.1 h.2
  rw [dropWhile_eq_filter_of_sorted (·.sym.depth) d L hp]
  refine ⟨fun x hx => ?_, List.pairwise_map.2 (hp.filter _)⟩
  obtain ⟨e, he, rfl⟩ := List.mem_map.1 hx
  have := List.mem_filter.1 he
  exact ⟨(h.1 _ (List.mem_map.2 ⟨e, this.1, rfl⟩)).1, by simpa using this.2⟩

/-- the invariant of `runtime.Scope` under balanced use, at nesting depth `d`: a predicate on one state (the relation to
the spec is the function `abs`; `step_sim` is the simulation) -/
structure Sim (σ : Scope α) (d : Nat) : Prop where
  depth : σ.currentDepth = (d : Int)
  wf : WF σ
  depths : DepthsOK d (depths (live σ))
  refs : RefsOK σ

theorem sim_new : Sim (Scope.new : Scope α) 0 :=
  ⟨rfl, ⟨Nat.le_refl _, Nat.le_refl _⟩, ⟨by simp [live, liveAux, depths, Scope.new], by simp [live, liveAux, depths, Scope.new]⟩,
   by intro k m h; simp [Scope.new] at h⟩

theorem abs_eq {σ : Scope α} {d : Nat} (h : Sim σ d) : abs σ = absAux d (live σ) := by
  simp [abs, h.depth]

theorem absAux_ne (d : Nat) (L : List (Entry α)) : ∃ f rest, absAux d L = f :: rest := by
  cases d <;> exact ⟨_, _, rfl⟩

theorem sim_begin {σ : Scope α} {d : Nat} (h : Sim σ d) :
    Sim σ.beginScope (d + 1) ∧ abs σ.beginScope = [] :: abs σ := by
  have hlive : live σ.beginScope = live σ := rfl
  have hs : Sim σ.beginScope (d + 1) := by
    refine ⟨?_, h.wf, ?_, h.refs⟩
    · simp [Scope.beginScope, h.depth]
    · rw [hlive]
      refine ⟨fun x hx => ?_, h.depths.2⟩
      have := h.depths.1 x hx
      push_cast; omega
  refine ⟨hs, ?_⟩
  rw [abs_eq hs, abs_eq h, hlive]
  exact absAux_begin d _ (fun x hx => (h.depths.1 x hx).2)

theorem sim_end {σ : Scope α} {d : Nat} (h : Sim σ (d + 1)) :
    ∃ σ', σ.endScope = .ok σ' ∧ Sim σ' d ∧ step (abs σ) .endScope = some (abs σ', .done) := by
  obtain ⟨σ', he, hwf', hdep, hlive, hrefs⟩ := endScope_live h.wf
  have hd : σ.currentDepth - 1 = (d : Int) := by rw [h.depth]; push_cast; omega
  rw [hd] at hdep hlive hrefs
  have hs : Sim σ' d := ⟨hdep, hwf', hlive ▸ depthsOK_pop d _ h.depths, hrefs (by omega) h.refs⟩
  refine ⟨σ', he, hs, ?_⟩
  obtain ⟨f, rest, hf⟩ := absAux_ne d ((live σ).dropWhile (atDepth (d + 1)))
  rw [abs_eq h, abs_eq hs, hlive, dropWhile_deeper d (live σ) (fun x hx => (h.depths.1 x hx).2)]
  simp only [absAux, hf, step]

theorem depthsOK_cons {d : Nat} {L : List (Entry α)} (h : DepthsOK d (depths L)) (e : Entry α)
    (he : e.sym.depth = (d : Int)) : DepthsOK d (depths (e :: L)) := by
  refine ⟨?_, ?_⟩
  · intro x hx
    simp only [depths, List.map, List.mem_cons] at hx
    rcases hx with rfl | hx
    · omega
    · exact h.1 x hx
  · simp only [depths, List.map, List.pairwise_cons]
    exact ⟨fun x hx => by have := h.1 x hx; omega, h.2⟩

theorem sim_declare_of_live {σ : Scope α} {d : Nat} (h : Sim σ d) (name : String) (v : α) (c : Bool) (x : Option Nat)
    (hx : ∀ m, x = some m → d = 0) {g : GoRes (Scope α)} (hg : Declared σ name v c x g) :
    ∃ σ' r, σ.ofErr g = .ok (σ', r) ∧ Sim σ' d ∧ declareB (abs σ) ⟨name, v, c, x⟩ = some (abs σ', r) := by
  obtain ⟨f, rest, hf, hb⟩ := top_binds name d (live σ) h.depths.1
  rw [← h.depth] at hb
  cases hg with
  | clash hcl => exact ⟨σ, .err 43, rfl, h, by rw [abs_eq h, hf]; simp [declareB, hb, hcl]⟩
  | @fresh σ' hcl hwf' hdep' hrefs' hlive =>
    have hs' : Sim σ' d := ⟨hdep'.trans h.depth, hwf', hlive ▸ depthsOK_cons h.depths _ h.depth,
      hrefs' (fun m hm => by rw [h.depth, hx m hm]; exact Int.le_refl _) h.refs⟩
    refine ⟨σ', .done, rfl, hs', ?_⟩
    rw [abs_eq h, abs_eq hs', hlive, absAux_cons d _ _ h.depth, hf]
    simp [declareB, hb, hcl, toB]

theorem sim_declare {σ : Scope α} {d : Nat} (h : Sim σ d) (name : String) (v : α) (c : Bool) :
    ∃ σ' r, σ.ofErr (σ.declareValueC name v c) = .ok (σ', r) ∧ Sim σ' d ∧
      declareB (abs σ) ⟨name, v, c, none⟩ = some (abs σ', r) :=
  sim_declare_of_live h name v c none nofun (declareValueC_live h.wf h.refs name v c)

theorem sim_declareExt {σ : Scope α} {d : Nat} (h : Sim σ d) (hd0 : d = 0) (name : String) (v : α) (m : Nat) :
    ∃ σ' r, σ.ofErr (σ.declareExternalValue name v m) = .ok (σ', r) ∧ Sim σ' d ∧
      declareB (abs σ) ⟨name, v, true, some m⟩ = some (abs σ', r) :=
  sim_declare_of_live h name v true (some m) (fun _ _ => hd0) (declareExternalValue_live h.wf name v m)

theorem sim_assign {σ : Scope α} {d : Nat} (h : Sim σ d) (name : String) (v : α) :
    ∃ σ' r, σ.ofErr (σ.setValue name v) = .ok (σ', r) ∧ Sim σ' d ∧
      step (abs σ) (.assign name v) = some (abs σ', r) := by
  have hspec := setValue_live h.wf name v
  generalize σ.setValue name v = g at hspec
  simp only [step, abs_eq h, lookupB_absAux]
  cases hspec with
  | unbound hfind => exact ⟨σ, .err 42, rfl, h, by simp [live, hfind, abs_eq h]⟩
  | const hfind hc => exact ⟨σ, .err 44, rfl, h, by simp [live, hfind, toB, hc, abs_eq h]⟩
  | @set e vs hfind hc hsize _ hlive =>
    replace hlive : live { σ with values := vs } = setFirst (live σ) name v := hlive
    have hs' : Sim { σ with values := vs } d :=
      ⟨h.depth, h.wf.set_values hsize, by rw [hlive, depths_setFirst]; exact h.depths, h.refs⟩
    refine ⟨_, .done, rfl, hs', ?_⟩
    rw [abs_eq hs', hlive, ← setB_absAux]
    simp [live, hfind, toB, hc]

theorem sim_lookup {σ : Scope α} {d : Nat} (h : Sim σ d) (name : String) :
    ∃ r, σ.step (.lookup name) = .ok (σ, r) ∧ step (abs σ) (.lookup name) = some (abs σ, r) := by
  simp only [step, abs_eq h, lookupB_absAux, Scope.step, getValue_live h.wf]
  cases (live σ).find? (nameIs name) with
  | none => exact ⟨.undefined, rfl, rfl⟩
  | some e => exact ⟨.val e.value, rfl, rfl⟩

theorem sim_lookupM {σ : Scope α} {d : Nat} (h : Sim σ d) (name : String) :
    ∃ r, σ.step (.lookupM name) = .ok (σ, r) ∧ step (abs σ) (.lookupM name) = some (abs σ, r) := by
  simp only [step, abs_eq h, lookupB_absAux, Scope.step, getValueWithModuleID_live h.wf]
  cases (live σ).find? (nameIs name) with
  | none => exact ⟨.undefined, rfl, rfl⟩
  | some e => exact ⟨.valM e.value (extID e.ext), rfl, rfl⟩

/-- what the evaluator's use guarantees for one operation at depth `d` -/
def opOK (d : Nat) : Op α → Prop
  | .endScope => 0 < d
  | .declareExternal _ _ _ => d = 0
  | _ => True

def nextDepth (d : Nat) : Op α → Nat
  | .beginScope => d + 1
  | .endScope => d - 1
  | _ => d

theorem step_sim {σ : Scope α} {d : Nat} (h : Sim σ d) (op : Op α) (hok : opOK d op) :
    ∃ σ' r, σ.step op = .ok (σ', r) ∧ Sim σ' (nextDepth d op) ∧ step (abs σ) op = some (abs σ', r) := by
  cases op with
  | beginScope =>
    exact ⟨σ.beginScope, .done, rfl, (sim_begin h).1, by simp [step, (sim_begin h).2]⟩
  | endScope =>
    cases d with
    | zero => exact absurd hok (Nat.lt_irrefl 0)
    | succ d =>
      obtain ⟨σ', he, hs, hstep⟩ := sim_end h
      exact ⟨σ', .done, by simp [Scope.step, he], hs, hstep⟩
  | declare n v => exact sim_declare h n v false
  | declareConst n v => exact sim_declare h n v true
  | declareExternal n v m => exact sim_declareExt h hok n v m
  | assign n v => exact sim_assign h n v
  | lookup n =>
    obtain ⟨r, h1, h2⟩ := sim_lookup h n
    exact ⟨σ, r, h1, h, h2⟩
  | lookupM n =>
    obtain ⟨r, h1, h2⟩ := sim_lookupM h n
    exact ⟨σ, r, h1, h, h2⟩

theorem bracket_cons {d d' : Nat} {op : Op α} {ops : List (Op α)}
    (h1 : finalDepth d (op :: ops) = some d') (h2 : extAtRoot d (op :: ops) = true) :
    opOK d op ∧ finalDepth (nextDepth d op) ops = some d' ∧ extAtRoot (nextDepth d op) ops = true := by
  cases op with
  | endScope =>
    cases d with
    | zero => cases h1
    | succ d => exact ⟨Nat.succ_pos d, h1, h2⟩
  | declareExternal n v m =>
    simp only [extAtRoot, Bool.and_eq_true, beq_iff_eq] at h2
    exact ⟨h2.1, h1, h2.2⟩
  | _ => exact ⟨trivial, h1, h2⟩

theorem run_sim (ops : List (Op α)) : ∀ (σ : Scope α) (d d' : Nat), Sim σ d →
    finalDepth d ops = some d' → extAtRoot d ops = true →
    ∃ σ' rs, σ.run ops = .ok (σ', rs) ∧ Sim σ' d' ∧ run (abs σ) ops = some (abs σ', rs) := by
  induction ops with
  | nil =>
    intro σ d d' h h1 _
    simp only [finalDepth, Option.some.injEq] at h1
    subst h1
    exact ⟨σ, [], rfl, h, rfl⟩
  | cons op ops ih =>
    intro σ d d' h h1 h2
    obtain ⟨hok, hf, he⟩ := bracket_cons h1 h2
    obtain ⟨σ₁, r, hstep, hs₁, hspec⟩ := step_sim h op hok
    obtain ⟨σ₂, rs, hrun, hs₂, hspec₂⟩ := ih σ₁ _ d' hs₁ hf he
    exact ⟨σ₂, r :: rs, by simp [Scope.run, hstep, hrun], hs₂, by simp [run, hspec, hspec₂]⟩

end ZnVerif.Proofs.Scope
