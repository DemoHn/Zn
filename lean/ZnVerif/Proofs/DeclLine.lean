/-
The hoisting pass of `evalStmtBlock` (type / method / constructor declarations are evaluated before the other
statements of their block), step by step: each declaration first makes its own line current
(`vm.SetCurrentLine(v.GetCurrentLine())`), then runs; the first one that fails ends the block.
At the end, `Toy`: the states and programs of the non-vacuity examples of Properties/C18Chain.lean.
-/
import ZnVerif.Proofs.ControlFlowToy
import ZnVerif.Proofs.LineKeep

namespace ZnVerif.Proofs.DeclLine
open ZnVerif.Model ZnVerif.Proofs.ControlFlow

variable {ν : Type} [NumOps ν]

/-- what a declaration does once its line is current -/
def evalDecl (n : Nat) (st : Stmt) : M ν Unit :=
  match st with
  | .classDecl .. => evalClassDecl n st
  | .funcDecl _ _ declType _ => if declType == 3 then evalCtorDecl n st else evalFuncDecl n st
  | _ => pure ()

/-- one turn of the hoisting loop -/
def hoistStep (n : Nat) (st : Stmt) : M ν Unit :=
  match st with
  | .classDecl .. => do
    setTopFrame fun fr => { fr with line := st.line, started := true }
    evalClassDecl n st
  | .funcDecl _ _ declType _ => do
    setTopFrame fun fr => { fr with line := st.line, started := true }
    if declType == 3 then evalCtorDecl n st else evalFuncDecl n st
  | _ => pure ()

theorem hoistDecls_eq (n : Nat) (stmts : List Stmt) : hoistDecls (ν := ν) n stmts = stmts.forM (hoistStep n) := rfl

theorem hoistStep_decl (n : Nat) (d : Stmt) (hd : isDecl d = true) (s : VM ν) :
    hoistStep n d s = evalDecl n d (setLine d.line s) := by
  cases d <;> simp [isDecl] at hd <;> (unfold hoistStep evalDecl; simp only; rw [setLine_bind])

theorem evalStmtBlock_decl_fails {n : Nat} {pre post : List Stmt} {d : Stmt} {s s1 s2 : VM ν} {e : Err}
    (hd : isDecl d = true) (hpre : hoistDecls n pre s = (.ok (), s1))
    (hfail : evalDecl n d (setLine d.line s1) = (.err e, s2)) :
    evalStmtBlock (n+1) (some (pre ++ d :: post)) s = (.err e, s2) := by
  rw [evalStmtBlock_eq]
  have h1 : hoistDecls n (pre ++ d :: post) s = (.err e, s2) := by
    rw [hoistDecls_eq] at hpre ⊢
    refine (congrFun (List.forM_append (l₁ := pre) (l₂ := d :: post) (f := hoistStep (ν := ν) n)) s).trans ?_
    show (pre.forM (hoistStep n) >>= fun _ => hoistStep n d >>= fun _ => post.forM (hoistStep n)) s = _
    rw [bind_ok hpre, bind_err (by rw [hoistStep_decl n d hd, hfail])]
  rw [bind_err h1]

theorem lit_evalDecl (n : Nat) (st : Stmt) : LineKeep.Lit (evalDecl (ν := ν) n st) := by
  have h := StackBal.allFr (ν := ν) n
  unfold evalDecl
  split
  · exact .ofFr (h.evalClassDecl _)
  · split
    · exact .ofFr (ns := true) .quiet
    · exact .ofFr (ns := true) .quiet
  · exact .pure _

namespace Toy
open ZnVerif.Proofs.ControlFlow.Toy

/-- two variables: `d` = 0 (a number), `t` = "x" (a text) -/
def vmW : VM Int :=
  { heap := #[.num 0, .str "x"], stack := [{ moduleId := 0, callType := 1 }], csModuleID := 0,
    scopes := [(0, { syms := [{ name := "d", depth := 0, isConst := false, ext := none, val := 0 },
                              { name := "t", depth := 0, isConst := false, ext := none, val := 1 }], depth := 0 })],
    modules := #[{ name := "m", hasProgram := true }] }
/-- `d <= d`: 真 while `d` is a number, error 83 once the loop body `d = t` has made it a text -/
def condW : Expr := .logic 0 LogicLTE (.id dId) (.id dId)
/-- `定义 C： 其 p 为 d / d` on line 3 (the property default on line 4 divides 0 by 0: error 90) -/
def clsBad : Stmt := .classDecl 3 (some ⟨3, "C"⟩) [(some ⟨4, "p"⟩, .arith 4 ArithDiv (.id dId) (.id dId))] [] []
end Toy

end ZnVerif.Proofs.DeclLine
