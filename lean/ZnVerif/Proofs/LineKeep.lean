/-
Who may touch the line marker of a frame (C18: `SetCurrentLine` stands at the top of every 每当 pass, and a frame
remembers whether a statement has begun in it).

`Lit m`   — on EVERY outcome of `m` the final call stack is the starting one, literally (every field of every frame:
            `line`, `started`, `ret` included), with the frames of calls that failed on top.  Holds for expressions,
            calls, constructors and declarations: none of them contains a `setTopFrame` (it stands in `evalStmt`, in the hoisting
            pass of `evalStmtBlock` and in `evalImport`), and whatever a callee does
            happens above the caller's stack.  It is what `Fr .lit` (Proofs/StackBalRules.lean) says of every outcome.
(`Kept`, the statement-level companion about the `started` mark, is in Proofs/StartedKeep.lean.)
-/
import ZnVerif.Proofs.StackBalBlock
set_option linter.unusedSectionVars false

namespace ZnVerif.Proofs.LineKeep
open ZnVerif.Model ZnVerif.Proofs.Calls ZnVerif.Proofs.StackBal

variable {ν : Type} [NumOps ν]

structure Lit {α} (m : M ν α) : Prop where
  ext : ∀ s, ∃ extra, (m s).2.stack = extra ++ s.stack

section rules
variable {α β : Type}

theorem Lit.ofFr {ns : Bool} {m : M ν α} (h : Fr .lit ns m) : Lit m :=
  ⟨fun s => by obtain ⟨e, _, h1, h2, _⟩ := h.run s; exact ⟨e, top_lit.1 h2 ▸ h1⟩⟩

theorem Lit.pure (a : α) : Lit (pure a : M ν α) := ⟨fun _ => ⟨[], rfl⟩⟩

theorem Lit.bind {m : M ν α} {f : α → M ν β} (hm : Lit m) (hf : ∀ a, Lit (f a)) : Lit (m >>= f) := by
  refine ⟨fun s => ?_⟩
  rw [M_bind_def]
  obtain ⟨e1, h1⟩ := hm.ext s
  rcases h : m s with ⟨r, s'⟩
  rw [h] at h1
  cases r with
  | ok a =>
    obtain ⟨e2, h2⟩ := (hf a).ext s'
    exact ⟨e2 ++ e1, by simp only; rw [h2, h1, List.append_assoc]⟩
  | _ => exact ⟨e1, h1⟩

theorem Lit.forM {f : α → M ν PUnit} (h : ∀ a, Lit (f a)) : ∀ l : List α, Lit (l.forM f)
  | [] => Lit.pure _
  | a :: l => Lit.bind (h a) fun _ => Lit.forM h l

/-- code running right after a `pushFrame`: whatever its outcome, the stack below the pushed frame is left as it is,
literally -/
structure InLit {α} (m : M ν α) : Prop where
  ext : ∀ s fr rest, s.stack = fr :: rest → ∃ extra, (m s).2.stack = extra ++ rest

theorem InLit.ofFrIn {m : M ν α} (h : FrIn m) : InLit m :=
  ⟨fun s fr rest hs => by obtain ⟨e, _, h1, h2, _⟩ := h.run s fr rest hs; exact ⟨e, top_lit.1 h2 ▸ h1⟩⟩

theorem InLit.goPanic : InLit (goPanic : M ν α) := .ofFrIn .goPanic

end rules

structure AllLit (n : Nat) : Prop where
  evalExpr : ∀ e, Lit (evalExpr (ν := ν) n e)
  memberIV : ∀ e, Lit (memberIV (ν := ν) n e)
  execDirectFunction : ∀ f ps, Lit (execDirectFunction (ν := ν) n f ps)
  execMethodFunction : ∀ r f ps, Lit (execMethodFunction (ν := ν) n r f ps)
  construct : ∀ c ps, Lit (construct (ν := ν) n c ps)

theorem allLit (n : Nat) : AllLit (ν := ν) n :=
  have h := allFr (ν := ν) n
  { evalExpr := fun e => .ofFr (h.evalExpr e)
    memberIV := fun e => .ofFr (h.memberIV e)
    execDirectFunction := fun f ps => .ofFr (h.execDirectFunction f ps)
    execMethodFunction := fun r f ps => .ofFr (h.execMethodFunction r f ps)
    construct := fun c ps => .ofFr (h.construct c ps) }

end ZnVerif.Proofs.LineKeep
