/-
Token-level round trip with layout, part 2d: expressions — list and dictionary literals `【a b】`, `【k = v …】`, `【】`, `【=】`.  At the end
`linX_shape`: two facts about every `LinX` rendering that the induction of Proofs/StmtExpr.lean needs for the list literals.
-/
import ZnVerif.Proofs.StmtExprBase
namespace ZnVerif.Proofs.StmtRT
open ZnVerif.Model ZnVerif.Model.Parser ZnVerif.Generated.Tokens
open ZnVerif.Spec.StmtSyntax
variable {Y : Layout} {v : Variant}

/-- what can follow an item / a key / a value inside `【 】`: `】`, `=`, or the first token of the next item -/
theorem follow_item {u : Token} (h : u.type = cTypeArrayQuoteR ∨ u.type = cTypeAssignMark ∨ u.type ∈ exprHeads) :
    u.type ≠ cTypeCommaSep ∧ u.type ∉ B1 false ∧ u.type ≠ cTypePauseCommaSep := by
  rcases h with h | h | h
  · rw [h]; decide
  · rw [h]; decide
  · exact (by decide : ∀ ty ∈ exprHeads, ty ≠ cTypeCommaSep ∧ ty ∉ B1 false ∧ ty ≠ cTypePauseCommaSep) _ h

section
variable {ts : List Token} {rb : Token} {s1 s2 s' : PState (List Token)}

/-- an item, a key or a value `e` stops before the further items `ts` and the `】` -/
theorem stops_item {e : Expr} (Fs : ts ≠ [] → Facts Y ts) (hrb : rb.type = cTypeArrayQuoteR) (h2 : Reads Y s1 ts s2)
    (h3 : Reads Y s2 [rb] s') : Stops (B1 false ++ FO e) s1 := by
  cases ts with
  | nil =>
    obtain rfl := h2.nil
    obtain ⟨a, b, c⟩ := follow_item (Or.inl hrb)
    exact h3.stops a (not_mem_BFO b c)
  | cons u ts' =>
    obtain ⟨a, b, c⟩ := follow_item (Or.inr (Or.inr (Fs (by simp)).first))
    exact h2.stops a (not_mem_BFO b c)

theorem item_flag (h2 : Reads Y s1 ts s2) (h3 : Reads Y s2 [rb] s') : s1.flag = false := by
  cases ts with
  | nil => obtain rfl := h2.nil; exact h3.flag_false
  | cons u ts' => exact h2.flag_false

end

theorem items_nil : CItems v Y [] [] := fun h => absurd rfl h

theorem items_cons {e : Expr} {te : List Token} {es : List Expr} {ts : List Token} (Fe : Facts Y te) (Ce : C1 v Y false e te)
    (Fs : ts ≠ [] → Facts Y ts) (hnil : ts = [] → es = []) (Cs : CItems v Y es ts) : CItems v Y (e :: es) (te ++ ts) := by
  intro _ s s2 s' rb acc hrb h h3
  refine stable_of 2 (by unfold fN; omega) fun m hn => ?_
  simp only [fN, List.length_append] at hn
  obtain ⟨s1, h1, h2⟩ := h.append
  refine andThen (c1_done Ce s s1 h1 (stops_item Fs hrb h2 h3) (m + 1) (by omega)) ?_
  cases ts with
  | nil =>
    obtain rfl := h2.nil
    rw [hnil rfl]
    exact andThen (tryConsume_tok m hrb h3) rfl
  | cons u ts' =>
    refine andThen (tryConsume_stops (m + 1) (.of_mem ((Fs (by simp)).head h2))) ((Cs (by simp) s1 s2 s' rb (acc ++ [e]) hrb h2 h3
      (m + 1) (by have := List.length_pos_iff.mpr Fe.ne; simp only [fN, List.length_cons] at hn ⊢; omega)).trans ?_)
    rw [List.append_assoc]
    rfl

theorem kvs_nil : CKvs v Y [] [] := by
  intro s s1 s' rb acc hrb h1 h2
  refine stable_of 2 (by unfold fN; omega) fun m hn => ?_
  obtain rfl := h1.nil
  rw [List.append_nil]
  exact andThen (tryConsume_tok m hrb h2) rfl

theorem kvs_cons {eq : Token} {k : Expr} {tk : List Token} {vl : Expr} {tv : List Token} {kvs : List (Expr × Expr)}
    {ts : List Token} (heq : eq.type = cTypeAssignMark) (Fk : Facts Y tk) (Ck : C1 v Y false k tk)
    (Cv : C1 v Y false vl tv) (Fs : ts ≠ [] → Facts Y ts) (Cs : CKvs v Y kvs ts) :
    CKvs v Y ((k, vl) :: kvs) (tk ++ eq :: tv ++ ts) := by
  intro s s4 s' rb acc hrb h h5
  refine stable_of 2 (by unfold fN; omega) fun m hn => ?_
  simp only [fN, List.length_append, List.length_cons] at hn
  obtain ⟨s3, h, h4⟩ := h.append
  obtain ⟨s1, h1, h⟩ := h.append
  obtain ⟨s2, h2, h3⟩ := h.cons
  obtain ⟨a, b, c⟩ := follow_item (Or.inr (Or.inl heq))
  refine andThen (tryConsume_stops (m + 1) (.of_mem (Fk.head h1))) (andThen (c1_done Ck s s1 h1 (h2.stops a (not_mem_BFO b c)) (m + 1)
    (by omega)) (andThen (consume_tok m heq h2) (andThen (c1_done Cv s2 s3 h3 (stops_item Fs hrb h4 h5) (m + 1) (by omega))
      (andThen (unsetFlag_ok (item_flag h4 h5))
        ((Cs s3 s4 s' rb (acc ++ [(k, vl)]) hrb h4 h5 (m + 1) (by unfold fN; omega)).trans ?_)))))
  rw [List.append_assoc]
  rfl

/-- `ParseBasicExpr` on a form that starts with `【`: `ParseArrayExpr` on what follows, the node on the line of the `【` -/
theorem basic_array (m : Nat) {l : Token} {s s1 st : PState (List Token)} (hl : l.type = cTypeArrayQuoteL)
    (h1 : Reads Y s [l] s1) (e : Expr) (h : parse v (layoutOps Y) (m + 1) .array s1 = .ok e st) :
    parse v (layoutOps Y) (m + 2) .basic s = .ok (e.setLine (Y.sl l)) st := by
  refine andThen (tryConsume_tok m hl h1) ?_
  simp (decide := true) only [hl, if_true, if_false]
  exact andThen h (andThen (lineOf_S l _) rfl)

theorem case_arrEmpty (l r : Token) (hl : l.type = cTypeArrayQuoteL) (hr : r.type = cTypeArrayQuoteR) :
    C7 v Y (.arr (Y.sl l) []) [l, r] := by
  refine c7_of_basic_plain _ [l, r] (by simp) (by show l.type ∈ _; rw [hl]; decide) 3 (by unfold D; simp) ?_
  intro s s' h
  refine stable_of 3 (by omega) fun m hn => ?_
  obtain ⟨s1, h1, h2⟩ := h.cons
  refine basic_array (m + 1) hl h1 (.arr (Y.sl r) []) ?_
  refine andThen (tryConsume_tok m hr h2) ?_
  simp only [hr, if_true]
  rfl

theorem case_hmEmpty (l eq r : Token) (hl : l.type = cTypeArrayQuoteL) (heq : eq.type = cTypeAssignMark)
    (hr : r.type = cTypeArrayQuoteR) : C7 v Y (.hm (Y.sl l) []) [l, eq, r] := by
  refine c7_of_basic_plain _ [l, eq, r] (by simp) (by show l.type ∈ _; rw [hl]; decide) 3 (by unfold D; simp) ?_
  intro s s' h
  refine stable_of 3 (by omega) fun m hn => ?_
  obtain ⟨s1, h1, h⟩ := h.cons
  obtain ⟨s2, h2, h3⟩ := h.cons
  refine basic_array (m + 1) hl h1 (.hm (Y.sl eq) []) ?_
  refine andThen (tryConsume_tok m heq h2) ?_
  simp (decide := true) only [heq, if_true, if_false]
  exact andThen (consume_tok m hr h3) rfl

/-- `ParseArrayExpr` when the first token after `【` starts an expression: no empty literal -/
theorem array_nonEmpty (m : Nat) {s : PState (List Token)} (hf : s.p2.type ∈ exprHeads) :
    parse v (layoutOps Y) (m + 1) .array s = pArrayNonEmpty (layoutOps Y) m (parse v (layoutOps Y) m) s :=
  andThen (tryConsume_stops m (.of_mem hf)) rfl

theorem case_arr (l r : Token) (e1 : Expr) (t1 : List Token) (es : List Expr) (ts : List Token) (hl : l.type = cTypeArrayQuoteL)
    (hr : r.type = cTypeArrayQuoteR) (Ft : Facts Y t1) (C : C1 v Y false e1 t1) (Fs : ts ≠ [] → Facts Y ts)
    (hnil : ts = [] → es = []) (Cs : CItems v Y es ts) : C7 v Y (.arr (Y.sl l) (e1 :: es)) (l :: t1 ++ ts ++ [r]) := by
  refine c7_of_basic_plain _ _ (by simp) (by show l.type ∈ _; rw [hl]; decide) (16 * t1.length + 16 * ts.length + 32)
    (by unfold D; simp only [List.length_append, List.length_cons, List.length_nil]; omega) ?_
  intro s s' h
  refine stable_of 3 (by omega) fun m hn => ?_
  obtain ⟨s3, h, h4⟩ := h.append
  obtain ⟨s2, h, h3⟩ := h.append
  obtain ⟨s1, h1, h2⟩ := h.cons
  refine basic_array (m + 1) hl h1 (.arr 0 (e1 :: es)) ?_
  rw [array_nonEmpty (m + 1) (Ft.head h2)]
  refine andThen (c1_done C s1 s2 h2 (stops_item Fs hr h3 h4) (m + 1) (by omega)) ?_
  cases ts with
  | nil =>
    obtain rfl := h3.nil
    rw [hnil rfl]
    refine andThen (tryConsume_tok m hr h4) ?_
    simp only [hr, if_true]
    rfl
  | cons u ts' =>
    simp only [List.length_cons] at hn
    exact andThen (tryConsume_stops (m + 1) (.of_mem ((Fs (by simp)).head h3)))
      (Cs (by simp) s2 s3 s' r [e1] hr h3 h4 (m + 1) (by unfold fN; simp only [List.length_cons]; omega))

theorem case_hm (l eq r : Token) (k : Expr) (tk : List Token) (vl : Expr) (tv : List Token) (kvs : List (Expr × Expr))
    (ts : List Token) (hl : l.type = cTypeArrayQuoteL) (heq : eq.type = cTypeAssignMark) (hr : r.type = cTypeArrayQuoteR)
    (Fk : Facts Y tk) (Ck : C1 v Y false k tk) (Cv : C1 v Y false vl tv) (Fs : ts ≠ [] → Facts Y ts)
    (Cs : CKvs v Y kvs ts) : C7 v Y (.hm (Y.sl l) ((k, vl) :: kvs)) (l :: tk ++ eq :: tv ++ ts ++ [r]) := by
  refine c7_of_basic_plain _ _ (by simp) (by show l.type ∈ _; rw [hl]; decide)
    (16 * tk.length + 16 * tv.length + 16 * ts.length + 48)
    (by unfold D; simp only [List.length_append, List.length_cons, List.length_nil]; omega) ?_
  intro s s' h
  refine stable_of 3 (by omega) fun m hn => ?_
  obtain ⟨s5, h, h6⟩ := h.append
  obtain ⟨s4, h, h5⟩ := h.append
  obtain ⟨s1, h1, h⟩ := Walk.cons (ts := tk ++ eq :: tv) h
  obtain ⟨s2, h2, h⟩ := h.append
  obtain ⟨s3, h3, h4⟩ := h.cons
  obtain ⟨a, b, c⟩ := follow_item (Or.inr (Or.inl heq))
  refine basic_array (m + 1) hl h1 (.hm 0 ((k, vl) :: kvs)) ?_
  rw [array_nonEmpty (m + 1) (Fk.head h2)]
  refine andThen (c1_done Ck s1 s2 h2 (h3.stops a (not_mem_BFO b c)) (m + 1) (by omega)) (andThen (tryConsume_tok m heq h3) ?_)
  simp (decide := true) only [heq, if_true, if_false]
  exact andThen (c1_done Cv s3 s4 h4 (stops_item Fs hr h5 h6) (m + 1) (by omega)) (andThen (unsetFlag_ok (item_flag h5 h6))
    (Cs s4 s5 s' r [(k, vl)] hr h5 h6 (m + 1) (by unfold fN; omega)))

/-- an expression owns at least one token; no tokens for the further items of a list means there are none.  (One induction over
all constructors of `LinX`: only those that conclude an `.expr` or an `.items` node say anything, and `simp_all` closes each.) -/
theorem linX_shape {cfg : Bool} {k : Nat} {nd : ENode} {ts : List Token} (h : LinX Y cfg k nd ts) :
    match nd with
    | .expr _ => ts ≠ []
    | .items es => ts = [] → es = []
    | _ => True := by
  induction h <;> simp_all

theorem linX_expr_ne {cfg : Bool} {k : Nat} {e : Expr} {ts : List Token} (h : LinX Y cfg k (.expr e) ts) : ts ≠ [] :=
  linX_shape h

theorem linX_items_nil {cfg : Bool} {k : Nat} {es : List Expr} {ts : List Token} (h : LinX Y cfg k (.items es) ts) :
    ts = [] → es = [] := linX_shape h

end ZnVerif.Proofs.StmtRT
