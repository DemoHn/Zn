/-
Helper lemmas for C15: the colour DFS of `checkCircularDepedencyDFS` (Model.Modules.checkCircular) decides
`HasCycle`, for every start order.

Soundness: the grey nodes all reach the node being explored, so an edge into a grey node closes a cycle.  The start loop
is the loop over a node's successors in a state where nothing is grey (`dfsLoop_eq_children`), so it needs no
specification of its own.
Completeness: black nodes are recorded in finishing order; when a node turns black all its successors are already
black, so the list of black nodes is topologically sorted (`Topo`); a run that answers `false` has blackened every
node, and a topologically sorted list containing every edge source admits no cycle.
Termination: every call colours a white node, fuel `|nodes| + 1` is never exhausted.
-/
import ZnVerif.Model.Modules
import ZnVerif.Spec.ModuleSem

namespace ZnVerif.Proofs.ModulesDfs
open ZnVerif.Model.Modules
open ZnVerif.Spec.ModuleSem (Walk HasCycle)

theorem Walk.trans {g : Graph} {a b c : Nat} (h1 : Walk g a b) (h2 : Walk g b c) : Walk g a c := by
  induction h1 with
  | refl => exact h2
  | cons e _ ih => exact Walk.cons e (ih h2)

theorem Walk.snoc {g : Graph} {a b c : Nat} (h1 : Walk g a b) (e : (b, c) ∈ g) : Walk g a c :=
  Walk.trans h1 (Walk.cons e (Walk.refl c))

theorem Walk.mono {g g' : Graph} (hs : ∀ e, e ∈ g → e ∈ g') {a b : Nat} (h : Walk g a b) : Walk g' a b := by
  induction h with
  | refl => exact Walk.refl _
  | cons e _ ih => exact Walk.cons (hs _ e) ih

theorem HasCycle.mono {g g' : Graph} (hs : ∀ e, e ∈ g → e ∈ g') (h : HasCycle g) : HasCycle g' := by
  obtain ⟨a, b, e, w⟩ := h
  exact ⟨a, b, hs _ e, Walk.mono hs w⟩

theorem mem_adjOf {g : Graph} {u v : Nat} : v ∈ adjOf g u ↔ (u, v) ∈ g := by
  simp [adjOf, List.mem_filterMap]

theorem src_mem_nodes {g : Graph} {u v : Nat} (h : (u, v) ∈ g) : u ∈ nodes g := by
  unfold nodes; rw [List.mem_flatMap]; exact ⟨(u, v), h, by simp⟩

theorem dst_mem_nodes {g : Graph} {u v : Nat} (h : (u, v) ∈ g) : v ∈ nodes g := by
  unfold nodes; rw [List.mem_flatMap]; exact ⟨(u, v), h, by simp⟩

/-- every successor of an element occurs later in the list -/
def Topo (g : Graph) : List Nat → Prop
  | [] => True
  | x :: l => (∀ y, (x, y) ∈ g → y ∈ l) ∧ Topo g l

theorem topo_succ {g : Graph} : ∀ {l : List Nat}, Topo g l → ∀ {x y}, x ∈ l → (x, y) ∈ g → y ∈ l
  | [], _, _, _, hx, _ => by cases hx
  | a :: l, ht, x, y, hx, e => by
    rcases List.mem_cons.1 hx with rfl | hx
    · exact List.mem_cons_of_mem _ (ht.1 y e)
    · exact List.mem_cons_of_mem _ (topo_succ ht.2 hx e)

theorem topo_closed {g : Graph} {l : List Nat} (ht : Topo g l) {x y : Nat} (w : Walk g x y) : x ∈ l → y ∈ l := by
  induction w with
  | refl => exact id
  | cons e _ ih => intro hx; exact ih (topo_succ ht hx e)

theorem topo_acyclic {g : Graph} : ∀ {l : List Nat}, Topo g l → ∀ {a b}, a ∈ l → (a, b) ∈ g → Walk g b a → False
  | [], _, _, _, ha, _, _ => by cases ha
  | x :: l, ht, a, b, ha, e, w => by
    by_cases hl : a ∈ l
    · exact topo_acyclic ht.2 hl e w
    · rcases List.mem_cons.1 ha with rfl | h
      · exact hl (topo_closed ht.2 w (ht.1 b e))
      · exact hl h

theorem topo_no_cycle {g : Graph} {l : List Nat} (ht : Topo g l) (hs : ∀ a b, (a, b) ∈ g → a ∈ l) : ¬ HasCycle g := by
  rintro ⟨a, b, e, w⟩
  exact topo_acyclic ht (hs a b e) e w

theorem look_cons (c : Colours) (k : Nat) (v : Colour) (u : Nat) :
    look ((k, v) :: c) u = if k = u then v else look c u := rfl

/-- black nodes, most recently finished first -/
def finished : Colours → List Nat
  | [] => []
  | (k, v) :: r => if v = .black then k :: finished r else finished r

theorem finished_cons_grey (c : Colours) (u : Nat) : finished ((u, .grey) :: c) = finished c := by
  simp [finished]

theorem finished_cons_black (c : Colours) (u : Nat) : finished ((u, .black) :: c) = u :: finished c := by
  simp [finished]

theorem mem_finished_of_black : ∀ {c : Colours} {u : Nat}, look c u = .black → u ∈ finished c
  | [], u, h => by simp [look] at h
  | (k, v) :: r, u, h => by
    rw [look_cons] at h
    by_cases hk : k = u
    · simp [hk] at h; subst hk; subst h; simp [finished]
    · simp [hk] at h
      have := mem_finished_of_black h
      unfold finished
      split
      · exact List.mem_cons_of_mem _ this
      · exact this

/-- no node loses its colour -/
def Mono (c c' : Colours) : Prop := ∀ x, look c x ≠ .white → look c' x ≠ .white
/-- the same nodes are grey (a call that answers `false` has finished everything it opened) -/
def GreyEq (c c' : Colours) : Prop := ∀ x, look c' x = .grey ↔ look c x = .grey
/-- every grey node reaches every node of `vs` by a walk of at least one edge: an edge from the node being explored
    into a grey node closes a cycle.  Vacuous at the start loop, where nothing is grey. -/
def GreyInto (g : Graph) (c : Colours) (vs : List Nat) : Prop :=
  ∀ w, look c w = .grey → ∀ v, v ∈ vs → ∃ u, Walk g w u ∧ (u, v) ∈ g

theorem GreyInto.tail {g : Graph} {c c' : Colours} {v : Nat} {vs : List Nat} (h : GreyInto g c (v :: vs))
    (hg : GreyEq c c') : GreyInto g c' vs :=
  fun w hw x hx => h w ((hg w).1 hw) x (List.mem_cons_of_mem _ hx)

/-- the termination measure: the nodes still white -/
def whiteCount (g : Graph) (c : Colours) : Nat := (nodes g).countP (fun x => decide (look c x = .white))

theorem whiteCount_mono {g : Graph} {c c' : Colours} (h : Mono c c') : whiteCount g c' ≤ whiteCount g c := by
  unfold whiteCount
  apply List.countP_mono_left
  intro x _ hx
  simp only [decide_eq_true_eq] at hx ⊢
  exact Classical.byContradiction fun hn => h x hn hx

theorem countP_lt {α} {p q : α → Bool} : ∀ {l : List α}, (∀ x, x ∈ l → p x = true → q x = true) →
    (∃ u, u ∈ l ∧ q u = true ∧ p u = false) → List.countP p l < List.countP q l
  | [], _, ⟨_, hu, _⟩ => by cases hu
  | a :: l, hpq, ⟨u, hu, hqu, hpu⟩ => by
    have hmono : List.countP p l ≤ List.countP q l :=
      List.countP_mono_left (fun x hx => hpq x (List.mem_cons_of_mem _ hx))
    rcases List.mem_cons.1 hu with rfl | hul
    · simp [hqu, hpu]; omega
    · have ih := countP_lt (l := l) (fun x hx => hpq x (List.mem_cons_of_mem _ hx)) ⟨u, hul, hqu, hpu⟩
      have ha := hpq a (List.mem_cons_self ..)
      simp only [List.countP_cons]
      by_cases hp : p a = true
      · simp [hp, ha hp]; omega
      · by_cases hq : q a = true
        · simp [hp, hq]; omega
        · simp [hp, hq]; omega

theorem whiteCount_lt {g : Graph} {c : Colours} {u : Nat} (hu : u ∈ nodes g) (hw : look c u = .white) :
    whiteCount g ((u, .grey) :: c) < whiteCount g c := by
  unfold whiteCount
  apply countP_lt
  · intro x _ hx
    simp only [decide_eq_true_eq, look_cons] at hx ⊢
    by_cases h : u = x
    · simp [h] at hx
    · simpa [h] using hx
  · exact ⟨u, hu, by simpa using hw, by simp [look_cons]⟩

theorem whiteCount_le_length (g : Graph) (c : Colours) : whiteCount g c ≤ (nodes g).length :=
  List.countP_le_length

/-- after a call that answers `false` (completeness): the grey nodes are as before, the finished list has grown at the front,
    all of `vs` are finished, and the finished list is still topologically sorted -/
def FalsePost (g : Graph) (c c' : Colours) (vs : List Nat) : Prop :=
  GreyEq c c' ∧ (∃ l, finished c' = l ++ finished c) ∧ (∀ v, v ∈ vs → v ∈ finished c') ∧
    (Topo g (finished c) → Topo g (finished c'))

/-- the specification of `dfs(u)` on a white `u` with enough fuel: it returns (termination), colours only grow, `true` means
    a cycle if the grey nodes reach `u` by at least one edge (soundness), `false` gives `FalsePost` for `[u]` (completeness) -/
def NodeOK (g : Graph) (c : Colours) (u : Nat) (r : Option (Bool × Colours)) : Prop :=
  ∃ b c', r = some (b, c') ∧ Mono c c' ∧ (b = true → GreyInto g c [u] → HasCycle g) ∧
    (b = false → FalsePost g c c' [u])

/-- The bound on the white nodes is asked only when there is a successor to explore (`vs ≠ [] →`): a start node without edges is not
    in `nodes g`, so colouring it grey does not lower `whiteCount` (see `dfsNode_spec`). -/
theorem dfsChildren_spec (g : Graph) (f : Nat) (rec : Colours → Nat → Option (Bool × Colours))
    (hrec : ∀ c v, look c v = .white → whiteCount g c < f → NodeOK g c v (rec c v)) :
    ∀ (vs : List Nat) (c : Colours), (vs ≠ [] → whiteCount g c < f) →
      ∃ b c', dfsChildren rec c vs = some (b, c') ∧ Mono c c' ∧
        (b = true → GreyInto g c vs → HasCycle g) ∧
        (b = false → FalsePost g c c' vs)
  | [], c, _ => by
    refine ⟨false, c, rfl, fun _ h => h, by simp, fun _ => ⟨fun _ => Iff.rfl, ⟨[], rfl⟩, ?_, id⟩⟩
    intro v hv; cases hv
  | v :: vs, c, hf => by
    have hfc : whiteCount g c < f := hf (by simp)
    unfold dfsChildren
    cases hl : look c v with
    | grey =>
      refine ⟨true, c, rfl, fun _ h => h, ?_, by simp⟩
      intro _ hg
      obtain ⟨u, hw, he⟩ := hg v hl v (List.mem_cons_self ..)
      exact ⟨u, v, he, hw⟩
    | black =>
      obtain ⟨b, c', hr, hm, ht, hfl⟩ := dfsChildren_spec g f rec hrec vs c (fun _ => hfc)
      refine ⟨b, c', hr, hm, fun hb hg => ht hb (hg.tail fun _ => Iff.rfl), ?_⟩
      intro hb
      obtain ⟨h1, ⟨l, h2⟩, h3, h4⟩ := hfl hb
      refine ⟨h1, ⟨l, h2⟩, ?_, h4⟩
      intro w hw
      rcases List.mem_cons.1 hw with rfl | hw
      · rw [h2]; exact List.mem_append_right _ (mem_finished_of_black hl)
      · exact h3 w hw
    | white =>
      obtain ⟨b1, c1, hr1, hm1, ht1, hf1⟩ := hrec c v hl hfc
      simp only [hr1]
      cases b1 with
      | true =>
        refine ⟨true, c1, rfl, hm1, ?_, by simp⟩
        intro _ hg
        exact ht1 rfl fun w hw x hx => hg w hw x (List.mem_singleton.1 hx ▸ List.mem_cons_self ..)
      | false =>
        obtain ⟨g1, ⟨l1, e1⟩, m1, t1⟩ := hf1 rfl
        have hfc1 : whiteCount g c1 < f := Nat.lt_of_le_of_lt (whiteCount_mono hm1) hfc
        obtain ⟨b, c', hr, hm, ht, hfl⟩ := dfsChildren_spec g f rec hrec vs c1 (fun _ => hfc1)
        refine ⟨b, c', hr, fun x hx => hm x (hm1 x hx), fun hb hg => ht hb (hg.tail g1), ?_⟩
        intro hb
        obtain ⟨h1, ⟨l, h2⟩, h3, h4⟩ := hfl hb
        refine ⟨fun x => (h1 x).trans (g1 x), ⟨l ++ l1, by rw [h2, e1, List.append_assoc]⟩, ?_, fun h => h4 (t1 h)⟩
        intro w hw
        rcases List.mem_cons.1 hw with rfl | hw
        · rw [h2]; exact List.mem_append_right _ (m1 w (List.mem_cons_self ..))
        · exact h3 w hw

theorem dfsNode_spec (g : Graph) : ∀ (f : Nat) (c : Colours) (u : Nat), look c u = .white → whiteCount g c < f →
    NodeOK g c u (dfsNode g f c u)
  | 0, _, _, _, hf => by omega
  | f + 1, c, u, hw, hf => by
    have hchildren := dfsChildren_spec g f (dfsNode g f) (fun c v h1 h2 => dfsNode_spec g f c v h1 h2)
      (adjOf g u) ((u, .grey) :: c) (by
        intro hne
        have hu : u ∈ nodes g := by
          cases hadj : adjOf g u with
          | nil => exact absurd hadj hne
          | cons v _ =>
            have : v ∈ adjOf g u := by rw [hadj]; exact List.mem_cons_self ..
            exact src_mem_nodes (mem_adjOf.1 this)
        have := whiteCount_lt hu hw
        omega)
    obtain ⟨b, c2, hr, hm, ht, hfl⟩ := hchildren
    have hmono1 : Mono c ((u, .grey) :: c) := fun x hx => by rw [look_cons]; split; nofun; exact hx
    unfold dfsNode
    simp only [hr]
    cases b with
    | true =>
      refine ⟨true, c2, rfl, fun x hx => hm x (hmono1 x hx), ?_, by simp⟩
      intro _ hg
      apply ht rfl
      intro w hw' v hv
      rw [look_cons] at hw'
      by_cases h : u = w
      · subst h; exact ⟨u, Walk.refl _, mem_adjOf.1 hv⟩
      · simp [h] at hw'
        obtain ⟨x, hwx, hxu⟩ := hg w hw' u (List.mem_singleton.2 rfl)
        exact ⟨u, Walk.snoc hwx hxu, mem_adjOf.1 hv⟩
    | false =>
      obtain ⟨h1, ⟨l, h2⟩, h3, h4⟩ := hfl rfl
      refine ⟨false, (u, .black) :: c2, rfl, ?_, by simp, fun _ => ⟨?_, ⟨u :: l, ?_⟩, ?_, ?_⟩⟩
      · exact fun x hx => by rw [look_cons]; split; nofun; exact hm x (hmono1 x hx)
      · intro x
        rw [look_cons]
        by_cases h : u = x
        · subst h; simp [hw]
        · simp only [h, if_false]
          rw [h1 x, look_cons]; simp [h]
      · rw [finished_cons_black, h2, finished_cons_grey]; rfl
      · intro v hv
        rw [List.mem_singleton.1 hv, finished_cons_black]; exact List.mem_cons_self ..
      · intro htopo
        rw [finished_cons_black]
        refine ⟨fun y e => h3 y (mem_adjOf.2 e), h4 ?_⟩
        rw [finished_cons_grey]; exact htopo

/-- between two calls of the start loop no node is grey -/
def NoGrey (c : Colours) : Prop := ∀ x, look c x ≠ .grey

theorem dfsLoop_eq_children (g : Graph) (fuel : Nat) : ∀ (ns : List Nat) (c : Colours), NoGrey c → whiteCount g c < fuel →
    dfsLoop g fuel c ns = (dfsChildren (dfsNode g fuel) c ns).map (·.1)
  | [], _, _, _ => rfl
  | n :: ns, c, hng, hf => by
    unfold dfsLoop dfsChildren
    cases hl : look c n with
    | grey => exact absurd hl (hng n)
    | black => exact dfsLoop_eq_children g fuel ns c hng hf
    | white =>
      obtain ⟨b1, c1, hr1, hm1, -, hf1⟩ := dfsNode_spec g fuel c n hl hf
      simp only [hr1]
      cases b1 with
      | true => rfl
      | false =>
        exact dfsLoop_eq_children g fuel ns c1 (fun x hx => hng x (((hf1 rfl).1 x).1 hx))
          (Nat.lt_of_le_of_lt (whiteCount_mono hm1) hf)

theorem checkCircular_spec (g : Graph) (π : List Nat) : ∃ b, checkCircular g π = some b ∧ (b = true → HasCycle g) ∧
    (b = false → (∀ v, v ∈ nodes g → v ∈ π) → ¬ HasCycle g) := by
  have hng : NoGrey [] := fun x => by simp [look]
  have hf := Nat.lt_succ_of_le (whiteCount_le_length g [])
  obtain ⟨b, c', hr, -, ht, hfl⟩ := dfsChildren_spec g _ _ (dfsNode_spec g ((nodes g).length + 1)) π [] fun _ => hf
  refine ⟨b, by unfold checkCircular; rw [dfsLoop_eq_children g _ π [] hng hf, hr]; rfl,
    fun hb => ht hb fun w hw => absurd hw (hng w), fun hb hπ => ?_⟩
  obtain ⟨-, -, h3, h4⟩ := hfl hb
  exact topo_no_cycle (h4 trivial) fun a b e => h3 a (hπ a (src_mem_nodes e))
end ZnVerif.Proofs.ModulesDfs
