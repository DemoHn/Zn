/-
array.go's `insertArrayValue` is modelled twice: the evaluator's own copy on addresses (`Model.insertArrayValue`,
Model/Interp.lean) and `Containers.insertArrayValue` on any element type.  They are the same function; past the range check
of 新增 both put the element at 0-based position `idx`, counted from the end when `idx` is negative.
-/
import ZnVerif.Model.Interp
import ZnVerif.Proofs.Containers

namespace ZnVerif.Proofs.Bridges
open ZnVerif ZnVerif.Model

theorem insertArrayValue_bridge (t : List Addr) (idx : Int) (x : Addr) :
    Model.insertArrayValue t idx x =
      match Containers.insertArrayValue t idx x with
      | .ok l => .ok l
      | .err c => .err (.rt c)
      | .panic => .panic := by
  unfold Model.insertArrayValue Containers.insertArrayValue
  by_cases h1 : idx ≥ (t.length : Int)
  · simp only [h1, if_true]
  · simp only [h1, if_false]
    by_cases h2 : (if idx < 0 then (t.length : Int) + idx else idx) < 0
    · simp only [h2, if_true]
    · simp only [h2, if_false]

theorem insertArrayValue_eq_insertNth (t : List Addr) (idx : Int) (x : Addr) (h : ¬ (idx < 0 ∧ (t.length : Int) + idx < 0)) :
    Model.insertArrayValue t idx x =
      .ok (Spec.Seq.insertNth x (if idx < 0 then (t.length : Int) + idx else idx).toNat t) := by
  rw [insertArrayValue_bridge, Containers.insertArrayValue_eq, if_neg h]

end ZnVerif.Proofs.Bridges
