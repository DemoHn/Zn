/-
C03 at character level, the interface between the lexer part and the parser part.

A `Run Y` is a complete account of what the lexer model does on ONE source text, read against the layout `Y` (the FINAL line table of
that text and its length): the sequence of lexer states `st 0, st 1, …` between tokens, the token `tk j` that `NextToken` answers in
state `st j` (after the last token of the text: the EOF token, for ever), and the facts about the line table AS IT GROWS that the
parser relies on:

 * the table known after token `j` (`(st (j+1)).lines`) is a prefix of the final table as far as start indices and indentations
   go (`LineText` of the last known line is still nil at that moment, which the parser never reads);
 * token `j` ENDS on the LAST line known at that moment (before the next line of the final table starts) and STARTS on line
   `sline j` (the same line, unless the token is a text literal that spans lines), at or after the last line known before it;
 * line starts increase strictly.

Proofs/RenderGapRun.lean builds the `Run` of a document (`docRun`; a canonical rendering is a document); Proofs/LexSim*.lean proves
that the parser model driven by the real lexer along a `Run` answers what it answers on the token list read against `Y`.
-/
import ZnVerif.Model.ParserLex
import ZnVerif.Spec.StmtSyntax

namespace ZnVerif.Proofs.LexRun
open ZnVerif.Model ZnVerif.Model.Parser ZnVerif.Generated.Tokens
open ZnVerif.Spec.StmtSyntax

structure Run (Y : Layout) where
  /-- the lexer between tokens: `st 0` is the lexer on the fresh source -/
  st : Nat → Lexer
  /-- the token answered in state `st j` -/
  tk : Nat → Token
  /-- number of tokens before EOF -/
  N : Nat
  step : ∀ j, nextToken (st j) = (.ok (tk j), st (j + 1))
  eof : ∀ j, N ≤ j → tk j = Y.eof
  /-- line starts of the final table increase strictly -/
  sorted : ∀ (i j : Nat) (a b : LineInfo), i < j → Y.lines[i]? = some a → Y.lines[j]? = some b → a.startIdx < b.startIdx
  size_pos : ∀ j, 0 < (st (j + 1)).lines.size
  size_mono : ∀ j, (st (j + 1)).lines.size ≤ (st (j + 2)).lines.size
  /-- the table known after token `j` agrees with the final one on start index and indentation of every known line -/
  pre : ∀ j i, i < (st (j + 1)).lines.size →
    (st (j + 1)).lines[i]?.map (·.startIdx) = Y.lines[i]?.map (·.startIdx) ∧
    (st (j + 1)).lines[i]?.map (·.indents) = Y.lines[i]?.map (·.indents)
  /-- the line token `j` starts on -/
  sline : Nat → Nat
  sline_lt : ∀ j, sline j < (st (j + 1)).lines.size
  /-- a token starts at or after the last line known when the token before it had been read -/
  sline_ge : ∀ j, (st (j + 1)).lines.size - 1 ≤ sline (j + 1)
  onStart : ∀ j (a : LineInfo), Y.lines[sline j]? = some a → a.startIdx ≤ (tk j).startIdx
  beforeNextStart : ∀ j (b : LineInfo), Y.lines[sline j + 1]? = some b → (tk j).startIdx < b.startIdx
  /-- token `j` ends on the last line known after it has been read -/
  onLast : ∀ j (a : LineInfo), Y.lines[(st (j + 1)).lines.size - 1]? = some a → a.startIdx ≤ (tk j).endIdx
  span : ∀ j, (tk j).startIdx ≤ (tk j).endIdx
  beforeNext : ∀ j (b : LineInfo), Y.lines[(st (j + 1)).lines.size]? = some b → (tk j).endIdx < b.startIdx

/-- the tokens of the text (without EOF) -/
def Run.toks {Y : Layout} (R : Run Y) : List Token := (List.range R.N).map R.tk

end ZnVerif.Proofs.LexRun
