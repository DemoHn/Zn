/-
The fuel order on computations of the evaluator monad: `FLe a b` when `b` answers what `a` answers unless `a` runs out
of fuel.  `outOfFuel` is least and `>>=`, `if`, `mapM`, `allM` are monotone, so a function defined by recursion on fuel
whose step is built from these is monotone in its fuel (`dup_mono` here; `compareXEQ_mono`, `evalExpr_mono` in ExprMono).
-/
import ZnVerif.Proofs.Calls

set_option linter.unusedSectionVars false

namespace ZnVerif.Proofs
open ZnVerif.Model

variable {ν : Type} [NumOps ν]

/-- `b` answers what `a` answers whenever `a` does not run out of fuel -/
def FLe {α} (a b : M ν α) : Prop := ∀ s r s', a s = (r, s') → r ≠ .fuel → b s = (r, s')

theorem FLe.refl {α} (a : M ν α) : FLe a a := fun _ _ _ h _ => h

theorem FLe.trans {α} {a b c : M ν α} (h1 : FLe a b) (h2 : FLe b c) : FLe a c :=
  fun s r s' h hr => h2 s r s' (h1 s r s' h hr) hr

theorem FLe.fuel {α} (b : M ν α) : FLe outOfFuel b := by
  intro s r s' h hr
  cases h; exact absurd rfl hr

theorem FLe.bind {α β} {a b : M ν α} {f g : α → M ν β} (h1 : FLe a b) (h2 : ∀ x, FLe (f x) (g x)) :
    FLe (a >>= f) (b >>= g) := by
  intro s r s' h hr
  rw [Calls.M_bind_def] at h ⊢
  cases ha : a s with
  | mk ra sa =>
    rw [ha] at h
    cases ra with
    | ok x => rw [h1 s _ _ ha (by simp)]; exact h2 x sa r s' h hr
    | fuel => simp only at h; cases h; exact absurd rfl hr
    | err e | panic | unmodelled => rw [h1 s _ _ ha (by simp)]; exact h

theorem FLe.ite {α} {c : Prop} [Decidable c] {a a' b b' : M ν α} (h : FLe a b) (h' : FLe a' b') :
    FLe (if c then a else a') (if c then b else b') := by
  split
  · exact h
  · exact h'

theorem FLe.mapM {α β} {f g : α → M ν β} : ∀ (l : List α), (∀ x ∈ l, FLe (f x) (g x)) → FLe (l.mapM f) (l.mapM g)
  | [], _ => by rw [List.mapM_nil, List.mapM_nil]; exact FLe.refl _
  | x :: xs, h => by
    rw [List.mapM_cons, List.mapM_cons]
    exact FLe.bind (h x List.mem_cons_self) fun _ =>
      FLe.bind (FLe.mapM xs fun y hy => h y (List.mem_cons_of_mem _ hy)) fun _ => FLe.refl _

theorem FLe.allM {α} {f g : α → M ν Bool} (h : ∀ x, FLe (f x) (g x)) : ∀ (l : List α), FLe (allM f l) (allM g l)
  | [] => FLe.refl _
  | x :: xs => by
    simp only [Model.allM]
    refine FLe.bind (h x) fun b => ?_
    cases b
    · exact FLe.refl _
    · exact FLe.allM h xs

theorem dup_mono : ∀ (k : Nat) (a : Addr), FLe (dup (ν := ν) k a) (dup (k+1) a)
  | 0, _ => FLe.fuel _
  | k+1, a => by
    refine .bind (.refl _) fun c => ?_
    cases c
    case arr items => exact .bind (.mapM _ fun x _ => dup_mono k x) fun _ => .refl _
    case hm vals order =>
      refine .bind (.mapM _ fun key _ => ?_) fun _ => .refl _
      cases lookup key vals
      · exact .refl _
      · exact .bind (dup_mono k _) fun _ => .refl _
    all_goals exact .refl _

theorem dup_mono_le {n m : Nat} (h : n ≤ m) (a : Addr) : FLe (dup (ν := ν) n a) (dup m a) := by
  induction h with
  | refl => exact .refl _
  | step _ ih => exact ih.trans (dup_mono _ a)

end ZnVerif.Proofs
