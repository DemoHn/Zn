/-
`content`: the deep read of a heap cell into a spec value (DESIGN §3), on fuel, and the facts about it
that the refinement proofs use: it only grows with fuel and with heap extension.

Cells that are not plain data (objects, methods, types, exceptions) are read through an abstraction map
`ω : Addr → Option (SVal ν)` (which must answer a non-plain spec value); `content` is the instance
`ω = fun _ => none`, the read of plain values only.  A dictionary cell is readable only when it is
well-formed: its key order lists exactly the stored keys, in storage order.
-/
import ZnVerif.Proofs.AssocList
import ZnVerif.Spec.Sem

namespace ZnVerif.Proofs
open ZnVerif.Model ZnVerif.Spec

variable {ν : Type}

inductive Forall2 {α β} (R : α → β → Prop) : List α → List β → Prop
  | nil : Forall2 R [] []
  | cons {a b as bs} : R a b → Forall2 R as bs → Forall2 R (a :: as) (b :: bs)

theorem Forall2.imp {α β} {R S : α → β → Prop} (h : ∀ a b, R a b → S a b) :
    ∀ {as bs}, Forall2 R as bs → Forall2 S as bs
  | _, _, .nil => .nil
  | _, _, .cons r rest => .cons (h _ _ r) (Forall2.imp h rest)

theorem Forall2.length_eq {α β} {R : α → β → Prop} : ∀ {as bs}, Forall2 R as bs → as.length = bs.length
  | _, _, .nil => rfl
  | _, _, .cons _ rest => by simp [Forall2.length_eq rest]

theorem Forall2.append {α β} {R : α → β → Prop} : ∀ {as bs as' bs'}, Forall2 R as bs → Forall2 R as' bs' →
    Forall2 R (as ++ as') (bs ++ bs')
  | _, _, _, _, .nil, h => h
  | _, _, _, _, .cons r rest, h => .cons r (Forall2.append rest h)

def allSome {α} : List (Option α) → Option (List α)
  | [] => some []
  | none :: _ => none
  | some x :: rest => match allSome rest with
    | some r => some (x :: r)
    | none => none

theorem allSome_map_eq_some {α β} (f : α → Option β) :
    ∀ (as : List α) (bs : List β), allSome (as.map f) = some bs ↔ Forall2 (fun a b => f a = some b) as bs
  | [], bs => by
    constructor
    · intro h; simp [allSome] at h; subst h; exact .nil
    · intro h; cases h; rfl
  | a :: as, bs => by
    constructor
    · intro h
      simp only [List.map_cons] at h
      cases hfa : f a with
      | none => rw [hfa] at h; simp [allSome] at h
      | some b =>
        rw [hfa] at h
        simp only [allSome] at h
        cases hr : allSome (as.map f) with
        | none => rw [hr] at h; simp at h
        | some r =>
          rw [hr] at h; simp at h; subst h
          exact .cons hfa ((allSome_map_eq_some f as r).1 hr)
    · intro h
      cases h with
      | cons hab rest =>
        simp only [List.map_cons, hab, allSome, (allSome_map_eq_some f as _).2 rest]

def isOpaque : SVal ν → Bool
  | .obj _ | .fn _ | .builtinFn _ | .cls _ | .exc _ | .fault _ => true
  | _ => false

/-- the deep read, with `ω` answering for non-plain cells -/
def contentW (ω : Addr → Option (SVal ν)) : Nat → Array (Cell ν) → Addr → Option (SVal ν)
  | 0, _, _ => none
  | k+1, h, a =>
    match h[a]? with
    | none => none
    | some (.num x) => some (.num x)
    | some (.str s) => some (.str s)
    | some (.bool b) => some (.bool b)
    | some .null => some .null
    | some (.arr items) => (allSome (items.map (contentW ω k h))).map .list
    | some (.hm vals order) =>
      if order = vals.map Prod.fst then
        (allSome (order.map fun key => match lookup key vals with
            | some a => (contentW ω k h a).map fun v => (key, v)
            | none => none)).map .dict
      else none
    | some _ => match ω a with
      | some v => if isOpaque v then some v else none
      | none => none

/-- the deep read of plain values (numbers, texts, booleans, 空, lists, dictionaries) into a spec value; `Model.content`
(Proofs/Heap) is another function, the read of a cell into a `Tree` that the heap properties use -/
abbrev content : Nat → Array (Cell ν) → Addr → Option (SVal ν) := contentW (fun _ => none)

/-- one layer of `contentW`: the cell `c` at `a` reads as `v`, given the read `child` of its components -/
inductive Layer (ω child : Addr → Option (SVal ν)) (a : Addr) : Cell ν → SVal ν → Prop
  | num (x : ν) : Layer ω child a (.num x) (.num x)
  | str (s : String) : Layer ω child a (.str s) (.str s)
  | bool (b : Bool) : Layer ω child a (.bool b) (.bool b)
  | null : Layer ω child a .null .null
  | arr {items vs} : Forall2 (fun a v => child a = some v) items vs → Layer ω child a (.arr items) (.list vs)
  | hm {vals order kvs} : order = vals.map Prod.fst →
      Forall2 (fun key (kv : String × SVal ν) => kv.1 = key ∧ ∃ a, lookup key vals = some a ∧ child a = some kv.2) order kvs →
      Layer ω child a (.hm vals order) (.dict kvs)
  | obj {cl ps v} : ω a = some v → isOpaque v = true → Layer ω child a (.obj cl ps) v
  | fn {f v} : ω a = some v → isOpaque v = true → Layer ω child a (.fn f) v
  | cls {nm ct ps ms v} : ω a = some v → isOpaque v = true → Layer ω child a (.cls nm ct ps ms) v
  | exc {msg v} : ω a = some v → isOpaque v = true → Layer ω child a (.exc msg) v

/-- the entry of `contentW`'s dictionary arm for one key of the order, as the relation `Layer.hm` states it -/
theorem hmItem_iff (child : Addr → Option (SVal ν)) (vals : List (String × Addr)) (key : String) (kv : String × SVal ν) :
    (match lookup key vals with
      | some a => (child a).map fun v => (key, v)
      | none => none) = some kv ↔ (kv.1 = key ∧ ∃ a, lookup key vals = some a ∧ child a = some kv.2) := by
  cases hl : lookup key vals with
  | none => simp
  | some a =>
    cases hc : child a with
    | none => simp [hc]
    | some v =>
      simp [hc]
      constructor
      · rintro rfl; exact ⟨rfl, rfl⟩
      · rintro ⟨h1, h2⟩; cases kv; simp_all

theorem contentW_succ_iff (ω : Addr → Option (SVal ν)) (k : Nat) (h : Array (Cell ν)) (a : Addr) (v : SVal ν) :
    contentW ω (k+1) h a = some v ↔ ∃ c, h[a]? = some c ∧ Layer ω (contentW ω k h) a c v := by
  constructor
  · intro hv
    cases hc : h[a]? with
    | none => simp [contentW, hc] at hv
    | some c =>
      refine ⟨c, rfl, ?_⟩
      cases c <;> simp only [contentW, hc, Option.some.injEq] at hv
      case num | str | bool | null => subst hv; constructor
      case arr items =>
        obtain ⟨vs, hf, rfl⟩ := Option.map_eq_some_iff.1 hv
        exact .arr ((allSome_map_eq_some _ _ _).1 hf)
      case hm vals order =>
        by_cases ho : order = vals.map Prod.fst
        · rw [if_pos ho] at hv
          obtain ⟨vs, hf, rfl⟩ := Option.map_eq_some_iff.1 hv
          exact .hm ho (((allSome_map_eq_some _ _ _).1 hf).imp fun _ _ h => (hmItem_iff _ _ _ _).1 h)
        · rw [if_neg ho] at hv; cases hv
      all_goals
        cases hw : ω a with
        | none => simp [hw] at hv
        | some w =>
          simp only [hw] at hv
          by_cases hop : isOpaque w = true
          · rw [if_pos hop] at hv; cases hv; constructor <;> assumption
          · rw [if_neg hop] at hv; cases hv
  · rintro ⟨c, hc, hl⟩
    cases hl with
    | num | str | bool | null => simp only [contentW, hc]
    | arr hf => simp only [contentW, hc, (allSome_map_eq_some _ _ _).2 hf, Option.map_some]
    | hm ho hf =>
      simp only [contentW, hc, if_pos ho,
        (allSome_map_eq_some _ _ _).2 (hf.imp fun _ _ h => (hmItem_iff _ _ _ _).2 h), Option.map_some]
    | obj hw hop | fn hw hop | cls hw hop | exc hw hop => simp only [contentW, hc, hw, if_pos hop]

variable {ω : Addr → Option (SVal ν)}

theorem Layer.mono {child child' : Addr → Option (SVal ν)}
    (hc : ∀ a v, child a = some v → child' a = some v) {a : Addr} {c : Cell ν} {v : SVal ν}
    (h : Layer ω child a c v) : Layer ω child' a c v := by
  cases h with
  | arr hf => exact .arr (hf.imp hc)
  | hm ho hf => exact .hm ho (hf.imp fun key kv ⟨h1, a, h2, h3⟩ => ⟨h1, a, h2, hc _ _ h3⟩)
  | _ => constructor <;> assumption

theorem contentW_pos {k h a} {v : SVal ν} (hk : contentW ω k h a = some v) : 0 < k := by
  cases k with
  | zero => simp [contentW] at hk
  | succ k => exact Nat.succ_pos k

theorem contentW_succ : ∀ {k h a} {v : SVal ν},
    contentW ω k h a = some v → contentW ω (k+1) h a = some v
  | 0, _, _, _, hk => by simp [contentW] at hk
  | k+1, h, a, v, hk => by
    obtain ⟨c, hc, hl⟩ := (contentW_succ_iff ω k h a v).1 hk
    exact (contentW_succ_iff ω (k+1) h a v).2 ⟨c, hc, hl.mono fun a v hav => contentW_succ hav⟩

theorem contentW_mono {k k' h a} {v : SVal ν} (hkk : k ≤ k')
    (hk : contentW ω k h a = some v) : contentW ω k' h a = some v := by
  induction hkk with
  | refl => exact hk
  | step _ ih => exact contentW_succ ih

/-- every defined cell of `h` is the same cell in `h'` (evaluation only allocates); word for word `Builtins.Pre`, and equivalent to
`Model.Ext` of Proofs/Heap -/
def HeapLe (h h' : Array (Cell ν)) : Prop := ∀ (i : Nat) (c : Cell ν), h[i]? = some c → h'[i]? = some c

theorem HeapLe.refl (h : Array (Cell ν)) : HeapLe h h := fun _ _ x => x
theorem HeapLe.trans {h h' h'' : Array (Cell ν)} (a : HeapLe h h') (b : HeapLe h' h'') : HeapLe h h'' :=
  fun i c x => b i c (a i c x)
theorem HeapLe.push (h : Array (Cell ν)) (c : Cell ν) : HeapLe h (h.push c) := by
  intro i c' hi
  have hlt : i < h.size := by
    rcases Nat.lt_or_ge i h.size with hlt | hge
    · exact hlt
    · rw [Array.getElem?_eq_none hge] at hi; cases hi
  rw [Array.getElem?_push]
  have : i ≠ h.size := Nat.ne_of_lt hlt
  simp [this, hi]

theorem contentW_heap {h h' : Array (Cell ν)} (hle : HeapLe h h') : ∀ {k a} {v : SVal ν},
    contentW ω k h a = some v → contentW ω k h' a = some v
  | 0, _, _, hk => by simp [contentW] at hk
  | k+1, a, v, hk => by
    obtain ⟨c, hc, hl⟩ := (contentW_succ_iff ω k h a v).1 hk
    exact (contentW_succ_iff ω k h' a v).2 ⟨c, hle _ _ hc, hl.mono fun a v hav => contentW_heap hle hav⟩

theorem contentW_push_new (k : Nat) (h : Array (Cell ν)) (c : Cell ν) (v : SVal ν)
    (hl : Layer ω (contentW ω k (h.push c)) h.size c v) : contentW ω (k+1) (h.push c) h.size = some v :=
  (contentW_succ_iff ω k _ _ v).2 ⟨c, by simp, hl⟩

end ZnVerif.Proofs
