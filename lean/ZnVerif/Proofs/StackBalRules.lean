/-
Call-stack discipline of the evaluator model, part 2: the judgment `Fr R ns m` and its composition rules.

`Fr R ns m`: whatever `m` does, frames are only added above the stack it starts from; that stack stays as it is,
literally, except that its top frame may have been updated in place along `R`; a run that ends normally or with a loop
signal has added nothing; the current module stays the module of the top frame; and, if `ns`, `m` never ends with a
loop signal.  Expressions and calls satisfy it with `R = .lit` (no update at all), statements with `R = .stmt`
(`line := …, started := true` and `ret := …`).  `Bal` / `BalNS`, defined first in this file over `Ext` / `SameStack` of
Proofs/StackBal.lean, are what the instance `R = .marks` says (`Fr.bal`, `Fr.balNS`, `Fr.ofBalNS`).
`FrIn m` is for code that runs right after a `pushFrame`: a normal end has popped exactly that frame.
-/
import ZnVerif.Proofs.StackBal
set_option linter.unusedSectionVars false

namespace ZnVerif.Proofs.StackBal
open ZnVerif.Model ZnVerif.Proofs.Calls

variable {ν : Type} [NumOps ν]

/-- frames are only added above the starting stack (every outcome); a normal end or a loop signal leaves the starting
stack up to the marks of its top frame; the current module stays the module of the top frame -/
structure Bal {α} (m : M ν α) : Prop where
  ext : ∀ s, Ext s.stack (m s).2.stack
  same : ∀ s, okOrSig (m s).1 = true → SameStack s.stack (m s).2.stack
  inv : ∀ s, CsInv s → CsInv (m s).2

structure BalNS {α} (m : M ν α) : Prop extends Bal m where
  nosig : ∀ s, resIsSig (m s).1 = false

/-- code running right after a `pushFrame`: a normal end has popped that frame (exactly the stack below it is left,
with its module current); otherwise frames are only added; never a loop signal -/
structure BalIn {α} (m : M ν α) : Prop where
  ext : ∀ s fr rest, s.stack = fr :: rest → Ext rest (m s).2.stack
  okpop : ∀ s fr rest, s.stack = fr :: rest → resIsOk (m s).1 = true →
    (m s).2.stack = rest ∧ (m s).2.csModuleID = topModule rest
  nosig : ∀ s, resIsSig (m s).1 = false
  inv : ∀ s, CsInv s → CsInv (m s).2

theorem okOrSig_of_ok {α} {r : Res α} (h : resIsOk r = true) : okOrSig r = true := by simp [okOrSig, h]
theorem okOrSig_nosig {α} {r : Res α} (h : resIsSig r = false) (h2 : okOrSig r = true) : resIsOk r = true := by
  simpa [okOrSig, h] using h2

theorem CsInv.of_same {s s' : VM ν} (h : s'.stack = s.stack) (h2 : s'.csModuleID = s.csModuleID) (hi : CsInv s) :
    CsInv s' := by unfold CsInv at *; rw [h, h2, hi]

/-- how code may update, in place, the frame it runs in -/
structure FrameRel where
  rel : Frame → Frame → Prop
  refl : ∀ f, rel f f
  trans : ∀ {a b c}, rel a b → rel b c → rel a c
  modl : ∀ {a b}, rel a b → b.moduleId = a.moduleId

/-- not at all (expressions, calls, declarations) -/
def FrameRel.lit : FrameRel := ⟨fun f f' => f' = f, fun _ => rfl, fun h1 h2 => h2.trans h1, fun h => h ▸ rfl⟩

/-- `line := …, started := true` and `ret := …` (statements) -/
def FrameRel.stmt : FrameRel :=
  ⟨fun f f' => core f' = core f ∧ (f.started = true → f'.started = true), fun _ => ⟨rfl, id⟩,
   fun h1 h2 => ⟨h2.1.trans h1.1, fun h => h2.2 (h1.2 h)⟩, fun h => (core_eq_iff.1 h.1).1⟩

/-- anything in `line`, `started`, `ret`: what `SameStack` allows -/
def FrameRel.marks : FrameRel :=
  ⟨fun f f' => core f' = core f, fun _ => rfl, fun h1 h2 => h2.trans h1, fun h => (core_eq_iff.1 h).1⟩

def FrameRel.le (R R' : FrameRel) : Prop := ∀ f f', R.rel f f' → R'.rel f f'

theorem FrameRel.lit_le (R : FrameRel) : FrameRel.lit.le R := fun f _ h => h ▸ R.refl f
theorem FrameRel.stmt_le_marks : FrameRel.stmt.le .marks := fun _ _ h => h.1
theorem FrameRel.le_refl (R : FrameRel) : R.le R := fun _ _ h => h

/-- `st'` is `st` with its top frame updated along `R` -/
def Top (R : FrameRel) : List Frame → List Frame → Prop
  | [], st' => st' = []
  | f :: r, st' => ∃ f', st' = f' :: r ∧ R.rel f f'

theorem Top.refl (R : FrameRel) : ∀ st, Top R st st
  | [] => rfl
  | f :: _ => ⟨f, rfl, R.refl f⟩

theorem Top.trans {R : FrameRel} {a b c : List Frame} (h1 : Top R a b) (h2 : Top R b c) : Top R a c := by
  cases a with
  | nil => cases h1; exact h2
  | cons f r =>
    obtain ⟨f', rfl, h⟩ := h1
    obtain ⟨f'', rfl, h'⟩ := h2
    exact ⟨f'', rfl, R.trans h h'⟩

theorem Top.mono {R R' : FrameRel} (hR : R.le R') {a b : List Frame} (h : Top R a b) : Top R' a b := by
  cases a with
  | nil => exact h
  | cons f r => obtain ⟨f', rfl, h⟩ := h; exact ⟨f', rfl, hR _ _ h⟩

theorem top_iff {R : FrameRel} {st st' : List Frame} :
    Top R st st' ↔ (st = [] ∧ st' = []) ∨ ∃ f f' r, st = f :: r ∧ st' = f' :: r ∧ R.rel f f' := by
  cases st with
  | nil => exact ⟨fun h => .inl ⟨rfl, h⟩, fun h => h.elim (·.2) fun ⟨_, _, _, h, _⟩ => nomatch h⟩
  | cons f r =>
    exact ⟨fun ⟨f', e, h⟩ => .inr ⟨f, f', r, rfl, e, h⟩,
      fun h => h.elim (fun h => nomatch h.1) fun ⟨_, f', _, e, e', h⟩ => by cases e; exact ⟨f', e', h⟩⟩

theorem top_lit {a b : List Frame} : Top .lit a b ↔ b = a := by
  cases a with
  | nil => exact Iff.rfl
  | cons f r => exact ⟨fun ⟨_, h, e⟩ => e ▸ h, fun h => ⟨f, h, rfl⟩⟩

theorem top_marks {a b : List Frame} : Top .marks a b ↔ SameStack a b := by
  cases a with
  | nil => cases b <;> simp [Top, SameStack, norm]
  | cons f r => exact ⟨fun ⟨f', e, h⟩ => by rw [e]; exact congrArg (· :: r) h, norm_cons_eq⟩

theorem Top.topModule {R : FrameRel} {a b : List Frame} (h : Top R a b) : topModule b = topModule a := by
  cases a with
  | nil => rw [show b = [] from h]
  | cons f r => obtain ⟨f', rfl, h⟩ := h; exact R.modl h

theorem Top.length_eq {R : FrameRel} {a b : List Frame} (h : Top R a b) : b.length = a.length := by
  cases a with
  | nil => rw [show b = [] from h]
  | cons f r => obtain ⟨f', rfl, _⟩ := h; rfl

/-- `st'` is `st`, top frame updated along `R`, with frames `extra` added above: none if the run was `good` -/
def Ends (R : FrameRel) (st st' : List Frame) (good : Bool) : Prop :=
  ∃ extra base, st' = extra ++ base ∧ Top R st base ∧ (good = true → extra = [])

theorem Ends.top {R : FrameRel} {a b : List Frame} {g : Bool} (h : Ends R a b g) (hg : g = true) : Top R a b := by
  obtain ⟨e, base, h1, h2, h3⟩ := h
  rw [h1, h3 hg]; exact h2

theorem Top.ends {R : FrameRel} {a b : List Frame} (h : Top R a b) (g : Bool) : Ends R a b g :=
  ⟨[], b, rfl, h, fun _ => rfl⟩

theorem Ends.mono {R R' : FrameRel} (hR : R.le R') {a b : List Frame} {g g' : Bool} (hg : g' = true → g = true)
    (h : Ends R a b g) : Ends R' a b g' := by
  obtain ⟨e, base, h1, h2, h3⟩ := h; exact ⟨e, base, h1, h2.mono hR, fun h => h3 (hg h)⟩

theorem Ends.any {R : FrameRel} {a b : List Frame} {g : Bool} (h : Ends R a b g) : Ends R a b false :=
  h.mono R.le_refl fun h => nomatch h

theorem ends_marks {a b : List Frame} : Ends .marks a b false ↔ Ext a b :=
  ⟨fun ⟨e, base, h1, h2, _⟩ => ⟨e, base, h1, top_marks.1 h2⟩,
   fun ⟨e, base, h1, h2⟩ => ⟨e, base, h1, top_marks.2 h2, fun h => nomatch h⟩⟩

theorem Ends.below {R : FrameRel} {fr : Frame} {a b : List Frame} {g : Bool} (h : Ends R (fr :: a) b g) :
    Ends .lit a b false := by
  obtain ⟨e, _, rfl, ⟨f', rfl, _⟩, _⟩ := h
  exact ⟨e ++ [f'], a, by simp, Top.refl _ _, fun h => nomatch h⟩

theorem Ends.trans {R : FrameRel} {a b c : List Frame} {g g' : Bool} (h1 : Ends R a b g) (h2 : Ends R b c g')
    (hg : g' = true → g = true) : Ends R a c g' := by
  obtain ⟨e1, b1, rfl, t1, z1⟩ := h1
  obtain ⟨e2, b2, rfl, t2, z2⟩ := h2
  cases e1 with
  | nil => exact ⟨e2, b2, rfl, t1.trans t2, z2⟩
  | cons f e1 =>
    obtain ⟨f', rfl, _⟩ := t2
    exact ⟨e2 ++ f' :: e1, b1, by simp, t1, fun h => nomatch z1 (hg h)⟩

structure Fr (R : FrameRel) (ns : Bool) {α} (m : M ν α) : Prop where
  run : ∀ s, Ends R s.stack (m s).2.stack (okOrSig (m s).1)
  inv : ∀ s, CsInv s → CsInv (m s).2
  nosig : ns = true → ∀ s, resIsSig (m s).1 = false

/-- code running right after a `pushFrame`: the stack below the pushed frame stays as it is, literally, under whatever
is left above it; a normal end has popped the pushed frame; never a loop signal -/
structure FrIn {α} (m : M ν α) : Prop where
  run : ∀ s fr rest, s.stack = fr :: rest → Ends .lit rest (m s).2.stack (resIsOk (m s).1)
  inv : ∀ s, CsInv s → CsInv (m s).2
  nosig : ∀ s, resIsSig (m s).1 = false

section rules
variable {α β : Type} {R : FrameRel} {ns : Bool}

theorem Fr.ofQuiet {m : M ν α} (h : Quiet m) : Fr R ns m :=
  ⟨fun s => by rw [h.stack]; exact (Top.refl R _).ends _, fun s => CsInv.of_same (h.stack s) (h.cs s),
   fun _ => h.nosig⟩

/-- the same with the `Quiet` fact found by instance resolution: how a derivation closes an operation that leaves the
frames alone -/
theorem Fr.quiet {m : M ν α} [h : Quiet m] : Fr R ns m := .ofQuiet h

theorem Fr.mono {R' : FrameRel} {ns' : Bool} {m : M ν α} (hR : R.le R') (hns : ns' = true → ns = true)
    (h : Fr R ns m) : Fr R' ns' m :=
  ⟨fun s => (h.run s).mono hR id, h.inv, fun h' => h.nosig (hns h')⟩

theorem Fr.up {m : M ν α} (h : Fr .lit true m) : Fr R ns m := h.mono R.lit_le fun _ => rfl

theorem Fr.bal {m : M ν α} (hR : R.le .marks) (h : Fr R ns m) : Bal m :=
  ⟨fun s => ends_marks.1 ((h.run s).mono hR fun h => nomatch h), fun s hs => top_marks.1 (((h.run s).top hs).mono hR), h.inv⟩

theorem Fr.balNS {m : M ν α} (hR : R.le .marks) (h : Fr R true m) : BalNS m := { h.bal hR with nosig := h.nosig rfl }

theorem Fr.ofBalNS {m : M ν α} (h : BalNS m) : Fr .marks true m :=
  ⟨fun s => by
    cases hg : okOrSig (m s).1 with
    | true => exact (top_marks.2 (h.same s hg)).ends _
    | false => exact ends_marks.2 (h.ext s), h.inv, fun _ => h.nosig⟩

theorem Fr.pure (a : α) : Fr R ns (pure a : M ν α) := .ofQuiet (Quiet.pure a)

theorem Fr.bind {m : M ν α} {f : α → M ν β} (hm : Fr R ns m) (hf : ∀ a, Fr R ns (f a)) : Fr R ns (m >>= f) := by
  refine ⟨fun s => ?_, fun s => ?_, fun hn s => ?_⟩ <;>
  · rw [M_bind_def]
    have h1 := hm.run s; have h2 := hm.inv s; have h3 := fun hn => hm.nosig hn s
    rcases h : m s with ⟨r, s'⟩
    rw [h] at h1 h2 h3
    cases r <;> first
      | exact h1 | exact h2 | exact h3 hn
      | exact h1.trans ((hf _).run s') fun _ => rfl
      | exact fun hi => (hf _).inv s' (h2 hi)
      | exact (hf _).nosig hn s'

/-- error handling: the handler never turns a plain error (or panic / fuel) into a value or a loop signal -/
theorem Fr.tryCatch {ns' : Bool} {m : M ν α} {k : Res α → M ν β} (hm : Fr R ns m)
    (hk : ∀ r, (ns = true → resIsSig r = false) → Fr R ns' (k r))
    (hrec : ∀ r, okOrSig r = false → ∀ s, okOrSig (k r s).1 = false) : Fr R ns' (Model.tryCatch m k) := by
  have hk' := fun s => hk (m s).1 fun hn => hm.nosig hn s
  refine ⟨fun s => ?_, fun s hi => (hk' s).inv _ (hm.inv s hi), fun hn s => (hk' s).nosig hn _⟩
  refine (hm.run s).trans ((hk' s).run _) fun hfin => ?_
  cases hc : okOrSig (m s).1 with
  | true => rfl
  | false => exact ((hrec _ hc _).symm.trans hfin : false = true)

theorem Fr.const (r : Res α) (h : ns = true → resIsSig r = false) : Fr R ns (fun s => (r, s) : M ν α) :=
  ⟨fun _ => (Top.refl R _).ends _, fun _ hi => hi, fun hn _ => h hn⟩

theorem Fr.throwE (e : Err) : Fr R false (throwE e : M ν α) := .const _ fun h => nomatch h
theorem Fr.liftRes (r : Res α) (h : ns = true → resIsSig r = false) : Fr R ns (liftRes r : M ν α) := .const r h

theorem Fr.setTopFrame (f : Frame → Frame) (hf : ∀ fr, R.rel fr (f fr)) : Fr R ns (setTopFrame (ν := ν) f) := by
  have hst : ∀ s : VM ν, Top R s.stack (Model.setTopFrame f s).2.stack ∧
      (Model.setTopFrame f s).2.csModuleID = s.csModuleID := by
    intro s
    unfold Model.setTopFrame modifyVM
    cases h : s.stack with
    | nil => simp only [h]; exact ⟨rfl, trivial⟩
    | cons fr rest => simp only [h]; exact ⟨⟨_, rfl, hf fr⟩, trivial⟩
  refine ⟨fun s => (hst s).1.ends _, fun s hi => ?_, fun _ _ => rfl⟩
  unfold CsInv at *
  rw [(hst s).2, hi, (hst s).1.topModule]

theorem Fr.withScope {body : M ν α} (hb : Fr R ns body) : Fr R ns (withScope body) := by
  refine ⟨fun s => ?_, fun s hi => ?_, fun hn s => ?_⟩ <;> obtain ⟨sc1, sc2, h⟩ := withScope_frame body s <;> rw [h]
  · exact hb.run _
  · exact hb.inv _ hi
  · exact hb.nosig hn _

theorem Fr.closed : Closed (fun {α} (m : M ν α) => Fr R ns m) := ⟨Fr.pure, Fr.bind⟩

theorem Fr.ite {c : Prop} [Decidable c] {a b : M ν α} (ha : Fr R ns a) (hb : Fr R ns b) :
    Fr R ns (if c then a else b) := Fr.closed.ite ha hb

theorem Fr.mapM {f : α → M ν β} (h : ∀ a, Fr R ns (f a)) (l : List α) : Fr R ns (l.mapM f) := Fr.closed.mapM fun a _ => h a
theorem Fr.forM {f : α → M ν PUnit} (h : ∀ a, Fr R ns (f a)) (l : List α) : Fr R ns (l.forM f) := Fr.closed.forM fun a _ => h a
theorem Fr.foldlM {f : β → α → M ν β} (h : ∀ b a, Fr R ns (f b a)) (l : List α) (b : β) : Fr R ns (l.foldlM f b) :=
  Fr.closed.foldlM h l b

theorem FrIn.bind {m : M ν α} {f : α → M ν β} (hm : Fr R true m) (hf : ∀ a, FrIn (f a)) : FrIn (m >>= f) := by
  refine ⟨fun s fr rest hs => ?_, fun s => ?_, fun s => ?_⟩ <;>
  · rw [M_bind_def]
    have h1 := hm.run s; have h2 := hm.inv s; have h3 := hm.nosig rfl s
    rcases h : m s with ⟨r, s'⟩
    rw [h] at h1 h2 h3
    cases r <;> first
      | exact h2 | exact h3
      | exact fun hi => (hf _).inv s' (h2 hi)
      | exact (hf _).nosig s'
      | (rw [hs] at h1
         obtain ⟨fr', hs'⟩ := h1.top rfl
         exact (hf _).run s' fr' rest hs'.1)
      | (rw [hs] at h1; exact h1.below)

theorem FrIn.pop (x : α) : FrIn (popFrame (ν := ν) >>= fun _ => pure x) := by
  have hemp : ∀ s : VM ν, s.stack = [] → (popFrame >>= fun _ => (pure x : M ν α)) s = (.panic, s) := by
    intro s hst
    have : popFrame s = (.panic, s) := by unfold popFrame; rw [hst]
    rw [M_bind_def, this]
  refine ⟨fun s fr rest hs => ?_, fun s hi => ?_, fun s => ?_⟩
  · rw [bind_ok (popFrame_cons s fr rest hs)]; exact (Top.refl _ _).ends _
  · cases hst : s.stack with
    | nil => rw [hemp s hst]; exact hi
    | cons fr rest => rw [bind_ok (popFrame_cons s fr rest hst)]; rfl
  · cases hst : s.stack with
    | nil => rw [hemp s hst]; rfl
    | cons fr rest => rw [bind_ok (popFrame_cons s fr rest hst)]; rfl

theorem FrIn.ofFail {m : M ν α} (hm : Fr R true m) (hfail : ∀ s, resIsOk (m s).1 = false) : FrIn m :=
  ⟨fun s fr rest hs => by
    have := hm.run s; rw [hs] at this
    rw [hfail]; exact this.below, hm.inv, hm.nosig rfl⟩

theorem FrIn.rtErr (c : Nat) : FrIn (rtErr c : M ν α) := .ofFail (R := .lit) (.ofQuiet (Quiet.rtErr c)) fun _ => rfl
theorem FrIn.goPanic : FrIn (goPanic : M ν α) := .ofFail (R := .lit) (.ofQuiet Quiet.goPanic) fun _ => rfl

/-- a call: push the frame, run code that pops it on normal exit; the caller's frames are not touched -/
theorem Fr.push (fr : Frame) {m : M ν α} (hm : FrIn m) : Fr .lit true (pushFrame fr >>= fun _ => m) := by
  have hst := pushFrame_stack (ν := ν) fr
  have hinv : ∀ s : VM ν, CsInv (pushFrame fr s).2 := by
    intro s; unfold CsInv; rw [hst, (congrArg VM.csModuleID (pushFrame_state fr s) :)]; rfl
  refine ⟨fun s => ?_, fun s _ => ?_, fun _ s => ?_⟩ <;> rw [bind_ok (pushFrame_ok fr s)]
  · exact (hm.run _ fr s.stack (hst s)).mono (FrameRel.le_refl _) (okOrSig_nosig (hm.nosig _))
  · exact hm.inv _ (hinv s)
  · exact hm.nosig _

theorem Bal.ok_same {m : M ν α} (h : Bal m) {s s' : VM ν} {v : α} (hr : m s = (.ok v, s')) :
    SameStack s.stack s'.stack := by
  have := h.same s (by rw [hr]; rfl); rwa [hr] at this

theorem Bal.ok_cons {m : M ν α} (h : Bal m) {s s' : VM ν} {v : α} {f : Frame} {r : List Frame}
    (hs : s.stack = f :: r) (hr : m s = (.ok v, s')) : ∃ f', s'.stack = f' :: r ∧ core f' = core f :=
  norm_cons_eq (hs ▸ h.ok_same hr)

theorem BalNS.no_signal {m : M ν α} (h : BalNS m) (s : VM ν) :
    (m s).1 ≠ .err .sigBreak ∧ (m s).1 ≠ .err .sigContinue := by
  have := h.nosig s
  constructor <;> intro hc <;> rw [hc] at this <;> cases this

theorem Bal.liftRes (r : Res α) : Bal (liftRes r : M ν α) :=
  ⟨fun _ => Ext.refl _, fun _ _ => SameStack.refl _, fun _ hi => hi⟩

theorem BalNS.forM {f : α → M ν PUnit} (h : ∀ a, BalNS (f a)) : ∀ l : List α, BalNS (l.forM f) :=
  fun l => (Fr.forM (fun a => .ofBalNS (h a)) l).balNS (FrameRel.le_refl _)

theorem BalIn.goPanic : BalIn (goPanic : M ν α) :=
  { ext := fun _ fr rest hs => hs ▸ Ext.cons fr rest, okpop := fun _ _ _ _ h => (nomatch h), nosig := fun _ => rfl,
    inv := fun _ hi => hi }

end rules

end ZnVerif.Proofs.StackBal
