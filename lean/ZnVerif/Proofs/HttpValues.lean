/-
Helper lemmas for the totality theorems of the HTTP value classes (Model/HttpValues.lean), in the calculus of
Proofs/Builtins.lean (`Hoare WfHeap`: never a panic, the heap stays well-formed, a value is the address of a cell).
The index expressions `values[0]`, `values[1]`, `values[2]` of the two Go constructors are the `goPanic` arms of the model; they
are unreachable because `ValidateLeastParams` (repaired: commit ac9b960) has answered `ok`, which fixes the number of values.
-/
import ZnVerif.Proofs.BuiltinMembers
import ZnVerif.Proofs.Validate
import ZnVerif.Model.HttpValues

namespace ZnVerif.Proofs.HttpValues
open ZnVerif.Model ZnVerif.Model.HttpValues ZnVerif.Proofs.Builtins ZnVerif.Model.Validate

variable {ν : Type} [NumOps ν]

theorem least_mandatory {vs : List VKind} {idx : Nat} {t name : String} {rest : List String}
    (hp : parsePat t = some (name, "")) (h : validateLeastFrom true true vs idx (t :: rest) = .ok) :
    idx < vs.length ∧ validateLeastFrom true true vs (idx + 1) rest = .ok := by
  unfold validateLeastFrom at h
  rw [hp] at h
  dsimp only at h
  rw [if_neg (by decide), if_neg (by decide)] at h
  cases hv : vs[idx]? with
  | none => rw [hv] at h; simp at h
  | some v =>
    rw [hv] at h
    dsimp only at h
    have hlt : idx < vs.length := by
      rcases Nat.lt_or_ge idx vs.length with hl | hg
      · exact hl
      · rw [List.getElem?_eq_none hg] at hv; cases hv
    cases ho : validateOne true v t with
    | ok => rw [ho] at h; exact ⟨hlt, h⟩
    | err c => rw [ho] at h; cases h
    | panic => rw [ho] at h; cases h

theorem least_optional_last {vs : List VKind} {idx : Nat} {t name : String}
    (hp : parsePat t = some (name, "?")) (h : validateLeastFrom true true vs idx [t] = .ok) :
    idx = vs.length ∨ idx + 1 = vs.length := by
  unfold validateLeastFrom at h
  rw [hp] at h
  dsimp only at h
  rw [if_neg (by decide), if_pos (by decide)] at h
  split at h
  · next he => exact .inl (by simpa using he)
  · split at h
    · next he => exact .inr (by simpa using he)
    · cases h

theorem least_two_three {vs : List VKind} {t1 t2 t3 n1 n2 n3 : String}
    (h1 : parsePat t1 = some (n1, "")) (h2 : parsePat t2 = some (n2, "")) (h3 : parsePat t3 = some (n3, "?"))
    (h : validateLeast true true vs [t1, t2, t3] = .ok) : vs.length = 2 ∨ vs.length = 3 := by
  unfold validateLeast at h
  obtain ⟨_, h⟩ := least_mandatory h1 h
  obtain ⟨_, h⟩ := least_mandatory h2 h
  rcases least_optional_last h3 h with h | h
  · exact .inl h.symm
  · exact .inr h.symm

theorem request_patterns_ok (vs : List VKind) (h : validateLeast true true vs requestPatterns = .ok) :
    vs.length = 2 ∨ vs.length = 3 :=
  least_two_three (n1 := "string") (n2 := "string") (n3 := "any") (by decide) (by decide) (by decide) h

theorem response_patterns_ok (vs : List VKind) (h : validateLeast true true vs responsePatterns = .ok) :
    vs.length = 2 ∨ vs.length = 3 :=
  least_two_three (n1 := "number") (n2 := "any") (n3 := "hashmap") (by decide) (by decide) (by decide) h

theorem ro_mapM_getCell {s : VM ν} : ∀ (vals : List Addr), (∀ v ∈ vals, v < s.heap.size) →
    RO (vals.mapM getCell) s (fun cells => cells.length = vals.length)
  | [], _ => by rw [List.mapM_nil]; exact RO.pure rfl
  | v :: rest, hv => by
    rw [List.mapM_cons]
    obtain ⟨c, hc⟩ := get_of_lt_size (hv v List.mem_cons_self)
    refine RO.getCell_bind hc ?_
    refine RO.bind (ro_mapM_getCell rest (fun x hx => hv x (List.mem_cons_of_mem _ hx))) (fun cs hcs => ?_)
    exact RO.pure (by simp [hcs])

/-- `ValidateLeastParams`: read-only, never a panic (Properties/C10 `validate_least_params_total`); `ok` fixes the number of values -/
theorem ro_validateLeastM {s : VM ν} (vals : List Addr) (hv : ∀ v ∈ vals, v < s.heap.size) (pats : List String)
    (hp : ∀ p ∈ pats, (parsePat p).isSome = true)
    (hlen : ∀ vs : List VKind, validateLeast true true vs pats = .ok → vs.length = 2 ∨ vs.length = 3) :
    RO (validateLeastM vals pats) s (fun _ => vals.length = 2 ∨ vals.length = 3) := by
  unfold validateLeastM
  refine RO.bind (ro_mapM_getCell vals hv) (fun cells hcells => ?_)
  have hnp := ZnVerif.Proofs.Validate.validateLeastFrom_guarded (cells.map vkind) pats 0 hp
  cases ho : validateLeast true true (cells.map vkind) pats with
  | ok =>
    refine RO.pure ?_
    have := hlen _ ho
    rw [List.length_map, hcells] at this
    exact this
  | err c => exact RO.rtErr c
  | panic => exact absurd ho hnp

/-- `self.SetProperty(name, v)` with the error dropped -/
theorem post_setPropIgnore {s : VM ν} (hs : HeapOk s.heap) {self v : Addr} (name : String) (ha : self < s.heap.size)
    (hv : v < s.heap.size) : Hoare WfHeap Ext s (fun _ _ => True) (setPropIgnore self name v s) := by
  unfold setPropIgnore Model.tryCatch
  have h := post_setProperty name hs ha hv
  rcases hr : setProperty self name v s with ⟨r, s'⟩
  rw [hr] at h
  cases r with
  | panic => exact absurd rfl h.ne_panic
  | _ => exact ⟨nofun, h.inv, h.rel, fun _ => trivial⟩

theorem post_contentTypeHeader {s : VM ν} (hs : HeapOk s.heap) (ct : String) :
    Hoare WfHeap Ext s (fun r s' => r < s'.heap.size) (contentTypeHeader ct s) := by
  unfold contentTypeHeader
  refine Hoare.bind (.ofPre (post_alloc hs trivial)) (fun v s1 hs1 _ hv => ?_)
  refine (post_alloc hs1 (newHashMapCell_ok [("Content-Type", v)] (fun p hp => ?_))).ofPre
  simp at hp
  subst hp
  exact hv

theorem ro_reify : ∀ (n : Nat) {s : VM ν} {a : Nat}, HeapOk s.heap → a < s.heap.size → RO (reify n a) s (fun _ => True) := by
  intro n
  induction n with
  | zero => intro s a _ _; exact RO.fuel
  | succ n ih =>
    intro s a hs ha
    obtain ⟨c, hc⟩ := get_of_lt_size ha
    have hok := hs a c hc
    unfold reify
    refine RO.getCell_bind hc ?_
    cases c with
    | arr items =>
      exact RO.bind (RO.closed.mapM (fun x hx => ih hs (hok x hx))) (fun _ _ => RO.pure trivial)
    | hm vals order =>
      refine RO.bind (RO.closed.mapM (fun k hk => ?_)) (fun _ _ => RO.pure trivial)
      obtain ⟨v, hl, hv⟩ := hok.hm_get hk
      rw [hl]
      exact RO.bind (ih hs hv) (fun _ _ => RO.pure trivial)
    | _ => exact RO.pure trivial

/-- `ElementToJSONString`: a fresh text or the JSON exception -/
theorem post_elementToJSON (C : Json.NumCodec ν) (n : Nat) {s : VM ν} (hs : HeapOk s.heap) {a : Addr} (ha : a < s.heap.size) :
    Hoare WfHeap Ext s (fun r s' => r < s'.heap.size) (elementToJSON C n a s) := by
  unfold elementToJSON
  refine RO.post_bind hs (ro_reify n hs ha) (fun jv _ => ?_)
  unfold Json.elementToJSONString
  cases Json.marshalElement C jv with
  | error e => exact (post_throwException hs _).ofPre
  | ok t => exact .ofPre (post_alloc hs trivial)

theorem post_newObject (n : Nat) {s : VM ν} (hs : HeapOk s.heap) {cv : Addr} (hcv : IsCls s.heap cv) :
    Hoare WfHeap Ext s (fun r s' => r < s'.heap.size) (newObject n cv s) := by
  obtain ⟨nm, ctor, props, methods, hc⟩ := hcv
  have hok := hs cv _ hc
  unfold newObject
  refine Hoare.getCell hc ?_
  dsimp only
  refine Hoare.bind (post_copyProps n hs props hok.1).ofPre (fun props' s1 hs1 e1 hprops => ?_)
  exact (post_alloc hs1 (c := .obj cv props') ⟨e1.cls cv ⟨nm, ctor, props, methods, hc⟩, hprops⟩).ofPre

theorem post_setBody {s : VM ν} (hs : HeapOk s.heap) {self body : Addr} (ct : String) (ha : self < s.heap.size)
    (hb : body < s.heap.size) :
    Hoare WfHeap Ext s (fun _ _ => True) ((do
      let hd ← contentTypeHeader ct
      setPropIgnore self "头部" hd
      setPropIgnore self "内容" body : M ν Unit) s) := by
  refine Hoare.bind (post_contentTypeHeader hs ct) (fun hd s1 hs1 e1 hhd => ?_)
  refine Hoare.bind (post_setPropIgnore hs1 "头部" (Nat.lt_of_lt_of_le ha e1.size) hhd) (fun _ s2 hs2 e2 _ => ?_)
  exact post_setPropIgnore hs2 "内容" (Nat.lt_of_lt_of_le ha (Nat.le_trans e1.size e2.size))
    (Nat.lt_of_lt_of_le hb (Nat.le_trans e1.size e2.size))

theorem post_jsonBody (C : Json.NumCodec ν) (n : Nat) {s : VM ν} (hs : HeapOk s.heap) {self v : Addr} (ct : String)
    (ha : self < s.heap.size) (hv : v < s.heap.size) :
    Hoare WfHeap Ext s (fun _ _ => True) ((do
      let body ← elementToJSON C n v
      let hd ← contentTypeHeader ct
      setPropIgnore self "头部" hd
      setPropIgnore self "内容" body : M ν Unit) s) := by
  refine Hoare.bind (post_elementToJSON C n hs hv) (fun body s1 hs1 e1 hbody => ?_)
  exact post_setBody hs1 ct (Nat.lt_of_lt_of_le ha e1.size) hbody

theorem post_requestBody (C : Json.NumCodec ν) (n : Nat) {s : VM ν} (hs : HeapOk s.heap) {self : Addr} (ha : self < s.heap.size)
    (v0 v1 : Addr) {rest : List Addr} (hlen : (v0 :: v1 :: rest).length = 2 ∨ (v0 :: v1 :: rest).length = 3)
    (hv : ∀ v ∈ rest, v < s.heap.size) :
    Hoare WfHeap Ext s (fun _ _ => True) (requestBody C n self (v0 :: v1 :: rest) rest s) := by
  unfold requestBody
  match rest, hlen, hv with
  | [], _, _ => rw [if_neg (by simp)]; exact Hoare.pure hs trivial
  | [v2], _, hv =>
    rw [if_pos (by simp)]
    dsimp only
    have hv2 : v2 < s.heap.size := hv v2 (by simp)
    obtain ⟨c, hc⟩ := get_of_lt_size hv2
    refine Hoare.getCell hc ?_
    cases c with
    | str t => exact post_setBody hs "text/plain" ha hv2
    | hm vals order => exact post_jsonBody C n hs "application/json" ha hv2
    | _ => exact Hoare.pure hs trivial
  | _ :: _ :: _, hl, _ => simp at hl

theorem post_requestCtor (C : Json.NumCodec ν) (n : Nat) {s : VM ν} (hs : HeapOk s.heap) {self : Addr} (ha : self < s.heap.size)
    {values : List Addr} (hv : ∀ v ∈ values, v < s.heap.size) :
    Hoare WfHeap Ext s (fun r s' => r < s'.heap.size) (requestCtor C n self values s) := by
  unfold requestCtor
  refine RO.post_bind hs (ro_validateLeastM values hv requestPatterns (by decide) request_patterns_ok) (fun _ hlen => ?_)
  match values, hlen, hv with
  | [], hl, _ => simp at hl
  | [_], hl, _ => simp at hl
  | v0 :: v1 :: rest, hlen, hv =>
    dsimp only
    refine Hoare.bind (post_setPropIgnore hs "方法" ha (hv v0 (by simp))) (fun _ s1 hs1 e1 _ => ?_)
    refine Hoare.bind (post_setPropIgnore hs1 "URL" (Nat.lt_of_lt_of_le ha e1.size)
      (Nat.lt_of_lt_of_le (hv v1 (by simp)) e1.size)) (fun _ s2 hs2 e2 _ => ?_)
    have ha2 : self < s2.heap.size := Nat.lt_of_lt_of_le ha (Nat.le_trans e1.size e2.size)
    refine Hoare.bind (post_requestBody C n hs2 ha2 v0 v1 hlen
      (fun v hvm => Nat.lt_of_lt_of_le (hv v (by simp [hvm])) (Nat.le_trans e1.size e2.size))) (fun _ s3 hs3 e3 _ => ?_)
    exact Hoare.pure hs3 (Nat.lt_of_lt_of_le ha2 e3.size)

theorem post_responseBody (C : Json.NumCodec ν) (n : Nat) {s : VM ν} (hs : HeapOk s.heap) {self v1 : Addr} (ha : self < s.heap.size)
    (h1 : v1 < s.heap.size) : Hoare WfHeap Ext s (fun _ _ => True) (responseBody C n self v1 s) := by
  unfold responseBody
  obtain ⟨c, hc⟩ := get_of_lt_size h1
  refine Hoare.getCell hc ?_
  cases c with
  | str t => exact post_setBody hs "text/plain" ha h1
  | hm vals order => exact post_jsonBody C n hs "application/json" ha h1
  | arr items => exact post_jsonBody C n hs "application/json" ha h1
  | _ => exact post_jsonBody C n hs "text/plain" ha h1

theorem post_overrideHeaders {s : VM ν} (hs : HeapOk s.heap) {self : Addr} (ha : self < s.heap.size)
    (v0 v1 : Addr) {rest : List Addr} (hlen : (v0 :: v1 :: rest).length = 2 ∨ (v0 :: v1 :: rest).length = 3)
    (hv : ∀ v ∈ rest, v < s.heap.size) :
    Hoare WfHeap Ext s (fun _ _ => True) (overrideHeaders self (v0 :: v1 :: rest) rest s) := by
  unfold overrideHeaders
  match rest, hlen, hv with
  | [], _, _ => rw [if_neg (by simp)]; exact Hoare.pure hs trivial
  | [v2], _, hv => rw [if_pos (by simp)]; exact post_setPropIgnore hs "头部" ha (hv v2 (by simp))
  | _ :: _ :: _, hl, _ => simp at hl

theorem post_responseCtor (C : Json.NumCodec ν) (n : Nat) {s : VM ν} (hs : HeapOk s.heap) {self : Addr} (ha : self < s.heap.size)
    {values : List Addr} (hv : ∀ v ∈ values, v < s.heap.size) :
    Hoare WfHeap Ext s (fun r s' => r < s'.heap.size) (responseCtor C n self values s) := by
  unfold responseCtor
  refine RO.post_bind hs (ro_validateLeastM values hv responsePatterns (by decide) response_patterns_ok) (fun _ hlen => ?_)
  match values, hlen, hv with
  | [], hl, _ => simp at hl
  | [_], hl, _ => simp at hl
  | v0 :: v1 :: rest, hlen, hv =>
    dsimp only
    refine Hoare.bind (post_setPropIgnore hs "状态码" ha (hv v0 (by simp))) (fun _ s1 hs1 e1 _ => ?_)
    have ha1 : self < s1.heap.size := Nat.lt_of_lt_of_le ha e1.size
    refine Hoare.bind (post_responseBody C n hs1 ha1 (Nat.lt_of_lt_of_le (hv v1 (by simp)) e1.size)) (fun _ s2 hs2 e2 _ => ?_)
    have ha2 : self < s2.heap.size := Nat.lt_of_lt_of_le ha1 e2.size
    refine Hoare.bind (post_overrideHeaders hs2 ha2 v0 v1 hlen
      (fun v hvm => Nat.lt_of_lt_of_le (hv v (by simp [hvm])) (Nat.le_trans e1.size e2.size))) (fun _ s3 hs3 e3 _ => ?_)
    exact Hoare.pure hs3 (Nat.lt_of_lt_of_le ha2 e3.size)

end ZnVerif.Proofs.HttpValues
