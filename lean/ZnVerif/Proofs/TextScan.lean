/-
The byte scanners of Go's `strings` package (`Split`, `Contains`, `HasSuffix`, a `Replacer`) and their character-level specs
are one left-to-right loop: at the current position something is found or not; what is found is passed over.  `tokens` is
what such a loop sees, the scanners are folds of it (`splitOn_tokens`, `fillOn_tokens`, `found`; `ReplaceAll` is read off
`Split` in Proofs/TextMethods), and `tokens_encode` says when scanning
the UTF-8 encoding of a text sees what scanning its characters sees: the byte-level search finds nothing at a
continuation byte and, at a character boundary, exactly what the character-level search finds there.
-/
import ZnVerif.Proofs.TextUtf8
import ZnVerif.Spec.TextMethods

namespace ZnVerif.Proofs.TextScan
open ZnVerif.Model ZnVerif.Spec
open ZnVerif.Proofs.TextUtf8

/-- What a left-to-right scanner sees.  `m s = some (n, v)`: something `n` units long, worth `v`, starts the text `s`
(the separator of 分隔, the pattern of 匹配, a placeholder `{#k}` of 格式化 with its value).  The scanner looks at the
current position: a match is reported (`inr v`) and its remaining `n - 1` units are passed over without being looked
at (`skip`), otherwise the unit is copied (`inl`).  Units are bytes for the Go routines and characters for the specs. -/
def tokens {β : Type} (m : List Nat → Option (Nat × β)) : Nat → List Nat → List (Nat ⊕ β)
  | _, [] => []
  | skip + 1, _ :: rest => tokens m skip rest
  | 0, b :: rest =>
    match m (b :: rest) with
    | some (n, v) => .inr v :: tokens m (n - 1) rest
    | none => .inl b :: tokens m 0 rest

variable {β γ : Type}

theorem tokens_skip (m : List Nat → Option (Nat × β)) : ∀ (xs : List Nat) (skip : Nat) (ys : List Nat),
    tokens m (xs.length + skip) (xs ++ ys) = tokens m skip ys
  | [], skip, ys => by simp
  | x :: xs, skip, ys => by
    rw [List.length_cons, Nat.add_right_comm, List.cons_append, tokens, tokens_skip m xs]

theorem tokens_copy (m : List Nat → Option (Nat × β)) :
    ∀ (xs ys : List Nat), (∀ x l, x ∈ xs → m (x :: l) = none) →
    tokens m 0 (xs ++ ys) = xs.map .inl ++ tokens m 0 ys
  | [], ys, _ => rfl
  | x :: xs, ys, h => by
    rw [List.cons_append, tokens, h x _ (by simp), tokens_copy m xs ys (fun y l hy => h y l (by simp [hy]))]; rfl

section
variable {mb : List Nat → Option (Nat × γ)} {mc : List Nat → Option (Nat × β)} (g : β → γ)
  (hcont : ∀ x l, Model.TextOps.isCont x = true → mb (x :: l) = none)
  (hat : ∀ t, ValidText t → mb (Model.TextOps.encode t) =
    (mc t).map fun p => ((Model.TextOps.encode (t.take p.1)).length, g p.2))
  (hpos : ∀ t n v, mc t = some (n, v) → 1 ≤ n)
include hcont hat hpos

/-- the induction behind `tokens_encode`: from the `k`-th character on -/
theorem tokens_encode_skip : ∀ (t : List Nat), ValidText t → ∀ k,
    tokens mb (Model.TextOps.encode (t.take k)).length (Model.TextOps.encode t) =
      (tokens mc k t).flatMap (Sum.elim (fun c => (Model.TextOps.encodeRune c).map .inl) fun v => [.inr (g v)])
  | [], _, k => by simp [encode_nil, tokens]
  | c :: t, hvt, k + 1 => by
    obtain ⟨_, hvt'⟩ := (validText_cons c t).1 hvt
    rw [List.take_succ_cons, encode_cons, encode_cons, List.length_append, tokens_skip, tokens,
      tokens_encode_skip t hvt' k]
  | c :: t, hvt, 0 => by
    obtain ⟨hc, hvt'⟩ := (validText_cons c t).1 hvt
    obtain ⟨c0, cb, hcb, _, hconts⟩ := encodeRune_shape c hc
    have ih := tokens_encode_skip t hvt'
    have hm := hat (c :: t) hvt
    rw [encode_cons, hcb, List.cons_append] at hm
    rw [List.take_zero, encode_nil, List.length_nil, encode_cons, hcb, List.cons_append, tokens, tokens, hm]
    cases hmc : mc (c :: t) with
    | none =>
      have := ih 0
      rw [List.take_zero, encode_nil, List.length_nil] at this
      simp only [Option.map_none, List.flatMap_cons, Sum.elim_inl, hcb, List.map_cons, List.cons_append]
      rw [tokens_copy mb cb _ (fun x l hx => hcont x l (hconts x hx)), this]
    | some p =>
      obtain ⟨n, v⟩ := p
      obtain ⟨n, rfl⟩ : ∃ n', n = n' + 1 := ⟨n - 1, by have := hpos _ _ _ hmc; omega⟩
      simp only [Option.map_some, List.flatMap_cons, Sum.elim_inr, List.take_succ_cons, encode_cons, hcb,
        List.length_append, List.length_cons, List.cons_append, List.nil_append]
      rw [Nat.add_sub_cancel, tokens_skip, ih]; rfl

/-- A byte-level matcher that finds nothing at continuation bytes and, at character boundaries, finds what the
character-level matcher finds: scanning the encoding yields the character-level tokens, each character copied byte by
byte. -/
theorem tokens_encode (t : List Nat) (hvt : ValidText t) : tokens mb 0 (Model.TextOps.encode t) =
    (tokens mc 0 t).flatMap (Sum.elim (fun c => (Model.TextOps.encodeRune c).map .inl) fun v => [.inr (g v)]) :=
  tokens_encode_skip g hcont hat hpos t hvt 0

end

/-- the scanner finds something -/
def found (m : List Nat → Option (Nat × β)) (s : List Nat) : Bool := (tokens m 0 s).any Sum.isRight

theorem found_nil (m : List Nat → Option (Nat × β)) : found m [] = false := rfl

theorem found_cons (m : List Nat → Option (Nat × β)) (b : Nat) (s : List Nat) :
    found m (b :: s) = ((m (b :: s)).isSome || found m s) := by
  rw [found, tokens]
  cases m (b :: s) with
  | none => rfl
  | some p => rfl

/-- copying a character byte by byte adds no match -/
theorem any_isRight_encode (g : β → γ) (l : List (Nat ⊕ β)) :
    (l.flatMap (Sum.elim (fun c => (Model.TextOps.encodeRune c).map .inl) fun v => [.inr (g v)])).any Sum.isRight =
      l.any Sum.isRight := by
  rw [List.any_flatMap]
  congr 1
  funext a
  cases a with
  | inl c => simp
  | inr v => rfl

/-- searching for one pattern -/
def one (pat s : List Nat) : Option (Nat × Unit) := if pat.isPrefixOf s then some (pat.length, ()) else none

/-- the pieces between the matches -/
def pieces : List Nat → List (Nat ⊕ Unit) → List (List Nat)
  | cur, [] => [cur]
  | cur, .inl b :: r => pieces (cur ++ [b]) r
  | cur, .inr _ :: r => cur :: pieces [] r

theorem splitOn_tokens (sep : List Nat) : ∀ (s : List Nat) (k : Nat) (cur : List Nat),
    Spec.TextOps.splitOn sep k cur s = pieces cur (tokens (one sep) k s)
  | [], k, cur => by cases k <;> rfl
  | b :: s, k + 1, cur => by rw [Spec.TextOps.splitOn, tokens, splitOn_tokens sep s]
  | b :: s, 0, cur => by
    rw [Spec.TextOps.splitOn, tokens, one]
    by_cases h : sep.isPrefixOf (b :: s) = true
    · rw [if_pos h, if_pos h, splitOn_tokens sep s]; rfl
    · rw [if_neg h, if_neg h, splitOn_tokens sep s]; rfl

theorem pieces_copy (xs : List Nat) : ∀ (cur : List Nat) (r : List (Nat ⊕ Unit)),
    pieces cur (xs.map .inl ++ r) = pieces (cur ++ xs) r := by
  induction xs with
  | nil => intro cur r; simp
  | cons x xs ih => intro cur r; rw [List.map_cons, List.cons_append, pieces, ih]; simp

theorem pieces_encode : ∀ (ts : List (Nat ⊕ Unit)) (cur : List Nat),
    pieces (Model.TextOps.encode cur)
        (ts.flatMap (Sum.elim (fun c => (Model.TextOps.encodeRune c).map .inl) fun v => [.inr v])) =
      (pieces cur ts).map Model.TextOps.encode
  | [], cur => rfl
  | .inl c :: ts, cur => by
    rw [List.flatMap_cons, Sum.elim_inl, pieces_copy, pieces, ← pieces_encode ts, encode_append, encode_cons, encode_nil,
      List.append_nil]
  | .inr v :: ts, cur => by
    rw [List.flatMap_cons, Sum.elim_inr, List.cons_append, List.nil_append, pieces, pieces, List.map_cons,
      ← pieces_encode ts, encode_nil]

theorem fillOn_tokens (vals : List (List Nat)) : ∀ (s : List Nat) (k : Nat),
    Spec.TextOps.fillOn vals k s =
      (tokens (Spec.TextOps.placeholderAt 1 vals) k s).flatMap (Sum.elim (fun b => [b]) id)
  | [], k => by cases k <;> rfl
  | b :: s, k + 1 => by rw [Spec.TextOps.fillOn, tokens, fillOn_tokens vals s]
  | b :: s, 0 => by
    rw [Spec.TextOps.fillOn, tokens]
    cases Spec.TextOps.placeholderAt 1 vals (b :: s) with
    | none => simp only [fillOn_tokens vals s]; rfl
    | some p => simp only [fillOn_tokens vals s]; rfl

theorem encode_flatMap {α : Type} (f : α → List Nat) (l : List α) :
    Model.TextOps.encode (l.flatMap f) = l.flatMap fun a => Model.TextOps.encode (f a) := by
  induction l with
  | nil => rfl
  | cons a l ih => rw [List.flatMap_cons, List.flatMap_cons, encode_append, ih]

end ZnVerif.Proofs.TextScan
