/-
Token-level round trip with layout, part 2: expressions — the induction over the rendering relation `LinX`, and the interface the
statement proofs use.

The cases are in Proofs/StmtExprBase.lean (operators, assignment, the trailing comma), StmtExprMember.lean (leaves, `{ e }`, `其 p`,
member chains), StmtExprCall.lean (calls, 新建, method-call chains, 得到) and StmtExprArr.lean (list and dictionary literals).
-/
import ZnVerif.Proofs.StmtExprCall
import ZnVerif.Proofs.StmtExprArr

namespace ZnVerif.Proofs.StmtRT
open ZnVerif.Model ZnVerif.Model.Parser ZnVerif.Generated.Tokens
open ZnVerif.Spec.StmtSyntax

variable {Y : Layout} {v : Variant}

/-- what the induction over `LinX` carries -/
def NodeClaimX (v : Variant) (Y : Layout) (cfg : Bool) (k : Nat) : ENode → List Token → Prop
  | .expr e, ts => Facts Y ts ∧ Claim v Y cfg k e ts
  | .args es, ts => Facts Y ts ∧ ArgsClaim v Y es ts
  | .fcall n ps, ts => (ts ≠ [] ∧ (Y.peek ts).type = cTypeIdentifier) ∧ FcallClaim v Y n ps ts
  | .chain cs, ts => CChain v Y cs ts
  | .items es, ts => (ts ≠ [] → Facts Y ts) ∧ CItems v Y es ts
  | .kvs kvs, ts => (ts ≠ [] → Facts Y ts) ∧ CKvs v Y kvs ts

theorem linX_claim {cfg : Bool} {k : Nat} {nd : ENode} {ts : List Token} (h : LinX Y cfg k nd ts) :
    NodeClaimX v Y cfg k nd ts := by
  induction h with
  | id t ht => exact ⟨facts_cons ht, case_id t ht⟩
  | str t ht => exact ⟨facts_cons ht, case_str t ht⟩
  | brace l r e ts hl hr _ ih => exact ⟨facts_cons hl, case_brace l r e ts hl hr ih.2⟩
  | @up cfg k e ts hk _ ih =>
    refine ⟨ih.1, ?_⟩
    match k, hk, ih.2 with
    | 1, _, c => exact up1 cfg e ts c
    | 2, _, c => exact up2 cfg e ts c
    | 3, _, c => exact up3 cfg e ts c
    | 4, _, c => exact up4 cfg e ts c
    | 5, _, c => exact up5 e ts c
    | 6, _, c => exact up6 e ts c
    | (n + 7), _, c => exact c.elim
  | @or cfg t a b ta tb ht _ _ iha ihb => exact ⟨facts_append iha.1, case_or cfg t a b ta tb ht iha.2 ihb.2⟩
  | @and cfg t a b ta tb ht _ _ iha ihb => exact ⟨facts_append iha.1, case_and cfg t a b ta tb ht iha.2 ihb.2⟩
  | @cmp cfg t a b ta tb ht _ _ iha ihb => exact ⟨facts_append iha.1, case_cmp cfg t a b ta tb ht iha.2 ihb.2⟩
  | add t a b ta tb ht _ _ iha ihb => exact ⟨facts_append iha.1, case_add t a b ta tb ht iha.2 ihb.2⟩
  | mul t a b ta tb ht _ _ iha ihb => exact ⟨facts_append iha.1, case_mul t a b ta tb ht iha.2 ihb.2⟩
  | @assign cfg t a b ta tb ht hassn _ _ iha ihb =>
    exact ⟨facts_append iha.1, case_assign cfg t a b ta tb ht hassn iha.2 ihb.2⟩
  | commaAfter c e ts hc _ ih => exact ⟨facts_append ih.1, comma6 c e ts hc ih.2⟩
  | this kw p hk hp => exact ⟨facts_cons hk, case_this kw p hk hp⟩
  | dot d p r tr hd hp _ ih => exact ⟨facts_append ih.1, case_dot d p r tr hd hp ih.2⟩
  | idxId h i r tr hh hi _ ih => exact ⟨facts_append ih.1, case_idxTok h i r tr _ hh (Or.inl ⟨hi, rfl⟩) ih.2⟩
  | idxStr h i r tr hh hi _ ih => exact ⟨facts_append ih.1, case_idxTok h i r tr _ hh (Or.inr ⟨hi, rfl⟩) ih.2⟩
  | idxExpr h l rb r tr e te hh hl hr _ _ ihr ihe =>
    refine ⟨?_, case_idxExpr h l rb r tr e te hh hl hr ihr.2 ihe.2⟩
    have : tr ++ h :: l :: te ++ [rb] = tr ++ (h :: l :: te ++ [rb]) := by simp
    rw [this]; exact facts_append ihr.1
  | call l n ps tc yl hl _ hy ih => exact ⟨facts_cons hl, case_call hl ih.1.1 ih.1.2 ih.2 hy⟩
  | new l nw n ps tc hl hnw _ ih => exact ⟨facts_cons hl, case_new hl hnw ih.2⟩
  | mcall kw l root tr n ps tc cs tcs yl hk _ hl _ _ hy ihr ihf ihc =>
    exact ⟨facts_cons hk, case_mcall hk ihr.1 ihr.2 hl ihf.1.1 ihf.2 ihc hy⟩
  | arrEmpty l r hl hr => exact ⟨facts_cons hl, case_arrEmpty l r hl hr⟩
  | hmEmpty l eq r hl heq hr => exact ⟨facts_cons hl, case_hmEmpty l eq r hl heq hr⟩
  | arr l r e1 t1 es ts hl hr _ hit ih1 ihs =>
    exact ⟨facts_cons hl, case_arr l r e1 t1 es ts hl hr ih1.1 ih1.2 ihs.1 (linX_items_nil hit) ihs.2⟩
  | hm l eq r k tk vl tv kvs ts hl heq hr _ _ _ ihk ihv ihs =>
    exact ⟨facts_cons hl, case_hm l eq r k tk vl tv kvs ts hl heq hr ihk.1 ihk.2 ihv.2 ihs.1 ihs.2⟩
  | argsOne e te _ ih => exact ⟨ih.1, args_one ih.2⟩
  | argsCons p e te es ts _ hopen hp _ ihe ihs => exact ⟨facts_append ihe.1, args_cons ihe.2 hopen hp ihs.2⟩
  | fcall0 f rp hf hr => exact ⟨⟨by simp, hf⟩, fcall_zero_t hf hr⟩
  | fcallArgs f colon rp es ta hf hc hr _ ih => exact ⟨⟨by simp, hf⟩, fcall_args_t hf hc hr ih.2⟩
  | chainNil => exact chain_nil
  | chainCons p l n ps tc cs tcs hp hl _ _ ihf ihc => exact chain_cons hp hl ihf.2 ihc
  | itemsNil => exact ⟨fun h => absurd rfl h, items_nil⟩
  | itemsCons e te es ts _ hit ihe ihs =>
    exact ⟨fun _ => facts_append ihe.1, items_cons ihe.1 ihe.2 ihs.1 (linX_items_nil hit) ihs.2⟩
  | kvsNil => exact ⟨fun h => absurd rfl h, kvs_nil⟩
  | kvsCons eq k tk vl tv kvs ts heq _ _ _ ihk ihv ihs =>
    refine ⟨fun _ => ?_, kvs_cons heq ihk.1 ihk.2 ihv.2 ihs.1 ihs.2⟩
    have : tk ++ eq :: tv ++ ts = tk ++ (eq :: tv ++ ts) := by simp
    rw [this]; exact facts_append ihk.1

theorem linE_facts {k : Nat} {e : Expr} {ts : List Token} (h : LinE Y k e ts) : Facts Y ts :=
  (linX_claim (v := Variant.fixed) h).1

/-- the round trip of an expression on a move over its rendering; the follow set takes the right edge of `e` into account -/
theorem expr_reads_open {e : Expr} {ts : List Token} (h : LinE Y 1 e ts) {s s' : PState (List Token)} (hr : Reads Y s ts s')
    (hs : Stops (B1 true ++ FO e) s') : Stable v Y (.expr true) s (.ok e s') (16 * ts.length + 16) :=
  c1_done (linX_claim h).2 s s' hr hs

theorem F1_open (e : Expr) : ∀ ty, ty ∉ F1 → ty ∉ B1 true ++ FO e := by
  intro ty h hm
  rcases List.mem_append.mp hm with hm | hm
  · exact h (List.mem_append_left _ hm)
  · exact h (List.mem_append_right _ (by rw [FO_sub e ty hm]; simp))

theorem expr_reads {e : Expr} {ts : List Token} (h : LinE Y 1 e ts) {s s' : PState (List Token)} (hr : Reads Y s ts s')
    (hs : Stops F1 s') : Stable v Y (.expr true) s (.ok e s') (16 * ts.length + 16) :=
  expr_reads_open h hr (hs.mono (F1_open e))

theorem fcall_reads {n : Ident} {ps : List Expr} {tc : List Token} (h : LinX Y true 0 (.fcall n ps) tc) :
    (tc ≠ [] ∧ (Y.peek tc).type = cTypeIdentifier) ∧ FcallClaim v Y n ps tc := linX_claim h

theorem chain_claim {cs : List Expr} {tcs : List Token} (h : LinX Y true 0 (.chain cs) tcs) : CChain v Y cs tcs := linX_claim h

end ZnVerif.Proofs.StmtRT
