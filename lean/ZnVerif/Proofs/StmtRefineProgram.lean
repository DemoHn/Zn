/-
C02: a whole body / program of the fragment (no inputs, no handlers): `evalExecBlock` against `callBody`,
`Model.runProgram` from `initVM ()` against `Spec.runProgram` from `{}`.
-/
import ZnVerif.Proofs.StmtRefine
import ZnVerif.Proofs.ExprInit
import ZnVerif.Proofs.ControlFlow

namespace ZnVerif.Proofs
open ZnVerif.Model ZnVerif.Spec EvalArms

variable {ν : Type} [NumOps ν]
variable {ω : Addr → Option (SVal ν)} {mid D : Int} {ds : List Int} {s : VM ν} {σ : SState ν}

theorem forM_pure_unit {m : Type → Type} [Monad m] [LawfulMonad m] {ι : Type} (f : ι → m PUnit) : ∀ (l : List ι),
    (∀ x ∈ l, f x = pure ⟨⟩) → l.forM f = pure ⟨⟩
  | [], _ => rfl
  | x :: xs, h => by
    rw [listForM_cons, h x List.mem_cons_self, pure_bind]
    exact forM_pure_unit f xs fun y hy => h y (List.mem_cons_of_mem _ hy)

/-- a body without inputs or handlers in a frame that is no method's: the scope bracket around the statement block,
whose outcome goes to `Calls.finishBlock`.  Fuel `n+3`: `evalExecBlock`, `evalStmtBlock` and `evalPureStmtBlock` spend a unit
each before the statements run at `evalStmt n`; in the spec `callBody`, `runBlockHoisted` and `runStmts` do before `execS n`
(`callBody_eq`). -/
theorem execBlock_eq (n : Nat) (stmts : List Stmt) (hp : ∀ st ∈ stmts, PureStmt st) (s : VM ν) (sc : Scope)
    (hsc : getScope s.csModuleID s = some sc) (fr : Model.Frame) (rest : List Model.Frame) (hst : s.stack = fr :: rest)
    (hct : (fr.callType == 2) = false) :
    evalExecBlock (n+3) (some (.mk [] (some stmts) [])) [] s =
      let p := evalPureStmtBlock (n+1) (some stmts) (putScope s.csModuleID sc.beginScope s)
      let q := Calls.finishBlock (n+2) s.csModuleID s.stack.length [] p.1 p.2
      (q.1, Calls.endScopeOf s.csModuleID q.2) := by
  rw [Calls.evalExecBlock_eq, Calls.withScope_some _ s sc hsc]
  have hsb : evalStmtBlock (ν := ν) (n+2) (some stmts) = evalPureStmtBlock (n+1) (some stmts) := by
    rw [evalStmtBlock, forM_pure_unit _ stmts (fun st hst => by cases hp st hst <;> rfl), pure_bind]
  have hbody : Calls.execBlockBody (ν := ν) (n+2) [] (some stmts) [] [] (putScope s.csModuleID sc.beginScope s) =
      Model.tryCatch (evalPureStmtBlock (n+1) (some stmts)) (Calls.finishBlock (n+2) s.csModuleID s.stack.length [])
        (putScope s.csModuleID sc.beginScope s) := by
    simp only [Calls.execBlockBody, Calls.bindThis, Calls.bindInputs, Calls.putScope_stack, Calls.putScope_cs, hst, List.head?, hct,
      Bool.false_eq_true, if_false, hsb, List.length_nil, ne_eq, not_true_eq_false, List.zip_nil_right, listForM_nil, pure_bind]
  rw [hbody]
  rfl

/-- what `callBody` makes of the outcome of the body's statements (no handlers) -/
def finR : R ν (SVal ν) → R ν (SVal ν)
  | .ok v => .ok v
  | .ret v => .ok v
  | .brk => .raise (.exc "收到「结束」中断信号")
  | .cont => .raise (.exc "收到「继续」中断信号")
  | r => r

theorem callBody_eq (n : Nat) (stmts : List Stmt) (hp : ∀ st ∈ stmts, PureStmt st) (σ : SState ν) :
    callBody (n+3) (some (.mk [] (some stmts) [])) [] none σ =
      let p := (stmts.foldlM (fun _ st => execS n st) SVal.null) { σ with this := none :: σ.this, env := [] :: σ.env }
      (finR p.1, { p.2 with env := p.2.env.drop 1, this := p.2.this.drop 1 }) := by
  have hrb : runBlockHoisted (ν := ν) (n+2) (some stmts) = stmts.foldlM (fun _ st => execS n st) SVal.null := by
    rw [runBlockHoisted, forM_pure_unit _ stmts (fun st hst => by cases hp st hst <;> rfl), pure_bind, runStmts,
      List.filter_eq_self.2 (fun st hst => by cases hp st hst <;> rfl)]
  rw [callBody]
  simp only [SM.bind_def, modS, catchR, withBlock_eq, List.length_nil, ne_eq, not_true_eq_false, if_false, List.zip_nil_right,
    listForM_nil, pure_bind, hrb]
  rcases (stmts.foldlM (fun _ st => execS n st) SVal.null) { σ with this := none :: σ.this, env := [] :: σ.env } with ⟨r, σ2⟩
  cases r <;> simp only [finR, sfail, pure, SM.bind_def, getS, firstS]

theorem handleException_nil (n : Nat) (bm : Int) (bd : Nat) (ex : Addr) (msg : String) (s : VM ν)
    (hc : s.heap[ex]? = some (.exc msg)) :
    handleException (n+1) bm bd [] (.excErr ex) s = (.err (.excErr ex), s) :=
  Calls.getCell_bind _ hc

theorem finishBlock_err (n' : Nat) (bm : Int) (bd : Nat) (e : Err)
    (he : e = .sigBreak ∨ e = .sigContinue ∨ (∃ c, e = .rt c) ∨ ∃ c, e = .sem c) (s : VM ν) :
    ∃ e' s', Calls.finishBlock (n'+1) bm bd [] (.err e) s = (.err e', s') := by
  have sig : ∀ msg : String, ∃ e' s', (do
      let e ← (do let a ← alloc (.exc msg); pure (Err.excErr a) : M ν Err)
      Model.tryCatch (handleException (n'+1) bm bd [] e) fun r =>
        match r with
        | .err e2 => do let e2 ← loopSignalToException e2; throwE e2
        | r => liftRes r) s = (.err e', s') := fun msg =>
    ⟨_, _, (Calls.bind_ok rfl).trans (by
      rw [Model.tryCatch, handleException_nil n' bm bd s.heap.size msg _ (by simp)]; rfl)⟩
  rcases he with rfl | rfl | ⟨c, rfl⟩ | ⟨c, rfl⟩
  · exact sig _
  · exact sig _
  · have : handleException (n'+1) bm bd [] (.rt c) s =
        (.err (.rt c), { s with heap := s.heap.push (.exc ("‹rt:" ++ toString c ++ "›")) }) :=
      Calls.getCell_bind (s := { s with heap := s.heap.push (.exc ("‹rt:" ++ toString c ++ "›")) }) (a := s.heap.size)
        (c := .exc ("‹rt:" ++ toString c ++ "›")) _ (by simp)
    exact ⟨_, _, (Calls.bind_ok rfl).trans (by rw [Model.tryCatch, this]; rfl)⟩
  · exact ⟨_, _, rfl⟩

/-! ### a body: two scopes in the model (the execution block's and the statement block's), one block in the spec -/

theorem StRel.push2 (h : StRel ω mid D ds s σ)
    (sc : Scope) (hsc : getScope s.csModuleID s = some sc) (this' : List (Option (SVal ν))) :
    StRel ω mid (D+2) (D :: ds)
      (putScope s.csModuleID sc.beginScope.beginScope (putScope s.csModuleID sc.beginScope s))
      { σ with this := this', env := [] :: σ.env } := by
  obtain ⟨sc', hsc', hD, hb⟩ := h.scope
  rw [hsc] at hsc'; cases hsc'
  have := (h.push sc hsc).rescope (σ' := { σ with this := this', env := [] :: σ.env }) sc.beginScope.beginScope
    (D' := D + 2) (ds' := D :: ds) (by simp [Scope.beginScope, hD]; omega) (by rw [Calls.putScope_heap]; exact hb.open (by omega)) rfl
  rwa [Calls.putScope_cs] at this

/-- how the outcome of a whole body / program is compared: the same value (the result cell reads as the
spec's value) and the same displayed lines, or an error on both sides; no claim when the spec is
`unspecified` or either side is out of fuel -/
inductive FinalRel (ω : Addr → Option (SVal ν)) (inFrame : Bool) : Res Addr × VM ν → R ν (SVal ν) × SState ν → Prop
  | ok {a v s' σ'} : (∃ k, contentW ω k s'.heap a = some v) → s'.out = σ'.out → (inFrame = true → s'.stack ≠ []) →
      FinalRel ω inFrame (.ok a, s') (.ok v, σ')
  | raise {e x s' σ'} : FinalRel ω inFrame (.err e, s') (.raise x, σ')
  | fatal {e c s' σ'} : FinalRel ω inFrame (.err e, s') (.fatal c, σ')
  | unspec {p σ'} : FinalRel ω inFrame p (.unspecified, σ')
  | specFuel {p σ'} : FinalRel ω inFrame p (.fuel, σ')
  | modelFuel {s' q} : FinalRel ω inFrame (.fuel, s') q

theorem body_refines (hst : StRel ω mid D ds s σ) (hslot : slot s = none) (fr : Model.Frame) (rest : List Model.Frame)
    (hstack : s.stack = fr :: rest) (hct : (fr.callType == 2) = false)
    (stmts : List Stmt) (hp : ∀ st ∈ stmts, PureStmt st) (n : Nat) :
    FinalRel ω true (evalExecBlock (n+3) (some (.mk [] (some stmts) [])) [] s)
      (callBody (n+3) (some (.mk [] (some stmts) [])) [] none σ) := by
  obtain ⟨sc, hsc, _, _⟩ := hst.scope
  rw [execBlock_eq n stmts hp s sc hsc fr rest hstack hct, callBody_eq n stmts hp σ]
  have hs1 : getScope (putScope s.csModuleID sc.beginScope s).csModuleID (putScope s.csModuleID sc.beginScope s) = some sc.beginScope := by
    rw [Calls.putScope_cs, Calls.getScope_putScope_same]
  rw [evalPureStmtBlock_some, Calls.withScope_some _ _ _ hs1, Calls.putScope_cs]
  have hinv2 : Inv ω mid (D+2) (D :: ds) s.heap _ _ :=
    ⟨hst.push2 sc hsc (none :: σ.this), by rw [Calls.putScope_heap, Calls.putScope_heap]; exact HeapLe.refl _,
      by rw [slot_of_stack ((Calls.putScope_stack ..).trans (Calls.putScope_stack ..))]; exact hslot⟩
  have hsim := sim_stmts (stmt_block_sim ω mid n n (Nat.le_refl n)).1 stmts _ _ none .null hp hinv2 rfl
  obtain ⟨r, s3, r', σ3, e1, e2, hout⟩ := simS_elim hsim
  rw [e1, e2]
  simp only
  rcases hout with rfl | rfl | rfl | hout
  · exact .unspec
  · exact .specFuel
  · exact .modelFuel
  · -- a value handed back from a state `s4` that differs from the one after the statements in the heap at most
    have fin : StRel ω mid (D+2) (D :: ds) s3 σ3 → ∀ {a v} (s4 : VM ν), (∃ k, contentW ω k s4.heap a = some v) →
        s4.out = (Calls.endScopeOf s.csModuleID s3).out → s4.stack = (Calls.endScopeOf s.csModuleID s3).stack →
        FinalRel ω true (.ok a, Calls.endScopeOf s.csModuleID s4) (.ok v, { σ3 with env := σ3.env.drop 1, this := σ3.this.drop 1 }) :=
      fun h1 _ _ s4 hk ho hs => .ok (by rw [Calls.endScopeOf_heap]; exact hk) (by rw [Calls.endScopeOf_out, ho, Calls.endScopeOf_out]; exact h1.out) (by
        rw [Calls.endScopeOf_stack, hs, Calls.endScopeOf_stack]
        obtain ⟨fr', rest', hs', _⟩ := h1.stack
        rw [hs']; simp)
    cases hout with
    | ok hv =>
      obtain ⟨h1, h2, h3, h4⟩ := hv
      rename_i oa v
      cases oa with
      | some a =>
        obtain ⟨k, hk⟩ := h4
        exact fin h1 (Calls.endScopeOf s.csModuleID s3) ⟨k, by rw [Calls.endScopeOf_heap]; exact hk⟩ rfl rfl
      | none =>
        subst h4
        exact fin h1 _ ⟨1, contentW_push_new 0 _ .null .null .null⟩ rfl rfl
    | ret ht =>
      obtain ⟨⟨h1, h2, x, h3, k, h4⟩, h5⟩ := ht
      subst h5
      rw [h3]
      exact fin h1 (Calls.endScopeOf s.csModuleID s3) ⟨k, by rw [Calls.endScopeOf_heap]; exact h4⟩ rfl rfl
    | brk hb =>
      obtain ⟨e', s', he⟩ := finishBlock_err (n+1) s.csModuleID s.stack.length .sigBreak (.inl rfl) (Calls.endScopeOf s.csModuleID s3)
      rw [he]; exact .raise
    | cont hb =>
      obtain ⟨e', s', he⟩ := finishBlock_err (n+1) s.csModuleID s.stack.length .sigContinue (.inr (.inl rfl)) (Calls.endScopeOf s.csModuleID s3)
      rw [he]; exact .raise
    | rt c =>
      obtain ⟨e', s', he⟩ := finishBlock_err (n+1) s.csModuleID s.stack.length (.rt c) (.inr (.inr (.inl ⟨c, rfl⟩))) (Calls.endScopeOf s.csModuleID s3)
      rw [he]; exact .raise
    | sem c =>
      obtain ⟨e', s', he⟩ := finishBlock_err (n+1) s.csModuleID s.stack.length (.sem c) (.inr (.inr (.inr ⟨c, rfl⟩))) (Calls.endScopeOf s.csModuleID s3)
      rw [he]; exact .fatal

/-- the machine in which `runProgram` starts the main body: module 0 allocated, the script frame pushed; it is
`ControlFlow.programStart (initVM ())` written out -/
def startS : VM ν :=
  pushS { moduleId := 0, callType := 1 }
    { initVM () with modules := (initVM (ν := ν) ()).modules.push { name := "主模块", hasProgram := true }, csModuleID := 0 }

theorem startS_fields : (startS (ν := ν)).heap = (initVM (ν := ν) ()).heap ∧ (startS (ν := ν)).globals = (initVM (ν := ν) ()).globals ∧
    (startS (ν := ν)).stack = [{ moduleId := 0, callType := 1 }] ∧ (startS (ν := ν)).csModuleID = 0 ∧
    (startS (ν := ν)).out = [] ∧ getScope 0 (startS (ν := ν)) = some {} :=
  ⟨rfl, rfl, rfl, rfl, rfl, rfl⟩

theorem stRel_start : StRel (ν := ν) initω 0 0 [] startS {} := by
  obtain ⟨f1, f2, f3, f4, f5, f6⟩ := startS_fields (ν := ν)
  refine ⟨f4, ?_, ?_, ?_, ?_, ?_, ?_⟩
  · intro name
    have h := envRel_init (ν := ν) name
    have hv : visible (initVM (ν := ν) ()) name = lookup name (initVM (ν := ν) ()).globals := by
      simp only [visible]
      have : getScope (initVM (ν := ν) ()).csModuleID (initVM (ν := ν) ()) = none := rfl
      rw [this]
      cases lookup name (initVM (ν := ν) ()).globals <;> rfl
    have hs : specVisible ({} : SState ν) name = predefVal name := by
      simp only [specVisible]
      cases predefVal (ν := ν) name <;> rfl
    rw [hv, hs] at h
    rw [f2, f1]
    exact h
  · refine ⟨{}, by rw [f4]; exact f6, rfl, ?_⟩
    exact BlocksRel.cons (bs := []) (rest := []) .nil (fun _ hm => by cases hm) (fun _ hm => by cases hm) .nil
  · exact ⟨_, _, f3, by rw [f4]⟩
  · rw [f5]
  · -- 显示 is the fifth predefined name of `initVM`: address 4
    exact ⟨4, by rw [f2]; rfl, by rw [f1]; rfl⟩
  · intro a v h1 h2
    rw [f1]
    unfold initω at h1
    split at h1
    · cases h1; exact ⟨_, rfl, rfl⟩
    · cases h1; exact ⟨_, rfl, trivial⟩
    · cases h1; exact ⟨_, rfl, trivial⟩
    · cases h1

theorem slot_start : slot (startS (ν := ν)) = none := rfl

theorem runProgram_eq (fuel : Nat) (blk : ExecBlock) (stmts : List Stmt) (hblk : blk = .mk [] (some stmts) []) :
    Model.runProgram (ν := ν) fuel ⟨[], some blk⟩ [] (initVM ()) =
      (evalExecBlock fuel (some blk) [] >>= fun r => popFrame >>= fun _ => pure r) startS := by
  subst hblk
  -- `startS` is `ControlFlow.programStart (initVM ())`
  exact ControlFlow.runProgram_eq fuel (some stmts) [] [] (initVM ())

theorem specRunProgram_eq (fuel : Nat) (blk : ExecBlock) (stmts : List Stmt) (hblk : blk = .mk [] (some stmts) []) (σ : SState ν) :
    Spec.runProgram (ν := ν) fuel ⟨[], some blk⟩ [] σ = callBody fuel (some blk) [] none σ := by
  subst hblk
  simp only [Spec.runProgram, List.isEmpty_nil, not_true_eq_false, if_false, List.mapM_nil, pure_bind]

theorem program_refines (stmts : List Stmt) (hp : ∀ st ∈ stmts, PureStmt st) (n : Nat) :
    FinalRel (ν := ν) initω false (Model.runProgram (n+3) ⟨[], some (.mk [] (some stmts) [])⟩ [] (initVM ()))
      (Spec.runProgram (n+3) ⟨[], some (.mk [] (some stmts) [])⟩ [] {}) := by
  rw [runProgram_eq (n+3) _ stmts rfl, specRunProgram_eq (n+3) _ stmts rfl]
  have hb := body_refines (ν := ν) stRel_start slot_start _ _ startS_fields.2.2.1 rfl stmts hp n
  rw [Calls.M_bind_def]
  generalize evalExecBlock (n+3) (some (.mk [] (some stmts) [])) [] (startS (ν := ν)) = p,
    callBody (n+3) (some (.mk [] (some stmts) [])) [] none ({} : SState ν) = q at hb
  cases hb with
  | ok hc ho hs =>
    rename_i a v s' σ'
    simp only [Calls.M_bind_def, popFrame]
    cases hst : s'.stack with
    | nil => exact absurd hst (hs rfl)
    | cons fr rest => exact .ok hc ho (by simp)
  | raise => exact .raise
  | fatal => exact .fatal
  | unspec => exact .unspec
  | specFuel => exact .specFuel
  | modelFuel => exact .modelFuel

end ZnVerif.Proofs
