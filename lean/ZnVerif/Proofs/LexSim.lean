/-
C03 at character level, parser part 2: the parser model driven by the real lexer along a `Run` answers exactly what it answers on
the run's token list read against the final layout.

`parseAST_run`: `parseAST v realOps n (R.st 0) = parseLaidOut v Y n R.toks`, for every fuel `n` (the same on both sides: both lexers
hand out the same tokens, comments included, so `next()` spends the same fuel).
-/
import ZnVerif.Proofs.LexSimBase
import ZnVerif.Proofs.ParserSimStep

namespace ZnVerif.Proofs.LexSim
open ZnVerif.Model ZnVerif.Model.Parser
open ZnVerif.Spec.StmtSyntax ZnVerif.Proofs.LexRun

variable {Y : Layout} {R : Run Y}

theorem initState_both (n : Nat) :
    ParserSim.Out (frame R) 0 ParserSim.Any (initState realOps n (R.st 0)) (initState (layoutOps Y) n R.toks) := by
  rw [← rest_zero R]
  unfold initState
  rcases fetch_both R n 0 with ⟨a, b⟩ | ⟨i, _, a, b⟩
  · rw [a, b]; trivial
  · rw [a, b]
    obtain ⟨b1, b2, e1, e2⟩ := window R i 0 0 (Nat.zero_le _) (Nat.zero_le _)
    refine ⟨rfl, i, Nat.zero_le _, ⟨⟨rfl, nl_pos R i, b1, b2, ⟨i, Nat.le_refl _, rfl⟩⟩, ?_⟩, trivial⟩
    show (⟨rest R (i + 1), none, R.tk i, 0, 0, findLineIdx Y.lines (R.tk i).startIdx 0,
      findLineIdx Y.lines (R.tk i).endIdx 0, false⟩ : S2) = _
    rw [e1, e2]; rfl

theorem parseAST_run (R : Run Y) (v : Variant) (n : Nat) :
    parseAST v realOps n (R.st 0) = parseLaidOut v Y n R.toks :=
  (ParserSim.S_parseAST frame_laws v n (initState_both n)).resolve_right (fun h => h.1)

end ZnVerif.Proofs.LexSim
