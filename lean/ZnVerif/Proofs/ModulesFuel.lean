/-
Helper lemma for C15's `loader_terminates`: the import stack is never deeper than `files.length + 1` (`stack_length_le`).
The modules on the import stack are distinct, and all but the main module have distinct files in the table.  The fuel
`files.length + 1` given by `run` decreases by one per nesting level only (`ErrPost.fuel`), so it is never exhausted; that
conclusion is drawn in Properties/C15.
-/
import ZnVerif.Proofs.ModulesPath

namespace ZnVerif.Proofs.Modules
open ZnVerif.Model.Modules
open ZnVerif.Spec.ModuleSem

variable {files : Files} {mainSrc : ModuleSrc} {O : Oracle} {libs : Libs}

theorem nodup_map_of_inj_on {α β} {f : α → β} {l : List α} (hnd : l.Nodup)
    (hinj : ∀ x, x ∈ l → ∀ y, y ∈ l → f x = f y → x = y) : (l.map f).Nodup :=
  List.pairwise_map.2 (hnd.imp_of_mem fun hx hy hne h => hne (hinj _ hx _ hy h))

theorem msrc_path {n : Name} {s : ModuleSrc} (hne : n ≠ mainName)
    (h : msrc files mainSrc n = some s) : withExt (segments n) ∈ files.map (fun p => p.1) :=
  List.mem_map.2 ⟨(_, s), assoc_mem (msrc_plain hne h).2.2, rfl⟩

theorem stack_length_le {vm : VM} {st : List Nat}
    (hS : SInv files mainSrc vm) (hL : LInv files mainSrc vm st) : st.length ≤ files.length + 1 := by
  -- the file of a stack entry; `none` for the main module
  let p : Nat → Option Path := fun x =>
    match (namesOf vm)[x]? with
    | some n => if n = mainName then none else some (withExt (segments n))
    | none => none
  have hnd : (st.map p).Nodup := by
    refine nodup_map_of_inj_on hL.nodup fun x hx y hy hxy => ?_
    obtain ⟨nx, hx1, _⟩ := hL.sreach x hx
    obtain ⟨ny, hy1, _⟩ := hL.sreach y hy
    simp only [p, hx1, hy1] at hxy
    by_cases hx0 : nx = mainName <;> by_cases hy0 : ny = mainName <;>
      simp only [hx0, hy0, if_true, if_false, reduceCtorEq, Option.some.injEq] at hxy
    · exact hS.index_inj hx1 ((hx0.trans hy0.symm) ▸ hy1)
    · exact hS.index_inj hx1 (path_inj hxy ▸ hy1)
  have hsub : ∀ q ∈ st.map p, q ∈ none :: (files.map (fun f => f.1)).map some := by
    intro q hq
    obtain ⟨x, hx, rfl⟩ := List.mem_map.1 hq
    obtain ⟨nx, hx1, _, src, hsrc⟩ := hL.sreach x hx
    simp only [p, hx1]
    split
    · exact List.mem_cons_self ..
    · exact List.mem_cons_of_mem _ (List.mem_map_of_mem (msrc_path ‹_› hsrc))
  simpa using hnd.length_le_of_subset hsub

end ZnVerif.Proofs.Modules
