/-
Every call of a built-in method is one store into the receiver's own cell (`StoreStep`, `builtinMethod_storeStep`): the cell is
replaced by a cell whose links are its old links or fresh duplicates of arguments, or nothing is written at all.  Read off the
shape of the methods (`Method`, `builtinMethod_shape`, Proofs/MethodShape.lean) by one induction; `dup_readable` lets the
hypothesis be "the arguments are readable", at whatever fuel.
-/
import ZnVerif.Proofs.MethodShape
import ZnVerif.Proofs.FuelMono
set_option linter.unusedSectionVars false

namespace ZnVerif.Model

variable {ν : Type} [NumOps ν]

/-- a successful `dup` of a readable value — readable at whatever fuel — answers a readable value all of whose copied-kind
cells are new: `dup` is monotone in its fuel, so `dup_post` applies at a fuel that suffices for the deep read too -/
theorem dup_readable {n : Nat} {x y : Addr} {s s' : VM ν} (h : dup n x s = (.ok y, s')) (hx : Readable s.heap x) :
    Readable s'.heap y ∧ Fresh s.heap.size s'.heap y := by
  obtain ⟨k, t, ht⟩ := hx
  have hp := dup_post (content_fuel_le (Nat.le_add_left k n) ht)
    (Proofs.dup_mono_le (Nat.le_add_right n k) x s _ _ h nofun)
  exact ⟨⟨_, t, hp.cont⟩, hp.fresh⟩

/-- what the store analysis carries along a method on a receiver whose cell is `c`: the heap has only grown since the call
began (`h0`); the sources are readable; what may be linked to is a link of `c` or a readable value all of whose
copied-kind cells were allocated since -/
def StoreInv (c : Cell ν) (h0 : Array (Cell ν)) (A L : Addr → Prop) (h : Array (Cell ν)) : Prop :=
  Ext h0 h ∧ (∀ x, A x → Readable h x) ∧ ∀ y, L y → y ∈ c.children ∨ (Readable h y ∧ Fresh h0.size h y)

theorem fresh_ext {old : Nat} {h h' : Array (Cell ν)} {y : Addr} (e : Ext h h') (hy : Readable h y ∧ Fresh old h y) :
    Readable h' y ∧ Fresh old h' y :=
  ⟨hy.1.ext e, let ⟨k, _, ht⟩ := hy.1; hy.2.ext e (content_valid k ht)⟩

theorem StoreInv.ext {c : Cell ν} {h0 h h' : Array (Cell ν)} {A L : Addr → Prop} (i : StoreInv c h0 A L h) (e : Ext h h') :
    StoreInv c h0 A L h' :=
  ⟨i.1.trans e, fun x hx => (i.2.1 x hx).ext e, fun y hy => (i.2.2 y hy).imp_right (fresh_ext e)⟩

theorem Prep.run {n : Nat} {c : Cell ν} {h0 : Array (Cell ν)} {A L : Addr → Prop} {β : Type} {m : M ν β}
    {out : β → Addr → Prop} (hP : Prep n A β m out) :
    ∀ (s : VM ν) r s', StoreInv c h0 A L s.heap → m s = (r, s') →
      Ext s.heap s'.heap ∧ ∀ b, r = .ok b → ∀ y, out b y → Readable s'.heap y ∧ Fresh h0.size s'.heap y := by
  induction hP with
  | panic => intro s r s' _ h; cases h; exact ⟨Ext.refl _, nofun⟩
  | dup x hx =>
    intro s r s' i h
    refine ⟨((dup_grow n x).run s r s' h).2, fun b hb y hy => ?_⟩
    cases hb; subst hy
    have hp := dup_readable h (i.2.1 x hx)
    exact ⟨hp.1, hp.2.mono i.1.1⟩
  | new d hk hl hw =>
    intro s r s' i h
    cases h
    refine ⟨Ext.push _ _, fun b hb y hy => ?_⟩
    cases hb; subst hy
    have hp := alloc_container_post 0 s s [] [] d _ (SameBut.refl s) (Ext.refl _) (by simp) (by simp) hl hw rfl
    exact ⟨⟨1, _, hp.cont⟩, hp.fresh.mono i.1.1⟩
  | @cell A β out v g hv _ ih =>
    intro s r s' i h
    obtain ⟨k0, t, ht⟩ := i.2.1 v hv
    obtain ⟨k, d, ts, rfl, hd, _, hch, _⟩ := content_some_inv ht
    rw [Proofs.Calls.M_bind_def] at h
    simp only [getCell, hd] at h
    refine ih d s r s' ⟨i.1, fun x hx => hx.elim (i.2.1 x) fun hx => ?_, i.2.2⟩ h
    obtain ⟨t', ht', _⟩ := omapM_mem _ _ ts hch x hx
    exact ⟨k, t', ht'⟩
  | @mapM A α β out l f hf ih =>
    -- the elements run one after the other, each in a heap that has grown: what an earlier one handed on stays readable
    -- and new (`fresh_ext`), and the invariant goes on to the next (`StoreInv.ext`)
    revert hf ih
    induction l with
    | nil =>
      intro _ _ s r s' _ h
      rw [List.mapM_nil] at h; cases h
      exact ⟨Ext.refl _, fun b hb y hy => by cases hb; simp at hy⟩
    | cons x xs ihl =>
      intro hf ih s r s' i h
      rw [List.mapM_cons, Proofs.Calls.M_bind_def] at h
      rcases h1 : f x s with ⟨r1, s1⟩
      have g1 := ih x (by simp) s r1 s1 i h1
      rw [h1] at h
      cases r1 with
      | ok b =>
        simp only at h
        rw [Proofs.Calls.M_bind_def] at h
        rcases h2 : List.mapM f xs s1 with ⟨r2, s2⟩
        have g2 := ihl (fun y hy => hf y (by simp [hy])) (fun y hy => ih y (by simp [hy])) s1 r2 s2 (i.ext g1.1) h2
        rw [h2] at h
        cases r2 with
        | ok bs =>
          cases h
          refine ⟨g1.1.trans g2.1, fun bs' hb y hy => ?_⟩
          cases hb
          obtain ⟨b', hb', hy⟩ := hy
          rcases List.mem_cons.1 hb' with rfl | hb'
          · exact fresh_ext g2.1 (g1.2 _ rfl y hy)
          · exact g2.2 bs rfl y ⟨b', hb', hy⟩
        | _ => cases h; exact ⟨g1.1.trans g2.1, fun _ e => nomatch e⟩
      | _ => cases h; exact ⟨g1.1, fun _ e => nomatch e⟩

theorem Ans.grow {L : Addr → Prop} {m : M ν Addr} (h : Ans (ν := ν) L m) : Pres Grow m := by
  cases h with
  | same p => exact p.of_same
  | new d _ _ => exact alloc_grow d
  | exc msg => exact ⟨fun s r s' h => by cases h; exact ⟨SameBut.push _ _, Ext.push _ _⟩⟩

theorem Method.storeStep {n : Nat} {a : Addr} {c : Cell ν} {A L : Addr → Prop} {m : M ν Addr} {h0 : Array (Cell ν)}
    (hM : Method n a c A L m) (hc0 : h0[a]? = some c) :
    ∀ (s : VM ν) r s', StoreInv c h0 A L s.heap → m s = (r, s') → StoreStep a h0 s'.heap := by
  -- up to the write the heap is an extension of `h0` (a `read` leaves the state alone, a `pre` only allocates: `Prep.run`), so
  -- a failure on the way is a `noop`; the write is the `store`; what follows it only allocates (`Ans.grow`)
  induction hM with
  | @read L β m k p _ ih =>
    intro s r s' i h
    rw [Proofs.Calls.M_bind_def] at h
    rcases h1 : m s with ⟨r1, s1⟩
    have := p.run s r1 s1 h1; unfold Same at this; subst this
    rw [h1] at h
    cases r1 with
    | ok x => exact ih x s1 r s' i h
    | _ => cases h; exact .noop i.1
  | @pre L β out m k hP _ ih =>
    intro s r s' i h
    rw [Proofs.Calls.M_bind_def] at h
    rcases h1 : m s with ⟨r1, s1⟩
    have g := hP.run (c := c) (h0 := h0) s r1 s1 i h1
    rw [h1] at h
    cases r1 with
    | ok b =>
      have i1 := i.ext g.1
      exact ih b s1 r s' ⟨i1.1, i1.2.1, fun y hy => hy.elim (i1.2.2 y) fun hy => .inr (g.2 b rfl y hy)⟩ h
    | _ => cases h; exact .noop (i.1.trans g.1)
  | store c' hm hk hw hch hans =>
    intro s r s' i h
    have hlt : a < s.heap.size := Nat.lt_of_lt_of_le (lt_size_of_getElem? hc0) i.1.1
    rw [Proofs.Calls.M_bind_def] at h
    simp only [setCell, if_pos hlt] at h
    exact .store i.1 hc0 hm hw (fun y hy => i.2.2 y (hch y hy)) (hans.grow.run _ r s' h).2
  | ans hans =>
    intro s r s' i h
    exact .noop (i.1.trans (hans.grow.run s r s' h).2)

/-- **every call of a built-in method is one store** into the receiver's own cell (`StoreStep`), whatever the method, its
arguments and its outcome, provided the arguments are readable (at some fuel): what a method that stores an argument
stores is a fresh duplicate; a call that fails, or a method that does not mutate, only allocates -/
theorem builtinMethod_storeStep {n : Nat} {r : Addr} {name : String} {vals : List Addr} {s s' : VM ν} {res : Res Addr}
    (h : builtinMethod n r name vals s = (res, s')) (hv : ∀ v ∈ vals, Readable s.heap v) :
    StoreStep r s.heap s'.heap := by
  obtain ⟨body, e, hb⟩ := builtinMethod_shape (ν := ν) n r name vals
  rw [e, Proofs.Calls.M_bind_def] at h
  unfold getCell at h
  cases hc : s.heap[r]? with
  | none => rw [hc] at h; cases h; exact .noop (Ext.refl _)
  | some c =>
    rw [hc] at h
    exact (hb c).storeStep hc s res s' ⟨Ext.refl _, hv, fun y hy => .inl hy⟩ h

theorem readable_of_cell {h : Array (Cell ν)} {v : Addr} {d : Cell ν} (hd : h[v]? = some d) (hw : d.wf = true)
    (hch : ∀ x ∈ d.children, Readable h x) : Readable h v := by
  obtain ⟨k, ts, hts⟩ := readable_list d.children hch
  exact ⟨k + 1, _, content_of_parts hd hw hts⟩

theorem readable_leaf {h : Array (Cell ν)} {v : Addr} {d : Cell ν} (hd : h[v]? = some d) (hl : d.children = [])
    (hw : d.wf = true := by rfl) : Readable h v :=
  readable_of_cell hd hw (by rw [hl]; nofun)

theorem readable1 {h : Array (Cell ν)} {x : Addr} (hx : Readable h x) : ∀ v ∈ [x], Readable h v :=
  List.forall_mem_singleton.2 hx

theorem readable2 {h : Array (Cell ν)} {x y : Addr} (hx : Readable h x) (hy : Readable h y) : ∀ v ∈ [x, y], Readable h v :=
  List.forall_mem_cons.2 ⟨hx, readable1 hy⟩

end ZnVerif.Model
