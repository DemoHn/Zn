/-
Fuel monotonicity of the model evaluator on the pure expression fragment: an outcome other than
"out of fuel" is the outcome for every larger fuel.  (Needed by the statement-level refinement, where
model and spec spend fuel at different rates.)
-/
import ZnVerif.Proofs.ExprBase
import ZnVerif.Proofs.FuelMono


namespace ZnVerif.Proofs
open ZnVerif.Model

variable {ν : Type} [NumOps ν]

theorem compareXEQ_mono : ∀ (n : Nat) (l r : Addr), FLe (compareXEQ (ν := ν) n l r) (compareXEQ (n+1) l r)
  | 0, l, r => FLe.fuel _
  | n+1, l, r => by
    have ih := compareXEQ_mono n
    refine .bind (.refl _) fun cl => .bind (.refl _) fun cr => ?_
    cases cl
    case arr xs =>
      cases cr
      case arr ys => exact .ite (.refl _) (.allM (fun (p : Addr × Addr) => ih p.1 p.2) _)
      all_goals exact .refl _
    case hm lv lo =>
      cases cr
      case hm rv ro =>
        refine .ite (.refl _) (.allM (fun k => ?_) _)
        cases lookup k rv
        · exact .refl _
        · cases lookup k lv
          · exact .refl _
          · exact ih _ _
      all_goals exact .refl _
    all_goals exact .refl _

/-! ### the operator nodes are monotone in the evaluations of their operands -/

theorem FLe.withNum {α} {K K' : ν → M ν α} (e : Nat) (h : ∀ x, FLe (K x) (K' x)) (c : Cell ν) :
    FLe (withNum e K c) (withNum e K' c) := by
  cases c <;> first | exact h _ | exact FLe.refl _

theorem FLe.withBool {α} {K K' : Bool → M ν α} (e : Nat) (h : ∀ b, FLe (K b) (K' b)) (c : Cell ν) :
    FLe (withBool e K c) (withBool e K' c) := by
  cases c <;> first | exact h _ | exact FLe.refl _

theorem FLe.logicNode {ty : Nat} {cmp cmp' : Addr → Addr → M ν Bool} {el er el' er' : M ν Addr}
    (hc : ∀ l r, FLe (cmp l r) (cmp' l r)) (hl : FLe el el') (hr : FLe er er') :
    FLe (logicNode ty cmp el er) (logicNode ty cmp' el' er') :=
  .ite
    (.bind hl fun _ => .bind (.refl _) <| .withBool 80 fun _ => .ite (.refl _) <| .ite (.refl _) <|
      .bind hr fun _ => .refl _)
    (.bind hl fun _ => .bind hr fun _ =>
      .ite (.bind (hc _ _) fun _ => .refl _) <| .ite (.bind (hc _ _) fun _ => .refl _) (.refl _))

theorem FLe.arithNode {ty : Nat} {el er el' er' : M ν Addr} (hl : FLe el el') (hr : FLe er er') :
    FLe (arithNode ty el er) (arithNode ty el' er') :=
  .ite (.bind hl fun _ => .bind hr fun _ => .refl _)
    (.bind hl fun _ => .bind (.refl _) <| .withNum 80 fun _ => .bind hr fun _ => .refl _)

theorem FLe.hmEntry (key : Expr) {ev ev' : M ν Addr} (h : FLe ev ev') : FLe (hmEntry key ev) (hmEntry key ev') := by
  have tail : ∀ key : String, FLe (do let v ← ev; pure (key, v)) (do let v ← ev'; pure (key, v)) :=
    fun _ => .bind h fun _ => .refl _
  cases key
  case id => exact .bind (.refl _) fun _ => .bind (.refl _) tail
  all_goals exact .bind (.refl _) tail

theorem evalExpr_mono_step (n n' : Nat) (hcmp : ∀ l r, FLe (compareXEQ (ν := ν) n l r) (compareXEQ n' l r))
    (ih : ∀ e, PureExpr e → FLe (evalExpr (ν := ν) n e) (evalExpr n' e)) (e : Expr) (he : PureExpr e) :
    FLe (evalExpr (ν := ν) (n+1) e) (evalExpr (n'+1) e) := by
  cases he with
  | id i => exact FLe.refl _
  | str ln t => exact FLe.refl _
  | arr ln items hi =>
    rw [evalExpr_arr, evalExpr_arr]
    exact .bind (.mapM _ fun e he => ih e (hi e he)) fun _ => .refl _
  | hm ln kvs hi =>
    rw [evalExpr_hm, evalExpr_hm]
    exact .bind (.mapM _ fun kv hkv => .hmEntry kv.1 (ih _ (hi kv hkv))) fun _ => .refl _
  | logic ln ty l r hty hl hr =>
    rw [evalExpr_logic, evalExpr_logic]
    exact .logicNode hcmp (ih _ hl) (ih _ hr)
  | arith ln ty l r hty hl hr =>
    rw [evalExpr_arith, evalExpr_arith]
    exact .arithNode (ih _ hl) (ih _ hr)

theorem evalExpr_mono : ∀ (n : Nat), (∀ e, PureExpr e → FLe (evalExpr (ν := ν) n e) (evalExpr (n+1) e))
  | 0 => fun _ _ => FLe.fuel _
  | n+1 => evalExpr_mono_step n (n+1) (compareXEQ_mono n) (evalExpr_mono n)

theorem evalExpr_mono_le {n n' : Nat} (hle : n ≤ n') (e : Expr) (he : PureExpr e) (s : VM ν) (r : Res Addr) (s' : VM ν)
    (h : evalExpr n e s = (r, s')) (hr : r ≠ .fuel) : evalExpr n' e s = (r, s') := by
  induction hle with
  | refl => exact h
  | step _ ih => exact evalExpr_mono _ e he s r s' ih hr

end ZnVerif.Proofs
