/-
C10, text methods: inside the fragment the model covers (`TextFragment`) a text method applied to any argument list
ends with a value or with an error — never `unmodelled`, never out of fuel (the text methods use none).  `Ends m` is
compositional like `NoSig` (Proofs/LoopSignals.lean); panics are excluded by `post_builtinMethod`
(Proofs/BuiltinMembers.lean) on well-formed heaps.
-/
import ZnVerif.Proofs.Calls
set_option linter.unusedSectionVars false

namespace ZnVerif.Proofs.TextTotal
open ZnVerif.Model
open ZnVerif.Proofs.Calls (M_bind_def getCell_ok)

variable {ν : Type} [NumOps ν]

/-- an outcome that is a value, an error or a panic -/
def Res.decided {α} : Res α → Prop
  | .unmodelled => False
  | .fuel => False
  | _ => True

/-- `m` never answers `unmodelled` or `fuel` -/
structure Ends {α} (m : M ν α) : Prop where
  out : ∀ s, Res.decided (m s).1

theorem Ends.pure {α} (a : α) : Ends (pure a : M ν α) := ⟨fun _ => trivial⟩

theorem Ends.bind {α β} {m : M ν α} {f : α → M ν β} (hm : Ends m) (hf : ∀ a, Ends (f a)) : Ends (m >>= f) := by
  constructor
  intro s
  rw [M_bind_def]
  have h1 := hm.out s
  rcases hms : m s with ⟨r, s1⟩
  rw [hms] at h1
  cases r with
  | ok a => exact (hf a).out s1
  | err e => trivial
  | panic => trivial
  | fuel => exact h1
  | unmodelled => exact h1

theorem Ends.throwE {α} (e : Err) : Ends (throwE e : M ν α) := ⟨fun _ => trivial⟩
theorem Ends.goPanic {α} : Ends (goPanic : M ν α) := ⟨fun _ => trivial⟩
theorem Ends.alloc (c : Cell ν) : Ends (alloc c) := ⟨fun _ => trivial⟩
theorem Ends.getCell (a : Addr) : Ends (getCell a : M ν (Cell ν)) := by
  constructor; intro s; unfold Model.getCell; split <;> trivial
theorem Ends.setCell (a : Addr) (c : Cell ν) : Ends (setCell a c) := by
  constructor; intro s; unfold Model.setCell; split <;> trivial

theorem Ends.closed : Calls.Closed (fun {α} (m : M ν α) => Ends m) := ⟨Ends.pure, Ends.bind⟩

theorem Ends.validateOne (a : Addr) (ty : String) : Ends (validateOne a ty : M ν Unit) := by
  unfold Model.validateOne
  refine Ends.bind (Ends.getCell a) fun c => ?_
  split
  · exact Ends.pure _
  · exact Ends.throwE _

theorem Ends.validateAll (vals : List Addr) (ty : String) : Ends (validateAll vals ty : M ν Unit) :=
  Ends.closed.forM fun a _ => Ends.validateOne a ty

theorem Ends.validateExact (vals : List Addr) (tys : List String) : Ends (validateExact vals tys : M ν Unit) := by
  unfold Model.validateExact
  split
  · exact Ends.throwE _
  · exact Ends.closed.forM fun (p : Addr × String) _ => Ends.validateOne p.1 p.2

/-- the fragment of the text methods the model covers: case mapping of texts whose characters are ASCII or without case,
    转换数值 on texts that (after the rewrite of `*^` / `*10^`) are not one of the spellings `strconv.ParseFloat` accepts
    beyond plain decimal numerals and cannot be out of range -/
def TextFragment (t : String) (name : String) : Prop :=
  (name = "转小写-英文" → (TextOps.toLower (textBytes t)).isSome = true) ∧
  (name = "转大写-英文" → (TextOps.toUpper (textBytes t)).isSome = true) ∧
  (name = "转换数值" → TextOps.atofClass (TextOps.atoiRewrite (textBytes t)) ≠ .special)

theorem ends_text (n : Nat) (a : Addr) (name : String) (vals : List Addr) (t : String) (s : VM ν)
    (hc : s.heap[a]? = some (.str t)) (hf : TextFragment t name) :
    Res.decided (builtinMethod n a name vals s).1 := by
  unfold builtinMethod
  rw [M_bind_def, getCell_ok hc]
  dsimp only
  -- a text argument read back after validation
  have str : ∀ {α} (c : Cell ν) (k : String → M ν α), (∀ t, Ends (k t)) →
      Ends (match c with | .str t => k t | _ => goPanic) := fun c k hk => by
    cases c <;> first | exact hk _ | exact .goPanic
  split
  -- 拼接
  · exact (Ends.bind (.validateAll _ _) fun _ => .bind (Ends.closed.mapM fun v _ => .bind (.getCell v) fun c => str c _ fun _ => .pure _) fun _ =>
      .alloc _).out s
  -- 匹配, 匹配开头, 匹配结尾
  iterate 3
    · refine (Ends.bind (.validateExact _ _) fun _ => ?_).out s
      match vals with
      | [v] => exact .bind (.getCell v) fun c => str c _ fun _ => .alloc _
      | [] | _ :: _ :: _ => exact .goPanic
  -- 替换
  · refine (Ends.bind (.validateExact _ _) fun _ => ?_).out s
    match vals with
    | [p, q] =>
      refine .bind (.getCell p) fun c => .bind (.getCell q) fun d => ?_
      cases c with
      | str _ => cases d <;> first | exact .alloc _ | exact .goPanic
      | _ => exact .goPanic
    | [] | [_] | _ :: _ :: _ :: _ => exact .goPanic
  -- 分隔
  · refine (Ends.bind (.validateExact _ _) fun _ => ?_).out s
    match vals with
    | [v] => exact .bind (.getCell v) fun c => str c _ fun _ => .bind (Ends.closed.mapM fun _ _ => .alloc _) fun _ => .alloc _
    | [] | _ :: _ :: _ => exact .goPanic
  -- 取样
  · refine (Ends.bind (.validateExact _ _) fun _ => ?_).out s
    match vals with
    | [p, q] =>
      refine .bind (.getCell p) fun c => .bind (.getCell q) fun d => ?_
      cases c with
      | num _ =>
        cases d with
        | num _ =>
          dsimp only
          split
          · exact .alloc _
          · exact .bind (.alloc _) fun _ => .throwE _
          · exact .bind (.alloc _) fun _ => .throwE _
          · exact .goPanic
        | _ => exact .goPanic
      | _ => exact .goPanic
    | [] | [_] | _ :: _ :: _ :: _ => exact .goPanic
  -- 去除空格
  · exact (Ends.alloc _).out s
  -- 转小写-英文
  · have h := hf.1 rfl
    cases hl : TextOps.toLower (textBytes t) with
    | none => rw [hl] at h; cases h
    | some r => exact (Ends.alloc _).out s
  -- 转大写-英文
  · have h := hf.2.1 rfl
    cases hl : TextOps.toUpper (textBytes t) with
    | none => rw [hl] at h; cases h
    | some r => exact (Ends.alloc _).out s
  -- 格式化
  · exact (Ends.bind (.validateAll _ _) fun _ => .bind (Ends.closed.mapM fun v _ => .bind (.getCell v) fun c => str c _ fun _ => .pure _) fun _ =>
      .alloc _).out s
  -- 转换数值
  · have h := hf.2.2 rfl
    refine (Ends.bind (.setCell _ _) fun _ => ?_).out s
    cases hk : TextOps.atofClass (TextOps.atoiRewrite (textBytes t)) with
    | number => exact .alloc _
    | syntaxErr => exact .bind (.alloc _) fun _ => .throwE _
    | special => exact absurd hk h
  · trivial

end ZnVerif.Proofs.TextTotal
