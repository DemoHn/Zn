/-
The binary-search loop of `IdInRange` (Model/Chars.lean) equals linear membership on every sorted,
disjoint, non-empty table, for every code point, with fuel `size + 2`.
-/
import ZnVerif.Model.Chars
import ZnVerif.Spec.IdAlphabet

namespace ZnVerif.Proofs
open ZnVerif.Model ZnVerif.Spec

/-- index-level reading of `Spec.sortedDisjoint` -/
structure SortedDisjoint (tbl : Array (Nat × Nat)) : Prop where
  wf : ∀ j (h : j < tbl.size), (tbl[j]).1 ≤ (tbl[j]).2
  lt : ∀ j k (hj : j < tbl.size) (hk : k < tbl.size), j < k → (tbl[j]).2 < (tbl[k]).1

theorem sortedDisjoint_head (p : Nat × Nat) (rest : List (Nat × Nat))
    (h : sortedDisjoint (p :: rest) = true) :
    p.1 ≤ p.2 ∧ sortedDisjoint rest = true ∧ ∀ q ∈ rest, p.2 < q.1 := by
  induction rest generalizing p with
  | nil => simp [sortedDisjoint] at h ⊢; exact h
  | cons q rest ih =>
    simp [sortedDisjoint] at h
    obtain ⟨⟨h1, h2⟩, h3⟩ := h
    have := ih q h3
    refine ⟨h1, h3, ?_⟩
    intro r hr
    simp at hr
    rcases hr with rfl | hr
    · exact h2
    · have := this.2.2 r hr; omega

theorem SortedDisjoint.of_list : ∀ (l : List (Nat × Nat)), sortedDisjoint l = true → SortedDisjoint l.toArray
  | [], _ => ⟨by intro j h; simp at h, by intro j k hj; simp at hj⟩
  | p :: rest, h => by
    obtain ⟨h1, h2, h3⟩ := sortedDisjoint_head p rest h
    have ih := SortedDisjoint.of_list rest h2
    constructor
    · intro j hj
      cases j with
      | zero => simpa using h1
      | succ j =>
        have := ih.wf j (by simpa using hj)
        simpa using this
    · intro j k hj hk hjk
      cases k with
      | zero => omega
      | succ k =>
        cases j with
        | zero =>
          have hk' : k < rest.length := by simpa using hk
          have := h3 (rest[k]) (List.getElem_mem hk')
          simpa using this
        | succ j =>
          have := ih.lt j k (by simpa using hj) (by simpa using hk) (by omega)
          simpa using this

theorem linearMember_false_of (tbl : Array (Nat × Nat)) (c : Nat)
    (h : ∀ j (hj : j < tbl.size), c < (tbl[j]).1 ∨ (tbl[j]).2 < c) :
    linearMember tbl.toList c = false := by
  unfold linearMember
  rw [List.any_eq_false]
  intro p hp
  obtain ⟨j, hj, rfl⟩ := List.getElem_of_mem hp
  have := h j (by simpa using hj)
  simp only [Array.getElem_toList] 
  rcases this with h1 | h1
  · simp; omega
  · simp; omega

theorem linearMember_true_of (tbl : Array (Nat × Nat)) (c : Nat) (j : Nat) (hj : j < tbl.size)
    (h1 : (tbl[j]).1 ≤ c) (h2 : c ≤ (tbl[j]).2) : linearMember tbl.toList c = true := by
  unfold linearMember
  rw [List.any_eq_true]
  exact ⟨tbl[j], by simp, by simp [h1, h2]⟩

/-- the loop invariant gives the result, for any fuel that exceeds `e - s`: everything left of `s` ends below `c`, everything from `e`
on starts above `c`; the window may shrink to one side of `mid` because the table is sorted and disjoint (`sd.lt`, `sd.wf`: every
interval beyond `mid` starts above `mid`'s end) -/
theorem bsLoop_correct (tbl : Array (Nat × Nat)) (sd : SortedDisjoint tbl) (c : Nat) :
    ∀ (fuel s e : Nat), s ≤ e → e ≤ tbl.size → s < tbl.size → e - s < fuel →
      (∀ j (hj : j < tbl.size), j < s → (tbl[j]).2 < c) →
      (∀ j (hj : j < tbl.size), e ≤ j → c < (tbl[j]).1) →
      bsLoop tbl c fuel s e = .ok (linearMember tbl.toList c) := by
  intro fuel
  induction fuel with
  | zero => intro s e _ _ _ h; omega
  | succ fuel ih =>
    intro s e hse hes hs hf hlow hhigh
    have hi : (e + s) / 2 < tbl.size := by omega
    unfold bsLoop
    simp only [Array.getElem?_eq_getElem hi]
    by_cases h1 : c < (tbl[(e + s) / 2]).1
    · simp only [h1, if_true]
      by_cases h2 : (e + s) / 2 = e
      · simp only [h2, if_true]
        have hse' : s = e := by omega
        rw [linearMember_false_of]
        intro j hj
        by_cases hjs : j < s
        · right; exact hlow j hj hjs
        · left; exact hhigh j hj (by omega)
      · simp only [h2, if_false]
        apply ih s ((e + s) / 2) (by omega) (by omega) hs (by omega) hlow
        intro j hj hij
        by_cases hje : (e + s) / 2 = j
        · subst hje; exact h1
        · have := sd.lt ((e + s) / 2) j hi hj (by omega)
          have := sd.wf ((e + s) / 2) hi
          omega
    · simp only [h1, if_false]
      by_cases h3 : c > (tbl[(e + s) / 2]).2
      · simp only [h3, if_true]
        by_cases h4 : (e + s) / 2 = s
        · simp only [h4, if_true]
          rw [linearMember_false_of]
          intro j hj
          by_cases hjs : j < s
          · right; exact hlow j hj hjs
          · by_cases hjs' : j = s
            · right; subst hjs'; simp only [h4] at h3; exact h3
            · left; exact hhigh j hj (by omega)
        · simp only [h4, if_false]
          apply ih ((e + s) / 2) e (by omega) hes hi (by omega) _ hhigh
          intro j hj hji
          have := sd.lt j ((e + s) / 2) hj hi hji
          have := sd.wf j hj
          omega
      · simp only [h3, if_false]
        rw [linearMember_true_of tbl c ((e + s) / 2) hi (by omega) (by omega)]

theorem idInRangeTbl_eq_linear (tbl : Array (Nat × Nat)) (maxCp c : Nat)
    (hsd : sortedDisjoint tbl.toList = true) (hne : 0 < tbl.size) :
    idInRangeTbl tbl maxCp c = .ok (decide (c ≤ maxCp) && linearMember tbl.toList c) := by
  unfold idInRangeTbl
  by_cases h : c > maxCp
  · simp [h]; omega
  · simp only [h, if_false]
    have sd : SortedDisjoint tbl := by simpa using SortedDisjoint.of_list tbl.toList hsd
    rw [bsLoop_correct tbl sd c (tbl.size + 2) 0 tbl.size (by omega) (by omega) hne (by omega)
      (by intro j _ h; omega) (by intro j hj h; omega)]
    simp; omega

end ZnVerif.Proofs
