/-
The production lemmas of `step_good`, part 5: 如何 / exec blocks / 以 … / 遍历 / 抛出 / 拦截 / 导入 / 定义 / the program; then `step_good` and `parse_good`.
-/
import ZnVerif.Proofs.ParserGoodExpr
import ZnVerif.Proofs.ParserGoodCall
import ZnVerif.Proofs.ParserGoodStmt
import ZnVerif.Proofs.ParserGoodBlock

namespace ZnVerif.Proofs.ParserGood
open ZnVerif.Model ZnVerif.Model.Parser ZnVerif.Generated.Tokens ZnVerif.Generated.ParserTables
open ZnVerif.Spec.Grammar ZnVerif.Proofs.ParserHoare

variable {σ : Type} {ops : LexOps σ} {B : Nat} {μ : σ → Nat} {I : σ → Prop}
variable (hl : LexOK ops B μ I) {n : Nat} {rec : Rec σ} (hg : Good ops B μ I n rec)
include hl hg

theorem pFunctionBlock_good : GoodAt ops B μ I (n + 1) .functionBlock (pFunctionBlock Variant.fixed ops n rec) := by
  intro s hs _
  apply parseID_bind hl (.refl hs)
  intro i s1 a1
  apply consume_bind hl a1 (by decide)
  intro s2 a2
  apply blockIndent_bind a2 (errPeek_sat a2.inv (by decide))
  intro bi
  apply hg.bindN a2 (.execBlock bi) trivial (Or.inl rfl)
  intro x s3 a3 hc3
  exact a3.post hc3

omit hl in
theorem pExecBlock_good (indent : Nat) : GoodAt ops B μ I (n + 1) (.execBlock indent) (pExecBlock rec indent) := by
  intro s hs _
  apply hg.call (.refl hs) (.execLoop indent .input [] [] []) ⟨by intro x hx; simp at hx, by intro x hx; simp at hx⟩
    (Or.inr (by simp [rank]))
  intro x s1 a1 hx hc
  exact a1.post_le rfl (fun h => hx (Or.inr h)) hc

theorem pExecLoop_good (indent : Nat) (st : ExSt) (inputs : List Ident) (stmts : List Stmt)
    (catches : List (Option Ident × Option (List Stmt))) :
    GoodAt ops B μ I (n + 1) (.execLoop indent st inputs stmts catches)
      (pExecLoop Variant.fixed ops n rec indent st inputs stmts catches) := by
  intro s hs (hpre : (∀ x ∈ stmts, CStmt x) ∧ ∀ c ∈ catches, CatchOK c)
  -- 拦截 X：block, then the loop again in the 拦截 state
  have catch_ : ∀ s1, At ops B μ I s s1 true →
      Sat ((do let c ← rec .catchStmt; rec (.execLoop indent .catch_ inputs stmts (catches ++ [c])) : PM σ ExecBlock) s1)
        (Post ops B μ I (.execLoop indent st inputs stmts catches) s) (ErrOK B)
        (n + 1 < need μ (.execLoop indent st inputs stmts catches) s) := by
    intro s1 a1
    apply hg.bindS a1 .catchStmt rfl trivial (Or.inl rfl)
    intro c s2 a2 hc2
    apply hg.callN a2 (.execLoop indent .catch_ inputs stmts (catches ++ [c])) ⟨hpre.1, mem_snoc hpre.2 hc2⟩ (Or.inl rfl)
    intro r s3 a3 hc3
    exact a3.post hc3
  refine sat_bind.mpr (sat_ite.mpr ⟨fun hcond => ?_, fun hcond => sat_ite.mpr ⟨fun _ => errPeek_sat hs (by decide), fun _ => ?_⟩⟩)
  · cases st with
    | input =>
      apply tryConsume_bind hl (.refl hs) (by decide)
      · intro s1 a1 hrel
        -- nothing consumed: the statement state sees the same loop condition; or a comma has been swallowed
        rcases hrel with rfl | h1
        · apply hg.call a1 (.execLoop indent .stmt inputs stmts catches) hpre (Or.inr (by simp [rank]))
          intro x s2 a2 hx hc
          exact a2.post_le rfl (fun _ => hx (Or.inr hcond)) hc
        · apply hg.callN h1 (.execLoop indent .stmt inputs stmts catches) hpre (Or.inl rfl)
          intro x s2 a2 hc
          exact a2.post hc
      · intro tk s1 a1 _
        apply hg.bindS a1 (.commaIds inputs) rfl trivial (Or.inl rfl)
        intro ids s2 a2 _
        apply hg.callN a2 (.execLoop indent .input ids stmts catches) hpre (Or.inl rfl)
        intro x s3 a3 hc3
        exact a3.post hc3
    | stmt =>
      refine sat_bind.mpr ?_
      apply tryConsume_bind hl ((At.refl hs).flag false) (by decide)
      · intro s1 a1 _
        apply hg.bindS a1 .statement rfl trivial (Or.inr (by simp [rank]))
        intro x s2 a2 hc2
        apply hg.callN a2 (.execLoop indent .stmt inputs (stmts ++ [x]) catches) ⟨mem_snoc hpre.1 hc2, hpre.2⟩ (Or.inl rfl)
        intro r s3 a3 hc3
        exact a3.post hc3
      · intro tk s1 a1 _
        exact catch_ s1 a1
    | catch_ =>
      refine sat_bind.mpr ?_
      apply tryConsume_bind hl ((At.refl hs).flag false) (by decide)
      · intro s1 a1 _
        exact errPeek_sat a1.inv (by decide)
      · intro tk s1 a1 _
        exact catch_ s1 a1
  · refine (At.refl hs).post_le rfl (fun h => absurd h hcond) ?_
    refine .mk _ _ _ hpre.1 (fun c hc => ?_) (fun c hc b hb => ?_)
    · obtain ⟨h1, l, h2, _⟩ := hpre.2 c hc
      exact ⟨h1, by simp [h2]⟩
    · obtain ⟨_, l, h2, h3⟩ := hpre.2 c hc
      rw [h2] at hb
      cases hb
      exact h3

theorem pIteratorRest_good (ids : List Ident) :
    GoodAt ops B μ I (n + 1) (.iteratorRest ids) (pIteratorRest Variant.fixed ops n rec ids) := by
  intro s hs (hpre : ids.length ≤ 2)
  apply hg.bindS (.refl hs) (.expr true) rfl trivial (Or.inr (by simp [rank]))
  intro e s1 a1 hc1
  apply consume_bind hl a1 (by decide)
  intro s2 a2
  apply blockIndent_bind a2 (errPeek_sat a2.inv (by decide))
  intro bi
  apply hg.bindN a2 (.block bi) trivial (Or.inl rfl)
  intro b s3 a3 hc3
  exact a3.post (.iterate _ _ _ _ hc1 hpre hc3)

theorem pVarOneSecond_good (e1 : Expr) {s s0 : PState σ} (a : At ops B μ I s0 s true) :
    Sat (pVarOneSecond Variant.fixed ops n rec e1 s) (Post ops B μ I .varOneLead s0) (ErrOK B) (n + 1 < need μ .varOneLead s0) := by
  apply consume_bind hl a (by decide)
  intro s1 a1
  apply hg.bindS a1 (.expr true) rfl trivial (Or.inl rfl)
  intro e2 s2 a2 hc2
  apply tryConsume_bind hl a2 (by decide)
  · intro s3 a3 _
    exact errPeek_sat a3.inv (by decide)
  · intro tk s3 a3 _
    simp only
    split
    · apply hg.callS a3 (.iteratorRest _) rfl (by simp [PreC]) (Or.inl rfl)
      intro st s4 a4 hc4
      exact a4.post hc4
    · exact errPeek_sat a3.inv (by decide)

theorem pVarOneLead_good : GoodAt ops B μ I (n + 1) .varOneLead (pVarOneLead Variant.fixed ops n rec) := by
  intro s hs _
  apply hg.bindS (.refl hs) (.expr true) rfl trivial (Or.inr (by simp [rank]))
  intro e1 s1 a1 hc1
  apply tryConsume_bind hl a1 (by decide)
  · intro s2 a2 _
    exact pVarOneSecond_good hl hg e1 a2
  · intro tk s2 a2 _
    refine sat_ite.mpr ⟨fun _ => ?_, fun _ => sat_ite.mpr ⟨fun _ => ?_, fun _ => pVarOneSecond_good hl hg e1 a2⟩⟩
    · split
      · apply hg.callS a2 (.iteratorRest _) rfl (by simp [PreC]) (Or.inl rfl)
        intro st s3 a3 hc3
        exact a3.post hc3
      · exact errPeek_sat a2.inv (by decide)
    · apply hg.bindS a2 (.funcCall false) rfl trivial (Or.inl rfl)
      intro f s3 a3 hc3
      apply hg.bindN a3 (.chainLoop [f]) ⟨by simp, List.forall_mem_singleton.mpr hc3⟩ (Or.inl rfl)
      intro chain s4 a4 hc4
      apply optYield_bind hl a4
      intro y s5 a5
      exact a5.post (.expr _ (.mcall _ _ _ _ hc1 hc4.1 hc4.2))

theorem pThrow_good : GoodAt ops B μ I (n + 1) .throwStmt (pThrow Variant.fixed ops n rec) := by
  intro s hs _
  apply parseID_bind hl (.refl hs)
  intro cls s1 a1
  apply consume_bind hl a1 (by decide)
  intro s2 a2
  apply hg.bindS a2 (.expr true) rfl trivial (Or.inl rfl)
  intro e s3 a3 hc3
  apply hg.bindN a3 (.throwLoop [e]) ⟨by simp, List.forall_mem_singleton.mpr hc3⟩ (Or.inl rfl)
  intro es s4 a4 hc4
  apply consume_bind hl a4 (by decide)
  intro s5 a5
  exact a5.post (.throw _ _ _ hc4.1 hc4.2)

theorem pThrowLoop_good (acc : List Expr) : GoodAt ops B μ I (n + 1) (.throwLoop acc) (pThrowLoop ops n rec acc) := by
  intro s hs (hpre : acc ≠ [] ∧ ∀ e ∈ acc, CExpr e)
  apply tryConsume_bind hl (.refl hs) (by decide)
  · intro s1 a1 _
    exact a1.post_le rfl (fun h => h.elim) hpre
  · intro tk s1 a1 _
    apply hg.bindS a1 (.expr true) rfl trivial (Or.inl rfl)
    intro e s2 a2 hc2
    apply hg.callN a2 (.throwLoop (acc ++ [e])) ⟨by simp, mem_snoc hpre.2 hc2⟩ (Or.inl rfl)
    intro r s3 a3 hc3
    exact a3.post hc3

theorem pCatchStmt_good : GoodAt ops B μ I (n + 1) .catchStmt (pCatchStmt Variant.fixed ops n rec) := by
  intro s hs _
  apply parseID_bind hl (.refl hs)
  intro cls s1 a1
  apply consume_bind hl a1 (by decide)
  intro s2 a2
  apply blockIndent_bind a2 (errPeek_sat a2.inv (by decide))
  intro bi
  apply hg.bindN a2 (.block bi) trivial (Or.inl rfl)
  intro b s3 a3 hc3
  exact a3.post ⟨rfl, _, rfl, hc3⟩

theorem pImportStmt_good : GoodAt ops B μ I (n + 1) .importStmt (pImportStmt Variant.fixed ops n rec) := by
  intro s hs _
  apply tryConsume_bind hl (.refl hs) (by decide)
  · intro s1 a1 _
    exact errPeek_sat a1.inv (by decide)
  · intro tk s1 a1 _
    have hty : (if tk.type = cTypeLibString then cLibTypeStd else cLibTypeCustom) = 1 ∨
        (if tk.type = cTypeLibString then cLibTypeStd else cLibTypeCustom) = 2 := by split <;> decide
    apply tryConsume_bind hl a1 (by decide)
    · intro s2 a2 _
      exact a2.post ⟨rfl, hty⟩
    · intro tk2 s2 a2 _
      apply hg.bindS a2 (.commaIds []) rfl trivial (Or.inl rfl)
      intro ids s3 a3 _
      exact a3.post ⟨rfl, hty⟩

theorem pPropertyDecl_good : GoodAt ops B μ I (n + 1) .propertyDecl (pPropertyDecl Variant.fixed ops n rec) := by
  intro s hs _
  apply parseID_bind hl (.refl hs)
  intro i s1 a1
  apply consume_bind hl a1 (by decide)
  intro s2 a2
  apply hg.bindS a2 (.expr true) rfl trivial (Or.inl rfl)
  intro e s3 a3 hc3
  exact a3.post ⟨rfl, hc3⟩

theorem pClassDecl_good : GoodAt ops B μ I (n + 1) .classDecl (pClassDecl Variant.fixed ops n rec) := by
  intro s hs _
  apply parseID_bind hl (.refl hs)
  intro cls s1 a1
  apply consume_bind hl a1 (by decide)
  intro s2 a2
  apply blockIndent_bind a2 (errPeek_sat a2.inv (by decide))
  intro bi
  apply hg.bindN a2 (.classLoop bi [] [] [])
    ⟨by intro x hx; simp at hx, by intro x hx; simp at hx, by intro x hx; simp at hx⟩ (Or.inl rfl)
  intro r s3 a3 hc3
  exact a3.post
    (.classDecl _ _ _ _ _ (fun p hp => (hc3.1 p hp).1) (fun p hp => (hc3.1 p hp).2) hc3.2.1 hc3.2.2)

theorem pClassLoop_good (indent : Nat) (props : List (Option Ident × Expr)) (methods getters : List Stmt) :
    GoodAt ops B μ I (n + 1) (.classLoop indent props methods getters) (pClassLoop Variant.fixed ops n rec indent props methods getters) := by
  intro s hs (hpre : (∀ p ∈ props, PropOK p) ∧ (∀ f ∈ methods, CFunc 1 f) ∧ (∀ g ∈ getters, CFunc 2 g))
  refine sat_bind.mpr (sat_ite.mpr ⟨fun _ => sat_bind.mpr ?_, fun _ => (At.refl hs).post_le rfl (fun h => h.elim) hpre⟩)
  apply tryConsume_bind hl ((At.refl hs).flag false) (by decide)
  · intro s1 a1 _
    exact errPeek_sat a1.inv (by decide)
  · intro tk s1 a1 _
    have loop : ∀ ps ms gs s2, At ops B μ I s s2 true →
        ((∀ p ∈ ps, PropOK p) ∧ (∀ f ∈ ms, CFunc 1 f) ∧ (∀ g ∈ gs, CFunc 2 g)) →
        Sat (rec (.classLoop indent ps ms gs) s2)
          (Post ops B μ I (.classLoop indent props methods getters) s) (ErrOK B)
          (n + 1 < need μ (.classLoop indent props methods getters) s) := by
      intro ps ms gs s2 a2 hp
      apply hg.callN a2 (.classLoop indent ps ms gs) hp (Or.inl rfl)
      intro r s3 a3 hc3
      exact a3.post hc3
    refine sat_ite.mpr ⟨fun _ => ?_, fun _ => sat_ite.mpr ⟨fun _ => ?_, fun _ => sat_ite.mpr ⟨fun _ => ?_, fun _ => loop _ _ _ s1 a1 hpre⟩⟩⟩
    · apply hg.bindS a1 .functionBlock rfl trivial (Or.inl rfl)
      intro r s2 a2 hc2
      exact loop _ _ _ s2 a2 ⟨hpre.1, mem_snoc hpre.2.1 (.mk _ _ _ _ hc2), hpre.2.2⟩
    · apply hg.bindS a1 .functionBlock rfl trivial (Or.inl rfl)
      intro r s2 a2 hc2
      exact loop _ _ _ s2 a2 ⟨hpre.1, hpre.2.1, mem_snoc hpre.2.2 (.mk _ _ _ _ hc2)⟩
    · apply hg.bindS a1 .propertyDecl rfl trivial (Or.inl rfl)
      intro p s2 a2 hc2
      exact loop _ _ _ s2 a2 ⟨mem_snoc hpre.1 hc2, hpre.2.1, hpre.2.2⟩

omit hl in
theorem pProgram_good : GoodAt ops B μ I (n + 1) .program (pProgram ops rec) := by
  intro s hs _
  refine sat_bind.mpr ?_
  apply hg.callN (.refl hs) (.programLoop _ false [] none) ⟨by intro x hx; simp at hx, by intro x hx; cases hx⟩ (Or.inr (by simp [rank]))
  intro p s1 a1 hc1
  exact a1.post_le rfl (fun h => h.elim) hc1

theorem pProgramLoop_good (indent : Nat) (inExec : Bool) (imports : List Import) (exec : Option ExecBlock) :
    GoodAt ops B μ I (n + 1) (.programLoop indent inExec imports exec) (pProgramLoop ops n rec indent inExec imports exec) := by
  intro s hs (hpre : (∀ im ∈ imports, ImportOK im) ∧ (∀ x, exec = some x → CExec x))
  refine sat_bind.mpr (sat_ite.mpr ⟨fun hcond => sat_bind.mpr ?_, fun _ => (At.refl hs).post_le rfl (fun h => h.elim) hpre⟩)
  cases inExec with
  | true =>
    refine sat_bind.mpr ?_
    apply hg.callX ((At.refl hs).flag false) (.execBlock indent) trivial hcond (Or.inr (by simp [rank]))
    intro x s1 a1 hc1
    apply hg.callN a1 (.programLoop indent true imports (some x)) ⟨hpre.1, by intro y hy; cases hy; exact hc1⟩ (Or.inl rfl)
    intro p s2 a2 hc2
    exact a2.post hc2
  | false =>
    apply tryConsume_bind hl ((At.refl hs).flag false) (by decide)
    · intro s1 a1 _
      apply hg.callN a1 (.programLoop indent true imports exec) hpre (Or.inr (by simp [rank]))
      intro p s2 a2 hc2
      exact a2.post_le rfl (fun h => h.elim) hc2
    · intro tk s1 a1 _
      apply hg.bindS a1 .importStmt rfl trivial (Or.inl rfl)
      intro im s2 a2 hc2
      apply lineOf_bind
      intro l
      apply swallowAll_bind hl (by decide) n a2 (a2.fuel_prim _)
      intro s2' a2'
      apply hg.callN a2' (.programLoop indent false (imports ++ [{ im with line := l }]) exec)
        ⟨mem_snoc hpre.1 (show ImportOK { im with line := l } from hc2), hpre.2⟩ (Or.inl rfl)
      intro p s3 a3 hc3
      exact a3.post hc3

theorem step_good : Good ops B μ I (n + 1) (step Variant.fixed ops n rec) := by
  intro nt
  cases nt with
  | program => exact pProgram_good hg
  | programLoop i x im e => exact pProgramLoop_good hl hg i x im e
  | statement => exact pStatement_good hl hg
  | expr cfg => exact pLv1_good hg cfg
  | lv1Tail cfg el => exact pLv1Tail_good hl hg cfg el
  | lv2 cfg => exact pLv2_good hg cfg
  | lv2Tail cfg el => exact pLv2Tail_good hl hg cfg el
  | lv3 cfg => exact pLv3_good hl hg cfg
  | lv4 cfg => exact pLv4_good hl hg cfg
  | arith => exact pArith_good hg
  | arithTail el => exact pArithTail_good hl hg el
  | mulDiv => exact pMulDiv_good hg
  | mulDivTail el => exact pMulDivTail_good hl hg el
  | member => exact pMember_good hl hg
  | memberTail e => exact pMemberTail_good hl hg e
  | basic => exact pBasic_good hl hg
  | array => exact pArray_good hl hg
  | arrayLoop items => exact pArrayLoop_good hl hg items
  | hashLoop kvs => exact pHashLoop_good hl hg kvs
  | funcCall y => exact pFuncCall_good hl hg y
  | commaExprs acc => exact pCommaExprs_good hl hg acc
  | commaIds acc => exact pCommaIds_good hl hg acc
  | memberFuncCall => exact pMemberFuncCall_good hl hg
  | chainLoop c => exact pChainLoop_good hl hg c
  | varDecl => exact pVarDecl_good hl hg
  | varDeclLoop i ps => exact pVarDeclLoop_good hl hg i ps
  | vdPair => exact pVdPair_good hl hg
  | objNew => exact pObjNew_good hl hg
  | whileLoop => exact pWhileLoop_good hl hg
  | block i => exact pBlock_good hg i
  | blockLoop i acc => exact pBlockLoop_good hg i acc
  | branch => exact pBranch_good hg
  | branchLoop mi st acc => exact pBranchLoop_good hl hg mi st acc
  | functionBlock => exact pFunctionBlock_good hl hg
  | execBlock i => exact pExecBlock_good hg i
  | execLoop i st ins ss cs => exact pExecLoop_good hl hg i st ins ss cs
  | varOneLead => exact pVarOneLead_good hl hg
  | iteratorRest ids => exact pIteratorRest_good hl hg ids
  | throwStmt => exact pThrow_good hl hg
  | throwLoop acc => exact pThrowLoop_good hl hg acc
  | catchStmt => exact pCatchStmt_good hl hg
  | importStmt => exact pImportStmt_good hl hg
  | classDecl => exact pClassDecl_good hl hg
  | classLoop i ps ms gs => exact pClassLoop_good hl hg i ps ms gs
  | propertyDecl => exact pPropertyDecl_good hl hg

omit hg in
theorem parse_good : ∀ n, Good ops B μ I n (parse Variant.fixed ops n)
  | 0 => by
    intro nt s _ _
    show 0 < need μ nt s
    unfold need
    have := (rank_bounds nt).1
    omega
  | n + 1 => step_good hl (parse_good n)

end ZnVerif.Proofs.ParserGood
