/-
C18, line table — the comment scanners (`注：…`, `注123：…`, `注：“…”`, `注：「…」`, `//`, `/* */`): every line break
inside a multi-line comment is recorded, a one-line comment stops before the line break, a failed comment
attempt moves over non-break characters only (the caller restores the cursor).  Invariant: `LinesInv.Good` (Proofs/LinesInv.lean).  Core Lean only.
-/
import ZnVerif.Proofs.LinesInv
import ZnVerif.Proofs.LexSegment

namespace ZnVerif.Model
open ZnVerif.Generated.Tokens
open Spec.Lines

namespace LinesInv
variable {S : Array Nat}

theorem parseCommentStep_cont (s cty : Nat) (l : Lexer) (q q' : Nat) (l' : Lexer) (g : Good S 1 l)
    (hs : parseCommentStep s cty l q = (.cont q', l')) : Good S 1 l' := by
  cases parseCommentStep_cases hs with
  | line hbr => exact g.break1 hbr
  | char _ hnb => exact g.adv1 hnb

theorem parseCommentStep_done (s cty : Nat) (l : Lexer) (q : Nat) (tk : Token) (l' : Lexer) (g : Good S 1 l)
    (hs : parseCommentStep s cty l q = (.done tk, l')) : Good S 0 l' := by
  cases parseCommentStep_cases hs with
  | stop => exact g.adv
  | close _ hnb => exact (g.adv1 hnb).adv
  | starSlash _ hnb hp => exact ((g.adv1 hnb).adv1 (by rw [Lexer.adv_cur, hp]; decide)).adv

theorem parseCommentLoop_good (s cty : Nat) (l : Lexer) (q : Nat) (g : Good S 1 l) :
    Good S 0 (parseCommentLoop s cty l q).2 := by
  unfold parseCommentLoop
  exact iterate_inv (step := parseCommentStep s cty) (hc := parseCommentStep_consumes s cty)
    (I := fun l _ => Good S 1 l) (Q := fun _ l' => Good S 0 l')
    (fun l q q' l' g hs => parseCommentStep_cont s cty l q q' l' g hs)
    (fun l q tk l' g hs => parseCommentStep_done s cty l q tk l' g hs) l q g

theorem parseComment_good (l : Lexer) (g : Good S 0 l) (h0 : isBreak l.cur = false) :
    (∀ tk l', parseComment l = (some tk, l') → Good S 0 l' ∧ tk.type = cTypeComment) ∧
    (∀ l', parseComment l = (none, l') → Frame 0 l l') := by
  have f1 := skipDigits_frame l h0
  rcases parseComment_cases l with ⟨cty, q, l1, e, hl1⟩ | e | e
  · rw [e]
    refine ⟨fun tk l' h => ?_, fun l' h => (by cases h)⟩
    cases h
    refine ⟨parseCommentLoop_good _ _ _ _ ?_, (parseCommentLoop_type _ _ _ _).1⟩
    rcases hl1 with ⟨hc, rfl | ⟨rfl, hp⟩⟩ | ⟨rfl, hp⟩
    · exact (f1.good g).to1 (by rw [hc]; decide)
    · exact ((f1.good g).to1 (by rw [hc]; decide)).adv1
        (by rw [Lexer.adv_cur]; rcases hp with e | e <;> rw [e] <;> decide)
    · exact (g.to1 h0).adv1 (by rw [Lexer.adv_cur]; rcases hp with e | e <;> rw [e] <;> decide)
  · rw [e]; exact ⟨fun _ _ h => (by cases h), fun l' h => (by cases h; exact f1)⟩
  · rw [e]; exact ⟨fun _ _ h => (by cases h), fun l' h => (by cases h; exact Frame.refl 0 l)⟩

end LinesInv
end ZnVerif.Model
