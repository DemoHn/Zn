/-
C18, line table of the lexer — the invariant, stated once.

`At l k`: the start indices recorded in `l.lines`, followed by the physical line starts of the part of the text
from position `k` on, are all physical line starts of the text.  Between tokens it holds with `k = l.cursor`
(the cursor is on the first character not yet consumed); inside the loops of `parseString`, `parseComment`,
`parseVarQuote`, `parseIdentifier` and the back-tick machine, whose passes begin with `l.Next()`, it holds with
`k = l.cursor + 1` (the cursor is on the last consumed character).  `Frame k l l'` (Proofs/LexFrame.lean) is the frame
rule of every scanner that never consumes a line break: same text, same recorded start indices, and only non-break
characters between the two cursors; `Frame.at`, `Frame.good`: it keeps the invariant.  `Good S k l` is what the scanner lemmas
(Proofs/Lines*.lean) carry: the text is `S`, `parseBeginLex` has run, and `At l (l.cursor + k)` with `k = 0` between tokens, `k = 1` inside
those loops.  Core Lean only.
-/
import ZnVerif.Model.Lexer

namespace ZnVerif.Model
open Spec.Lines

namespace LinesInv

/-- the physical line starts of the part of the text from position `k` on -/
def tail (src : Array Nat) (k : Nat) : List Nat := lineStarts k (src.toList.drop k)

theorem drop_eq_cons (src : Array Nat) (k : Nat) (h : k < src.size) :
    src.toList.drop k = charAt src k :: src.toList.drop (k + 1) := by
  have h' : k < src.toList.length := by simpa using h
  rw [List.drop_eq_getElem_cons h']
  simp [charAt, h]

theorem tail_ge (src : Array Nat) (k : Nat) (h : src.size ≤ k) : tail src k = [] := by
  unfold tail
  rw [List.drop_eq_nil_of_le (by simpa using h)]
  rfl

theorem tail_plain1 (src : Array Nat) (k : Nat) (h : isBreak (charAt src k) = false) :
    tail src k = tail src (k + 1) := by
  by_cases hk : k < src.size
  · unfold tail
    rw [drop_eq_cons src k hk]
    exact lineStarts_plain k _ _ h
  · rw [tail_ge src k (by omega), tail_ge src (k + 1) (by omega)]

theorem tail_pair (src : Array Nat) (k : Nat) (h : isPair (charAt src k) (charAt src (k + 1)) = true) :
    tail src k = (k + 2) :: tail src (k + 2) := by
  have h1 : charAt src k ≠ 0 := by
    intro e; have := pair_break_left h; rw [e] at this; revert this; decide
  have h2 : charAt src (k + 1) ≠ 0 := by
    intro e; have := pair_break_right h; rw [e] at this; revert this; decide
  unfold tail
  rw [drop_eq_cons src k (lt_of_charAt_ne_zero h1), drop_eq_cons src (k + 1) (lt_of_charAt_ne_zero h2)]
  exact lineStarts_pair k _ _ _ h

theorem tail_single (src : Array Nat) (k : Nat) (h1 : isBreak (charAt src k) = true)
    (h2 : isPair (charAt src k) (charAt src (k + 1)) = false) :
    tail src k = (k + 1) :: tail src (k + 1) := by
  have h0 : charAt src k ≠ 0 := by
    intro e; rw [e] at h1; revert h1; decide
  unfold tail
  rw [drop_eq_cons src k (lt_of_charAt_ne_zero h0)]
  apply Model.lineStarts_single k _ _ h1
  intro d hd
  by_cases hk : k + 1 < src.size
  · rw [drop_eq_cons src (k + 1) hk] at hd
    cases hd
    exact h2
  · rw [List.drop_eq_nil_of_le (by simpa using Nat.le_of_not_lt hk)] at hd
    cases hd

theorem tail_of_plain (src : Array Nat) (a b : Nat) (hab : a ≤ b) (h : Plain src a b) : tail src a = tail src b := by
  obtain ⟨d, rfl⟩ := Nat.exists_eq_add_of_le hab
  induction d with
  | zero => rfl
  | succ d ih =>
    rw [ih (Nat.le_add_right _ _) (fun i h1 h2 => h i h1 (by omega)), tail_plain1 src (a + d) (h (a + d) (by omega) (by omega))]
    rfl

/-- THE INVARIANT: recorded starts, then the physical line starts from position `k` on, are the physical line
starts of the whole text -/
def At (l : Lexer) (k : Nat) : Prop := starts l ++ tail l.src k = physicalLineStarts l.src.toList

theorem At.plain {l l' : Lexer} {a b : Nat} (h : At l a) (hsrc : l'.src = l.src) (hst : starts l' = starts l)
    (hab : a ≤ b) (hp : Plain l.src a b) : At l' b := by
  unfold At at h ⊢
  rw [hsrc, hst, ← tail_of_plain l.src a b hab hp]
  exact h

theorem At.same {l l' : Lexer} {a : Nat} (h : At l a) (hsrc : l'.src = l.src) (hst : starts l' = starts l) :
    At l' a := h.plain hsrc hst (Nat.le_refl a) (Plain.empty _ _)

/-- consuming a one-character line break at `a` and recording the line that starts after it -/
theorem At.single {l l' : Lexer} {a : Nat} (h : At l a) (hsrc : l'.src = l.src)
    (hst : starts l' = starts l ++ [a + 1])
    (h1 : isBreak (charAt l.src a) = true) (h2 : isPair (charAt l.src a) (charAt l.src (a + 1)) = false) :
    At l' (a + 1) := by
  unfold At at h ⊢
  rw [hsrc, hst, ← h, tail_single l.src a h1 h2]
  simp

/-- consuming a two-character line break at `a` and recording the line that starts after it -/
theorem At.pair {l l' : Lexer} {a : Nat} (h : At l a) (hsrc : l'.src = l.src)
    (hst : starts l' = starts l ++ [a + 2])
    (h1 : isPair (charAt l.src a) (charAt l.src (a + 1)) = true) :
    At l' (a + 2) := by
  unfold At at h ⊢
  rw [hsrc, hst, ← h, tail_pair l.src a h1]
  simp

theorem At.complete {l : Lexer} {k : Nat} (h : At l k) (hk : l.src.size ≤ k) :
    starts l = physicalLineStarts l.src.toList := by
  unfold At at h
  rw [tail_ge l.src k hk] at h
  simpa using h

theorem Frame.at {k : Nat} {l l' : Lexer} (h : Frame k l l') (ha : At l (l.cursor + k)) : At l' (l'.cursor + k) :=
  ha.plain h.src h.sts (by have := h.le; omega) h.plain

/-- the state between tokens (`k = 0`) or inside a scanner loop (`k = 1`): the text is `S`, `parseBeginLex` has run,
and the invariant holds at the cursor -/
structure Good (S : Array Nat) (k : Nat) (l : Lexer) : Prop where
  src : l.src = S
  bl : l.beginLex = false
  inv : At l (l.cursor + k)

variable {S : Array Nat}

theorem Frame.good {k : Nat} {l l' : Lexer} (h : Frame k l l') (g : Good S k l) : Good S k l' :=
  ⟨by rw [h.src]; exact g.src, by rw [h.bl]; exact g.bl, h.at g.inv⟩

theorem Good.to1 {l : Lexer} (g : Good S 0 l) (h : isBreak l.cur = false) : Good S 1 l :=
  ⟨g.src, g.bl, g.inv.plain rfl rfl (Nat.le_succ _) (Plain.one h)⟩

theorem Good.adv {l : Lexer} (g : Good S 1 l) : Good S 0 l.adv := ⟨g.src, g.bl, g.inv.same rfl rfl⟩

theorem Good.adv1 {l : Lexer} (g : Good S 1 l) (h : isBreak l.adv.cur = false) : Good S 1 l.adv :=
  (Frame.adv1 (l := l) h).good g

/-- **the line-break step**: the cursor is on a CR or LF between tokens; a two-character break is passed whole, the
cursor ends on its last character, and the line that starts after it is recorded -/
theorem Good.break {l : Lexer} (g : Good S 0 l) (hbr : isBreak l.cur = true) :
    Good S 1 (l.afterBreak.pushLine { indents := 0, startIdx := l.afterBreak.cursor + 1 }) := by
  have hcu : l.cur = charAt l.src (l.cursor + 0) := rfl
  have hpk : l.peek = charAt l.src (l.cursor + 0 + 1) := rfl
  refine ⟨?_, ?_, ?_⟩
  · show l.afterBreak.src = S
    unfold Lexer.afterBreak; split <;> exact g.src
  · show l.afterBreak.beginLex = false
    unfold Lexer.afterBreak; split <;> exact g.bl
  · unfold Lexer.afterBreak
    rw [pair_eq]
    cases hp : isPair l.cur l.peek with
    | true =>
      show At _ (l.cursor + 0 + 2)
      exact g.inv.pair rfl (by rw [starts_pushLine]; rfl) (by rw [← hcu, ← hpk]; exact hp)
    | false =>
      show At _ (l.cursor + 0 + 1)
      exact g.inv.single rfl (by rw [starts_pushLine]; rfl) (by rw [← hcu]; exact hbr)
        (by rw [← hcu, ← hpk]; exact hp)

/-- the same inside the multi-line scanners (`parseString`, `parseComment`), whose cursor is on the last consumed character -/
theorem Good.break1 {l : Lexer} (g : Good S 1 l) (hbr : isBreak l.adv.cur = true) :
    Good S 1 (l.adv.afterBreak.pushLine { indents := 0, startIdx := l.adv.afterBreak.cursor + 1 }) :=
  g.adv.break hbr

end LinesInv
end ZnVerif.Model
