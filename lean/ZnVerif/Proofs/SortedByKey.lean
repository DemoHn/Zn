/-
`dropWhile` on a list none of whose elements meets the predicate, and on a list sorted by a non-increasing integer key (the
symbol lists of `runtime.Scope`, newest first, keyed by depth): dropping the front while the key exceeds `d` keeps exactly
the elements with key `≤ d`.  Core Lean only.
-/
namespace ZnVerif.Proofs

theorem dropWhile_eq_self {α} {p : α → Bool} : ∀ {l : List α}, (∀ y, y ∈ l → p y = false) → l.dropWhile p = l
  | [], _ => rfl
  | a :: l, h => by simp [List.dropWhile, h a (List.mem_cons_self ..)]

theorem dropWhile_eq_filter_of_sorted {β : Type} (key : β → Int) (d : Int) :
    ∀ (l : List β), l.Pairwise (fun a b => key b ≤ key a) →
      l.dropWhile (fun x => decide (key x > d)) = l.filter (fun x => decide (key x ≤ d))
  | [], _ => rfl
  | x :: rest, h => by
    have hr := List.pairwise_cons.mp h
    by_cases hd : key x > d
    · have h1 : decide (key x > d) = true := by simpa using hd
      have h2 : decide (key x ≤ d) = false := by simp; omega
      rw [List.dropWhile_cons, List.filter_cons]
      simp only [h1, h2, if_true, Bool.false_eq_true, if_false]
      exact dropWhile_eq_filter_of_sorted key d rest hr.2
    · have h1 : decide (key x > d) = false := by simpa using hd
      have h2 : decide (key x ≤ d) = true := by simp; omega
      rw [List.dropWhile_cons, List.filter_cons]
      simp only [h1, h2, if_true, Bool.false_eq_true, if_false]
      congr 1
      symm
      apply List.filter_eq_self.mpr
      intro y hy
      have := hr.1 y hy
      simp; omega

end ZnVerif.Proofs
