/-
The program-level closure of C07: a 令 declaration followed by any list of "changes through one name" (element / key
assignments and built-in method calls on access paths below that name, with literal arguments) is threaded through
`evalStmt` / `evalExpr` / `memberIV` / `execMethodFunction` with the zone discipline of Proofs/CopyZone.lean.
-/
import ZnVerif.Proofs.CopyZone
import ZnVerif.Proofs.HeapSites
import ZnVerif.Proofs.FuelMono
set_option linter.unusedSectionVars false

/-! ## the fragment (the vocabulary of the program-level statements of Properties/C07.lean) -/

namespace ZnVerif.Properties.C07
open ZnVerif.Model

/-- literal expressions that mention no name: numbers, texts, lists and dictionaries of such -/
inductive ClosedLit : Expr → Prop
  | num (i : Ident) : tryParseNumber (strCps i.lit) = .number → ClosedLit (.id i)
  | str (ln : Nat) (x : String) : ClosedLit (.str ln x)
  | arr (ln : Nat) (items : List Expr) : (∀ e ∈ items, ClosedLit e) → ClosedLit (.arr ln items)
  | hm (ln : Nat) (kvs : List (Expr × Expr)) :
      (∀ kv ∈ kvs, ∃ l k, kv.1 = .str l k) → (∀ kv ∈ kvs, ClosedLit kv.2) → ClosedLit (.hm ln kvs)

/-- access paths below the name `y`: `y`, `y#i`, `y#i#j`, … with literal indices -/
inductive PathFrom (y : String) : Expr → Prop
  | root (ln : Nat) : PathFrom y (.id ⟨ln, y⟩)
  | index (ln : Nat) (p idx : Expr) : PathFrom y p → ClosedLit idx → PathFrom y (.member ln 1 p 2 none idx)

/-- "a change made through the variable `y`": an element / key assignment `y#i… = literal`, or a built-in method call
`以 y#i…（m：literals）` -/
inductive ThroughName (y : String) : Stmt → Prop
  | assign (ln l : Nat) (p idx rhs : Expr) : PathFrom y p → ClosedLit idx → ClosedLit rhs →
      ThroughName y (.expr (.assign ln (.member l 1 p 2 none idx) rhs))
  | method (ln l : Nat) (p : Expr) (m : Ident) (params : List Expr) : PathFrom y p → (∀ e ∈ params, ClosedLit e) →
      ThroughName y (.expr (.mcall ln p [.call l (some m) params none] none))

end ZnVerif.Properties.C07

namespace ZnVerif.Model
open ZnVerif.Properties.C07 (ClosedLit PathFrom ThroughName)
open ZnVerif.Proofs.Calls (getScope_putScope_same putScope_globals putScope_cs putScope_stack matchIDName_state)

variable {ν : Type} [NumOps ν]

/-- `memberIV` on `root#idx` (root type 1 = expression, member type 2 = index) -/
theorem memberIV_index (n l : Nat) (root idx : Expr) :
    memberIV (ν := ν) (n+1) (.member l 1 root 2 none idx) = (do
      let rv ← evalExpr n root
      let iv ← evalExpr n idx
      Proofs.indexIV rv iv) := by
  rw [Proofs.memberIV_member]
  rfl

theorem evalExpr_mcall1 (n ln l : Nat) (p : Expr) (m : Ident) (params : List Expr) :
    evalExpr (ν := ν) (n+1) (.mcall ln p [.call l (some m) params none] none) = (do
      let rv ← evalExpr n p
      let fname ← matchIDName m.lit
      let vals ← params.mapM (evalExpr n)
      execMethodFunction n rv fname vals) := by
  rw [Proofs.evalExpr_mcall]
  simp only [List.foldlM_cons, List.foldlM_nil, Properties.C08.chainStep, Properties.C08.bindYield, matchIDNameOpt, bind_pure]

theorem evalExpr_assign_index (n ln l : Nat) (p idx rhs : Expr) :
    evalExpr (ν := ν) (n+1) (.assign ln (.member l 1 p 2 none idx) rhs) = (do
      let vr ← evalExpr n rhs
      let vr ← dup n vr
      let iv ← memberIV n (.member l 1 p 2 none idx)
      reduceLHS iv vr
      pure vr) := by
  rw [Proofs.evalExpr_assign]
  rfl

theorem matchIDType_number {lit : String} (h : tryParseNumber (strCps lit) = .number) :
    matchIDType (ν := ν) lit = pure (.number (NumOps.parse (parseFloatText (strCps lit)))) := by
  simp only [matchIDType, h]

theorem lit_tight (Z : Zone ν) {e : Expr} (he : ClosedLit e) : ∀ n, Tight Z Z.T (evalExpr n e : M ν Addr) := by
  induction he with
  | num i hnum =>
    intro n
    cases n with
    | zero => simp only [evalExpr]; exact tight_outOfFuel
    | succ n =>
      rw [Proofs.evalExpr_id, matchIDType_number hnum, pure_bind]
      exact tight_newNum _
  | str ln x =>
    intro n
    cases n with
    | zero => simp only [evalExpr]; exact tight_outOfFuel
    | succ n => exact tight_newStr x
  | arr ln items hall ih =>
    intro n
    cases n with
    | zero => simp only [evalExpr]; exact tight_outOfFuel
    | succ n =>
      show Tight Z Z.T (items.mapM (evalExpr n) >>= fun vs => alloc (.arr vs))
      exact tight_bind (tight_mapM items (fun e he => ih e he n)) (fun vs hvs => tight_alloc _ (okCell_arr.2 hvs))
  | hm ln kvs hkeys hall ih =>
    intro n
    cases n with
    | zero => simp only [evalExpr]; exact tight_outOfFuel
    | succ n =>
      rw [Proofs.evalExpr_hm]
      refine tight_bind (Q := fun pairs => ∀ p ∈ pairs, Z.T p.2) (tight_mapM kvs (fun kv hkv => ?_))
        (fun pairs hp => tight_alloc _ (okCell_newHashMapCell pairs hp))
      rcases hkeys kv hkv with ⟨l, k, hk⟩
      rw [hk, Proofs.hmEntry]
      exact tight_bind (tight_pure (Q := fun _ => True) _ trivial)
        (fun _ _ => tight_bind (ih kv hkv n) (fun v hv => tight_pure _ hv))

theorem reduceRHS_tight (Z : Zone ν) (n kind : Nat) (hk : kind = 1 ∨ kind = 2) (root : Addr) (nm : String) (idx : Int)
    (hr : Z.T root) : Tight Z Z.T (reduceRHS n (kind, root, nm, idx) : M ν Addr) := by
  rcases hk with rfl | rfl
  · simp only [reduceRHS]
    rw [if_pos (by rfl)]
    refine tight_bind (tight_getCell root hr) (fun c hc => ?_)
    split
    · split
      · exact tight_rtErr _
      · split
        · rename_i items _ x hx
          exact tight_pure _ (okCell_arr.1 hc x (List.mem_of_getElem? hx))
        · exact tight_goPanic
    · exact tight_rtErr _
  · simp only [reduceRHS]
    rw [if_neg (by decide), if_pos (by rfl)]
    refine tight_bind (tight_getCell root hr) (fun c hc => ?_)
    split
    · split
      · rename_i vals _ v hv
        exact tight_pure _ (okCell_hm.1 hc v (snd_mem_of_lookup hv))
      · exact tight_rtErr _
    · exact tight_rtErr _

/-- an element / key store below a tainted root, of a tainted value (a root that is not writable holds 空: the store fails) -/
theorem reduceLHS_tight (Z : Zone ν) (kind : Nat) (hk : kind = 1 ∨ kind = 2) (root : Addr) (nm : String) (idx : Int)
    (v : Addr) (hr : Z.T root) (hv : Z.T v) : Tight Z (fun _ => True) (reduceLHS (kind, root, nm, idx) v : M ν Unit) := by
  rcases hk with rfl | rfl
  · simp only [reduceLHS]
    rw [if_pos (by rfl)]
    refine tight_bind (tight_getCell_root root hr) (fun c ⟨hc, hw⟩ => ?_)
    split
    · split
      · exact tight_rtErr _
      · exact tight_setCell _ _ (hw.resolve_right nofun) (okCell_set hc hv)
    · exact tight_rtErr _
  · simp only [reduceLHS]
    rw [if_neg (by decide), if_pos (by rfl)]
    refine tight_bind (tight_getCell_root root hr) (fun c ⟨hc, hw⟩ => ?_)
    split
    · exact tight_setCell _ _ (hw.resolve_right nofun) (okCell_hmAppend hc hv)
    · exact tight_rtErr _

/-- the module of the top frame (what `PopCallFrame` makes the current module) -/
def topMod : List Frame → Int
  | [] => -1
  | fr :: _ => fr.moduleId

theorem M_bind_pop {sb : VM ν} {rv : Addr} {fr : Frame} {rest : List Frame} (hs : sb.stack = fr :: rest) :
    ((do popFrame; pure rv) : M ν Addr) sb = (.ok rv, { sb with stack := rest, csModuleID := topMod rest }) := by
  simp only [bind, Proofs.Calls.popFrame_cons sb fr rest hs, pure]
  rfl

/-- what every step keeps, whatever its outcome: the pinned cells, the predefined names, the scope of module `cs` -/
structure Kept (Z : Zone ν) (g : List (String × Addr)) (cs : Int) (sc : Scope) (s : VM ν) : Prop where
  keep : ∀ i, ¬ Z.W i → s.heap[i]? = Z.fix[i]?
  glob : s.globals = g
  scope : getScope cs s = some sc
  /-- the current module is `cs`, or — after a built-in method call failed — the native module -/
  curOr : s.csModuleID = cs ∨ s.csModuleID = -1

/-- the invariant between two statements: moreover the zone invariant holds, `cs` is the current module, and it is the
module of the top frame -/
structure Between (Z : Zone ν) (g : List (String × Addr)) (cs : Int) (sc : Scope) (s : VM ν) : Prop where
  kept : Kept Z g cs sc s
  zinv : ZInv Z s.heap
  cur : s.csModuleID = cs
  coh : topMod s.stack = cs

/-- name resolution as a function of the predefined names and one scope -/
def resolveIn (g : List (String × Addr)) (sc : Scope) (nm : String) : Option Addr :=
  match lookup nm g with
  | some a => some a
  | none => (sc.find nm).map (·.val)

theorem Between.resolve {Z : Zone ν} {g : List (String × Addr)} {cs : Int} {sc : Scope} {s : VM ν}
    (hb : Between Z g cs sc s) (nm : String) : resolve nm s = resolveIn g sc nm := by
  unfold Model.resolve resolveIn
  rw [hb.kept.glob, hb.cur, hb.kept.scope]
  rfl

section step
variable {Z : Zone ν} {g : List (String × Addr)} {cs : Int} {sc : Scope} {α β : Type}

theorem getScope_sameBut {s s' : VM ν} (h : SameBut s s') (mid : Int) : getScope mid s' = getScope mid s := by
  unfold SameBut at h
  rw [h]
  rfl

theorem Kept.sameBut {s s' : VM ν} (hk : Kept Z g cs sc s) (h : SameBut s s')
    (hkeep : ∀ i, ¬ Z.W i → s'.heap[i]? = Z.fix[i]?) : Kept Z g cs sc s' :=
  ⟨hkeep, by rw [h.globals]; exact hk.glob, by rw [getScope_sameBut h]; exact hk.scope, by rw [h.csModuleID]; exact hk.curOr⟩

theorem Between.sameBut {s s' : VM ν} (hb : Between Z g cs sc s) (h : SameBut s s') (hz : ZInv Z s'.heap) :
    Between Z g cs sc s' :=
  ⟨hb.kept.sameBut h hz.keep, hz, by rw [h.csModuleID]; exact hb.cur, by rw [h.stack]; exact hb.coh⟩

/-- a computation started between two statements: whatever its outcome the pinned cells, the predefined names and the
scope of the module are as before; after success the state is one between statements again and the answer satisfies `Q` -/
def ZoneStep (Z : Zone ν) (g : List (String × Addr)) (cs : Int) (sc : Scope) (Q : α → Prop) (m : M ν α) : Prop :=
  ∀ s r s', Between Z g cs sc s → m s = (r, s') → Kept Z g cs sc s' ∧ ∀ a, r = .ok a → Between Z g cs sc s' ∧ Q a

theorem ZoneStep.bind {Q : α → Prop} {Q' : β → Prop} {m : M ν α} {f : α → M ν β} (hm : ZoneStep Z g cs sc Q m)
    (hf : ∀ a, Q a → ZoneStep Z g cs sc Q' (f a)) : ZoneStep Z g cs sc Q' (m >>= f) := by
  intro s r s' hb h
  rcases Proofs.Calls.bind_inv h with ⟨a, s1, h1, h2⟩ | ⟨r1, h1, _, hne, _⟩
  · rcases (hm s _ s1 hb h1).2 a rfl with ⟨hb1, hq⟩
    exact hf a hq s1 r s' hb1 h2
  · exact ⟨(hm s r1 s' hb h1).1, fun b hb' => absurd hb' (hne b)⟩

theorem ZoneStep.ofTight {Q : α → Prop} {m : M ν α} (h : Tight Z Q m) : ZoneStep Z g cs sc Q m := by
  intro s r s' hb hm
  rcases h.run s r s' hb.zinv hm with ⟨h1, h2, h3⟩
  exact ⟨hb.kept.sameBut h1 h2, fun a ha => ⟨hb.sameBut h1 (h3 a ha).1, (h3 a ha).2⟩⟩

theorem memberIV_step (Z : Zone ν) (l : Nat) (p idx : Expr) (hidx : ClosedLit idx) (n : Nat)
    (hp : ∀ n, ZoneStep Z g cs sc Z.T (evalExpr n p)) :
    ZoneStep Z g cs sc (fun iv => (iv.1 = 1 ∨ iv.1 = 2) ∧ Z.T iv.2.1) (memberIV n (.member l 1 p 2 none idx)) := by
  cases n with
  | zero => simp only [memberIV]; exact .ofTight tight_outOfFuel
  | succ n =>
    rw [memberIV_index]
    refine .bind (hp n) fun rv hrv => .ofTight ?_
    refine tight_bind (lit_tight Z hidx n) (fun iv hiv => ?_)
    unfold Proofs.indexIV
    refine tight_bind (tight_getCell rv hrv) (fun c hc => ?_)
    split
    · refine tight_bind (tight_getCell iv hiv) (fun ci _ => ?_)
      split
      · exact tight_pure _ ⟨.inl rfl, hrv⟩
      · exact tight_rtErr _
    · refine tight_bind (tight_getCell iv hiv) (fun ci _ => ?_)
      split
      · exact tight_pure _ ⟨.inr rfl, hrv⟩
      · exact tight_pure _ ⟨.inr rfl, hrv⟩
      · exact tight_rtErr _
    · exact tight_rtErr _

theorem path_step (Z : Zone ν) {z : String} {p : Expr} (hp : PathFrom z p) (c : Addr) (hres : resolveIn g sc z = some c)
    (hc : Z.T c) : ∀ n, ZoneStep Z g cs sc Z.T (evalExpr n p) := by
  induction hp with
  | root ln =>
    intro n
    cases n with
    | zero => simp only [evalExpr]; exact .ofTight tight_outOfFuel
    | succ n =>
      rw [Proofs.evalExpr_id]
      simp only [matchIDType]
      cases tryParseNumber (strCps z) with
      | error => exact .ofTight (tight_bind (Q := fun _ => False) (tight_throwE _) fun _ h => h.elim)
      | number => simp only [pure_bind]; exact .ofTight (tight_newNum _)
      | name =>
        simp only [pure_bind]
        intro s r s' hb h
        rw [findElement_eq, hb.resolve, hres] at h
        injection h with h1 h2
        subst h2
        exact ⟨hb.kept, fun a ha => by rw [← h1] at ha; injection ha with ha; subst ha; exact ⟨hb, hc⟩⟩
  | index ln p idx _ hidx ih =>
    intro n
    cases n with
    | zero => simp only [evalExpr]; exact .ofTight tight_outOfFuel
    | succ n =>
      rw [Proofs.evalExpr_member]
      refine .bind (memberIV_step Z ln p idx hidx n ih) fun iv hiv => .ofTight ?_
      rcases iv with ⟨kind, root, nm, ix⟩
      exact reduceRHS_tight Z n kind hiv.1 root nm ix hiv.2

theorem assign_step (Z : Zone ν) {z : String} {p idx rhs : Expr} (hp : PathFrom z p) (hidx : ClosedLit idx)
    (hrhs : ClosedLit rhs) (n ln l : Nat) (c : Addr) (hres : resolveIn g sc z = some c) (hc : Z.T c) :
    ZoneStep Z g cs sc (fun _ => True) (evalExpr n (.assign ln (.member l 1 p 2 none idx) rhs)) := by
  cases n with
  | zero => simp only [evalExpr]; exact .ofTight tight_outOfFuel
  | succ n =>
    rw [evalExpr_assign_index]
    refine .bind (.ofTight (lit_tight Z hrhs n)) fun vr hvr => .bind (.ofTight (tight_dup Z n vr hvr)) fun vr' hvr' =>
      .bind (memberIV_step Z l p idx hidx n (path_step Z hp c hres hc)) fun iv hiv => .ofTight ?_
    rcases iv with ⟨kind, root, nm, ix⟩
    exact tight_seq (reduceLHS_tight Z kind hiv.1 root nm ix vr' hiv.2 hvr') (tight_pure_any vr')

/-- a computation that respects the zone, run in a frame of the native module `-1` (the call of a built-in method): the
frame is pushed, the computation runs, the frame is popped.  While it runs — and for ever if it fails — the native module
is current. -/
theorem ZoneStep.framed {Q : Addr → Prop} {m : M ν Addr} (h : Tight Z Q m) (fr : Frame) (hfr : fr.moduleId = -1) :
    ZoneStep Z g cs sc Q (do pushFrame fr; let r ← m; popFrame; pure r : M ν Addr) := by
  intro s r s' hb hrun
  have hst := Proofs.Calls.pushFrame_state fr s
  have ph : (pushFrame fr s).2.heap = s.heap := (congrArg VM.heap hst :)
  have pg : (pushFrame fr s).2.globals = s.globals := (congrArg VM.globals hst :)
  have pst : (pushFrame fr s).2.stack = fr :: s.stack := (congrArg VM.stack hst :)
  have pcs : (pushFrame fr s).2.csModuleID = fr.moduleId := (congrArg VM.csModuleID hst :)
  rw [Proofs.Calls.bind_ok (Proofs.Calls.pushFrame_ok fr s)] at hrun
  -- the computation itself: only the heap changes
  have hbm := fun rb sb => h.run (pushFrame fr s).2 rb sb (ph ▸ hb.zinv)
  have hk : ∀ rb sb, m (pushFrame fr s).2 = (rb, sb) → Kept Z g cs sc sb := fun rb sb hm =>
    have q := hbm rb sb hm
    ⟨q.2.1, by rw [q.1.globals, pg]; exact hb.kept.glob, by rw [getScope_sameBut q.1]; exact pushFrame_scope hb.kept.scope,
      .inr (by rw [q.1.csModuleID, pcs, hfr])⟩
  rcases Proofs.Calls.bind_inv hrun with ⟨rv, sb, hm, h3⟩ | ⟨r1, hm, _, hne, _⟩
  · rw [M_bind_pop (by rw [(hbm _ _ hm).1.stack, pst])] at h3
    injection h3 with e1 e2
    subst e1 e2
    have hk' : Kept Z g cs sc { sb with stack := s.stack, csModuleID := topMod s.stack } :=
      ⟨(hk _ _ hm).keep, (hk _ _ hm).glob, (hk _ _ hm).scope, .inl hb.coh⟩
    have q := (hbm _ _ hm).2.2 rv rfl
    exact ⟨hk', fun a ha => by cases ha; exact ⟨⟨hk', q.1, hb.coh, hb.coh⟩, q.2⟩⟩
  · exact ⟨hk _ _ hm, fun a ha => absurd ha (hne a)⟩

theorem execMethod_run (Z : Zone ν) (n : Nat) (root : Addr) (fname : String) (vals : List Addr) (hr : Z.T root)
    (hv : ∀ v ∈ vals, Z.T v) : ZoneStep Z g cs sc (fun _ => True) (execMethodFunction n root fname vals) := by
  cases n with
  | zero => simp only [execMethodFunction]; exact .ofTight tight_outOfFuel
  | succ n =>
    simp only [execMethodFunction]
    refine .bind (.ofTight (tight_getCell root hr)) fun c hc => ?_
    split
    · exact absurd hc.1 (by simp [Cell.isRefKind])
    · exact .framed (builtinMethod_tight Z n root fname vals hr hv) _ rfl

theorem mcall_run (Z : Zone ν) {z : String} {p : Expr} (hp : PathFrom z p) (m : Ident) (params : List Expr)
    (hpar : ∀ e ∈ params, ClosedLit e) (n ln l : Nat) (c : Addr) (hres : resolveIn g sc z = some c) (hc : Z.T c) :
    ZoneStep Z g cs sc (fun _ => True) (evalExpr n (.mcall ln p [.call l (some m) params none] none)) := by
  cases n with
  | zero => simp only [evalExpr]; exact .ofTight tight_outOfFuel
  | succ n =>
    rw [evalExpr_mcall1]
    exact .bind (path_step Z hp c hres hc n) fun rv hrv =>
      .bind (.ofTight (tight_of_const (Q := fun _ => True) (matchIDName_state _) fun _ _ _ _ => trivial))
        fun fname _ => .bind (.ofTight (tight_mapM params fun e he => lit_tight Z (hpar e he) n)) fun vals hvals =>
          execMethod_run Z n rv fname vals hrv hvals

/-- proved from the definition: `Calls.setTopFrame_state` is about any updater and leaves the stack open, while what is
wanted of this one is the outcome `.ok ()` and that the module of the top frame stays -/
theorem setTopFrame_line (k : Nat) (s : VM ν) :
    ∃ s0, setTopFrame (fun fr => { fr with line := k, started := true }) s = (.ok (), s0) ∧ s0.heap = s.heap ∧ s0.globals = s.globals ∧
      s0.scopes = s.scopes ∧ s0.csModuleID = s.csModuleID ∧ topMod s0.stack = topMod s.stack := by
  unfold setTopFrame modifyVM
  refine ⟨_, rfl, ?_⟩
  dsimp only
  split <;> simp_all [topMod]

theorem Between.setLine {s s0 : VM ν}
    (hb : Between Z g cs sc s) (h1 : s0.heap = s.heap) (h2 : s0.globals = s.globals) (h3 : s0.scopes = s.scopes)
    (h4 : s0.csModuleID = s.csModuleID) (h5 : topMod s0.stack = topMod s.stack) : Between Z g cs sc s0 := by
  refine ⟨⟨?_, ?_, ?_, ?_⟩, ?_, ?_, ?_⟩
  · rw [h1]; exact hb.kept.keep
  · rw [h2]; exact hb.kept.glob
  · have : getScope cs s0 = getScope cs s := by unfold getScope; rw [h3]
    rw [this]; exact hb.kept.scope
  · rw [h4]; exact hb.kept.curOr
  · rw [h1]; exact hb.zinv
  · rw [h4]; exact hb.cur
  · rw [h5]; exact hb.coh

theorem setLine_step (k : Nat) :
    ZoneStep Z g cs sc (fun _ => True) (setTopFrame (ν := ν) fun fr => { fr with line := k, started := true }) := by
  intro s r s' hb h
  rcases setTopFrame_line k s with ⟨s0, e0, f1, f2, f3, f4, f5⟩
  rw [e0] at h
  injection h with _ e1
  subst e1
  exact ⟨(hb.setLine f1 f2 f3 f4 f5).kept, fun _ _ => ⟨hb.setLine f1 f2 f3 f4 f5, trivial⟩⟩

theorem stmt_run (Z : Zone ν) {z : String} {st : Stmt} (hst : ThroughName z st) (n : Nat) (c : Addr)
    (hres : resolveIn g sc z = some c) (hc : Z.T c) : ZoneStep Z g cs sc (fun _ => True) (evalStmt n st) := by
  cases n with
  | zero => simp only [evalStmt]; exact .ofTight tight_outOfFuel
  | succ n =>
    cases hst with
    | assign ln l p idx rhs hp hidx hrhs =>
      rw [Proofs.EvalArms.evalStmt_expr]
      exact .bind (setLine_step _) fun _ _ => assign_step Z hp hidx hrhs n ln l c hres hc
    | method ln l p m params hp hpar =>
      rw [Proofs.EvalArms.evalStmt_expr]
      exact .bind (setLine_step _) fun _ _ => mcall_run Z hp m params hpar n ln l c hres hc

theorem zoneStep_closed : Proofs.Calls.Closed (fun {α} (m : M ν α) => ZoneStep Z g cs sc (fun _ => True) m) :=
  ⟨fun a => .ofTight (tight_pure_any a), fun hm hf => .bind hm fun a _ => hf a⟩

theorem loop_run (Z : Zone ν) {z : String} (n : Nat) (c : Addr) (hres : resolveIn g sc z = some c) (hc : Z.T c)
    (stmts : List Stmt) (hall : ∀ st ∈ stmts, ThroughName z st) (last : Option Addr) :
    ZoneStep Z g cs sc (fun _ => True) (stmtsLoop (evalStmt n) last stmts) :=
  zoneStep_closed.stmtsLoop (.ofTight (tight_of_const (Q := fun _ => True)
    (fun s => by rw [Proofs.ControlFlow.getReturnValue_eq s]) fun _ _ _ _ => trivial))
    (fun st hst => stmt_run Z (hall st hst) n c hres hc) last

end step

theorem resolve_congr {s s' : VM ν} (h1 : s'.globals = s.globals) (h2 : s'.scopes = s.scopes)
    (h3 : s'.csModuleID = s.csModuleID) (nm : String) : resolve nm s' = resolve nm s := by
  unfold resolve getScope
  rw [h1, h2, h3]

theorem id_eval {k l : Nat} {x : String} {s0 sA : VM ν} {obj : Addr} (h : evalExpr k (.id ⟨l, x⟩) s0 = (.ok obj, sA)) :
    (tryParseNumber (strCps x) = .name ∧ resolve x s0 = some obj ∧ sA = s0) ∨
    (tryParseNumber (strCps x) = .number ∧ ∃ v : ν, obj = s0.heap.size ∧ sA = { s0 with heap := s0.heap.push (.num v) }) := by
  cases k with
  | zero => simp [evalExpr, outOfFuel] at h
  | succ k =>
    rw [Proofs.evalExpr_id] at h
    simp only [matchIDType] at h
    cases hp : tryParseNumber (strCps x) with
    | error => rw [hp] at h; simp [bind, throwE] at h
    | name =>
      rw [hp] at h
      simp only [pure_bind] at h
      rw [findElement_eq] at h
      cases hr : resolve x s0 with
      | none => rw [hr] at h; simp at h
      | some a0 =>
        rw [hr] at h
        simp only at h
        injection h with h1 h2
        injection h1 with h1
        exact .inl ⟨rfl, by rw [h1], h2.symm⟩
    | number =>
      rw [hp] at h
      simp only [pure_bind, newNum, alloc] at h
      injection h with h1 h2
      injection h1 with h1
      exact .inr ⟨rfl, _, h1.symm, h2.symm⟩

theorem decl_inv {n ln l1 l2 : Nat} {x y : String} {s s1 : VM ν} {r1 : Addr}
    (h : evalStmt n (.varDecl ln [(1, [⟨l1, y⟩], .id ⟨l2, x⟩)]) s = (.ok r1, s1)) :
    ∃ k s0 obj sA b sB s3, n = k + 1 ∧ setTopFrame (fun fr => { fr with line := ln, started := true }) s = (.ok (), s0) ∧
      evalExpr k (.id ⟨l2, x⟩) s0 = (.ok obj, sA) ∧ dup k obj sA = (.ok b, sB) ∧
      declareElement y b false none sB = (.ok (), s3) ∧ s1 = { s3 with heap := s3.heap.push .null } := by
  cases n with
  | zero => simp [evalStmt, outOfFuel] at h
  | succ k =>
    rcases varDecl_ok_inv (.inl rfl) h with ⟨s0, obj, sA, last, s2, h0, hobj, hchain, e⟩
    simp only [List.foldlM_cons, List.foldlM_nil] at hchain
    rcases Proofs.Calls.bind_ok_inv hchain with ⟨b, s3, hstep, hrest⟩
    rcases pure_ok_inv hrest with ⟨_, rfl⟩
    rcases declStep_ok_inv hstep with ⟨sB, hdup, hdecl⟩
    exact ⟨k, s0, obj, sA, b, sB, _, rfl, h0, hobj, hdup, hdecl, e⟩

/-- what the declaration `令 y 为 x` establishes, for any zone in which the heap before the declaration satisfies the
invariant and what `x` evaluates to is a copyable source: a state between statements, in which `y` denotes a tainted
value `b` and every other name denotes what it denoted; and, when `x` is a name, the run of `dup` that made `b` -/
theorem decl_between (Z : Zone ν) (n ln l1 l2 : Nat) (x y : String) (s s1 : VM ν) (r1 : Addr)
    (h : evalStmt n (.varDecl ln [(1, [⟨l1, y⟩], .id ⟨l2, x⟩)]) s = (.ok r1, s1))
    (hcoh : topMod s.stack = s.csModuleID) (hz : ZInv Z s.heap)
    (hsrc : ∀ obj, resolve x s = some obj → Src Z obj) :
    ∃ sc1 b, Between Z s.globals s.csModuleID sc1 s1 ∧ Z.T b ∧ resolveIn s.globals sc1 y = some b ∧
      (∀ nm, nm ≠ y → resolveIn s.globals sc1 nm = resolve nm s) ∧ Ext s.heap s1.heap ∧
      ∃ k s0 sB, n = k + 1 ∧ s0.heap = s.heap ∧ s1.heap = sB.heap.push .null ∧
        (tryParseNumber (strCps x) ≠ .number → ∀ o, resolve x s = some o → dup k o s0 = (.ok b, sB)) := by
  rcases decl_inv h with ⟨k, s0, obj, sA, b, sB, s3, rfl, h0, hobj, hdup, hdecl, rfl⟩
  rcases setTopFrame_line ln s with ⟨s0', e0, f1, f2, f3, f4, f5⟩
  rw [h0] at e0
  injection e0 with _ e0
  subst e0
  -- the source: what the name denotes, or — when `x` is a number literal — a new cell
  have hA : ZInv Z sA.heap ∧ TightAt Z Z.T (dup k obj) sA ∧ SameBut s0 sA ∧ Ext s0.heap sA.heap := by
    rcases id_eval hobj with ⟨_, hr, rfl⟩ | ⟨_, v, rfl, rfl⟩
    · have hr' : resolve x s = some obj := by rw [← resolve_congr f2 f3 f4]; exact hr
      exact ⟨by rw [f1]; exact hz, (dup_src Z k obj (hsrc obj hr')).at _, SameBut.refl _, Ext.refl _⟩
    · have hz0 : ZInv Z s0.heap := by rw [f1]; exact hz
      exact ⟨hz0.push (okCell_num v), (tight_dup Z k _ (Z.wt _ (hz0.fresh _ (Nat.le_refl _)))).at _, SameBut.push _ _,
        Ext.push _ _⟩
  rcases hA with ⟨hzA, hdA, sb0A, e0A⟩
  rcases (hdA _ _ hzA hdup).2.2 b rfl with ⟨hzB, hTb⟩
  have gAB := (dup_grow k obj).run sA _ sB hdup
  rcases declareElement_ok_inv hdecl with ⟨sc0, hsc0, hg0, e3⟩
  have h3heap : s3.heap = sB.heap := declareElement_heap hdecl
  have hglobB : sB.globals = s.globals := by rw [gAB.1.globals, sb0A.globals, f2]
  have hcsB : sB.csModuleID = s.csModuleID := by rw [gAB.1.csModuleID, sb0A.csModuleID, f4]
  have hstB : sB.stack = s0.stack := by rw [gAB.1.stack, sb0A.stack]
  have hz1 : ZInv Z (s3.heap.push Cell.null) := by rw [h3heap]; exact hzB.push okCell_null
  have hb : Between Z s.globals s.csModuleID
      { sc0 with syms := { name := y, depth := sc0.depth, isConst := false, ext := none, val := b } :: sc0.syms }
      { s3 with heap := s3.heap.push .null } := by
    refine ⟨⟨hz1.keep, ?_, ?_, .inl ?_⟩, hz1, ?_, ?_⟩
    · show s3.globals = s.globals
      rw [e3, putScope_globals]; exact hglobB
    · show getScope s.csModuleID { s3 with heap := s3.heap.push .null } = some _
      have : getScope s.csModuleID { s3 with heap := s3.heap.push .null } = getScope s.csModuleID s3 := rfl
      rw [this, e3, ← hcsB]
      exact getScope_putScope_same _ _ _
    · show s3.csModuleID = s.csModuleID
      rw [e3, putScope_cs]; exact hcsB
    · show s3.csModuleID = s.csModuleID
      rw [e3, putScope_cs]; exact hcsB
    · show topMod s3.stack = s.csModuleID
      rw [e3, putScope_stack, hstB, f5]; exact hcoh
  have hsb3 : SameBut s3 { s3 with heap := s3.heap.push .null } := SameBut.push _ _
  refine ⟨_, b, hb, hTb, ?_, fun nm hne => ?_, ?_, k, s0, sB, rfl, f1, by rw [h3heap], fun hn o ho => ?_⟩
  · rw [← hb.resolve, resolve_sameBut hsb3]
    exact resolve_declare_self hdecl
  · rw [← hb.resolve, resolve_sameBut hsb3, resolve_declare_other hdecl hne, resolve_sameBut gAB.1,
      resolve_sameBut sb0A]
    exact resolve_congr f2 f3 f4 nm
  · show Ext s.heap (s3.heap.push .null)
    rw [h3heap, ← f1]
    exact (e0A.trans gAB.2).trans (Ext.push _ _)
  · rcases id_eval hobj with ⟨_, hr, rfl⟩ | ⟨hnum, _⟩
    · rw [resolve_congr f2 f3 f4, ho] at hr
      cases hr
      exact hdup
    · exact absurd hnum hn

/-! ## zone 1: everything allocated since the declaration started is the mutating side -/

/-- tainted: allocated at or after `h0.size`, or a 空 cell of `h0`; writable: allocated at or after `h0.size`; pinned: `h0` -/
def zoneNew (h0 : Array (Cell ν)) : Zone ν where
  T i := h0.size ≤ i ∨ h0[i]? = some .null
  W i := h0.size ≤ i
  fix := h0
  wt _ h := .inl h
  nul i c ht hw hc := by
    rcases ht with h | h
    · exact absurd h hw
    · rw [h] at hc; injection hc with e; exact e.symm

theorem zoneNew_init (h0 : Array (Cell ν)) : ZInv (zoneNew h0) h0 := by
  refine ⟨fun _ _ => rfl, fun i c ht hc => ?_, fun i h => h⟩
  rcases ht with h | h
  · have := lt_size_of_getElem? hc
    exact absurd h (Nat.not_le.2 this)
  · rw [h] at hc; injection hc with e; subst e; exact okCell_null

theorem src_zoneNew {n : Nat} {h0 : Array (Cell ν)} {a : Addr} {t : Tree ν} (ht : content n h0 a = some t)
    (hnoref : ∀ i, Reach h0 a i → ¬ IsRef h0 i) : Src (zoneNew h0) a := fun i hr =>
  have ⟨c, hc, _⟩ := content_wellFormed ht i hr
  ⟨Nat.not_le.2 (lt_size_of_getElem? hc), c, hc, not_isRef_cases hc (hnoref i hr), fun hn => .inr (by rw [hc, hn])⟩

/-- **changes through the copy are not visible through the original**, every outcome: `decl_between` and `loop_run` at
`zoneNew`.  `Properties.C07.copies_independent_any_outcome` says what the clauses mean. -/
theorem program_copy_new {n ln l1 l2 : Nat} {x y : String} {stmts : List Stmt} {s s1 s2 : VM ν} {a r1 : Addr} {t : Tree ν}
    {last : Option Addr} {r2 : Res (Option Addr)}
    (hxy : x ≠ y) (hres : resolve x s = some a) (hcont : content n s.heap a = some t)
    (hnoref : ∀ i, Reach s.heap a i → ¬ IsRef s.heap i) (hcoh : topMod s.stack = s.csModuleID)
    (hdecl : evalStmt n (.varDecl ln [(1, [⟨l1, y⟩], .id ⟨l2, x⟩)]) s = (.ok r1, s1))
    (hall : ∀ st ∈ stmts, ThroughName y st) (hloop : stmtsLoop (evalStmt n) last stmts s1 = (r2, s2)) :
    (∀ i, i < s.heap.size → s2.heap[i]? = s.heap[i]?) ∧ s2.globals = s.globals ∧
    (∃ sc, getScope s.csModuleID s2 = some sc ∧ resolveIn s.globals sc x = some a) ∧
    content n s2.heap a = some t ∧ (s2.csModuleID = s.csModuleID ∨ s2.csModuleID = -1) ∧
    ((∃ v, r2 = .ok v) → s2.csModuleID = s.csModuleID ∧ topMod s2.stack = s.csModuleID ∧ resolve x s2 = some a) := by
  rcases decl_between (zoneNew s.heap) n ln l1 l2 x y s s1 r1 hdecl hcoh (zoneNew_init _)
    (fun obj ho => by rw [hres] at ho; injection ho with ho; subst ho; exact src_zoneNew hcont hnoref)
    with ⟨sc1, b, hb, hTb, hy, hother, _, _⟩
  rcases loop_run (zoneNew s.heap) n b hy hTb stmts hall last s1 r2 s2 hb hloop with ⟨hk, hok⟩
  have hx : resolveIn s.globals sc1 x = some a := by rw [hother x hxy]; exact hres
  have hkeep : ∀ i, i < s.heap.size → s2.heap[i]? = s.heap[i]? :=
    fun i hi => hk.keep i (fun (hw : s.heap.size ≤ i) => absurd hi (Nat.not_lt.2 hw))
  refine ⟨hkeep, hk.glob, ⟨sc1, hk.scope, hx⟩, ?_, hk.curOr, fun ⟨v, hv⟩ => ?_⟩
  · rw [content_congr n s.heap s2.heap a (fun i hr => hkeep i (content_valid n hcont i hr))]
    exact hcont
  · have hb2 := (hok v hv).1
    exact ⟨hb2.cur, hb2.coh, by rw [hb2.resolve]; exact hx⟩

/-! ## zone 2: the original, and everything allocated after the declaration, is the mutating side -/

/-- tainted: below the original `a` (in the heap `h0` before the declaration) or allocated after the declaration ended
(heap `h1`); writable: the same except the 空 cells below `a`; pinned: `h1` — in particular the copy made by the declaration -/
def zoneOld (h0 h1 : Array (Cell ν)) (a : Addr) (e : Ext h0 h1) (v : Valid h0 a) : Zone ν where
  T i := Reach h0 a i ∨ h1.size ≤ i
  W i := (Reach h0 a i ∧ h0[i]? ≠ some .null) ∨ h1.size ≤ i
  fix := h1
  wt _ h := h.imp (·.1) id
  nul i c ht hw hc := by
    rcases ht with h | h
    · have hlt := v i h
      rw [e.2 i hlt] at hc
      by_cases hn : h0[i]? = some .null
      · rw [hn] at hc; injection hc with e'; exact e'.symm
      · exact absurd (.inl ⟨h, hn⟩) hw
    · exact absurd (.inr h) hw

theorem zoneOld_init (h0 h1 : Array (Cell ν)) (a : Addr) (e : Ext h0 h1) (v : Valid h0 a)
    (hnoref : ∀ i, Reach h0 a i → ¬ IsRef h0 i) : ZInv (zoneOld h0 h1 a e v) h1 := by
  refine ⟨fun _ _ => rfl, fun i c ht hc => ?_, fun i h => .inr h⟩
  rcases ht with h | h
  · have hlt := v i h
    have hc0 : h0[i]? = some c := by rw [← e.2 i hlt]; exact hc
    exact ⟨not_isRef_cases hc0 (hnoref i h), fun x hx => .inl (h.trans (Reach.child hc0 hx))⟩
  · exact absurd (lt_size_of_getElem? hc) (Nat.not_lt.2 h)

/-- **changes through the original are not visible through the copy**, every outcome: `loop_run` at `zoneOld`, a zone
that is only defined from the state after the declaration.  `Properties.C07.original_changes_invisible_through_copy` says
what the clauses mean. -/
theorem program_copy_old {n ln l1 l2 : Nat} {x y : String} {stmts : List Stmt} {s s1 s2 : VM ν} {a r1 : Addr} {t : Tree ν}
    {last : Option Addr} {r2 : Res (Option Addr)}
    (hxy : x ≠ y) (hxname : tryParseNumber (strCps x) ≠ .number)
    (hres : resolve x s = some a) (hcont : content n s.heap a = some t)
    (hnoref : ∀ i, Reach s.heap a i → ¬ IsRef s.heap i) (hcoh : topMod s.stack = s.csModuleID)
    (hdecl : evalStmt n (.varDecl ln [(1, [⟨l1, y⟩], .id ⟨l2, x⟩)]) s = (.ok r1, s1))
    (hall : ∀ st ∈ stmts, ThroughName x st) (hloop : stmtsLoop (evalStmt n) last stmts s1 = (r2, s2)) :
    ∃ b, resolve y s1 = some b ∧ content n s1.heap b = some t ∧
      (∀ i, Reach s1.heap b i → s2.heap[i]? = s1.heap[i]?) ∧ s2.globals = s.globals ∧
      (∃ sc, getScope s.csModuleID s2 = some sc ∧ resolveIn s.globals sc y = some b) ∧
      content n s2.heap b = some t ∧ (s2.csModuleID = s.csModuleID ∨ s2.csModuleID = -1) ∧
      ((∃ v, r2 = .ok v) → s2.csModuleID = s.csModuleID ∧ topMod s2.stack = s.csModuleID ∧ resolve y s2 = some b) := by
  -- the state after the declaration (frames, scopes, names), from the zone-1 run
  rcases decl_between (zoneNew s.heap) n ln l1 l2 x y s s1 r1 hdecl hcoh (zoneNew_init _)
    (fun obj ho => by rw [hres] at ho; injection ho with ho; subst ho; exact src_zoneNew hcont hnoref)
    with ⟨sc1, b', hb1, _, hy, hother, hext, k, s0, sB, rfl, f1, h1heap, hdupx⟩
  have hva : Valid s.heap a := content_valid _ hcont
  have hbz : Between (zoneOld s.heap s1.heap a hext hva) s.globals s.csModuleID sc1 s1 :=
    ⟨⟨fun _ _ => rfl, hb1.kept.glob, hb1.kept.scope, hb1.kept.curOr⟩, zoneOld_init _ _ _ hext hva hnoref, hb1.cur, hb1.coh⟩
  have hyres : resolve y s1 = some b' := by rw [hb1.resolve]; exact hy
  -- the copy itself: what `dup` established (with one more unit of fuel it answers the same, and then reads all of `a`)
  have hp : DupPost (k+1) s0 t b' sB :=
    dup_post (by rw [f1]; exact hcont) (Proofs.dup_mono k a s0 _ _ (hdupx hxname a hres) nofun)
  have eB1 : Ext sB.heap s1.heap := by rw [h1heap]; exact Ext.push _ _
  have hcont1 : content (k+1) s1.heap b' = some t := content_ext eB1 _ _ _ hp.cont
  -- no cell below the copy is writable
  have hfoot : ∀ i, Reach s1.heap b' i → ¬ (zoneOld s.heap s1.heap a hext hva).W i := by
    intro i hr hw
    have hrB : Reach sB.heap b' i := (reach_ext eB1 hp.valid).1 hr
    have hltB : i < sB.heap.size := hp.valid i hrB
    rcases hw with ⟨hra, hnn⟩ | hge
    · have hlt0 : i < s.heap.size := hva i hra
      rcases hp.fresh i hrB with hfr | ⟨c, hc, hm⟩
      · rw [f1] at hfr; exact absurd hlt0 (Nat.not_lt.2 hfr)
      · have hc0 : s.heap[i]? = some c := by
          rw [← f1, ← hp.ext.2 i (by rw [f1]; exact hlt0)]; exact hc
        have : c = .null := Classical.byContradiction fun hne => hnoref i hra ⟨c, hc0, hm, hne⟩
        rw [this] at hc0
        exact hnn hc0
    · have h2 : s1.heap.size ≤ i := hge
      have h3 : s1.heap.size = sB.heap.size + 1 := by rw [h1heap]; simp
      rw [h3] at h2
      exact absurd hltB (Nat.not_lt.2 (Nat.le_of_succ_le h2))
  rcases loop_run (zoneOld s.heap s1.heap a hext hva) (k+1) a (by rw [hother x hxy]; exact hres) (.inl (.refl _))
    stmts hall last s1 r2 s2 hbz hloop with ⟨hk, hok⟩
  have hkeep : ∀ i, Reach s1.heap b' i → s2.heap[i]? = s1.heap[i]? := fun i hr => hk.keep i (hfoot i hr)
  refine ⟨b', hyres, hcont1, hkeep, hk.glob, ⟨sc1, hk.scope, hy⟩, ?_, hk.curOr, fun ⟨v, hv⟩ => ?_⟩
  · rw [content_congr (k+1) s1.heap s2.heap b' hkeep]; exact hcont1
  · have hb2 := (hok v hv).1
    exact ⟨hb2.cur, hb2.coh, by rw [hb2.resolve]; exact hy⟩

end ZnVerif.Model
