/-
Output is append-only: `OutGrows s s'` (the displayed lines of `s'` are those of `s` with new ones in front) is
preserved by every function of the evaluator (instance of `ScopePrims`, so `allPres` applies).  In front of it, what it means
that the elements of a list are run in order (`Calls.RunsInOrder`, `mapM_ok_iff`, `mapM_err`: the arguments of a call); with
`OutGrows`, the trace of an argument list is the concatenation of the arguments' traces in order (`RunsInOrderT`).
The first part continues `namespace ZnVerif.Proofs.Calls`; the rest declares into `ZnVerif.Proofs.Balance`, like
Proofs/Balance.lean.
-/
import ZnVerif.Proofs.Balance
set_option linter.unusedSectionVars false
set_option linter.unusedVariables false

namespace ZnVerif.Proofs.Calls
open ZnVerif.Model

variable {ν : Type} [NumOps ν]

/-- arguments run in list order, each exactly once, every one from the state its predecessor left -/
inductive RunsInOrder {α β} (f : α → M ν β) : List α → VM ν → List β → VM ν → Prop where
  | nil (s : VM ν) : RunsInOrder f [] s [] s
  | cons {a l s b s1 bs s2} : f a s = (.ok b, s1) → RunsInOrder f l s1 bs s2 → RunsInOrder f (a :: l) s (b :: bs) s2

theorem mapM_ok_iff {α β} (f : α → M ν β) :
    ∀ (l : List α) (s : VM ν) (bs : List β) (s2 : VM ν), l.mapM f s = (.ok bs, s2) ↔ RunsInOrder f l s bs s2
  | [], s, bs, s2 => by
    rw [mapM_nil]
    constructor
    · intro h; cases h; exact .nil s
    · intro h; cases h; rfl
  | a :: l, s, bs, s2 => by
    rw [mapM_cons, M_bind_def]
    constructor
    · intro h
      rcases hfa : f a s with ⟨r, s1⟩
      rw [hfa] at h
      cases r <;> simp only at h <;> try (cases h)
      rename_i b
      rw [M_bind_def] at h
      rcases hl : l.mapM f s1 with ⟨r', s1'⟩
      rw [hl] at h
      cases r' <;> simp only at h <;> try (cases h)
      rename_i bs'
      exact .cons hfa ((mapM_ok_iff f l s1 bs' _).mp hl)
    · intro h
      cases h with
      | cons hfa hrest =>
        rw [hfa]; simp only
        rw [M_bind_def, (mapM_ok_iff f l _ _ _).mpr hrest]; rfl

theorem mapM_err {α β} (f : α → M ν β) (post : List α) (a : α) (e : Err) :
    ∀ (pre : List α) (s : VM ν) (bs : List β) (s1 s2 : VM ν), RunsInOrder f pre s bs s1 → f a s1 = (.err e, s2) →
      (pre ++ a :: post).mapM f s = (.err e, s2)
  | [], s, bs, s1, s2, h, hfa => by
    cases h
    rw [List.nil_append, mapM_cons, bind_err hfa]
  | x :: pre, s, bs, s1, s2, h, hfa => by
    cases h with
    | cons hx hrest =>
      rw [List.cons_append, mapM_cons, bind_ok hx, bind_err (mapM_err f post a e pre _ _ _ _ hrest hfa)]

end ZnVerif.Proofs.Calls

namespace ZnVerif.Proofs.Balance
open ZnVerif.Model ZnVerif.Proofs.Calls

variable {ν : Type} [NumOps ν]

/-- `out` is most-recent-first: the new lines are a prefix -/
def OutGrows (s s' : VM ν) : Prop := ∃ l, s'.out = l ++ s.out

theorem OutGrows.of_out_eq {s s' : VM ν} (h : s'.out = s.out) : OutGrows s s' := ⟨[], by simp [h]⟩

instance : PreRel (OutGrows (ν := ν)) where
  refl s := ⟨[], rfl⟩
  trans := by
    rintro a b c ⟨l1, h1⟩ ⟨l2, h2⟩
    exact ⟨l2 ++ l1, by rw [h2, h1, List.append_assoc]⟩

instance : Stable (OutGrows (ν := ν)) where
  heap s h := .of_out_eq rfl
  stack s st cs := .of_out_eq rfl
  exports s i md e _ := .of_out_eq rfl

theorem OutGrows.put (s : VM ν) (mid : Int) (sc : Scope) : OutGrows s (putScope mid sc s) :=
  .of_out_eq (putScope_out _ _ _)

instance : ScopePrims (OutGrows (ν := ν)) where
  emit l := ⟨fun s => ⟨[l], rfl⟩⟩
  pushFrame := .pushFrame_of_put fun _ _ _ => .put _ _ _
  declareElement _ _ _ _ := .declareElement_of_put fun _ _ _ _ _ => .put _ _ _
  setElement _ _ := .setElement_of_put fun _ _ _ _ _ => .put _ _ _
  withScope := Pres.withScope_of_put (fun _ _ _ => .put _ _ _) fun _ _ _ _ => .put _ _ _

/-- like `RunsInOrder`, recording what each element displayed -/
inductive RunsInOrderT {α β} (f : α → M ν β) : List α → VM ν → List β → VM ν → List (List String) → Prop where
  | nil (s : VM ν) : RunsInOrderT f [] s [] s []
  | cons {a l s b s1 bs s2 t ts} : f a s = (.ok b, s1) → s1.out = t ++ s.out → RunsInOrderT f l s1 bs s2 ts →
      RunsInOrderT f (a :: l) s (b :: bs) s2 (t :: ts)

theorem RunsInOrder.withTraces {α β} {f : α → M ν β} (hf : ∀ a s, OutGrows s (f a s).2) :
    ∀ {l : List α} {s : VM ν} {bs : List β} {s2 : VM ν}, RunsInOrder f l s bs s2 →
      ∃ ts, RunsInOrderT f l s bs s2 ts
  | _, _, _, _, .nil s => ⟨[], .nil s⟩
  | _, _, _, _, .cons (a := a) (s := s) h hrest => by
    obtain ⟨ts, hts⟩ := RunsInOrder.withTraces hf hrest
    obtain ⟨t, ht⟩ := hf a s
    rw [h] at ht
    exact ⟨t :: ts, .cons h ht hts⟩

/-- the output after the list = the elements' outputs, first element's oldest (i.e. last in the most-recent-first list) -/
theorem RunsInOrderT.out {α β} {f : α → M ν β} :
    ∀ {l : List α} {s : VM ν} {bs : List β} {s2 : VM ν} {ts : List (List String)},
      RunsInOrderT f l s bs s2 ts → s2.out = ts.reverse.flatten ++ s.out ∧ ts.length = l.length
  | _, _, _, _, _, .nil s => ⟨by simp, rfl⟩
  | _, _, _, _, _, .cons h ht hrest => by
    obtain ⟨h1, h2⟩ := RunsInOrderT.out hrest
    refine ⟨?_, by simp [h2]⟩
    rw [h1, ht]
    simp [List.append_assoc]

end ZnVerif.Proofs.Balance
