/-
Helper lemmas for the input-variable theorems: `evalExpr` / `memberIV` on a COMPLETE expression (Spec/Grammar `CExpr`: what
the parser returns, C03 `returned_tree_complete`) in a VM that satisfies `VI` never panics, keeps `VI`, and a value is the
address of a cell.  Induction on the fuel; every `goPanic` of the two functions is met by a hypothesis:
  * a missing name / class / member identifier, a chain element that is not a call, `memberIV` on a non-member → `CExpr`;
  * `getCell` of a dangling address → every value and every root is in the heap (`VI`, `Ext`);
  * `| _ => goPanic` after `validateExact` → the validator's own answer;
  * the frame accessors on an empty stack → Proofs/VarInputVM.lean, Proofs/VarInputCalls.lean.
-/
import ZnVerif.Proofs.VarInputCalls
import ZnVerif.Spec.Grammar

namespace ZnVerif.Proofs.VarInput
open ZnVerif.Model ZnVerif.Proofs.Builtins ZnVerif.Proofs.Leaf ZnVerif.Spec.Grammar

variable {ν : Type} [NumOps ν]

abbrev InHeapQ : Addr → VM ν → Prop := fun r s' => r < s'.heap.size

/-- what the induction on the fuel carries: `evalExpr n` and `memberIV n` on complete expressions, from every `VI` state -/
structure AllV (ν : Type) [NumOps ν] (n : Nat) : Prop where
  evalExpr : ∀ (e : Expr) (s : VM ν), CExpr e → VI s → VPost s InHeapQ (evalExpr n e s)
  memberIV : ∀ (l rt : Nat) (r : Expr) (mt : Nat) (mid : Option Ident) (idx : Expr) (s : VM ν),
    CExpr (.member l rt r mt mid idx) → VI s →
    VPost s (fun (iv : Nat × Addr × String × Int) s' => iv.2.1 < s'.heap.size) (memberIV n (.member l rt r mt mid idx) s)

theorem AllV.eval {n : Nat} (ih : AllV ν n) (e : Expr) (s : VM ν) (hc : CExpr e) (hs : VI s) :
    Hoare VI Ext s InHeapQ (Model.evalExpr n e s) := vpost_iff.1 (ih.evalExpr e s hc hs)

theorem AllV.member {n : Nat} (ih : AllV ν n) (l rt : Nat) (r : Expr) (mt : Nat) (mid : Option Ident) (idx : Expr) (s : VM ν)
    (hc : CExpr (.member l rt r mt mid idx)) (hs : VI s) :
    Hoare VI Ext s (fun (iv : Nat × Addr × String × Int) s' => iv.2.1 < s'.heap.size) (Model.memberIV n (.member l rt r mt mid idx) s) :=
  vpost_iff.1 (ih.memberIV l rt r mt mid idx s hc hs)

theorem vpost_evalList {n : Nat} (ih : AllV ν n) (xs : List Expr) (hxs : ∀ x ∈ xs, CExpr x) {s : VM ν} (hs : VI s) :
    Hoare VI Ext s (fun vs s' => ∀ v ∈ vs, v < s'.heap.size) (xs.mapM (evalExpr n) s) :=
  Hoare.mapM (P := InHeapQ) inHeap_stable xs s hs (fun x hx s' hs' _ => ih.eval x s' (hxs x hx) hs')

/-- `得到 y` after a call -/
theorem vpost_yield {s : VM ν} (hs : VI s) (yld : Option Ident) {res : Addr} (hres : res < s.heap.size) :
    Hoare VI Ext s InHeapQ ((match yld with
      | none => pure res
      | some y => do
        let yn ← matchIDName y.lit
        declareElement yn res true
        pure res : M ν Addr) s) := by
  cases yld with
  | none => exact Hoare.pure hs hres
  | some y =>
    dsimp only
    refine RO.post_bind hs (ro_matchIDName y.lit s) (fun yn _ => ?_)
    exact Hoare.bind (vpost_declareElement hs yn hres true none) (fun _ s3 hs3 e3 _ => Hoare.pure hs3 (Nat.lt_of_lt_of_le hres e3.size))

/-- a member expression read: `memberIV`, then `IV.ReduceRHS` (a built-in member: Proofs/BuiltinMembers.lean) -/
theorem vpost_member {n : Nat} (ih : AllV ν n) {l rt : Nat} {r : Expr} {mt : Nat} {mid : Option Ident} {idx : Expr} {s : VM ν}
    (hce : CExpr (.member l rt r mt mid idx)) (hs : VI s) : Hoare VI Ext s InHeapQ (evalExpr (n+1) (.member l rt r mt mid idx) s) := by
  refine Hoare.bind (ih.member l rt r mt mid idx s hce hs) (fun iv s1 hs1 _ hiv => ?_)
  obtain ⟨kind, root, name, ix⟩ := iv
  exact (post_reduceRHS n kind name ix hs1.heap hiv).ofPre.liftLeaf vi_laws hs1 (Leaf.reduceRHS n _)

theorem evalExpr_succ (n : Nat) (ih : AllV ν n) (e : Expr) (s : VM ν) (hce : CExpr e) (hs : VI s) :
    Hoare VI Ext s InHeapQ (evalExpr (n+1) e s) := by
  -- one arm per constructor of `CExpr`.  `evalExpr (n+1) (ctor …)` reduces to that arm's `do` block, so each `refine` names the block's
  -- next statement: a sub-expression through `ih`, a cell read through `Hoare.getCell_of_lt` (the value read is a cell by the step
  -- before, carried along `Ext`), a call through Proofs/VarInputCalls.lean; the leaves allocate a scalar or answer an error
  cases hce with
  | id i =>
    refine RO.post_bind hs (ro_matchIDType i.lit s) (fun t _ => ?_)
    cases t with
    | name nm => exact RO.hoare hs (ro_findElement hs nm) (fun _ h => h)
    | number x => exact vpost_alloc_lt hs trivial trivial
  | str l t => exact vpost_alloc_lt hs trivial trivial
  | arr l xs hxs =>
    refine Hoare.bind (vpost_evalList ih xs hxs hs) (fun vs s1 hs1 _ hvs => ?_)
    exact vpost_alloc_lt hs1 (c := .arr vs) hvs trivial
  | hm l kvs hk hv =>
    refine Hoare.bind (Hoare.mapM (P := fun (b : String × Addr) s => b.2 < s.heap.size)
      (fun b s s' h e => Nat.lt_of_lt_of_le h e.size) kvs s hs (fun kv hkv s' hs' _ => ?_)) (fun pairs s1 hs1 _ hp => ?_)
    · have hv2 := hv kv hkv
      obtain ⟨k, v⟩ := kv
      have hbody : ∀ key : String, Hoare VI Ext s' (fun (b : String × Addr) s => b.2 < s.heap.size)
          ((do let a ← evalExpr n v; pure (key, a) : M ν (String × Addr)) s') := fun key =>
        Hoare.bind (ih.eval v s' hv2 hs') (fun a s2 hs2 _ hvv => Hoare.pure hs2 hvv)
      cases k with
      | str _ t => exact hbody t
      | id i => exact RO.post_bind hs' (ro_matchIDType i.lit s') (fun _ _ => hbody i.lit)
      | _ => exact Hoare.err _ hs'
    · exact vpost_alloc_lt hs1 (newHashMapCell_ok pairs hp) (plain_newHashMapCell pairs)
  | assign l t rhs hassign hct hcr =>
    refine Hoare.bind (ih.eval rhs s hcr hs) (fun vr0 s1 hs1 _ hvr0 => ?_)
    refine Hoare.bind (vpost_dup n hs1 hvr0) (fun vr s2 hs2 _ hvr => ?_)
    cases t with
    | id i =>
      dsimp only
      refine RO.post_bind hs2 (ro_matchIDName i.lit s2) (fun nm _ => ?_)
      exact Hoare.bind (vpost_setElement hs2 nm hvr) (fun _ s3 hs3 e3 _ => Hoare.pure hs3 (Nat.lt_of_lt_of_le hvr e3.size))
    | member ml rt r mt mid idx =>
      refine Hoare.ite (fun _ => ?_) (fun _ => Hoare.err _ hs2)
      refine Hoare.bind (ih.member ml rt r mt mid idx s2 hct hs2) (fun iv s3 hs3 e3 hiv => ?_)
      obtain ⟨kind, root, name, ix⟩ := iv
      have hvr3 : vr < s3.heap.size := Nat.lt_of_lt_of_le hvr e3.size
      refine Hoare.bind ((post_reduceLHS kind name ix hs3.heap hiv hvr3).lift vi_laws hs3
        (.ofLeafStep ((runs_reduceLHS (kind, root, name, ix) vr).step s3))) (fun _ s4 hs4 e4 _ => ?_)
      exact Hoare.pure hs4 (Nat.lt_of_lt_of_le hvr3 e4.size)
    | _ => exact Hoare.err _ hs2
  | logic l ty a b _ hca hcb =>
    refine Hoare.ite (fun _ => ?_) (fun _ => ?_)
    · refine Hoare.bind (ih.eval a s hca hs) (fun lv s1 hs1 _ hlv => ?_)
      refine Hoare.getCell_of_lt hlv (fun c hc => ?_)
      cases c with
      | bool lb =>
        refine Hoare.ite (fun _ => vpost_alloc_lt hs1 trivial trivial) (fun _ => Hoare.ite (fun _ => vpost_alloc_lt hs1 trivial trivial) (fun _ => ?_))
        refine Hoare.bind (ih.eval b s1 hcb hs1) (fun rv s2 hs2 _ hrv => ?_)
        refine Hoare.getCell_of_lt hrv (fun c2 hc2 => ?_)
        cases c2 with
        | bool rb => exact vpost_alloc_lt hs2 trivial trivial
        | _ => exact Hoare.err _ hs2
      | _ => exact Hoare.err _ hs1
    · refine Hoare.bind (ih.eval a s hca hs) (fun lv s1 hs1 _ hlv => ?_)
      refine Hoare.bind (ih.eval b s1 hcb hs1) (fun rv s2 hs2 e2 hrv => ?_)
      have hlv2 : lv < s2.heap.size := Nat.lt_of_lt_of_le hlv e2.size
      have hcmp : ∀ g : Bool → Bool, Hoare VI Ext s2 InHeapQ ((do let b ← compareXEQ n lv rv; newBool (g b) : M ν Addr) s2) :=
        fun g => RO.post_bind hs2 (ro_compareXEQ n hs2.heap hlv2 hrv) (fun bb _ => vpost_alloc_lt hs2 trivial trivial)
      refine Hoare.ite (fun _ => hcmp id) (fun _ => Hoare.ite (fun _ => hcmp (!·)) (fun _ =>
        Hoare.ite (fun _ => ?_) (fun _ => Hoare.err _ hs2)))
      refine Hoare.getCell_of_lt hlv2 (fun c hc => ?_)
      cases c with
      | num x =>
        refine Hoare.getCell_of_lt hrv (fun c2 hc2 => ?_)
        cases c2 with
        | num y => exact vpost_alloc_lt hs2 trivial trivial
        | _ => exact Hoare.err _ hs2
      | _ => exact Hoare.err _ hs2
  | arith l ty a b _ hca hcb =>
    refine Hoare.ite (fun _ => ?_) (fun _ => ?_)
    · refine Hoare.bind (ih.eval a s hca hs) (fun lv s1 hs1 _ hlv => ?_)
      refine Hoare.bind (ih.eval b s1 hcb hs1) (fun rv s2 hs2 e2 hrv => ?_)
      have hlv2 : lv < s2.heap.size := Nat.lt_of_lt_of_le hlv e2.size
      refine Hoare.getCell_of_lt hlv2 (fun c hc => ?_)
      refine Hoare.getCell_of_lt hrv (fun c2 hc2 => ?_)
      split
      · exact Hoare.ite (fun _ => Hoare.err _ hs2) (fun _ => vpost_alloc_lt hs2 trivial trivial)
      · exact Hoare.notModelled hs2
      · exact Hoare.err _ hs2
    · refine Hoare.bind (ih.eval a s hca hs) (fun lv s1 hs1 _ hlv => ?_)
      refine Hoare.getCell_of_lt hlv (fun c hc => ?_)
      cases c with
      | num x =>
        refine Hoare.bind (ih.eval b s1 hcb hs1) (fun rv s2 hs2 _ hrv => ?_)
        refine Hoare.getCell_of_lt hrv (fun c2 hc2 => ?_)
        cases c2 with
        | num y =>
          have hz : ∀ r : ν, Hoare VI Ext s2 InHeapQ ((if NumOps.isZero y then rtErr 90 else newNum r : M ν Addr) s2) :=
            fun r => Hoare.ite (fun _ => Hoare.err _ hs2) (fun _ => vpost_alloc_lt hs2 trivial trivial)
          exact Hoare.ite (fun _ => vpost_alloc_lt hs2 trivial trivial) fun _ => Hoare.ite (fun _ => vpost_alloc_lt hs2 trivial trivial) fun _ =>
            Hoare.ite (fun _ => vpost_alloc_lt hs2 trivial trivial) fun _ => Hoare.ite (fun _ => hz _) fun _ =>
            Hoare.ite (fun _ => hz _) fun _ => Hoare.err _ hs2
        | _ => exact Hoare.err _ hs2
      | _ => exact Hoare.err _ hs1
  | memberDot l r i hcr => exact vpost_member ih (.memberDot l r i hcr) hs
  | memberThis l i => exact vpost_member ih (.memberThis l i) hs
  | memberIdx l r idx hcr hci => exact vpost_member ih (.memberIdx l r idx hcr hci) hs
  | call l nm ps y hps =>
    refine RO.post_bind hs (ro_matchIDName nm.lit s) (fun fname _ => ?_)
    refine Hoare.bind (vpost_evalList ih ps hps hs) (fun vals s1 hs1 _ hvals => ?_)
    refine Hoare.bind (vpost_execDirectFunction n hs1 fname hvals) (fun res s2 hs2 _ hres => ?_)
    exact vpost_yield hs2 y hres
  | mcall l r c y hcr hne hcc =>
    refine Hoare.bind (ih.eval r s hcr hs) (fun rv s1 hs1 _ hrv => ?_)
    refine Hoare.bind (Hoare.foldlM (P := InHeapQ) c rv s1 hs1 hrv (fun f hf cur s' hs' _ hcur => ?_)) (fun last s2 hs2 _ hlast => ?_)
    · cases hcc f hf with
      | mk cl cn cps cy hcps =>
        dsimp only
        refine RO.post_bind hs' (ro_matchIDName cn.lit s') (fun fname _ => ?_)
        refine Hoare.bind (vpost_evalList ih cps hcps hs') (fun vals s3 hs3 e3 hvals => ?_)
        exact vpost_execMethodFunction n hs3 (Nat.lt_of_lt_of_le hcur e3.size) fname hvals
    · exact vpost_yield hs2 y hlast
  | new l c ps hps =>
    refine RO.post_bind hs (ro_matchIDName c.lit s) (fun cname _ => ?_)
    refine RO.post_bind hs (ro_findElement hs cname) (fun cv hcv => ?_)
    refine Hoare.getCell_of_lt hcv (fun cell hcell => ?_)
    cases cell with
    | cls cn ct cp cm =>
      dsimp only
      refine Hoare.bind (vpost_evalList ih ps hps hs) (fun vals s1 hs1 e1 hvals => ?_)
      exact vpost_construct n hs1 (e1.cls cv ⟨cn, ct, cp, cm, hcell⟩) hvals
    | num x =>
      dsimp only
      refine Hoare.bind (vpost_evalList ih ps hps hs) (fun vals s1 hs1 e1 hvals => ?_)
      exact Hoare.arg1 hs1 hvals fun p hp => Hoare.pure hs1 hp.lt
    | _ => exact Hoare.err _ hs

theorem memberIV_succ (n : Nat) (ih : AllV ν n) (l rt : Nat) (r : Expr) (mt : Nat) (mid : Option Ident) (idx : Expr) (s : VM ν)
    (hce : CExpr (.member l rt r mt mid idx)) (hs : VI s) :
    Hoare VI Ext s (fun (iv : Nat × Addr × String × Int) s' => iv.2.1 < s'.heap.size) (memberIV (n+1) (.member l rt r mt mid idx) s) := by
  -- in each case the root and member tags are numerals: the tests of `memberIV` on them evaluate
  cases hce with
  | memberThis _ i =>
    refine RO.post_bind hs (ro_getThis hs) (fun o ho => ?_)
    cases o with
    | none => exact Hoare.err _ hs
    | some t => exact Hoare.pure hs (ho t rfl)
  | memberDot _ _ i hcr =>
    refine Hoare.bind (ih.eval r s hcr hs) (fun rv s1 hs1 _ hrv => ?_)
    exact Hoare.pure hs1 hrv
  | memberIdx _ _ _ hcr hci =>
    refine Hoare.bind (ih.eval r s hcr hs) (fun rv s1 hs1 _ hrv => ?_)
    refine Hoare.bind (ih.eval idx s1 hci hs1) (fun iv s2 hs2 e2 hiv => ?_)
    have hrv2 : rv < s2.heap.size := Nat.lt_of_lt_of_le hrv e2.size
    refine Hoare.getCell_of_lt hrv2 (fun c hc => ?_)
    cases c with
    | arr items =>
      dsimp only
      refine Hoare.getCell_of_lt hiv (fun c2 hc2 => ?_)
      cases c2 with
      | num x => exact Hoare.pure hs2 hrv2
      | _ => exact Hoare.err _ hs2
    | hm vals order =>
      dsimp only
      refine Hoare.getCell_of_lt hiv (fun c2 hc2 => ?_)
      cases c2 with
      | num x => exact Hoare.pure hs2 hrv2
      | str t => exact Hoare.pure hs2 hrv2
      | _ => exact Hoare.err _ hs2
    | _ => exact Hoare.err _ hs2

theorem allV : ∀ n : Nat, AllV ν n
  | 0 => ⟨fun _ _ _ hs => vpost_iff.2 (.fuel hs), fun _ _ _ _ _ _ _ _ hs => vpost_iff.2 (.fuel hs)⟩
  | n+1 => ⟨fun e s hc hs => vpost_iff.2 (evalExpr_succ n (allV n) e s hc hs),
    fun l rt r mt mid idx s hc hs => vpost_iff.2 (memberIV_succ n (allV n) l rt r mt mid idx s hc hs)⟩

end ZnVerif.Proofs.VarInput
