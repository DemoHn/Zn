/-
Helper lemmas for C14: the directive machine of `parseNumberFormatter` (table regenerated from the Go
switch) against the documented grammar `[+]?(.D+)?[E%]?`.
-/
import ZnVerif.Model.Format
import ZnVerif.Proofs.Template

namespace ZnVerif.Proofs.Directive
open ZnVerif.Model.Format ZnVerif.Generated
open ZnVerif.Spec.Template
open ZnVerif.Proofs.Template (isDigit_iff takeDigits_spec parseFrac_nodot parseDirective_noplus)

/-- the double switch written out: states 1 begin, 2 after `+`, 3 after `.`, 6 after a precision digit,
4 after `E`, 5 after `%` -/
def refLookup (st ch : Nat) : Option DirAct :=
  if ch = 0x2B then (if st = 1 then some (.setFlag 2 0) else none)
  else if ch = 0x2E then (if st = 1 ∨ st = 2 then some (.setFlag 3 1) else none)
  else if ch = 0x45 then (if st = 1 ∨ st = 2 ∨ st = 6 then some (.setFlag 4 2) else none)
  else if ch = 0x25 then (if st = 1 ∨ st = 2 ∨ st = 6 then some (.setFlag 5 3) else none)
  else if 0x30 ≤ ch ∧ ch ≤ 0x39 then (if st = 3 ∨ st = 6 then some (.digit 6) else none)
  else none

theorem dirLookup_eq_ref (st ch : Nat) : dirLookup st ch = refLookup st ch := by
  unfold dirLookup refLookup
  -- the rows of `FormatDFA.dirCases` one character at a time (`+ . E %`), then the digit range
  simp only [FormatDFA.dirCases, FormatDFA.dirDigitLo, FormatDFA.dirDigitHi, FormatDFA.dirDigitFrom,
    FormatDFA.dirDigitTo, List.find?, List.contains_cons, List.contains_nil]
  by_cases h1 : ch = 0x2B
  · subst h1; by_cases a : st = 1 <;> simp [a]
  by_cases h2 : ch = 0x2E
  · subst h2; by_cases a : st = 1 <;> by_cases b : st = 2 <;> simp [a, b]
  by_cases h3 : ch = 0x45
  · subst h3; by_cases a : st = 1 <;> by_cases b : st = 2 <;> by_cases c : st = 6 <;> simp [a, b, c]
  by_cases h4 : ch = 0x25
  · subst h4; by_cases a : st = 1 <;> by_cases b : st = 2 <;> by_cases c : st = 6 <;> simp [a, b, c]
  have e1 : (ch == 0x2B) = false := by simp [h1]
  have e2 : (ch == 0x2E) = false := by simp [h2]
  have e3 : (ch == 0x45) = false := by simp [h3]
  have e4 : (ch == 0x25) = false := by simp [h4]
  by_cases a : st = 3 <;> by_cases c : st = 6 <;> simp [e1, e2, e3, e4, h1, h2, h3, h4, a, c]

theorem dirStep_ref (s : DirSt) (ch : Nat) : dirStep s ch =
    match refLookup s.state ch with
    | none => none
    | some (.setFlag to flag) => some { s.setFlag flag with state := to }
    | some (.digit to) =>
      if s.prec * 10 + (ch - 0x30) > 1000000 then none
      else some { s with state := to, prec := s.prec * 10 + (ch - 0x30) } := by
  unfold dirStep; rw [dirLookup_eq_ref]; rfl

/-- the final machine state that stands for a directive -/
def stateOf (d : Directive) : DirSt where
  state := match d.style with
    | .sci => 4
    | .percent => 5
    | .plain => match d.prec with
      | some _ => 6
      | none => if d.plus then 2 else 1
  prec := match d.prec with
    | some p => p
    | none => 0
  plus := d.plus
  fixed := d.prec.isSome
  sci := decide (d.style = .sci)
  pct := decide (d.style = .percent)

/-- the loop followed by the check after it -/
def run (s : DirSt) (d : List Nat) : Option DirSt :=
  (dirLoop s d).filter (fun s => !FormatDFA.dirRejectFinal.contains s.state)

theorem run_nil (s : DirSt) : run s [] = if s.state = 3 then none else some s := by
  simp [run, dirLoop, FormatDFA.dirRejectFinal, Option.filter]

theorem run_cons (s : DirSt) (c : Nat) (r : List Nat) :
    run s (c :: r) = match dirStep s c with
      | none => none
      | some s' => run s' r := by
  simp only [run, dirLoop]
  cases dirStep s c <;> simp

/-- the style a suffix stands for: nothing, `E`, or `%` -/
def styleOf : List Nat → Option Style
  | [] => some .plain
  | [c] => if c = 0x45 then some .sci else if c = 0x25 then some .percent else none
  | _ => none

theorem parseSuffix_eq (plus : Bool) (prec : Option Nat) : ∀ l : List Nat,
    parseSuffix plus prec l = (styleOf l).map (⟨plus, prec, ·⟩)
  | [] | _ :: _ :: _ => rfl
  | [c] => by
    simp only [parseSuffix, styleOf]
    by_cases h3 : c = 0x45
    · rw [if_pos h3, if_pos h3]; rfl
    · rw [if_neg h3, if_neg h3]; by_cases h4 : c = 0x25
      · rw [if_pos h4, if_pos h4]; rfl
      · rw [if_neg h4, if_neg h4]; rfl

/-- the limit looks at the precision only -/
theorem filter_suffix (plus : Bool) (prec : Option Nat) (l : List Nat) :
    (parseSuffix plus prec l).filter Directive.withinLimit =
      if (Directive.mk plus prec .plain).withinLimit then parseSuffix plus prec l else none := by
  rw [parseSuffix_eq]
  cases styleOf l with
  | none => simp
  | some st =>
    have : (Directive.mk plus prec st).withinLimit = (Directive.mk plus prec .plain).withinLimit := rfl
    simp [Option.filter, this]

/-- the machine state after a suffix of the given style -/
def withStyle (s : DirSt) : Style → DirSt
  | .plain => s
  | .sci => { s with state := 4, sci := true }
  | .percent => { s with state := 5, pct := true }

theorem stateOf_style (plus : Bool) (prec : Option Nat) (st : Style) :
    stateOf ⟨plus, prec, st⟩ = withStyle (stateOf ⟨plus, prec, .plain⟩) st := by
  cases st <;> rfl

/-- from a state in which a suffix may come (1, 2, 6), on input that does not continue the part before the
suffix, the machine reads the suffix -/
theorem run_suffix (s : DirSt) (hs : s.state = 1 ∨ s.state = 2 ∨ s.state = 6) (rest : List Nat)
    (hplus : s.state = 1 → ∀ c r, rest = c :: r → c ≠ 0x2B)
    (hdot : s.state = 1 ∨ s.state = 2 → ∀ c r, rest = c :: r → c ≠ 0x2E)
    (hdig : s.state = 6 → ∀ c r, rest = c :: r → ¬ (0x30 ≤ c ∧ c ≤ 0x39)) :
    run s rest = (styleOf rest).map (withStyle s) := by
  match rest with
  | [] => rw [run_nil, if_neg (by omega)]; rfl
  | c :: r =>
    have hfin : ∀ s' : DirSt, s'.state = 4 ∨ s'.state = 5 → run s' r = if r = [] then some s' else none := by
      intro s' h
      cases r with
      | nil => rw [run_nil, if_neg (by omega)]; rfl
      | cons c' r' => rw [run_cons, dirStep_ref]; rcases h with h | h <;> simp [refLookup, h]
    rw [run_cons, dirStep_ref]
    by_cases h3 : c = 0x45
    · subst h3
      simp only [refLookup, hs, DirSt.setFlag]
      cases r <;> simp [hfin, styleOf, withStyle]
    by_cases h4 : c = 0x25
    · subst h4
      simp only [refLookup, hs, DirSt.setFlag]
      cases r <;> simp [hfin, styleOf, withStyle]
    have hnone : refLookup s.state c = none := by
      rcases hs with hs | hs | hs
      · simp [refLookup, hs, h3, h4, hplus hs c r rfl, hdot (.inl hs) c r rfl]
      · simp [refLookup, hs, h3, h4, hdot (.inr hs) c r rfl]
      · simp [refLookup, hs, h3, h4, hdig hs c r rfl]
    rw [hnone]
    cases r <;> simp [h3, h4, styleOf]

def decimalFrom (p : Nat) (ds : List Nat) : Nat := ds.foldl (fun a c => a * 10 + (c - 0x30)) p

theorem decimal_eq (ds : List Nat) : decimal ds = decimalFrom 0 ds := rfl

theorem decimalFrom_ge (ds : List Nat) : ∀ p, p ≤ decimalFrom p ds := by
  induction ds with
  | nil => intro p; simp [decimalFrom]
  | cons c ds ih =>
    intro p
    have := ih (p * 10 + (c - 0x30))
    simp only [decimalFrom, List.foldl_cons] at this ⊢
    omega

/-- the precision digits: the machine accumulates them and stops with an error as soon as the limit is passed,
which happens iff the whole number is above the limit -/
theorem run_digits (ds : List Nat) (hd : ∀ c ∈ ds, isDigit c = true) :
    ∀ (s : DirSt) (rest : List Nat), (s.state = 3 ∨ s.state = 6) → s.prec ≤ 1000000 →
    run s (ds ++ rest) =
      if decimalFrom s.prec ds > 1000000 then none
      else run { s with state := (if ds = [] then s.state else 6), prec := decimalFrom s.prec ds } rest := by
  induction ds with
  | nil =>
    intro s rest _ hp
    simp [decimalFrom]
    omega
  | cons c ds ih =>
    intro s rest hs hp
    have hc : 0x30 ≤ c ∧ c ≤ 0x39 := (isDigit_iff c).1 (hd c (by simp))
    have hl : refLookup s.state c = some (.digit 6) := by
      have h1 : c ≠ 0x2B := by omega
      have h2 : c ≠ 0x2E := by omega
      have h3 : c ≠ 0x45 := by omega
      have h4 : c ≠ 0x25 := by omega
      simp only [refLookup, h1, h2, h3, h4, hc, hs, and_self, if_true, if_false]
    rw [List.cons_append, run_cons, dirStep_ref, hl]
    have h2 : decimalFrom s.prec (c :: ds) = decimalFrom (s.prec * 10 + (c - 0x30)) ds := rfl
    have := decimalFrom_ge ds (s.prec * 10 + (c - 0x30))
    by_cases hlim : s.prec * 10 + (c - 0x30) > 1000000
    · simp only [if_pos hlim]
      rw [h2, if_pos (by omega)]
    · simp only [if_neg hlim]
      rw [ih (fun c hc => hd c (by simp [hc])) _ rest (Or.inr rfl) (Nat.le_of_not_gt hlim), h2]
      simp

theorem run_dot_nodigit (s : DirSt) (hs : s.state = 3) (rest : List Nat)
    (hnd : ∀ c r, rest = c :: r → ¬ (0x30 ≤ c ∧ c ≤ 0x39)) : run s rest = none := by
  match rest with
  | [] => rw [run_nil, if_pos hs]
  | c :: r => rw [run_cons, dirStep_ref]; simp [refLookup, hs, hnd c r rfl]

/-- the suffix phase of the spec in the machine's terms (sign and precision within the limit) -/
theorem suffix_spec (plus : Bool) (prec : Option Nat) (rest : List Nat)
    (hw : (Directive.mk plus prec .plain).withinLimit = true) :
    ((parseSuffix plus prec rest).filter Directive.withinLimit).map stateOf =
      (styleOf rest).map (withStyle (stateOf ⟨plus, prec, .plain⟩)) := by
  rw [filter_suffix, if_pos hw, parseSuffix_eq, Option.map_map]
  congr 1; funext st; exact stateOf_style plus prec st

theorem run_frac (plus : Bool) (l : List Nat) (hl : plus = false → ∀ c r, l = c :: r → c ≠ 0x2B) :
    run (stateOf ⟨plus, none, .plain⟩) l = ((parseFrac plus l).filter Directive.withinLimit).map stateOf := by
  by_cases hdot : ∃ r, l = 0x2E :: r
  · obtain ⟨r, rfl⟩ := hdot
    obtain ⟨h1, h2, h3⟩ := takeDigits_spec r
    have hnd : ∀ c r', (takeDigits r).2 = c :: r' → ¬ (0x30 ≤ c ∧ c ≤ 0x39) := by
      intro c r' hc hd
      have := h3 c r' hc
      rw [(isDigit_iff c).2 hd] at this
      cases this
    have e3 : dirStep (stateOf ⟨plus, none, .plain⟩) 0x2E = some ⟨3, 0, plus, true, false, false⟩ := by
      rw [dirStep_ref]; cases plus <;> rfl
    rw [run_cons, e3]
    simp only [parseFrac, if_true]
    conv => lhs; rw [h1]
    rw [run_digits _ h2 _ _ (Or.inl rfl) (by simp), ← decimal_eq]
    by_cases hds : (takeDigits r).1 = []
    · simp only [hds, ↓reduceIte]
      rw [show decimal [] = 0 from rfl, if_neg (by omega), run_dot_nodigit _ rfl _ hnd]
      rfl
    · simp only [hds, ↓reduceIte]
      by_cases hlim : decimal (takeDigits r).1 > 1000000
      · rw [if_pos hlim, filter_suffix,
          show Directive.withinLimit ⟨plus, some _, .plain⟩ = false from decide_eq_false (Nat.not_le_of_gt hlim)]
        rfl
      · rw [if_neg hlim, suffix_spec plus (some _) _ (decide_eq_true (Nat.le_of_not_gt hlim)),
          run_suffix _ (.inr (.inr rfl)) _ (by simp) (by simp) (fun _ => hnd)]
        cases plus <;> rfl
  · have hnd : ∀ c r, l = c :: r → c ≠ 0x2E := fun c r h hc => hdot ⟨r, by rw [h, hc]⟩
    rw [parseFrac_nodot plus l hnd, suffix_spec _ _ _ rfl]
    cases plus with
    | false => exact run_suffix _ (.inl rfl) _ (fun _ => hl rfl) (fun _ => hnd) (fun h => nomatch h)
    | true => exact run_suffix _ (.inr (.inl rfl)) _ (fun h => nomatch h) (fun _ => hnd) (fun h => nomatch h)

/-- the directive machine (loop + final check) accepts exactly the documented grammar within the precision
limit and ends in the state that stands for the parsed directive -/
theorem dirRun_eq (d : List Nat) :
    dirRun d = ((parseDirective d).filter Directive.withinLimit).map stateOf := by
  rw [show dirRun d = run (stateOf ⟨false, none, .plain⟩) d from rfl]
  by_cases hp : ∃ r, d = 0x2B :: r
  · obtain ⟨r, rfl⟩ := hp
    rw [run_cons, dirStep_ref, show parseDirective (0x2B :: r) = parseFrac true r by simp [parseDirective],
      ← run_frac true r (by simp)]
    rfl
  · have hne : ∀ c r, d = c :: r → c ≠ 0x2B := fun c r h hc => hp ⟨r, by rw [h, hc]⟩
    rw [parseDirective_noplus d hne, run_frac false d (fun _ => hne)]

/-- the documented triple as the four values the renderer reads -/
def flagsOf (d : Directive) : Bool × Option Nat × Bool × Bool :=
  (d.plus, d.prec, decide (d.style = .sci), decide (d.style = .percent))

theorem flags_stateOf (d : Directive) : (stateOf d).flags = flagsOf d := by
  obtain ⟨plus, prec, style⟩ := d
  cases prec <;> simp [stateOf, DirSt.flags, flagsOf]

/-- the accumulator never exceeds the limit (so the Go `int` holding it never exceeds 10·limit + 9 before the check):
a flag step leaves it alone, a digit step is refused beyond the limit -/
theorem dirStep_prec_le (s s' : DirSt) (ch : Nat) (hs : s.prec ≤ precLimit) (h : dirStep s ch = some s') :
    s'.prec ≤ precLimit := by
  rw [dirStep_ref] at h
  split at h
  · cases h
  · cases h
    have : ∀ flag, (s.setFlag flag).prec = s.prec := by
      intro flag; unfold DirSt.setFlag; split <;> (try split) <;> (try split) <;> rfl
    exact this _ ▸ hs
  · split at h
    · cases h
    · cases h; exact Nat.le_of_not_gt ‹_›

theorem dirLoop_prec_le : ∀ (d : List Nat) (s s' : DirSt), s.prec ≤ precLimit → dirLoop s d = some s' →
    s'.prec ≤ precLimit := by
  intro d
  induction d with
  | nil => intro s s' hs h; simp [dirLoop] at h; rw [← h]; exact hs
  | cons c r ih =>
    intro s s' hs h
    simp only [dirLoop] at h
    cases hst : dirStep s c with
    | none => simp [hst] at h
    | some s1 =>
      simp only [hst] at h
      exact ih s1 s' (dirStep_prec_le s s1 c hs hst) h

end ZnVerif.Proofs.Directive
