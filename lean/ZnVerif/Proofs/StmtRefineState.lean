/-
C02 refinement, the state relation: the model's flat symbol list with depth marks (runtime/scope.go)
against the spec's list of blocks (`BlocksRel`, with find / declare / set on both sides); globals against predefined
names, output, call stack (`StRel`, and `StRel.transfer` to carry it to another pair of states); the return slot (`slot`).
Then the relations of the statement simulation at a scope depth (`VRel`, `TRel`, `BRel`, the invariant `Inv`), the two
leaves that meet the scope operations (`simS_declare`, `simS_assign`) and the scope bracket (`simS_withScope`).
-/
import ZnVerif.Proofs.StmtRefineSim

set_option linter.unusedSectionVars false

namespace ZnVerif.Proofs
open ZnVerif.Model ZnVerif.Spec

variable {ν : Type} [NumOps ν] {ω : Addr → Option (SVal ν)} {h : Array (Cell ν)} {mid D : Int} {ds : List Int}
  {s s' : VM ν} {σ σ' : SState ν} {h0 : Array (Cell ν)}

/-- the return slot of the top frame (what `getReturnValue` answers) -/
def slot (s : VM ν) : Option Addr :=
  match s.stack with
  | fr :: _ => fr.ret
  | [] => none

theorem slot_eq_retSlot (s : VM ν) : slot s = ControlFlow.retSlot s := by
  unfold slot ControlFlow.retSlot; cases s.stack <;> rfl

theorem getReturnValue_eq (s : VM ν) : getReturnValue s = (.ok (slot s), s) := by
  rw [ControlFlow.getReturnValue_eq, slot_eq_retSlot]

/-- how a non-plain cell and the non-plain spec value it stands for are displayed alike -/
def OpaqueShow : Cell ν → SVal ν → Prop
  | .fn _, .fn _ => True
  | .fn _, .builtinFn _ => True
  | .cls name _ _ _, .cls name' => name = name'
  | .exc msg, .exc msg' => msg = msg'
  | _, _ => False

/-- a symbol and a binding: same name, same constness, the cell reads (as a scalar) as the value -/
structure SymRel (ω : Addr → Option (SVal ν)) (h : Array (Cell ν)) (sy : Sym) (b : Binding ν) : Prop where
  name : sy.name = b.name
  const : sy.isConst = b.const
  val : contentW ω 1 h sy.val = some b.val
  nopre : predefVal (ν := ν) sy.name = none

/-- the symbol list, cut into runs of equal depth `d :: ds` (strictly decreasing), against the blocks -/
inductive BlocksRel (ω : Addr → Option (SVal ν)) (h : Array (Cell ν)) : List Sym → List Int → List (List (Binding ν)) → Prop
  | nil : BlocksRel ω h [] [] []
  | cons {bs blk d ds rest env} : Forall2 (SymRel ω h) bs blk → (∀ sy ∈ bs, sy.depth = d) → (∀ d' ∈ ds, d' < d) →
      BlocksRel ω h rest ds env → BlocksRel ω h (bs ++ rest) (d :: ds) (blk :: env)

theorem BlocksRel.depth_mem : ∀ {syms ds env},
    BlocksRel ω h syms ds env → ∀ sy ∈ syms, sy.depth ∈ ds
  | _, _, _, .nil, _, hm => by cases hm
  | _, _, _, .cons _ hd _ rest, sy, hm => by
    rcases List.mem_append.1 hm with h1 | h2
    · rw [hd sy h1]; exact List.mem_cons_self
    · exact List.mem_cons_of_mem _ (rest.depth_mem sy h2)

theorem BlocksRel.heap {h' : Array (Cell ν)} (hle : HeapLe h h') : ∀ {syms ds env},
    BlocksRel ω h syms ds env → BlocksRel ω h' syms ds env
  | _, _, _, .nil => .nil
  | _, _, _, .cons hf hd hlt rest =>
    .cons (hf.imp fun _ _ r => ⟨r.name, r.const, contentW_heap hle r.val, r.nopre⟩) hd hlt (rest.heap hle)

theorem BlocksRel.inv {syms d ds env}
    (hb : BlocksRel ω h syms (d :: ds) env) :
    ∃ bs blk rest env', syms = bs ++ rest ∧ env = blk :: env' ∧ Forall2 (SymRel ω h) bs blk ∧
      (∀ sy ∈ bs, sy.depth = d) ∧ (∀ d' ∈ ds, d' < d) ∧ BlocksRel ω h rest ds env' := by
  generalize hl : d :: ds = dl at hb
  cases hb with
  | nil => cases hl
  | cons hf hdep hlt hrest => cases hl; exact ⟨_, _, _, _, rfl, rfl, hf, hdep, hlt, hrest⟩

theorem BlocksRel.block {syms ds env} {d : Int} (hlt : ∀ d' ∈ ds, d' < d) (hb : BlocksRel ω h syms ds env) :
    BlocksRel ω h syms (d :: ds) ([] :: env) :=
  .cons (bs := []) .nil (fun _ hm => nomatch hm) hlt hb

theorem BlocksRel.sym {sy b syms d ds blk env} (r : SymRel ω h sy b) (hd : sy.depth = d)
    (hb : BlocksRel ω h syms (d :: ds) (blk :: env)) : BlocksRel ω h (sy :: syms) (d :: ds) ((b :: blk) :: env) := by
  obtain ⟨bs, blk', rest, env', rfl, he, hf, hdep, hlt, hrest⟩ := hb.inv
  cases he
  exact .cons (bs := sy :: bs) (.cons r hf) (fun x hx => (List.mem_cons.1 hx).elim (fun e => e ▸ hd) (hdep x)) hlt hrest

/-- the relation is generated by: nothing; a new empty block; a symbol declared in the innermost block -/
theorem BlocksRel.symInduction {motive : ∀ syms ds env, BlocksRel ω h syms ds env → Prop}
    (nil : motive [] [] [] .nil)
    (block : ∀ {syms ds env d} (hlt : ∀ d' ∈ ds, d' < d) (hb : BlocksRel ω h syms ds env), motive syms ds env hb →
      motive syms (d :: ds) ([] :: env) (hb.block hlt))
    (sym : ∀ {sy b syms d ds blk env} (r : SymRel ω h sy b) (hd : sy.depth = d)
      (hb : BlocksRel ω h syms (d :: ds) (blk :: env)), motive syms (d :: ds) (blk :: env) hb →
      motive (sy :: syms) (d :: ds) ((b :: blk) :: env) (hb.sym r hd)) :
    ∀ {syms ds env} (hb : BlocksRel ω h syms ds env), motive syms ds env hb
  | _, _, _, .nil => nil
  | _, _, _, .cons (rest := rest) (d := d) (ds := ds) (env := env) hf hd hlt hrest => by
    have ih := BlocksRel.symInduction nil block sym hrest
    suffices ∀ {bs blk}, Forall2 (SymRel ω h) bs blk → (∀ sy ∈ bs, sy.depth = d) →
        ∃ hb, motive (bs ++ rest) (d :: ds) (blk :: env) hb from (this hf hd).2
    intro bs blk hf
    induction hf with
    | nil => exact fun _ => ⟨_, block hlt hrest ih⟩
    | cons r _ ih2 =>
      intro hd
      obtain ⟨hb, hm⟩ := ih2 fun x hx => hd x (List.mem_cons_of_mem _ hx)
      exact ⟨_, sym r (hd _ List.mem_cons_self) hb hm⟩

theorem findB_cons (name : String) (b : Binding ν) (blk : List (Binding ν)) (env : List (List (Binding ν))) :
    findB name ((b :: blk) :: env) = if b.name == name then some b else findB name (blk :: env) := by
  simp only [findB, List.find?]
  cases b.name == name <;> rfl

theorem BlocksRel.find (name : String) {syms ds env} (hb : BlocksRel ω h syms ds env) :
    match syms.find? (·.name == name), findB name env with
    | some sy, some b => SymRel ω h sy b
    | none, none => True
    | _, _ => False := by
  induction hb using BlocksRel.symInduction with
  | nil => trivial
  | block _ _ ih => exact ih
  | @sym sy b _ _ _ _ _ r _ _ ih =>
    rw [findB_cons, List.find?, r.name]
    cases b.name == name
    · exact ih
    · exact r

theorem scan_block (sc : Scope) (name : String) : ∀ {bs blk} (rest : List Sym),
    Forall2 (SymRel ω h) bs blk → (∀ sy ∈ bs, sy.depth = sc.depth) → (∀ sy ∈ rest, sy.depth < sc.depth) →
    Scope.declare.scan sc name (bs ++ rest) = blk.any (·.name == name)
  | _, _, [], .nil, _, _ => by simp [Scope.declare.scan]
  | _, _, sy :: rest, .nil, _, hr => by
    have := hr sy List.mem_cons_self
    simp [Scope.declare.scan, this]
  | sy :: bs, b :: blk, rest, .cons r hf, hd, hr => by
    have hdep : sy.depth = sc.depth := hd sy List.mem_cons_self
    have ih := scan_block sc name rest hf (fun x hx => hd x (List.mem_cons_of_mem _ hx)) hr
    have hn := r.name
    simp only [List.cons_append, Scope.declare.scan, hdep, Int.lt_irrefl, if_false, beq_self_eq_true, Bool.and_true,
      List.any_cons, ih, hn]
    cases (b.name == name) <;> simp

theorem BlocksRel.declare {ω : Addr → Option (SVal ν)} {h : Array (Cell ν)} {sc : Scope} {ds env}
    (hrel : BlocksRel ω h sc.syms (sc.depth :: ds) env) (name : String) (a : Addr) (v : SVal ν) (c : Bool) (ext : Option Int)
    (hv : contentW ω 1 h a = some v) (hpre : predefVal (ν := ν) name = none) :
    ∃ blk rest, env = blk :: rest ∧
      ((blk.any (·.name == name) = true ∧ sc.declare name a c ext = .error (.rt 43)) ∨
       (blk.any (·.name == name) = false ∧ ∃ sc', sc.declare name a c ext = .ok sc' ∧ sc'.depth = sc.depth ∧
          BlocksRel ω h sc'.syms (sc.depth :: ds) (({ name := name, const := c, val := v } :: blk) :: rest))) := by
  obtain ⟨bs, blk, rest, env', hs, rfl, hf, hdep, hlt, hrest⟩ := hrel.inv
  refine ⟨blk, env', rfl, ?_⟩
  unfold Scope.declare
  rw [hs, scan_block sc name rest hf hdep fun sy hsy => hlt _ (hrest.depth_mem sy hsy)]
  cases hany : blk.any (·.name == name)
  · refine .inr ⟨rfl, { sc with syms := { name := name, depth := sc.depth, isConst := c, ext := ext, val := a } :: (bs ++ rest) },
      by simp, rfl, ?_⟩
    exact .cons (bs := _ :: bs) (.cons ⟨rfl, rfl, hv, hpre⟩ hf)
      (fun sy hsy => (List.mem_cons.1 hsy).elim (fun e => e ▸ rfl) (hdep sy)) hlt hrest
  · exact .inl ⟨rfl, by simp⟩

/-- the spec's update function of `assignName` -/
def assignF (v : SVal ν) : Binding ν → Option (Binding ν) := fun b => if b.const then none else some { b with val := v }

/-- the binding goes back on the innermost block of an update's result -/
def consB (b : Binding ν) : Option (Option (List (List (Binding ν)))) → Option (Option (List (List (Binding ν))))
  | some (some (blk :: env)) => some (some ((b :: blk) :: env))
  | r => r

theorem updB_nilBlock (name : String) (f : Binding ν → Option (Binding ν)) (env : List (List (Binding ν))) :
    updB name f ([] :: env) = (updB name f env).map fun r => r.map ([] :: ·) := by
  simp only [updB, List.any_nil, Bool.false_eq_true, if_false]

theorem updB_cons (name : String) (f : Binding ν → Option (Binding ν)) (b : Binding ν) (blk : List (Binding ν))
    (env : List (List (Binding ν))) :
    updB name f ((b :: blk) :: env) =
      if b.name == name then some ((f b).map fun b' => (b' :: blk) :: env) else consB b (updB name f (blk :: env)) := by
  simp only [updB, List.any_cons, updB.go]
  by_cases e : (b.name == name) = true
  · simp only [e, Bool.true_or, if_true]
    cases f b <;> rfl
  · simp only [e, Bool.false_or]
    by_cases e2 : blk.any (·.name == name) = true
    · simp only [e2, if_true]
      cases updB.go name f blk <;> rfl
    · simp only [e2]
      rcases updB name f env with _ | _ | e <;> rfl

/-- `Scope.SetValue` against `updB` of `assignName` -/
inductive SetRel (ω : Addr → Option (SVal ν)) (h : Array (Cell ν)) (ds : List Int) :
    Option (Except Err (List Sym)) → Option (Option (List (List (Binding ν)))) → Prop
  | missing : SetRel ω h ds none none
  | const : SetRel ω h ds (some (.error (.rt 44))) (some none)
  | done {syms env} : BlocksRel ω h syms ds env → SetRel ω h ds (some (.ok syms)) (some (some env))

theorem BlocksRel.set (name : String) (a : Addr) (v : SVal ν)
    (hv : contentW ω 1 h a = some v) {syms ds env} (hb : BlocksRel ω h syms ds env) :
    SetRel ω h ds (Scope.set.go name a syms) (updB name (assignF v) env) := by
  induction hb using BlocksRel.symInduction with
  | nil => exact .missing
  | @block syms _ env _ hlt _ ih =>
    -- an empty block on top: the answer of the blocks below, under it
    rw [updB_nilBlock]
    generalize Scope.set.go name a syms = r1, updB name (assignF v) env = r2 at ih
    cases ih with
    | missing => exact .missing
    | const => exact .const
    | done hb' => exact .done (hb'.block hlt)
  | @sym sy b syms _ _ blk env r hd hb ih =>
    have e' : (sy.name == name) = (b.name == name) := by rw [r.name]
    rw [updB_cons, Scope.set.go, e']
    cases e : b.name == name
    · -- another name: the answer for the symbols below, this one put back on top
      simp only [Bool.false_eq_true, if_false]
      generalize Scope.set.go name a syms = r1, updB name (assignF v) (blk :: env) = r2 at ih
      cases ih with
      | missing => exact .missing
      | const => exact .const
      | done hb' =>
        obtain ⟨_, _, _, _, _, rfl, _⟩ := hb'.inv
        exact .done (hb'.sym r hd)
    · -- the name: refused when constant, else symbol and binding get the new value
      simp only [if_true, assignF, r.const]
      cases hc : b.const
      · exact .done (hb.sym ⟨r.name, rfl, hv, r.nopre⟩ hd)
      · exact .const

/-- no symbol has a predefined name -/
theorem BlocksRel.set_predefined {name : String} {pv : SVal ν} (hp : predefVal name = some pv) (a : Addr) {syms ds env}
    (hb : BlocksRel ω h syms ds env) : Scope.set.go name a syms = none := by
  induction hb using BlocksRel.symInduction with
  | nil => rfl
  | block _ _ ih => exact ih
  | @sym sy _ _ _ _ _ _ r _ _ ih =>
    have e : (sy.name == name) = false := by
      refine beq_false_of_ne fun e => ?_
      have := r.nopre
      rw [e, hp] at this; cases this
    simp only [Scope.set.go, e, Bool.false_eq_true, if_false, ih]

/-- the state relation: the machine `s`, running in module `mid` at scope depth `D` over the outer levels `ds`, against the
spec state `σ` — globals ↔ predefined names, the module's symbols ↔ the blocks of `σ.env`, a call stack whose top frame is
`mid`'s, the same output; `display` and `ωok` are what the display call needs (显示 is the display method; a non-plain cell
shows as the value `ω` gives for it) -/
structure StRel (ω : Addr → Option (SVal ν)) (mid : Int) (D : Int) (ds : List Int) (s : VM ν) (σ : SState ν) : Prop where
  cs : s.csModuleID = mid
  globals : ∀ name, match lookup name s.globals, predefVal (ν := ν) name with
    | some a, some v => contentW ω 1 s.heap a = some v
    | none, none => True
    | _, _ => False
  scope : ∃ sc, getScope s.csModuleID s = some sc ∧ sc.depth = D ∧ BlocksRel ω s.heap sc.syms (D :: ds) σ.env
  stack : ∃ fr rest, s.stack = fr :: rest ∧ fr.moduleId = s.csModuleID
  out : s.out = σ.out
  display : ∃ a, lookup "显示" s.globals = some a ∧ s.heap[a]? = some (.fn .display)
  ωok : ∀ a v, ω a = some v → isOpaque v = true → ∃ c, s.heap[a]? = some c ∧ OpaqueShow c v

theorem StRel.envRel (h : StRel ω mid D ds s σ) : EnvRel ω 0 s σ := by
  intro name
  have hg := h.globals name
  obtain ⟨sc, hsc, _, hb⟩ := h.scope
  have hf := BlocksRel.find name hb
  simp only [visible, specVisible, hsc, Scope.find]
  cases h1 : lookup name s.globals <;> cases h2 : predefVal (ν := ν) name <;> simp only [h1, h2] at hg ⊢
  · cases h3 : sc.syms.find? (·.name == name) <;> cases h4 : findB name σ.env <;> simp only [h3, h4] at hf ⊢
    exact hf.val
  · exact hg

theorem StRel.transfer (h : StRel ω mid D ds s σ) {D' : Int} {ds' : List Int} (hle : HeapLe s.heap s'.heap)
    (hg : s'.globals = s.globals) (hcs : s'.csModuleID = s.csModuleID)
    (hsc : ∃ sc, getScope s'.csModuleID s' = some sc ∧ sc.depth = D' ∧ BlocksRel ω s'.heap sc.syms (D' :: ds') σ'.env)
    (hst : ∃ fr rest, s'.stack = fr :: rest ∧ fr.moduleId = s'.csModuleID) (hout : s'.out = σ'.out) :
    StRel ω mid D' ds' s' σ' := by
  refine ⟨hcs.trans h.cs, fun name => ?_, hsc, hst, hout, ?_, fun a v h1 h2 => ?_⟩
  · have := h.globals name
    rw [hg]
    cases h1 : lookup name s.globals <;> cases h2 : predefVal (ν := ν) name <;> simp only [h1, h2] at this ⊢
    exact contentW_heap hle this
  · obtain ⟨a, h1, h2⟩ := h.display
    exact ⟨a, by rw [hg]; exact h1, hle _ _ h2⟩
  · obtain ⟨c, h3, h4⟩ := h.ωok a v h1 h2
    exact ⟨c, hle _ _ h3, h4⟩

theorem StRel.frame (h : StRel ω mid D ds s σ) (hF : Frame s s') : StRel ω mid D ds s' σ := by
  have hsame := hF.same
  obtain ⟨sc, h1, h2, h3⟩ := h.scope
  refine h.transfer hF.le (by rw [hsame]) (by rw [hsame]) ⟨sc, ?_, h2, h3.heap hF.le⟩ ?_ ?_
  · rw [hsame]; exact h1
  · rw [hsame]; exact h.stack
  · rw [hsame]; exact h.out

theorem StRel.rescope (h : StRel ω mid D ds s σ) (sc : Scope) {D' : Int} {ds' : List Int}
    (hd : sc.depth = D') (hb : BlocksRel ω s.heap sc.syms (D' :: ds') σ'.env) (hout : σ'.out = σ.out) :
    StRel ω mid D' ds' (putScope s.csModuleID sc s) σ' :=
  h.transfer (by rw [Calls.putScope_heap]; exact HeapLe.refl _) (Calls.putScope_globals ..) (Calls.putScope_cs ..)
    ⟨sc, by rw [Calls.putScope_cs, Calls.getScope_putScope_same], hd, by rw [Calls.putScope_heap]; exact hb⟩
    (by rw [Calls.putScope_stack, Calls.putScope_cs]; exact h.stack) (by rw [Calls.putScope_out, hout]; exact h.out)

theorem slot_frame {s s' : VM ν} (hF : Frame s s') : slot s' = slot s := by
  have : s'.stack = s.stack := by rw [hF.same]
  simp only [slot, this]

theorem predefined_contains (name : String) : predefined.contains name = (predefVal (ν := ν) name).isSome := by
  unfold predefVal
  split <;> simp_all [predefined]

/-- normal completion: states related, nothing returned yet, heap only extended since `h0` -/
def VRel {α α' : Type} (ω : Addr → Option (SVal ν)) (mid : Int) (D : Int) (ds : List Int) (h0 : Array (Cell ν))
    (P : Array (Cell ν) → α → α' → Prop) : VM ν → SState ν → α → α' → Prop :=
  fun s σ a v => StRel ω mid D ds s σ ∧ HeapLe h0 s.heap ∧ slot s = none ∧ P s.heap a v

/-- 输出 executed: the slot holds a cell that reads as the returned value -/
def TRel {α : Type} (ω : Addr → Option (SVal ν)) (mid : Int) (D : Int) (ds : List Int) (h0 : Array (Cell ν)) :
    VM ν → SState ν → α → SVal ν → Prop :=
  fun s σ _ v => StRel ω mid D ds s σ ∧ HeapLe h0 s.heap ∧ ∃ a, slot s = some a ∧ ∃ k, contentW ω k s.heap a = some v

/-- after 结束循环 / 继续循环 -/
def BRel (ω : Addr → Option (SVal ν)) (mid : Int) (D : Int) (ds : List Int) (h0 : Array (Cell ν)) : VM ν → SState ν → Prop :=
  fun s σ => StRel ω mid D ds s σ ∧ HeapLe h0 s.heap ∧ slot s = none

/-- the invariant between statements of the fragment: what `BRel` asks after a loop signal -/
def Inv (ω : Addr → Option (SVal ν)) (mid : Int) (D : Int) (ds : List Int) (h0 : Array (Cell ν)) : VM ν → SState ν → Prop :=
  BRel ω mid D ds h0

theorem slot_of_stack {s s' : VM ν} (h : s'.stack = s.stack) : slot s' = slot s := by simp only [slot, h]

section
variable {ω : Addr → Option (SVal ν)} {mid : Int} {D D' : Int} {ds ds' : List Int} {h0 : Array (Cell ν)}
  {s s' : VM ν} {σ σ' : SState ν}

theorem Inv.frame (h : Inv ω mid D ds h0 s σ) (hF : Frame s s') : Inv ω mid D ds h0 s' σ :=
  ⟨h.1.frame hF, h.2.1.trans hF.le, by rw [slot_frame hF]; exact h.2.2⟩

theorem Inv.same (h : Inv ω mid D ds h0 s σ) (hst : StRel ω mid D' ds' s' σ') (hh : s'.heap = s.heap)
    (hs : s'.stack = s.stack) : Inv ω mid D' ds' h0 s' σ' :=
  ⟨hst, by rw [hh]; exact h.2.1, by rw [slot_of_stack hs]; exact h.2.2⟩

end

theorem simS_declare {T B}
    (hinv : Inv ω mid D ds h0 s σ) (name : String) (a : Addr) (v : SVal ν) (c : Bool)
    (hv : contentW ω 1 s.heap a = some v) :
    SimS (fun s' σ' (_ _ : Unit) => Inv ω mid D ds h0 s' σ' ∧ s'.heap = s.heap ∧ predefined.contains name = false) T B s σ
      (declareElement name a c) (declare name v c) := by
  have hst := hinv.1
  obtain ⟨sc, hsc, hD, hb⟩ := hst.scope
  have hg := hst.globals name
  have hcon := predefined_contains (ν := ν) name
  unfold SimS declareElement Spec.declare
  simp only [Calls.M_bind_def, currentScope, hsc, getVM]
  cases h1 : lookup name s.globals <;> cases h2 : predefVal (ν := ν) name <;> simp only [h1, h2] at hg
  · -- not predefined
    simp only [h2, Option.isSome_none] at hcon
    simp only [hcon, Bool.false_eq_true, if_false, SM.bind_def, getS]
    subst hD
    obtain ⟨blk, rest, henv, hcase⟩ := hb.declare name a v c none hv h2
    rw [henv]
    simp only
    rcases hcase with ⟨hany, hdecl⟩ | ⟨hany, sc', hdecl, hdep, hrel⟩
    · rw [hdecl, hany]
      exact .inr (.inr (.inr (.rt 43)))
    · rw [hdecl, hany]
      simp only [Bool.false_eq_true, if_false, putCurrentScope, modifyVM, modS]
      exact .inr (.inr (.inr (.ok ⟨hinv.same (hst.rescope sc' hdep hrel rfl) (Calls.putScope_heap ..) (Calls.putScope_stack ..),
        Calls.putScope_heap .., trivial⟩)))
  · -- predefined
    simp only [h2, Option.isSome_some] at hcon
    simp only [hcon, if_true]
    exact .inr (.inr (.inr (.rt 43)))

theorem simS_assign {T B}
    (hinv : Inv ω mid D ds h0 s σ) (name : String) (a : Addr) (v : SVal ν)
    (hv : contentW ω 1 s.heap a = some v) :
    SimS (fun s' σ' (_ _ : Unit) => Inv ω mid D ds h0 s' σ' ∧ s'.heap = s.heap) T B s σ
      (setElement name a) (if predefined.contains name then fault 42 else assignName name v) := by
  have hst := hinv.1
  obtain ⟨sc, hsc, hD, hb⟩ := hst.scope
  have hcon := predefined_contains (ν := ν) name
  unfold SimS setElement Spec.assignName
  simp only [Calls.M_bind_def, currentScope, hsc, Scope.set]
  cases h2 : predefVal (ν := ν) name
  · simp only [h2, Option.isSome_none] at hcon
    simp only [hcon, Bool.false_eq_true, if_false, SM.bind_def, getS]
    -- the two updates answer alike (`SetRel`): no such name ↔ error 42, a constant ↔ 44, done ↔ related scopes
    have hset := hb.set name a v hv
    change SetRel ω s.heap (D :: ds) (Scope.set.go name a sc.syms)
      (updB name (fun b => if b.const then none else some { b with val := v }) σ.env) at hset
    generalize Scope.set.go name a sc.syms = r1, updB name (fun b => if b.const then none else some { b with val := v }) σ.env = r2 at hset
    cases hset with
    | missing => exact .inr (.inr (.inr (.rt 42)))
    | const => exact .inr (.inr (.inr (.rt 44)))
    | done hrel =>
      rename_i syms env
      simp only [putCurrentScope, modifyVM, modS]
      exact .inr (.inr (.inr (.ok ⟨hinv.same (hst.rescope _ hD hrel rfl) (Calls.putScope_heap ..) (Calls.putScope_stack ..),
        Calls.putScope_heap ..⟩)))
  · simp only [h2, Option.isSome_some] at hcon
    simp only [hcon, if_true]
    rw [hb.set_predefined h2 a]
    exact .inr (.inr (.inr (.rt 42)))

/-! ### blocks: `withScope` against `withBlock` -/

theorem withBlock_eq {α} (body : SM ν α) (σ : SState ν) :
    withBlock body σ = ((body { σ with env := [] :: σ.env }).1,
      { (body { σ with env := [] :: σ.env }).2 with env := (body { σ with env := [] :: σ.env }).2.env.drop 1 }) := by
  simp only [withBlock, SM.bind_def, modS, catchR, sfail]

theorem BlocksRel.lt {syms d ds env}
    (hb : BlocksRel ω h syms (d :: ds) env) : ∀ d' ∈ ds, d' < d := by
  obtain ⟨_, _, _, _, _, _, _, _, hlt, _⟩ := hb.inv
  exact hlt

theorem BlocksRel.open {syms d ds env}
    (hb : BlocksRel ω h syms (d :: ds) env) {d' : Int} (hd : d < d') : BlocksRel ω h syms (d' :: d :: ds) ([] :: env) :=
  hb.block fun x hx => by
    rcases List.mem_cons.1 hx with rfl | hx
    · exact hd
    · exact Int.lt_trans (hb.lt x hx) hd

theorem StRel.push (h : StRel ω mid D ds s σ)
    (sc : Scope) (hsc : getScope s.csModuleID s = some sc) :
    StRel ω mid (D+1) (D :: ds) (putScope s.csModuleID sc.beginScope s) { σ with env := [] :: σ.env } := by
  obtain ⟨sc', hsc', hD, hb⟩ := h.scope
  rw [hsc] at hsc'; cases hsc'
  exact h.rescope sc.beginScope (by simp [Scope.beginScope, hD]) (hb.open (by omega)) rfl

theorem StRel.pop (h : StRel ω mid (D+1) (D :: ds) s σ) :
    StRel ω mid D ds (Calls.endScopeOf s.csModuleID s) { σ with env := σ.env.drop 1 } := by
  obtain ⟨sc, hsc, hD, hb⟩ := h.scope
  unfold Calls.endScopeOf
  rw [hsc]
  obtain ⟨bs, blk, rest, env, hs, henv, hf, hdep, hlt, hrest⟩ := hb.inv
  -- `endScope` drops exactly the symbols of the innermost level
  have hdrop : sc.endScope.syms = rest := by
    simp only [Scope.endScope, hs, hD, Int.add_sub_cancel]
    rw [List.dropWhile_append_of_pos fun x hx => by simp [hdep x hx]; omega]
    refine dropWhile_eq_self fun x hx => ?_
    have hle : x.depth ≤ D := by
      rcases List.mem_cons.1 (hrest.depth_mem x hx) with e | e
      · rw [e]; exact Int.le_refl _
      · exact Int.le_of_lt (hrest.lt _ e)
    simp only [decide_eq_false_iff_not, Int.not_lt]
    exact hle
  refine h.rescope sc.endScope (by simp [Scope.endScope, hD]) ?_ rfl
  rw [hdrop, henv]; exact hrest

theorem simS_withScope {α α' : Type} {ω : Addr → Option (SVal ν)} {mid : Int} {D ds} {h0 : Array (Cell ν)}
    {P : Array (Cell ν) → α → α' → Prop} {s : VM ν} {σ : SState ν} {body : M ν α} {body' : SM ν α'}
    (hinv : Inv ω mid D ds h0 s σ)
    (hbody : ∀ s1 σ1, Inv ω mid (D+1) (D :: ds) h0 s1 σ1 →
      SimS (VRel ω mid (D+1) (D :: ds) h0 P) (TRel ω mid (D+1) (D :: ds) h0) (BRel ω mid (D+1) (D :: ds) h0) s1 σ1 body body') :
    SimS (VRel ω mid D ds h0 P) (TRel ω mid D ds h0) (BRel ω mid D ds h0) s σ (withScope body) (withBlock body') := by
  have hst := hinv.1
  obtain ⟨sc, hsc, _, _⟩ := hst.scope
  obtain ⟨r, s2, r', σ2, hm, hm', hb⟩ :=
    simS_elim (hbody _ _ (hinv.same (hst.push sc hsc) (Calls.putScope_heap ..) (Calls.putScope_stack ..)))
  refine simS_intro (by rw [Calls.withScope_some body s sc hsc, hm]) (by rw [withBlock_eq, hm']) ?_
  rcases hb with hb | hb | hb | hb
  · exact .inl hb
  · exact .inr (.inl hb)
  · exact .inr (.inr (.inl hb))
  · refine .inr (.inr (.inr ?_))
    have e1 : (Calls.endScopeOf s.csModuleID s2).heap = s2.heap := Calls.endScopeOf_heap ..
    have hslot : slot (Calls.endScopeOf s.csModuleID s2) = slot s2 := slot_of_stack (Calls.endScopeOf_stack ..)
    -- leaving the scope: the states are related one level up, heap and slot are those after the body
    have pop : ∀ {s2 σ2}, StRel ω mid (D+1) (D :: ds) s2 σ2 →
        StRel ω mid D ds (Calls.endScopeOf s.csModuleID s2) { σ2 with env := σ2.env.drop 1 } := fun h1 => by
      rw [hst.cs.trans h1.cs.symm]; exact h1.pop
    cases hb with
    | ok h => exact .ok ⟨pop h.1, by rw [e1]; exact h.2.1, by rw [hslot]; exact h.2.2.1, by rw [e1]; exact h.2.2.2⟩
    | ret h =>
      obtain ⟨h1, h2, a, h3, h4⟩ := h
      exact .ret ⟨pop h1, by rw [e1]; exact h2, a, by rw [hslot]; exact h3, by rw [e1]; exact h4⟩
    | brk h => exact .brk ⟨pop h.1, by rw [e1]; exact h.2.1, by rw [hslot]; exact h.2.2⟩
    | cont h => exact .cont ⟨pop h.1, by rw [e1]; exact h.2.1, by rw [hslot]; exact h.2.2⟩
    | rt c => exact .rt c
    | sem c => exact .sem c

end ZnVerif.Proofs
