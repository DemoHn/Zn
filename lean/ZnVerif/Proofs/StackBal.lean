/-
Call-stack discipline of the evaluator model, part 1: the vocabulary (`SameStack`, `Ext`, `CsInv`) and `Quiet`.
`Quiet m` — `m` leaves the call stack and the current module alone and never ends with a loop signal: every function
outside the mutual block except the frame primitives.  The operations that touch nothing but the heap take it from
`Leaf` (Proofs/LeafEffects.lean); `Quiet` is a class and what is known operation by operation are its instances.
(`isSig` / `resIsSig`, "is a loop signal", belong to the vocabulary and are stated in Proofs/LeafEffects.lean.)
The judgments over this vocabulary (`Bal`, `BalNS`, `BalIn`) and the general `Fr` / `FrIn`, with which the induction is run, are
defined in Proofs/StackBalRules.lean.
-/
import ZnVerif.Proofs.Handlers
import ZnVerif.Proofs.LeafEffects
set_option linter.unusedSectionVars false

namespace ZnVerif.Proofs.StackBal
open ZnVerif.Model ZnVerif.Proofs.Calls

variable {ν : Type} [NumOps ν]

def resIsOk {α} : Res α → Bool
  | .ok _ => true
  | _ => false

def okOrSig {α} (r : Res α) : Bool := resIsOk r || resIsSig r

/-- a frame without the marks statements update in place: `line`, `ret`, `started` -/
def core (fr : Frame) : Frame := { fr with line := 0, ret := none, started := false }

theorem core_eq_iff {f f' : Frame} :
    core f' = core f ↔ f'.moduleId = f.moduleId ∧ f'.callType = f.callType ∧ f'.this = f.this := by
  cases f; cases f'; simp [core]

def norm : List Frame → List Frame
  | [] => []
  | f :: r => core f :: r

/-- the same stack up to the marks (`line` / `ret` / `started`) of the top frame; the frames below are literally the
same -/
def SameStack (st st' : List Frame) : Prop := norm st' = norm st

/-- frames are only added above: `st'` is `st` (up to the marks of what was its top frame) with `extra` on top -/
def Ext (st st' : List Frame) : Prop := ∃ extra base, st' = extra ++ base ∧ norm base = norm st

/-- the current module is the module of the frame on top (−1 without frames) -/
def CsInv (s : VM ν) : Prop := s.csModuleID = topModule s.stack

theorem norm_length (st : List Frame) : (norm st).length = st.length := by cases st <;> rfl

theorem norm_cons_eq {f : Frame} {r : List Frame} {st : List Frame} (h : norm st = norm (f :: r)) :
    ∃ f', st = f' :: r ∧ core f' = core f := by
  cases st with
  | nil => cases h
  | cons f' r' =>
    simp only [norm, List.cons.injEq] at h
    exact ⟨f', by rw [h.2], h.1⟩

theorem topModule_norm {st st' : List Frame} (h : norm st' = norm st) : topModule st' = topModule st := by
  cases st with
  | nil => cases st' with
    | nil => rfl
    | cons _ _ => cases h
  | cons f r =>
    obtain ⟨f', rfl, hc⟩ := norm_cons_eq h
    have : (core f').moduleId = (core f).moduleId := by rw [hc]
    exact this

theorem SameStack.refl (st : List Frame) : SameStack st st := rfl
theorem Ext.refl (st : List Frame) : Ext st st := ⟨[], st, rfl, rfl⟩

theorem Ext.cons (fr : Frame) (a : List Frame) : Ext a (fr :: a) := ⟨[fr], a, rfl, rfl⟩

theorem Ext.of_cons {f : Frame} {r st' : List Frame} (h : Ext (f :: r) st') :
    ∃ extra f', st' = extra ++ f' :: r ∧ f'.moduleId = f.moduleId ∧ f'.callType = f.callType ∧ f'.this = f.this := by
  obtain ⟨extra, base, h1, h2⟩ := h
  obtain ⟨f', rfl, hc⟩ := norm_cons_eq h2
  exact ⟨extra, f', h1, core_eq_iff.1 hc⟩

theorem Ext.length {a b : List Frame} (h : Ext a b) : a.length ≤ b.length := by
  obtain ⟨e, base, rfl, hb⟩ := h
  have := congrArg List.length hb
  rw [norm_length, norm_length] at this
  simp; omega

/-- A judgment on computations.  `ControlFlow.Quiet sr s'` (Proofs/ControlFlow.lean) is another notion under the same word: a relation
between two states of one run that also says that nothing was displayed and no existing cell written. -/
structure Quiet {α} (m : M ν α) : Prop where
  stack : ∀ s, (m s).2.stack = s.stack
  cs : ∀ s, (m s).2.csModuleID = s.csModuleID
  nosig : ∀ s, resIsSig (m s).1 = false

/- `Quiet m` is looked up by instance resolution, like `Leaf` and `Balance.Pres`: the operations are instances. -/
attribute [class] Quiet

section quiet
variable {α β : Type}

theorem Quiet.ofRuns {w} {m : M ν α} (h : Leaf.Runs w m) : Quiet m :=
  ⟨fun s => (congrArg VM.stack (h.step s).frame : _), fun s => (congrArg VM.csModuleID (h.step s).frame : _), h.nosig⟩

theorem Quiet.ofLeaf {m : M ν α} (h : Leaf.Leaf none m) : Quiet m := .ofRuns (h.runs none)

theorem Quiet.pure (a : α) : Quiet (pure a : M ν α) := ⟨fun _ => rfl, fun _ => rfl, fun _ => rfl⟩
theorem Quiet.bind {m : M ν α} {f : α → M ν β} (hm : Quiet m) (hf : ∀ a, Quiet (f a)) : Quiet (m >>= f) := by
  refine ⟨fun s => ?_, fun s => ?_, fun s => ?_⟩ <;>
  · rw [M_bind_def]
    have h1 := hm.stack s; have h2 := hm.cs s; have h3 := hm.nosig s
    rcases h : m s with ⟨r, s'⟩
    rw [h] at h1 h2 h3
    cases r <;> simp only <;> first
      | exact h1 | exact h2 | exact h3
      | (rw [(hf _).stack s']; exact h1) | (rw [(hf _).cs s']; exact h2) | exact (hf _).nosig s'
theorem Quiet.tryCatch {m : M ν α} {k : Res α → M ν β} (hm : Quiet m) (hk : ∀ r, Quiet (k r)) :
    Quiet (Model.tryCatch m k) :=
  ⟨fun s => by unfold Model.tryCatch; rw [(hk _).stack, hm.stack],
   fun s => by unfold Model.tryCatch; rw [(hk _).cs, hm.cs],
   fun s => by unfold Model.tryCatch; exact (hk _).nosig _⟩
theorem Quiet.const (r : Res α) (h : resIsSig r = false) : Quiet (fun s => (r, s) : M ν α) :=
  ⟨fun _ => rfl, fun _ => rfl, fun _ => h⟩
theorem Quiet.rtErr (c : Nat) : Quiet (rtErr c : M ν α) := Quiet.const _ rfl
theorem Quiet.goPanic : Quiet (goPanic : M ν α) := Quiet.const _ rfl
theorem Quiet.outOfFuel : Quiet (outOfFuel : M ν α) := Quiet.const _ rfl
theorem Quiet.notModelled : Quiet (notModelled : M ν α) := Quiet.const _ rfl
theorem Quiet.throwExcErr (a : Addr) : Quiet (throwE (.excErr a) : M ν α) := Quiet.const _ rfl
theorem Quiet.throwE {e : Err} (h : isSig e = false) : Quiet (Model.throwE e : M ν α) := Quiet.const _ h
theorem Quiet.ofOk {m : M ν α} (h1 : ∀ s, (m s).2.stack = s.stack) (h2 : ∀ s, (m s).2.csModuleID = s.csModuleID)
    (h3 : ∀ s, resIsSig (m s).1 = false) : Quiet m := ⟨h1, h2, h3⟩

theorem Quiet.closed : Closed (fun {α} (m : M ν α) => Quiet m) := ⟨Quiet.pure, Quiet.bind⟩

theorem Quiet.ite {c : Prop} [Decidable c] {a b : M ν α} (ha : Quiet a) (hb : Quiet b) :
    Quiet (if c then a else b) := Quiet.closed.ite ha hb

theorem Quiet.forM {f : α → M ν PUnit} (h : ∀ a, Quiet (f a)) (l : List α) : Quiet (l.forM f) := Quiet.closed.forM fun a _ => h a

theorem Quiet.foldlM {f : β → α → M ν β} (h : ∀ b a, Quiet (f b a)) : ∀ (l : List α) (b : β), Quiet (l.foldlM f b) :=
  Quiet.closed.foldlM h

end quiet

section leaves
variable {α β : Type}

theorem Quiet.alloc (c : Cell ν) : Quiet (alloc c) := ⟨fun _ => rfl, fun _ => rfl, fun _ => rfl⟩
theorem Quiet.setCell (a : Addr) (c : Cell ν) : Quiet (setCell a c) := by
  refine ⟨fun s => ?_, fun s => ?_, fun s => ?_⟩ <;> (unfold Model.setCell; split <;> rfl)
theorem Quiet.stackDepth : Quiet (stackDepth (ν := ν)) := .ofLeaf .stackDepth
theorem Quiet.emit (l : String) : Quiet (emit (ν := ν) l) := ⟨fun _ => rfl, fun _ => rfl, fun _ => rfl⟩
theorem Quiet.addExport (i : Nat) (name : String) (v : Addr) : Quiet (addExport (ν := ν) i name v) := by
  refine ⟨fun s => ?_, fun s => ?_, fun s => ?_⟩ <;>
    (unfold Model.addExport; split <;> first | rfl | (split <;> rfl))

theorem Quiet.declareElement (name : String) (v : Addr) (c : Bool) (ext : Option Int) :
    Quiet (declareElement (ν := ν) name v c ext) := by
  refine ⟨fun s => ?_, fun s => ?_, fun s => ?_⟩ <;>
    rcases declareElement_cases name v c ext s with ⟨k, h⟩ | ⟨_, _, _, _, _, h⟩ <;> rw [h] <;>
    first | rfl | exact putScope_stack .. | exact putScope_cs ..

theorem Quiet.setElement (name : String) (v : Addr) : Quiet (setElement (ν := ν) name v) := by
  refine ⟨fun s => ?_, fun s => ?_, fun s => ?_⟩ <;>
    rcases setElement_cases name v s with ⟨k, h⟩ | ⟨_, _, _, _, h⟩ <;> rw [h] <;>
    first | rfl | exact putScope_stack .. | exact putScope_cs ..

theorem Quiet.withScope {body : M ν α} (hb : Quiet body) : Quiet (withScope body) := by
  refine ⟨fun s => ?_, fun s => ?_, fun s => ?_⟩ <;> obtain ⟨sc1, sc2, h⟩ := withScope_frame body s <;> rw [h]
  · exact hb.stack _
  · exact hb.cs _
  · exact hb.nosig _

theorem Quiet.loopSignalToException (e : Err) : Quiet (loopSignalToException (ν := ν) e) := .ofLeaf (.loopSignalToException e)
theorem Quiet.display : ∀ (n : Nat) (a : Addr), Quiet (display (ν := ν) n a) := fun n a => .ofLeaf (.display n a)
theorem Quiet.getProperty (n : Nat) (a : Addr) (name : String) : Quiet (getProperty (ν := ν) n a name) :=
  .ofLeaf (.getProperty n a name)
theorem Quiet.setProperty (a : Addr) (name : String) (v : Addr) : Quiet (setProperty (ν := ν) a name v) :=
  .ofRuns (Leaf.runs_setProperty a name v)
theorem Quiet.builtinMethod (n : Nat) (a : Addr) (name : String) (vals : List Addr) :
    Quiet (builtinMethod (ν := ν) n a name vals) := .ofRuns (Leaf.runs_builtinMethod n a name vals)
theorem Quiet.reduceRHS (n : Nat) (iv : Nat × Addr × String × Int) : Quiet (reduceRHS (ν := ν) n iv) :=
  .ofLeaf (.reduceRHS n iv)
theorem Quiet.reduceLHS (iv : Nat × Addr × String × Int) (v : Addr) : Quiet (reduceLHS (ν := ν) iv v) :=
  .ofRuns (Leaf.runs_reduceLHS iv v)

end leaves

instance (priority := low) Quiet.instOfLeaf {α} {m : M ν α} [h : Leaf.Leaf none m] : Quiet m := .ofLeaf h

attribute [instance] Quiet.throwExcErr Quiet.alloc Quiet.setCell Quiet.emit Quiet.addExport Quiet.declareElement
  Quiet.setElement Quiet.setProperty Quiet.builtinMethod Quiet.reduceLHS

/-- `Quiet` of code made of operations that are instances, binds and case distinctions: it peels binds, `if`s and `match`es
and looks each operation up.  A goal that survives is an operation without an instance (a loop, a recursive call): it wants
a lemma of its own. -/
macro "quiet_tac" : tactic => `(tactic| repeat' (first
  | with_reducible apply Quiet.bind | intro _ | with_reducible apply Quiet.ite | split | infer_instance))

/-- declaring a method or a constructor runs nothing: no frame moves at all -/
theorem Quiet.evalFuncDecl : ∀ (n : Nat) (st : Stmt), Quiet (evalFuncDecl (ν := ν) n st)
  | 0, _ => .outOfFuel
  | _+1, st => by cases st <;> first | exact .goPanic | (rw [Model.evalFuncDecl]; quiet_tac)

theorem Quiet.evalCtorDecl : ∀ (n : Nat) (st : Stmt), Quiet (evalCtorDecl (ν := ν) n st)
  | 0, _ => .outOfFuel
  | _+1, st => by cases st <;> first | exact .goPanic | (rw [Model.evalCtorDecl]; quiet_tac)

attribute [instance] Quiet.evalFuncDecl Quiet.evalCtorDecl

end ZnVerif.Proofs.StackBal
