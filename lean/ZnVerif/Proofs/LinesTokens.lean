/-
C18, line table — the scanners that never consume a line break (punctuation, operators, keywords, identifiers,
back-tick quoted names, EOF), the dispatcher `NextToken`, and the induction over the token sequence (`lexAll`).
Invariant: `LinesInv.Good` (Proofs/LinesInv.lean).  Core Lean only.
-/
import ZnVerif.Proofs.LinesBlank
import ZnVerif.Proofs.LinesComment
import ZnVerif.Proofs.LinesString

namespace ZnVerif.Model
open ZnVerif.Generated ZnVerif.Generated.Tokens
open Spec.Lines
open Spec.Segment (kwAt)

namespace LinesInv
variable {S : Array Nat}

theorem parsePunctuations_good (l : Lexer) (h0 : isBreak l.cur = false) (tk : Token) (l' : Lexer)
    (h : parsePunctuations l = (.ok tk, l')) : Frame 0 l l' ∧ tk.type ≠ cTypeEOF := by
  unfold parsePunctuations at h
  split at h
  · rename_i ty hl
    cases h
    have types : ∀ v ∈ punctuationTypeMap.map (·.2), v ≠ cTypeEOF := by decide
    exact ⟨Frame.adv0 h0, types ty (List.mem_map.mpr ⟨_, lookup_some_mem hl, rfl⟩)⟩
  · cases h

/-- what `parseOperators` can do: nothing (no token), one `Next()`, or two when the second character is `=` -/
def OpShape (l : Lexer) (r : LexRes (Option Token) × Lexer) : Prop :=
    (r.2 = l ∧ ∀ tk, r.1 ≠ .ok (some tk)) ∨
    (∃ tk, r.1 = .ok (some tk) ∧ tk.type ≠ cTypeEOF ∧
      (r.2 = l.adv ∨ (r.2 = l.adv.adv ∧ (l.peek == cEqualOp) = true)))

theorem parseOperators_shape (l : Lexer) : OpShape l (parseOperators l) := by
  have one : ∀ ty, ty ≠ cTypeEOF →
      OpShape l (.ok (some { type := ty, startIdx := l.cursor, endIdx := l.cursor + 1 }), l.adv) :=
    fun ty h => Or.inr ⟨_, rfl, h, Or.inl rfl⟩
  have two : ∀ ty, ty ≠ cTypeEOF → (l.peek == cEqualOp) = true →
      OpShape l (.ok (some { type := ty, startIdx := l.cursor, endIdx := l.cursor + 2 }), l.adv.adv) :=
    fun ty h hp => Or.inr ⟨_, rfl, h, Or.inr ⟨rfl, hp⟩⟩
  have no : ∀ {r : LexRes (Option Token)}, (∀ tk, r ≠ .ok (some tk)) → OpShape l (r, l) := fun h => Or.inl ⟨rfl, h⟩
  -- `=`, `<`, `>`: with a following `=` the two-character mark
  have eq : ∀ t2 t1, t2 ≠ cTypeEOF → t1 ≠ cTypeEOF → OpShape l (if (l.peek == cEqualOp) = true then
      (.ok (some { type := t2, startIdx := l.cursor, endIdx := l.cursor + 2 }), l.adv.adv)
      else (.ok (some { type := t1, startIdx := l.cursor, endIdx := l.cursor + 1 }), l.adv)) :=
    fun t2 t1 h2 h1 => iteInduction (two t2 h2) fun _ => one t1 h1
  unfold parseOperators
  dsimp only
  -- one `iteInduction` per `if` of `parseOperators`, in its order
  exact iteInduction (fun _ => one _ (by decide)) fun _ => iteInduction (fun _ => one _ (by decide)) fun _ =>
    iteInduction (fun _ => one _ (by decide)) fun _ => iteInduction (fun _ => eq _ _ (by decide) (by decide)) fun _ =>
    iteInduction (fun _ => eq _ _ (by decide) (by decide)) fun _ => iteInduction (fun _ => eq _ _ (by decide) (by decide)) fun _ =>
    iteInduction (fun _ => one _ (by decide)) fun _ => iteInduction (fun _ => one _ (by decide)) fun _ => iteInduction
      (fun _ => iteInduction (fun p => two _ (by decide) (Bool.and_eq_true _ _ ▸ p).2) fun _ => iteInduction
        (fun _ => one _ (by repeat' split
                            all_goals decide))
        fun _ => no fun _ h => by cases h)
      fun _ => no fun _ h => by cases h

theorem parseOperators_some (l : Lexer) (h0 : isBreak l.cur = false) (tk : Token) (l' : Lexer)
    (h : parseOperators l = (.ok (some tk), l')) : Frame 0 l l' ∧ tk.type ≠ cTypeEOF := by
  have sh := parseOperators_shape l
  rw [h] at sh
  rcases sh with ⟨_, hn⟩ | ⟨tk', htk, hty, hl⟩
  · exact absurd rfl (hn tk)
  · dsimp only at htk hl
    cases htk
    refine ⟨?_, hty⟩
    rcases hl with e | ⟨e, hp⟩
    · rw [e]; exact Frame.adv0 h0
    · rw [e]; exact (Frame.adv0 h0).trans (Frame.adv0 (nb_of_eq (c := l.adv.cur) hp (by decide)))

theorem parseOperators_none (l : Lexer) (l' : Lexer) (h : parseOperators l = (.ok none, l')) : l' = l := by
  have sh := parseOperators_shape l
  rw [h] at sh
  rcases sh with ⟨e, _⟩ | ⟨tk', htk, _, _⟩
  · exact e
  · cases htk

theorem Plain.of_prefix {l : Lexer} {w : List Nat} (hp : w <+: l.cur :: l.rest) (hw : ∀ c ∈ w, isBreak c = false) :
    Plain l.src l.cursor (l.cursor + w.length) := by
  intro i h1 h2
  by_cases hi : i < l.src.size
  · obtain ⟨t, ht⟩ := hp
    have e : l.cur :: l.rest = l.src.toList.drop l.cursor := (drop_eq_cons l.src l.cursor (by omega)).symm
    have h3 : (w ++ t)[i - l.cursor]? = some (charAt l.src i) := by
      rw [ht, e, List.getElem?_drop, show l.cursor + (i - l.cursor) = i by omega]
      simp [charAt, hi]
    rw [List.getElem?_append_left (by omega)] at h3
    exact hw _ (List.mem_of_getElem? h3)
  · rw [charAt_ge (by omega)]; exact nb_zero

theorem documented_nb : ∀ k ∈ Spec.Keywords.documented, ∀ g ∈ k.1, isBreak g = false := by decide +kernel

theorem identEnd_type (s : Nat) (l : Lexer) (lit : List Nat) (tk : Token) (h : identEnd s l lit = .ok tk) :
    tk.type = cTypeIdentifier := by
  unfold identEnd at h
  split at h
  · cases h
  · cases h; rfl

theorem parseIdentifierStep_cont (s : Nat) (l : Lexer) (lit lit' : List Nat) (l' : Lexer) (g : Good S 1 l)
    (hs : parseIdentifierStep s l lit = (.cont lit', l')) : Good S 1 l' := by
  cases parseIdentifierStep_cases hs with
  | char _ ht => exact g.adv1 (nb_of_pred_false terminateMarkers.contains (by decide) (by decide) ht)

theorem parseIdentifierStep_done (s : Nat) (l : Lexer) (lit : List Nat) (tk : Token) (l' : Lexer) (g : Good S 1 l)
    (hs : parseIdentifierStep s l lit = (.done (.ok tk), l')) : Good S 0 l' ∧ tk.type = cTypeIdentifier := by
  cases parseIdentifierStep_cases hs with
  | stop hr => exact ⟨g.adv, identEnd_type _ _ _ _ hr⟩

theorem parseIdentifier_good (l : Lexer) (g : Good S 0 l) (h0 : isBreak l.cur = false) (tk : Token) (l' : Lexer)
    (h : parseIdentifier l = (.ok tk, l')) : Good S 0 l' ∧ tk.type ≠ cTypeEOF := by
  unfold parseIdentifier at h
  split at h
  · cases h
  · have := iterate_inv (step := parseIdentifierStep l.cursor) (hc := parseIdentifierStep_consumes l.cursor)
      (I := fun l _ => Good S 1 l) (Q := fun r l' => ∀ tk, r = .ok tk → Good S 0 l' ∧ tk.type = cTypeIdentifier)
      (fun l lit lit' l' g hs => parseIdentifierStep_cont _ l lit lit' l' g hs)
      (fun l lit r l' g hs tk hr => by subst hr; exact parseIdentifierStep_done _ l lit tk l' g hs)
      l [l.cur] (g.to1 h0) tk (by rw [h])
    rw [h] at this
    exact ⟨this.1, by rw [this.2]; decide⟩

theorem idchar_nb {c : Nat} (h : (isIdentifierChar c || IdRange.idContinue.contains c) = true) :
    isBreak c = false :=
  nb_of_pred (fun c => isIdentifierChar c || IdRange.idContinue.contains c) (by decide +kernel) (by decide +kernel) h

theorem parseVarQuote_good (l : Lexer) (g : Good S 0 l) (h0 : isBreak l.cur = false) (tk : Token) (l' : Lexer)
    (h : parseVarQuote l = (.ok tk, l')) : Good S 0 l' ∧ tk.type ≠ cTypeEOF := by
  unfold parseVarQuote at h
  have := iterate_inv (step := parseVarQuoteStep l.cursor) (hc := parseVarQuoteStep_consumes l.cursor)
    (I := fun l _ => Good S 1 l) (Q := fun r l' => ∀ tk, r = .ok tk → Good S 0 l' ∧ tk.type = cTypeIdentifier)
    ?_ ?_ l [] (g.to1 h0) tk (by rw [h])
  · rw [h] at this
    exact ⟨this.1, by rw [this.2]; decide⟩
  · intro l lit lit' l' g hs
    unfold parseVarQuoteStep at hs
    dsimp only at hs
    split at hs
    · rename_i hc
      cases hs
      exact g.adv1 (idchar_nb hc)
    · split at hs <;> cases hs
  · intro l lit r l' g hs tk hr
    subst hr
    unfold parseVarQuoteStep at hs
    dsimp only at hs
    split at hs
    · cases hs
    · split at hs
      · rename_i hb
        cases hs
        exact ⟨(g.adv1 (nb_of_eq hb (by decide))).adv, rfl⟩
      · cases hs

theorem keywordOrIdentifier_good (l : Lexer) (g : Good S 0 l) (h0 : isBreak l.cur = false) (tk : Token)
    (l' : Lexer) (h : keywordOrIdentifier l = (.ok tk, l')) : Good S 0 l' ∧ tk.type ≠ cTypeEOF := by
  rw [keywordOrIdentifier_eq] at h
  cases hk : kwAt Spec.Keywords.documented (l.cur :: l.rest) with
  | none => rw [hk] at h; exact parseIdentifier_good l g h0 tk l' h
  | some p =>
    obtain ⟨len, ty⟩ := p
    rw [hk] at h
    cases h
    obtain ⟨k, hm, hp, rfl, -⟩ := kwAt_some hk
    have f : Frame 0 l (l.setCursor (l.cursor + k.1.length)) :=
      ⟨rfl, rfl, rfl, Nat.le_add_right _ _, Plain.of_prefix hp (documented_nb k hm)⟩
    exact ⟨f.good g, kwAt_type _ _ _ hk⟩

theorem nextTokenTail_good (l : Lexer) (g : Good S 0 l) (h0 : isBreak l.cur = false) (tk : Token)
    (l' : Lexer) (h : nextTokenTail l = (.ok tk, l')) : Good S 0 l' ∧ tk.type ≠ cTypeEOF := by
  unfold nextTokenTail at h
  dsimp only at h
  split at h
  · have := parsePunctuations_good l h0 tk l' h
    exact ⟨this.1.good g, this.2⟩
  · split at h
    · split at h
      · rename_i tk' l2 ho
        cases h
        have := parseOperators_some l h0 tk l' ho
        exact ⟨this.1.good g, this.2⟩
      · rename_i l2 ho
        have := parseOperators_none l l2 ho
        subst this
        exact keywordOrIdentifier_good l2 g h0 tk l' h
      · cases h
      · cases h
    · exact keywordOrIdentifier_good l g h0 tk l' h

/-- `NextToken` after `PreNextToken`: every scanner keeps the invariant; only `parseEOF` answers an EOF token, and
only with the cursor at (or past) the end of the text -/
theorem dispatchToken_good (l : Lexer) (g : Good S 0 l) (h0 : isBreak l.cur = false) (tk : Token)
    (l' : Lexer) (h : dispatchToken l = (.ok tk, l')) :
    Good S 0 l' ∧ (tk.type = cTypeEOF → l'.src.size ≤ l'.cursor) := by
  have wrap : Good S 0 l' ∧ tk.type ≠ cTypeEOF → Good S 0 l' ∧ (tk.type = cTypeEOF → l'.src.size ≤ l'.cursor) :=
    fun ⟨a, b⟩ => ⟨a, fun e => absurd e b⟩
  unfold dispatchToken at h
  dsimp only at h
  split at h
  · split at h
    · cases h
    · rename_i hlt
      unfold parseEOF at h
      split at h
      · cases h
      · rename_i l2 hs
        cases h
        obtain ⟨f, hc⟩ := sliceLastLine_frame hs
        refine ⟨f.good g, fun _ => ?_⟩
        rw [f.src, hc]; omega
  · split at h
    · have hc := parseComment_good l g h0
      split at h
      · rename_i tk' l2 hp
        cases h
        have := hc.1 tk l' hp
        exact wrap ⟨this.1, by rw [this.2]; decide⟩
      · rename_i l2 hp
        have f := hc.2 l2 hp
        have g2 : Good S 0 (l2.setCursor l.cursor) :=
          ⟨by rw [Lexer.setCursor_src, f.src]; exact g.src, by show l2.beginLex = false; rw [f.bl]; exact g.bl,
            g.inv.same f.src f.sts⟩
        have h2 : isBreak (l2.setCursor l.cursor).cur = false := by
          have : (l2.setCursor l.cursor).cur = l.cur := by
            show charAt l2.src l.cursor = charAt l.src l.cursor
            rw [f.src]
          rw [this]; exact h0
        exact wrap (nextTokenTail_good _ g2 h2 tk l' h)
    · split at h
      · exact wrap (parseString_good l g h0 tk l' h)
      · split at h
        · exact wrap (parseVarQuote_good l g h0 tk l' h)
        · exact wrap (nextTokenTail_good l g h0 tk l' h)

theorem dispatchToken_nul (l : Lexer) (hc : l.cur = 0) (hlt : l.cursor < l.src.size) :
    dispatchToken l = (.err ⟨25, l.cursor⟩, l) := by
  rw [dispatchToken_eq, hc]
  exact if_pos hlt

theorem nextToken_good (l : Lexer) (hS : l.src = S) (hl : Fresh l ∨ Good S 0 l) (tk : Token) (l' : Lexer)
    (h : nextToken l = (.ok tk, l')) :
    Good S 0 l' ∧ (tk.type = cTypeEOF → l'.src.size ≤ l'.cursor) := by
  unfold nextToken at h
  dsimp only at h
  split at h
  · cases h
  · cases h
  · rename_i u hp
    rcases preNextToken_good l hS hl u (preNextToken l).2 (by rw [← hp]) with ⟨g1, hs⟩ | ⟨hc, hlt⟩
    · exact dispatchToken_good _ g1 (solid_nb hs) tk l' h
    · rw [dispatchToken_nul _ hc hlt] at h
      cases h

theorem lexAll_good : ∀ (fuel : Nat) (l : Lexer) (acc toks : List Token) (lf : Lexer), l.src = S →
    (Fresh l ∨ Good S 0 l) → lexAll fuel l acc = (toks, some (.ok ()), lf) →
    lf.src = S ∧ starts lf = physicalLineStarts S.toList := by
  intro fuel
  induction fuel with
  | zero => intro l acc toks lf _ _ h; simp [lexAll] at h
  | succ fuel ih =>
    intro l acc toks lf hS hl h
    rw [lexAll_succ] at h
    split at h
    · rename_i tk l' hn
      obtain ⟨g, he⟩ := nextToken_good l hS hl tk l' hn
      split at h
      · rename_i hty
        cases h
        have := g.inv.complete (by have := he (by simpa using hty); omega)
        rw [g.src] at this
        exact ⟨g.src, this⟩
      · exact ih l' _ toks lf g.src (Or.inr g) h
    · cases h
    · cases h

end LinesInv
end ZnVerif.Model
