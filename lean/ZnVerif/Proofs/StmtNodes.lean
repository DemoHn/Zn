/-
The statement forms of the control-flow fragment on the spec side: `execS (n+1)` / `evalE (n+1)` / `runBlock` on each of
them, written with the pieces the refinement proof sets against the model's (Proofs/EvalArms: the line record, a condition
read as a boolean, the handlers around a loop body) and proved by unfolding once (`by rfl`).
-/
import ZnVerif.Spec.Sem

namespace ZnVerif.Proofs.StmtNodes
open ZnVerif.Model ZnVerif.Spec

variable {ν : Type} [NumOps ν]

/-- a condition's value read as a boolean: anything else is fault 80 (`boolCell` on the model side) -/
def boolVal {α} (t f : SM ν α) : SVal ν → SM ν α
  | .bool true => t
  | .bool false => f
  | _ => fault 80

/-- evaluate a condition, go on with `t` or `f` (`condNode` on the model side) -/
def condNodeS {α} (ec : SM ν (SVal ν)) (t f : SM ν α) : SM ν α := ec >>= boolVal t f

/-- a block of the spec: its statements in a scope of their own, definitions (hoisted elsewhere) left out -/
theorem runBlock_some (n : Nat) (stmts : List Stmt) :
    runBlock (ν := ν) (n+2) (some stmts) = withBlock
      ((stmts.filter fun st => match st with | .classDecl .. | .funcDecl .. => false | _ => true).foldlM
        (fun _ st => execS n st) SVal.null) := by rfl


theorem execS_expr (n : Nat) (e : Expr) : execS (ν := ν) (n+1) (.expr e) = evalE n e := by rfl

theorem execS_varDecl (n ln : Nat) (pairs : List (Nat × List Ident × Expr)) :
    execS (ν := ν) (n+1) (.varDecl ln pairs) = (do
      pairs.forM fun p => do
        let (ty, vars, e) := p
        if ty == 1 || ty == 3 then do
          let v ← evalE n e
          vars.forM fun x => do
            let nm ← idName x.lit
            declare nm v (ty == 3)
        else pure ()
      pure .null) := by rfl

theorem evalE_assign_id (n ln : Nat) (i : Ident) (rhs : Expr) :
    evalE (ν := ν) (n+1) (.assign ln (.id i) rhs) = (do
      let v ← evalE n rhs
      let name ← idName i.lit
      if predefined.contains name then fault 42
      else do assignName name v; pure v) := by rfl

theorem evalE_call (n ln : Nat) (name : Option Ident) (params : List Expr) (yld : Option Ident) :
    evalE (ν := ν) (n+1) (.call ln name params yld) = (do
      let fname ← idNameOpt name
      let args ← params.mapM (evalE n)
      let f ← lookupName fname
      let res ← match f with
        | .fn exec => callBody n exec args none
        | .builtinFn "显示" => do
          let s ← getS
          emitLine (Spec.joinWith " " (args.map (showV s.objs 64)))
          pure SVal.null
        | .builtinFn _ => unspec
        | _ => fault 81
      match yld with
      | none => pure res
      | some y => do
        let yn ← idName y.lit
        declare yn res true
        pure res) := by rfl

/-- one 再如 alternative: `some ()` when its condition was 真 and its block has been run (`ControlFlow.branchOther` on the model side) -/
def branchOtherS (n : Nat) (o : Expr × Option (List Stmt)) : SM ν (Option Unit) :=
  condNodeS (evalE n o.1) (do let _ ← runBlock n o.2; pure (some ())) (pure none)

/-- the 否则 part (`ControlFlow.branchElse` on the model side) -/
def branchElseS (n : Nat) (hasElse : Bool) (elseB : Option (List Stmt)) : SM ν Unit :=
  if hasElse then do let _ ← runBlock n elseB; pure () else pure ()

theorem execS_branch (n ln : Nat) (ifE : Expr) (ifB : Option (List Stmt)) (others : List (Expr × Option (List Stmt)))
    (hasElse : Bool) (elseB : Option (List Stmt)) :
    execS (ν := ν) (n+1) (.branch ln ifE ifB others hasElse elseB) =
      condNodeS (evalE n ifE) (do let _ ← runBlock n ifB; pure .null) (do
        firstS (branchOtherS n) (branchElseS n hasElse elseB) others
        pure .null) := by rfl

/-- what a loop of the spec makes of the outcome of a pass; `go` is the answer that stands for "next pass" (每当 answers
whether to go on, 遍历 whether to stop), as `ControlFlow.passHandler go` on the model side -/
def passHandlerS (go : Bool) (r : R ν (SVal ν)) : SM ν Bool :=
  match r with
  | .ok _ => pure go
  | .cont => pure go
  | .brk => pure (!go)
  | r => do let _ ← (sfail r : SM ν (SVal ν)); pure (!go)

theorem execS_while (n l : Nat) (cond : Expr) (body : Option (List Stmt)) :
    execS (ν := ν) (n+1) (.while l cond body) = (do
      whileS n (condNodeS (evalE n cond) (catchR (runBlock n body) (passHandlerS true)) (pure false))
      pure .null) := by rfl

/-- one pass of 遍历 in the spec: assign the loop variables, run the body -/
def iterPassS (n : Nat) (names' : List String) (body : Option (List Stmt)) (k v : SVal ν) : SM ν Bool := do
  match names' with
  | [vn] => assignName vn v
  | [kn, vn] => do assignName kn k; assignName vn v
  | _ => pure ()
  catchR (runBlock n body) (passHandlerS false)

/-- the passes of 遍历 over the target: list elements with their 1-based index as key, dictionary entries in order; any other
value is fault 80 (`iterLoop` on the model side) -/
def iterLoopS (pass : SVal ν → SVal ν → SM ν Bool) : SVal ν → SM ν Unit
  | .list xs => untilS (fun (p : Nat × SVal ν) => pass (.num (NumOps.ofInt (p.1 + 1))) p.2) (xs.zipIdx.map fun p => (p.2, p.1))
  | .dict kvs => untilS (fun (kv : String × SVal ν) => pass (.str kv.1) kv.2) kvs
  | _ => fault 80

theorem execS_iterate (n ln : Nat) (e : Expr) (names : List Ident) (body : Option (List Stmt)) :
    execS (ν := ν) (n+1) (.iterate ln e names body) = (do
      withBlock (do
        let target ← evalE n e
        let names' ← names.mapM fun x => idName x.lit
        if names'.length > 2 then fault 52 else
        names'.forM fun nm => declare nm SVal.null false
        iterLoopS (iterPassS n names' body) target)
      pure .null) := by rfl

end ZnVerif.Proofs.StmtNodes
