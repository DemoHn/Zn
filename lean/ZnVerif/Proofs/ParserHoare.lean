/-
A small Hoare logic for the parser monad `PM σ` of Model/Parser.lean, and what the lexer is assumed to do: the window invariant
`Inv`, the measure `m`, and the specifications of `fetch`, `next()` — the one place where the window moves — and of the error
builders of the REPAIRED parser.  The primitives that consume through `next()` (`tryConsume`, `consume`, `parseID`, …) are
specified in Proofs/ParserGood.lean, in the terms the productions use.  `tryConsume`'s comma step is here as equations
(`tryConsume_comma`, `tryConsume_nocomma`, `tryConsume_past_comma`) for Properties/C03 and the round trip (Proofs/StmtCursor.lean); the
rules of the two parser logics unfold `tryConsume` themselves.  `Lexer.FindLineIdx` is characterised here as well
(`findLineIdx_spec`, `findLineIdx_eq`): the window's line numbers come from it.

`Sat r Q E F`: an `ok a s` result satisfies `Q a s`, an error satisfies `E`, a Go run-time panic is impossible, and running out of
fuel is possible only if `F` holds.  One induction on the fuel (`parse_good`, Proofs/ParserGoodTop.lean, over the notions and rules of
Proofs/ParserGood.lean) then gives progress, termination, the bound on error cursors, absence of panics and completeness of returned
trees at once.
-/
import ZnVerif.Model.Parser

namespace ZnVerif.Proofs.ParserHoare
open ZnVerif.Model ZnVerif.Model.Parser ZnVerif.Generated.Tokens

variable {σ : Type}

/-- a syntax error as the property wants it: a code of the syntax range and a cursor inside the source -/
def ErrOK (B : Nat) (e : SynErr) : Prop := 20 ≤ e.code ∧ e.code ≤ 27 ∧ e.cursor ≤ B

/-- what is assumed of the lexer (`B` = length of the source, `μ` = a measure of the input still to be lexed, `I` = an invariant of
the lexer states reached from the initial one):
tokens start inside the source, every token that is not EOF uses up input (comments included) and is on a known line, `Lines` only
grows, lexer errors are syntax errors inside the source, the lexer itself does not panic. -/
structure LexOK (ops : LexOps σ) (B : Nat) (μ : σ → Nat) (I : σ → Prop) : Prop where
  tok : ∀ l t l', I l → ops.nextToken l = (.tok t, l') →
    I l' ∧ t.startIdx ≤ B ∧ μ l' ≤ μ l ∧ (t.type ≠ cTypeEOF → μ l' < μ l ∧ 0 < (ops.lines l').size) ∧
    (ops.lines l).size ≤ (ops.lines l').size
  err : ∀ l e l', I l → ops.nextToken l = (.err e, l') → ErrOK B e
  nopanic : ∀ l l', I l → ops.nextToken l ≠ (.panic, l')

/-- tokens still to be consumed: what the lexer has left plus the peek token -/
def m (μ : σ → Nat) (s : PState σ) : Nat := μ s.lex + (if s.p2.type = cTypeEOF then 0 else 1)

/-- 1 once a current token exists -/
def q (s : PState σ) : Nat := if s.p1.isSome then 1 else 0

theorem q_le_one (s : PState σ) : q s ≤ 1 := by unfold q; split <;> omega

structure Inv (ops : LexOps σ) (B : Nat) (I : σ → Prop) (s : PState σ) : Prop where
  lex : I s.lex
  p2 : s.p2.startIdx ≤ B
  p1 : ∀ t, s.p1 = some t → t.startIdx ≤ B ∧ t.type ≠ cTypeEOF
  lines : (s.sl1 < (ops.lines s.lex).size ∧ s.sl2 < (ops.lines s.lex).size) ∨
    ((ops.lines s.lex).size = 0 ∧ s.sl1 = 0 ∧ s.sl2 = 0)
  nonempty : (s.p2.type ≠ cTypeEOF ∨ s.p1.isSome) → 0 < (ops.lines s.lex).size

def Sat {α : Type} (r : Res σ α) (Q : α → PState σ → Prop) (E : SynErr → Prop) (F : Prop) : Prop :=
  match r with
  | .ok a s => Q a s
  | .err e => E e
  | .panic => False
  | .fuel => F

section rules
variable {α β : Type} {Q : α → PState σ → Prop} {E : SynErr → Prop} {F : Prop} {s : PState σ}

@[simp] theorem sat_ok {a : α} : Sat (.ok a s : Res σ α) Q E F ↔ Q a s := Iff.rfl
@[simp] theorem sat_err {e : SynErr} : Sat (.err e : Res σ α) Q E F ↔ E e := Iff.rfl
@[simp] theorem sat_panic : Sat (.panic : Res σ α) Q E F ↔ False := Iff.rfl
@[simp] theorem sat_fuel : Sat (.fuel : Res σ α) Q E F ↔ F := Iff.rfl

@[simp] theorem sat_pure {a : α} : Sat ((pure a : PM σ α) s) Q E F ↔ Q a s := Iff.rfl

@[simp] theorem sat_bind {x : PM σ β} {f : β → PM σ α} :
    Sat ((x >>= f) s) Q E F ↔ Sat (x s) (fun a s' => Sat (f a s') Q E F) E F := by
  show Sat (PM.bind x f s) Q E F ↔ _
  unfold PM.bind
  cases x s <;> exact Iff.rfl

@[simp] theorem sat_getS {Q : PState σ → PState σ → Prop} : Sat (getS s) Q E F ↔ Q s s := Iff.rfl
@[simp] theorem sat_modifyS {f : PState σ → PState σ} {Q : Unit → PState σ → Prop} :
    Sat (modifyS f s) Q E F ↔ Q () (f s) := Iff.rfl
@[simp] theorem sat_throwErr {e : SynErr} : Sat ((throwErr e : PM σ α) s) Q E F ↔ E e := Iff.rfl
@[simp] theorem sat_goPanic : Sat ((goPanic : PM σ α) s) Q E F ↔ False := Iff.rfl
@[simp] theorem sat_unsetFlag {Q : Unit → PState σ → Prop} :
    Sat (unsetFlag s) Q E F ↔ Q () { s with flag := false } := Iff.rfl
@[simp] theorem sat_setFlag {Q : Unit → PState σ → Prop} :
    Sat (setFlag s) Q E F ↔ Q () { s with flag := true } := Iff.rfl

theorem sat_ite {c : Prop} [Decidable c] {x y : PM σ α} :
    Sat ((if c then x else y) s) Q E F ↔ (c → Sat (x s) Q E F) ∧ (¬ c → Sat (y s) Q E F) := by
  by_cases h : c <;> simp [h]

theorem Sat.imp {r : Res σ α} {Q' : α → PState σ → Prop} {F' : Prop}
    (h : Sat r Q E F) (hq : ∀ a s', Q a s' → Q' a s') (hf : F → F') : Sat r Q' E F' := by
  cases r <;> simp_all [Sat]

end rules

section prims
variable {ops : LexOps σ} {B : Nat} {μ : σ → Nat} {I : σ → Prop}

/-- `Lexer.FindLineIdx` goes on past line `x`: there is a next line and it starts at or before the cursor -/
def Cont (L : Array LineInfo) (c x : Nat) : Prop := ∃ h : x + 1 < L.size, ¬ c < L[x + 1].startIdx

theorem findLineIdxAux_stop (L : Array LineInfo) (c k i : Nat) (h : ¬ Cont L c i) : findLineIdxAux L c k i = i := by
  cases k with
  | zero => rfl
  | succ k =>
    unfold findLineIdxAux
    by_cases h1 : i + 1 < L.size
    · by_cases h2 : c < L[i + 1].startIdx
      · simp [h1, h2]
      · exact absurd ⟨h1, h2⟩ h
    · simp [h1]

theorem findLineIdxAux_step (L : Array LineInfo) (c k i : Nat) (h : Cont L c i) :
    findLineIdxAux L c (k + 1) i = findLineIdxAux L c k (i + 1) := by
  obtain ⟨h1, h2⟩ := h
  conv => lhs; unfold findLineIdxAux
  simp [h1, h2]

theorem findLineIdxAux_eq (L : Array LineInfo) (c K : Nat) (hn : ¬ Cont L c K) :
    ∀ (k i : Nat), i ≤ K → K - i ≤ k → (∀ x, i ≤ x → x < K → Cont L c x) → findLineIdxAux L c k i = K
  | k, i, h1, h2, hc => by
    by_cases hi : i = K
    · rw [hi]; exact findLineIdxAux_stop L c k K hn
    · obtain ⟨k, rfl⟩ : ∃ k', k = k' + 1 := ⟨k - 1, by omega⟩
      rw [findLineIdxAux_step L c k i (hc i (Nat.le_refl _) (by omega))]
      exact findLineIdxAux_eq L c K hn k (i + 1) (by omega) (by omega) fun x hx => hc x (by omega)

theorem findLineIdxAux_spec (L : Array LineInfo) (c : Nat) : ∀ (k i : Nat),
    i ≤ findLineIdxAux L c k i ∧ (∀ x, i ≤ x → x < findLineIdxAux L c k i → Cont L c x) ∧
      (L.size ≤ i + k + 1 → ¬ Cont L c (findLineIdxAux L c k i))
  | 0, i => ⟨Nat.le_refl _, fun x h1 h2 => absurd h2 (by show ¬ x < i; omega), fun h ⟨h', _⟩ => by
      have : findLineIdxAux L c 0 i = i := rfl
      omega⟩
  | k + 1, i => by
    by_cases hc : Cont L c i
    · rw [findLineIdxAux_step L c k i hc]
      obtain ⟨h1, h2, h3⟩ := findLineIdxAux_spec L c k (i + 1)
      refine ⟨by omega, fun x hx1 hx2 => ?_, fun h => h3 (by omega)⟩
      by_cases hx : x = i
      · exact hx ▸ hc
      · exact h2 x (by omega) hx2
    · rw [findLineIdxAux_stop L c (k + 1) i hc]
      exact ⟨Nat.le_refl _, fun x h1 h2 => by omega, fun _ => hc⟩

theorem findLineIdx_eq (L : Array LineInfo) (c : Nat) {i K : Nat} (hi : i ≤ K) (hK : K ≤ L.size)
    (hc : ∀ x, i ≤ x → x < K → Cont L c x) (hn : ¬ Cont L c K) : findLineIdx L c i = K :=
  findLineIdxAux_eq L c K hn _ i hi (by omega) hc

/-- `FindLineIdx(cursor, i)` is the first line from `i` on past which the search does not go on -/
theorem findLineIdx_spec (L : Array LineInfo) (c i : Nat) :
    i ≤ findLineIdx L c i ∧ (∀ x, i ≤ x → x < findLineIdx L c i → Cont L c x) ∧ ¬ Cont L c (findLineIdx L c i) := by
  obtain ⟨h1, h2, h3⟩ := findLineIdxAux_spec L c (L.size - i) i
  exact ⟨h1, h2, h3 (by omega)⟩

theorem findLineIdx_bound (lines : Array LineInfo) (c i : Nat) :
    (i < lines.size → findLineIdx lines c i < lines.size) ∧ (lines.size ≤ i → findLineIdx lines c i = i) := by
  obtain ⟨h1, h2, _⟩ := findLineIdx_spec lines c i
  refine ⟨fun h => ?_, fun h => findLineIdxAux_stop lines c _ i fun ⟨h', _⟩ => by omega⟩
  by_cases he : findLineIdx lines c i = i
  · omega
  · -- the search went on past the line before the one it ended at, so that one exists
    obtain ⟨h', _⟩ := h2 (findLineIdx lines c i - 1) (by omega) (by omega)
    omega

/-- the fuel of `fetch` only runs out on a run of comments longer than the measure -/
theorem fetch_spec (hl : LexOK ops B μ I) (n : Nat) (l : σ) (hI : I l) :
    match fetch ops n l with
    | .ok tk l' => I l' ∧ tk.startIdx ≤ B ∧ μ l' ≤ μ l ∧ (tk.type ≠ cTypeEOF → μ l' < μ l ∧ 0 < (ops.lines l').size) ∧
        (ops.lines l).size ≤ (ops.lines l').size
    | .err e => ErrOK B e
    | .panic => False
    | .fuel => n ≤ μ l := by
  induction n generalizing l with
  | zero => simp [fetch]
  | succ n ih =>
    unfold fetch
    rcases hnt : ops.nextToken l with ⟨r, l'⟩
    cases r with
    | err e => exact hl.err l e l' hI hnt
    | panic => exact hl.nopanic l l' hI hnt
    | tok tk =>
      have ht := hl.tok l tk l' hI hnt
      by_cases hc : tk.type = cTypeComment
      · simp only [hc, if_true]
        have hne : tk.type ≠ cTypeEOF := by rw [hc]; decide
        have := ih l' ht.1
        generalize fetch ops n l' = r at this ⊢
        cases r with
        | ok tk2 l2 =>
          simp only at this ⊢
          refine ⟨this.1, this.2.1, by omega, fun h => ?_, by omega⟩
          have := this.2.2.2.1 h
          exact ⟨by omega, this.2⟩
        | err e => exact this
        | panic => exact this
        | fuel => simp only at this ⊢; omega
      · simp only [hc, if_false]
        exact ht

theorem next_sat (hl : LexOK ops B μ I) {n : Nat} {s : PState σ} {Q : Unit → PState σ → Prop} {F : Prop}
    (hs : Inv ops B I s) (hne : s.p2.type ≠ cTypeEOF)
    (hk : ∀ s', Inv ops B I s' → m μ s' < m μ s → s'.p1 = some s.p2 → Q () s')
    (hF : n ≤ m μ s → F) :
    Sat (next ops n s) Q (ErrOK B) F := by
  unfold next
  have hf := fetch_spec hl n s.lex hs.lex
  generalize fetch ops n s.lex = r at hf ⊢
  cases r with
  | err e => exact hf
  | panic => exact hf
  | fuel => simp only at hf ⊢; apply hF; simp only [m]; omega
  | ok tk l' =>
    simp only at hf ⊢
    -- `Inv` of the new window (its lines are searched from the old ones, in a table that has only grown), then the measure: the
    -- old peek token no longer counts, the new one does unless it is EOF
    apply hk
    · have hsz : 0 < (ops.lines s.lex).size := hs.nonempty (Or.inl hne)
      have hlines := hs.lines
      refine ⟨hf.1, hf.2.1, ?_, ?_, ?_⟩
      · intro t ht
        simp only [Option.some.injEq] at ht
        subst ht
        exact ⟨hs.p2, hne⟩
      · left
        simp only
        have hb := (findLineIdx_bound (ops.lines l') tk.startIdx s.sl2).1
        constructor
        · omega
        · apply hb; omega
      · intro _
        simp only
        omega
    · simp only [m, hne, if_false]
      by_cases he : tk.type = cTypeEOF
      · simp only [he, if_true]; omega
      · simp only [he, if_false]; have := (hf.2.2.2.1 he).1; omega
    · rfl

/-- the repaired `getInvalidSyntaxPeek` never dereferences a missing current token: it reports the peek token -/
theorem errPeek_fixed {α : Type} (code : Nat) (s : PState σ) :
    (errPeek Variant.fixed code : PM σ α) s = .err ⟨code, s.p2.startIdx⟩ := by
  unfold errPeek
  cases s.p1 <;> rfl

theorem errPeek_sat {α : Type} {code : Nat} {s : PState σ} {Q : α → PState σ → Prop} {F : Prop}
    (hs : Inv ops B I s) (hc : 20 ≤ code ∧ code ≤ 27) :
    Sat ((errPeek Variant.fixed code : PM σ α) s) Q (ErrOK B) F := by
  rw [errPeek_fixed]
  exact ⟨hc.1, hc.2, hs.p2⟩

theorem errCurr_sat {α : Type} {s : PState σ} {Q : α → PState σ → Prop} {F : Prop}
    (hs : Inv ops B I s) :
    Sat ((errCurr Variant.fixed : PM σ α) s) Q (ErrOK B) F := by
  unfold errCurr
  split
  · simp [Variant.fixed, ErrOK, hs.p2]
  · rename_i t ht
    simp [ErrOK, (hs.p1 t ht).1]

/-- `lineOf`, `newID`, `newString` only read the line table.  A rule named `…_bind` is stated for the primitive together with what
follows it (`Sat ((x >>= f) s) …`), the way it stands in a production. -/
theorem lineOf_bind {α : Type} {tk : Token} {f : Nat → PM σ α} {s : PState σ} {Q : α → PState σ → Prop} {E : SynErr → Prop} {F : Prop}
    (hk : ∀ l, Sat (f l s) Q E F) : Sat ((lineOf ops tk >>= f) s) Q E F := sat_bind.mpr (hk _)

theorem newID_sat {tk : Token} {s : PState σ} {Q : Ident → PState σ → Prop} {E : SynErr → Prop} {F : Prop}
    (hk : ∀ i, Q i s) : Sat (newID ops tk s) Q E F := lineOf_bind fun _ => hk _

theorem newString_sat {tk : Token} {s : PState σ} {Q : Expr → PState σ → Prop} {E : SynErr → Prop} {F : Prop}
    (hk : ∀ l str, Q (.str l str) s) : Sat (newString ops tk s) Q E F := lineOf_bind fun _ => hk _ _

theorem endOfStmt_bind {α : Type} {f : Unit → PM σ α} {s : PState σ} {Q : α → PState σ → Prop} {F : Prop}
    (hs : Inv ops B I s) (hk : Sat (f () s) Q (ErrOK B) F) : Sat ((endOfStmt Variant.fixed >>= f) s) Q (ErrOK B) F := by
  refine sat_bind.mpr ?_
  unfold endOfStmt
  split
  · exact hk
  · exact errPeek_sat hs (by decide)

theorem tryConsume_comma (n : Nat) (tys : List Nat) (s : PState σ) (hc : s.p2.type = cTypeCommaSep) :
    tryConsume ops n tys s = (next ops n >>= fun _ => tryConsumeCore ops n tys) s := by
  unfold tryConsume
  simp only [Bind.bind, PM.bind, getS, hc, if_true]

theorem tryConsume_nocomma (n : Nat) (tys : List Nat) (s : PState σ) (hc : s.p2.type ≠ cTypeCommaSep) :
    tryConsume ops n tys s = tryConsumeCore ops n tys s := by
  unfold tryConsume
  simp only [Bind.bind, PM.bind, getS, hc, if_false]

theorem tryConsume_past_comma (n : Nat) (tys : List Nat) {s s1 : PState σ}
    (hc : s.p2.type = cTypeCommaSep) (hn : next ops n s = .ok () s1) (h1 : s1.p2.type ≠ cTypeCommaSep) :
    tryConsume ops n tys s = tryConsume ops n tys s1 := by
  rw [tryConsume_comma n tys s hc, tryConsume_nocomma n tys s1 h1]
  simp only [Bind.bind, PM.bind, hn]

end prims

end ZnVerif.Proofs.ParserHoare
