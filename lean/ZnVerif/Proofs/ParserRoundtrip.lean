/-
Token-level round trip for expressions on one line: `Lin 1 e ts → parseTokens ts = tree (exprProgram e)`.

The one-line lexer `tokenOps` is `layoutOps oneLine` (every token on line 0, nothing indented), and a `Lin` rendering is a `LinX`
rendering read against that layout whose tokens are glued and in order.  So the expression itself is the round trip of
Proofs/StmtExpr.lean; what is proved here is the way from `Parse` down to the one statement, with the fuel counted exactly.

The round trip is in namespace `StmtRT` and works on the states `S oneLine p1 ts fl` of Proofs/StmtBase.lean: `OneLine` (what a `Lin`
rendering is on the layout of one line), `lin_oneLine`, `lin_roundtrip`.  The namespace `Roundtrip` before it writes that state and its
follow sets out for `tokenOps` directly (all four line fields 0, no `Layout`); nothing below uses it.
-/
import ZnVerif.Spec.ExprSyntax
import ZnVerif.Proofs.StmtMain
import ZnVerif.Proofs.StmtOnStates

namespace ZnVerif.Proofs.Roundtrip
open ZnVerif.Model ZnVerif.Model.Parser ZnVerif.Generated.Tokens ZnVerif.Generated.ParserTables

-- the parser state over `tokenOps` written out: all four line fields are 0

def eofTok : Token := { type := cTypeEOF, startIdx := 0, endIdx := 0 }
def peekOf (ts : List Token) : Token := ts.headD eofTok

/-- parser state of the token-level lexer: current token `p1`, peek token = head of `ts` -/
def S (p1 : Option Token) (ts : List Token) (fl : Bool) : PState (List Token) :=
  { lex := ts.tail, p1 := p1, p2 := peekOf ts, sl1 := 0, el1 := 0, sl2 := 0, el2 := 0, flag := fl }

def NoCmt (ts : List Token) : Prop := ∀ t ∈ ts, t.type ≠ cTypeComment

def endFlag (rest : List Token) : Bool := decide ((peekOf rest).type = cTypeEOF)

theorem findLineIdx_one (c : Nat) : findLineIdx (tokenOps.lines ([] : List Token)) c 0 = 0 := rfl

theorem lines_eq (l : List Token) : tokenOps.lines l = #[{ indents := 0, startIdx := 0 }] := rfl

theorem parse_succ (n : Nat) (nt : NT) (s : PState (List Token)) :
    parse Variant.fixed tokenOps (n + 1) nt s = step Variant.fixed tokenOps n (parse Variant.fixed tokenOps n) nt s := rfl

-- follow sets: token types that would continue an expression of the given level (or be swallowed / skipped)
def F7 : List Nat := [cTypeMapHash, cTypeObjDotW, cTypeObjDotIIW, cTypeCommaSep, cTypeComment]
def F6 : List Nat := F7 ++ mulDivTypes
def F5 : List Nat := F6 ++ addSubTypes
def F4 : List Nat := F5 ++ (lv4ValidTypes ++ lv4VarAssignExtra)
def F3 : List Nat := F4 ++ lv3ValidTypes
def F2 : List Nat := F3 ++ [cTypeLogicAndW]
def F1 : List Nat := F2 ++ [cTypeLogicOrW]

/-- the state after the tokens `ts` have been consumed and `rest` follows -/
def Send (ts rest : List Token) : PState (List Token) := S ts.getLast? rest (endFlag rest)

theorem Send_single (t : Token) (rest : List Token) : Send [t] rest = S (some t) rest (endFlag rest) := rfl

end ZnVerif.Proofs.Roundtrip

namespace ZnVerif.Proofs.StmtRT
open ZnVerif.Model ZnVerif.Model.Parser ZnVerif.Generated.Tokens ZnVerif.Generated.ParserTables
open ZnVerif.Spec.ExprSyntax ZnVerif.Spec.StmtSyntax

theorem oneLine_sl (t : Token) : oneLine.sl t = 0 := rfl
theorem oneLine_ind (t : Token) : oneLine.ind t = 0 := rfl

/-- on one line only the end of input breaks a statement -/
theorem oneLine_brk {t u : Token} (ht : t.type ≠ cTypeEOF) (hu : u.type ≠ cTypeEOF) : oneLine.brk t u = false := by
  show meetStmtLineBreak (some t) u 0 0 = false
  simp [meetStmtLineBreak, ht, hu]

theorem glued_oneLine : ∀ {ts : List Token}, (∀ t ∈ ts, Plain t) → oneLine.Glued ts
  | [], _ => trivial
  | [_], _ => trivial
  | t :: u :: r, h =>
    ⟨oneLine_brk (h t (by simp)).1 (h u (by simp)).1, glued_oneLine fun x hx => h x (List.mem_cons_of_mem _ hx)⟩

theorem inOrder_oneLine : ∀ {ts : List Token}, (∀ t ∈ ts, Plain t) → oneLine.InOrder ts
  | [], _ => trivial
  | t :: r, h =>
    ⟨(h t (by simp)).2.2, Nat.le_refl 0, Nat.le_refl 0, inOrder_oneLine fun x hx => h x (List.mem_cons_of_mem _ hx)⟩

theorem lv3_plain : ∀ ty ∈ lv3ValidTypes, ty ≠ cTypeEOF ∧ ty ≠ cTypeCommaSep ∧ ty ≠ cTypeComment := by decide
theorem addSub_plain : ∀ ty ∈ addSubTypes, ty ≠ cTypeEOF ∧ ty ≠ cTypeCommaSep ∧ ty ≠ cTypeComment := by decide
theorem mulDiv_plain : ∀ ty ∈ mulDivTypes, ty ≠ cTypeEOF ∧ ty ≠ cTypeCommaSep ∧ ty ≠ cTypeComment := by decide

/-- what a one-line rendering is when read against `oneLine` -/
structure OneLine (k : Nat) (e : Expr) (ts : List Token) : Prop where
  /-- every line field is 0, so `{ e }` leaves `e` as it is -/
  line : e.setLine 0 = e
  plain : ∀ t ∈ ts, Plain t
  head : (oneLine.peek ts).type ≠ cTypeVarOneW
  lin : LinX oneLine true k (.expr e) ts

theorem OneLine.binop {k k1 k2 : Nat} {a b e : Expr} {ta tb : List Token} {t : Token} (ha : OneLine k1 a ta) (hb : OneLine k2 b tb)
    (ht : Plain t) (he : e.setLine 0 = e) (h : LinX oneLine true k (.expr e) (ta ++ t :: tb)) : OneLine k e (ta ++ t :: tb) :=
  ⟨he, List.forall_mem_append.mpr ⟨ha.plain, List.forall_mem_cons.mpr ⟨ht, hb.plain⟩⟩,
    by rw [peek_append (linE_facts ha.lin).ne]; exact ha.head, h⟩

theorem lin_oneLine {k : Nat} {e : Expr} {ts : List Token} (h : Lin k e ts) : OneLine k e ts := by
  induction h with
  | id t ht => exact ⟨rfl, by simp [Plain, ht]; decide, by show t.type ≠ _; rw [ht]; decide, .id t ht⟩
  | str t ht => exact ⟨rfl, by simp [Plain, ht]; decide, by show t.type ≠ _; rw [ht]; decide, .str t ht⟩
  | brace l r e ts hl hr _ ih =>
    have hb := LinX.brace (Y := oneLine) (cfg := true) l r e ts hl hr ih.lin
    rw [oneLine_sl, ih.line] at hb
    refine ⟨ih.line, List.forall_mem_cons.mpr ⟨by simp [Plain, hl]; decide, List.forall_mem_append.mpr ⟨ih.plain, ?_⟩⟩,
      by show l.type ≠ _; rw [hl]; decide, hb⟩
    simp [Plain, hr]; decide
  | up k e ts hk _ ih => exact ⟨ih.line, ih.plain, ih.head, .up k e ts hk ih.lin⟩
  | or t a b ta tb ht _ _ iha ihb => exact iha.binop ihb (by simp [Plain, ht]; decide) rfl (.or t a b ta tb ht iha.lin ihb.lin)
  | and t a b ta tb ht _ _ iha ihb => exact iha.binop ihb (by simp [Plain, ht]; decide) rfl (.and t a b ta tb ht iha.lin ihb.lin)
  | cmp t a b ta tb ht _ _ iha ihb => exact iha.binop ihb (lv3_plain _ ht) rfl (.cmp t a b ta tb ht iha.lin ihb.lin)
  | add t a b ta tb ht _ _ iha ihb => exact iha.binop ihb (addSub_plain _ ht) rfl (.add t a b ta tb ht iha.lin ihb.lin)
  | mul t a b ta tb ht _ _ iha ihb => exact iha.binop ihb (mulDiv_plain _ ht) rfl (.mul t a b ta tb ht iha.lin ihb.lin)

/-- **the round trip**: a token list that renders the expression `e` on one line parses (as a program) to the program whose only
statement is `e`.  Fuel: `16 * tokens + 16` for the expression, one unit each for `ParseStatement`, the three states of
`ParseExecBlock`'s loop and `ParseExecBlock`, the two states of `ParseProgram`'s loop and `ParseProgram`. -/
theorem lin_roundtrip (v : Variant) {e : Expr} {ts : List Token} (h : Lin 1 e ts) (n : Nat) (hn : 16 * ts.length + 24 ≤ n) :
    parseTokens v n ts = .tree (exprProgram e) := by
  have L := lin_oneLine h
  obtain ⟨m, rfl⟩ : ∃ m, n = m + 8 := ⟨n - 8, by omega⟩
  obtain ⟨hne, hhd⟩ := linE_facts L.lin
  have ho := inOrder_oneLine L.plain
  have hnc := (exprHeads_spec _ hhd).2
  have hsh := exprHeads_stmtHeads _ hhd
  have hs := stmtHeads_spec _ hsh.1
  have hbc : blockCond (layoutOps oneLine) 0 (S oneLine none ts false) = true := blockCond_true 0 none ts false hs.1 (oneLine_ind _)
  have hrd := reads_of hne none [] (by rw [List.append_nil]; exact ho) (glued_oneLine L.plain)
  rw [List.append_nil] at hrd
  have hfl : (Send oneLine ts []).flag = true := hrd.flag_eof hne rfl
  have hpos := List.length_pos_iff.mpr hne
  have hend : BlockEnd oneLine 0 (Send oneLine ts []) := ⟨by show cTypeEOF ≠ cTypeCommaSep; decide, Or.inl rfl⟩
  have hstmt : parse v (layoutOps oneLine) (m + 2) .statement (S oneLine none ts false) = .ok (.expr e) (Send oneLine ts []) :=
    andThen rfl (andThen (tryConsume_stops (s := S oneLine none ts false) (m + 1) ⟨hnc, Or.inr (hsh.2 L.head)⟩)
      (andThen (expr_reads (v := v) L.lin hrd ⟨hend.nc, Or.inr (by show cTypeEOF ∉ F1; decide)⟩ (m + 1) (by omega))
        (andThen (endOfStmt_ok (Or.inl hfl)) rfl)))
  -- `ParseExecBlock`: its loop in the 输入 state (no 输入), in the statement state (no 拦截, the statement), and at the end of input
  have hexec : parse v (layoutOps oneLine) (m + 5) (.execBlock 0) (S oneLine none ts false) =
      .ok (.mk [] (some [.expr e]) []) (Send oneLine ts []) := by
    refine andThen (getS_S _) ?_
    rw [if_pos hbc]
    refine andThen (tryConsume_stops (s := S oneLine none ts false) (m + 3) (.of_mem (H := stmtHeads) hsh.1)) (andThen (getS_S _) ?_)
    rw [if_pos hbc]
    exact andThen rfl (andThen (tryConsume_stops (s := S oneLine none ts false) (m + 2) (.of_mem (H := stmtHeads) hsh.1))
      (andThen hstmt (hand_nil (v := v) (Y := oneLine) 0 _ _ .stmt [] [.expr e] [] (Or.inl rfl) rfl (fun h => absurd rfl h) hend (m + 2)
        (by simp only [List.length_nil]; omega))))
  show parseLaidOut v oneLine (m + 8) ts = _
  unfold parseLaidOut parseAST
  rw [initState_S (m + 7) ts ho]
  dsimp only
  have hprog : parse v (layoutOps oneLine) (m + 8) .program (S oneLine none ts false) =
      .ok (exprProgram e) (Send oneLine ts []) := by
    refine andThen (getS_S _) ?_
    rw [peekIndentOf_S, oneLine_ind]
    exact programLoop_body (s := S oneLine none ts false) [] ⟨List.mem_cons_of_mem _ (List.mem_cons_of_mem _ hsh.1), rfl⟩ rfl
      (m + 4) hexec
  rw [hprog]
  rfl

end ZnVerif.Proofs.StmtRT
