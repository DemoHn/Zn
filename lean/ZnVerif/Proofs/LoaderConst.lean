/-
Names bound as constants reject assignment.  `Calls.ConstBound names s`: every name of the list is bound, in the current
module's scope, by a symbol that sits in a prefix of constants; a declaration with the constant flag extends it
(`ConstBound.declare`), and assigning such a name is error 44 (`ConstBound.set_rejected`).  A loop whose every pass declares a
constant or leaves the machine alone binds the names it declared (`forM_constBound`): so the inputs of a body are bound
(`Calls.bindInputs_constBound`), and so are the names an import statement binds, along the two loops of `bindImports` (all exports
in sorted order / the listed names in list order, `bindImports_constBound`).
The first part continues `namespace ZnVerif.Proofs.Calls`; the loader part declares into `ZnVerif.Proofs.Balance`, like
Proofs/Balance.lean.
-/
import ZnVerif.Proofs.Handlers
set_option linter.unusedSectionVars false
set_option linter.unusedSimpArgs false

namespace ZnVerif.Proofs.Calls
open ZnVerif.Model

variable {ν : Type} [NumOps ν]

/-- every name of the list is bound, in the current module's scope, by a symbol that sits in a prefix of constants -/
def ConstBound (names : List String) (s : VM ν) : Prop :=
  ∀ x ∈ names, ∃ sc pre rest, getScope s.csModuleID s = some sc ∧ sc.syms = pre ++ rest ∧
    (∀ sy ∈ pre, sy.isConst = true) ∧ ∃ sy ∈ pre, sy.name = x

theorem ConstBound.declare {names : List String} {s s' : VM ν} {name : String} {v : Addr} {ext : Option Int}
    (hb : ConstBound names s) (h : declareElement name v true ext s = (.ok (), s')) :
    ConstBound (name :: names) s' := by
  rcases declareElement_cases name v true ext s with ⟨e, he⟩ | ⟨sc, sc', h1, -, h2, h3⟩
  · rw [he] at h; cases h
  · rw [h3] at h; cases h
    have hg : getScope (putScope s.csModuleID sc' s).csModuleID (putScope s.csModuleID sc' s) = some sc' := by
      rw [putScope_cs, getScope_putScope_same]
    cases declare_ok h2
    intro x hx
    rcases List.mem_cons.mp hx with rfl | hx'
    · exact ⟨_, [_], sc.syms, hg, rfl, by intro sy hs; cases List.mem_singleton.mp hs; rfl, _, List.mem_cons_self, rfl⟩
    · obtain ⟨sc0, pre, rest, g1, g2, g3, sy, g4, g5⟩ := hb x hx'
      rw [h1] at g1; cases g1
      refine ⟨_, _ :: pre, rest, hg, congrArg (_ :: ·) g2, fun sy' hs => ?_, sy, List.mem_cons_of_mem _ g4, g5⟩
      rcases List.mem_cons.mp hs with rfl | hs'
      · rfl
      · exact g3 sy' hs'

theorem ConstBound.set_rejected {names : List String} {s : VM ν} (hb : ConstBound names s) (x : String)
    (hx : x ∈ names) (w : Addr) : setElement x w s = (.err (.rt 44), s) := by
  obtain ⟨sc, pre, rest, g1, g2, g3, g4⟩ := hb x hx
  unfold setElement
  have hcs : currentScope s = (.ok (some sc), s) := by unfold currentScope; rw [g1]
  rw [bind_ok hcs]
  simp only
  have : sc.set x w = .error (.rt 44) := by
    unfold Scope.set
    rw [g2, set_go_const_prefix x w rest pre g3 g4]
  rw [this]; rfl

theorem ConstBound.mono {names names' : List String} {s : VM ν} (h : ConstBound names s)
    (hsub : ∀ x ∈ names', x ∈ names) : ConstBound names' s :=
  fun x hx => h x (hsub x hx)

theorem forM_constBound {α : Type} (g : α → M ν Unit) (key : α → String) (bound : α → Bool)
    (hg : ∀ a s s', g a s = (.ok (), s') →
      (bound a = true ∧ ∃ v ext, declareElement (key a) v true ext s = (.ok (), s')) ∨ (bound a = false ∧ s' = s)) :
    ∀ (l : List α) (names : List String) (s s' : VM ν), ConstBound names s → l.forM g s = (.ok (), s') →
      ConstBound (((l.filter bound).map key) ++ names) s'
  | [], names, s, s', hb, h => by
    have : s' = s := by
      have h' : (pure PUnit.unit : M ν PUnit) s = (.ok (), s') := h
      cases h'; rfl
    subst this
    simpa using hb
  | a :: l, names, s, s', hb, h => by
    have h' : (g a >>= fun _ => l.forM g) s = (.ok (), s') := h
    obtain ⟨u, s1, h1, h2⟩ := bind_ok_inv h'
    rcases hg a s s1 h1 with ⟨hba, v, ext, hd⟩ | ⟨hba, rfl⟩
    · have hb1 := hb.declare hd
      have ih := forM_constBound g key bound hg l _ s1 s' hb1 h2
      refine ConstBound.mono ih ?_
      intro x hx
      simp only [List.filter_cons, hba, if_true, List.map_cons, List.cons_append, List.mem_cons, List.mem_append] at hx
      simp only [List.mem_append, List.mem_cons]
      rcases hx with rfl | hx | hx
      · exact Or.inr (Or.inl rfl)
      · exact Or.inl hx
      · exact Or.inr (Or.inr hx)
    · have ih := forM_constBound g key bound hg l _ s1 s' hb h2
      refine ConstBound.mono ih ?_
      intro x hx
      simpa [List.filter_cons, hba] using hx

theorem bindInputs_constBound (inputs : List Ident) (params : List Addr) (names : List String) (s s' : VM ν)
    (hl : params.length = inputs.length) (hb : ConstBound names s)
    (h : bindInputs inputs params s = (.ok (), s')) : ConstBound (inputs.map (·.lit) ++ names) s' := by
  refine (forM_constBound _ (·.1.lit) (fun _ => true) (fun a t t' ht => .inl ⟨rfl, a.2, none, ?_⟩) _ names s s' hb h).mono
    fun x hx => ?_
  · obtain ⟨nm, t1, h1, h2⟩ := bind_ok_inv ht
    obtain ⟨rfl, rfl⟩ := matchIDName_ok_inv h1
    exact h2
  · have hz : ((inputs.zip params).map Prod.fst).map (·.lit) = inputs.map (·.lit) := by
      rw [List.map_fst_zip (by omega)]
    rw [List.map_map] at hz
    rw [List.filter_eq_self.2 fun _ _ => rfl]
    exact hz ▸ hx

end ZnVerif.Proofs.Calls

namespace ZnVerif.Proofs.Balance
open ZnVerif.Model ZnVerif.Proofs.Calls

variable {ν : Type} [NumOps ν]

theorem mem_insertName (x y : String) : ∀ l : List String, y ∈ insertName x l ↔ y = x ∨ y ∈ l
  | [] => by simp [insertName]
  | z :: zs => by
    unfold insertName
    split
    · simp
    · simp only [List.mem_cons, mem_insertName x y zs]
      constructor
      · rintro (h | h | h)
        · exact Or.inr (Or.inl h)
        · exact Or.inl h
        · exact Or.inr (Or.inr h)
      · rintro (h | h | h)
        · exact Or.inr (Or.inl h)
        · exact Or.inl h
        · exact Or.inr (Or.inr h)

theorem mem_sortNames (y : String) : ∀ l : List String, y ∈ sortNames l ↔ y ∈ l
  | [] => by simp [sortNames]
  | x :: xs => by
    have ih := mem_sortNames y xs
    unfold sortNames at ih ⊢
    rw [List.foldr_cons, mem_insertName, ih]
    simp

/-- the names an import statement binds: all exports of the module, or the listed names the module exports -/
def boundNames (m : Module) (items : List Ident) : List String :=
  if items.isEmpty then m.exports.map (·.1)
  else (items.map (·.lit)).filter fun n => (lookup n m.exports).isSome

theorem bindImports_constBound (ext : Nat) (items : List Ident) (names : List String) (s s' : VM ν) (m : Module)
    (hm : s.modules[ext]? = some m) (hb : ConstBound names s) (h : bindImports ext items s = (.ok (), s')) :
    ConstBound (boundNames m items ++ names) s' := by
  unfold bindImports at h
  rw [bind_ok (show getVM s = (.ok s, s) from rfl)] at h
  simp only [hm] at h
  unfold boundNames
  split at h
  · rename_i hemp
    simp only [hemp, if_true]
    have := forM_constBound (ν := ν)
      (fun name => match lookup name m.exports with
        | some v => declareElement name v true (some (ext : Int))
        | none => goPanic) id (fun _ => true)
      (by
        intro a t t' ht
        left
        refine ⟨rfl, ?_⟩
        cases hl : lookup a m.exports with
        | none => simp only [hl] at ht; cases ht
        | some v => simp only [hl] at ht; exact ⟨v, _, ht⟩)
      _ names s s' hb h
    refine ConstBound.mono this ?_
    intro x hx
    simp only [List.mem_append] at hx ⊢
    rcases hx with hx | hx
    · left
      have := (mem_sortNames x _).2 hx
      simpa using this
    · exact Or.inr hx
  · rename_i hemp
    simp only [hemp, Bool.false_eq_true, if_false]
    have := forM_constBound (ν := ν)
      (fun (id : Ident) => match lookup id.lit m.exports with
        | some v => declareElement id.lit v true (some (ext : Int))
        | none => pure ()) (·.lit) (fun id => (lookup id.lit m.exports).isSome)
      (by
        intro a t t' ht
        cases hl : lookup a.lit m.exports with
        | none =>
          right
          simp only [hl] at ht
          refine ⟨by simp [hl], ?_⟩
          cases ht; rfl
        | some v =>
          left
          simp only [hl] at ht
          exact ⟨by simp [hl], v, _, ht⟩)
      _ names s s' hb h
    refine ConstBound.mono this ?_
    intro x hx
    simp only [List.mem_append, List.mem_filter, List.mem_map] at hx ⊢
    rcases hx with ⟨⟨a, ha, rfl⟩, hs⟩ | hx
    · exact Or.inl ⟨a, ⟨ha, hs⟩, rfl⟩
    · exact Or.inr hx

end ZnVerif.Proofs.Balance
