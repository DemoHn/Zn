/-
Bridge (A) ↔ (B), symbol table ((A) the evaluator model's embedded `Model.Scope`, (B) `SymTab.Scope` of `Model/Scope.lean`,
as in BridgesScope.lean), continued: operation histories on the evaluator model's scope (`stepI`, `runI`: one
`Spec.Scopes.Op` = one call of the corresponding `Model.Scope` function, exactly as `SymTab.Scope.step` does for
(B)), the one-step and history simulations, and the frame stack an evaluator scope stands for.  Core Lean only.
-/
import ZnVerif.Proofs.BridgesScope

namespace ZnVerif.Proofs.Bridges
open ZnVerif ZnVerif.Model ZnVerif.Proofs.Scope
open ZnVerif.SymTab (GoRes)
open ZnVerif.Spec.Scopes (Op Stack finalDepth extAtRoot)

/-- a function of (A) returning `Except Err Scope`: success → `done`; a runtime error keeps the scope and answers
its code; any other error class cannot come out of `Scope.declare` / `Scope.set` (`none`, shown unreachable below) -/
def ofExcept (sc : Model.Scope) : Except Err Model.Scope → Option (Model.Scope × Spec.Scopes.Res Addr)
  | .ok sc' => some (sc', .done)
  | .error (.rt c) => some (sc, .err c)
  | .error _ => none

def stepI (sc : Model.Scope) : Op Addr → Option (Model.Scope × Spec.Scopes.Res Addr)
  | .beginScope => some (sc.beginScope, .done)
  | .endScope => some (sc.endScope, .done)
  | .declare n v => ofExcept sc (sc.declare n v false none)
  | .declareConst n v => ofExcept sc (sc.declare n v true none)
  | .declareExternal n v m => ofExcept sc (sc.declare n v true (some (m : Int)))
  | .assign n v => ofExcept sc (sc.set n v)
  | .lookup n => some (sc, match sc.find n with | some sy => .val sy.val | none => .undefined)
  | .lookupM n => some (sc, match findM sc n with | (some v, m) => .valM v m | (none, _) => .undefined)

def runI (sc : Model.Scope) : List (Op Addr) → Option (Model.Scope × List (Spec.Scopes.Res Addr))
  | [] => some (sc, [])
  | op :: ops =>
    match stepI sc op with
    | none => none
    | some (sc', r) =>
      match runI sc' ops with
      | none => none
      | some (sc'', rs) => some (sc'', r :: rs)

/-- a symbol of (A) written as a live entry of (B); the module id is read as a natural number, which loses nothing on the
scopes of interest (those with an id absent or a natural number: `SimI.exts` of BridgesScopeReify.lean, where `toSym_toEntry`
undoes the conversion) -/
def toEntry (sy : Sym) : Entry Addr :=
  { sym := ⟨sy.name, sy.depth, sy.isConst⟩, value := sy.val, ext := sy.ext.map Int.toNat }

theorem toEntry_toSym (e : Entry Addr) : toEntry (toSym e) = e := by
  obtain ⟨⟨n, d, c⟩, v, x⟩ := e
  cases x <;> simp [toEntry, toSym]

/-- (A)'s symbols grouped by depth: the spec's frame stack -/
def stackOf (sc : Model.Scope) : Stack Addr := absAux sc.depth.toNat (sc.syms.map toEntry)

theorem stackOf_eq {sc : Model.Scope} {σ : SymTab.Scope Addr} (h : R sc σ) : stackOf sc = abs σ := by
  unfold stackOf abs
  rw [h.syms, h.depth, List.map_map]
  congr 1
  have : (toEntry ∘ toSym) = id := funext toEntry_toSym
  rw [this, List.map_id]

theorem ofErr_bridge {sc : Model.Scope} {σ : SymTab.Scope Addr} (h : R sc σ)
    {r : Except Err Model.Scope} {g : GoRes (SymTab.Scope Addr)} (hr : RelRes r g) :
    ∃ sc' σ' a, ofExcept sc r = some (sc', a) ∧ σ.ofErr g = .ok (σ', a) ∧ R sc' σ' := by
  cases r with
  | ok sc' =>
    cases g with
    | ok σ' => exact ⟨sc', σ', .done, rfl, rfl, hr.1⟩
    | err c => exact hr.elim
    | panic => exact hr.elim
  | error e =>
    cases g with
    | ok σ' => exact hr.elim
    | err c =>
      have he : e = .rt c := hr
      subst he
      exact ⟨sc, σ, .err c, rfl, rfl, h⟩
    | panic => exact hr.elim

theorem step_bridge {sc : Model.Scope} {σ : SymTab.Scope Addr} {d : Nat} (h : R sc σ) (hs : Sim σ d)
    (op : Op Addr) (hok : opOK d op) :
    ∃ sc' σ' r, stepI sc op = some (sc', r) ∧ σ.step op = .ok (σ', r) ∧ R sc' σ' ∧ Sim σ' (nextDepth d op) ∧
      Spec.Scopes.step (abs σ) op = some (abs σ', r) := by
  obtain ⟨σ₁, r₁, hstep, hsim, hspec⟩ := step_sim hs op hok
  -- (B)'s step, its invariant and the spec's step come from `step_sim`; each case below supplies (A)'s step and `R`, and
  -- `close` identifies the step of (B) it used with the one `step_sim` found
  have close : ∀ {sc' σ' r}, stepI sc op = some (sc', r) → σ.step op = .ok (σ', r) → R sc' σ' →
      ∃ sc' σ' r, stepI sc op = some (sc', r) ∧ σ.step op = .ok (σ', r) ∧ R sc' σ' ∧ Sim σ' (nextDepth d op) ∧
        Spec.Scopes.step (abs σ) op = some (abs σ', r) := by
    intro sc' σ' r h1 h2 h3
    have := h2.symm.trans hstep
    simp only [GoRes.ok.injEq, Prod.mk.injEq] at this
    obtain ⟨rfl, rfl⟩ := this
    exact ⟨sc', σ', r, h1, h2, h3, hsim, hspec⟩
  cases op with
  | beginScope => exact close rfl rfl (sim_beginScope h)
  | endScope =>
    obtain ⟨σ', he, hR, _⟩ := sim_endScope h hs.wf
    exact close rfl (by simp [SymTab.Scope.step, he]) hR
  | declare n v =>
    obtain ⟨sc', σ', a, h1, h2, h3⟩ := ofErr_bridge h (sim_declare h hs.wf hs.refs n v false)
    exact close h1 h2 h3
  | declareConst n v =>
    obtain ⟨sc', σ', a, h1, h2, h3⟩ := ofErr_bridge h (sim_declare h hs.wf hs.refs n v true)
    exact close h1 h2 h3
  | declareExternal n v m =>
    obtain ⟨sc', σ', a, h1, h2, h3⟩ := ofErr_bridge h (sim_declareExt h hs.wf n v m)
    exact close h1 h2 h3
  | assign n v =>
    obtain ⟨sc', σ', a, h1, h2, h3⟩ := ofErr_bridge h (sim_set h hs.wf n v)
    exact close h1 h2 h3
  | lookup n =>
    have hf := sim_find h hs.wf n
    refine close (sc' := sc) (σ' := σ) rfl ?_ h
    simp only [SymTab.Scope.step, hf]
    cases sc.find n <;> rfl
  | lookupM n =>
    have hf := sim_findM h hs.wf n
    refine close (sc' := sc) (σ' := σ) rfl ?_ h
    simp only [SymTab.Scope.step, hf]
    unfold findM
    cases sc.find n <;> rfl

theorem run_bridge (ops : List (Op Addr)) : ∀ (sc : Model.Scope) (σ : SymTab.Scope Addr) (d d' : Nat),
    R sc σ → Sim σ d → finalDepth d ops = some d' → extAtRoot d ops = true →
    ∃ sc' σ' rs, runI sc ops = some (sc', rs) ∧ Spec.Scopes.run (stackOf sc) ops = some (stackOf sc', rs) ∧
      R sc' σ' ∧ Sim σ' d' := by
  induction ops with
  | nil =>
    intro sc σ d d' h hs h1 _
    simp only [finalDepth, Option.some.injEq] at h1
    subst h1
    exact ⟨sc, σ, [], rfl, rfl, h, hs⟩
  | cons op ops ih =>
    intro sc σ d d' h hs h1 h2
    obtain ⟨hok, hf, he⟩ := bracket_cons h1 h2
    obtain ⟨sc₁, σ₁, r, hI, _, hR₁, hs₁, hS⟩ := step_bridge h hs op hok
    obtain ⟨sc₂, σ₂, rs, hI₂, hS₂, hR₂, hs₂⟩ := ih sc₁ σ₁ _ d' hR₁ hs₁ hf he
    rw [stackOf_eq hR₁] at hS₂
    exact ⟨sc₂, σ₂, r :: rs, by simp [runI, hI, hI₂], by simp [Spec.Scopes.run, stackOf_eq h, hS, hS₂], hR₂, hs₂⟩

end ZnVerif.Proofs.Bridges
