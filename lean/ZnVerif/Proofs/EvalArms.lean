/-
The evaluator's mutual block (`Model/Interp.lean`: `evalExpr`, `memberIV`, `evalStmt`, `evalPureStmtBlock`, `evalStmtBlock`,
`evalExecBlock`), constructor by constructor, as a composition of named pieces: a piece is
a *name* for a part of a `do`-block, and an equation (`evalExpr_logic`, `evalStmt_while`, …) ties it to the model.  A
theorem that follows one run of a construct rewrites with its equation and then reasons about the pieces; a judgment that
traverses the evaluator does so for 每当, 遍历 and 如果 (it supplies a rule for the line step, the condition node and the
pass handler) and unfolds the model on the other arms, which are short.

The equations are stated in the verbatim general form (a variable for every argument of the constructor, the pieces
applied to the evaluations at the smaller fuel) and proved `by rfl`: in that form the unifier compares the two sides
without unfolding the operations below them (`:= by rfl` rather than `:= rfl`, which would mark the theorem `@[defeq]` and
unfold the evaluator a second time for that check).  A `let x ← match …` of the model is compiled with a join point: what
follows is copied into every arm of the `match`.  A piece that stands for such a `match` therefore takes what follows as
an argument (`withIterSlots names K`, `hmEntry k ev`); `withIterSlots_eq` gives the form with a bind.
-/
import ZnVerif.Proofs.Handlers
set_option linter.unusedSectionVars false

namespace ZnVerif.Properties.C08
open ZnVerif.Model

variable {ν : Type} [NumOps ν]

/-- `得到 名`: the result is also declared under the name, as a constant -/
def bindYield (yld : Option Ident) (res : Addr) : M ν Addr :=
  match yld with
  | none => pure res
  | some y => do
    let yn ← matchIDName y.lit
    declareElement yn res true
    pure res

/-- one link of `以 x （m1：…）、（m2：…）`: evaluate the link's arguments, call the method on the current receiver -/
def chainStep (n : Nat) (cur : Addr) (c : Expr) : M ν Addr :=
  match c with
  | .call _ mname params _ => do
    let fname ← matchIDNameOpt mname
    let vals ← params.mapM (evalExpr n)
    execMethodFunction n cur fname vals
  | _ => goPanic

end ZnVerif.Properties.C08

namespace ZnVerif.Proofs
open ZnVerif.Model
open ZnVerif.Properties.C08 (bindYield chainStep)

variable {ν : Type} [NumOps ν]

/-- go on with the number a cell holds; any other cell is runtime error `e` -/
def withNum {α} (e : Nat) (K : ν → M ν α) : Cell ν → M ν α
  | .num x => K x
  | _ => rtErr e

/-- the same for the truth value of a `.bool` cell -/
def withBool {α} (e : Nat) (K : Bool → M ν α) : Cell ν → M ν α
  | .bool b => K b
  | _ => rtErr e

/-- 且 / 或: the right operand runs only when the left one does not decide -/
def andorNode (ty : Nat) (el er : M ν Addr) : M ν Addr := do
  let lv ← el
  getCell lv >>= withBool 80 fun lb =>
    if ty == LogicAND && !lb then newBool false
    else if ty == LogicOR && lb then newBool true
    else do
      let rv ← er
      getCell rv >>= withBool 80 fun rb => newBool (if ty == LogicAND then lb && rb else lb || rb)

/-- the comparison operators on two evaluated operands; `cmp` is the structural comparison -/
def cmpNode (ty : Nat) (cmp : Addr → Addr → M ν Bool) (lv rv : Addr) : M ν Addr :=
  if ty == LogicXEQ || ty == LogicEQ then do let b ← cmp lv rv; newBool b
  else if ty == LogicXNEQ || ty == LogicNEQ then do let b ← cmp lv rv; newBool (!b)
  else if ty == LogicGT || ty == LogicGTE || ty == LogicLT || ty == LogicLTE then
    getCell lv >>= withNum 83 fun x => getCell rv >>= withNum 84 fun y =>
      newBool (if ty == LogicGT then NumOps.gt x y else if ty == LogicGTE then NumOps.ge x y
               else if ty == LogicLT then NumOps.lt x y else NumOps.le x y)
  else rtErr 70

/-- a logic expression: 且 / 或 go to `andorNode`; a comparison evaluates both operands, then `cmpNode` -/
def logicNode (ty : Nat) (cmp : Addr → Addr → M ν Bool) (el er : M ν Addr) : M ν Addr :=
  if ty == LogicAND || ty == LogicOR then andorNode ty el er
  else do
    let lv ← el
    let rv ← er
    cmpNode ty cmp lv rv

/-- `+ - * / |` on two numbers -/
def arithOp (ty : Nat) (a b : ν) : M ν Addr :=
  if ty == ArithAdd then newNum (NumOps.add a b)
  else if ty == ArithSub then newNum (NumOps.sub a b)
  else if ty == ArithMul then newNum (NumOps.mul a b)
  else if ty == ArithDiv then
    if NumOps.isZero b then rtErr 90 else newNum (NumOps.div a b)
  else if ty == ArithIntDiv then
    if NumOps.isZero b then rtErr 90 else newNum (NumOps.floor (NumOps.div a b))
  else rtErr 70

/-- `%` on the cells of its operands -/
def modCells : Cell ν → Cell ν → M ν Addr
  | .num a, .num b =>
    if NumOps.isZero b then rtErr 90
    else newNum (NumOps.sub a (NumOps.mul (NumOps.floor (NumOps.div a b)) b))
  | .str _, .arr _ => notModelled     -- text formatting: C14's model
  | _, _ => rtErr 80

theorem modCells_num (x : ν) : modCells (.num x) = withNum 80 fun y =>
    if NumOps.isZero y then rtErr 90 else newNum (NumOps.sub x (NumOps.mul (NumOps.floor (NumOps.div x y)) y)) :=
  funext fun cr => by cases cr <;> rfl

/-- `%` evaluates both operands before it looks at either -/
def modNode (el er : M ν Addr) : M ν Addr := do
  let lv ← el
  let rv ← er
  modCells (← getCell lv) (← getCell rv)

/-- the other arithmetic operators: a non-number on the left is an error before the right operand runs -/
def arithNode (ty : Nat) (el er : M ν Addr) : M ν Addr :=
  if ty == ArithModulo then modNode el er
  else do
    let lv ← el
    getCell lv >>= withNum 80 fun a => do
      let rv ← er
      getCell rv >>= withNum 80 fun b => arithOp ty a b

/-- an entry of a dictionary literal: the key is a text, or a name / number taken literally -/
def hmEntry (k : Expr) (ev : M ν Addr) : M ν (String × Addr) := do
  let key ← match k with
    | .str _ s => pure s
    | .id i => do let _ ← matchIDType i.lit; pure i.lit
    | _ => rtErr 80
  let v ← ev
  pure (key, v)

theorem evalExpr_logic (n ln ty : Nat) (l r : Expr) :
    evalExpr (ν := ν) (n+1) (.logic ln ty l r) = logicNode ty (compareXEQ n) (evalExpr n l) (evalExpr n r) := by rfl

theorem evalExpr_arith (n ln ty : Nat) (l r : Expr) :
    evalExpr (ν := ν) (n+1) (.arith ln ty l r) = arithNode ty (evalExpr n l) (evalExpr n r) := by rfl

theorem evalExpr_str (n ln : Nat) (t : String) : evalExpr (ν := ν) (n+1) (.str ln t) = newStr t := by rfl

theorem evalExpr_id (n : Nat) (i : Ident) :
    evalExpr (ν := ν) (n+1) (.id i) = (do
      match ← matchIDType i.lit with
      | .name s => findElement s
      | .number x => newNum x) := by rfl

theorem evalExpr_arr (n ln : Nat) (items : List Expr) :
    evalExpr (ν := ν) (n+1) (.arr ln items) = (do let vs ← items.mapM (evalExpr n); alloc (.arr vs)) := by rfl

theorem evalExpr_hm (n ln : Nat) (kvs : List (Expr × Expr)) :
    evalExpr (ν := ν) (n+1) (.hm ln kvs) = (do
      let pairs ← kvs.mapM fun kv => hmEntry kv.1 (evalExpr n kv.2)
      alloc (newHashMapCell pairs)) := by rfl

/-! ### a node whose operands have run to a value goes on from the state they left -/

theorem withBool_ne {α} (e : Nat) (K : Bool → M ν α) {c : Cell ν} (h : ∀ b, c ≠ .bool b) : withBool e K c = rtErr e := by
  cases c <;> first | rfl | exact absurd rfl (h _)

theorem withNum_ne {α} (e : Nat) (K : ν → M ν α) {c : Cell ν} (h : ∀ x, c ≠ .num x) : withNum e K c = rtErr e := by
  cases c <;> first | rfl | exact absurd rfl (h _)

theorem logicNode_andor {ty : Nat} (hty : ty = LogicAND ∨ ty = LogicOR) (cmp : Addr → Addr → M ν Bool) (el er : M ν Addr) :
    logicNode ty cmp el er = andorNode ty el er := by
  rcases hty with rfl | rfl <;> rfl

theorem andorNode_left {ty : Nat} {el er : M ν Addr} {s s' : VM ν} {a : Addr} {c : Cell ν}
    (hl : el s = (.ok a, s')) (hc : s'.heap[a]? = some c) :
    andorNode ty el er s = withBool 80 (fun lb =>
      if ty == LogicAND && !lb then newBool false
      else if ty == LogicOR && lb then newBool true
      else do
        let rv ← er
        getCell rv >>= withBool 80 fun rb => newBool (if ty == LogicAND then lb && rb else lb || rb)) c s' := by
  rw [andorNode, Calls.bind_ok hl, Calls.getCell_bind _ hc]

theorem logicNode_cmp {ty : Nat} {cmp : Addr → Addr → M ν Bool} {el er : M ν Addr} {s s' s'' : VM ν} {a b : Addr}
    (hty : (ty == LogicAND || ty == LogicOR) = false) (hl : el s = (.ok a, s')) (hr : er s' = (.ok b, s'')) :
    logicNode ty cmp el er s = cmpNode ty cmp a b s'' := by
  rw [logicNode, hty, if_neg Bool.false_ne_true, Calls.bind_ok hl, Calls.bind_ok hr]

theorem arithNode_left {ty : Nat} {el er : M ν Addr} {s s' : VM ν} {a : Addr} {c : Cell ν}
    (hty : (ty == ArithModulo) = false) (hl : el s = (.ok a, s')) (hc : s'.heap[a]? = some c) :
    arithNode ty el er s = withNum 80 (fun x => do
      let rv ← er
      getCell rv >>= withNum 80 fun y => arithOp ty x y) c s' := by
  rw [arithNode, hty, if_neg Bool.false_ne_true, Calls.bind_ok hl, Calls.getCell_bind _ hc]

theorem arithNode_nums {ty : Nat} {el er : M ν Addr} {s s' s'' : VM ν} {a b : Addr} {x y : ν}
    (hty : (ty == ArithModulo) = false) (hl : el s = (.ok a, s')) (hr : er s' = (.ok b, s''))
    (hx : s'.heap[a]? = some (.num x)) (hy : s''.heap[b]? = some (.num y)) :
    arithNode ty el er s = arithOp ty x y s'' := by
  rw [arithNode_left hty hl hx]
  show (er >>= _) s' = _
  rw [Calls.bind_ok hr, Calls.getCell_bind _ hy]; rfl

theorem modNode_nums {el er : M ν Addr} {s s' s'' : VM ν} {a b : Addr} {x y : ν}
    (hl : el s = (.ok a, s')) (hr : er s' = (.ok b, s''))
    (hx : s''.heap[a]? = some (.num x)) (hy : s''.heap[b]? = some (.num y)) :
    modNode el er s = modCells (.num x) (.num y) s'' := by
  rw [modNode, Calls.bind_ok hl, Calls.bind_ok hr, Calls.getCell_bind _ hx, Calls.getCell_bind _ hy]

theorem evalExpr_member (n l rt mt : Nat) (root : Expr) (mid : Option Ident) (idx : Expr) :
    evalExpr (ν := ν) (n+1) (.member l rt root mt mid idx) = (do
      let iv ← memberIV n (.member l rt root mt mid idx)
      reduceRHS n iv) := by rfl

theorem evalExpr_assign (n ln : Nat) (target rhs : Expr) :
    evalExpr (ν := ν) (n+1) (.assign ln target rhs) = (do
      let vr ← evalExpr n rhs
      let vr ← dup n vr
      match target with
      | .id i => do
        let name ← matchIDName i.lit
        setElement name vr
        pure vr
      | .member _ _ _ mt _ _ =>
        if mt == 1 || mt == 2 then do
          let iv ← memberIV n target
          reduceLHS iv vr
          pure vr
        else rtErr 72
      | _ => rtErr 70) := by rfl

theorem evalExpr_assign_id (n ln : Nat) (i : Ident) (rhs : Expr) :
    evalExpr (ν := ν) (n+1) (.assign ln (.id i) rhs) = (do
      let vr ← evalExpr n rhs
      let vr ← dup n vr
      let name ← matchIDName i.lit
      setElement name vr
      pure vr) := by rfl

theorem evalExpr_call (n ln : Nat) (name : Option Ident) (params : List Expr) (yld : Option Ident) :
    evalExpr (ν := ν) (n+1) (.call ln name params yld) = (do
      let fname ← matchIDNameOpt name
      let vals ← params.mapM (evalExpr n)
      let res ← execDirectFunction n fname vals
      bindYield yld res) := by rfl

theorem evalExpr_mcall (n ln : Nat) (root : Expr) (chain : List Expr) (yld : Option Ident) :
    evalExpr (ν := ν) (n+1) (.mcall ln root chain yld) = (do
      let rv ← evalExpr n root
      let last ← chain.foldlM (chainStep n) rv
      bindYield yld last) := by rfl

theorem evalExpr_new (n ln : Nat) (cls : Option Ident) (params : List Expr) :
    evalExpr (ν := ν) (n+1) (.new ln cls params) = (do
      let cname ← matchIDNameOpt cls
      let cv ← findElement cname
      match ← getCell cv with
      | .cls .. => do
        let vals ← params.mapM (evalExpr n)
        construct n cv vals
      | .num _ => do
        let vals ← params.mapM (evalExpr n)
        validateExact vals ["number"]
        match vals with
        | [p] => pure p
        | _ => goPanic
      | _ => rtErr 82) := by rfl

/-- `root#idx` once both are evaluated: a list takes a number, a dictionary a number (as text) or a text -/
def indexIV (rv iv : Addr) : M ν (Nat × Addr × String × Int) := do
  match ← getCell rv with
  | .arr _ =>
    match ← getCell iv with
    | .num x => pure (1, rv, "", NumOps.toInt x)
    | _ => rtErr 80
  | .hm _ _ =>
    match ← getCell iv with
    | .num x => pure (2, rv, NumOps.fmt x, 0)
    | .str s => pure (2, rv, s, 0)
    | _ => rtErr 80
  | _ => rtErr 80

/-- the member `mid` of the value `t` -/
def memberOf (t : Addr) (mid : Option Ident) : M ν (Nat × Addr × String × Int) :=
  match mid with
  | some m => pure (3, t, m.lit, 0)
  | none => goPanic

theorem memberIV_member (n l rt mt : Nat) (root : Expr) (mid : Option Ident) (idx : Expr) :
    memberIV (ν := ν) (n+1) (.member l rt root mt mid idx) =
      (if rt == 2 then do
        match ← getThis with
        | none => rtErr 48
        | some t => memberOf t mid
      else if rt == 1 then do
        let rv ← evalExpr n root
        if mt == 1 then memberOf rv mid
        else if mt == 2 then do
          let iv ← evalExpr n idx
          indexIV rv iv
        else rtErr 70
      else rtErr 70) := by rfl

/-- what `Function.Exec` makes of the outcome of a method body: a runtime fault (`.rt`) and an error of any other kind
(`.other`) become an exception error, which the caller's handlers catch; everything else — value, thrown exception, signal,
semantic error — passes -/
def fnResult (r : Res Addr) : M ν Addr :=
  match r with
  | .err (.rt code) => do
    let a ← alloc (.exc ("‹rt:" ++ toString code ++ "›"))
    throwE (.excErr a)
  | .err .other => do
    let a ← alloc (.exc "‹other›")
    throwE (.excErr a)
  | r => liftRes r

theorem execFunction_user (n : Nat) (exec : Option ExecBlock) (this : Option Addr) (params : List Addr) :
    execFunction (ν := ν) (n+1) (.user exec) this params = tryCatch (evalExecBlock n exec params) fnResult := by rfl

/-- in the frame a call has pushed: the method a cell holds is run and that frame popped; `other` is what a cell that
holds no method gives -/
def runFn (n : Nat) (this : Option Addr) (params : List Addr) (other : M ν Addr) : Cell ν → M ν Addr
  | .fn f => do
    let r ← execFunction n f this params
    popFrame
    pure r
  | _ => other

theorem execDirectFunction_eq (n : Nat) (fname : String) (params : List Addr) :
    execDirectFunction (ν := ν) (n+1) fname params = (do
      let (fv, mid) ← findElementWithModule fname
      pushFrame { moduleId := mid, callType := 2 }
      getCell fv >>= runFn n none params (rtErr 81)) := by rfl

end ZnVerif.Proofs

/-! ## statements: the pieces `evalStmt` is made of

(the definitions that the statements of C02 mention keep the names they have there) -/

namespace ZnVerif.Proofs.ControlFlow
open ZnVerif.Model ZnVerif.Proofs.Calls

variable {ν : Type} [NumOps ν]

/-- `vm.SetCurrentLine` on the top frame -/
def setLine (ln : Nat) (s : VM ν) : VM ν :=
  match s.stack with
  | [] => s
  | fr :: rest => { s with stack := { fr with line := ln, started := true } :: rest }

theorem setLine_bind {α} (ln : Nat) (k : M ν α) (s : VM ν) :
    ((setTopFrame fun fr => { fr with line := ln, started := true }) >>= fun _ => k) s = k (setLine ln s) := by
  simp only [bind, setTopFrame, modifyVM, setLine]
  cases s.stack <;> rfl

/-- how a loop reads the end of a pass: `some true` = go on with the next pass, `some false` = stop the loop
(结束循环, or 输出 left the return slot set), `none` = not the loop's business (error, panic, … propagate) -/
def passVerdict {α} (r : Res α) (s : VM ν) : Option Bool :=
  match r with
  | .err .sigContinue => some true
  | .err .sigBreak => some false
  | .ok _ => some (retSlot s).isNone
  | _ => none

/-- what a loop makes of the outcome of a pass; `go` is the answer that stands for "next pass" (每当 answers whether to go
on, 遍历 whether to stop) -/
def passHandler {α} (go : Bool) (r : Res α) : M ν Bool :=
  match r with
  | .err .sigContinue => pure go
  | .err .sigBreak => pure (!go)
  | .ok _ => do
    match ← getReturnValue with
    | some _ => pure (!go)
    | none => pure go
  | .err e => throwE e
  | .panic => goPanic
  | .fuel => outOfFuel
  | .unmodelled => notModelled

/-- one turn of the `for { … }` of evalWhileLoopStmt (verbatim from `evalStmt`): test, pass, verdict -/
def whileStep (n : Nat) (cond : Expr) (body : Option (List Stmt)) : M ν Bool := do
        let c ← evalExpr n cond
        match ← getCell c with
        | .bool true =>
          tryCatch (evalPureStmtBlock n body) fun r =>
            match r with
            | .err .sigContinue => pure true
            | .err .sigBreak => pure false
            | .ok _ => do
              match ← getReturnValue with
              | some _ => pure false
              | none => pure true
            | .err e => throwE e
            | .panic => goPanic
            | .fuel => outOfFuel
            | .unmodelled => notModelled
        | .bool false => pure false
        | _ => rtErr 80

/-- one turn as the loop runs it: `vm.SetCurrentLine(node.GetCurrentLine())`, then test, pass, verdict -/
def whileTurn (n ln : Nat) (cond : Expr) (body : Option (List Stmt)) : M ν Bool := do
        setTopFrame fun fr => { fr with line := ln, started := true }
        whileStep n cond body

/-- declaration of the loop variables (0, 1 or 2 names) in the loop's own scope; verbatim from `evalStmt` -/
def iterSlots (names : List Ident) : M ν (Option String × Option String) :=
        match names with
          | [] => pure (none, none)
          | [v] => do
            let vn ← matchIDName v.lit
            let nl ← newNull
            declareElement vn nl false
            pure (none, some vn)
          | [k, v] => do
            let kn ← matchIDName k.lit
            let vn ← matchIDName v.lit
            let n1 ← newNull
            declareElement kn n1 false
            let n2 ← newNull
            declareElement vn n2 false
            pure (some kn, some vn)
          | _ => rtErr 52

/-- what a pass does before the body: copy the element (`dup`), then re-bind the loop variables -/
def iterBind (n nameLen : Nat) (slots : Option String × Option String) (key v : Addr) : M ν Unit := do
          let v ← dup n v
          if nameLen == 1 then
            match slots.2 with | some vn => setElement vn v | none => pure ()
          else if nameLen == 2 then do
            match slots.1 with | some kn => setElement kn key | none => pure ()
            match slots.2 with | some vn => setElement vn v | none => pure ()
          else pure ()

/-- `runBody` of `evalStmt`, verbatim -/
def iterRunBody (n nameLen : Nat) (slots : Option String × Option String) (body : Option (List Stmt))
    (key v : Addr) : M ν Unit := do
          let v ← dup n v
          if nameLen == 1 then
            match slots.2 with | some vn => setElement vn v | none => pure ()
          else if nameLen == 2 then do
            match slots.1 with | some kn => setElement kn key | none => pure ()
            match slots.2 with | some vn => setElement vn v | none => pure ()
          else pure ()
          let _ ← evalPureStmtBlock n body
          pure ()

/-- `pass` of `evalStmt`, verbatim: answers whether the loop has to stop -/
def iterPass (n nameLen : Nat) (slots : Option String × Option String) (body : Option (List Stmt))
    (key v : Addr) : M ν Bool :=
          tryCatch (iterRunBody n nameLen slots body key v) fun r =>
            match r with
            | .err .sigContinue => pure false
            | .err .sigBreak => pure true
            | .ok _ => do
              match ← getReturnValue with
              | some _ => pure true
              | none => pure false
            | .err e => throwE e
            | .panic => goPanic
            | .fuel => outOfFuel
            | .unmodelled => notModelled

def iterListStep (n nameLen : Nat) (slots : Option String × Option String) (body : Option (List Stmt))
    (i : Nat) (v : Addr) : M ν Bool := do
            let idx ← newNum (NumOps.ofInt (i + 1))
            iterPass n nameLen slots body idx v

def iterDictStep (n nameLen : Nat) (slots : Option String × Option String) (body : Option (List Stmt))
    (target : Addr) (k : String) : M ν Bool := do
            match ← getCell target with
            | .hm vals _ =>
              match lookup k vals with
              | some v => do
                let ks ← newStr k
                iterPass n nameLen slots body ks v
              | none => pure false
            | _ => goPanic

/-- one 再如 alternative (verbatim): `some ()` when its condition was 真 and its block has been run -/
def branchOther (n : Nat) (o : Expr × Option (List Stmt)) : M ν (Option Unit) := do
            let oc ← evalExpr n o.1
            match ← getCell oc with
            | .bool true => do let _ ← evalPureStmtBlock n o.2; pure (some ())
            | .bool false => pure none
            | _ => rtErr 80

/-- the 否则 part (verbatim) -/
def branchElse (n : Nat) (hasElse : Bool) (elseB : Option (List Stmt)) : M ν Unit :=
  if hasElse then do let _ ← evalPureStmtBlock n elseB; pure () else pure ()

/-- the hoisting pass of `evalStmtBlock` (verbatim): definitions are executed before everything else -/
def hoistDecls (n : Nat) (stmts : List Stmt) : M ν Unit :=
    stmts.forM fun st =>
      match st with
      | .classDecl .. => do
        setTopFrame fun fr => { fr with line := st.line, started := true }
        evalClassDecl n st
      | .funcDecl _ _ declType _ => do
        setTopFrame fun fr => { fr with line := st.line, started := true }
        if declType == 3 then evalCtorDecl n st else evalFuncDecl n st
      | _ => pure ()

/-- what `evalExecBlock` does before the body: bind 此 (method frames), check and bind the inputs -/
def execPrelude (inputs : List Ident) (params : List Addr) : M ν Unit := do
      let vm ← getVM
      match vm.stack.head? with
      | some fr =>
        if fr.callType == 2 then
          match fr.this with
          | some t => tryCatch (declareElement "此" t true) fun _ => pure ()
          | none => pure ()
        else pure ()
      | none => pure ()
      if params.length ≠ inputs.length then rtErr 51 else
      (inputs.zip params).forM fun p => do
        let name ← matchIDName p.1.lit
        declareElement name p.2 true

theorem execPrelude_run (inputs : List Ident) (params : List Addr) (s : VM ν) :
    execPrelude inputs params s =
      (do bindThis s; if params.length ≠ inputs.length then rtErr 51 else bindInputs inputs params : M ν Unit) s := by
  unfold execPrelude bindThis
  rw [bind_ok (rfl : getVM s = (.ok s, s))]
  cases s.stack.head? with
  | none => rfl
  | some fr =>
    dsimp only
    split
    · cases fr.this <;> rfl
    · rfl

theorem evalExecBlock_eq (n : Nat) (inputs : List Ident) (body : Option (List Stmt))
    (catches : List (Option Ident × Option (List Stmt))) (params : List Addr) (s : VM ν) :
    evalExecBlock (n+1) (some (.mk inputs body catches)) params s =
      withScope (do
        let vm ← getVM
        execPrelude inputs params
        tryCatch (evalStmtBlock n body) (finishBlock n vm.csModuleID vm.stack.length catches)) s := by
  rw [Calls.evalExecBlock_eq]
  refine congrArg (fun b => withScope b s) (funext fun s0 => ?_)
  show execBlockBody n inputs body catches params s0 = (execPrelude inputs params >>= _) s0
  unfold execBlockBody
  rw [M_bind_def, M_bind_def, execPrelude_run, M_bind_def]
  rcases bindThis s0 s0 with ⟨r, s1⟩
  cases r <;> try rfl
  dsimp only
  split <;> rfl

end ZnVerif.Proofs.ControlFlow

namespace ZnVerif.Model
variable {ν : Type} [NumOps ν]

/-- one step of the `foldlM` of `evalStmt … (.varDecl …)`: the next name gets a duplicate of the previous value -/
def declStep (n : Nat) (isConst : Bool) (cur : Addr) (v : Ident) : M ν Addr := do
  let name ← matchIDName v.lit
  let cur' ← dup n cur
  declareElement name cur' isConst
  pure cur'

end ZnVerif.Model

namespace ZnVerif.Proofs.EvalArms
open ZnVerif.Model ZnVerif.Proofs.Calls ZnVerif.Proofs.ControlFlow

variable {ν : Type} [NumOps ν]

/-- every statement first records its line in the top frame -/
def lineStep (l : Nat) : M ν Unit := setTopFrame fun fr => { fr with line := l, started := true }

/-- a condition cell: 真 / 假 choose a branch, anything else is runtime error 80 -/
def boolCell {α} (t f : M ν α) : Cell ν → M ν α
  | .bool true => t
  | .bool false => f
  | _ => rtErr 80

/-- a condition is evaluated and read as a truth value: the first step of 如果, of every 再如 and of every turn of 每当 -/
def condNode {α} (ec : M ν Addr) (t f : M ν α) : M ν α := do
  let c ← ec
  getCell c >>= boolCell t f

/-- the rule of `condNode` for every judgment that `pure` satisfies and `bind` keeps, from its two leaves -/
theorem _root_.ZnVerif.Proofs.Calls.Closed.condNode {J : ∀ {α : Type}, M ν α → Prop} (hJ : Closed J) {β} {ec : M ν Addr}
    {t f : M ν β} (hg : ∀ a, J (getCell a : M ν (Cell ν))) (he : J (rtErr 80 : M ν β)) (hc : J ec) (ht : J t) (hf : J f) :
    J (condNode ec t f) :=
  hJ.bind hc fun _ => hJ.bind (hg _) fun c => by unfold boolCell; split <;> assumption

/-- declare the loop variables of 遍历 as 空 and go on with their names (key name, value name) -/
def withIterSlots {α} (names : List Ident) (K : Option String × Option String → M ν α) : M ν α := do
  let slots ← match names with
    | [] => pure (none, none)
    | [v] => do
      let vn ← matchIDName v.lit
      let nl ← newNull
      declareElement vn nl false
      pure (none, some vn)
    | [k, v] => do
      let kn ← matchIDName k.lit
      let vn ← matchIDName v.lit
      let n1 ← newNull
      declareElement kn n1 false
      let n2 ← newNull
      declareElement vn n2 false
      pure (some kn, some vn)
    | _ => rtErr 52
  K slots

theorem withIterSlots_eq {α} (names : List Ident) (K : Option String × Option String → M ν α) :
    withIterSlots names K = iterSlots names >>= K := by
  rcases names with _ | ⟨v, _ | ⟨k, _ | ⟨w, rest⟩⟩⟩ <;>
    simp only [withIterSlots, iterSlots, bind_assoc, pure_bind] <;> rfl

/-- the elements of the target: list items with their 1-based index in a fresh cell; dictionary keys in the
order they had when the loop started, the value read at iteration time -/
def iterLoop (pass : Addr → Addr → M ν Bool) (target : Addr) : M ν Unit := do
  match ← getCell target with
  | .arr items =>
    untilIdxM (fun i v => do
      let idx ← newNum (NumOps.ofInt (i + 1))
      pass idx v) 0 items
  | .hm _ order =>
    untilM (fun k => do
      match ← getCell target with
      | .hm vals _ =>
        match lookup k vals with
        | some v => do
          let ks ← newStr k
          pass ks v
        | none => pure false
      | _ => goPanic) order
  | _ => rtErr 80

theorem evalStmt_varDecl (n ln : Nat) (pairs : List (Nat × List Ident × Expr)) :
    evalStmt (ν := ν) (n+1) (.varDecl ln pairs) = (do
      lineStep ln
      pairs.forM fun p => do
        let (ty, vars, e) := p
        if ty == 1 || ty == 3 then do
          let obj ← evalExpr n e
          let _ ← vars.foldlM (declStep n (ty == 3)) obj
        else pure ()
      newNull) := by rfl

theorem evalStmt_while (n l : Nat) (cond : Expr) (body : Option (List Stmt)) :
    evalStmt (ν := ν) (n+1) (.while l cond body) = (do
      lineStep l
      whileM n (whileTurn n l cond body)
      newNull) := by rfl

theorem evalStmt_branch (n ln : Nat) (ifE : Expr) (ifB : Option (List Stmt)) (others : List (Expr × Option (List Stmt)))
    (hasElse : Bool) (elseB : Option (List Stmt)) :
    evalStmt (ν := ν) (n+1) (.branch ln ifE ifB others hasElse elseB) = (do
      lineStep ln
      condNode (evalExpr n ifE) (do let _ ← evalPureStmtBlock n ifB; newNull) (do
        firstM (branchOther n) (branchElse n hasElse elseB) others
        newNull)) := by rfl

theorem evalStmt_empty (n ln : Nat) : evalStmt (ν := ν) (n+1) (.empty ln) = (do lineStep ln; newNull) := by rfl

theorem evalStmt_funcDecl (n ln : Nat) (name : Option Ident) (declType : Nat) (exec : Option ExecBlock) :
    evalStmt (ν := ν) (n+1) (.funcDecl ln name declType exec) = (do
      lineStep ln
      if declType == 3 then evalCtorDecl n (.funcDecl ln name declType exec)
      else evalFuncDecl n (.funcDecl ln name declType exec)
      newNull) := by rfl

theorem evalStmt_iterate (n ln : Nat) (e : Expr) (names : List Ident) (body : Option (List Stmt)) :
    evalStmt (ν := ν) (n+1) (.iterate ln e names body) = (do
      lineStep ln
      withScope do
        let target ← evalExpr n e
        withIterSlots names fun slots => iterLoop (iterPass n names.length slots body) target
      newNull) := by rfl

theorem evalStmt_ret (n ln : Nat) (e : Expr) :
    evalStmt (ν := ν) (n+1) (.ret ln e) = (do
      lineStep ln
      let v ← evalExpr n e
      setTopFrame fun fr => { fr with ret := some v }
      pure v) := by rfl

theorem evalStmt_throw (n ln : Nat) (cls : Option Ident) (params : List Expr) :
    evalStmt (ν := ν) (n+1) (.throw ln cls params) = (do
      lineStep ln
      let cname ← matchIDNameOpt cls
      let cv ← findElement cname
      match ← getCell cv with
      | .cls .. => do
        let vals ← params.mapM (evalExpr n)
        let ex ← construct n cv vals
        throwE (.sigExc ex)
      | _ => rtErr 85) := by rfl

theorem evalStmt_continue (n ln : Nat) :
    evalStmt (ν := ν) (n+1) (.continue ln) = (do lineStep ln; throwE .sigContinue) := by rfl

theorem evalStmt_break (n ln : Nat) : evalStmt (ν := ν) (n+1) (.break ln) = (do lineStep ln; throwE .sigBreak) := by rfl

theorem evalStmt_expr (n : Nat) (e : Expr) :
    evalStmt (ν := ν) (n+1) (.expr e) = (do lineStep (Stmt.expr e).line; evalExpr n e) := by rfl

/-! ### the pieces in the form the judgments take them apart -/

theorem whileStep_eq (n : Nat) (c : Expr) (body : Option (List Stmt)) :
    (whileStep n c body : M ν Bool) =
      condNode (evalExpr n c) (Model.tryCatch (evalPureStmtBlock n body) (passHandler true)) (pure false) := by
  unfold whileStep condNode
  refine congrArg _ (funext fun a => congrArg _ (funext fun cell => ?_))
  cases cell <;> try rfl
  rename_i b; cases b <;> try rfl
  dsimp only [boolCell]
  refine congrArg _ (funext fun r => ?_)
  rcases r with _ | e | _ | _ | _ <;> first | rfl | (cases e <;> rfl)

theorem branchOther_eq (n : Nat) (o : Expr × Option (List Stmt)) :
    (branchOther n o : M ν (Option Unit)) =
      condNode (evalExpr n o.1) (do let _ ← evalPureStmtBlock n o.2; pure (some ())) (pure none) := by rfl

theorem iterRunBody_eq (n nameLen : Nat) (slots : Option String × Option String) (body : Option (List Stmt))
    (key v : Addr) :
    iterRunBody n nameLen slots body key v =
      ((do iterBind n nameLen slots key v; let _ ← evalPureStmtBlock n body; pure ()) : M ν Unit) := by
  unfold iterRunBody iterBind
  rcases slots with ⟨_ | kn, _ | vn⟩ <;> simp only [bind_assoc] <;> congr 1 <;> funext v' <;>
    by_cases h1 : (nameLen == 1) = true <;> by_cases h2 : (nameLen == 2) = true <;> simp [h1, h2]

theorem iterPass_handler (n nameLen : Nat) (slots : Option String × Option String) (body : Option (List Stmt)) :
    (iterPass n nameLen slots body : Addr → Addr → M ν Bool) =
      fun key v => Model.tryCatch (iterRunBody n nameLen slots body key v) (passHandler false) := by
  funext key v
  unfold iterPass
  refine congrArg _ (funext fun r => ?_)
  rcases r with _ | e | _ | _ | _ <;> first | rfl | (cases e <;> rfl)

theorem tryCatch_passHandler_void {α} (go : Bool) (m : M ν α) :
    Model.tryCatch (m >>= fun _ => pure ()) (passHandler go) = Model.tryCatch m (passHandler go) := by
  funext s
  simp only [Model.tryCatch, M_bind_def]
  rcases m s with ⟨r, s1⟩
  rcases r with _ | e | _ | _ | _ <;> first | rfl | (cases e <;> rfl)

theorem iterPass_eq (n nameLen : Nat) (slots : Option String × Option String) (body : Option (List Stmt))
    (key v : Addr) :
    (iterPass n nameLen slots body key v : M ν Bool) =
      tryCatch (do iterBind n nameLen slots key v; evalPureStmtBlock n body) (passHandler false) := by
  rw [iterPass_handler]
  dsimp only
  rw [iterRunBody_eq, ← bind_assoc, tryCatch_passHandler_void]

theorem evalPureStmtBlock_some (n : Nat) (stmts : List Stmt) :
    evalPureStmtBlock (ν := ν) (n+1) (some stmts) = withScope (stmtsLoop (evalStmt n) none stmts) := by rfl

theorem evalStmtBlock_some (n : Nat) (stmts : List Stmt) :
    evalStmtBlock (ν := ν) (n+1) (some stmts) = (do hoistDecls n stmts; evalPureStmtBlock n (some stmts)) := by rfl

end ZnVerif.Proofs.EvalArms
