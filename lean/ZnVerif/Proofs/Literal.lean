/-
Lemmas for C13 (string literals): what the string scanner computes, as a function of the text after the cursor.
The lexer state seen from the text is in Proofs/LexText.lean (`Lexer.rest`, `here`).  The first `NextToken` of a text.  The back-tick machine: a pass on an ordinary character is the transition
`uNext` (Model/Lexer.lean), over a run of them `uRun` (`unesc_run`); the documented escapes get through (`namedEscapes_run`,
`uRun_U`, hence `unesc_named`, `unesc_U`); `UInv` links the loop variables to the text consumed (`UInv.next`, `unescClose_spec`); a
group that is no escape is kept as written (`group_from`); from these the equation `unescapeBackTick_eq`: the machine appends and
consumes `tickText l.rest` — the longest run of ordinary characters after the back-tick, read by what ends it (`tickEnd`).  The loop: one pass is
`strPass` on the text after the cursor (`strStep_pass`), `strRun` iterates it, so the loop ends as `strRun` says (`parseStringLoop_run`:
token or error, cursor, lines recorded); a literal is entered through `parseString_quote` / `lexString_literal`; `strRun` over a
verbatim and over an encoded text.
-/
import ZnVerif.Proofs.LexText
import ZnVerif.Spec.Literal

namespace ZnVerif.Model
open ZnVerif.Generated.Tokens

/-- an ordinary character for `parseString`: not the end, no line break, no quote, no back-tick -/
def Plain (c : Nat) : Prop :=
  c ≠ 0 ∧ c ≠ runeCR ∧ c ≠ runeLF ∧ c ∉ leftQuotes ∧ c ∉ rightQuotes ∧ c ≠ cBackTick

instance (c : Nat) : Decidable (Plain c) := by unfold Plain; infer_instance

theorem strStep_eof {sch s ty : Nat} {l : Lexer} {lit : List Nat} {d : Nat} (h : l.peek = 0) :
    parseStringStep sch s ty l (lit, d) = (.done (.err ⟨27, l.cursor + 1⟩), l.adv) := by
  unfold parseStringStep
  simp [Lexer.adv_cur, h, runeEOF]

theorem lookup_some_mem {α β : Type} [BEq α] [LawfulBEq α] {xs : List (α × β)} {a : α} {b : β}
    (h : xs.lookup a = some b) : (a, b) ∈ xs := by
  obtain ⟨l1, l2, rfl, -⟩ := List.lookup_eq_some_iff.mp h
  exact List.mem_append_right _ List.mem_cons_self

/-- a character that can stand inside a back-tick group: no back-tick, no quote, no line break, not the end -/
def GroupChar (c : Nat) : Prop := c ≠ cBackTick ∧ isQuoteChar c = false ∧ c ≠ 0 ∧ c ≠ runeCR ∧ c ≠ runeLF

instance (c : Nat) : Decidable (GroupChar c) := by unfold GroupChar; infer_instance

theorem unescLetterTable_targets :
    ∀ row ∈ unescLetterTable, row.2.2 ≠ csHexNum ∧ row.2.2 ≠ csBegin ∧
      (row.2.2 = csU → row.1 = 0x55 ∧ row.2.1 = [csBegin]) ∧
      (row.2.2 = csmP → row.1 = 0x2B ∧ row.2.1 = [csU]) := by decide

theorem isUpperHex_group {c : Nat} (h : isUpperHex c = true) : GroupChar c := by
  simp only [isUpperHex, Bool.or_eq_true, Bool.and_eq_true, decide_eq_true_eq] at h
  refine ⟨by simp [cBackTick]; omega, ?_, by omega, by simp [runeCR]; omega, by simp [runeLF]; omega⟩
  simp only [isQuoteChar, leftQuotes, rightQuotes, cLeftDoubleQuoteI, cLeftDoubleQuoteII, cLeftSingleQuoteI,
    cLeftSingleQuoteII, cLeftLibQuoteI, cRightDoubleQuoteI, cRightDoubleQuoteII, cRightSingleQuoteI,
    cRightSingleQuoteII, cRightLibQuoteI, List.contains_cons, List.contains_nil, Bool.or_false, Bool.or_eq_false_iff,
    beq_eq_false_iff_ne]
  omega

section unesc
variable {src : List Nat} {l : Lexer} {u : UState} {c : Nat} {r : List Nat}

theorem unescStep_head (h : GroupChar l.peek) : unescStep src l u = unescConsume src l u := by
  obtain ⟨-, hq, h0, h1, h2⟩ := h
  have he : endsBackTickText l.peek = false := by
    simp [endsBackTickText, runeEOF, h0, h1, h2]
  unfold unescStep
  simp only [hq, he, Bool.false_eq_true, ↓reduceIte]

theorem unescStep_group (h : GroupChar l.peek) :
    unescStep src l u =
      match uNext u l.peek with
      | some u' => (.cont u', l.adv)
      | none => (.done (.undone (u.buf ++ [l.peek])), l.adv) :=
  (unescStep_head h).trans (unescConsume_next h.1)

theorem unescStep_quote (hc : l.cur = cBackTick) (h : l.rest = c :: cBackTick :: r) (hq : isQuoteChar c = true) :
    unescStep src l u = (.done (.decoded (src ++ [c])), l.adv.adv) := by
  obtain ⟨hp, hp2, -⟩ := Lexer.rest_cons2 h
  unfold unescStep
  simp only [hp, hp2, hq, hc, ↓reduceIte, beq_self_eq_true, Bool.and_self]

theorem unescStep_stop_quote (h : l.rest = c :: r) (hq : isQuoteChar c = true)
    (hn : ¬ (l.cur = cBackTick ∧ r.head? = some cBackTick)) :
    unescStep src l u = (.done (.undone u.buf), l) := by
  obtain ⟨hp, hr⟩ := Lexer.rest_cons h
  rcases unescStep_cases (rfl : unescStep src l u = _) with ⟨-, hc, hp2, -⟩ | ⟨-, e⟩ | ⟨hq', -, -⟩
  · refine absurd ⟨hc, ?_⟩ hn
    rw [← Lexer.adv_peek, Lexer.peek_eq_head, hr] at hp2
    cases hr' : r.head? with
    | none => rw [hr'] at hp2; exact absurd hp2 (by decide)
    | some x => rw [hr'] at hp2; exact congrArg some hp2
  · exact e
  · rw [hp, hq] at hq'; cases hq'

theorem unescStep_close (h : l.rest = cBackTick :: r) :
    unescStep src l u = (.done (unescClose src u (u.buf ++ [cBackTick])), l.adv) := by
  unfold unescStep unescConsume
  dsimp only
  rw [Lexer.adv_cur, (Lexer.rest_cons h).1]
  rfl

end unesc

section runs
variable {src : List Nat} {l : Lexer} {r : List Nat}

/-- the loop variables after the ordinary characters `w`, from `u`: `uNext` folded over `w`; `none` = the machine gives up
somewhere in `w` -/
def uRun (u : UState) : List Nat → Option UState
  | [] => some u
  | c :: w => (uNext u c).bind (uRun · w)

theorem unesc_run : ∀ (w : List Nat) (l : Lexer) (u u' : UState), (∀ c ∈ w, GroupChar c) →
    uRun u w = some u' → l.rest = w ++ r →
    iterate (unescStep src) (unescStep_consumes src) l u =
      iterate (unescStep src) (unescStep_consumes src) (l.setCursor (l.cursor + w.length)) u'
  | [], l, u, u', _, hu, _ => by cases hu; rfl
  | c :: w, l, u, u', hw, hu, h => by
    obtain ⟨hp, hr⟩ := Lexer.rest_cons (r := w ++ r) h
    unfold uRun at hu
    cases hn : uNext u c with
    | none => rw [hn] at hu; cases hu
    | some u1 =>
      rw [hn] at hu
      have hs : unescStep src l u = (.cont u1, l.adv) := by
        rw [unescStep_group (by rw [hp]; exact hw c List.mem_cons_self), hp, hn]
      rw [iterate_cont hs, unesc_run w l.adv u1 u' (fun x hx => hw x (List.mem_cons_of_mem _ hx)) hu hr]
      congr 1
      simp [Lexer.setCursor, Lexer.adv]; omega

theorem namedEscapes_run : ∀ p ∈ Spec.Literal.namedEscapes, (∀ c ∈ p.1, GroupChar c) ∧
    (uRun ⟨csBegin, 0, [cBackTick]⟩ p.1).map (·.buf) = some (cBackTick :: p.1) := by decide

theorem unescClose_named (u : UState) : ∀ p ∈ Spec.Literal.namedEscapes,
    unescClose src u (cBackTick :: p.1 ++ [cBackTick]) = .decoded (src ++ p.2) := by
  intro p hp
  simp only [Spec.Literal.namedEscapes, List.mem_cons, List.not_mem_nil, or_false] at hp
  rcases hp with rfl | rfl | rfl | rfl | rfl | rfl <;> rfl

theorem unesc_named {name val : List Nat} (hm : (name, val) ∈ Spec.Literal.namedEscapes) (hc : l.cur = cBackTick)
    (h : l.rest = name ++ cBackTick :: r) :
    unescapeBackTick l src = (src ++ val, l.setCursor (l.cursor + name.length + 1)) := by
  obtain ⟨hg, hb⟩ := namedEscapes_run _ hm
  obtain ⟨u', hu, hbuf⟩ := Option.map_eq_some_iff.mp hb
  unfold unescapeBackTick
  rw [hc, unesc_run name l _ u' hg hu h, iterate_done (unescStep_close (Lexer.rest_skip h))]
  dsimp only at hbuf ⊢
  rw [hbuf, show unescClose src _ (cBackTick :: name ++ [cBackTick]) = _ from unescClose_named _ _ hm]
  rfl

theorem unesc_quote {q : Nat} (hc : l.cur = cBackTick) (h : l.rest = q :: cBackTick :: r) (hq : isQuoteChar q = true) :
    unescapeBackTick l src = (src ++ [q], l.adv.adv) := by
  unfold unescapeBackTick
  rw [iterate_done (unescStep_quote hc h hq)]

theorem uRun_hex : ∀ (ds : List Nat) (n : Nat) (buf : List Nat), (∀ d ∈ ds, isUpperHex d = true) →
    uRun ⟨csHexNum, n, buf⟩ ds = some ⟨csHexNum, n + ds.length, buf ++ ds⟩
  | [], n, buf, _ => by simp [uRun]
  | d :: ds, n, buf, h => by
    rw [uRun, uNext_hex (h d List.mem_cons_self), Option.bind_some,
      uRun_hex ds (n + 1) (buf ++ [d]) (fun x hx => h x (List.mem_cons_of_mem _ hx))]
    simp; omega

/-- `U`, `+`, hex digits: the machine counts the digits -/
theorem uRun_U (d : Nat) (ds : List Nat) (hds : ∀ x ∈ d :: ds, isUpperHex x = true) :
    uRun ⟨csBegin, 0, [cBackTick]⟩ (0x55 :: 0x2B :: d :: ds) =
      some ⟨csHexNum, 1 + ds.length, [0x60, 0x55, 0x2B, d] ++ ds⟩ := by
  show ((uNext ⟨csmP, 0, [0x60, 0x55, 0x2B]⟩ d).bind (uRun · ds)) = _
  rw [uNext_hex0 (hds d List.mem_cons_self)]
  exact uRun_hex ds 1 _ (fun x hx => hds x (List.mem_cons_of_mem _ hx))

theorem hexValue_eq_spec (ds : List Nat) : hexValue ds = Spec.Literal.hexVal ds := by
  unfold hexValue Spec.Literal.hexVal
  suffices ∀ a, List.foldl (fun a d => a * 16 + hexDigitVal d) a ds =
      List.foldl (fun a d => 16 * a + Spec.Literal.hexDigit d) a ds from this 0
  induction ds with
  | nil => intro a; rfl
  | cons d ds ih =>
    intro a
    simp only [List.foldl_cons]
    rw [ih]
    congr 1
    simp [hexDigitVal, Spec.Literal.hexDigit]; omega

/-- `strconv.ParseInt(…, 16, 32)` without error and `utf8.ValidRune` together: exactly the valid scalar values -/
theorem parseInt32Hex_valid (ds : List Nat) :
    ((parseInt32Hex ds).2 && validRune (parseInt32Hex ds).1) = Spec.Literal.validScalar (Spec.Literal.hexVal ds) ∧
    (Spec.Literal.validScalar (Spec.Literal.hexVal ds) = true → (parseInt32Hex ds).1 = Spec.Literal.hexVal ds) := by
  rw [← hexValue_eq_spec]
  show _ = validRune _ ∧ (validRune _ = true → _)
  unfold parseInt32Hex
  by_cases hv : hexValue ds > 0x7FFFFFFF
  · have : validRune (hexValue ds) = false := by simp [validRune]; omega
    simp [hv, this]
  · simp [hv]

theorem unescClose_hex (d : Nat) (ds : List Nat) (hlen : ds.length ≤ 7) :
    unescClose src ⟨csHexNum, 1 + ds.length, [0x60, 0x55, 0x2B, d] ++ ds⟩ ([0x60, 0x55, 0x2B, d] ++ ds ++ [cBackTick]) =
      if Spec.Literal.validScalar (Spec.Literal.hexVal (d :: ds)) then .decoded (src ++ [Spec.Literal.hexVal (d :: ds)])
      else .undone ([0x60, 0x55, 0x2B, d] ++ ds ++ [0x60]) := by
  have htake : (([0x60, 0x55, 0x2B, d] ++ ds ++ [cBackTick]).drop 3).take
      (([0x60, 0x55, 0x2B, d] ++ ds ++ [cBackTick]).length - 4) = d :: ds := by
    simp
  unfold unescClose
  simp only [htake]
  have n1 : (([0x60, 0x55, 0x2B, d] ++ ds ++ [cBackTick]) == escTAB) = false := by simp [escTAB]
  have n2 : (([0x60, 0x55, 0x2B, d] ++ ds ++ [cBackTick]) == escBK) = false := by simp [escBK]
  have n3 : (([0x60, 0x55, 0x2B, d] ++ ds ++ [cBackTick]) == escSP) = false := by simp [escSP]
  have n4 : (([0x60, 0x55, 0x2B, d] ++ ds ++ [cBackTick]) == escCR) = false := by simp [escCR]
  have n5 : (([0x60, 0x55, 0x2B, d] ++ ds ++ [cBackTick]) == escLF) = false := by simp [escLF]
  have n6 : (([0x60, 0x55, 0x2B, d] ++ ds ++ [cBackTick]) == escCRLF) = false := by simp [escCRLF]
  have hcnt : ((csHexNum == csHexNum && decide (1 ≤ 1 + ds.length)) && decide (1 + ds.length ≤ 8)) = true := by
    simp; omega
  obtain ⟨hv1, hv2⟩ := parseInt32Hex_valid (d :: ds)
  simp only [n1, n2, n3, n4, n5, n6, Bool.false_eq_true, ↓reduceIte, hcnt, hv1]
  split
  · rename_i hval; rw [hv2 hval]
  · rfl

theorem keepGroup_closed (l : Lexer) (buf : List Nat) (h1 : 2 ≤ buf.length) (h2 : buf.getLast? = some cBackTick) :
    keepGroup src l buf = (src ++ buf, l) := by
  unfold keepGroup
  have a : (buf.length == 1) = false := by simp; omega
  simp [a, h2]

theorem unesc_U (d : Nat) (ds : List Nat) (hds : ∀ x ∈ d :: ds, isUpperHex x = true) (hlen : ds.length ≤ 7)
    (hc : l.cur = cBackTick) (h : l.rest = 0x55 :: 0x2B :: d :: (ds ++ cBackTick :: r)) :
    unescapeBackTick l src =
      (if Spec.Literal.validScalar (Spec.Literal.hexVal (d :: ds)) then src ++ [Spec.Literal.hexVal (d :: ds)]
        else src ++ ([0x60, 0x55, 0x2B, d] ++ ds ++ [0x60]), l.setCursor (l.cursor + 4 + ds.length)) := by
  have hg : ∀ c ∈ 0x55 :: 0x2B :: d :: ds, GroupChar c := fun c hc => by
    rcases List.mem_cons.mp hc with rfl | hc
    · decide
    rcases List.mem_cons.mp hc with rfl | hc
    · decide
    · exact isUpperHex_group (hds c hc)
  have h' : l.rest = (0x55 :: 0x2B :: d :: ds) ++ cBackTick :: r := by simpa using h
  unfold unescapeBackTick
  rw [hc, unesc_run _ l _ _ hg (uRun_U d ds hds) h', iterate_done (unescStep_close (Lexer.rest_skip h'))]
  dsimp only
  rw [unescClose_hex d ds hlen]
  have ecur : (l.setCursor (l.cursor + (0x55 :: 0x2B :: d :: ds).length)).adv = l.setCursor (l.cursor + 4 + ds.length) := by
    simp [Lexer.setCursor, Lexer.adv]; omega
  rw [ecur]
  by_cases hv : Spec.Literal.validScalar (Spec.Literal.hexVal (d :: ds)) = true
  · simp only [hv, ↓reduceIte]
  · simp only [hv, ↓reduceIte, Bool.false_eq_true]
    rw [keepGroup_closed _ _ (by simp) (by rw [List.getLast?_append]; simp [cBackTick])]

end runs

open Spec.Literal (Quote)


theorem quote_facts (q : Quote) :
    q.opener ∈ leftQuotes ∧ q.closer ∈ rightQuotes ∧ quoteMatchMap.lookup q.opener = some q.closer ∧
    q.opener ≠ 0 ∧ q.closer ≠ 0 ∧ isQuoteChar q.opener = true ∧ isQuoteChar q.closer = true := by
  cases q <;> decide

open Spec.Lines in
theorem closer_ordinary (q : Quote) :
    q.closer ≠ 0 ∧ isBreak q.closer = false ∧ q.closer ≠ cBackTick ∧ q.closer ≠ q.opener := by
  cases q <;> decide

open Spec.Literal in
theorem encodeSafe_cons (q : Quote) (c : Nat) (t : List Nat) :
    encodeSafe q (c :: t) = encodeChar q c ++ encodeSafe q t := by
  simp [encodeSafe]

open Spec.Literal in
theorem balanced_iff_depth (q : Quote) (d : Nat) (t : List Nat) :
    balancedFrom q d t = true ↔ depthAfter q d t = some 0 := by
  induction t generalizing d with
  | nil => simp [balancedFrom, depthAfter]
  | cons c t ih =>
    unfold balancedFrom depthAfter
    split
    · exact ih (d + 1)
    · split
      · cases d with
        | zero => simp
        | succ d' => exact ih d'
      · exact ih d

open Spec.Literal in
theorem depthAfter_break (q : Quote) (d : Nat) {c : Nat} (t : List Nat) (hc : c = runeCR ∨ c = runeLF) :
    depthAfter q d (c :: t) = depthAfter q d t := by
  rcases hc with rfl | rfl <;> cases q <;> rfl

/-- the lexer state in which `parseString` starts on a text whose first character is an opening quote -/
def startState (src : List Nat) : Lexer :=
  { src := src.toArray, beginLex := false, lines := #[{ indents := 0, startIdx := 0 }] }

theorem startState_rest (a : Nat) (r : List Nat) : (startState (a :: r)).rest = r := by
  simp [Lexer.rest, startState]

theorem startState_cur (a : Nat) (r : List Nat) : (startState (a :: r)).cur = a := by
  simp [Lexer.cur, Lexer.getChar, startState]

/-- a character on which `PreNextToken` does nothing: no white space, no line break -/
def Solid (c : Nat) : Prop := isWhiteSpace c = false ∧ c ≠ runeCR ∧ c ≠ runeLF

theorem skipBlank_solid (l : Lexer) (h : Solid l.cur) : skipBlank l = (.ok (), l) := by
  unfold skipBlank
  apply iterate_done
  unfold skipBlankStep
  obtain ⟨h1, h2, h3⟩ := h
  have : (l.cur == runeCR || l.cur == runeLF) = false := by simp [h2, h3]
  simp only [h1, this, Bool.false_eq_true, ↓reduceIte]

theorem nextToken_later (l : Lexer) (hb : l.beginLex = false) (h : Solid l.cur) :
    nextToken l = dispatchToken l := by
  unfold nextToken preNextToken
  simp only [hb, Bool.false_eq_true, ↓reduceIte, skipBlank_solid l h]

theorem nextToken_first (c : Nat) (body : List Nat) (h0 : c ≠ 0) (h : Solid c) :
    nextToken (mkLexer (c :: body)) = dispatchToken (startState (c :: body)) := by
  have hb : parseBeginLex { mkLexer (c :: body) with beginLex := false } = (.ok (), startState (c :: body)) := by
    unfold parseBeginLex
    have h0' : ({ mkLexer (c :: body) with beginLex := false } : Lexer).getChar 0 = c := by
      simp [Lexer.getChar, mkLexer]
    have h1 : (c == runeEOF) = false := by simpa [runeEOF] using h0
    have h2 : (c == runeTAB || c == runeSP) = false := by
      have hws := h.1
      rw [Bool.or_eq_false_iff, beq_eq_false_iff_ne, beq_eq_false_iff_ne]
      constructor <;> (rintro rfl; revert hws; decide)
    simp only [h0', h1, h2, Bool.false_eq_true, ↓reduceIte]
    rfl
  have hs := skipBlank_solid (startState (c :: body)) (by rw [startState_cur]; exact h)
  have : (mkLexer (c :: body)).beginLex = true := rfl
  unfold nextToken preNextToken
  simp only [this, ↓reduceIte, hb, hs]

theorem nextToken_eof (l : Lexer) (hb : l.beginLex = false) (h : l.src.size ≤ l.cursor) :
    nextToken l = parseEOF l := by
  have hc : l.cur = 0 := Lexer.getChar_of_ge h
  rw [nextToken_later l hb (by rw [hc]; exact ⟨by decide, by decide, by decide⟩), dispatchToken_eq, hc]
  exact if_neg (Nat.not_lt.mpr h)

theorem quote_scanner (q : Quote) : scannerOf q.opener = .string ∧ stringTokenType q.opener = q.type := by
  cases q <;> decide

theorem nextToken_quote (q : Quote) (body : List Nat) :
    nextToken (mkLexer (q.opener :: body)) = parseString (startState (q.opener :: body)) := by
  rw [nextToken_first _ _ (quote_facts q).2.2.2.1 (by cases q <;> exact ⟨by decide, by decide, by decide⟩),
    dispatchToken_eq, startState_cur, (quote_scanner q).1]

section general
open Spec.Literal

theorem contains_congr {α : Type} [BEq α] [LawfulBEq α] {A B : List α}
    (h : (A.all (B.contains ·) && B.all (A.contains ·)) = true) (c : α) : A.contains c = B.contains c := by
  simp only [Bool.and_eq_true, List.all_eq_true, List.contains_iff_mem] at h
  rw [Bool.eq_iff_iff, List.contains_iff_mem, List.contains_iff_mem]
  exact ⟨h.1 c, h.2 c⟩

theorem isQuoteChar_eq (c : Nat) : isQuoteChar c = (leftQuotes ++ rightQuotes).contains c := by
  rw [isQuoteChar, List.contains_append]

theorem isQuoteChar_eq_spec (c : Nat) : isQuoteChar c = quoteChars.contains c :=
  (isQuoteChar_eq c).trans (contains_congr (by decide) c)

theorem markQuotes_eq (c : Nat) : markQuotes.contains c = isQuoteChar c :=
  (contains_congr (by decide) c).trans (isQuoteChar_eq c).symm

theorem hex_ne_backTick {c : Nat} (h : isHex c = true) : c ≠ backTick := by
  simp only [isHex, Bool.or_eq_true, Bool.and_eq_true, decide_eq_true_eq] at h
  simp [backTick]; omega

theorem decodeEscape_hex (d : Nat) (ds : List Nat) (hds : ∀ x ∈ d :: ds, isHex x = true) (hlen : ds.length ≤ 7) :
    decodeEscape ([0x60, 0x55, 0x2B, d] ++ ds ++ [0x60]) =
      if validScalar (hexVal (d :: ds)) then some [hexVal (d :: ds)] else none := by
  have e1 : ([0x60, 0x55, 0x2B, d] ++ ds ++ [0x60] : List Nat) = 0x60 :: (([0x55, 0x2B, d] ++ ds) ++ [0x60]) := by simp
  rw [e1]
  unfold decodeEscape
  have hnc : ([0x55, 0x2B, d] ++ ds : List Nat).contains 96 = false := by
    rw [Bool.eq_false_iff]
    intro hc
    simp only [List.contains_iff_mem, List.mem_append, List.mem_cons, List.not_mem_nil, or_false] at hc
    rcases hc with (h | h | h) | h
    · simp at h
    · simp at h
    · exact hex_ne_backTick (hds d List.mem_cons_self) h.symm
    · exact hex_ne_backTick (hds _ (List.mem_cons_of_mem _ h)) rfl
  simp only [List.getLast?_append, List.getLast?_singleton, List.dropLast_concat, backTick]
  simp only [hnc, Option.some_or, beq_self_eq_true, Bool.not_false, Bool.and_self, ↓reduceIte]
  have hall : (d :: ds).all isHex = true := by
    simp only [List.all_eq_true]; exact hds
  simp only [List.cons_append, List.nil_append, decodeBody, namedEscapes, List.lookup]
  simp [hall, hlen]

/-- forward link between the machine's loop variables and the text `w` consumed after the opening back-tick -/
def UInv (w : List Nat) (u : UState) : Prop :=
  u.buf = cBackTick :: w ∧
  (u.state = csHexNum → ∃ d ds, w = 0x55 :: 0x2B :: d :: ds ∧ (∀ x ∈ d :: ds, isUpperHex x = true) ∧
      u.hexCount = 1 + ds.length) ∧
  (u.state = csmP → w = [0x55, 0x2B]) ∧ (u.state = csU → w = [0x55]) ∧ (u.state = csBegin → w = [])

theorem UInv.begin : UInv [] ⟨csBegin, 0, [cBackTick]⟩ :=
  ⟨rfl, fun h => absurd h (by decide), fun h => absurd h (by decide), fun h => absurd h (by decide), fun _ => rfl⟩

theorem UInv.next {u u' : UState} {w : List Nat} {c : Nat} (hi : UInv w u) (h : uNext u c = some u') :
    UInv (w ++ [c]) u' := by
  obtain ⟨hbuf, hhex, hmp, hu, hbeg⟩ := hi
  have hb : u.buf ++ [c] = cBackTick :: (w ++ [c]) := by rw [hbuf]; rfl
  -- along `uNext`'s chain: the two hex arms extend the digits; a letter row never leads to `csHexNum` or `csBegin`, and to `csU` /
  -- `csmP` only by `U` from `csBegin` / `+` from `csU` (`unescLetterTable_targets`)
  unfold uNext at h
  cases h1 : (isUpperHex c && u.state == csmP) with
  | true =>
    rw [h1, if_pos rfl] at h
    cases h
    rw [Bool.and_eq_true, beq_iff_eq] at h1
    refine ⟨hb, fun _ => ⟨c, [], by rw [hmp h1.2]; rfl, ?_, rfl⟩, ?_, ?_, ?_⟩
    · intro x hx'; rw [List.mem_singleton.mp hx']; exact h1.1
    all_goals (intro h; dsimp only at h; exact absurd h (by decide))
  | false =>
  rw [h1, if_neg Bool.false_ne_true] at h
  cases h2 : (isUpperHex c && u.state == csHexNum) with
  | true =>
    rw [h2, if_pos rfl] at h
    cases h
    rw [Bool.and_eq_true, beq_iff_eq] at h2
    obtain ⟨d, ds, hw, hds, hcnt⟩ := hhex h2.2
    refine ⟨hb, fun _ => ⟨d, ds ++ [c], by rw [hw]; rfl, ?_, by rw [hcnt, List.length_append]; rfl⟩, ?_, ?_, ?_⟩
    · intro x hx'
      rw [← List.cons_append, List.mem_append, List.mem_singleton] at hx'
      rcases hx' with hx' | hx'
      · exact hds x hx'
      · rw [hx']; exact h2.1
    all_goals (intro h; dsimp only at h; exact absurd h (by decide))
  | false =>
  rw [h2, if_neg Bool.false_ne_true] at h
  cases hl : unescLetterTable.lookup c with
  | none => rw [hl] at h; cases h
  | some p =>
    rw [hl] at h
    dsimp only at h
    cases hfrom : p.1.contains u.state with
    | false => rw [hfrom, if_neg Bool.false_ne_true] at h; cases h
    | true =>
      rw [hfrom, if_pos rfl] at h
      cases h
      obtain ⟨k6, k7, k8, k9⟩ := unescLetterTable_targets _ (lookup_some_mem hl)
      refine ⟨hb, fun h => absurd h k6, ?_, ?_, fun h => absurd h k7⟩
      · intro h
        obtain ⟨e1, e2⟩ := k9 h
        dsimp only at e1 e2
        rw [e2] at hfrom
        rw [hu (by simpa using hfrom), e1]; rfl
      · intro h
        obtain ⟨e1, e2⟩ := k8 h
        dsimp only at e1 e2
        rw [e2] at hfrom
        rw [hbeg (by simpa using hfrom), e1]; rfl

/-- one `else if string(literalBuffer) == name` of the `case '`'` arm, given what the rest of the chain does -/
theorem closeArm {src b name v : List Nat} {x : UnescOut} (hn : decodeEscape name = some v)
    (hx : x = .undone b ∨ ∃ v', decodeEscape b = some v' ∧ x = .decoded (src ++ v')) :
    (if (b == name) = true then .decoded (src ++ v) else x) = UnescOut.undone b ∨
    ∃ v', decodeEscape b = some v' ∧ (if (b == name) = true then .decoded (src ++ v) else x) = .decoded (src ++ v') := by
  by_cases h : (b == name) = true
  · rw [if_pos h, eq_of_beq h]; exact Or.inr ⟨v, hn, rfl⟩
  · rw [if_neg h]; exact hx

theorem unescClose_spec (src : List Nat) (u : UState) (w : List Nat) (hi : UInv w u) :
    unescClose src u (u.buf ++ [cBackTick]) = .undone (cBackTick :: w ++ [cBackTick]) ∨
    ∃ v, decodeEscape (cBackTick :: w ++ [cBackTick]) = some v ∧
      unescClose src u (u.buf ++ [cBackTick]) = .decoded (src ++ v) := by
  obtain ⟨hbuf, hhex, -, -, -⟩ := hi
  by_cases hcond : (u.state == csHexNum && decide (1 ≤ u.hexCount) && decide (u.hexCount ≤ 8)) = true
  · -- the hex state: the text is `U+` and hex digits, `unescClose_hex` on the machine's side, `decodeEscape_hex` on the spec's
    simp only [Bool.and_eq_true, beq_iff_eq, decide_eq_true_eq] at hcond
    obtain ⟨d, ds, hw, hds, hcnt⟩ := hhex hcond.1.1
    have hlen : ds.length ≤ 7 := by omega
    obtain ⟨st, n, buf⟩ := u
    dsimp only at hbuf hcnt hcond
    subst hw hbuf hcnt
    rw [hcond.1.1, show (cBackTick :: (0x55 :: 0x2B :: d :: ds) : List Nat) = [0x60, 0x55, 0x2B, d] ++ ds from rfl,
      unescClose_hex d ds hlen, show ([cBackTick] : List Nat) = [0x60] from rfl, decodeEscape_hex d ds hds hlen]
    by_cases hval : validScalar (hexVal (d :: ds)) = true
    · rw [if_pos hval, if_pos hval]; exact Or.inr ⟨_, rfl, rfl⟩
    · rw [if_neg hval]; exact Or.inl rfl
  · rw [hbuf]
    unfold unescClose
    rw [if_neg hcond]
    exact closeArm (by decide) (closeArm (by decide) (closeArm (by decide) (closeArm (by decide)
      (closeArm (by decide) (closeArm (by decide) (Or.inl rfl))))))

theorem GroupChar.not_stop {c : Nat} (h : GroupChar c) : isGroupStop c = false := by
  obtain ⟨-, h2, h3, h4, h5⟩ := h
  have hq : markQuotes.contains c = false := by rw [markQuotes_eq]; exact h2
  unfold isGroupStop
  rw [hq]
  simp [runeEOF, h3, h4, h5]

/-- what the machine makes of a run of ordinary characters, by what ends the run: a back-tick closes the group, which is
decoded if it is a documented escape and kept as written otherwise; one quote character between the two back-ticks denotes
itself; anything else (a quote, a line break, the end of the text) stops the group before that character -/
def tickEnd (run : List Nat) : List Nat → List Nat × Nat
  | c :: tl =>
    if c = cBackTick then ((decodeBody run).getD (cBackTick :: run ++ [cBackTick]), run.length + 1)
    else if run = [] ∧ isQuoteChar c = true ∧ tl.head? = some cBackTick then ([c], 2)
    else (cBackTick :: run, run.length)
  | [] => (cBackTick :: run, run.length)

/-- **what the back-tick machine makes of the text after the opening back-tick**: the characters `unescapeBackTick`
appends to the literal and the number of characters it consumes — `tickEnd` of the longest run of ordinary characters and
what follows it -/
def tickText (rest : List Nat) : List Nat × Nat :=
  let run := rest.takeWhile (fun c => decide (GroupChar c))
  tickEnd run (rest.drop run.length)

theorem tickText_split {run tl : List Nat} (hrun : ∀ c ∈ run, GroupChar c) (hend : ∀ e, tl.head? = some e → ¬ GroupChar e) :
    tickText (run ++ tl) = tickEnd run tl := by
  have : (run ++ tl).takeWhile (fun c => decide (GroupChar c)) = run := by
    rw [List.takeWhile_append_of_pos (fun c hc => decide_eq_true (hrun c hc))]
    cases tl with
    | nil => simp
    | cons e tl' => rw [List.takeWhile_cons_of_neg (by simp [hend e rfl]), List.append_nil]
  unfold tickText
  simp only [this, List.drop_left']

theorem stop_of_not_group {e : Nat} (h : ¬ GroupChar e) (hb : e ≠ cBackTick) : isGroupStop e = true := by
  unfold isGroupStop
  rw [markQuotes_eq]
  cases hq : isQuoteChar e with
  | true => exact Bool.or_true _
  | false =>
    have : e = 0 ∨ e = runeCR ∨ e = runeLF := Classical.byContradiction fun hn =>
      h ⟨hb, hq, fun e0 => hn (.inl e0), fun e1 => hn (.inr (.inl e1)), fun e2 => hn (.inr (.inr e2))⟩
    rcases this with rfl | rfl | rfl <;> rfl

theorem stop_cases {p : Nat} (h : isGroupStop p = true) : isQuoteChar p = true ∨ endsBackTickText p = true := by
  unfold isGroupStop at h
  rw [markQuotes_eq] at h
  unfold endsBackTickText
  cases hq : isQuoteChar p with
  | true => exact Or.inl rfl
  | false => rw [hq, Bool.or_false] at h; exact Or.inr h

/-- what ends a group: its closing back-tick, which belongs to it, or a stop character, which does not -/
def closing (tl : List Nat) : List Nat := if tl.head? = some cBackTick then [cBackTick] else []

/-- `tl` can follow a group: it starts with a back-tick or with a stop character, or is empty -/
def EndsGroup (tl : List Nat) : Prop := tl.head? = some cBackTick ∨ isGroupStop (tl.head?.getD 0) = true

theorem groupStep_end {l : Lexer} {tl : List Nat} (buf : List Nat) (h : l.rest = tl) (he : EndsGroup tl) :
    iterate groupStep groupStep_consumes l buf = (buf ++ closing tl, l.setCursor (l.cursor + (closing tl).length)) := by
  have hp : l.peek = tl.head?.getD 0 := by rw [Lexer.peek_eq_head, h]
  unfold closing
  apply iterate_done
  unfold groupStep
  by_cases hb : tl.head? = some cBackTick
  · rw [hb] at hp
    rw [if_pos hb, hp]
    exact (if_neg (by decide)).trans (if_pos rfl)
  · rw [if_neg hb, List.append_nil, hp]
    exact if_pos (he.resolve_left hb)

theorem group_run (tl : List Nat) (he : EndsGroup tl) : ∀ (w : List Nat), (∀ c ∈ w, GroupChar c) →
    ∀ (l : Lexer) (buf : List Nat), l.rest = w ++ tl →
    iterate groupStep groupStep_consumes l buf =
      (buf ++ w ++ closing tl, l.setCursor (l.cursor + w.length + (closing tl).length)) := by
  intro w
  induction w with
  | nil => intro _ l buf h; rw [groupStep_end buf h he]; simp
  | cons c w ih =>
    intro hw l buf h
    have hc := hw c List.mem_cons_self
    obtain ⟨hp, hr⟩ := Lexer.rest_cons (by simpa using h : l.rest = c :: (w ++ tl))
    have hstep : groupStep l buf = (.cont (buf ++ [c]), l.adv) := by
      unfold groupStep
      have a2 : (c == cBackTick) = false := by simpa using hc.1
      simp only [hp, hc.not_stop, a2, Bool.false_eq_true, ↓reduceIte]
    rw [iterate_cont hstep, ih (fun x hx => hw x (List.mem_cons_of_mem _ hx)) l.adv (buf ++ [c]) hr]
    simp [Lexer.setCursor, Lexer.adv]; omega

theorem unescStep_stop {src : List Nat} {l : Lexer} {u : UState} (hs : isGroupStop l.peek = true)
    (hn : isQuoteChar l.peek = true → ¬ (l.cur = cBackTick ∧ l.peek2 = cBackTick)) :
    unescStep src l u = (.done (.undone u.buf), l) := by
  rcases unescStep_cases (rfl : unescStep src l u = _) with ⟨hq, hc, hp2, -⟩ | ⟨-, e⟩ | ⟨hq, he, -⟩
  · exact absurd ⟨hc, hp2⟩ (hn hq)
  · exact e
  · rcases stop_cases hs with h | h
    · rw [h] at hq; cases hq
    · rw [h] at he; cases he

theorem keepGroup_end {src : List Nat} {l : Lexer} {tl : List Nat} (buf : List Nat) (h : l.rest = tl) (he : EndsGroup tl)
    (hb : buf.length = 1 ∨ buf.getLast? ≠ some cBackTick) :
    keepGroup src l buf = (src ++ buf ++ closing tl, l.setCursor (l.cursor + (closing tl).length)) := by
  unfold keepGroup
  rw [if_pos (by rcases hb with h | h <;> simp [h]), groupStep_end buf h he, List.append_assoc]

/-- a quote character between two back-ticks, seen from the opening one -/
def LoneQuote (tl : List Nat) : Prop := ∃ q tl', tl = q :: cBackTick :: tl' ∧ isQuoteChar q = true

/-- from any state the machine can be in after `w1`, over the rest `w2` of a group that is not a documented escape:
it gives up, at the end of the group at the latest, and the group is kept as written -/
theorem group_from (src tl : List Nat) (he : EndsGroup tl) : ∀ (w2 : List Nat), (∀ c ∈ w2, GroupChar c) →
    ∀ (l : Lexer) (u : UState) (w1 : List Nat), UInv w1 u → (∀ c ∈ w1, GroupChar c) →
    (w1 ≠ [] → l.cur ≠ cBackTick) → l.rest = w2 ++ tl →
    (tl.head? = some cBackTick → decodeEscape (cBackTick :: (w1 ++ w2) ++ [cBackTick]) = none) →
    (w1 ++ w2 = [] → ¬ LoneQuote tl) →
    ∃ buf l', iterate (unescStep src) (unescStep_consumes src) l u = (.undone buf, l') ∧
      keepGroup src l' buf =
        (src ++ cBackTick :: (w1 ++ w2) ++ closing tl, l.setCursor (l.cursor + w2.length + (closing tl).length)) := by
  intro w2
  induction w2 with
  | nil =>
    intro _ l u w1 hi hg1 hc1 h hnd hlone
    rw [List.append_nil] at hnd hlone ⊢
    rw [List.nil_append] at h
    by_cases hb : tl.head? = some cBackTick
    · obtain ⟨tl', rfl⟩ : ∃ tl', tl = cBackTick :: tl' := by
        cases tl with
        | nil => cases hb
        | cons a b => exact ⟨b, by rw [Option.some.inj hb]⟩
      rw [iterate_done (unescStep_close h)]
      rcases unescClose_spec src u w1 hi with e | ⟨v, hv, -⟩
      · refine ⟨_, _, by rw [e], ?_⟩
        rw [keepGroup_closed _ _ (by simp) (by rw [List.getLast?_append]; rfl)]
        simp [closing, Lexer.setCursor, Lexer.adv]
      · have := hnd hb; rw [hv] at this; cases this
    · have hs : isGroupStop l.peek = true := by
        rw [Lexer.peek_eq_head, h]; exact he.resolve_left hb
      have hn : isQuoteChar l.peek = true → ¬ (l.cur = cBackTick ∧ l.peek2 = cBackTick) := by
        rintro hq ⟨h1, h2⟩
        apply hlone (Classical.byContradiction fun hne => hc1 hne h1)
        have h3 := Lexer.rest_of_peek_ne_zero (fun e => by rw [e] at hq; exact absurd hq (by decide))
        have h4 := Lexer.rest_of_peek_ne_zero (l := l.adv) (by rw [Lexer.adv_peek, h2]; decide)
        rw [Lexer.adv_peek, h2] at h4
        exact ⟨l.peek, l.adv.adv.rest, by rw [← h, h3, h4], hq⟩
      refine ⟨_, _, iterate_done (unescStep_stop hs hn), ?_⟩
      rw [hi.1, keepGroup_end _ h he]
      · simp [List.append_assoc]
      · cases w1 with
        | nil => exact Or.inl rfl
        | cons a b =>
          refine Or.inr fun e => ?_
          rw [List.getLast?_cons_cons] at e
          exact (hg1 _ (List.mem_of_getLast? e)).1 rfl
  | cons c w2 ih =>
    intro hw l u w1 hi hg1 _ h hnd _
    have hc := hw c List.mem_cons_self
    have hw' : ∀ x ∈ w2, GroupChar x := fun x hx => hw x (List.mem_cons_of_mem _ hx)
    obtain ⟨hp, hr⟩ := Lexer.rest_cons (by simpa using h : l.rest = c :: (w2 ++ tl))
    have hstep := unescStep_group (src := src) (u := u) (by rw [hp]; exact hc)
    rw [hp] at hstep
    have hw1 : w1 ++ c :: w2 = (w1 ++ [c]) ++ w2 := by simp
    cases hn : uNext u c with
    | some u' =>
      rw [hn] at hstep
      rw [iterate_cont hstep]
      obtain ⟨buf, l', h1, h2⟩ := ih hw' l.adv u' (w1 ++ [c]) (hi.next hn)
        (fun x hx => by rcases List.mem_append.mp hx with m | m; exact hg1 x m; rw [List.mem_singleton.mp m]; exact hc)
        (fun _ => by rw [Lexer.adv_cur, hp]; exact hc.1) hr (by rw [← hw1]; exact hnd) (fun e => absurd e (by simp))
      refine ⟨buf, l', h1, ?_⟩
      rw [h2, hw1]
      simp [Lexer.setCursor, Lexer.adv]; omega
    | none =>
      -- the machine gives up inside the group: the rest of it is taken after `UNDONE_end`
      rw [hn] at hstep
      rw [iterate_done hstep]
      refine ⟨_, _, rfl, ?_⟩
      unfold keepGroup
      have hl : ((u.buf ++ [c]).getLast? != some cBackTick) = true := by
        simp; exact hc.1
      simp only [hl, Bool.or_true, ↓reduceIte]
      rw [group_run tl he w2 hw' l.adv (u.buf ++ [c]) hr, hi.1]
      simp [Lexer.setCursor, Lexer.adv]; omega

theorem decodeBody_some {b v : List Nat} (h : decodeBody b = some v) :
    (b, v) ∈ namedEscapes ∨ (∃ q, b = [q] ∧ quoteChars.contains q = true ∧ v = [q]) ∨
    (∃ d ds, b = 0x55 :: 0x2B :: d :: ds ∧ ds.length ≤ 7 ∧ (∀ x ∈ d :: ds, isHex x = true) ∧
      validScalar (hexVal (d :: ds)) = true ∧ v = [hexVal (d :: ds)]) := by
  unfold decodeBody at h
  cases hl : namedEscapes.lookup b with
  | some v' => rw [hl] at h; cases h; exact Or.inl (lookup_some_mem hl)
  | none =>
    rw [hl] at h
    dsimp only at h
    split at h
    · split at h
      · rename_i q hq; cases h; exact Or.inr (Or.inl ⟨q, rfl, hq, rfl⟩)
      · cases h
    · rename_i ds
      split at h
      · rename_i hc
        cases h
        simp only [Bool.and_eq_true, decide_eq_true_eq, List.all_eq_true] at hc
        obtain ⟨⟨⟨h1, h2⟩, h3⟩, h4⟩ := hc
        cases ds with
        | nil => simp at h1
        | cons d ds => exact Or.inr (Or.inr ⟨d, ds, rfl, by simp at h2; omega, h3, h4, rfl⟩)
      · cases h
    · cases h

theorem decodeBody_quote {q : Nat} (hq : isQuoteChar q = true) : decodeBody [q] = some [q] := by
  have hn : namedEscapes.lookup [q] = none := by
    cases hl : namedEscapes.lookup [q] with
    | none => rfl
    | some v =>
      have := ((namedEscapes_run _ (lookup_some_mem hl)).1 q List.mem_cons_self).2.1
      rw [hq] at this; cases this
  unfold decodeBody
  rw [hn]
  simp only [← isQuoteChar_eq_spec, hq, ↓reduceIte]

theorem decodeEscape_group {w : List Nat} (hw : backTick ∉ w) :
    decodeEscape (cBackTick :: w ++ [cBackTick]) = decodeBody w := by
  have hnc : w.contains backTick = false := by
    rw [Bool.eq_false_iff]
    intro m
    exact hw (List.contains_iff_mem.mp m)
  show decodeEscape (cBackTick :: (w ++ [cBackTick])) = _
  unfold decodeEscape
  simp [List.getLast?_append, backTick, cBackTick] at hnc ⊢
  intro h; exact absurd h hnc

theorem tickText_group {w : List Nat} (r : List Nat) (hw : ∀ c ∈ w, GroupChar c) :
    tickText (w ++ cBackTick :: r) = ((decodeBody w).getD (cBackTick :: w ++ [cBackTick]), w.length + 1) :=
  (tickText_split hw (fun e h => by cases h; decide)).trans (by unfold tickEnd; exact if_pos rfl)

theorem tickText_quote {q : Nat} (tl : List Nat) (hq : isQuoteChar q = true) :
    tickText (q :: cBackTick :: tl) = ([q], 2) :=
  (tickText_split (run := []) (tl := q :: cBackTick :: tl) (fun _ h => nomatch h)
    (fun e h => by cases h; intro hg; rw [hg.2.1] at hq; cases hq)).trans
  ((if_neg (fun e => by rw [e] at hq; exact absurd hq (by decide))).trans (if_pos ⟨rfl, hq, rfl⟩))

theorem span_pred (p : Nat → Bool) (rest : List Nat) : ∃ run tl, rest = run ++ tl ∧ (∀ c ∈ run, p c = true) ∧
    ∀ e, tl.head? = some e → p e = false :=
  ⟨rest.takeWhile p, rest.dropWhile p, List.takeWhile_append_dropWhile.symm,
    fun c h => List.all_eq_true.mp List.all_takeWhile c h,
    fun e h => by have := List.head?_dropWhile_not p rest; rw [h] at this; exact this⟩

/-- the three shapes of the text after a back-tick, with what `tickText` is on each: a group closed by a back-tick,
a lone quote in back-ticks, a group that a stop character or the end of the text ends -/
theorem tickText_cases (rest : List Nat) : ∃ run tl, rest = run ++ tl ∧ (∀ c ∈ run, GroupChar c) ∧
    ((∃ tl', tl = cBackTick :: tl' ∧
        tickText rest = ((decodeBody run).getD (cBackTick :: run ++ [cBackTick]), run.length + 1)) ∨
      (run = [] ∧ ∃ q tl', tl = q :: cBackTick :: tl' ∧ isQuoteChar q = true ∧ tickText rest = ([q], 2)) ∨
      (EndsGroup tl ∧ tl.head? ≠ some cBackTick ∧ (run = [] → ¬ LoneQuote tl) ∧
        tickText rest = (cBackTick :: run, run.length))) := by
  obtain ⟨run, tl, hr, hrun, hend⟩ := span_pred (fun c => decide (GroupChar c)) rest
  have hrun : ∀ c ∈ run, GroupChar c := fun c hc => of_decide_eq_true (hrun c hc)
  have hend : ∀ e, tl.head? = some e → ¬ GroupChar e := fun e h => of_decide_eq_false (hend e h)
  refine ⟨run, tl, hr, hrun, ?_⟩
  rw [hr, tickText_split hrun hend]
  cases tl with
  | nil => exact .inr (.inr ⟨.inr rfl, by simp, fun _ ⟨_, _, h, _⟩ => (nomatch h), rfl⟩)
  | cons c tl' =>
    by_cases hb : c = cBackTick
    · exact .inl ⟨tl', by rw [hb], if_pos hb⟩
    · by_cases hl : run = [] ∧ isQuoteChar c = true ∧ tl'.head? = some cBackTick
      · obtain ⟨tl'', rfl⟩ : ∃ t, tl' = cBackTick :: t := by
          cases tl' with
          | nil => exact nomatch hl.2.2
          | cons a b => exact ⟨b, by rw [Option.some.inj hl.2.2]⟩
        exact .inr (.inl ⟨hl.1, c, tl'', rfl, hl.2.1, (if_neg hb).trans (if_pos hl)⟩)
      · refine .inr (.inr ⟨.inr (stop_of_not_group (hend c rfl) hb), fun h => hb (Option.some.inj h), ?_,
          (if_neg hb).trans (if_neg hl)⟩)
        rintro h1 ⟨q, t, h, hq⟩
        cases h
        exact hl ⟨h1, hq, rfl⟩

theorem unescapeBackTick_eq (l : Lexer) (src : List Nat) (hc : l.cur = cBackTick) :
    unescapeBackTick l src = (src ++ (tickText l.rest).1, l.setCursor (l.cursor + (tickText l.rest).2)) := by
  -- by the three shapes of the text (`tickText_cases`): a closed group is a documented escape (`decodeBody_some`: `unesc_named`,
  -- `unesc_U`) or is kept (`group_from`), a lone quote is `unesc_quote`, a stopped group is kept
  obtain ⟨run, tl, hr, hrun, hcases⟩ := tickText_cases l.rest
  have kept : ∀ (he : EndsGroup tl), (tl.head? = some cBackTick → decodeBody run = none) → (run = [] → ¬ LoneQuote tl) →
      unescapeBackTick l src =
        (src ++ cBackTick :: run ++ closing tl, l.setCursor (l.cursor + run.length + (closing tl).length)) := by
    intro he hnd hlone
    obtain ⟨buf, l', h1, h2⟩ := group_from src tl he run hrun l ⟨csBegin, 0, [l.cur]⟩ [] (by rw [hc]; exact UInv.begin)
      (fun _ h => nomatch h) (fun h => absurd rfl h) hr
      (fun h => by rw [List.nil_append, decodeEscape_group (fun m => (hrun _ m).1 rfl)]; exact hnd h) hlone
    unfold unescapeBackTick
    rw [h1]
    dsimp only
    rw [h2]
    rfl
  rcases hcases with ⟨tl', rfl, ht⟩ | ⟨rfl, q, tl', rfl, hq, ht⟩ | ⟨he, hb, hlone, ht⟩ <;> rw [ht]
  · cases hd : decodeBody run with
    | none =>
      rw [kept (Or.inl rfl) (fun _ => hd) (fun _ ⟨q, _, h, hq⟩ => by
        rw [← (List.cons.inj h).1] at hq; exact absurd hq (by decide))]
      simp [closing, List.append_assoc, Nat.add_assoc]
    | some v =>
      rcases decodeBody_some hd with hm | ⟨q, rfl, hq, -⟩ | ⟨d, ds, rfl, hlen, hds, hval, rfl⟩
      · rw [unesc_named hm hc hr]; simp [Nat.add_assoc]
      · have := (hrun q List.mem_cons_self).2.1
        rw [isQuoteChar_eq_spec, hq] at this; cases this
      · rw [unesc_U d ds hds hlen hc (by simpa using hr), if_pos hval]
        simp [Nat.add_assoc, Nat.add_comm 4]
  · rw [unesc_quote hc (by simpa using hr) hq]
    rfl
  · rw [kept he (fun h => absurd h hb) hlone]
    simp [closing, hb]

/-- the machine consumes a stretch of the text and appends that stretch as written or its documented meaning -/
theorem tickText_spec (rest : List Nat) :
    (tickText rest).2 ≤ rest.length ∧
    ((tickText rest).1 = cBackTick :: rest.take (tickText rest).2 ∨
      decodeEscape (cBackTick :: rest.take (tickText rest).2) = some (tickText rest).1) := by
  obtain ⟨run, tl, hr, hrun, hcases⟩ := tickText_cases rest
  have hnt : backTick ∉ run := fun m => (hrun _ m).1 rfl
  rcases hcases with ⟨tl', rfl, ht⟩ | ⟨rfl, q, tl', rfl, hq, ht⟩ | ⟨-, -, -, ht⟩ <;> rw [ht, hr]
  · have htake : (run ++ cBackTick :: tl').take (run.length + 1) = run ++ [cBackTick] := by
      rw [List.take_length_add_append]; rfl
    refine ⟨by simp, ?_⟩
    rw [htake, ← List.cons_append]
    cases hd : decodeBody run with
    | none => exact Or.inl rfl
    | some v => exact Or.inr (by rw [decodeEscape_group hnt, hd]; rfl)
  · refine ⟨by simp, Or.inr ?_⟩
    have hqb : backTick ∉ [q] := fun m => by
      rw [← List.mem_singleton.mp m] at hq; exact absurd hq (by decide)
    exact (decodeEscape_group hqb).trans (decodeBody_quote hq)
  · exact ⟨by simp, Or.inl (by simp)⟩

theorem unescapeBackTick_inside (src : List Nat) (l : Lexer) (hc : l.cur = cBackTick) :
    (unescapeBackTick l src).2.cursor < (unescapeBackTick l src).2.src.size := by
  have hlt : l.cursor < l.src.size := Lexer.cursor_lt_of_cur_ne_zero (by rw [hc]; decide)
  have := (tickText_spec l.rest).1
  rw [Lexer.rest_length] at this
  rw [unescapeBackTick_eq l src hc]
  show l.cursor + _ < l.src.size
  omega

theorem parseStringStep_inside {sch s ty : Nat} {l l' : Lexer} {st st' : List Nat × Nat}
    (h : parseStringStep sch s ty l st = (.cont st', l')) : l'.cursor < l'.src.size := by
  cases parseStringStep_cases h with
  | line hb =>
    show l.adv.afterBreak.cursor < l.adv.afterBreak.src.size
    unfold Lexer.afterBreak
    split
    · rename_i hp
      refine Lexer.lt_of_getChar_ne_zero (l := l.adv) (i := l.adv.cursor + 1) (fun e0 => ?_)
      change l.adv.peek = 0 at e0
      rw [e0] at hp
      revert hp; simp [runeLF, runeCR]
    · exact Lexer.cursor_lt_of_cur_ne_zero (fun e0 => by rw [e0] at hb; exact absurd hb (by decide))
  | char h0 => exact Lexer.cursor_lt_of_cur_ne_zero h0
  | tick _ _ hbt => exact unescapeBackTick_inside _ _ hbt

theorem parseString_outcome (l : Lexer) (hin : l.cursor < l.src.size) :
    (∃ tk, (parseString l).1 = .ok tk ∧ tk.type = stringTokenType l.cur ∧ tk.startIdx = l.cursor) ∨
    (∃ c, (parseString l).1 = .err ⟨27, c⟩ ∧ l.cursor < c ∧ c ≤ l.src.size ∧ l.getChar c = 0) := by
  unfold parseString parseStringLoop
  refine iterate_inv (step := parseStringStep l.cur l.cursor (stringTokenType l.cur))
    (I := fun l' _ => l'.src = l.src ∧ l.cursor ≤ l'.cursor ∧ l'.cursor < l'.src.size)
    (Q := fun r _ => (∃ tk, r = .ok tk ∧ tk.type = stringTokenType l.cur ∧ tk.startIdx = l.cursor) ∨
      (∃ c, r = .err ⟨27, c⟩ ∧ l.cursor < c ∧ c ≤ l.src.size ∧ l.getChar c = 0))
    ?_ ?_ l _ ⟨rfl, Nat.le_refl _, hin⟩
  · rintro l1 st st' l2 ⟨h1, h2, h3⟩ hstep
    have hc := parseStringStep_consumes _ _ _ l1 st st' l2 hstep
    exact ⟨by rw [hc.1, h1], by omega, parseStringStep_inside hstep⟩
  · rintro l1 st r l2 ⟨h1, h2, h3⟩ hstep
    cases parseStringStep_cases hstep with
    | eof hz =>
      refine Or.inr ⟨l1.cursor + 1, rfl, by omega, by rw [← h1]; omega, ?_⟩
      have : l.getChar (l1.cursor + 1) = l1.getChar (l1.cursor + 1) := by
        unfold Lexer.getChar; rw [h1]
      rw [this]; exact hz
    | close => exact Or.inl ⟨_, rfl, rfl, rfl⟩

open Spec.Lines

/-- the answer of `strPass`: the literal closes, or the loop goes on `k` characters further with a new literal and depth —
recording a line (`line`) or not (`next`) -/
inductive StrPass where
  | close
  | next (k : Nat) (lit : List Nat) (d : Nat)
  | line (k : Nat) (lit : List Nat) (d : Nat)

/-- one pass of the loop of `parseString` as a function of the text `c :: r` after the cursor (`c ≠ 0`), without the lexer, in a
literal opened with `q`: a line break (two characters if it is a pair) is appended and a line recorded, a back-tick hands over to
the machine (`tickText`), `q`'s own quotes count the depth `d` (the number of `q`'s own pairs open inside the literal), anything
else is appended.  (`StringPass`, Model/Lexer.lean, is the relation that lists what `parseStringStep` can answer in any state.) -/
def strPass (q : Quote) (c : Nat) (r lit : List Nat) (d : Nat) : StrPass :=
  if isBreak c then
    if isPair c (r.headD 0) then .line 1 (lit ++ [c, r.headD 0]) d else .line 0 (lit ++ [c]) d
  else if c = cBackTick then .next (tickText r).2 (lit ++ (tickText r).1) d
  else if c = q.opener then .next 0 (lit ++ [c]) (d + 1)
  else if c = q.closer then (if d = 0 then .close else .next 0 (lit ++ [c]) (d - 1))
  else .next 0 (lit ++ [c]) d

section strsteps
variable {q : Quote} {s ty : Nat} {l : Lexer} {lit : List Nat} {d : Nat} {c : Nat} {r : List Nat}

/-- **one pass of the loop of `parseString`** in a literal opened with `q` is `strPass` on the text after the cursor
(the loop's `quoteNum` is `d + 1`) -/
theorem strStep_pass (h : l.rest = c :: r) (h0 : c ≠ 0) :
    parseStringStep q.opener s ty l (lit, d + 1) =
      match strPass q c r lit d with
      | .close => (.done (.ok { type := ty, literal := lit, startIdx := s, endIdx := l.cursor + 2 }), l.adv.adv)
      | .next k lit' d' => (.cont (lit', d' + 1), l.setCursor (l.cursor + 1 + k))
      | .line k lit' d' => (.cont (lit', d' + 1),
          (l.setCursor (l.cursor + 1 + k)).pushLine { indents := 0, startIdx := l.cursor + 2 + k }) := by
  obtain ⟨hp, hr⟩ := Lexer.rest_cons h
  have hcur : l.adv.cur = c := hp
  have hpk : l.adv.peek = r.headD 0 := by rw [Lexer.peek_eq_head, hr, List.headD_eq_head?_getD]
  have f := quote_facts q
  unfold parseStringStep strPass
  dsimp only
  rw [hcur, hpk, if_neg (by simpa [runeEOF] using h0)]
  simp only [show ∀ a b : Nat, ((a == runeCR && b == runeLF) || (a == runeLF && b == runeCR)) = isPair a b from
    fun _ _ => rfl]
  show (if isBreak c = true then _ else _) = _
  -- in every arm `simp` settles the tests of the model's chain; what is left is the same lexer written with `adv` and with `setCursor`
  by_cases hbr : isBreak c = true
  · rw [if_pos hbr, if_pos hbr]
    by_cases hpr : isPair c (r.headD 0) = true
    · simp only [hpr, ↓reduceIte]
      cases r with
      | nil => exact absurd (LinesInv.pair_break_right hpr) (by decide)
      | cons c2 r2 =>
        have : l.adv.adv.cur = c2 := (Lexer.rest_cons hr).1
        simp [this]; rfl
    · simp only [hpr, Bool.false_eq_true, ↓reduceIte]
      simp [hcur]; rfl
  · rw [if_neg hbr, if_neg hbr]
    by_cases hb : c = cBackTick
    · subst hb
      rw [if_pos rfl, unescapeBackTick_eq l.adv lit hp, hr]
      simp [leftQuotes, rightQuotes, cBackTick, cLeftDoubleQuoteI, cLeftDoubleQuoteII, cLeftSingleQuoteI, cLeftSingleQuoteII,
        cLeftLibQuoteI, cRightDoubleQuoteI, cRightDoubleQuoteII, cRightSingleQuoteI, cRightSingleQuoteII, cRightLibQuoteI]
      rfl
    rw [if_neg hb]
    by_cases ho : c = q.opener
    · subst ho
      simp [f.1]; rfl
    rw [if_neg ho]
    by_cases hcl : c = q.closer
    · subst hcl
      have hnl : q.closer ∉ leftQuotes := by cases q <;> decide
      cases d with
      | zero => simp [hnl, f.2.1, f.2.2.1]
      | succ d' => simp [hnl, f.2.1, f.2.2.1]; rfl
    · rw [if_neg hcl]
      by_cases h1 : c ∈ leftQuotes
      · simp [h1, Ne.symm ho]; rfl
      · by_cases h2 : c ∈ rightQuotes
        · simp [h1, h2, f.2.2.1, Ne.symm hcl]; rfl
        · simp [h1, h2, hb]; rfl

end strsteps

/-- **how the loop of `parseString` ends**, in a literal opened with `q`, as a function of the text `rest` after the
cursor: `strPass` iterated.  `pos` is the cursor, `lit` the literal so far, `d` the depth, `ls` the starts of the lines recorded
so far.  Answers the outcome (the token, or error 27 at the end of the text or a NUL), the final cursor and the starts of all
lines recorded. -/
def strRun (q : Quote) (s ty : Nat) : List Nat → Nat → List Nat → Nat → List Nat → LexRes Token × Nat × List Nat
  | [], pos, _, _, ls => (.err ⟨27, pos + 1⟩, pos + 1, ls)
  | c :: r, pos, lit, d, ls =>
    if c = 0 then (.err ⟨27, pos + 1⟩, pos + 1, ls)
    else match strPass q c r lit d with
      | .close => (.ok { type := ty, literal := lit, startIdx := s, endIdx := pos + 2 }, pos + 2, ls)
      | .next k lit' d' => strRun q s ty (r.drop k) (pos + 1 + k) lit' d' ls
      | .line k lit' d' => strRun q s ty (r.drop k) (pos + 1 + k) lit' d' (ls ++ [pos + 2 + k])
termination_by rest => rest.length
decreasing_by all_goals simp only [List.length_cons, List.length_drop]; omega

theorem strRun_nil (q : Quote) (s ty pos : Nat) (lit : List Nat) (d : Nat) (ls : List Nat) :
    strRun q s ty [] pos lit d ls = (.err ⟨27, pos + 1⟩, pos + 1, ls) := by
  rw [strRun]

theorem strRun_closer (q : Quote) (s ty : Nat) (r : List Nat) (pos : Nat) (lit : List Nat) (ls : List Nat) :
    strRun q s ty (q.closer :: r) pos lit 0 ls =
      (.ok { type := ty, literal := lit, startIdx := s, endIdx := pos + 2 }, pos + 2, ls) := by
  have h := closer_ordinary q
  rw [strRun, if_neg h.1, strPass, h.2.1, if_neg Bool.false_ne_true, if_neg h.2.2.1, if_neg h.2.2.2, if_pos rfl, if_pos rfl]

theorem strRun_closer_open (q : Quote) (s ty : Nat) (r : List Nat) (pos : Nat) (lit : List Nat) (d : Nat) (ls : List Nat) :
    strRun q s ty (q.closer :: r) pos lit (d + 1) ls = strRun q s ty r (pos + 1) (lit ++ [q.closer]) d ls := by
  have h := closer_ordinary q
  rw [strRun, if_neg h.1, strPass, h.2.1, if_neg Bool.false_ne_true, if_neg h.2.2.1, if_neg h.2.2.2, if_pos rfl,
    if_neg (Nat.succ_ne_zero d)]
  rfl

/-- the `LineInfo` the string and comment scanners append for a line starting at `s` -/
def scannedLine (s : Nat) : LineInfo := { indents := 0, startIdx := s }

/-- `l` moved to `pos`, its line table replaced by `base` and the lines that start at `ls` -/
def Lexer.grownTo (l : Lexer) (base : Array LineInfo) (pos : Nat) (ls : List Nat) : Lexer :=
  { l with cursor := pos, lines := base ++ (ls.map scannedLine).toArray }

theorem Lexer.grownTo_nil (l : Lexer) (pos : Nat) : l.grownTo l.lines pos [] = l.setCursor pos := by
  simp [Lexer.grownTo, Lexer.setCursor]

/-- what a run of the loop that started in `l` leaves: the outcome, and `l` moved to the final cursor with the lines
recorded appended to `base` -/
def strEnd (l : Lexer) (base : Array LineInfo) (R : LexRes Token × Nat × List Nat) : LexRes Token × Lexer :=
  (R.1, l.grownTo base R.2.1 R.2.2)

theorem push_scanned (base : Array LineInfo) (ls : List Nat) (x : Nat) :
    (base ++ (ls.map scannedLine).toArray).push { indents := 0, startIdx := x } =
      base ++ ((ls ++ [x]).map scannedLine).toArray := by
  simp [scannedLine]

/-- **the loop of `parseString` is `strRun` on the text after the cursor** (`base`, `ls0`: the line table on entry,
split so that the induction can pass the lines recorded so far to `strRun`) -/
theorem parseStringLoop_run (q : Quote) (s ty : Nat) : ∀ (n : Nat) (l : Lexer) (lit : List Nat) (d : Nat)
    (base : Array LineInfo) (ls0 : List Nat), l.rest.length = n → l.lines = base ++ (ls0.map scannedLine).toArray →
    parseStringLoop q.opener s ty l (lit, d + 1) = strEnd l base (strRun q s ty l.rest l.cursor lit d ls0) := by
  intro n
  induction n using Nat.strongRecOn with
  | _ n ih =>
  intro l lit d base ls0 hn hl
  have stop : l.peek = 0 → parseStringLoop q.opener s ty l (lit, d + 1) =
      strEnd l base (.err ⟨27, l.cursor + 1⟩, l.cursor + 1, ls0) := by
    intro h0
    rw [parseStringLoop_done (strStep_eof h0)]
    unfold strEnd Lexer.grownTo
    rw [← hl]; rfl
  cases hr : l.rest with
  | nil => rw [stop (Lexer.rest_nil hr), strRun_nil]
  | cons c r =>
    rw [strRun]
    by_cases h0 : c = 0
    · rw [if_pos h0, stop (by rw [(Lexer.rest_cons hr).1, h0])]
    rw [if_neg h0]
    have hs := strStep_pass (q := q) (s := s) (ty := ty) (lit := lit) (d := d) hr h0
    -- the next pass starts `k + 1` characters on, in a shorter text
    have moved : ∀ k, (l.setCursor (l.cursor + 1 + k)).rest = r.drop k := fun k => by
      rw [Nat.add_assoc, Lexer.rest_setCursor, hr, Nat.add_comm 1 k]; rfl
    have shorter : ∀ k, (r.drop k).length < n := fun k => by
      rw [← hn, hr, List.length_drop, List.length_cons]; omega
    cases hpass : strPass q c r lit d with
    | close =>
      rw [hpass] at hs
      rw [parseStringLoop_done hs]
      unfold strEnd Lexer.grownTo
      rw [← hl]; rfl
    | next k lit' d' =>
      rw [hpass] at hs
      rw [parseStringLoop_cont hs, ih _ (by rw [moved k]; exact shorter k) (l.setCursor (l.cursor + 1 + k)) lit' d' base ls0 rfl hl,
        moved k]
      rfl
    | line k lit' d' =>
      rw [hpass] at hs
      rw [parseStringLoop_cont hs, ih _ (by rw [Lexer.pushLine_rest, moved k]; exact shorter k) _ lit' d' base
        (ls0 ++ [l.cursor + 2 + k]) rfl (by rw [Lexer.pushLine_lines]; show l.lines.push _ = _; rw [hl, push_scanned]),
        Lexer.pushLine_rest, moved k]
      rfl

theorem parseStringLoop_eq (q : Quote) (s ty : Nat) (l : Lexer) (lit : List Nat) (d : Nat) :
    parseStringLoop q.opener s ty l (lit, d + 1) = strEnd l l.lines (strRun q s ty l.rest l.cursor lit d []) :=
  parseStringLoop_run q s ty _ l lit d l.lines [] rfl (by simp)

theorem parseString_quote (q : Quote) (l : Lexer) (hc : l.cur = q.opener) :
    parseString l = strEnd l l.lines (strRun q l.cursor q.type l.rest l.cursor [] 0 []) := by
  unfold parseString
  rw [hc, (quote_scanner q).2, parseStringLoop_eq]

theorem nextToken_literal (q : Quote) (body : List Nat) :
    nextToken (mkLexer (q.opener :: body)) =
      strEnd (startState (q.opener :: body)) (startState (q.opener :: body)).lines (strRun q 0 q.type body 0 [] 0 []) := by
  rw [nextToken_quote, parseString_quote q _ (startState_cur _ _), startState_rest]
  rfl

/-- what `lexString` reports of a run of the string loop -/
def strOut (R : LexRes Token × Nat × List Nat) : LexRes (List Nat × Nat × Nat) :=
  match R.1 with
  | .ok tk => .ok (tk.literal, tk.type, tk.endIdx)
  | .err e => .err e
  | .panic => .panic

@[simp] theorem strOut_ok (tk : Token) (n : Nat) (ls : List Nat) :
    strOut (.ok tk, n, ls) = .ok (tk.literal, tk.type, tk.endIdx) := rfl
@[simp] theorem strOut_err (e : SynErr) (n : Nat) (ls : List Nat) : strOut (.err e, n, ls) = .err e := rfl

theorem lexString_literal (q : Quote) (body : List Nat) :
    lexString (q.opener :: body) = strOut (strRun q 0 q.type body 0 [] 0 []) := by
  unfold lexString
  rw [nextToken_literal]
  rfl

/-- **over a text without back-ticks and NUL** every character is appended verbatim, the depth follows `q`'s own quotes
only (`depthAfter`) and one line is recorded per line break, starting right after it -/
theorem strRun_verbatim (q : Quote) (s ty : Nat) (post : List Nat) (hpost : isBreak (post.headD 0) = false) :
    ∀ (k : Nat) (t : List Nat), t.length = k → ∀ (pos : Nat) (lit : List Nat) (d d' : Nat) (ls : List Nat),
      backTick ∉ t → 0 ∉ t → depthAfter q d t = some d' →
      strRun q s ty (t ++ post) pos lit d ls =
        strRun q s ty post (pos + t.length) (lit ++ t) d' (ls ++ lineStarts (pos + 1) t) := by
  intro k
  induction k using Nat.strongRecOn with
  | _ k ih =>
  intro t hk pos lit d d' ls hbt hz hd
  match t with
  | [] => simp [depthAfter] at hd; subst hd; simp [lineStarts]
  | c :: t' =>
    have hc0 : c ≠ 0 := fun e => hz (by rw [e]; exact List.mem_cons_self)
    have hcb : c ≠ cBackTick := fun e => hbt (by rw [e]; exact List.mem_cons_self)
    have hbt' : backTick ∉ t' := fun m => hbt (List.mem_cons_of_mem _ m)
    have hz' : 0 ∉ t' := fun m => hz (List.mem_cons_of_mem _ m)
    rw [List.cons_append, strRun, if_neg hc0, strPass]
    by_cases hbr : isBreak c = true
    · have hd' : depthAfter q d t' = some d' := by
        rw [← hd]; exact (depthAfter_break q d t' (by simpa [isBreak, runeCR, runeLF] using hbr)).symm
      rw [if_pos hbr]
      match t', hk, hbt', hz', hd' with
      | [], _, _, _, hd' =>
        have : isPair c (([] ++ post).headD 0) = false := by
          cases hp : isPair c (([] ++ post).headD 0) with
          | false => rfl
          | true => rw [List.nil_append] at hp; rw [LinesInv.pair_break_right hp] at hpost; cases hpost
        rw [this, if_neg Bool.false_ne_true]
        simp only [depthAfter, Option.some.injEq] at hd'
        subst hd'
        simp [lineStarts, hbr]
      | c2 :: t'', hk, hbt', hz', hd' =>
        by_cases hp : isPair c c2 = true
        · have hd'' : depthAfter q d t'' = some d' := by
            rw [← hd']; exact (depthAfter_break q d t'' (by
              have := LinesInv.pair_break_right hp; simpa [isBreak, runeCR, runeLF] using this)).symm
          rw [List.cons_append, List.headD_cons, if_pos hp]
          show strRun q s ty (t'' ++ post) _ _ _ _ = _
          rw [ih t''.length (by simp at hk; omega) t'' rfl _ _ _ _ _ (fun m => hbt' (List.mem_cons_of_mem _ m))
              (fun m => hz' (List.mem_cons_of_mem _ m)) hd'', lineStarts_pair _ _ _ _ hp]
          simp [Nat.add_assoc, Nat.add_comm 2]
        · rw [List.cons_append, List.headD_cons, if_neg hp]
          show strRun q s ty ((c2 :: t'') ++ post) _ _ _ _ = _
          rw [ih (c2 :: t'').length (by simp at hk ⊢; omega) _ rfl _ _ _ _ _ hbt' hz' hd',
            lineStarts_single _ _ _ hbr (fun d2 h2 => by cases h2; simpa using hp)]
          simp [Nat.add_assoc, Nat.add_comm 1]
    · rw [if_neg hbr, if_neg hcb]
      have hnb : isBreak c = false := by simpa using hbr
      have step : ∀ dn, depthAfter q dn t' = some d' →
          strRun q s ty (t' ++ post) (pos + 1) (lit ++ [c]) dn ls =
            strRun q s ty post (pos + (c :: t').length) (lit ++ c :: t') d' (ls ++ lineStarts (pos + 1) (c :: t')) := by
        intro dn hdn
        rw [ih t'.length (by simp at hk; omega) t' rfl _ _ _ _ _ hbt' hz' hdn, lineStarts_plain _ _ _ hnb]
        simp [Nat.add_assoc, Nat.add_comm 1]
      unfold depthAfter at hd
      by_cases ho : c = q.opener
      · rw [if_pos ho] at hd ⊢; exact step _ hd
      · rw [if_neg ho] at hd ⊢
        by_cases hcl : c = q.closer
        · rw [if_pos hcl] at hd ⊢
          match d, hd with
          | d0 + 1, hd => rw [if_neg (Nat.succ_ne_zero d0)]; exact step _ hd
        · rw [if_neg hcl] at hd ⊢; exact step _ hd

/-- the three ways `encodeSafe` wraps a character in back-ticks, as the machine reads them -/
theorem tickText_encoded (q : Quote) (c : Nat) (R : List Nat) (h : c = backTick ∨ c = q.opener ∨ c = q.closer ∨ c = 0) :
    ∃ body, encodeChar q c = cBackTick :: body ∧ tickText (body ++ R) = ([c], body.length) := by
  by_cases hb : c = backTick
  · subst hb
    exact ⟨[0x42, 0x4B, 0x60], by simp [encodeChar, cBackTick], tickText_group (w := [0x42, 0x4B]) R (by decide)⟩
  by_cases hq : c = q.opener ∨ c = q.closer
  · refine ⟨[c, 0x60], by simp [encodeChar, hb, hq, cBackTick], tickText_quote R ?_⟩
    rcases hq with rfl | rfl
    · exact (quote_facts q).2.2.2.2.2.1
    · exact (quote_facts q).2.2.2.2.2.2
  · have h0 : c = 0 := by
      rcases h with h | h | h | h
      · exact absurd h hb
      · exact absurd (Or.inl h) hq
      · exact absurd (Or.inr h) hq
      · exact h
    subst h0
    refine ⟨[0x55, 0x2B, 0x30, 0x60], ?_, tickText_group (w := [0x55, 0x2B, 0x30]) R (by decide)⟩
    simp only [encodeChar, if_neg hb, if_neg hq, ↓reduceIte, cBackTick]

/-- the characters `encodeSafe` writes as themselves -/
def asIs (q : Quote) (c : Nat) : Bool := c != backTick && c != q.opener && c != q.closer && c != 0

theorem asIs_run (q : Quote) : ∀ (v : List Nat) (d : Nat), (∀ c ∈ v, asIs q c = true) →
    encodeSafe q v = v ∧ depthAfter q d v = some d ∧ backTick ∉ v ∧ 0 ∉ v
  | [], _, _ => ⟨rfl, rfl, nofun, nofun⟩
  | c :: v, d, h => by
    obtain ⟨h1, h2, h3, h4⟩ := asIs_run q v d (fun x hx => h x (List.mem_cons_of_mem _ hx))
    have hc := h c List.mem_cons_self
    simp only [asIs, Bool.and_eq_true, bne_iff_ne] at hc
    obtain ⟨⟨⟨a, b⟩, c'⟩, e⟩ := hc
    refine ⟨by rw [encodeSafe_cons, h1]; simp [encodeChar, a, b, c', e],
      by unfold depthAfter; rw [if_neg b, if_neg c']; exact h2, fun m => ?_, fun m => ?_⟩
    · rcases List.mem_cons.mp m with m | m
      · exact a m.symm
      · exact h3 m
    · rcases List.mem_cons.mp m with m | m
      · exact e m.symm
      · exact h4 m

/-- **over an encoded text** (`encodeSafe q t`, then the closing quote) the literal grows by `t` and the depth is
untouched; if `t` has no line break no line is recorded.  `t` is stretches written as they are (`strRun_verbatim`) separated by
single characters written between back-ticks (`tickText_encoded`). -/
theorem strRun_safe (q : Quote) (s ty : Nat) (post : List Nat) :
    ∀ (k : Nat) (t : List Nat), t.length = k → ∀ (pos : Nat) (lit : List Nat) (d : Nat) (ls : List Nat),
      ∃ ls', strRun q s ty (encodeSafe q t ++ q.closer :: post) pos lit d ls =
          strRun q s ty (q.closer :: post) (pos + (encodeSafe q t).length) (lit ++ t) d ls' ∧
        ((∀ c ∈ t, isBreak c = false) → ls' = ls) := by
  intro k
  induction k using Nat.strongRecOn with
  | _ k ih =>
  intro t hk pos lit d ls
  obtain ⟨v, tl, rfl, hv, htl⟩ := span_pred (asIs q) t
  obtain ⟨e1, e2, e3, e4⟩ := asIs_run q v d hv
  have hesc : encodeSafe q (v ++ tl) = v ++ encodeSafe q tl := by
    unfold encodeSafe at e1 ⊢; rw [List.flatMap_append, e1]
  have hls : (∀ c ∈ v ++ tl, isBreak c = false) → ls ++ lineStarts (pos + 1) v = ls := fun h => by
    rw [lineStarts_nobreak _ v (fun c hc => h c (List.mem_append_left _ hc)), List.append_nil]
  cases tl with
  | nil =>
    refine ⟨ls ++ lineStarts (pos + 1) v, ?_, hls⟩
    rw [List.append_nil, e1, strRun_verbatim q s ty (q.closer :: post) (closer_ordinary q).2.1 _ v rfl _ _ _ _ _ e3 e4 e2]
  | cons c t' =>
    have hc : c = backTick ∨ c = q.opener ∨ c = q.closer ∨ c = 0 := by
      have := htl c rfl
      simp only [asIs, Bool.and_eq_false_iff, bne_eq_false_iff_eq] at this
      rcases this with ((h | h) | h) | h
      · exact .inl h
      · exact .inr (.inl h)
      · exact .inr (.inr (.inl h))
      · exact .inr (.inr (.inr h))
    obtain ⟨body, hb1, hb2⟩ := tickText_encoded q c (encodeSafe q t' ++ q.closer :: post) hc
    obtain ⟨ls', h1, h2⟩ := ih t'.length (by rw [← hk]; simp; omega) t' rfl (pos + v.length + 1 + body.length)
      (lit ++ v ++ [c]) d (ls ++ lineStarts (pos + 1) v)
    refine ⟨ls', ?_, fun h => by rw [h2 (fun x hx => h x (by simp [hx])), hls h]⟩
    rw [hesc, encodeSafe_cons, hb1, List.append_assoc,
      strRun_verbatim q s ty _ (by rfl) _ v rfl _ _ _ _ _ e3 e4 e2]
    simp only [List.cons_append, List.append_assoc]
    rw [strRun, if_neg (by decide), strPass, if_neg (by decide), if_pos rfl, hb2]
    dsimp only
    simp only [List.drop_left, List.append_assoc] at h1 ⊢
    rw [h1]
    simp [Nat.add_assoc, Nat.add_comm, Nat.add_left_comm]

end general

end ZnVerif.Model
