/-
Helper lemmas for the VM wrappers (`VMScope`): predefined names first, never declarable, and — because no local
of such a name can ever exist — never assignable although `SetElement` does not look at `vm.globals`.
Core Lean only.
-/
import ZnVerif.Proofs.ScopeBridge

namespace ZnVerif.Proofs.Scope
open ZnVerif.SymTab ZnVerif.Spec.Scopes ZnVerif.Proofs.ScopeSpec

variable {α : Type}

theorem globalLookup_eq (g : List (String × α)) (n : String) : globalLookup g n = gfind g n := by
  induction g with
  | nil => rfl
  | cons p g ih =>
    obtain ⟨k, v⟩ := p
    simp only [globalLookup, gfind, ih]

/-- no frame binds a predefined name -/
def NamesOK (g : List (String × α)) (st : Stack α) : Prop := ∀ f ∈ st, ∀ b ∈ f, gfind g b.name = none

theorem namesOK_iff (g : List (String × α)) (st : Stack α) :
    NamesOK g st ↔ ∀ l ∈ names st, ∀ n ∈ l, gfind g n = none := by
  simp only [NamesOK, names, List.mem_map, forall_exists_index, and_imp]
  constructor
  · rintro h _ f hf rfl n hn
    obtain ⟨b, hb, rfl⟩ := List.mem_map.1 hn
    exact h f hf b hb
  · intro h f hf b hb; exact h _ f hf rfl _ (List.mem_map.2 ⟨b, hb, rfl⟩)

theorem namesOK_setB (g : List (String × α)) (st : Stack α) (y : String) (v : α) (h : NamesOK g st) :
    NamesOK g (setB st y v) := by
  rw [namesOK_iff, names_setB, ← namesOK_iff]; exact h

theorem step_namesOK (g : List (String × α)) (st : Stack α) (op : Op α) (hst : NamesOK g st)
    (hop : ∀ n, writes op = some n → gfind g n = none) (st' : Stack α) (r : Res α)
    (hs : step st op = some (st', r)) : NamesOK g st' := by
  cases step_cases hs with
  | opens => exact List.forall_mem_cons.2 ⟨nofun, hst⟩
  | closes => exact fun f' hf' => hst f' (List.mem_cons_of_mem _ hf')
  | touch _ _ ht =>
    cases ht with
    | same => exact hst
    | push hw =>
      exact List.forall_mem_cons.2 ⟨List.forall_mem_cons.2 ⟨hop _ hw, hst _ (List.mem_cons_self ..)⟩,
        fun f' hf' => hst f' (List.mem_cons_of_mem _ hf')⟩
    | set _ => exact namesOK_setB g st _ _ hst

theorem lookupB_some_mem (st : Stack α) (n : String) (b : Binding α) (h : lookupB st n = some b) :
    b.name = n ∧ ∃ f ∈ st, b ∈ f := by
  induction st with
  | nil => simp [lookupB] at h
  | cons f st ih =>
    simp only [lookupB] at h
    cases hf : Frame.find f n with
    | some b' =>
      simp only [hf, Option.some.injEq] at h
      subst h
      simp only [Frame.find] at hf
      have h1 := List.find?_some hf
      have h2 := List.mem_of_find?_eq_some hf
      exact ⟨by simpa using h1, f, by simp, h2⟩
    | none =>
      simp only [hf] at h
      obtain ⟨h1, f', hf', hb⟩ := ih h
      exact ⟨h1, f', by simp [hf'], hb⟩

theorem lookupB_none_of_global (g : List (String × α)) (st : Stack α) (h : NamesOK g st) (n : String) (gv : α)
    (hg : gfind g n = some gv) : lookupB st n = none := by
  cases hl : lookupB st n with
  | none => rfl
  | some b =>
    obtain ⟨h1, f, hf, hb⟩ := lookupB_some_mem st n b hl
    have := h f hf b hb
    rw [h1, hg] at this
    cases this

/-- the VM is running a module (`getCurrentScope() != nil`), its scope satisfies `Sim`, no local has a predefined name -/
structure VMSim (vm : VMScope α) (σ : Scope α) (d : Nat) : Prop where
  scope : vm.scope = some σ
  sim : Sim σ d
  names : NamesOK vm.globals (abs σ)

def absVM (vm : VMScope α) (σ : Scope α) : VMSpec α := ⟨vm.globals, vm.moduleID, abs σ⟩

/-- the name an operation mentions (declares, assigns or looks up) -/
def mentions : Op α → Option String
  | .declare n _ => some n
  | .declareConst n _ => some n
  | .declareExternal n _ _ => some n
  | .assign n _ => some n
  | .lookup n => some n
  | .lookupM n => some n
  | _ => none

/-- model side (`VMScope.step`): with no predefined name involved a wrapper is the scope's method, answer under `liftRes` -/
theorem vm_step_inner (g : List (String × α)) (mid : Nat) (σ σ' : Scope α) (op : Op α) (r : Res α)
    (hm : ∀ n, mentions op = some n → globalLookup g n = none) (hs : σ.step op = .ok (σ', r)) :
    VMScope.step ⟨g, mid, some σ⟩ op = .ok (⟨g, mid, some σ'⟩, liftRes mid r) := by
  have hofErr : ∀ (n : String) (f : Scope α → GoRes (Scope α)), globalLookup g n = none →
      σ.ofErr (f σ) = .ok (σ', r) →
      VMScope.ofErr ⟨g, mid, some σ⟩ (VMScope.declareWith ⟨g, mid, some σ⟩ n f) = .ok (⟨g, mid, some σ'⟩, liftRes mid r) := by
    intro n f hn hx
    simp only [VMScope.declareWith, hn]
    cases hf : f σ <;> rw [hf] at hx <;> cases hx <;> rfl
  cases op with
  | beginScope => cases hs; rfl
  | endScope =>
    simp only [Scope.step] at hs
    simp only [VMScope.step, VMScope.endScope]
    cases he : σ.endScope <;> rw [he] at hs <;> cases hs
    rfl
  | declare n v => exact hofErr n _ (hm n rfl) hs
  | declareConst n v => exact hofErr n _ (hm n rfl) hs
  | declareExternal n v m => exact hofErr n _ (hm n rfl) hs
  | assign n v =>
    simp only [Scope.step] at hs
    simp only [VMScope.step, VMScope.setElement]
    cases hf : σ.setValue n v <;> rw [hf] at hs <;> cases hs <;> rfl
  | lookup n =>
    simp only [Scope.step] at hs
    simp only [VMScope.step, VMScope.findElement, hm n rfl]
    cases hf : σ.getValue n with
    | ok o => rw [hf] at hs; cases o <;> cases hs <;> rfl
    | err c => rw [hf] at hs; cases hs
    | panic => rw [hf] at hs; cases hs
  | lookupM n =>
    simp only [Scope.step] at hs
    simp only [VMScope.step, VMScope.findElementWithModuleID, hm n rfl]
    cases hf : σ.getValueWithModuleID n with
    | ok o =>
      rw [hf] at hs
      obtain ⟨o1, m⟩ := o
      cases o1 <;> cases hs <;> rfl
    | err c => rw [hf] at hs; cases hs
    | panic => rw [hf] at hs; cases hs

/-- spec side (`vmStep`): with no predefined name involved it is `step` on the module's stack, answer under `liftRes` -/
theorem vmStep_inner (s : VMSpec α) (op : Op α) (hm : ∀ n, mentions op = some n → gfind s.globals n = none)
    (st' : Stack α) (r : Res α) (hs : step s.stack op = some (st', r)) :
    vmStep s op = some ({ s with stack := st' }, .res (liftRes s.moduleID r)) := by
  cases op with
  | beginScope => simp [vmStep, hs]
  | endScope => simp [vmStep, hs]
  | declare n v => simp [vmStep, hs, hm n rfl]
  | declareConst n v => simp [vmStep, hs, hm n rfl]
  | declareExternal n v m => simp [vmStep, hs, hm n rfl]
  | assign n v => simp [vmStep, hs, hm n rfl]
  | lookup n => simp [vmStep, hs, hm n rfl]
  | lookupM n => simp [vmStep, hs, hm n rfl]

theorem setValue_global {σ : Scope α} {d : Nat} (h : Sim σ d) (g : List (String × α)) (hn : NamesOK g (abs σ))
    (n : String) (gv : α) (hg : gfind g n = some gv) (v : α) : σ.setValue n v = .err 42 := by
  have hl := lookupB_none_of_global g (abs σ) hn n gv hg
  have := model_step_err h (.assign n v) True.intro (abs σ) 42 (by simp [step, hl])
  simp only [Scope.step] at this
  cases hf : σ.setValue n v with
  | ok sp' => simp [hf, Scope.ofErr] at this
  | err c => simp only [hf, Scope.ofErr, GoRes.ok.injEq, Prod.mk.injEq, Res.err.injEq, true_and] at this; rw [this]
  | panic => simp [hf, Scope.ofErr] at this

theorem vm_step_sim {vm : VMScope α} {σ : Scope α} {d : Nat} (h : VMSim vm σ d) (op : Op α) (hok : opOK d op) :
    ∃ vm' σ' r r', vm.step op = .ok (vm', r) ∧ VMSim vm' σ' (nextDepth d op) ∧
      vmStep (absVM vm σ) op = some (absVM vm' σ', r') ∧ r'.agrees r ∧ vm'.globals = vm.globals := by
  obtain ⟨g, mid, sc⟩ := vm
  have hsc : sc = some σ := h.scope
  subst hsc
  -- is a predefined name involved?
  by_cases hglob : ∀ n, mentions op = some n → gfind g n = none
  · obtain ⟨σ', r, hstep, hsim, hspec⟩ := step_sim h.sim op hok
    have hw : ∀ n, writes op = some n → gfind g n = none := fun n hn =>
      hglob n (by cases op <;> first | exact hn | cases hn)
    exact ⟨⟨g, mid, some σ'⟩, σ', liftRes mid r, .res (liftRes mid r),
      vm_step_inner g mid σ σ' op r (fun n hn => globalLookup_eq g n ▸ hglob n hn) hstep,
      ⟨rfl, hsim, step_namesOK g (abs σ) op h.names hw _ r hspec⟩,
      vmStep_inner (absVM ⟨g, mid, some σ⟩ σ) op hglob _ r hspec, rfl, rfl⟩
  · obtain ⟨n, hmn, hgn⟩ : ∃ n, mentions op = some n ∧ gfind g n ≠ none :=
      Classical.not_forall.1 hglob |>.imp fun n hn => Classical.not_imp.1 hn
    cases hg : gfind g n with
    | none => exact absurd hg hgn
    | some gv =>
      have hgl : globalLookup g n = some gv := by rw [globalLookup_eq]; exact hg
      have hdecl : ∀ f, VMScope.ofErr ⟨g, mid, some σ⟩ (VMScope.declareWith ⟨g, mid, some σ⟩ n f) =
          .ok (⟨g, mid, some σ⟩, .err 43) := fun f => by
        simp [VMScope.declareWith, hgl, VMScope.ofErr, errNameRedeclared]
      cases op with
      | beginScope => cases hmn
      | endScope => cases hmn
      | declare n' v => cases hmn; exact ⟨_, σ, _, .res (.err 43), hdecl _, h, by simp [vmStep, absVM, hg], rfl, rfl⟩
      | declareConst n' v => cases hmn; exact ⟨_, σ, _, .res (.err 43), hdecl _, h, by simp [vmStep, absVM, hg], rfl, rfl⟩
      | declareExternal n' v m => cases hmn; exact ⟨_, σ, _, .res (.err 43), hdecl _, h, by simp [vmStep, absVM, hg], rfl, rfl⟩
      | assign n' v =>
        cases hmn
        exact ⟨_, σ, .err 42, .errAny,
          by simp [VMScope.step, VMScope.setElement, setValue_global h.sim g h.names n gv hg v, VMScope.ofErr],
          h, by simp [vmStep, absVM, hg], ⟨42, rfl⟩, rfl⟩
      | lookup n' =>
        cases hmn
        exact ⟨_, σ, .val gv, .res (.val gv), by simp [VMScope.step, VMScope.findElement, hgl],
          h, by simp [vmStep, absVM, hg], rfl, rfl⟩
      | lookupM n' =>
        cases hmn
        exact ⟨_, σ, .valM gv (-1), .res (.valM gv (-1)), by simp [VMScope.step, VMScope.findElementWithModuleID, hgl],
          h, by simp [vmStep, absVM, hg], rfl, rfl⟩

/-- pointwise agreement of answer lists -/
def agreeAll : List (VMRes α) → List (Res α) → Prop
  | [], [] => True
  | r' :: rs', r :: rs => r'.agrees r ∧ agreeAll rs' rs
  | _, _ => False

theorem vm_run_sim (ops : List (Op α)) : ∀ (vm : VMScope α) (σ : Scope α) (d d' : Nat), VMSim vm σ d →
    finalDepth d ops = some d' → extAtRoot d ops = true →
    ∃ vm' σ' rs rs', vm.run ops = .ok (vm', rs) ∧ VMSim vm' σ' d' ∧
      vmRun (absVM vm σ) ops = some (absVM vm' σ', rs') ∧ agreeAll rs' rs ∧ vm'.globals = vm.globals := by
  induction ops with
  | nil =>
    intro vm σ d d' h h1 _
    simp only [finalDepth, Option.some.injEq] at h1
    subst h1
    exact ⟨vm, σ, [], [], rfl, h, rfl, True.intro, rfl⟩
  | cons op ops ih =>
    intro vm σ d d' h h1 h2
    obtain ⟨hok, hf, he⟩ := bracket_cons h1 h2
    obtain ⟨vm₁, σ₁, r, r', hstep, hs₁, hspec, hag, hg₁⟩ := vm_step_sim h op hok
    obtain ⟨vm₂, σ₂, rs, rs', hrun, hs₂, hspec₂, hag₂, hg₂⟩ := ih vm₁ σ₁ _ d' hs₁ hf he
    exact ⟨vm₂, σ₂, r :: rs, r' :: rs', by simp [VMScope.run, hstep, hrun], hs₂, by simp [vmRun, hspec, hspec₂],
      ⟨hag, hag₂⟩, by rw [hg₂, hg₁]⟩

theorem vmSim_new (g : List (String × α)) (mid : Nat) : VMSim ⟨g, mid, some Scope.new⟩ Scope.new 0 :=
  ⟨rfl, sim_new, by
    intro f hf b hb
    rw [abs_new] at hf
    simp only [initial, List.mem_cons, List.mem_nil_iff, or_false] at hf
    subst hf
    simp at hb⟩

end ZnVerif.Proofs.Scope
