/-
Lemmas of `Spec.Lines`: what `isBreak`, `isPair` say of a character, and `lineStarts` by the kind of the first character.
-/
import ZnVerif.Spec.Lines

namespace ZnVerif.Model
open Spec.Lines

namespace LinesInv

theorem isBreak_cases {c : Nat} (h : isBreak c = true) : c = 0x0D ∨ c = 0x0A := by
  simpa [isBreak] using h

theorem pair_break_left {c d : Nat} (h : isPair c d = true) : isBreak c = true := by
  simp only [isPair, isBreak, Bool.or_eq_true, Bool.and_eq_true, beq_iff_eq] at h ⊢
  rcases h with ⟨a, _⟩ | ⟨a, _⟩
  · exact Or.inl a
  · exact Or.inr a

theorem pair_break_right {c d : Nat} (h : isPair c d = true) : isBreak d = true := by
  simp only [isPair, isBreak, Bool.or_eq_true, Bool.and_eq_true, beq_iff_eq] at h ⊢
  rcases h with ⟨_, a⟩ | ⟨_, a⟩
  · exact Or.inr a
  · exact Or.inl a

end LinesInv

theorem lineStarts_plain (pos c : Nat) (t : List Nat) (h : isBreak c = false) :
    lineStarts pos (c :: t) = lineStarts (pos + 1) t := by
  cases t with
  | nil => simp [lineStarts, h]
  | cons d r =>
    have : isPair c d = false := by
      simp only [isBreak, Bool.or_eq_false_iff, beq_eq_false_iff_ne] at h
      simp [isPair, h.1, h.2]
    simp [lineStarts, h, this]

theorem lineStarts_nobreak (pos : Nat) : ∀ t : List Nat, (∀ c ∈ t, isBreak c = false) → lineStarts pos t = []
  | [], _ => rfl
  | c :: t, h => by
    rw [lineStarts_plain pos c t (h c List.mem_cons_self)]
    exact lineStarts_nobreak (pos + 1) t (fun x hx => h x (List.mem_cons_of_mem _ hx))

theorem lineStarts_pair (pos c d : Nat) (t : List Nat) (h : isPair c d = true) :
    lineStarts pos (c :: d :: t) = (pos + 2) :: lineStarts (pos + 2) t := by
  simp [lineStarts, h]

theorem lineStarts_single (pos c : Nat) (t : List Nat) (h : isBreak c = true)
    (hn : ∀ d, t.head? = some d → isPair c d = false) :
    lineStarts pos (c :: t) = (pos + 1) :: lineStarts (pos + 1) t := by
  cases t with
  | nil => simp [lineStarts, h]
  | cons d r => simp [lineStarts, h, hn d rfl]

end ZnVerif.Model
