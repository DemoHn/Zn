/-
Call-stack discipline of the evaluator model, part 3: what the induction on fuel over the mutual block proves.
`AllFr n`: every expression / call / constructor / type declaration at fuel `n` leaves the frames it starts from literally
alone (`Fr .lit true`), every method body updates only the marks of the frame it runs in and answers no loop signal
(`Fr .stmt true`), every block does the same but may end with a loop signal (`Fr .stmt false`), and so may the statements
结束循环 / 继续循环 / 如果 and no other (`Fr .stmt (!maySignal st)`), and
`handleException` is balanced relative to the stack of the protected body's entry (`HFr`).
`AllBal n` is what `SameStack` / `Ext` see of it.
-/
import ZnVerif.Proofs.StackBalRules

namespace ZnVerif.Proofs.StackBal
open ZnVerif.Model

variable {ν : Type} [NumOps ν]

/-- outcome `o` of something started (directly or after failed calls) above the stack `st0`: frames only added above
`st0`; a normal end leaves `st0` (up to the marks of its top frame) -/
def PostRel {β} (st0 : List Frame) (o : Res β × VM ν) : Prop :=
  Ext st0 o.2.stack ∧ (resIsOk o.1 = true → SameStack st0 o.2.stack)

/-- `handleException` relative to the protected body's entry stack `st0` (`blockDepth = st0.length`), started from a
state that has the frames of failed calls above `st0`: frames only above `st0`, and a handled exception ends with
exactly `st0` -/
def HSpec (n : Nat) : Prop :=
  ∀ (bm : Int) (bd : Nat) (catches : List (Option Ident × Option (List Stmt))) (e : Err) (st0 : List Frame)
    (s : VM ν), Ext st0 s.stack → st0.length = bd →
    PostRel st0 (handleException n bm bd catches e s) ∧ (CsInv s → CsInv (handleException n bm bd catches e s).2)

structure AllBal (n : Nat) : Prop where
  evalExpr : ∀ e, BalNS (evalExpr (ν := ν) n e)
  memberIV : ∀ e, BalNS (memberIV (ν := ν) n e)
  execFunction : ∀ f t ps, BalNS (execFunction (ν := ν) n f t ps)
  execDirectFunction : ∀ f ps, BalNS (execDirectFunction (ν := ν) n f ps)
  execMethodFunction : ∀ r f ps, BalNS (execMethodFunction (ν := ν) n r f ps)
  construct : ∀ c ps, BalNS (construct (ν := ν) n c ps)
  evalExecBlock : ∀ b ps, BalNS (evalExecBlock (ν := ν) n b ps)
  handleException : HSpec (ν := ν) n
  evalStmtBlock : ∀ b, Bal (evalStmtBlock (ν := ν) n b)
  evalPureStmtBlock : ∀ b, Bal (evalPureStmtBlock (ν := ν) n b)
  evalStmt : ∀ st, Bal (evalStmt (ν := ν) n st)
  evalClassDecl : ∀ st, BalNS (evalClassDecl (ν := ν) n st)
  evalFuncDecl : ∀ st, BalNS (evalFuncDecl (ν := ν) n st)
  evalCtorDecl : ∀ st, BalNS (evalCtorDecl (ν := ν) n st)

/-- the `Ends` form of `PostRel`, as a judgment: something started with frames of failed calls above `st0` (whose top
frame statements may have updated) ends above `st0`, and with nothing left above it when it ends normally -/
def RelTo {β} (st0 : List Frame) (m : M ν β) : Prop :=
  ∀ s : VM ν, Ends .stmt st0 s.stack false →
    Ends .stmt st0 (m s).2.stack (resIsOk (m s).1) ∧ (CsInv s → CsInv (m s).2)

/-- what the induction proves of `handleException`: `RelTo` the protected body's entry stack `st0`
(`blockDepth = st0.length`); `HSpec` is what `allBal` exports of it (`RelTo.postRel`, Proofs/StackBalBlock.lean) -/
def HFr (n : Nat) : Prop :=
  ∀ (bm : Int) (catches : List (Option Ident × Option (List Stmt))) (e : Err) (st0 : List Frame),
    RelTo (ν := ν) st0 (handleException n bm st0.length catches e)

/-- the statements that may end with a loop signal: 结束循环 / 继续循环 themselves, and 如果, whose blocks may hold one; a loop
consumes the signals of its body, everything else contains no statement of its own -/
def maySignal : Stmt → Bool
  | .break _ | .continue _ | .branch .. => true
  | _ => false

structure AllFr (n : Nat) : Prop where
  evalExpr : ∀ e, Fr .lit true (evalExpr (ν := ν) n e)
  memberIV : ∀ e, Fr .lit true (memberIV (ν := ν) n e)
  execFunction : ∀ f t ps, Fr .stmt true (execFunction (ν := ν) n f t ps)
  execDirectFunction : ∀ f ps, Fr .lit true (execDirectFunction (ν := ν) n f ps)
  execMethodFunction : ∀ r f ps, Fr .lit true (execMethodFunction (ν := ν) n r f ps)
  construct : ∀ c ps, Fr .lit true (construct (ν := ν) n c ps)
  evalExecBlock : ∀ b ps, Fr .stmt true (evalExecBlock (ν := ν) n b ps)
  handleException : HFr (ν := ν) n
  evalStmtBlock : ∀ b, Fr .stmt false (evalStmtBlock (ν := ν) n b)
  evalPureStmtBlock : ∀ b, Fr .stmt false (evalPureStmtBlock (ν := ν) n b)
  evalStmt : ∀ st, Fr .stmt (!maySignal st) (evalStmt (ν := ν) n st)
  evalClassDecl : ∀ st, Fr .lit true (evalClassDecl (ν := ν) n st)

/-- side condition of `Fr.tryCatch`: the handler re-raises what is neither a value nor a loop signal -/
macro "recov_tac" : tactic => `(tactic| (
  intro r hr s
  cases r <;> first
    | rfl
    | (simp [okOrSig, resIsOk, resIsSig] at hr; done)
    | (rename_i e; cases e <;> first
        | rfl
        | (simp [okOrSig, resIsOk, resIsSig, isSig] at hr; done))))

/-- `Fr` of code made of binds, case distinctions and list loops over operations that are `Quiet` instances and over the
expression-level functions at the fuel of `ih : AllFr n`: it peels binds, `if`s and `match`es and closes each atom by
instance resolution or by `ih`.  It leaves open what is none of these (frame primitives, `tryCatch`, statement blocks): a
goal that survives names the construct that wants a rule of its own. -/
macro "fr_tac" ih:ident : tactic => `(tactic| repeat' (first
  | with_reducible apply Fr.bind | intro _ | with_reducible apply Fr.ite | split
  | exact Fr.ofQuiet inferInstance
  | (with_reducible apply Fr.up; with_reducible first
      | apply AllFr.evalExpr $ih | apply AllFr.memberIV $ih | apply AllFr.execDirectFunction $ih
      | apply AllFr.execMethodFunction $ih | apply AllFr.construct $ih | apply AllFr.evalClassDecl $ih)
  | with_reducible apply Fr.mapM | with_reducible apply Fr.foldlM | with_reducible apply Fr.forM))

end ZnVerif.Proofs.StackBal
