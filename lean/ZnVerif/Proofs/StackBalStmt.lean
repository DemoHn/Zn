/-
Call-stack discipline: induction step for statements and blocks.  A statement first marks the frame it runs in
(`line := …, started := true`); 输出 writes the frame's return slot; nothing else updates a frame in place.
-/
import ZnVerif.Proofs.StackBalMutual
import ZnVerif.Proofs.EvalArms

namespace ZnVerif.Proofs.StackBal
open ZnVerif.Model
open ZnVerif.Proofs.ControlFlow (passHandler iterSlots iterBind)
open ZnVerif.Proofs.EvalArms (condNode boolCell iterLoop whileStep_eq iterPass_eq branchOther_eq withIterSlots_eq
  evalStmt_while evalStmt_iterate evalStmt_branch)

variable {ν : Type} [NumOps ν] {ns : Bool}

theorem fr_setLine (ln : Nat) : Fr .stmt ns (setTopFrame (ν := ν) fun fr => { fr with line := ln, started := true }) :=
  .setTopFrame _ fun _ => ⟨rfl, fun _ => rfl⟩

theorem fr_evalStmtBlock_succ (n : Nat) (ih : AllFr (ν := ν) n) (b : Option (List Stmt)) :
    Fr .stmt false (evalStmtBlock (ν := ν) (n+1) b) := by
  cases b with
  | none => exact .ofQuiet .goPanic
  | some stmts =>
    rw [EvalArms.evalStmtBlock_some]
    refine .bind (.forM (fun st => ?_) _) fun _ => ih.evalPureStmtBlock _
    split
    · exact .bind (fr_setLine _) fun _ => (ih.evalClassDecl _).up
    · exact .bind (fr_setLine _) fun _ => .ite .quiet .quiet
    · exact .pure _

theorem fr_evalPureStmtBlock_succ (n : Nat) (ih : AllFr (ν := ν) n) (b : Option (List Stmt)) :
    Fr .stmt false (evalPureStmtBlock (ν := ν) (n+1) b) := by
  cases b with
  | none => exact .ofQuiet .goPanic
  | some stmts => exact .withScope (Fr.closed.stmtsLoop .quiet
      (fun st _ => (ih.evalStmt st).mono (ns' := false) (FrameRel.le_refl _) nofun) _)

theorem fr_condNode {β} {ec : M ν Addr} {kt kf : M ν β} (hc : Fr .stmt ns ec) (ht : Fr .stmt ns kt)
    (hf : Fr .stmt ns kf) : Fr .stmt ns (condNode ec kt kf) := Fr.closed.condNode (fun _ => .quiet) .quiet hc ht hf

/-- a loop reads the end of a pass: the two loop signals and a set return slot are for the loop, the rest passes — so
what the loop makes of a pass is never a loop signal -/
theorem fr_pass {α} {m : M ν α} (hm : Fr .stmt false m) (go : Bool) :
    Fr .stmt true (Model.tryCatch m (passHandler go)) := by
  refine .tryCatch hm (fun r _ => .ofQuiet ?_) (by recov_tac)
  rcases r with _ | e | _ | _ | _ <;> first | exact .goPanic | exact .outOfFuel | exact .notModelled | skip
  · unfold passHandler; quiet_tac
  · cases e <;> first | exact .pure _ | exact .throwE rfl

theorem fr_iterLoop {pass : Addr → Addr → M ν Bool} (hp : ∀ key v, Fr .stmt ns (pass key v)) (target : Addr) :
    Fr .stmt ns (iterLoop pass target) := by
  unfold iterLoop
  refine .bind .quiet fun cell => ?_
  split
  · exact Fr.closed.untilIdxM (fun i v => .bind .quiet fun _ => hp _ _) _ _
  · refine Fr.closed.untilM (fun k => .bind .quiet fun cell => ?_) _
    split
    · split
      · exact .bind .quiet fun _ => hp _ _
      · exact .pure _
    · exact .quiet
  · exact .quiet

/-- what 遍历 does around its passes — declaring the loop variables, binding them for a pass — happens in the loop's own
scope: frames and module stay -/
theorem Quiet.iterSlots (names : List Ident) : Quiet (iterSlots (ν := ν) names) := by
  unfold ControlFlow.iterSlots; quiet_tac

theorem Quiet.iterBind (n nameLen : Nat) (slots : Option String × Option String) (key v : Addr) :
    Quiet (iterBind (ν := ν) n nameLen slots key v) := by
  unfold ControlFlow.iterBind; quiet_tac

attribute [instance] Quiet.iterSlots Quiet.iterBind

theorem fr_evalStmt_succ (n : Nat) (ih : AllFr (ν := ν) n) (st : Stmt) :
    Fr .stmt (!maySignal st) (evalStmt (ν := ν) (n+1) st) := by
  have null : ∀ {ns}, Fr .stmt ns (newNull (ν := ν)) := .quiet
  cases st with
  | «while» ln c body =>
    rw [evalStmt_while]
    refine .bind (fr_setLine ln) fun _ => .bind (Fr.closed.whileM (.bind (fr_setLine ln) fun _ => ?_) .quiet n) fun _ => null
    rw [whileStep_eq]
    exact fr_condNode (ih.evalExpr c).up (fr_pass (ih.evalPureStmtBlock body) true) (.pure _)
  | iterate ln e names body =>
    rw [evalStmt_iterate]
    simp only [withIterSlots_eq]
    refine .bind (fr_setLine ln) fun _ => .bind (.withScope (.bind (ih.evalExpr e).up fun _ =>
      .bind .quiet fun _ => fr_iterLoop (fun key v => ?_) _)) fun _ => null
    rw [iterPass_eq]
    exact fr_pass (.bind .quiet fun _ => ih.evalPureStmtBlock body) false
  | branch ln ifE ifB others hasElse elseB =>
    rw [evalStmt_branch]
    refine .bind (fr_setLine ln) fun _ => fr_condNode (ih.evalExpr ifE).up (.bind (ih.evalPureStmtBlock ifB) fun _ => null)
      (.bind (Fr.closed.firstM ?_ fun o _ => ?_) fun _ => null)
    · exact .ite (.bind (ih.evalPureStmtBlock elseB) fun _ => .pure _) (.pure _)
    · rw [branchOther_eq]
      exact fr_condNode (ih.evalExpr o.1).up (.bind (ih.evalPureStmtBlock o.2) fun _ => .pure _) (.pure _)
  | ret ln e =>
    exact .bind (fr_setLine _) fun _ => .bind (ih.evalExpr e).up fun v =>
      .bind (.setTopFrame _ fun _ => ⟨rfl, id⟩) fun _ => .pure v
  | «continue» => exact .bind (fr_setLine _) fun _ => .throwE _
  | «break» => exact .bind (fr_setLine _) fun _ => .throwE _
  | _ => rw [Model.evalStmt]; refine .bind (fr_setLine _) fun _ => ?_; fr_tac ih

end ZnVerif.Proofs.StackBal
