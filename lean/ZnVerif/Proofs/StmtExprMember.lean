/-
Token-level round trip with layout, part 2b: expressions — identifiers, texts, `{ e }`, `其 p`, and the steps of a member chain
(`之 p`, `# i`, `# "s"`, `# { e }`).
-/
import ZnVerif.Proofs.StmtExprBase

namespace ZnVerif.Proofs.StmtRT
open ZnVerif.Model ZnVerif.Model.Parser ZnVerif.Generated.Tokens ZnVerif.Generated.ParserTables
open ZnVerif.Spec.StmtSyntax

variable {Y : Layout} {v : Variant}

theorem case_id (t : Token) (ht : t.type = cTypeIdentifier) : C7 v Y (.id (Y.idOf t)) [t] := by
  refine c7_of_basic_plain _ [t] (by simp) (by show t.type ∈ _; rw [ht]; decide) 2 (by unfold D; simp) ?_
  intro s s1 h
  refine stable_of 2 (by omega) fun m hn => andThen (tryConsume_tok m ht h) ?_
  simp only [ht, if_true]
  rfl

theorem case_str (t : Token) (ht : t.type = cTypeString) : C7 v Y (.str (Y.sl t) (runesToString t.literal)) [t] := by
  refine c7_of_basic_plain _ [t] (by simp) (by show t.type ∈ _; rw [ht]; decide) 2 (by unfold D; simp) ?_
  intro s s1 h
  refine stable_of 2 (by omega) fun m hn => andThen (tryConsume_tok m ht h) ?_
  simp (decide := true) only [ht, if_true, if_false]
  rfl

/-- an inner expression `e` (where `=` assigns) before the closing token `r` that stops it -/
theorem inner_expr {e : Expr} {ts : List Token} (Ce : C1 v Y true e ts) {r : Token} {x : List Token}
    {s s1 s' : PState (List Token)} (h : Reads Y s ts s1) (hr : Reads Y s1 (r :: x) s') (hrc : r.type ≠ cTypeCommaSep)
    (hr1 : r.type ∉ B1 true) (hrp : r.type ≠ cTypePauseCommaSep) (m : Nat) (hm : 16 * ts.length + 16 ≤ m) :
    parse v (layoutOps Y) m (.expr true) s = .ok e s1 :=
  c1_done Ce s s1 h (hr.stops hrc (not_mem_BFO hr1 hrp)) m hm

/-- `{ e }` -/
theorem case_brace (l r : Token) (e : Expr) (ts : List Token) (hl : l.type = cTypeStmtQuoteL) (hr : r.type = cTypeStmtQuoteR)
    (Ce : C1 v Y true e ts) : C7 v Y (e.setLine (Y.sl l)) (l :: ts ++ [r]) := by
  refine c7_of_basic_plain _ _ (by simp) (by show l.type ∈ _; rw [hl]; decide) (16 * ts.length + 18)
    (by unfold D; simp only [List.length_append, List.length_cons, List.length_nil]; omega) ?_
  intro s s' h
  refine stable_of 2 (by omega) fun m hn => ?_
  obtain ⟨s1, h1, h⟩ := Walk.cons (ts := ts ++ [r]) h
  obtain ⟨s2, h2, h3⟩ := h.append
  refine andThen (tryConsume_tok m hl h1) ?_
  simp (decide := true) only [hl, if_true, if_false]
  exact andThen (andThen (inner_expr Ce h2 h3 (by rw [hr]; decide) (by rw [hr]; decide) (by rw [hr]; decide) (m + 1) (by omega))
    (andThen (consume_tok m hr h3) rfl)) rfl

/-- `calleeTailParser` on an identifier -/
theorem calleeTail_reads (m : Nat) (hasRoot : Bool) (rt : Nat) (root : Expr) {p : Token} {s s' : PState (List Token)}
    (hp : p.type = cTypeIdentifier) (h : Reads Y s [p] s') :
    calleeTail v (layoutOps Y) (m + 1) hasRoot rt root s =
      .ok (.member (Y.sl p) rt (if hasRoot then root else .nil) cMemberID (some (Y.idOf p)) .nil) s' :=
  andThen (tryConsume_tok m hp h) rfl

/-- `其 p` -/
theorem case_this (kw p : Token) (hk : kw.type = cTypeObjThisW) (hp : p.type = cTypeIdentifier) :
    C7 v Y (.member (Y.sl p) cRootTypeProp .nil cMemberID (some (Y.idOf p)) .nil) [kw, p] := by
  intro cm s s2 s' r n hcm hn1 h h2 hs K
  refine stable_of 2 (by unfold D; omega) fun m hn => ?_
  obtain ⟨s1, hkw, hpp⟩ := h.cons
  exact andThen (tryConsume_tok m hk hkw) (andThen (calleeTail_reads m false cRootTypeProp .nil hp hpp)
    (tail_comma hcm h2 hs.1 hn1 K (m + 1) (by unfold D at hn; omega)))

/-- `x 之 p` -/
theorem case_dot (d p : Token) (r : Expr) (tr : List Token) (hd : d.type ∈ [cTypeObjDotW, cTypeObjDotIIW])
    (hp : p.type = cTypeIdentifier) (Cr : C7 v Y r tr) :
    C7 v Y (.member (Y.sl p) cRootTypeExpr r cMemberID (some (Y.idOf p)) .nil) (tr ++ [d, p]) := by
  have hdm : d.type ∈ [cTypeMapHash, cTypeObjDotW, cTypeObjDotIIW] := List.mem_cons_of_mem _ hd
  have hdn : d.type ≠ cTypeMapHash ∧ d.type ≠ cTypeCommaSep :=
    (by decide : ∀ ty ∈ [cTypeObjDotW, cTypeObjDotIIW], ty ≠ cTypeMapHash ∧ ty ≠ cTypeCommaSep) _ hd
  have hdd : d.type = cTypeObjDotW ∨ d.type = cTypeObjDotIIW := by simpa using hd
  refine c7_step r _ tr d [p] Cr hdm 2 (by simp) ?_
  intro s1 s2 R n hn1 h K
  refine stable_of 2 (by omega) fun m hn => ?_
  obtain ⟨sd, h1, h2⟩ := h.cons
  refine andThen (tryConsume_reads m hdm hdn.2 h1) (andThen (lineOf_S d _) ?_)
  simp only [hdn.1, hdd, if_false, if_true]
  exact andThen (calleeTail_reads m true cRootTypeExpr r hp h2) (K (m + 1) (by omega))

/-- `x # i`, the index an identifier or a text: the index node `ix` is what `newID` / `newString` make of the token -/
theorem case_idxTok (h i : Token) (r : Expr) (tr : List Token) (ix : Expr) (hh : h.type = cTypeMapHash)
    (hi : (i.type = cTypeIdentifier ∧ ix = .id (Y.idOf i)) ∨ (i.type = cTypeString ∧ ix = .str (Y.sl i) (runesToString i.literal)))
    (Cr : C7 v Y r tr) :
    C7 v Y (.member (Y.sl h) cRootTypeExpr r cMemberIndex none ix) (tr ++ [h, i]) := by
  have hic : i.type ≠ cTypeCommaSep ∧ i.type ∈ [cTypeIdentifier, cTypeString, cTypeStmtQuoteL] := by
    rcases hi with ⟨h1, _⟩ | ⟨h1, _⟩ <;> rw [h1] <;> decide
  have hhm : h.type ∈ [cTypeMapHash, cTypeObjDotW, cTypeObjDotIIW] := by rw [hh]; decide
  refine c7_step r _ tr h [i] Cr hhm 2 (by simp) ?_
  intro s1 s2 R n hn1 hr K
  refine stable_of 2 (by omega) fun m hn => ?_
  obtain ⟨sd, h1, h2⟩ := hr.cons
  refine andThen (tryConsume_tok m hh h1) (andThen (lineOf_S h _) ?_)
  simp only [hh, if_true]
  refine andThen (tryConsume_reads m hic.2 hic.1 h2) ?_
  rcases hi with ⟨h1, rfl⟩ | ⟨h1, rfl⟩
  · simp only [h1, if_true]
    exact andThen (x := newID (layoutOps Y) i >>= fun i => pure (Expr.id i)) rfl (K (m + 1) (by omega))
  · simp (decide := true) only [h1, if_true, if_false]
    exact andThen (x := newString (layoutOps Y) i) rfl (K (m + 1) (by omega))

/-- `x # { e }` -/
theorem case_idxExpr (h l rb : Token) (r : Expr) (tr : List Token) (e : Expr) (te : List Token) (hh : h.type = cTypeMapHash)
    (hl : l.type = cTypeStmtQuoteL) (hr : rb.type = cTypeStmtQuoteR) (Cr : C7 v Y r tr) (Ce : C1 v Y true e te) :
    C7 v Y (.member (Y.sl h) cRootTypeExpr r cMemberIndex none e) (tr ++ h :: l :: te ++ [rb]) := by
  have hhm : h.type ∈ [cTypeMapHash, cTypeObjDotW, cTypeObjDotIIW] := by rw [hh]; decide
  rw [show tr ++ h :: l :: te ++ [rb] = tr ++ h :: (l :: te ++ [rb]) from by simp]
  refine c7_step r _ tr h (l :: te ++ [rb]) Cr hhm (16 * te.length + 20)
    (by simp only [List.length_append, List.length_cons, List.length_nil]; omega) ?_
  intro s1 s2 R n hn1 hs K
  refine stable_of 2 (by omega) fun m hn => ?_
  obtain ⟨sd, h1, hs⟩ := hs.cons
  obtain ⟨sl, h2, hs⟩ := Walk.cons (ts := te ++ [rb]) hs
  obtain ⟨se, h3, h4⟩ := hs.append
  refine andThen (tryConsume_tok m hh h1) (andThen (lineOf_S h _) ?_)
  simp only [hh, if_true]
  refine andThen (tryConsume_tok m hl h2) ?_
  simp (decide := true) only [hl, if_true, if_false]
  exact andThen (andThen (inner_expr Ce h3 h4 (by rw [hr]; decide) (by rw [hr]; decide) (by rw [hr]; decide) (m + 1) (by omega))
    (andThen (consume_tok m hr h4) rfl)) (K (m + 1) (by omega))

end ZnVerif.Proofs.StmtRT
