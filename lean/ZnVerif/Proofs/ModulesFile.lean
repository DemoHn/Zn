/-
Helper lemmas for C15: module names and FILES.

* a path the repaired finder builds consists of plain components (`PlainComp`), `filepath.Join`'s cleaning leaves it
  unchanged (`cleanPath_valid`: so the literal lookup of `resolveParts .repaired` mirrors the Go code), and different
  names have different paths (`resolveName_repaired_inj`);
* `fileOfModule` / `fileBodyStarts`: which file a module of a run executes, and how often the body of a FILE started;
* `main_file_once`: on the repaired tree no module other than the main module executes the main file, which a module
  may name (`导入“主”` in 主.zn): that import never completes, because the module it creates imports what the main
  module imports.
-/
import ZnVerif.Proofs.ModulesPath

namespace ZnVerif.Proofs.Modules
open ZnVerif.Model.Modules
open ZnVerif.Spec.ModuleSem

variable {files : Files} {mainSrc : ModuleSrc} {O : Oracle} {libs : Libs}

/-- a component of a path that stays where it is written: a plain directory or file name -/
def PlainComp (c : Name) : Prop := c ≠ [] ∧ c ≠ dot ∧ c ≠ dotdot ∧ chSlash ∉ c ∧ chBackslash ∉ c

theorem validPart_iff (s : Name) : validPart s = true ↔ PlainComp s := by
  unfold validPart PlainComp
  simp only [Bool.not_eq_true', Bool.or_eq_false_iff, beq_eq_false_iff_ne, ne_eq, List.contains_eq_mem,
    decide_eq_false_iff_not, and_assoc]

theorem plainComp_zn {x : Name} (h1 : chSlash ∉ x) (h2 : chBackslash ∉ x) : PlainComp (x ++ znSuffix) := by
  have hl : 3 ≤ (x ++ znSuffix).length := by simp [znSuffix]
  refine ⟨?_, ?_, ?_, by simpa [znSuffix, chSlash] using h1, by simpa [znSuffix, chBackslash] using h2⟩ <;>
    (intro h; rw [h] at hl; simp [dot, dotdot] at hl)

theorem withExt_plain : ∀ parts : List Name, (∀ s, s ∈ parts → PlainComp s) → ∀ c, c ∈ withExt parts → PlainComp c
  | [], _, c, hc => by simp [withExt] at hc
  | [x], h, c, hc => by
    simp only [withExt, List.mem_singleton] at hc
    subst hc
    have hx := h x (List.mem_cons_self ..)
    exact plainComp_zn hx.2.2.2.1 hx.2.2.2.2
  | x :: y :: r, h, c, hc => by
    simp only [withExt, List.mem_cons] at hc
    rcases hc with rfl | hc
    · exact h _ (List.mem_cons_self ..)
    · exact withExt_plain (y :: r) (fun s hs => h s (List.mem_cons_of_mem _ hs)) c (by simpa [withExt] using hc)

theorem validParts_plain {parts : List Name} (hv : validParts parts = true) : ∀ s, s ∈ parts → PlainComp s := by
  intro s hs
  unfold validParts at hv
  exact (validPart_iff s).1 (List.all_eq_true.1 hv s hs)

theorem flatMap_split_plain : ∀ p : Path, (∀ c, c ∈ p → PlainComp c) → p.flatMap (splitOn chSlash) = p
  | [], _ => rfl
  | c :: r, h => by
    have hc := h c (List.mem_cons_self ..)
    simp only [List.flatMap_cons, splitOn_noSep c hc.2.2.2.1]
    rw [flatMap_split_plain r (fun d hd => h d (List.mem_cons_of_mem _ hd))]
    rfl

theorem cleanStep_plain {c : Name} (hc : PlainComp c) (stack : List Name) : cleanStep stack c = c :: stack := by
  unfold cleanStep
  rw [if_neg (by intro h; rcases h with h | h; exact hc.1 h; exact hc.2.1 h), if_neg hc.2.2.1]

theorem foldl_cleanStep_plain : ∀ (p : Path) (stack : List Name), (∀ c, c ∈ p → PlainComp c) →
    p.foldl cleanStep stack = p.reverse ++ stack
  | [], _, _ => rfl
  | c :: r, stack, h => by
    simp only [List.foldl_cons, cleanStep_plain (h c (List.mem_cons_self ..))]
    rw [foldl_cleanStep_plain r _ (fun d hd => h d (List.mem_cons_of_mem _ hd))]
    simp

theorem cleanPath_plain (p : Path) (h : ∀ c, c ∈ p → PlainComp c) : cleanPath p = p := by
  unfold cleanPath
  rw [flatMap_split_plain p h, foldl_cleanStep_plain p [] h]
  simp

/-- on a name the repaired `LoadFile` accepts, the cleaning of `filepath.Join` is the identity: the path it stats is the
    path as written -/
theorem cleanPath_valid (parts : List Name) (hv : validParts parts = true) : cleanPath (withExt parts) = withExt parts :=
  cleanPath_plain _ (withExt_plain parts (validParts_plain hv))

theorem resolveParts_pinned_of_valid {parts : List Name} (hv : validParts parts = true) :
    resolveParts .pinned parts = resolveParts .repaired parts := by
  unfold resolveParts
  dsimp only
  rw [hv, if_pos rfl]
  cases parts with
  | nil => rfl
  | cons x r => rw [addZn_eq_withExt _ (List.cons_ne_nil x r)]; exact congrArg _ (cleanPath_valid _ hv)

theorem resolveName_repaired_some {n : Name} {p : Path} (h : resolveName .repaired n = some p) :
    (parseLibName n).libType = .custom ∧ plainName n = true ∧ p = withExt (segments n) :=
  resolve_file ((resolveName_some_iff n p).1 h)

theorem resolveName_repaired_inj {a b : Name} {p : Path} (ha : resolveName .repaired a = some p)
    (hb : resolveName .repaired b = some p) : a = b := by
  obtain ⟨_, _, e1⟩ := resolveName_repaired_some ha
  obtain ⟨_, _, e2⟩ := resolveName_repaired_some hb
  exact path_inj (e1.symm.trans e2)

theorem resolveName_repaired_plain {n : Name} {p : Path} (h : resolveName .repaired n = some p) :
    p ≠ [] ∧ ∀ c, c ∈ p → PlainComp c := by
  obtain ⟨_, hp, rfl⟩ := resolveName_repaired_some h
  rw [← validParts_eq_plainName] at hp
  rw [segments_eq_splitOn]
  refine ⟨?_, withExt_plain _ (validParts_plain hp)⟩
  intro he
  have := congrArg List.length he
  rw [withExt_length] at this
  exact splitOn_ne_nil chDash n (List.eq_nil_of_length_eq_zero this)

/-- the file whose statements the module `m` of the run executes: the main file for the main module (registered under the
    reserved name 主模块), else the file its name resolves to (`none`: a library module, or an index that is no module) -/
def fileOfModule (v : Variant) (mainPath : Path) (vm : VM) (m : Nat) : Option Path :=
  match (namesOf vm)[m]? with
  | none => none
  | some nm => if nm = mainName then some mainPath else resolveName v nm

/-- how many times the body of the FILE `p` was started in the run that ended in `vm` -/
def fileBodyStarts (v : Variant) (mainPath : Path) (vm : VM) (p : Path) : Nat :=
  (bodiesOf vm.log).countP (fun m => decide (fileOfModule v mainPath vm m = some p))

theorem countP_le_one_of_nodup {α} {P : α → Bool} : ∀ {l : List α}, l.Nodup →
    (∀ a, a ∈ l → ∀ b, b ∈ l → P a = true → P b = true → a = b) → l.countP P ≤ 1
  | [], _, _ => by simp
  | x :: l, hnd, huniq => by
    have hnd' := List.nodup_cons.1 hnd
    have ih := countP_le_one_of_nodup hnd'.2 (fun a ha b hb => huniq a (List.mem_cons_of_mem _ ha) b (List.mem_cons_of_mem _ hb))
    rw [List.countP_cons]
    cases hx : P x with
    | false => simpa using ih
    | true =>
      have hz : l.countP P = 0 := List.countP_eq_zero.2 fun a ha hPa =>
        hnd'.1 (huniq x (List.mem_cons_self ..) a (List.mem_cons_of_mem _ ha) hx hPa ▸ ha)
      simp [hz]

theorem bodiesOf_of_same {vm vm' : VM} (h : Same vm vm') : bodiesOf vm'.log = bodiesOf vm.log := by rw [h.log]

theorem runWith_imports_err {v : Variant} {lf cf : Nat} {src : ModuleSrc}
    {e : Err} {vm' : VM}
    (h : evalImports O libs (loadModule v O files libs cf lf) vmStart src.imports = .err e vm') :
    runWith v O files libs lf cf src = .err e vm' := by
  rw [runWith_eq]
  unfold evalProgram
  rw [h]

theorem runWith_imports_ok {v : Variant} {lf cf : Nat} {src : ModuleSrc}
    {vm1 : VM} (h : evalImports O libs (loadModule v O files libs cf lf) vmStart src.imports = .ok vm1) :
    namesOf (finish (runWith v O files libs lf cf src)).vm = namesOf vm1 := by
  rw [runWith_eq]
  unfold evalProgram
  rw [h]
  dsimp only
  have hf := evalBody_frame cf (vm1.record (.body 0)) src.body
  cases hr : evalBody cf (vm1.record (.body 0)) src.body with
  | err e vm' => rw [hr] at hf; exact hf.1.names
  | ok vm2 =>
    rw [hr] at hf
    dsimp only
    cases hpop : (vm2.record (.done 0)).popFrame with
    | none => exact hf.1.names
    | some vm3 => exact (same_popFrame hpop).names.trans hf.1.names

theorem mreach_split {n : Name} (h : MReach files mainSrc n) :
    n = mainName ∨ ∃ c, MImports files mainSrc mainName c ∧ MWalk files mainSrc c n := by
  cases h.mwalk with
  | refl => exact Or.inl rfl
  | cons hi w => exact Or.inr ⟨_, hi, w⟩

/-- while the main module's imports are being processed (and when they have all succeeded), no module whose source is
    the main module's own source is registered: not being on the import stack it would have run to its end, after
    importing what the main module imports — itself -/
theorem no_second_main {vm : VM} (hS : SInv files mainSrc vm)
    (hL : LInv files mainSrc vm [0]) {b : Nat} {nb : Name} (hnb : (namesOf vm)[b]? = some nb) (hne : nb ≠ mainName)
    (hsrc : msrc files mainSrc nb = some mainSrc) : False := by
  have hdone : Ev.done b ∈ vm.log := by
    refine hL.done_of_reg hS (hS.regAll b nb hnb) (msrc_plain hne hsrc).1 (fun h => hne ?_)
    cases List.mem_singleton.1 h
    exact Option.some.inj (hnb.symm.trans hS.main0)
  obtain ⟨n', hn', hreach, _⟩ := hS.doneReach b hdone
  rw [hnb] at hn'; cases hn'
  rcases mreach_split hreach with h | ⟨c, ⟨src, imp, hs, himp, hname, hcu⟩, hw⟩
  · exact hne h
  · rw [msrc_main] at hs; cases hs
    exact no_mcycle_at hS hL hnb hdone ⟨_, imp, hsrc, himp, hname, hcu⟩ hw

theorem main_file_once (hO : OracleOK O) {cf : Nat} {mainPath : Path}
    (hmain : assoc mainPath files = some mainSrc) {b : Nat} {nb : Name}
    (h0 : 0 ∈ bodiesOf (finish (runWith .repaired O files libs (loadFuelFor files) cf mainSrc)).vm.log)
    (hnb : (namesOf (finish (runWith .repaired O files libs (loadFuelFor files) cf mainSrc)).vm)[b]? = some nb)
    (hne : nb ≠ mainName) (hres : resolveName .repaired nb = some mainPath) : False := by
  have hi := evalImports_spec (libs := libs) hO (loadModule_spec (libs := libs) (cf := cf) hO (loadFuelFor files)) mainSrc.imports
    vmStart (start_invariants files mainSrc) (fun _ h => h)
  cases himp : evalImports O libs (loadModule .repaired O files libs cf (loadFuelFor files)) vmStart mainSrc.imports with
  | err e vm' =>
    -- the run ended while the imports were processed: the main module, on the import stack, has not started its body
    rw [himp] at hi
    rw [runWith_imports_err (src := mainSrc) himp] at h0
    exact hi.nobody 0 (List.mem_cons_self ..) (mem_bodiesOf.1 h0)
  | ok vm1 =>
    rw [himp] at hi
    rw [runWith_imports_ok (src := mainSrc) himp] at hnb
    refine no_second_main hi.1.sinv hi.1.linv hnb hne ?_
    rw [msrc_eq, if_neg hne, (resolveName_some_iff nb mainPath).1 hres]
    exact hmain

end ZnVerif.Proofs.Modules
