/-
Comment tokens are invisible to the parser.

`parseLaidOut_comments`: whatever `Parser.Parse` answers (other than still running) on a token list without its comments, it answers
on the list with the comments, given `raw.length` more fuel.  The token-level lexer `layoutOps Y` hands out the comments like any
other token; the parser's `next()` drops them (`fetch`), one unit of fuel each.
-/
import ZnVerif.Proofs.CmtSimBase
import ZnVerif.Proofs.ParserSimStep

namespace ZnVerif.Proofs.CmtSim
open ZnVerif.Model ZnVerif.Model.Parser
open ZnVerif.Spec.StmtSyntax

theorem initState_clean (Y : Layout) (raw : List Token) (n : Nat) :
    ParserSim.Out (frame Y raw.length) 0 ParserSim.Any (initState (layoutOps Y) n (clean raw))
      (initState (layoutOps Y) (n + raw.length) raw) := by
  cases n with
  | zero => exact ParserSim.Out.fuel (Or.inl trivial)
  | succ n =>
    obtain ⟨tk, l1, h1, h2, h3⟩ := fetch_clean Y n raw raw.length (Nat.le_refl _)
    unfold initState
    rw [h1, h2]
    exact ⟨rfl, 0, Nat.le_refl _, ⟨rfl, h3⟩, trivial⟩

theorem parseLaidOut_comments (v : Variant) (Y : Layout) (raw : List Token) (n : Nat) :
    (match parseLaidOut v Y n (clean raw) with
     | .outOfFuel => True
     | .tree t => parseLaidOut v Y (n + raw.length) raw = .tree t
     | .synErr e => parseLaidOut v Y (n + raw.length) raw = .synErr e
     | .otherErr => parseLaidOut v Y (n + raw.length) raw = .otherErr) := by
  have h : parseLaidOut v Y n (clean raw) = parseLaidOut v Y (n + raw.length) raw ∨
      (True ∧ parseLaidOut v Y n (clean raw) = .outOfFuel) :=
    ParserSim.S_parseAST (frame_laws Y raw.length) v n (initState_clean Y raw n)
  rcases h with h | ⟨-, h⟩ <;> rw [h]
  · cases parseLaidOut v Y (n + raw.length) raw <;> first | rfl | trivial
  · trivial

theorem parseLaidOut_comments_tree (v : Variant) (Y : Layout) (raw : List Token) (n : Nat) (t : Program)
    (h : parseLaidOut v Y n (clean raw) = .tree t) : parseLaidOut v Y (n + raw.length) raw = .tree t := by
  have := parseLaidOut_comments v Y raw n
  rw [h] at this
  exact this

theorem parseLaidOut_comments_synErr (v : Variant) (Y : Layout) (raw : List Token) (n : Nat) (e : SynErr)
    (h : parseLaidOut v Y n (clean raw) = .synErr e) : parseLaidOut v Y (n + raw.length) raw = .synErr e := by
  have := parseLaidOut_comments v Y raw n
  rw [h] at this
  exact this

theorem parseLaidOut_comments_otherErr (v : Variant) (Y : Layout) (raw : List Token) (n : Nat)
    (h : parseLaidOut v Y n (clean raw) = .otherErr) : parseLaidOut v Y (n + raw.length) raw = .otherErr := by
  have := parseLaidOut_comments v Y raw n
  rw [h] at this
  exact this

end ZnVerif.Proofs.CmtSim
