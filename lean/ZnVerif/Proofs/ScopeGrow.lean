/-
The relation `ScopeGrow` between VM states: every module's scope keeps its depth and its outer symbols; and
`WellScopedRel` (`WellScoped`, all scopes satisfy `SortedDepths`, is kept) as a second preserved relation.  Both are instances of
`ScopePrims`, so `allPres` (Proofs/BalanceMutual.lean) applies to them.
Declares into `namespace ZnVerif.Proofs.Balance`, like Proofs/Balance.lean.
-/
import ZnVerif.Proofs.Balance
set_option linter.unusedSectionVars false
set_option linter.unusedVariables false

namespace ZnVerif.Proofs.Balance
open ZnVerif.Model ZnVerif.Proofs.Calls

variable {ν : Type} [NumOps ν]

/-- names / depths / constness of the symbols below the scope's current level -/
def outerKeys (sc : Scope) : List (String × Int × Bool × Option Int) :=
  (sc.syms.filter (fun sy => sy.depth ≤ sc.depth - 1)).map symKey

def allKeys (sc : Scope) : List (String × Int × Bool × Option Int) := sc.syms.map symKey

/-- same depth; and if the scope was well-formed it still is, with the same symbols below the current level -/
def ScopeRel (sc sc' : Scope) : Prop :=
  sc'.depth = sc.depth ∧ (SortedDepths sc → SortedDepths sc' ∧ outerKeys sc' = outerKeys sc)

theorem ScopeRel.refl (sc : Scope) : ScopeRel sc sc := ⟨rfl, fun h => ⟨h, rfl⟩⟩

theorem ScopeRel.trans {a b c : Scope} (h1 : ScopeRel a b) (h2 : ScopeRel b c) : ScopeRel a c := by
  refine ⟨h2.1.trans h1.1, fun hs => ?_⟩
  obtain ⟨hb, hk1⟩ := h1.2 hs
  obtain ⟨hc, hk2⟩ := h2.2 hb
  exact ⟨hc, hk2.trans hk1⟩

theorem outerKeys_eq_filter (sc : Scope) :
    outerKeys sc = (allKeys sc).filter (fun k => decide (k.2.1 ≤ sc.depth - 1)) := by
  unfold outerKeys allKeys
  rw [List.filter_map]; rfl

theorem outerKeys_of_allKeys {sc sc' : Scope} (hd : sc'.depth = sc.depth) (hk : allKeys sc' = allKeys sc) :
    outerKeys sc' = outerKeys sc := by
  rw [outerKeys_eq_filter, outerKeys_eq_filter, hk, hd]

theorem ScopeRel.of_declare {sc sc' : Scope} {name : String} {v : Addr} {c : Bool} {ext : Option Int}
    (h : sc.declare name v c ext = .ok sc') : ScopeRel sc sc' := by
  refine ⟨declare_depth h, fun hs => ⟨hs.declare h, ?_⟩⟩
  rw [declare_ok h]
  unfold outerKeys
  have : decide (sc.depth ≤ sc.depth - 1) = false := by simp; omega
  simp only [List.filter_cons, this, Bool.false_eq_true, if_false]

theorem ScopeRel.of_set {sc sc' : Scope} {name : String} {v : Addr} (h : sc.set name v = .ok sc') :
    ScopeRel sc sc' :=
  ⟨set_depth h, fun hs => ⟨hs.set h, outerKeys_of_allKeys (set_depth h) (set_ok h).2⟩⟩

theorem ScopeRel.applyOps (ops : List ScopeOp) (sc : Scope) : ScopeRel sc (applyOps ops sc) :=
  applyOps_keeps (ScopeRel sc) ops sc (fun op _ _ _ h hop => h.trans (by
    cases op with
    | declare name v c ext => exact .of_declare hop
    | set name v => exact .of_set hop)) (.refl sc)

/-- what the scope bracket does to the bracketed module's scope -/
theorem ScopeRel.bracket {sc sc2 : Scope} (h : ScopeRel sc.beginScope sc2) :
    ScopeRel sc sc2.endScope ∧ (SortedDepths sc → allKeys sc2.endScope = allKeys sc) := by
  have hd : sc2.endScope.depth = sc.depth := by
    rw [endScope_depth, h.1, beginScope_depth]; omega
  have hall : SortedDepths sc → SortedDepths sc2 ∧ allKeys sc2.endScope = allKeys sc := by
    intro hs
    obtain ⟨h2, hk⟩ := h.2 hs.beginScope
    refine ⟨h2, ?_⟩
    have : allKeys sc2.endScope = outerKeys sc2 := by
      unfold allKeys outerKeys; rw [endScope_syms h2]
    rw [this, hk]
    unfold outerKeys allKeys
    have hfil : sc.beginScope.syms.filter (fun sy => decide (sy.depth ≤ sc.beginScope.depth - 1)) = sc.syms := by
      apply List.filter_eq_self.mpr
      intro sy hsy
      have := hs.2 sy hsy
      simp [beginScope_depth]; omega
    rw [hfil]
  exact ⟨⟨hd, fun hs => ⟨(hall hs).1.endScope, outerKeys_of_allKeys hd (hall hs).2⟩⟩, fun hs => (hall hs).2⟩

/-- every scope that exists keeps its depth and outer symbols (scopes of new modules may appear) -/
def ScopeGrow (s s' : VM ν) : Prop :=
  ∀ mid sc, getScope mid s = some sc → ∃ sc', getScope mid s' = some sc' ∧ ScopeRel sc sc'

theorem ScopeGrow.of_scopes_eq {s s' : VM ν} (h : s'.scopes = s.scopes) : ScopeGrow s s' := by
  intro mid sc hsc
  refine ⟨sc, ?_, ScopeRel.refl sc⟩
  unfold getScope at *
  rw [h]; exact hsc

theorem ScopeGrow.put {s : VM ν} {mid : Int} {sc sc' : Scope} (hsc : getScope mid s = some sc)
    (hr : ScopeRel sc sc') : ScopeGrow s (putScope mid sc' s) := by
  intro m x hx
  by_cases hm : m = mid
  · subst hm
    rw [hsc] at hx; cases hx
    exact ⟨sc', getScope_putScope_same _ _ _, hr⟩
  · exact ⟨x, by rw [getScope_putScope_other _ _ _ _ hm]; exact hx, ScopeRel.refl x⟩

theorem ScopeGrow.put_new {s : VM ν} {mid : Int} {sc' : Scope} (hsc : getScope mid s = none) :
    ScopeGrow s (putScope mid sc' s) := by
  intro m x hx
  have hm : m ≠ mid := by
    intro h; subst h; rw [hsc] at hx; cases hx
  exact ⟨x, by rw [getScope_putScope_other _ _ _ _ hm]; exact hx, ScopeRel.refl x⟩

instance : PreRel (ScopeGrow (ν := ν)) where
  refl s := fun mid sc h => ⟨sc, h, ScopeRel.refl sc⟩
  trans := by
    intro a b c h1 h2 mid sc hsc
    obtain ⟨sc1, hg1, hr1⟩ := h1 mid sc hsc
    obtain ⟨sc2, hg2, hr2⟩ := h2 mid sc1 hg1
    exact ⟨sc2, hg2, hr1.trans hr2⟩

instance : Stable (ScopeGrow (ν := ν)) where
  heap s h := ScopeGrow.of_scopes_eq rfl
  stack s st cs := ScopeGrow.of_scopes_eq rfl
  exports s i md e _ := ScopeGrow.of_scopes_eq rfl

/-- the bracket, on every outcome of `body`: all scopes keep depth and outer symbols, and the scope of the module
that was current at entry gets back exactly its symbols -/
theorem scopeGrow_withScope_strong {α : Type} (body : M ν α) (hb : Pres ScopeGrow body) (s : VM ν) :
    ScopeGrow s (withScope body s).2 ∧
    ∀ sc, getScope s.csModuleID s = some sc → ∃ sc', getScope s.csModuleID (withScope body s).2 = some sc' ∧
      sc'.depth = sc.depth ∧ (SortedDepths sc → SortedDepths sc' ∧ allKeys sc' = allKeys sc) := by
  cases hsc : getScope s.csModuleID s with
  | none =>
    rw [withScope_none body s hsc]
    exact ⟨hb.run s, fun sc h => by cases h⟩
  | some sc =>
    rw [withScope_some body s sc hsc]
    simp only
    -- the body's `ScopeGrow` from the entered state, read at the entry module's scope, then `ScopeRel.bracket`
    have h1 := hb.run (putScope s.csModuleID sc.beginScope s)
    obtain ⟨sc2, hg2, hr2⟩ := h1 s.csModuleID sc.beginScope (getScope_putScope_same _ _ _)
    have hbr := ScopeRel.bracket hr2
    have hend : getScope s.csModuleID (endScopeOf s.csModuleID (body (putScope s.csModuleID sc.beginScope s)).2)
        = some sc2.endScope := by
      rw [getScope_endScopeOf_same, hg2]; rfl
    constructor
    · intro mid x hx
      by_cases hm : mid = s.csModuleID
      · rw [hm] at hx ⊢
        rw [hsc] at hx; cases hx
        exact ⟨_, hend, hbr.1⟩
      · have hx1 : getScope mid (putScope s.csModuleID sc.beginScope s) = some x := by
          rw [getScope_putScope_other _ _ _ _ hm]; exact hx
        obtain ⟨x2, hgx, hrx⟩ := h1 mid x hx1
        exact ⟨x2, by rw [getScope_endScopeOf_other _ _ _ hm]; exact hgx, hrx⟩
    · intro sc0 h0
      cases h0
      exact ⟨_, hend, hbr.1.1, fun hs => ⟨(hbr.1.2 hs).1, hbr.2 hs⟩⟩

instance : ScopePrims (ScopeGrow (ν := ν)) where
  emit l := ⟨fun s => ScopeGrow.of_scopes_eq rfl⟩
  pushFrame := .pushFrame_of_put fun _ _ h => ScopeGrow.put_new h
  declareElement _ _ _ _ := .declareElement_of_put fun _ _ _ h hd => ScopeGrow.put h (.of_declare hd)
  setElement _ _ := .setElement_of_put fun _ _ _ h hd => ScopeGrow.put h (.of_set hd)
  withScope body hb := ⟨fun s => (scopeGrow_withScope_strong body hb s).1⟩

/-- every module's scope that exists in `s` exists in `s'` with the same depth -/
def KeepsDepths (s s' : VM ν) : Prop :=
  ∀ mid sc, getScope mid s = some sc → ∃ sc', getScope mid s' = some sc' ∧ sc'.depth = sc.depth

theorem ScopeGrow.keepsDepths {s s' : VM ν} (h : ScopeGrow s s') : KeepsDepths s s' := by
  intro mid sc hsc
  obtain ⟨sc', h1, h2⟩ := h mid sc hsc
  exact ⟨sc', h1, h2.1⟩

def WellScoped (s : VM ν) : Prop := ∀ mid sc, getScope mid s = some sc → SortedDepths sc

def WellScopedRel (s s' : VM ν) : Prop := WellScoped s → WellScoped s'

instance : PreRel (WellScopedRel (ν := ν)) where
  refl s := id
  trans h1 h2 := h2 ∘ h1

theorem wellScoped_of_scopes_eq {s s' : VM ν} (h : s'.scopes = s.scopes) : WellScopedRel s s' := by
  intro hw mid sc hsc
  apply hw mid sc
  unfold getScope at *
  rw [← h]; exact hsc

instance : Stable (WellScopedRel (ν := ν)) where
  heap s h := wellScoped_of_scopes_eq rfl
  stack s st cs := wellScoped_of_scopes_eq rfl
  exports s i md e _ := wellScoped_of_scopes_eq rfl

theorem wellScoped_put {s : VM ν} {mid : Int} {sc' : Scope} (h : WellScoped s → SortedDepths sc') :
    WellScopedRel s (putScope mid sc' s) := by
  intro hw m x hx
  by_cases hm : m = mid
  · subst hm
    rw [getScope_putScope_same] at hx; cases hx
    exact h hw
  · rw [getScope_putScope_other _ _ _ _ hm] at hx
    exact hw m x hx

theorem wellScoped_pushFrame (fr : Frame) : Pres WellScopedRel (pushFrame (ν := ν) fr) :=
  .pushFrame_of_put (fun _ _ _ => wellScoped_put fun _ => sortedDepths_empty) fr

instance : ScopePrims (WellScopedRel (ν := ν)) where
  emit l := ⟨fun s => wellScoped_of_scopes_eq rfl⟩
  pushFrame := wellScoped_pushFrame
  declareElement _ _ _ _ := .declareElement_of_put fun _ _ _ h hd => wellScoped_put fun hw => (hw _ _ h).declare hd
  setElement _ _ := .setElement_of_put fun _ _ _ h hd => wellScoped_put fun hw => (hw _ _ h).set hd
  withScope := Pres.withScope_of_put (fun _ _ h => wellScoped_put fun hw => (hw _ _ h).beginScope)
    fun _ _ _ h => wellScoped_put fun hw => (hw _ _ h).endScope

end ZnVerif.Proofs.Balance
