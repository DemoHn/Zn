/-
C03 at character level, spec: a canonical TEXT rendering of a list of tokens with layout instructions.

An `RTok` is an item (what the token is) plus a layout instruction (`nl = none`: the token follows the previous one on the same line,
after exactly one space; `nl = some k`: the token starts a new line indented by `k` TABs).  `renderTokens` writes

    TAB^k₀ item₀ (SP item | LF TAB^k item)* LF

i.e. tokens on one line are separated by exactly one space, every line — the last one included — ends with LF, and a line starts
with `k` TABs.  Items and their canonical spelling:

  `kw sp ty`     a keyword of the documented list (Spec/Keywords; C04's `keyword_types_documented` ties it to the regenerated table)
  `punct ch ty`  a punctuation mark of the regenerated `punctuationTypeMap` (`， , 、 ： : ； ; ？ ? ！ ! 【 [ 】 ] （ ( ） ) { }`)
  `op sp ty`     an operator mark of `operatorTable` below (`& @ # = == < <= > >= | % + - * / /=`; the Go code has no table for
                 these — `parseOperators` is a chain of `switch` cases — so the table is written from the manual)
  `name cs`      a plain identifier or number: characters of the name alphabet (`NameChar`: every identifier character except 注 and
                 the operator marks — the alphabet of C04's `lex_is_greedy_segmentation_partial`) with no keyword inside (`kwFree`)
  `quoted cs`    an identifier written between back-ticks: any identifier characters, keywords included
  `text q t`     a text literal: `open ++ encodeSafe q t ++ close` of C13, for a text `t` without CR / LF (a line break inside a
                 literal is written as itself by `encodeSafe` and would add lines to the table)

What the rendering determines besides the text: the token list with start / end indices (`tokensOf`) and the line table
(`lineTable`: start index, indentation and `LineText` slice of every physical line; the text ends with LF, so there is a last, empty
line which holds only the EOF token) — together the `Layout` (`layoutOf`) against which `Spec/StmtSyntax`'s rendering relation
`LinProgram` is read.  Core Lean only.
-/
import ZnVerif.Model.Lexer
import ZnVerif.Spec.Keywords
import ZnVerif.Spec.Segment
import ZnVerif.Spec.Literal
import ZnVerif.Spec.Lines
import ZnVerif.Spec.StmtSyntax

namespace ZnVerif.Spec.RenderChars
open ZnVerif.Model ZnVerif.Generated ZnVerif.Generated.Tokens
open ZnVerif.Spec.Literal (Quote literalSafe)
open ZnVerif.Spec.StmtSyntax (Layout)

/-- operator marks: spelling ↦ token type (manual ch.1; `pkg/syntax/zh/tokens.go parseOperators`) -/
def operatorTable : List (List Nat × Nat) := [
  ([0x26], cTypeObjRef),            -- &
  ([0x40], cTypeAnnotationT),       -- @
  ([0x23], cTypeMapHash),           -- #
  ([0x3D], cTypeAssignMark),        -- =
  ([0x3D, 0x3D], cTypeEqualMark),   -- ==
  ([0x3C], cTypeLTMark),            -- <
  ([0x3C, 0x3D], cTypeLTEMark),     -- <=
  ([0x3E], cTypeGTMark),            -- >
  ([0x3E, 0x3D], cTypeGTEMark),     -- >=
  ([0x7C], cTypeIntDivMark),        -- |
  ([0x25], cTypeModuloMark),        -- %
  ([0x2B], cTypePlus),              -- +
  ([0x2D], cTypeMinus),             -- -
  ([0x2A], cTypeMultiply),          -- *
  ([0x2F], cTypeDivision),          -- /
  ([0x2F, 0x3D], cTypeNEMark)       -- /=
]

/-- `+ - * /` are operator tokens only before a delimiter: in the rendering they must be followed by a space (not end a line) -/
def tightMarks : List (List Nat) := [[0x2B], [0x2D], [0x2A], [0x2F]]

/-- the name alphabet: every identifier character except 注 and the operator marks (the same conjunction as C04's `SegChar`) -/
def NameChar (c : Nat) : Prop :=
  isIdentifierChar c = true ∧ isWhiteSpace c = false ∧ c ≠ cCharZHU ∧ markOperators.contains c = false ∧
  markPunctuations.contains c = false ∧ leftQuotes.contains c = false ∧ c ≠ cBackTick ∧
  identTerminatorsHead.contains c = false

instance (c : Nat) : Decidable (NameChar c) := by unfold NameChar; infer_instance

/-- no documented keyword starts at any position of the name -/
def kwFree : List Nat → Bool
  | [] => true
  | c :: r => (Segment.kwAt Keywords.documented (c :: r)).isNone && kwFree r

/-- a comment that stays on its line: `// …` and `注：…` / `注123：…` run to the end of the line, `/* … */` closes on the line -/
inductive Cmt where
  | line (body : List Nat)
  | block (body : List Nat)
  | note (digits body : List Nat)
  deriving Repr, DecidableEq

namespace Cmt

def spelling : Cmt → List Nat
  | line b => cSlashOp :: cSlashOp :: b
  | block b => cSlashOp :: cMultiplyOp :: (b ++ [cMultiplyOp, cSlashOp])
  | note ds b => cCharZHU :: (ds ++ cColon :: b)

/-- no NUL, no line break -/
def plainBody (b : List Nat) : Prop := ∀ c ∈ b, c ≠ 0 ∧ c ≠ runeCR ∧ c ≠ runeLF

/-- `*/` does not occur -/
def noClose : List Nat → Bool
  | a :: b :: r => !(a == cMultiplyOp && b == cSlashOp) && noClose (b :: r)
  | _ => true

def WF : Cmt → Prop
  | line b => plainBody b
  | block b => plainBody b ∧ noClose b = true
  | note ds b => (∀ d ∈ ds, isPureNumber d = true) ∧ plainBody b ∧ b.headD 0 ≠ cLeftDoubleQuoteI ∧ b.headD 0 ≠ cLeftDoubleQuoteII

instance (c : Cmt) : Decidable c.WF := by cases c <;> unfold WF plainBody <;> infer_instance

/-- `// …` and `注：…` end where the line ends -/
def Ends : Cmt → List Nat → Prop
  | block _, _ => True
  | _, rest => rest.headD 0 = 0 ∨ rest.headD 0 = runeCR ∨ rest.headD 0 = runeLF

instance (c : Cmt) (rest : List Nat) : Decidable (c.Ends rest) := by cases c <;> unfold Ends <;> infer_instance

end Cmt

inductive Item where
  | kw (sp : List Nat) (ty : Nat)
  | punct (ch : Nat) (ty : Nat)
  | op (sp : List Nat) (ty : Nat)
  | name (cs : List Nat)
  | quoted (cs : List Nat)
  | text (q : Quote) (t : List Nat)
  /-- a comment: a token for the lexer, dropped by the parser (free layout only: no canonical rendering has one) -/
  | cmt (c : Cmt)
  deriving Repr, DecidableEq

namespace Item

/-- the canonical spelling -/
def spelling : Item → List Nat
  | kw sp _ => sp
  | punct ch _ => [ch]
  | op sp _ => sp
  | name cs => cs
  | quoted cs => cBackTick :: (cs ++ [cBackTick])
  | text q t => literalSafe q t
  | cmt c => c.spelling

def type : Item → Nat
  | kw _ ty => ty
  | punct _ ty => ty
  | op _ ty => ty
  | name _ => cTypeIdentifier
  | quoted _ => cTypeIdentifier
  | text q _ => q.type
  | cmt _ => cTypeComment

def literal : Item → List Nat
  | name cs => cs
  | quoted cs => cs
  | text _ t => t
  | _ => []

/-- the token of an item whose spelling starts at index `a` -/
def token (it : Item) (a : Nat) : Token :=
  { type := it.type, literal := it.literal, startIdx := a, endIdx := a + it.spelling.length }

/-- must be followed by a space -/
def tight : Item → Bool
  | op sp _ => tightMarks.contains sp
  | _ => false

/-- well-formed items -/
def WF : Item → Prop
  | kw sp ty => (sp, ty) ∈ Keywords.documented
  | punct ch ty => (ch, ty) ∈ punctuationTypeMap
  | op sp ty => (sp, ty) ∈ operatorTable
  | name cs => cs ≠ [] ∧ (∀ c ∈ cs, NameChar c) ∧ kwFree cs = true
  | quoted cs => ∀ c ∈ cs, isIdentifierChar c = true ∨ c ∈ IdRange.idContinue
  | text _ t => ∀ c ∈ t, c ≠ runeCR ∧ c ≠ runeLF
  | cmt _ => False

instance (it : Item) : Decidable it.WF := by cases it <;> unfold WF <;> infer_instance

end Item

/-- a rendered token: the item and where it goes (`none`: same line, after one space; `some k`: new line, `k` TABs) -/
structure RTok where
  item : Item
  nl : Option Nat := none
  deriving Repr, DecidableEq

/-- what is written before an item -/
def lead (first : Bool) : Option Nat → List Nat
  | none => [runeSP]
  | some k => (if first then [] else [runeLF]) ++ List.replicate k runeTAB

def renderFrom (first : Bool) : List RTok → List Nat
  | [] => [runeLF]
  | r :: rs => lead first r.nl ++ r.item.spelling ++ renderFrom false rs

/-- **the canonical text** -/
def renderTokens (rts : List RTok) : List Nat := renderFrom true rts

/-- the tokens with their positions in the text; `pos` = index where the lead of the next token begins -/
def toksFrom (first : Bool) (pos : Nat) : List RTok → List Token
  | [] => []
  | r :: rs =>
    r.item.token (pos + (lead first r.nl).length) ::
      toksFrom false (pos + (lead first r.nl).length + r.item.spelling.length) rs

def tokensOf (rts : List RTok) : List Token := toksFrom true 0 rts

/-- a physical line once it is complete: `LineText` is the slice from after the indentation to the line break -/
def closedLine (s k e : Nat) : LineInfo := { indents := k, startIdx := s, text := some (s + k, e) }

/-- the line table from a point inside the line that starts at `s` with indentation `k`; `pos` = index right after the last token
written (where the next lead begins) -/
def linesFrom (pos s k : Nat) : List RTok → List LineInfo
  | [] => [closedLine s k pos, closedLine (pos + 1) 0 (pos + 1)]
  | r :: rs =>
    match r.nl with
    | none => linesFrom (pos + 1 + r.item.spelling.length) s k rs
    | some k' => closedLine s k pos :: linesFrom (pos + 1 + k' + r.item.spelling.length) (pos + 1) k' rs

/-- the line table of the whole text (of a list whose first token starts a line) -/
def lineTable : List RTok → List LineInfo
  | [] => [closedLine 0 0 0]
  | r :: rs => linesFrom (r.nl.getD 0 + r.item.spelling.length) 0 (r.nl.getD 0) rs

theorem linesFrom_ne (pos s k : Nat) (rs : List RTok) : linesFrom pos s k rs ≠ [] := by
  induction rs generalizing pos s k with
  | nil => simp [linesFrom]
  | cons r rs ih =>
    unfold linesFrom
    split
    · exact ih _ _ _
    · simp

theorem lineTable_pos (rts : List RTok) : 0 < (lineTable rts).toArray.size := by
  cases rts with
  | nil => simp [lineTable]
  | cons r rs =>
    have := linesFrom_ne (r.nl.getD 0 + r.item.spelling.length) 0 (r.nl.getD 0) rs
    simp only [lineTable, List.size_toArray]
    exact List.length_pos_iff.mpr this

/-- **the layout the rendering determines**: line table and length of the text -/
def layoutOf (rts : List RTok) : Layout :=
  { lines := (lineTable rts).toArray, eofIdx := (renderTokens rts).length, ne := lineTable_pos rts }

/-- well-formed token lists: every item is well-formed; the first token starts a line; `+ - * /` do not end a line -/
def WFFrom : List RTok → Prop
  | [] => True
  | r :: rs => r.item.WF ∧ (r.item.tight = true → ∃ r' rs', rs = r' :: rs' ∧ r'.nl = none) ∧ WFFrom rs

def WF (rts : List RTok) : Prop := (∃ r rs k, rts = r :: rs ∧ r.nl = some k) ∧ WFFrom rts

def decWFFrom : (rs : List RTok) → Decidable (WFFrom rs)
  | [] => .isTrue trivial
  | r :: rs =>
    have : Decidable (WFFrom rs) := decWFFrom rs
    have : Decidable (∃ r' rs', rs = r' :: rs' ∧ r'.nl = none) :=
      match rs with
      | [] => .isFalse (by rintro ⟨_, _, h, _⟩; cases h)
      | r' :: rs' =>
        if h : r'.nl = none then .isTrue ⟨r', rs', rfl, h⟩
        else .isFalse (by rintro ⟨_, _, h1, h2⟩; cases h1; exact h h2)
    (inferInstance : Decidable (r.item.WF ∧ (r.item.tight = true → ∃ r' rs', rs = r' :: rs' ∧ r'.nl = none) ∧ WFFrom rs))

instance (rs : List RTok) : Decidable (WFFrom rs) := decWFFrom rs

instance (rts : List RTok) : Decidable (WF rts) :=
  match rts with
  | [] => .isFalse (by rintro ⟨⟨_, _, _, h, _⟩, _⟩; cases h)
  | r :: rs =>
    match hk : r.nl with
    | none => .isFalse (by rintro ⟨⟨_, _, _, h, h2⟩, _⟩; cases h; rw [hk] at h2; cases h2)
    | some k =>
      if h : WFFrom (r :: rs) then .isTrue ⟨⟨r, rs, k, rfl, hk⟩, h⟩ else .isFalse (fun h' => h h'.2)

/-! ## Free layout: blanks, blank lines, any line end, either indentation

A text is a list of ELEMENTS — items, single white-space characters, verbatim text literals and comments that may span lines (`El.lit`, `El.mcmt`), line breaks (LF, CR, CR LF
or LF CR, each followed by the indentation of the line it opens: `k` units of the text's one indent type, TAB or four spaces) — after the indentation of the first
line.  Nothing else is fixed: two items may touch (no blank between them) when the lexer cannot merge them (`Item.Ends`: what may
follow an item), blanks may stand anywhere, also before a line break; lines may be blank or hold only their indentation; the last line
needs no line break.  `RTok` lists are the special case `ofRToks`. -/

inductive Indent where
  | tab
  | sp4
  deriving Repr, DecidableEq

namespace Indent
def char : Indent → Nat
  | tab => runeTAB
  | sp4 => runeSP
/-- characters per indentation step -/
def width : Indent → Nat
  | tab => 1
  | sp4 => 4
/-- the lexer's `IndentType` -/
def code : Indent → Nat
  | tab => cIndentTab
  | sp4 => cIndentSpace
end Indent

/-- `k` steps of indentation -/
def units (ind : Indent) (k : Nat) : List Nat := List.replicate (ind.width * k) ind.char

inductive Break where
  | lf
  | cr
  | crlf
  | lfcr
  deriving Repr, DecidableEq

def Break.chars : Break → List Nat
  | .lf => [runeLF]
  | .cr => [runeCR]
  | .crlf => [runeCR, runeLF]
  | .lfcr => [runeLF, runeCR]

/-- a body character of a comment that may span lines: it neither ends the comment (`*/` of a `/* */` comment) nor is one of the
comment's own quote pair (quoted comments count nested pairs; nesting is not rendered) -/
def OKChar (cty c nxt : Nat) : Prop :=
  (cty = ccommentTypeSlash → ¬ (c = cMultiplyOp ∧ nxt = cSlashOp)) ∧
  (cty = ccommentTypeQuoteI → c ≠ cLeftDoubleQuoteI ∧ c ≠ cRightDoubleQuoteI) ∧
  (cty = ccommentTypeQuoteII → c ≠ cLeftDoubleQuoteII ∧ c ≠ cRightDoubleQuoteII)

instance (cty c nxt : Nat) : Decidable (OKChar cty c nxt) := by unfold OKChar; infer_instance

def BodyOK (cty : Nat) (post : List Nat) : List Nat → Prop
  | [] => True
  | c :: r => OKChar cty c ((r ++ post).headD 0) ∧ BodyOK cty post r

def decBodyOK (cty : Nat) (post : List Nat) : (b : List Nat) → Decidable (BodyOK cty post b)
  | [] => .isTrue trivial
  | c :: r =>
    have : Decidable (BodyOK cty post r) := decBodyOK cty post r
    (inferInstance : Decidable (OKChar cty c ((r ++ post).headD 0) ∧ BodyOK cty post r))

instance (cty : Nat) (post b : List Nat) : Decidable (BodyOK cty post b) := decBodyOK cty post b

/-- a comment that may span lines: `/* … */`, or `注：“…”` / `注：「…」` (optionally with digits after 注) -/
inductive MCmt where
  | block (body : List Nat)
  | quoted (curly : Bool) (digits body : List Nat)
  deriving Repr, DecidableEq

namespace MCmt
def pre : MCmt → List Nat
  | block _ => [cSlashOp, cMultiplyOp]
  | quoted curly ds _ => cCharZHU :: (ds ++ [cColon, if curly then cLeftDoubleQuoteII else cLeftDoubleQuoteI])
def body : MCmt → List Nat
  | block b => b
  | quoted _ _ b => b
def suf : MCmt → List Nat
  | block _ => [cMultiplyOp, cSlashOp]
  | quoted curly _ _ => [if curly then cRightDoubleQuoteII else cRightDoubleQuoteI]
def chars (c : MCmt) : List Nat := c.pre ++ (c.body ++ c.suf)
/-- the scanner's comment type -/
def cty : MCmt → Nat
  | block _ => ccommentTypeSlash
  | quoted curly _ _ => if curly then ccommentTypeQuoteII else ccommentTypeQuoteI
def WF (c : MCmt) : Prop :=
  (∀ x ∈ c.body, x ≠ 0) ∧ BodyOK c.cty c.suf c.body ∧
  (match c with | block _ => True | quoted _ ds _ => ∀ d ∈ ds, isPureNumber d = true)
instance (c : MCmt) : Decidable c.WF := by
  cases c <;> unfold WF <;> infer_instance
end MCmt

/-- an element of a text -/
inductive El where
  /-- a token -/
  | tok (it : Item)
  /-- one white-space character (space, TAB, NBSP, ideographic space, …: `whiteSpaces`) -/
  | ws (c : Nat)
  /-- a line break and the indentation (`k` steps) of the line it opens -/
  | br (b : Break) (k : Nat)
  /-- a text literal written verbatim (`Verbatim`: own quotes balanced, no back-tick, no NUL) — it may contain line breaks, and
  then is ONE token that spans lines -/
  | lit (q : Quote) (t : List Nat)
  /-- a comment that may span lines: ONE comment token; every line break inside adds a line to the table -/
  | mcmt (c : MCmt)
  deriving Repr, DecidableEq

def El.chars (ind : Indent) : El → List Nat
  | .tok it => it.spelling
  | .ws c => [c]
  | .br b k => b.chars ++ units ind k
  | .lit q t => q.opener :: (t ++ [q.closer])
  | .mcmt c => c.chars

def renderEls (ind : Indent) : List El → List Nat
  | [] => []
  | e :: es => e.chars ind ++ renderEls ind es

/-- **the text** of a document: indentation of the first line, then the elements -/
def renderDoc (ind : Indent) (k0 : Nat) (els : List El) : List Nat := units ind k0 ++ renderEls ind els

/-- the tokens with their positions; `pos` = index of the next element -/
def elToks (ind : Indent) (pos : Nat) : List El → List Token
  | [] => []
  | .tok it :: es => it.token pos :: elToks ind (pos + it.spelling.length) es
  | .lit q t :: es =>
    { type := q.type, literal := t, startIdx := pos, endIdx := pos + (t.length + 2) } :: elToks ind (pos + (t.length + 2)) es
  | .mcmt c :: es =>
    { type := cTypeComment, startIdx := pos, endIdx := pos + c.chars.length } :: elToks ind (pos + c.chars.length) es
  | e :: es => elToks ind (pos + (e.chars ind).length) es

def docTokens (ind : Indent) (k0 : Nat) (els : List El) : List Token := elToks ind (ind.width * k0) els

/-- a complete line: `LineText` from after the indentation to the line break (or the end of the text) -/
def closedLineI (ind : Indent) (s k e : Nat) : LineInfo := { indents := k, startIdx := s, text := some (s + ind.width * k, e) }

/-- the lines a literal leaves behind: the line it starts on (`s`, `k`) and every line that starts inside it but the last are
recorded WITHOUT `LineText` (the string scanner never sets it) and, from the second on, with indentation 0 whatever they begin with;
the last line that starts inside the literal is the current line afterwards.  `starts` = the line starts inside the literal. -/
def litLines (s k : Nat) : List Nat → List LineInfo × Nat × Nat
  | [] => ([], s, k)
  | x :: xs => ({ indents := k, startIdx := s } :: (litLines x 0 xs).1, (litLines x 0 xs).2)

/-- the line table from a point (`pos`) inside the line that starts at `s` with indentation `k` -/
def elLines (ind : Indent) (pos s k : Nat) : List El → List LineInfo
  | [] => [closedLineI ind s k pos]
  | .br b k' :: es =>
    closedLineI ind s k pos :: elLines ind (pos + b.chars.length + ind.width * k') (pos + b.chars.length) k' es
  | .lit _ t :: es =>
    (litLines s k (Lines.lineStarts (pos + 1) t)).1 ++
      elLines ind (pos + (t.length + 2)) (litLines s k (Lines.lineStarts (pos + 1) t)).2.1
        (litLines s k (Lines.lineStarts (pos + 1) t)).2.2 es
  | .mcmt c :: es =>
    (litLines s k (Lines.lineStarts (pos + c.pre.length) c.body)).1 ++
      elLines ind (pos + c.chars.length) (litLines s k (Lines.lineStarts (pos + c.pre.length) c.body)).2.1
        (litLines s k (Lines.lineStarts (pos + c.pre.length) c.body)).2.2 es
  | e :: es => elLines ind (pos + (e.chars ind).length) s k es

def docLines (ind : Indent) (k0 : Nat) (els : List El) : List LineInfo := elLines ind (ind.width * k0) 0 k0 els

theorem elLines_ne (ind : Indent) (pos s k : Nat) (els : List El) : elLines ind pos s k els ≠ [] := by
  induction els generalizing pos s k with
  | nil => simp [elLines]
  | cons e es ih =>
    cases e with
    | tok it => simp only [elLines]; exact ih _ _ _
    | ws c => simp only [elLines]; exact ih _ _ _
    | br b k' => simp [elLines]
    | lit q t => simp only [elLines]; intro h; exact ih _ _ _ (List.append_eq_nil_iff.mp h).2
    | mcmt c => simp only [elLines]; intro h; exact ih _ _ _ (List.append_eq_nil_iff.mp h).2

/-- **the layout the text determines** -/
def docLayout (ind : Indent) (k0 : Nat) (els : List El) : Layout :=
  { lines := (docLines ind k0 els).toArray, eofIdx := (renderDoc ind k0 els).length,
    ne := by
      simp only [List.size_toArray]
      exact List.length_pos_iff.mpr (elLines_ne ind _ _ _ els) }

/-- a delimiter after which `+ - * /` are operators: white space, punctuation, a quote character -/
def isDelim (d : Nat) : Bool := isWhiteSpace d || markPunctuations.contains d || markQuotes.contains d

/-- `= < >` must not be followed by `=` -/
def eqLeaders : List (List Nat) := [[0x3D], [0x3C], [0x3E]]

/-- where a name stops: before white space, a line break, the end of the text, a punctuation mark, one of `& @ # = < > |`,
a keyword, or `//`, `/*`, `/=` -/
def nameStop (rest : List Nat) : Bool :=
  isWhiteSpace (rest.headD 0) || (Segment.kwAt Keywords.documented rest).isSome ||
  (rest.headD 0 == cSlashOp && [cSlashOp, cMultiplyOp, cEqualOp].contains (rest.getD 1 0)) ||
  terminateMarkers.contains (rest.headD 0)

/-- no keyword starts inside the name, not even one that would run on into what follows -/
def kwFreeBefore (cs rest : List Nat) : Bool :=
  (List.range cs.length).all fun i => (Segment.kwAt Keywords.documented (cs.drop i ++ rest)).isNone

namespace Item

/-- well-formed items, without regard to what follows -/
def WF0 : Item → Prop
  | name cs => cs ≠ [] ∧ ∀ c ∈ cs, NameChar c
  | cmt c => c.WF
  | it => it.WF

instance (it : Item) : Decidable it.WF0 := by cases it <;> unfold WF0 <;> infer_instance

/-- what may follow an item (`rest` = the text after it) so that the lexer ends the token there: nothing is asked after keywords,
punctuation, back-tick names and literals; `+ - * /` need a delimiter, `= < >` no `=`; a name must stop (`nameStop`) and hold no
keyword (`kwFreeBefore`) -/
def Ends : Item → List Nat → Prop
  | op sp _, rest =>
    (tightMarks.contains sp = true → isDelim (rest.headD 0) = true) ∧ (eqLeaders.contains sp = true → rest.headD 0 ≠ cEqualOp)
  | name cs, rest => kwFreeBefore cs rest = true ∧ nameStop rest = true
  | cmt c, rest => c.Ends rest
  | _, _ => True

instance (it : Item) (rest : List Nat) : Decidable (it.Ends rest) := by cases it <;> unfold Ends <;> infer_instance

end Item

/-- after the indentation of a line: the next character does not continue it, and an unindented line starts with neither space nor TAB -/
def IndentOK (ind : Indent) (k : Nat) (tl : List Nat) : Prop :=
  tl.headD 0 ≠ ind.char ∧ (k = 0 → tl.headD 0 ≠ runeSP ∧ tl.headD 0 ≠ runeTAB)

instance (ind : Indent) (k : Nat) (tl : List Nat) : Decidable (IndentOK ind k tl) := by unfold IndentOK; infer_instance

/-- a lone LF is not followed by CR, a lone CR not by LF (they would pair) -/
def PairOK (b : Break) (tl : List Nat) : Prop :=
  match b with
  | .lf => tl.headD 0 ≠ runeCR
  | .cr => tl.headD 0 ≠ runeLF
  | _ => True

instance (b : Break) (tl : List Nat) : Decidable (PairOK b tl) := by cases b <;> unfold PairOK <;> infer_instance

def WFEls (ind : Indent) : List El → Prop
  | [] => True
  | .tok it :: es => it.WF0 ∧ it.Ends (renderEls ind es) ∧ WFEls ind es
  | .ws c :: es => isWhiteSpace c = true ∧ WFEls ind es
  | .br b k :: es => PairOK b (units ind k ++ renderEls ind es) ∧ IndentOK ind k (renderEls ind es) ∧ WFEls ind es
  | .lit q t :: es => Literal.Verbatim q t ∧ WFEls ind es
  | .mcmt c :: es => c.WF ∧ WFEls ind es

instance (q : Quote) (t : List Nat) : Decidable (Literal.Verbatim q t) := by unfold Literal.Verbatim; infer_instance

def decWFEls (ind : Indent) : (es : List El) → Decidable (WFEls ind es)
  | [] => .isTrue trivial
  | .tok it :: es =>
    have : Decidable (WFEls ind es) := decWFEls ind es
    (inferInstance : Decidable (it.WF0 ∧ it.Ends (renderEls ind es) ∧ WFEls ind es))
  | .ws c :: es =>
    have : Decidable (WFEls ind es) := decWFEls ind es
    (inferInstance : Decidable (isWhiteSpace c = true ∧ WFEls ind es))
  | .br b k :: es =>
    have : Decidable (WFEls ind es) := decWFEls ind es
    (inferInstance : Decidable (PairOK b (units ind k ++ renderEls ind es) ∧ IndentOK ind k (renderEls ind es) ∧ WFEls ind es))
  | .lit q t :: es =>
    have : Decidable (WFEls ind es) := decWFEls ind es
    (inferInstance : Decidable (Literal.Verbatim q t ∧ WFEls ind es))
  | .mcmt c :: es =>
    have : Decidable (WFEls ind es) := decWFEls ind es
    (inferInstance : Decidable (c.WF ∧ WFEls ind es))

instance (ind : Indent) (es : List El) : Decidable (WFEls ind es) := decWFEls ind es

/-- **well-formed documents**: the text is not empty, the first line's indentation is maximal, every element is well-formed in its
place -/
def DocWF (ind : Indent) (k0 : Nat) (els : List El) : Prop :=
  renderDoc ind k0 els ≠ [] ∧ IndentOK ind k0 (renderEls ind els) ∧ WFEls ind els

instance (ind : Indent) (k0 : Nat) (els : List El) : Decidable (DocWF ind k0 els) := by unfold DocWF; infer_instance

/-- the canonical rendering as a document: one space between the tokens of a line, LF and `k` TABs between lines, LF at the end -/
def ofRToks : List RTok → List El
  | [] => [.br .lf 0]
  | r :: rs =>
    (match r.nl with
     | none => [.ws runeSP, .tok r.item]
     | some k => [.br .lf k, .tok r.item]) ++ ofRToks rs

end ZnVerif.Spec.RenderChars
