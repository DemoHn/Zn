/-
A FAMILY of text values derived from each other (C14, stream `textfam`).

A text value is an immutable sequence of characters: deriving a new text from it (拼接, a copy by 令 / =, 取样,
a piece of 分隔, 替换) makes a NEW member and leaves every existing member exactly as it was — whatever the
implementation shares behind the scenes.  The one exception is 转换数值, which rewrites the text it was applied to
(`Spec.TextOps.numberRewrite`, §12.3 / §12.8) and nothing else.

The step semantics is written once over a `TextAlg` (how a text is represented and what the primitive operations
do on that representation); `charAlg` is the spec (characters), the driver instantiates the same steps with the
byte-level model functions of `Model.TextOps`.  The four theorems at the end read the first paragraph off `apply` (for any
`TextAlg`: a deriving step is `fam ++ [t]` by definition).
-/
import ZnVerif.Spec.TextOps

namespace ZnVerif.Spec.TextFamily

/-- the primitive text operations on some representation of a text (`List Nat`: characters, or bytes) -/
structure TextAlg where
  ofChars : List Nat → List Nat
  len : List Nat → Nat
  chars : List Nat → List (List Nat)
  slice : List Nat → Int → Int → Option (List Nat)
  split : List Nat → List Nat → List (List Nat)
  rewrite : List Nat → List Nat

/-- the spec: a text IS its characters -/
def charAlg : TextAlg where
  ofChars t := t
  len t := t.length
  chars t := t.map fun c => [c]
  slice t i j := match Spec.TextOps.slice t i j with | .ok r => some r | .error _ => none
  split := Spec.TextOps.split
  rewrite := Spec.TextOps.numberRewrite

/-- a derivation step; `k`, `ms` are member numbers (0 = the parent), literals are character sequences -/
inductive Step where
  | joinLits (k : Nat) (lits : List (List Nat))       -- 以Mk（拼接：lit、…）
  | joinMembers (k : Nat) (ms : List Nat)             -- 以Mk（拼接：Mm、…）
  | copy (k : Nat)                                    -- 令X=Mk
  | assign (k : Nat)                                  -- 令X=“”; X=Mk
  | slice (k : Nat) (i j : Int)                       -- 以Mk（取样：i、j）
  | piece (k : Nat) (sep : List Nat) (idx : Nat)      -- piece number idx (mod the number of pieces) of 以Mk（分隔：sep）
  | replace (k : Nat) (pat rep : List Nat)            -- 以Mk（替换：pat、rep）, pat non-empty: every occurrence
  | toNumber (k : Nat)                                -- 以Mk（转换数值）: rewrites Mk, makes no member
  deriving Repr

def getAll (fam : List (List Nat)) : List Nat → Option (List (List Nat))
  | [] => some []
  | m :: r => match fam[m]?, getAll fam r with
    | some t, some ts => some (t :: ts)
    | _, _ => none

/-- the NEW text a deriving step makes (none: the step is not executable / is `toNumber`) -/
def derived (A : TextAlg) (fam : List (List Nat)) : Step → Option (List Nat)
  | .joinLits k lits => (fam[k]?).map fun t => t ++ (lits.map A.ofChars).flatten
  | .joinMembers k ms => match fam[k]?, getAll fam ms with
    | some t, some ts => some (t ++ ts.flatten)
    | _, _ => none
  | .copy k => fam[k]?
  | .assign k => fam[k]?
  | .slice k i j => (fam[k]?).bind fun t => A.slice t i j
  | .piece k sep idx => (fam[k]?).bind fun t =>
      let ps := A.split t (A.ofChars sep)
      ps[idx % ps.length]?
  | .replace k pat rep => (fam[k]?).bind fun t =>
      if pat = [] then none else some (Spec.TextOps.join (A.ofChars rep) (A.split t (A.ofChars pat)))
  | .toNumber _ => none

/-- the family after a step -/
def apply (A : TextAlg) (fam : List (List Nat)) : Step → Option (List (List Nat))
  | .toNumber k => (fam[k]?).map fun t => fam.set k (A.rewrite t)
  | st => (derived A fam st).map fun t => fam ++ [t]

/-- the families seen over a script: the start family, then the family after each step, up to the first step that
cannot be executed (`false` then) -/
def run (A : TextAlg) : List (List Nat) → List Step → List (List (List Nat)) × Bool
  | fam, [] => ([fam], true)
  | fam, st :: r => match apply A fam st with
    | none => ([fam], false)
    | some fam' => let p := run A fam' r; (fam :: p.1, p.2)

/-- a deriving step appends exactly one member and leaves the existing ones as they were -/
theorem apply_deriving_extends (A : TextAlg) (fam fam' : List (List Nat)) (st : Step)
    (hn : ∀ k, st ≠ .toNumber k) (h : apply A fam st = some fam') :
    ∃ t, fam' = fam ++ [t] := by
  have e : apply A fam st = (derived A fam st).map fun t => fam ++ [t] := by
    cases st <;> first | rfl | exact absurd rfl (hn _)
  rw [e] at h
  obtain ⟨t, _, ht⟩ := Option.map_eq_some_iff.1 h
  exact ⟨t, ht.symm⟩

/-- every member that existed before a deriving step is the same text after it -/
theorem member_unchanged_by_deriving (A : TextAlg) (fam fam' : List (List Nat)) (st : Step)
    (hn : ∀ k, st ≠ .toNumber k) (h : apply A fam st = some fam') (m : Nat) (hm : m < fam.length) :
    fam'[m]? = fam[m]? := by
  obtain ⟨t, ht⟩ := apply_deriving_extends A fam fam' st hn h
  subst ht
  exact List.getElem?_append_left hm

/-- 转换数值 on member k changes no other member, and makes none -/
theorem toNumber_touches_only_its_receiver (A : TextAlg) (fam fam' : List (List Nat)) (k m : Nat)
    (h : apply A fam (.toNumber k) = some fam') (hkm : m ≠ k) :
    fam'[m]? = fam[m]? ∧ fam'.length = fam.length := by
  simp only [apply] at h
  cases hk : fam[k]? with
  | none => simp [hk] at h
  | some t =>
    simp [hk] at h
    subst h
    constructor
    · rw [List.getElem?_set_ne (Ne.symm hkm)]
    · simp

/-- joining literal texts to a member: the result's characters are the member's followed by the literals' — in
particular its first |member| characters are the member's own, whatever else was joined to that member before -/
theorem joinLits_chars (fam : List (List Nat)) (k : Nat) (lits : List (List Nat)) (t : List Nat)
    (hk : fam[k]? = some t) :
    derived charAlg fam (.joinLits k lits) = some (t ++ lits.flatten) := by
  simp [derived, hk, charAlg]

end ZnVerif.Spec.TextFamily
