import ZnVerif.Properties.C16
open ZnVerif.Model.Process

-- `Interp` has the single field `finder`, so "a copy of the shared interpreter with its finder set" does not depend on the shared one
example (a b : Interp) (i : Nat) : ({ a with finder := some i } : Interp) = { b with finder := some i } := rfl

-- a `step` in which LoadScript DOES write the shared interpreter (no clone for the write), exec as in the model
def stepW (w : World) : Step → World
  | .load i => { w with shared := { finder := some i }, handle := (i, { w.shared with finder := some i }) :: w.handle }
  | .exec i => { w with ran := (i, (lookupH i w.handle).bind (·.finder)) :: w.ran }

theorem handleW (steps : List Step) (w : World) (i : Nat)
    (h : lookupH i w.handle = some { finder := some i })
    (hn : ∀ s ∈ steps, s ≠ .load i) :
    lookupH i (run stepW w steps).handle = some { finder := some i } := by
  induction steps generalizing w with
  | nil => exact h
  | cons s rest ih =>
    have hs : s ≠ .load i := hn s (by simp)
    have hrest : ∀ t ∈ rest, t ≠ .load i := fun t ht => hn t (by simp [ht])
    simp only [run, List.foldl_cons] at ih ⊢
    cases s with
    | load j =>
      have hji : i ≠ j := by intro e; subst e; exact hs rfl
      exact ih (stepW w (.load j)) (by simp [stepW, lookupH, hji, h]) hrest
    | exec j => exact ih (stepW w (.exec j)) (by simpa [stepW] using h) hrest

/-- the statement of `request_runs_its_own_source`, for the step that writes the shared interpreter on every load -/
theorem own_source_W (pre post : List Step) (i : Nat) (w : World)
    (hn : ∀ s ∈ post, s ≠ .load i) :
    (i, some i) ∈ (run stepW w (pre ++ [.load i] ++ post ++ [.exec i])).ran := by
  have h1 : run stepW w (pre ++ [.load i] ++ post ++ [.exec i]) =
      stepW (run stepW (stepW (run stepW w pre) (.load i)) post) (.exec i) := by
    simp [run, List.foldl_append]
  rw [h1]
  have hh := handleW post (stepW (run stepW w pre) (.load i)) i (by simp [stepW, lookupH]) hn
  simp only [stepW] at hh ⊢
  simp [hh]

#print axioms own_source_W
