import ZnVerif.Properties.C10
open ZnVerif.Model ZnVerif.Properties.C10 ZnVerif.Proofs.Builtins

-- (a) a list that contains itself: well-formed heap, yet 文本 / copy answer `.fuel` (Go: fatal stack overflow)
def cyc : VM Unit := { heap := #[.arr [0]] }

theorem cyc_wf : WfHeap cyc := by
  intro a c h
  have ha : a < 1 := lt_size_of_get h
  match a, ha with
  | 0, _ => injection h with h; subst h; intro x hx; simp at hx; subst hx; decide

def isFuel {α} : Res α → Bool | .fuel => true | _ => false

set_option maxRecDepth 100000 in
example : isFuel (getProperty 20 0 "文本" cyc).1 = true := by rfl
set_option maxRecDepth 100000 in
example : isFuel (dup 20 0 cyc).1 = true := by rfl
set_option maxRecDepth 100000 in
example : isFuel (builtinMethod 20 0 "后增" [0] cyc).1 = true := by rfl
-- and the theorem applies to it
example : GoodOutcome cyc (getProperty 20 0 "文本" cyc) := getProperty_total 20 0 "文本" cyc cyc_wf (by decide)

-- all fuels
theorem display_cyc_fuel : ∀ n, (display n 0 cyc) = (.fuel, cyc) := by
  intro n
  induction n with
  | zero => rfl
  | succ k ih =>
    unfold display
    have hc : cyc.heap[0]? = some (.arr [0]) := rfl
    rw [bind_apply, getCell_apply hc]
    simp only [List.mapM_cons, List.mapM_nil, bind_apply, ih]

theorem text_cyc_fuel (n : Nat) : (getProperty n 0 "文本" cyc).1 = .fuel := by
  unfold getProperty
  have hc : cyc.heap[0]? = some (.arr [0]) := rfl
  rw [bind_apply, getCell_apply hc]
  simp only [bind_apply, display_cyc_fuel]

#print axioms display_cyc_fuel
#print axioms text_cyc_fuel
#print axioms cyc_wf
