import ZnVerif.Properties.C10
open ZnVerif.Model ZnVerif.Properties.C10 ZnVerif.Generated

def showRes {α} : Res α → String
  | .ok _ => "ok" | .err (.rt c) => s!"err rt {c}" | .err _ => "err other" | .panic => "panic" | .fuel => "fuel" | .unmodelled => "unmodelled"

def rawDispatch (m : String × String × String) : String :=
  match probeAddr m.1 with
  | none => "none"
  | some a =>
    if m.2.1 == "g" then showRes (getProperty 3 a m.2.2 probeState).1
    else if m.2.1 == "s" then showRes (setProperty a m.2.2 5 probeState).1
    else showRes (builtinMethod 3 a m.2.2 [] probeState).1

#eval Members.members.map (fun m => (m, rawDispatch m))
