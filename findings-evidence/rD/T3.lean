import ZnVerif.Properties.C11
import ZnVerif.Properties.C16
open ZnVerif.Model.Process ZnVerif.Model.MapSites ZnVerif.Properties.C11

-- (b) "fresh" short-circuits: any constructor text passes once the extractor says "is a call expression"
example : isolatedGlobal ("异常", true, "returnsThePackageLevelSingleton") = true := by decide
example : isolatedGlobal ("数值", true, "sharedNumber") = true := by decide

-- C16 model: exec never reads `shared`; the theorem holds verbatim for a `step` whose load ALSO overwrites the shared object
def stepW (w : World) : Step → World
  | .load i => { w with shared := { finder := some i }, handle := (i, { w.shared with finder := some i }) :: w.handle }
  | .exec i => { w with ran := (i, (lookupH i w.handle).bind (·.finder)) :: w.ran }

-- (c) Same dA dA' is inhabited (non-vacuity of xeq_content_only's hypotheses)
theorem same_leafC : Same (ν := Nat) (.arr [.str "x", .null]) (.arr [.str "x", .null]) := by
  refine Same.arr rfl ?_
  intro a b h
  simp [List.zip] at h
  rcases h with ⟨rfl, rfl⟩ | ⟨rfl, rfl⟩
  · exact Same.str _
  · exact Same.null

theorem same_dA : Same dA dA' := by
  unfold dA dA'
  refine Same.hm ?_ ?_ ?_ ?_
  · refine ⟨by decide, by decide, ?_⟩
    intro k; simp [keys]; 
  · refine ⟨by decide, by decide, ?_⟩
    intro k; simp [keys]; constructor <;> (intro h; rcases h with h | h | h <;> simp [h])
  · intro k; simp [keys]; constructor <;> (intro h; rcases h with h | h | h <;> simp [h])
  · intro k a b ha hb
    simp only [get?] at ha hb
    by_cases h1 : "A" = k
    · subst h1; simp at ha hb; subst ha; subst hb; exact Same.num _
    · by_cases h2 : "B" = k
      · subst h2; simp at ha hb; subst ha; subst hb; exact Same.num _
      · by_cases h3 : "C" = k
        · subst h3; simp at ha hb; subst ha; subst hb; exact same_leafC
        · simp [h1, h2, h3] at ha

#print axioms same_dA
-- so xeq_content_only applies to dA/dA' :
example : ∃ b, xeq (· == ·) 100000 dA dA = .ok b ∧ xeq (· == ·) 100000 dA' dA' = .ok b :=
  xeq_content_only (· == ·) 100000 100000 dA dA' dA dA' same_dA same_dA (by decide) (by decide)
