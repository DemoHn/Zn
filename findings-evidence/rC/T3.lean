import ZnVerif.Model.Lexer
import ZnVerif.Spec.Lines
open ZnVerif ZnVerif.Model ZnVerif.Spec.Lines
def showL (src : List Nat) : String :=
  let r := lexAll (4 * src.length + 17) (mkLexer src) []
  let st := match r.2.1 with | some (.ok _) => "ok" | some (.err _) => "err" | some .panic => "panic" | none => "fuel"
  st ++ " " ++ toString (r.2.2.lines.toList.map (·.startIdx)) ++ " spec " ++ toString (physicalLineStarts src)
-- "\x01\nx\ny"
#eval showL [1, 10, 120, 10, 121]
-- MANIFEST: "for every source": false without "lexes to EOF"
example : ∃ src : List Nat, (lexAll (4 * src.length + 17) (mkLexer src) []).2.2.lines.toList.map (·.startIdx) ≠ physicalLineStarts src :=
  ⟨[1, 10, 120, 10, 121], by decide +kernel⟩
