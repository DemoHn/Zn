import ZnVerif.Properties.C07
import ZnVerif.Proofs.Toy
open ZnVerif.Model ZnVerif.Properties.C07 ZnVerif.Proofs.Toy
def run0 : VM Int :=
  { heap := #[.num 1, .arr [0]],
    scopes := [(0, { syms := [{ name := "丙", depth := 0, isConst := false, ext := none, val := 1 }] })],
    csModuleID := 0, stack := [{ moduleId := 0, callType := 1 }] }
def lit : Expr := .arr 1 [.id ⟨1, "丙"⟩]
-- the list literal 【丙】 evaluated twice: two fresh container cells (2 and 3) that share their element, 丙's own cell 1
example : IsLiteral lit := .inl ⟨_, _, rfl⟩
#eval ((evalExpr 6 lit run0).2.heap.toList.map (fun c => match c with | Cell.arr xs => toString xs | _ => "-"))
#eval ((evalExpr 6 lit (evalExpr 6 lit run0).2).2.heap.toList.map (fun c => match c with | Cell.arr xs => toString xs | _ => "-"))
