example : 1 = 2 := rfl
