import ZnVerif.Properties.C18
import ZnVerif.Properties.C18Chain
import ZnVerif.Properties.C09
open ZnVerif.Model ZnVerif.Proofs.Calls ZnVerif.Proofs.StackBal ZnVerif.Proofs.Toy
open ZnVerif.Properties

-- (1) statement_sets_line is a fact about setTopFrame for ANY number; evalStmt does not occur
theorem sets_line_any {ν : Type} [NumOps ν] (ln : Nat) (s : VM ν) (fr : Frame) (rest : List Frame) (hs : s.stack = fr :: rest) :
    (setTopFrame (fun f => { f with line := ln, started := true }) s).2.stack = { fr with line := ln, started := true } :: rest ∧
    (setTopFrame (fun f => { f with line := ln, started := true }) s).2.heap = s.heap := by
  simp [setTopFrame, modifyVM, hs]
#print axioms sets_line_any

-- statement_sets_line follows from it without looking at the model's evalStmt
example {ν : Type} [NumOps ν] (st : Stmt) (s : VM ν) (fr : Frame) (rest : List Frame) (hs : s.stack = fr :: rest) :=
  sets_line_any (ν := ν) st.line s fr rest hs

-- (2) Ext (the conclusion of chain_is_active_calls) holds of any stack with arbitrary junk on top
theorem ext_junk (st junk : List Frame) : Ext st (junk ++ st) := ⟨junk, st, rfl, rfl⟩
#print axioms ext_junk

-- (3) catch_restores: every hypothesis met, yet the current module afterwards is NOT the one at entry
def sBad : VM Int := { s0 with scopes := [(0, {}), (1, {})], stack := [{ moduleId := 1, callType := 1 }], csModuleID := 0 }

example :
    let r := evalExecBlock 6 (some (.mk [] (some [.expr (.arr 0 [.nil])]) [(some ⟨0, "异常"⟩, some [])])) [] sBad
    r.1 = .ok 3 ∧ sBad.csModuleID = 0 ∧ r.2.csModuleID = 1 := by
  have h := C09.catch_restores 4 [] (some [.expr (.arr 0 [.nil])]) [] [] ⟨0, "异常"⟩ (some []) [] sBad (enterScope sBad)
    (evalStmtBlock 5 (some [.expr (.arr 0 [.nil])]) (enterScope sBad)).2
    (excOf (.rt 80) (evalStmtBlock 5 (some [.expr (.arr 0 [.nil])]) (enterScope sBad)).2).2
    (evalPureStmtBlock 4 (some []) (handlerEntry 0 1 2
      (excOf (.rt 80) (evalStmtBlock 5 (some [.expr (.arr 0 [.nil])]) (enterScope sBad)).2).2)).2
    (.rt 80) 2 none
    rfl rfl rfl rfl rfl (Or.inl ⟨_, rfl, rfl⟩) (by decide) (by decide)
    (by intro c hc; cases hc) (by decide) rfl
  exact ⟨rfl, rfl, h.2.2.2.1⟩
