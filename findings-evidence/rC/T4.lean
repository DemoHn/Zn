import ZnVerif.Model.Interp
import ZnVerif.Proofs.Toy
open ZnVerif.Model ZnVerif.Proofs.Toy
-- body: a failing statement on line 1; handler 拦截异常: a failing statement on line 5; nothing handles the second failure
def r := evalExecBlock 8 (some (.mk [] (some [.expr (.arr 1 [.nil])]) [(some ⟨3, "异常"⟩, some [.expr (.arr 5 [.nil])])])) [] s0
#eval (match r.1 with | .err (.rt c) => s!"rt {c}" | .ok _ => "ok" | _ => "other")
#eval (listedFrames r.2).map (fun fr => (fr.callType, fr.line, fr.started))
-- the chain the printer shows for the handler's own fault begins with the line of the statement that was already handled
example : (listedFrames r.2).map (fun fr => (fr.callType, fr.line)) = [(1, 1), (3, 5)] := by decide +kernel
