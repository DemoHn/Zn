import ZnVerif.Model.Lexer
import ZnVerif.Spec.Lines
open ZnVerif ZnVerif.Model ZnVerif.Spec.Lines
def showL (src : List Nat) : String :=
  let r := lexAll (4 * src.length + 17) (mkLexer src) []
  let st := match r.2.1 with | some (.ok _) => "ok" | some (.err _) => "err" | some .panic => "panic" | none => "fuel"
  st ++ " " ++ toString (r.2.2.lines.toList.map (·.startIdx)) ++ " spec " ++ toString (physicalLineStarts src)
#eval showL [27880, 65306, 97, 13, 10, 10, 20196, 65, 32, 61, 32, 49, 10]
#eval showL [20196, 65, 32, 61, 32, 8220, 120, 13, 121, 10, 13, 122, 8221, 10, 65288, 26174, 31034, 65306, 65, 65289]
#eval showL [10, 13, 10, 20196, 65, 32, 61, 32, 49]
#eval showL [47, 42, 32, 97, 10, 10, 98, 32, 42, 47, 10, 20196, 65, 32, 61, 32, 49, 13]
#eval showL [20196, 65, 32, 61, 32, 49, 10, 9, 10, 9, 10, 20196, 66, 32, 61, 32, 50]
#eval showL [22914, 26524, 32, 30495, 65306, 10, 32, 32, 32, 32, 20196, 65, 32, 61, 32, 49, 10, 10, 32, 32, 32, 32, 20196, 66, 32, 61, 32, 50, 10]
#eval showL [20196, 65, 32, 61, 32, 49, 32, 32, 10, 32, 32]
#eval showL [20196, 65, 32, 61, 32, 8220, 96, 8221, 10, 20196, 66, 32, 61, 32, 49]
#eval showL [27880, 65306, 10, 20196, 65, 32, 61, 32, 49]
#eval showL [47, 47, 32, 120, 13, 13, 10, 10, 13, 20196, 65, 32, 61, 32, 49]
#eval showL [20196, 65, 32, 61, 32, 12304, 49, 65292, 10, 50, 12305, 10]
#eval showL [20196, 65, 32, 61, 32, 49, 10, 27880, 65306, 8220, 22810, 10, 34892, 8221, 10, 20196, 66, 32, 61, 32, 50]
