/-
C11 — models of the `range`-over-map sites of the interpreter (DESIGN §3: a Go map is an association list plus, at
every `range`, an explicit order oracle).  Core Lean only.

A Go map `m` is `GoMap κ α = List (κ × α)` with pairwise distinct keys (`WF m`).  A `range m` yields the entries in
an order chosen by the runtime: any list `es` with `RangeOrder m es` (a permutation of `m`).  Reads `m[k]` are
`get? k m` (the zero value of a missing key is `none`), writes `m[k] = v` are `put k v m`.

Each site function takes the yielded sequence `es` as an argument — this is the oracle `π`.  The functions mirror the
Go loops as written (after the `fix:` patches of C11, which sort the collected keys); the loops as they were BEFORE
the patches are kept beside them (`…Range`) so that Properties/C11.lean can state why the patches were needed.

  newObject          pkg/value/object.go      NewObject: `for prop, elem := range model.GetPropList()`
  libraryCopy        pkg/exec/eval.go         evalImportStmt: `for k, v := range library.GetAllExportValues()`
  sortedKeyLoop      pkg/exec/eval.go         evalImportStmt import-all (collect names, sort.Strings, declare each)
                     pkg/exec/exec_varinput.go ExecExpressionInputText (collect keys, sort, evaluate each)
  firstValueDict     pkg/server/http_handler.go buildFirstValueDict (collect keys, sort, first value of each)
  xeq                pkg/exec/eval.go compareLogicXEQ = pkg/value/value_util.go CompareValues(CmpEq), on a pure
                     tree type mirroring Model/Interp.lean `compareXEQ` without the heap
-/
import ZnVerif.Generated.Facts

namespace ZnVerif.Model.MapSites

/-! ### Go maps and the order oracle -/

abbrev GoMap (κ : Type) (α : Type) := List (κ × α)

variable {κ : Type} {α : Type} {β : Type} {σ : Type} {ε : Type}

def keys (m : GoMap κ α) : List κ := m.map Prod.fst

/-- a Go map holds one entry per key -/
def WF (m : GoMap κ α) : Prop := (keys m).Nodup

/-- the admissible yield sequences of `range m`: every permutation of the entries -/
def RangeOrder (m es : GoMap κ α) : Prop := es.Perm m

/-- `m[k]` (with `ok`): first matching entry -/
def get? [DecidableEq κ] (k : κ) : GoMap κ α → Option α
  | [] => none
  | (k', v) :: rest => if k' = k then some v else get? k rest

/-- `m[k] = v` -/
def put [DecidableEq κ] (k : κ) (v : α) (m : GoMap κ α) : GoMap κ α :=
  (k, v) :: m.filter (fun p => !decide (p.1 = k))

/-! ### NewObject (object.go)

    objPropList := make(map[string]r.Element)
    for prop, elem := range model.GetPropList() {
        if initValue, ok := initProps[prop]; ok { objPropList[prop] = initValue }
        else { objPropList[prop] = DuplicateValue(elem) }
    }

`dup` is `DuplicateValue`: a pure function of the element up to the identity of the fresh cells it allocates, which no
program can observe (there is no address-of, and `ptrCompares` in the inventory lists the only identity test). -/
def objValue [DecidableEq κ] (dup : α → α) (init : GoMap κ α) (k : κ) (e : α) : α :=
  match get? k init with | some v => v | none => dup e

def newObject [DecidableEq κ] (dup : α → α) (init : GoMap κ α) (es : GoMap κ α) : GoMap κ α :=
  es.foldl (fun acc p => put p.1 (objValue dup init p.1 p.2) acc) []

/-! ### library export copy (eval.go, LIB_TYPE_STD)

    for k, v := range library.GetAllExportValues() { extModule.AddExportValue(k, v) }

`AddExportValue` refuses a name already present and the loop drops that error. -/
def addExportValue [DecidableEq κ] (m : GoMap κ α) (k : κ) (v : α) : GoMap κ α :=
  match get? k m with
  | some _ => m
  | none => put k v m

def libraryCopy [DecidableEq κ] (m0 : GoMap κ α) (es : GoMap κ α) : GoMap κ α :=
  es.foldl (fun m p => addExportValue m p.1 p.2) m0

/-! ### loops with an early exit: import-all, ExecExpressionInputText

`step s k v` is `vm.DeclareExternalElement(name, val, module)` resp. `evalExpressionText(vm, v); result[k] = …`:
any function of the state, the key and the value read from the map — it may fail, and the first failure ends the loop.
The value handed over is `m[k]`, the map read (a missing key reads as Go's zero value: `none`). -/
def runSteps (step : σ → κ → Option α → Except ε σ) : List (κ × Option α) → σ → Except ε σ
  | [], s => .ok s
  | (k, v) :: rest, s =>
    match step s k v with
    | .error e => .error e
    | .ok s' => runSteps step rest s'

/-- what `sort.Strings` relies on: byte-wise `<=` on Go strings is a total order -/
structure TotalOrder (le : κ → κ → Bool) : Prop where
  trans : ∀ a b c, le a b = true → le b c = true → le a c = true
  total : ∀ a b, (le a b || le b a) = true
  antisymm : ∀ a b, le a b = true → le b a = true → a = b

/-- the loop as it was: the body runs directly in yield order -/
def keyLoopRange (step : σ → κ → Option α → Except ε σ) (es : GoMap κ α) (s : σ) : Except ε σ :=
  runSteps step (es.map fun p => (p.1, some p.2)) s

/-- the loop as repaired: `names := keys in yield order; sort.Strings(names); for _, name := range names { … m[name] … }` -/
def sortedKeyLoop [DecidableEq κ] (le : κ → κ → Bool) (step : σ → κ → Option α → Except ε σ)
    (m es : GoMap κ α) (s : σ) : Except ε σ :=
  runSteps step (((keys es).mergeSort le).map fun k => (k, get? k m)) s

/-! ### request dictionaries (http_handler.go buildFirstValueDict, after the repair)

    keys := …range values…; sort.Strings(keys)
    for _, k := range keys { if v := values[k]; len(v) > 0 { dict.AppendKVPair({k, NewString(v[0])}) } }

The result is an insertion-ordered dictionary: a list of pairs (keys are distinct, so `AppendKVPair` only appends). -/
def firstValue (m : GoMap κ (List β)) [DecidableEq κ] (k : κ) : Option (κ × β) :=
  match get? k m with
  | some (v :: _) => some (k, v)
  | _ => none

def firstValueDict [DecidableEq κ] (le : κ → κ → Bool) (m es : GoMap κ (List β)) : List (κ × β) :=
  ((keys es).mergeSort le).filterMap (firstValue m)

/-- before the repair: `for k, v := range r.Header { if len(v) > 0 { AppendKVPair … } }` -/
def firstValueDictRange (es : GoMap κ (List β)) : List (κ × β) :=
  es.filterMap fun p => match p.2 with | v :: _ => some (p.1, v) | [] => none

/-! ### dictionary equality on pure trees

`PV` is a value without heap: what `content h a` reads off a plain value in Model/Interp.lean.  A dictionary is the
Go map (`vals`) together with `keyOrder` (`order`).  `other` stands for every value that is not comparable (object,
function, class, exception): as the LEFT operand it makes `compareLogicXEQ` fail with error 83.
`xeq` is `compareXEQ` of Model/Interp.lean line by line, with `getCell` replaced by pattern matching. -/
inductive PV (ν : Type) where
  | null
  | num (x : ν)
  | str (s : String)
  | bool (b : Bool)
  | arr (xs : List (PV ν))
  | hm (vals : List (String × PV ν)) (order : List String)
  | other (tag : Nat)

inductive Res where
  | ok (b : Bool)
  | err (code : Nat)
  | panic
  | fuel
  deriving DecidableEq, Repr

variable {ν : Type}

/-- `for idx := range vla { cmp(vla[idx], vra[idx]) }` after the length test -/
def allPairs (rec : PV ν → PV ν → Res) : List (PV ν) → List (PV ν) → Res
  | x :: xs, y :: ys =>
    match rec x y with
    | .ok true => allPairs rec xs ys
    | r => r
  | _, _ => .ok true

/-- `for _, idx := range vl.GetKeyOrder() { vrr, ok := vra[idx]; if !ok {return false}; cmp(vla[idx], vrr) … }` -/
def allKeys (rec : PV ν → PV ν → Res) (lv rv : List (String × PV ν)) : List String → Res
  | [] => .ok true
  | k :: ks =>
    match get? k rv with
    | none => .ok false
    | some b =>
      match get? k lv with
      | none => .panic   -- keyOrder names a key the map does not hold: Go hands a nil Element to the comparison
      | some a =>
        match rec a b with
        | .ok true => allKeys rec lv rv ks
        | r => r

def xeq (eqν : ν → ν → Bool) : Nat → PV ν → PV ν → Res
  | 0, _, _ => .fuel
  | n+1, l, r =>
    match l with
    | .null => .ok (match r with | .null => true | _ => false)
    | .num x => .ok (match r with | .num y => eqν x y | _ => false)
    | .str x => .ok (match r with | .str y => decide (x = y) | _ => false)
    | .bool x => .ok (match r with | .bool y => decide (x = y) | _ => false)
    | .arr xs =>
      match r with
      | .arr ys => if xs.length ≠ ys.length then .ok false else allPairs (xeq eqν n) xs ys
      | _ => .ok false
    | .hm lv lo =>
      match r with
      | .hm rv _ => if lv.length ≠ rv.length then .ok false else allKeys (xeq eqν n) lv rv lo
      | _ => .ok false
    | .other _ => .err 83

/-- what the code did before commit "dictionary equality compares every key": the verdict of the FIRST yielded key -/
def xeqFirstKey (eqν : ν → ν → Bool) (n : Nat) (lv rv : List (String × PV ν)) (es : List (String × PV ν)) : Res :=
  if lv.length ≠ rv.length then .ok false
  else match es with
    | [] => .ok true
    | (k, a) :: _ =>
      match get? k rv with
      | none => .ok false
      | some b => xeq eqν n a b

/-- a dictionary value is well formed when keyOrder lists exactly the keys of the map, once each (C12's invariant) -/
def DictWF (vals : List (String × PV ν)) (order : List String) : Prop :=
  (keys vals).Nodup ∧ True ∧ ∀ k, k ∈ order ↔ k ∈ keys vals

/-- "the same contents": equal as trees of finite maps, whatever the key orders and the layout of the Go maps.
Numbers must be the same number (`eqν` has no laws: NaN ≠ NaN), lists agree position by position, dictionaries hold
the same keys with the same contents under each key. -/
inductive Same : PV ν → PV ν → Prop where
  | null : Same .null .null
  | num (x : ν) : Same (.num x) (.num x)
  | str (s : String) : Same (.str s) (.str s)
  | bool (b : Bool) : Same (.bool b) (.bool b)
  | arr {xs ys : List (PV ν)} : xs.length = ys.length → (∀ a b, (a, b) ∈ xs.zip ys → Same a b) → Same (.arr xs) (.arr ys)
  | hm {lv lv' : List (String × PV ν)} {lo lo' : List String} :
      DictWF lv lo → DictWF lv' lo' →
      (∀ k, k ∈ keys lv ↔ k ∈ keys lv') →
      (∀ k a b, get? k lv = some a → get? k lv' = some b → Same a b) →
      Same (.hm lv lo) (.hm lv' lo')

/-! ### the inventory: how each `range`-over-map site of the source is accounted for

Hand-written.  `Generated.Facts.mapRangeSites` is regenerated from the working tree on every run (go/types); the
obligation `sites_all_classified` (Properties/C11.lean) demands that every regenerated site — keyed by file, function,
ranged expression, number of occurrences and loop shape — is one of the entries below.  A new `range` over a map, a
second loop over the same expression, or a collect-and-sort loop that stops sorting makes the obligation fail. -/

inductive SiteClass where
  /-- the loop body commutes: the theorem named here proves the result independent of the yield order -/
  | orderIrrelevant (theorem_ : String)
  /-- the loop only collects the keys and sorts them before any use (shape `collect-sort`, checked by the extractor);
  the theorem named here proves the loop that follows independent of the yield order -/
  | sortedBeforeUse (theorem_ : String)
  /-- owned by another property's machinery -/
  | external (owner : String)
  deriving Repr

open ZnVerif.Generated.Facts in
def modelledSites : List (Site × SiteClass) := [
  (⟨"pkg/value/object.go", "NewObject", "model.GetPropList()", 1, "body"⟩,
    .orderIrrelevant "newObject_order_independent"),
  (⟨"pkg/exec/eval.go", "evalImportStmt", "library.GetAllExportValues()", 1, "body"⟩,
    .orderIrrelevant "libraryCopy_order_independent"),
  (⟨"pkg/exec/eval.go", "evalImportStmt", "exportValues", 1, "collect-sort"⟩,
    .sortedBeforeUse "importAll_order_independent"),
  -- the same collect-names / sort / declare-each loop, re-declaring a loaded module's own names (C15 repair)
  (⟨"pkg/exec/eval.go", "execAnotherModule", "exportValues", 1, "collect-sort"⟩,
    .sortedBeforeUse "sortedKeyLoop_order_independent"),
  (⟨"pkg/exec/exec_varinput.go", "ExecExpressionInputText", "exprStrMap", 1, "collect-sort"⟩,
    .sortedBeforeUse "exprInput_order_independent"),
  (⟨"pkg/server/http_handler.go", "buildFirstValueDict", "values", 1, "collect-sort"⟩,
    .sortedBeforeUse "requestDict_order_independent"),
  (⟨"pkg/runtime/module.go", "(*ModuleGraph).checkCircularDepedencyDFS", "adj", 1, "body"⟩,
    .external "C15: dfs_order_independent (a cycle is found from every start order)"),
  (⟨"pkg/common/elem2json.go", "buildElementFromPlainValue", "vv", 1, "body"⟩,
    .external "C19: order-preserving JSON decoder (site expected to disappear)"),
  (⟨"pkg/common/elem2json.go", "buildPlainValueFromElement", "vv.GetValue()", 1, "body"⟩,
    .external "C19: order-preserving JSON encoder (site expected to disappear)"),
  (⟨"pkg/server/pm_server.go", "(*ZnPMServer).StartMaster", "zns.childs", 1, "body"⟩,
    .external "C20: process manager (kills every child; not on the path of a program execution)"),
  (⟨"pkg/server/pm_server.go", "(*ZnPMServer).maintainChildState", "zns.childs", 1, "body"⟩,
    .external "C20: process manager (signals every child; not on the path of a program execution)")]

def classified : List ZnVerif.Generated.Facts.Site := modelledSites.map Prod.fst

/-- files of the prefork process manager: they run beside, never inside, the execution of a program (C20) -/
def processManagerFiles : List String := ["pkg/server/pm_server.go", "pkg/server/name_pipe_linux.go"]

def inExecPath (s : ZnVerif.Generated.Facts.Site) : Bool := !processManagerFiles.contains s.file

end ZnVerif.Model.MapSites
/-
Helper lemmas for C11 (Properties/C11.lean): finite-map reads under permutation, the site loops, sorting a
permutation, dictionary equality on pure trees.  Core Lean only.
-/

namespace ZnVerif.Proofs.MapSites
open ZnVerif.Model.MapSites

variable {κ : Type} {α : Type} {β : Type} {σ : Type} {ε : Type} [DecidableEq κ]

-- so that concrete loop outcomes can be compared by `decide`
deriving instance DecidableEq for Except

theorem get?_some_mem {k : κ} {v : α} : ∀ {m : GoMap κ α}, get? k m = some v → (k, v) ∈ m
  | [], h => by simp [get?] at h
  | (k', v') :: rest, h => by
    unfold get? at h
    split at h
    · next hk => cases h; subst hk; exact List.mem_cons_self
    · exact List.mem_cons_of_mem _ (get?_some_mem h)

theorem get?_eq_none_iff {k : κ} : ∀ {m : GoMap κ α}, get? k m = none ↔ k ∉ keys m
  | [] => by simp [get?, keys]
  | (k', v') :: rest => by
    have ih := @get?_eq_none_iff k rest
    unfold get?
    by_cases hk : k' = k
    · simp [hk, keys]
    · have hk' : ¬ k = k' := fun h => hk h.symm
      simp only [hk, if_false, ih, keys, List.map_cons, List.mem_cons, hk', false_or]

theorem mem_keys_of_get? {k : κ} {v : α} {m : GoMap κ α} (h : get? k m = some v) : k ∈ keys m := by
  have := get?_some_mem h
  exact List.mem_map.2 ⟨(k, v), this, rfl⟩

theorem get?_isSome_of_mem_keys {k : κ} {m : GoMap κ α} (h : k ∈ keys m) : ∃ v, get? k m = some v := by
  cases hg : get? k m with
  | none => exact absurd h (get?_eq_none_iff.1 hg)
  | some v => exact ⟨v, rfl⟩

theorem get?_of_mem {k : κ} {v : α} : ∀ {m : GoMap κ α}, WF m → (k, v) ∈ m → get? k m = some v
  | [], _, h => by simp at h
  | (k', v') :: rest, hwf, h => by
    have hwf' : (k' ∉ keys rest) ∧ WF rest := by
      simpa [WF, keys, List.nodup_cons] using hwf
    unfold get?
    rcases List.mem_cons.1 h with heq | hmem
    · cases heq; simp
    · by_cases hk : k' = k
      · subst hk
        exact absurd (List.mem_map.2 ⟨(k', v), hmem, rfl⟩) hwf'.1
      · simp only [hk, if_false]; exact get?_of_mem hwf'.2 hmem

omit [DecidableEq κ] in
theorem keys_perm {m es : GoMap κ α} (h : es.Perm m) : (keys es).Perm (keys m) := h.map _

omit [DecidableEq κ] in
theorem wf_of_perm {m es : GoMap κ α} (hm : WF m) (h : es.Perm m) : WF es :=
  ((keys_perm h).nodup_iff).2 hm

theorem get?_perm {m es : GoMap κ α} (hm : WF m) (h : es.Perm m) (k : κ) : get? k es = get? k m := by
  cases hg : get? k m with
  | none =>
    have : k ∉ keys m := get?_eq_none_iff.1 hg
    exact get?_eq_none_iff.2 (fun hk => this ((keys_perm h).mem_iff.1 hk))
  | some v =>
    exact get?_of_mem (wf_of_perm hm h) (h.mem_iff.2 (get?_some_mem hg))

theorem get?_filter_ne {k k' : κ} (hk : ¬ k = k') : ∀ (m : GoMap κ α),
    get? k' (m.filter (fun p => !decide (p.1 = k))) = get? k' m
  | [] => rfl
  | (k'', v'') :: rest => by
    have ih := get?_filter_ne hk rest
    by_cases h2 : k'' = k
    · subst h2
      simp only [List.filter, decide_true, Bool.not_true, get?, hk, if_false]
      exact ih
    · by_cases h3 : k'' = k'
      · subst h3
        have : ¬ k'' = k := h2
        simp [List.filter, get?, this]
      · simp only [List.filter, h2, decide_false, Bool.not_false, get?, h3, if_false]
        exact ih

theorem get?_put (k k' : κ) (v : α) (m : GoMap κ α) :
    get? k' (put k v m) = if k = k' then some v else get? k' m := by
  unfold put
  by_cases hk : k = k'
  · simp [get?, hk]
  · simp only [get?, hk, if_false]
    exact get?_filter_ne hk m

omit [DecidableEq κ] in
theorem wf_cons {p : κ × α} {rest : GoMap κ α} (h : WF (p :: rest)) : p.1 ∉ keys rest ∧ WF rest := by
  simpa [WF, keys, List.nodup_cons] using h

/-- a loop over the entries of a map whose body touches, of the result, only the entry's own key: the result under a
key is decided by the entry the ranged map holds under that key (`F`), wherever in the yield sequence it comes -/
theorem get?_foldl (step : GoMap κ α → κ × α → GoMap κ α) (F : κ → α → Option α → Option α)
    (hstep : ∀ acc p k, get? k (step acc p) = if p.1 = k then F k p.2 (get? k acc) else get? k acc) (k : κ) :
    ∀ (es acc : GoMap κ α), WF es →
      get? k (es.foldl step acc) = match get? k es with
        | some e => F k e (get? k acc)
        | none => get? k acc
  | [], acc, _ => rfl
  | p :: rest, acc, hwf => by
    obtain ⟨hnot, hrest⟩ := wf_cons hwf
    obtain ⟨k', e'⟩ := p
    rw [List.foldl_cons, get?_foldl step F hstep k rest _ hrest, hstep]
    by_cases hk : k' = k
    · subst hk
      simp [get?_eq_none_iff.2 hnot, get?]
    · simp [get?, hk]

/-- every property of the new object is read back as: the initial value if one was given, else a copy of the
model's default; a name the model does not declare is absent -/
theorem newObject_get? (dup : α → α) (init es : GoMap κ α) (hwf : WF es) (k : κ) :
    get? k (newObject dup init es) = (get? k es).map (objValue dup init k) := by
  unfold newObject
  rw [get?_foldl _ (fun k e _ => some (objValue dup init k e)) (fun acc p k => ?_) k es [] hwf]
  · cases get? k es <;> rfl
  · rw [get?_put]; split <;> simp_all

theorem libraryCopy_get? (k : κ) (es m0 : GoMap κ α) (hwf : WF es) :
    get? k (libraryCopy m0 es) = match get? k m0 with | some v => some v | none => get? k es := by
  unfold libraryCopy
  rw [get?_foldl _ (fun _ v old => match old with | some v0 => some v0 | none => some v) (fun acc p k => ?_) k es m0 hwf]
  · cases get? k es <;> cases get? k m0 <;> rfl
  · unfold addExportValue
    by_cases hk : p.1 = k
    · subst hk; cases h0 : get? p.1 acc <;> simp [h0, get?_put]
    · cases h0 : get? p.1 acc <;> simp [hk, get?_put]

omit [DecidableEq κ] in
theorem mergeSort_perm_invariant {le : κ → κ → Bool} (ho : TotalOrder le) {l₁ l₂ : List κ} (h : l₁.Perm l₂) :
    l₁.mergeSort le = l₂.mergeSort le := by
  apply List.Perm.eq_of_pairwise (le := fun a b => le a b = true)
  · intro a b _ _ hab hba; exact ho.antisymm a b hab hba
  · exact List.pairwise_mergeSort ho.trans ho.total l₁
  · exact List.pairwise_mergeSort ho.trans ho.total l₂
  · exact (List.mergeSort_perm l₁ le).trans (h.trans (List.mergeSort_perm l₂ le).symm)

omit [DecidableEq κ] in
theorem keys_rangeOrder {m es₁ es₂ : GoMap κ α} (h₁ : RangeOrder m es₁) (h₂ : RangeOrder m es₂) :
    (keys es₁).Perm (keys es₂) :=
  (keys_perm h₁).trans (keys_perm h₂).symm

section Xeq
variable {ν : Type}

/-- the element loop over two lists of pairs: when every comparison answers on both sides with the same verdict, so do
the loops (they stop at the same place) -/
theorem allPairs_joint {rec rec' : PV ν → PV ν → Res} : ∀ (X Y : List (PV ν × PV ν)),
    (∀ p ∈ X, ∀ q ∈ Y, ∃ c, rec p.1 q.1 = .ok c ∧ rec' p.2 q.2 = .ok c) →
    ∃ c, allPairs rec (X.map (·.1)) (Y.map (·.1)) = .ok c ∧ allPairs rec' (X.map (·.2)) (Y.map (·.2)) = .ok c
  | [], _, _ => ⟨true, by simp [allPairs], by simp [allPairs]⟩
  | _ :: _, [], _ => ⟨true, rfl, rfl⟩
  | p :: X, q :: Y, h => by
    obtain ⟨c, h1, h2⟩ := h p List.mem_cons_self q List.mem_cons_self
    simp only [List.map_cons, allPairs, h1, h2]
    cases c
    · exact ⟨false, rfl, rfl⟩
    · exact allPairs_joint X Y fun p' hp q' hq => h p' (List.mem_cons_of_mem _ hp) q' (List.mem_cons_of_mem _ hq)

/-- the key loop when every comparison it can make answers: the verdict is "every listed key is there on the right and
compares equal" — a statement about the set of keys, not their order -/
theorem allKeys_eq_all {rec : PV ν → PV ν → Res} {lv rv : List (String × PV ν)} : ∀ ks : List String,
    (∀ k ∈ ks, ∃ a, get? k lv = some a ∧ ∀ b, get? k rv = some b → ∃ c, rec a b = .ok c) →
    allKeys rec lv rv ks = .ok (ks.all fun k =>
      match get? k rv, get? k lv with
      | some b, some a => rec a b == .ok true
      | _, _ => false)
  | [], _ => rfl
  | k :: ks, h => by
    obtain ⟨a, ha, hrec⟩ := h k List.mem_cons_self
    have ih := allKeys_eq_all ks fun k' hk' => h k' (List.mem_cons_of_mem _ hk')
    simp only [allKeys, List.all_cons, ha]
    cases hb : get? k rv with
    | none => rfl
    | some b =>
      obtain ⟨c, hc⟩ := hrec b hb
      cases c <;> simp [hc, ih]

theorem all_eq_of_same_mem {α : Type} {l l' : List α} {p p' : α → Bool} (hm : ∀ k, k ∈ l ↔ k ∈ l')
    (hp : ∀ k ∈ l, p k = p' k) : l.all p = l'.all p' := by
  rw [Bool.eq_iff_iff, List.all_eq_true, List.all_eq_true]
  exact ⟨fun h k hk => hp k ((hm k).2 hk) ▸ h k ((hm k).2 hk), fun h k hk => (hp k hk).symm ▸ h k ((hm k).1 hk)⟩

/-- two Go maps with the same key set (one entry per key) have the same `len` -/
theorem length_eq_of_same_keys {lv lv' : List (String × PV ν)} (h : (keys lv).Nodup) (h' : (keys lv').Nodup)
    (hk : ∀ k, k ∈ keys lv ↔ k ∈ keys lv') : lv.length = lv'.length := by
  have := ((List.perm_ext_iff_of_nodup h h').2 hk).length_eq
  simpa [keys] using this

theorem sizeOf_lt_of_get? {k : String} {a : PV ν} {lv : List (String × PV ν)} (h : get? k lv = some a) :
    sizeOf a < sizeOf lv := by
  have := List.sizeOf_lt_of_mem (get?_some_mem h)
  simp only [Prod.mk.sizeOf_spec] at this
  omega

/-- on plain values with the same contents both comparisons finish — no error, no panic (`keyOrder` only names keys the
map holds), given fuel above the size of the left operand — and with the same verdict -/
theorem xeq_joint (eqν : ν → ν → Bool) : ∀ (n m : Nat) (l l' r r' : PV ν), Same l l' → Same r r' →
    sizeOf l < n → sizeOf l' < m → ∃ b, xeq eqν n l r = .ok b ∧ xeq eqν m l' r' = .ok b
  | 0, _, _, _, _, _, _, _, h, _ => by omega
  | _ + 1, 0, _, _, _, _, _, _, _, h => by omega
  | n + 1, m + 1, l, l', r, r', hl, hr, hn, hm => by
    cases hl with
    | null | num _ | str _ | bool _ => cases hr <;> exact ⟨_, rfl, rfl⟩
    | @arr xs xs' hlen hX =>
      cases hr with
      | @arr ys ys' hlen' hY =>
        simp only [PV.arr.sizeOf_spec] at hn hm
        simp only [xeq]
        by_cases hne : xs.length = ys.length
        · have hne' : xs'.length = ys'.length := by omega
          have := allPairs_joint (rec := xeq eqν n) (rec' := xeq eqν m) (xs.zip xs') (ys.zip ys') fun p hp q hq => by
            have h1 := List.sizeOf_lt_of_mem (List.of_mem_zip hp).1
            have h2 := List.sizeOf_lt_of_mem (List.of_mem_zip hp).2
            exact xeq_joint eqν n m p.1 p.2 q.1 q.2 (hX _ _ hp) (hY _ _ hq) (by omega) (by omega)
          rw [List.map_fst_zip (by omega), List.map_fst_zip (by omega), List.map_snd_zip (by omega),
            List.map_snd_zip (by omega)] at this
          simpa only [hne, hne', ne_eq, not_true, if_false] using this
        · have hne' : ¬ xs'.length = ys'.length := by omega
          exact ⟨false, by simp [hne], by simp [hne']⟩
      | _ => exact ⟨_, rfl, rfl⟩
    | @hm lv lv' lo lo' w w' hk hV =>
      cases hr with
      | @hm rv rv' ro ro' v v' hk' hV' =>
        simp only [PV.hm.sizeOf_spec] at hn hm
        simp only [xeq]
        have e1 := length_eq_of_same_keys w.1 w'.1 hk
        have e2 := length_eq_of_same_keys v.1 v'.1 hk'
        by_cases hne : lv.length = rv.length
        · have hne' : lv'.length = rv'.length := by omega
          simp only [hne, hne', ne_eq, not_true, if_false]
          -- the values under one key, on the four sides
          have joint : ∀ k a a' b b', get? k lv = some a → get? k lv' = some a' → get? k rv = some b →
              get? k rv' = some b' → ∃ c, xeq eqν n a b = .ok c ∧ xeq eqν m a' b' = .ok c := by
            intro k a a' b b' ha ha' hb hb'
            have h1 := sizeOf_lt_of_get? ha
            have h2 := sizeOf_lt_of_get? ha'
            exact xeq_joint eqν n m a a' b b' (hV k a a' ha ha') (hV' k b b' hb hb') (by omega) (by omega)
          have both : ∀ {k}, k ∈ lo → ∃ a a', get? k lv = some a ∧ get? k lv' = some a' := fun hkin =>
            have ⟨a, ha⟩ := get?_isSome_of_mem_keys ((w.2.2 _).1 hkin)
            have ⟨a', ha'⟩ := get?_isSome_of_mem_keys ((hk _).1 (mem_keys_of_get? ha))
            ⟨a, a', ha, ha'⟩
          have hlo : ∀ k, k ∈ lo ↔ k ∈ lo' := fun k => by rw [w.2.2, w'.2.2, hk]
          rw [allKeys_eq_all lo, allKeys_eq_all lo']
          · refine ⟨_, rfl, congrArg Res.ok (all_eq_of_same_mem hlo fun k hkin => ?_).symm⟩
            obtain ⟨a, a', ha, ha'⟩ := both hkin
            rw [ha, ha']
            cases hb : get? k rv with
            | none => rw [get?_eq_none_iff.2 fun h => get?_eq_none_iff.1 hb ((hk' k).2 h)]
            | some b =>
              obtain ⟨b', hb'⟩ := get?_isSome_of_mem_keys ((hk' k).1 (mem_keys_of_get? hb))
              obtain ⟨c, h1, h2⟩ := joint k a a' b b' ha ha' hb hb'
              simp only [hb', h1, h2]
          · intro k hkin
            obtain ⟨a, a', ha, ha'⟩ := both ((hlo k).2 hkin)
            refine ⟨a', ha', fun b' hb' => ?_⟩
            obtain ⟨b, hb⟩ := get?_isSome_of_mem_keys ((hk' k).2 (mem_keys_of_get? hb'))
            obtain ⟨c, _, h2⟩ := joint k a a' b b' ha ha' hb hb'
            exact ⟨c, h2⟩
          · intro k hkin
            obtain ⟨a, a', ha, ha'⟩ := both hkin
            refine ⟨a, ha, fun b hb => ?_⟩
            obtain ⟨b', hb'⟩ := get?_isSome_of_mem_keys ((hk' k).1 (mem_keys_of_get? hb))
            obtain ⟨c, h1, _⟩ := joint k a a' b b' ha ha' hb hb'
            exact ⟨c, h1⟩
        · have hne' : ¬ lv'.length = rv'.length := by omega
          exact ⟨false, by simp [hne], by simp [hne']⟩
      | _ => exact ⟨_, rfl, rfl⟩

end Xeq

end ZnVerif.Proofs.MapSites
