import ZnVerif.Properties.C16
open ZnVerif.Model.Process ZnVerif.Properties.C16

-- (a) the conclusion of request_runs_its_own_source is membership: it holds for the OLD step in a run whose last exec ran a foreign source
example : (1, some 1) ∈ (run stepOld {} ([.load 1, .exec 1] ++ [.load 1] ++ [.load 2] ++ [.exec 1])).ran ∧
    (run stepOld {} ([.load 1, .exec 1] ++ [.load 1] ++ [.load 2] ++ [.exec 1])).ran.head? = some (1, some 2) := by decide

-- (b) hnoreload is not needed
theorem handle_is_own' (steps : List Step) (w : World) (i : Nat)
    (h : lookupH i w.handle = some { w.shared with finder := some i }) :
    lookupH i (run step w steps).handle = some { w.shared with finder := some i } := by
  induction steps generalizing w with
  | nil => exact h
  | cons s rest ih =>
    simp only [run, List.foldl_cons] at ih ⊢
    cases s with
    | load j =>
      refine ih (step w (.load j)) ?_
      by_cases hji : i = j
      · subst hji; simp [step, lookupH]
      · simp [step, lookupH, hji, h]
    | exec j => exact ih (step w (.exec j)) (by simpa [step] using h)

theorem request_runs_its_own_source' (pre post : List Step) (i : Nat) (w : World) :
    (run step w (pre ++ [.load i] ++ post ++ [.exec i])).ran.head? = some (i, some i) := by
  have h1 : run step w (pre ++ [.load i] ++ post ++ [.exec i]) =
      step (run step (step (run step w pre) (.load i)) post) (.exec i) := by
    simp [run, List.foldl_append]
  rw [h1]
  have hh := handle_is_own' post (step (run step w pre) (.load i)) i (by simp [step, lookupH])
  simp only [step] at hh ⊢
  simp [hh]
