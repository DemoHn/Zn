import ZnVerif.Properties.C04
import ZnVerif.Proofs.RenderGapItems

namespace ZnVerif.Model
open ZnVerif.Generated ZnVerif.Generated.Tokens
open Spec.Segment (kwAt)

/-! ## lead 3 (a): "first match = the match" in a prefix-free list, once -/

theorem find?_prefix_free {α : Type} (f : α → List Nat) (xs : List α)
    (hpf : ∀ a ∈ xs, ∀ b ∈ xs, f a <+: f b → a = b) {a : α} (ha : a ∈ xs) {s : List Nat} (hp : f a <+: s) :
    xs.find? (fun x => (f x).isPrefixOf s) = some a := by
  cases hf : xs.find? (fun x => (f x).isPrefixOf s) with
  | none => exact absurd (List.isPrefixOf_iff_prefix.mpr hp) (by simpa using List.find?_eq_none.mp hf a ha)
  | some x =>
    have hx := List.mem_of_find?_eq_some hf
    have hpx : f x <+: s := List.isPrefixOf_iff_prefix.mp (List.find?_some (p := fun x => (f x).isPrefixOf s) hf)
    rcases List.prefix_or_prefix_of_prefix hpx hp with h | h
    · rw [hpf x hx a ha h]
    · rw [hpf a ha x hx h]

/-- C04.keyword_order_irrelevant (pinned statement) -/
theorem keyword_order_irrelevant' :
    ∀ e ∈ Tokens.keywordTable, ∀ (rest : List Nat), ∀ a ∈ e.2, a.1 <+: rest →
      e.2.find? (fun x => x.1.isPrefixOf rest) = some a :=
  fun e he _ _ ha h => find?_prefix_free (·.1) e.2 (Properties.C04.keyword_alternatives_exclusive e he) ha h

/-- C04.keyword_match_unique (pinned statement) -/
theorem keyword_match_unique' :
    ∀ e ∈ Tokens.keywordTable, ∀ (rest : List Nat), ∀ a ∈ e.2, ∀ b ∈ e.2,
      a.1 <+: rest → b.1 <+: rest → a = b :=
  fun e he rest _ ha _ hb h1 h2 =>
    Option.some.inj ((keyword_order_irrelevant' e he rest _ ha h1).symm.trans (keyword_order_irrelevant' e he rest _ hb h2))

/-- RenderLexItems.kwAt_of_prefix -/
theorem kwAt_of_prefix' (kws : List (List Nat × Nat)) (hpf : ∀ a ∈ kws, ∀ b ∈ kws, a.1 <+: b.1 → a = b)
    (k : List Nat × Nat) (hk : k ∈ kws) (r : List Nat) : kwAt kws (k.1 ++ r) = some (k.1.length, k.2) := by
  unfold kwAt
  rw [find?_prefix_free (·.1) kws hpf hk (List.prefix_append _ _)]
  rfl

/-- LexSegment.kwAt_congr -/
theorem kwAt_congr' (k1 k2 : List (List Nat × Nat)) (hsame : ∀ x, x ∈ k1 ↔ x ∈ k2)
    (hpf : ∀ a ∈ k2, ∀ b ∈ k2, a.1 <+: b.1 → a = b) (s : List Nat) : kwAt k1 s = kwAt k2 s := by
  unfold kwAt
  cases h1 : k1.find? (fun k => k.1.isPrefixOf s) with
  | none =>
    rw [List.find?_eq_none.mpr fun x hx => List.find?_eq_none.mp h1 x ((hsame x).mpr hx)]
  | some a =>
    rw [find?_prefix_free (·.1) k2 hpf ((hsame a).mp (List.mem_of_find?_eq_some h1))
      (List.isPrefixOf_iff_prefix.mp (List.find?_some (p := fun (k : List Nat × Nat) => k.1.isPrefixOf s) h1))]

/-! ## lead 3 (b): the identifier loop passes over name characters at which no keyword starts — once, for
`ident_run` (LexSegment) and `ident_run_ends` (RenderGapItems) -/

theorem SegChar.not_terminator {c : Nat} (h : SegChar c) : terminateMarkers.contains c = false := by
  obtain ⟨-, -, -, -, b5, -, -, b8⟩ := h
  unfold terminateMarkers
  rw [Bool.eq_false_iff]
  intro hc'
  rw [List.contains_iff_mem, List.mem_append] at hc'
  rcases hc' with hc' | hc'
  · rw [← List.contains_iff_mem, b8] at hc'; exact absurd hc' (by decide)
  · rw [← List.contains_iff_mem, b5] at hc'; exact absurd hc' (by decide)

theorem ident_pass (s0 : Nat) (rest : List Nat) : ∀ (cs : List Nat), (∀ c ∈ cs, SegChar c) →
    (∀ i, i < cs.length → kwAt D (cs.drop i ++ rest) = none) → ∀ (l : Lexer) (lit : List Nat), l.rest = cs ++ rest →
    iterate (parseIdentifierStep s0) (parseIdentifierStep_consumes s0) l lit =
      iterate (parseIdentifierStep s0) (parseIdentifierStep_consumes s0) (l.setCursor (l.cursor + cs.length))
        (lit ++ cs) := by
  intro cs
  induction cs with
  | nil => intro _ _ l lit _; simp [Lexer.setCursor]
  | cons c cs ih =>
    intro hcs hkf l lit h
    obtain ⟨hp, hrest⟩ := Lexer.rest_cons (show l.rest = c :: (cs ++ rest) from h)
    have hcur : l.adv.cur = c := hp
    have hc := hcs c List.mem_cons_self
    have hkw : (matchKeyword l.adv).isSome = false := by
      rw [matchKeyword_eq_kwAt, hcur, hrest]
      have := hkf 0 (by simp)
      rw [show (c :: cs).drop 0 ++ rest = c :: (cs ++ rest) from rfl] at this
      rw [this]; rfl
    have hstep : parseIdentifierStep s0 l lit = (.cont (lit ++ [c]), l.adv) := by
      unfold parseIdentifierStep
      have a3 : (c == cSlashOp) = false := by simpa using hc.solid.2.2
      simp only [hcur, hc.2.1, hkw, a3, hc.not_terminator, hc.1, Bool.false_eq_true, ↓reduceIte, Bool.false_and,
        Bool.true_or]
    rw [iterate_cont hstep, ih (fun x hx => hcs x (List.mem_cons_of_mem _ hx))
      (fun i hi => by simpa using hkf (i + 1) (by simp; omega)) l.adv (lit ++ [c]) hrest]
    congr 1
    · simp [Lexer.setCursor, Lexer.adv]; omega
    · simp

end ZnVerif.Model

/-! ## lead 5: the doc comment of `SegChar` — which identifier characters does it exclude? -/
open ZnVerif.Model ZnVerif.Generated ZnVerif.Generated.Tokens in
#eval ((List.range 0x3000).filter fun c => isIdentifierChar c && !decide (SegChar c))
open ZnVerif.Model ZnVerif.Generated ZnVerif.Generated.Tokens in
#eval (((List.range 0x30000).filter fun c => isIdentifierChar c && !decide (SegChar c)).length, IdRange.idMax)

namespace ZnVerif.Proofs.RenderLex
open ZnVerif.Model ZnVerif.Generated ZnVerif.Generated.Tokens ZnVerif.Spec
open ZnVerif.Spec.Segment (kwAt)

/-- ONE statement for `matchKeyword_eq_kwAt`+`kwAt_D` (LexSegment), `matchKeyword_eof` (LexSegment), `matchKeyword_here`
(RenderLexItems), `matchKeyword_rest` (RenderGapItems): the table lookup is the documented keyword at the head of the text -/
theorem matchKeyword_doc (l : Lexer) : matchKeyword l = kwAt Keywords.documented (here l) := by
  cases h : here l with
  | nil => rw [matchKeyword_eof l (here_nil h).1]; rfl
  | cons c r => rw [matchKeyword_eq_kwAt, (here_cons h).1, (here_cons h).2, kwAt_D]

theorem matchKeyword_rest' {l : Lexer} {rest : List Nat} (h : here l = rest) :
    (matchKeyword l).isSome = (kwAt Keywords.documented rest).isSome := by rw [matchKeyword_doc, h]

end ZnVerif.Proofs.RenderLex
