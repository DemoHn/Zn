import ZnVerif.Proofs.HeapFrames
import ZnVerif.Proofs.InsertArray
set_option linter.unusedSectionVars false
set_option linter.unusedVariables false

namespace ZnVerif.Proofs.Leaf
open ZnVerif.Model ZnVerif.Proofs.Calls
variable {ν : Type} [NumOps ν]

/-- `m` only looks: it ends in the state it started from, and never with a loop signal -/
structure Reads {α} (m : M ν α) : Prop where
  same : ∀ s, (m s).2 = s
  nosig : ∀ s, isLoopSig (m s).1 = false

section reads
variable {α β : Type} {rc : Recv}

theorem Reads.res (r : Res α) (h : isLoopSig r = false) : Reads (liftRes r : M ν α) := ⟨fun _ => rfl, fun _ => h⟩
theorem Reads.pure (a : α) : Reads (pure a : M ν α) := .res _ rfl
theorem Reads.rtErr (c : Nat) : Reads (rtErr c : M ν α) := .res _ rfl
theorem Reads.goPanic : Reads (goPanic : M ν α) := .res _ rfl
theorem Reads.outOfFuel : Reads (outOfFuel : M ν α) := .res _ rfl
theorem Reads.getCell (a : Addr) : Reads (getCell (ν := ν) a) :=
  ⟨fun s => by unfold Model.getCell; split <;> rfl, fun s => by unfold Model.getCell; split <;> rfl⟩

theorem Reads.bind {m : M ν α} {f : α → M ν β} (hm : Reads m) (hf : ∀ a, Reads (f a)) : Reads (m >>= f) := by
  refine ⟨fun s => ?_, fun s => ?_⟩ <;>
  · rw [M_bind_def]
    have h1 := hm.same s; have h2 := hm.nosig s
    rcases h : m s with ⟨r, s'⟩
    rw [h] at h1 h2
    cases h1
    cases r <;> first | rfl | exact h2 | exact (hf _).same _ | exact (hf _).nosig _

theorem Reads.ite {c : Prop} [Decidable c] {a b : M ν α} (ha : Reads a) (hb : Reads b) : Reads (if c then a else b) := by
  split <;> assumption

theorem Reads.closed : Closed (fun {α} (m : M ν α) => Reads m) := ⟨Reads.pure, Reads.bind⟩

/-- what only looks is a `Leaf` whatever the receiver -/
theorem Reads.leaf {m : M ν α} (h : Reads m) : Leaf rc m := .ofConst h.same h.nosig

end reads

theorem Reads.display : ∀ (n : Nat) (a : Addr), Reads (display (ν := ν) n a)
  | 0, _ => .outOfFuel
  | n+1, a => by
    have ih := Reads.display n
    unfold Model.display
    refine .bind (.getCell a) fun c => ?_
    cases c with
    | arr items => exact .bind (Reads.closed.mapM fun x _ => ih x) fun _ => .pure _
    | hm vals order =>
      refine .bind (Reads.closed.mapM fun k _ => ?_) fun _ => .pure _
      split
      · exact .bind (ih _) fun _ => .pure _
      · exact .goPanic
    | obj c _ => exact .bind (.getCell c) fun d => by split <;> first | exact .pure _ | exact .goPanic
    | _ => exact .pure _

theorem Reads.compareXEQ : ∀ (n : Nat) (l r : Addr), Reads (compareXEQ (ν := ν) n l r)
  | 0, _, _ => .outOfFuel
  | n+1, l, r => by
    have ih := Reads.compareXEQ n
    unfold Model.compareXEQ
    refine .bind (.getCell l) fun cl => .bind (.getCell r) fun cr => ?_
    cases cl with
    | arr xs => cases cr <;> first | exact .pure _ | exact .ite (.pure _) (Reads.closed.allM fun p _ => ih _ _)
    | hm lv lo =>
      cases cr <;> first | exact .pure _ | refine .ite (.pure _) (Reads.closed.allM fun k _ => ?_)
      split
      · exact .pure _
      · split
        · exact .goPanic
        · exact ih _ _
    | null | num _ | str _ | bool _ => exact .pure _
    | _ => exact .rtErr _

theorem Reads.validateOne (a : Addr) (ty : String) : Reads (validateOne a ty : M ν Unit) :=
  .bind (.getCell a) fun _ => .ite (.pure _) (.rtErr _)

theorem Reads.validateExact (vals : List Addr) (tys : List String) : Reads (validateExact vals tys : M ν Unit) :=
  .ite (.rtErr _) (Reads.closed.forM fun _ _ => .validateOne _ _)

theorem Reads.validateAll (vals : List Addr) (ty : String) : Reads (validateAll vals ty : M ν Unit) :=
  Reads.closed.forM fun _ _ => .validateOne _ _

theorem Reads.goContains (n : Nat) (x : Addr) : ∀ l, Reads (builtinMethod.goContains n x l : M ν Bool)
  | [] => .pure _
  | i :: rest => by
    unfold builtinMethod.goContains
    exact .bind (.compareXEQ n i x) fun b => .ite (.pure _) (Reads.goContains n x rest)

theorem Reads.goFind (n : Nat) (x : Addr) : ∀ l k, Reads (builtinMethod.goFind n x l k : M ν Int)
  | [], _ => .pure _
  | i :: rest, k => by
    unfold builtinMethod.goFind
    exact .bind (.compareXEQ n i x) fun b => .ite (.pure _) (Reads.goFind n x rest _)

theorem Reads.goArith (op : ν → ν → ν) (cz : Bool) : ∀ l acc, Reads (builtinMethod.goArith op cz acc l : M ν ν)
  | [], _ => .pure _
  | v :: rest, acc => by
    unfold builtinMethod.goArith
    refine .bind (.getCell v) fun c => ?_
    split
    · exact .ite (.rtErr _) (Reads.goArith op cz rest _)
    · exact .goPanic

end ZnVerif.Proofs.Leaf

namespace ZnVerif.Scratch
open ZnVerif.Model ZnVerif.Proofs.Leaf ZnVerif.Proofs.Calls

variable {ν : Type} [NumOps ν]

/-- How a method ends, `L` being the addresses a new cell may link to: with `same`, an answer at hand or a failure that
leaves the state alone (`pure a`, `rtErr`, `goPanic`); with `new`, one more data cell (空 for an empty 左移, the second list
of 合并, the number / text / boolean every non-mutating method answers); with `exc`, `value.ThrowException`. -/
inductive Ans (L : Addr → Prop) : M ν Addr → Prop
  | same {m : M ν Addr} : Reads m → Ans L m
  | new (d : Cell ν) : d.isRefKind = false → (∀ y ∈ d.children, L y) → Ans L (alloc d)
  | exc (msg : String) : Ans L (throwException msg)

/-- What a method does to get the links it will store, `A` being the sources (the arguments): `dup` duplicates a source;
`new` allocates a cell without links (the texts of 分隔); `cell` reads the cell at a source, whose links are sources from
then on (合并 reads each argument list and duplicates its items); `mapM` does any of this along a list; `panic` gives up.
Of an answer `b`, the addresses `out b` are what the method may link to afterwards. -/
inductive Prep (n : Nat) : (Addr → Prop) → (β : Type) → M ν β → (β → Addr → Prop) → Prop
  | panic {A β out} : Prep n A β goPanic out
  | dup {A} (x : Addr) : A x → Prep n A Addr (dup n x) fun b y => y = b
  | new {A} (d : Cell ν) : d.isRefKind = false → d.children = [] → d.wf = true → Prep n A Addr (alloc d) fun b y => y = b
  | cell {A β out} (v : Addr) {g : Cell ν → M ν β} : A v →
      (∀ d, Prep n (fun x => A x ∨ x ∈ d.children) β (g d) out) → Prep n A β (getCell v >>= g) out
  | mapM {A} {α β : Type} {out} (l : List α) {f : α → M ν β} : (∀ x ∈ l, Prep n A β (f x) out) →
      Prep n A (List β) (l.mapM f) fun bs y => ∃ b ∈ bs, out b y

/-- A method on the receiver `a`, whose cell is `c`, with sources `A`; `L` are the addresses it may link to, at the start
the links of `c`.  `read`: a step that changes nothing (parameter checks, reading an argument, comparing, 读取's descent);
`pre`: a `Prep`, whose results join `L`; `store`: the one write — `a`'s own cell, of a kind that is copied, by a data cell
over `L` that is well formed if `c` was — and the end; `ans`: the end without a write. -/
inductive Method (n : Nat) (a : Addr) (c : Cell ν) (A : Addr → Prop) : (Addr → Prop) → M ν Addr → Prop
  | read {L} {β : Type} {m : M ν β} {k : β → M ν Addr} : Reads m → (∀ x, Method n a c A L (k x)) →
      Method n a c A L (m >>= k)
  | pre {L} {β : Type} {out} {m : M ν β} {k : β → M ν Addr} : Prep n A β m out →
      (∀ b, Method n a c A (fun y => L y ∨ out b y) (k b)) → Method n a c A L (m >>= k)
  | store {L} (c' : Cell ν) {k : M ν Addr} : (sortOf c' == sortOf c) = true → (sortOf c).mutable = true → c.isMutable = true → c'.isRefKind = false → (c.wf = true → c'.wf = true) →
      (∀ y ∈ c'.children, L y) → Ans L k → Method n a c A L (setCell a c' >>= fun _ => k)
  | ans {L} {m : M ν Addr} : Ans L m → Method n a c A L m

/-! ## the arms of `builtinMethod`, gone through once -/

theorem mem_set_set {items : List Addr} {i j : Nat} {x0 x1 y : Addr} (h0 : x0 ∈ items) (h1 : x1 ∈ items)
    (hy : y ∈ (items.set i x1).set j x0) : y ∈ items := by
  rcases List.mem_or_eq_of_mem_set hy with hy | rfl
  · rcases List.mem_or_eq_of_mem_set hy with hy | rfl
    · exact hy
    · exact h1
  · exact h0

theorem mem_of_mem_dropLast' {α} {l : List α} {y : α} (h : y ∈ l.dropLast) : y ∈ l := by
  rw [List.dropLast_eq_take] at h
  exact List.mem_of_mem_take h

theorem mem_insertArrayValue {items items' : List Addr} {idx : Int} {x y : Addr}
    (h : insertArrayValue items idx x = .ok items') (hy : y ∈ items') : y ∈ items ∨ y = x := by
  by_cases hg : idx < 0 ∧ (items.length : Int) + idx < 0
  · rw [Proofs.Bridges.insertArrayValue_bridge, (Proofs.Containers.insertArrayValue_panic_iff items idx x).2 hg] at h; cases h
  · rw [Proofs.Bridges.insertArrayValue_eq items idx x hg] at h; cases h; exact Proofs.Containers.mem_insertNth hy

theorem hm_wf_of {vals vals' : List (String × Addr)} {order order' : List String}
    (h : dictWF vals order → dictWF vals' order') : (Cell.hm vals order : Cell ν).wf = true → (Cell.hm vals' order' : Cell ν).wf = true := by
  intro hw
  have : dictWF vals order := by simpa [Cell.wf] using hw
  simpa [Cell.wf] using h this

theorem shape_goGet {n : Nat} {a : Addr} {c : Cell ν} {A L : Addr → Prop} :
    ∀ (l : List Addr) (cur : Addr), Method (ν := ν) n a c A L (builtinMethod.goGet cur l)
  | [], cur => by unfold builtinMethod.goGet; exact .ans (.same (.pure _))
  | k :: rest, cur => by
    unfold builtinMethod.goGet
    refine .read (.getCell k) fun ck => ?_
    split
    · refine .read (.getCell cur) fun cc => ?_
      split
      · split
        · exact shape_goGet rest _
        · exact .ans (.new _ rfl nofun)
      · exact .ans (.new _ rfl nofun)
    · exact .ans (.same .goPanic)

theorem readTexts_same {α : Type} (f : String → α) (l : List Addr) :
    Reads (l.mapM fun v => do match ← getCell v with | .str t => pure (f t) | _ => goPanic : M ν (List α)) :=
  Reads.closed.mapM fun v _ => Reads.bind (.getCell v) fun c => by split <;> first | exact .pure _ | exact .goPanic

/-- every method, whatever its name and its arguments, has the shape `Method` on the cell it finds at the receiver -/
theorem builtinMethod_shape (n : Nat) (a : Addr) (name : String) (vals : List Addr) :
    ∃ body : Cell ν → M ν Addr, builtinMethod n a name vals = getCell a >>= body ∧
      ∀ c, Method n a c (· ∈ vals) (· ∈ c.children) (body c) := by
  unfold builtinMethod
  refine ⟨_, rfl, fun c => ?_⟩
  have hval : ∀ tys, Reads (validateExact (ν := ν) vals tys) := fun _ => Reads.validateExact _ _
  have hall : ∀ ty, Reads (validateAll (ν := ν) vals ty) := fun _ => Reads.validateAll _ _
  have bad : ∀ {L : Addr → Prop}, Method (ν := ν) n a c (· ∈ vals) L goPanic := .ans (.same .goPanic)
  have err : ∀ {L : Addr → Prop} (k : Nat), Method (ν := ν) n a c (· ∈ vals) L (rtErr k) := fun _ => .ans (.same (.rtErr _))
  have new : ∀ {L : Addr → Prop} (d : Cell ν), d.isRefKind = false → d.children = [] →
      Method (ν := ν) n a c (· ∈ vals) L (alloc d) := fun d h1 h2 => .ans (.new d h1 (by rw [h2]; nofun))
  -- below, `case h_k` is the k-th arm of the `match name with` of that receiver kind in Model/Interp.lean (the comment names
  -- it): arms are paired by position, so an arm inserted or moved there has to be moved here
  cases c with
  | arr items =>
    dsimp only
    split
    case h_1 | h_2 => -- 新增, 添加
      refine .read (hval _) fun _ => ?_
      split
      · refine .read (.getCell _) fun cp => ?_
        split
        · split
          · exact err _
          · refine .pre (.dup _ List.mem_cons_self) fun x' => ?_
            split
            · rename_i items' hi
              exact .store _ rfl rfl rfl rfl (fun _ => rfl) (fun y hy => mem_insertArrayValue hi hy) (.same (.pure _))
            · exact bad
        · exact bad
      · exact bad
    case h_3 => -- 前增
      refine .read (hval _) fun _ => ?_
      split
      · exact .pre (.dup _ List.mem_cons_self) fun x' => .store _ rfl rfl rfl rfl (fun _ => rfl)
          (fun y hy => by simpa [Cell.children, or_comm] using hy) (.same (.pure _))
      · exact bad
    case h_4 => -- 后增
      refine .read (hval _) fun _ => ?_
      split
      · exact .pre (.dup _ List.mem_cons_self) fun x' => .store _ rfl rfl rfl rfl (fun _ => rfl)
          (fun y hy => by simpa [Cell.children] using hy) (.same (.pure _))
      · exact bad
    case h_5 => -- 左移
      split
      · exact .store _ rfl rfl rfl rfl (fun _ => rfl) nofun (.new _ rfl nofun)
      · exact .store _ rfl rfl rfl rfl (fun _ => rfl) (fun y hy => List.mem_cons_of_mem _ hy) (.same (.pure _))
    case h_6 => -- 右移
      split
      · exact .store _ rfl rfl rfl rfl (fun _ => rfl) nofun (.new _ rfl nofun)
      · exact .store _ rfl rfl rfl rfl (fun _ => rfl) (fun y hy => mem_of_mem_dropLast' hy) (.same (.pure _))
    case h_7 => -- 拼接
      refine .read (Reads.validateAll _ _) fun _ => .read (hval _) fun _ => ?_
      split
      · refine .read (.getCell _) fun cc => ?_
        split
        · exact .read (readTexts_same id items) fun ss => new _ rfl rfl
        · exact bad
      · exact bad
    case h_8 => -- 合并: each argument list is read and its items are duplicated
      have hl : ∀ extra : List (List Addr), ∀ y ∈ (Cell.arr (items ++ extra.flatten) : Cell ν).children,
          y ∈ items ∨ ∃ l ∈ extra, ∃ b ∈ l, y = b := fun extra y hy => by
        simpa [Cell.children, List.mem_flatten] using hy
      refine .read (hall _) fun _ => .pre (.mapM vals fun v hv => .cell v hv fun d => ?_) fun extra =>
        .store _ rfl rfl rfl rfl (fun _ => rfl) (hl extra) (.new _ rfl (hl extra))
      split
      · exact .mapM _ fun x hx => .dup x (.inr hx)
      · exact .panic
    case h_9 => -- 包含
      refine .read (hval _) fun _ => ?_
      split
      · exact .read (Reads.goContains n _ items) fun b => new _ rfl rfl
      · exact bad
    case h_10 => -- 寻找
      refine .read (hval _) fun _ => ?_
      split
      · exact .read (Reads.goFind n _ items 0) fun k => new _ rfl rfl
      · exact bad
    case h_11 => -- 交换
      refine .read (hval _) fun _ => ?_
      split
      · refine .read (.getCell _) fun cp => .read (.getCell _) fun cq => ?_
        split
        · split
          · exact err _
          · split
            · exact err _
            · split
              · rename_i x0 x1 h0 h1
                exact .store _ rfl rfl rfl rfl (fun _ => rfl)
                  (fun y hy => mem_set_set (List.mem_of_getElem? h0) (List.mem_of_getElem? h1) hy) (.same (.pure _))
              · exact bad
        · exact bad
      · exact bad
    case h_12 => exact err _
  | hm vs order =>
    dsimp only
    split
    case h_1 => exact .read (hall _) fun _ => shape_goGet vals a -- 读取
    case h_2 => -- 写入
      refine .read (hval _) fun _ => ?_
      split
      · refine .read (.getCell _) fun ck => ?_
        split
        · rename_i key
          exact .pre (.dup _ (List.mem_cons_of_mem _ List.mem_cons_self)) fun v' =>
            .store (.hm (hmAppend vs order key v').1 (hmAppend vs order key v').2) rfl rfl rfl rfl (hm_wf_of (hmAppend_wf key v'))
              (fun y hy => snd_mem_hmAppend hy) (.same (.pure _))
        · exact bad
      · exact bad
    case h_3 => -- 移除
      refine .read (hval _) fun _ => ?_
      split
      · refine .read (.getCell _) fun ck => ?_
        split
        · split
          · exact .store _ rfl rfl rfl rfl (hm_wf_of (erase_wf _)) (fun y hy => snd_mem_assocErase hy) (.same (.pure _))
          · exact new _ rfl rfl
        · exact bad
      · exact bad
    case h_4 => exact err _
  | num x =>
    dsimp only
    split
    case h_1 | h_2 | h_3 | h_4 => -- 加 减 乘 除
      exact .read (hall _) fun _ => .read (Reads.goArith _ _ vals x) fun r => new _ rfl rfl
    case h_5 | h_6 => -- 自增, 自减
      refine .read (hval _) fun _ => ?_
      split
      · refine .read (.getCell _) fun cv => ?_
        split
        · exact .store _ rfl rfl rfl rfl (fun _ => rfl) nofun (.same (.pure _))
        · exact bad
      · exact bad
    case h_7 | h_8 => exact new _ rfl rfl -- 向下取整, 向上取整
    case h_9 => exact err _
  | str s =>
    dsimp only
    split
    case h_1 => exact .read (hall _) fun _ => .read (readTexts_same id vals) fun ss => new _ rfl rfl -- 拼接
    case h_2 | h_3 | h_4 => -- 匹配, 匹配开头, 匹配结尾
      refine .read (hval _) fun _ => ?_
      split
      · refine .read (.getCell _) fun cv => ?_
        split
        · exact new _ rfl rfl
        · exact bad
      · exact bad
    case h_5 => -- 替换
      refine .read (hval _) fun _ => ?_
      split
      · refine .read (.getCell _) fun cp => .read (.getCell _) fun cq => ?_
        split
        · exact new _ rfl rfl
        · exact bad
      · exact bad
    case h_6 => -- 分隔: new text cells, then a list over them
      refine .read (hval _) fun _ => ?_
      split
      · refine .read (.getCell _) fun cv => ?_
        split
        · exact .pre (.mapM _ fun p _ => .new _ rfl rfl rfl) fun cs => .ans (.new _ rfl fun y hy => .inr (by
            simpa [Cell.children] using hy))
        · exact bad
      · exact bad
    case h_7 => -- 取样
      refine .read (hval _) fun _ => ?_
      split
      · refine .read (.getCell _) fun cp => .read (.getCell _) fun cq => ?_
        split
        · split
          · exact new _ rfl rfl
          · exact .ans (.exc _)
          · exact .ans (.exc _)
          · exact bad
        · exact bad
      · exact bad
    case h_8 => exact new _ rfl rfl -- 去除空格
    case h_9 | h_10 => -- 转小写-英文, 转大写-英文
      split
      · exact new _ rfl rfl
      · exact .ans (.same (.res _ rfl))
    case h_11 => -- 格式化
      exact .read (hall _) fun _ => .read (readTexts_same textBytes vals) fun ss => new _ rfl rfl
    case h_12 => -- 转换数值: the write comes first, whatever the answer
      refine .store _ rfl rfl rfl rfl (fun _ => rfl) nofun ?_
      split
      · exact .new _ rfl nofun
      · exact .exc _
      · exact .same (.res _ rfl)
    case h_13 => exact err _
  | _ => exact err _

end ZnVerif.Scratch

namespace ZnVerif.Scratch
open ZnVerif.Model ZnVerif.Proofs.Leaf ZnVerif.Proofs.Calls
variable {ν : Type} [NumOps ν] {rc : Recv}

theorem data_of_notRef {d : Cell ν} (h : d.isRefKind = false) : (sortOf d).data = true := by
  cases d <;> first | rfl | cases h

theorem Ans.leaf {L : Addr → Prop} {m : M ν Addr} (h : Ans (ν := ν) L m) : Leaf rc m := by
  cases h with
  | same p => exact p.leaf
  | new d hk _ => exact .alloc (data_of_notRef hk)
  | exc msg => exact .bind (.alloc rfl) fun _ => .throwSigExc _

theorem Prep.leaf {n : Nat} {A : Addr → Prop} {β : Type} {m : M ν β} {out : β → Addr → Prop} (h : Prep n A β m out) :
    Leaf rc m := by
  induction h with
  | panic => exact .goPanic
  | dup x _ => exact .dup n x
  | new d hk _ _ => exact .alloc (data_of_notRef hk)
  | cell v _ _ ih => exact .bind (.getCell v) ih
  | mapM l _ ih => exact Leaf.closed.mapM ih

/-- a method writes no cell but the receiver's, and that one by a cell of its sort -/
theorem Method.leaf {n : Nat} {a : Addr} {c : Cell ν} {A L : Addr → Prop} {m : M ν Addr} (h : Method n a c A L m) :
    Leaf (some (a, sortOf c)) m := by
  induction h with
  | read p _ ih => exact .bind p.leaf ih
  | pre hP _ ih => exact .bind hP.leaf ih
  | store c' hs hm _ _ _ _ hans => exact .bind (.setCell (eq_of_beq hs) hm) fun _ => hans.leaf
  | ans hans => exact hans.leaf

theorem runs_builtinMethod' (n : Nat) (a : Addr) (name : String) (vals : List Addr) :
    Runs (some a) (builtinMethod (ν := ν) n a name vals) := by
  obtain ⟨body, e, hb⟩ := builtinMethod_shape (ν := ν) n a name vals
  rw [e]
  exact Runs.enter fun c => (hb c).leaf

end ZnVerif.Scratch
