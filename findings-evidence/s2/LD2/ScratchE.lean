import ZnVerif.Proofs.ModulesLoad
namespace ZnVerif.Proofs.Modules
open ZnVerif.Model.Modules

/-- `SInv.nodup` follows from `SInv.regAll` alone: the registry maps a name to one number -/
theorem nodup_of_regAll {vm : VM}
    (h : ∀ i n, (namesOf vm)[i]? = some n → assoc n vm.nameMap = some i) : (namesOf vm).Nodup := by
  refine List.pairwise_iff_getElem.2 fun i j hi hj hij e => ?_
  have h1 := h i _ (List.getElem?_eq_getElem hi)
  have h2 := h j _ (List.getElem?_eq_getElem hj)
  rw [e, h2] at h1
  cases h1
  exact Nat.lt_irrefl _ hij
end ZnVerif.Proofs.Modules
