import ZnVerif.Proofs.ModulesLoad

namespace ZnVerif.Proofs.Modules
open ZnVerif.Model.Modules
open ZnVerif.Spec.ModuleSem (Walk HasCycle)
open ZnVerif.Proofs.ModulesDfs

variable {files : Files} {mainSrc : ModuleSrc} {O : Oracle} {libs : Libs}

/-- a closed module is registered: a library, or a custom module that has run -/
theorem SInv.closed_name {vm : VM} (h : SInv files mainSrc vm) {x : Nat} (hx : x ∈ closedOf vm.log) :
    ∃ n, (namesOf vm)[x]? = some n ∧ ((parseLibName n).libType = .std ∨ Ev.body x ∈ vm.log) := by
  rcases mem_closedOf.1 hx with hd | hl
  · obtain ⟨n, hn, _⟩ := h.doneReach x hd
    exact ⟨n, hn, Or.inr (h.doneBody x hd)⟩
  · obtain ⟨n, hn, hs⟩ := h.libStd x hl
    exact ⟨n, hn, Or.inl hs⟩

/-- with the state invariant, three of the nine clauses follow from the other six -/
theorem LInv.of_sinv {vm : VM} {st : List Nat} (hS : SInv files mainSrc vm)
    (topo : Topo vm.graph (st.reverse ++ closedOf vm.log)) (linked : Linked vm.graph st) (nodup : st.Nodup)
    (reg : ∀ n id, assoc n vm.nameMap = some id → id ∈ st ∨ id ∈ closedOf vm.log)
    (sreach : ∀ x, x ∈ st → ∃ nx, (namesOf vm)[x]? = some nx ∧ MReach files mainSrc nx ∧
      ∃ src, msrc files mainSrc nx = some src)
    (nobody : ∀ x, x ∈ st → Ev.body x ∉ vm.log) : LInv files mainSrc vm st := by
  refine ⟨topo, fun a b he => ?_, linked, nodup, fun x hx hc => ?_, reg, fun x hx => ?_, sreach, nobody⟩
  · obtain ⟨na, _, h1, _⟩ := hS.edges a b he
    exact reg na a (hS.regAll a na h1)
  · obtain ⟨n, hn, hs | hb⟩ := hS.closed_name hc
    · obtain ⟨nx, h1, h2, _⟩ := sreach x hx
      rw [hn] at h1; cases h1
      rw [h2.custom] at hs; cases hs
    · exact nobody x hx hb
  · obtain ⟨n, hn, _⟩ := hS.closed_name hx
    exact getElem?_lt hn

end ZnVerif.Proofs.Modules

namespace ZnVerif.Proofs.Modules
open ZnVerif.Model.Modules
open ZnVerif.Spec.ModuleSem (Walk HasCycle)
open ZnVerif.Proofs.ModulesDfs

variable {files : Files} {mainSrc : ModuleSrc} {O : Oracle} {libs : Libs}

theorem LInv.push_new' {vm vm' : VM} {n : Name} {top : Nat} {rest : List Nat}
    (h : LInv files mainSrc vm (top :: rest)) (ha : Alloc vm vm' n top) (hS' : SInv files mainSrc vm')
    (hlb : ∀ x, Ev.body x ∈ vm.log → x < (namesOf vm).length)
    (hreach : MReach files mainSrc n) {sn : ModuleSrc} (hsn : msrc files mainSrc n = some sn) :
    LInv files mainSrc vm' ((namesOf vm).length :: top :: rest) := by
  have hNs : (namesOf vm).length ∉ top :: rest := fun hc => Nat.lt_irrefl _ (h.lt_of_stack hc)
  have hlog := ha.log
  refine LInv.of_sinv hS' ?_ ⟨by rw [ha.graph]; simp, Linked.mono ha.ext.graph h.linked⟩
    (List.nodup_cons.2 ⟨hNs, h.nodup⟩) (fun k id hk => ?_) (fun x hx => ?_) (fun x hx hb => ?_)
  · rw [hlog, ha.graph]
    have := topo_insert (fun x y he hx => Nat.lt_irrefl _ (hx ▸ h.src_lt he))
      (fun e => hNs (by rw [← e]; exact List.mem_cons_self ..)) h.topo (h.disj top (List.mem_cons_self ..))
    simpa [List.reverse_cons, List.append_assoc] using this
  · rw [ha.nameMap, assoc_aset] at hk
    rw [hlog]
    split at hk
    · cases hk; exact Or.inl (List.mem_cons_self ..)
    · exact (h.reg k id hk).imp (List.mem_cons_of_mem _) (fun h => h)
  · rcases List.mem_cons.1 hx with rfl | hx
    · exact ⟨n, ha.names_new, hreach, sn, hsn⟩
    · obtain ⟨nx, h1, h2⟩ := h.sreach x hx
      exact ⟨nx, ha.names_old h1, h2⟩
  · rw [hlog] at hb
    rcases List.mem_cons.1 hx with rfl | hx
    · exact Nat.lt_irrefl _ (hlb _ hb)
    · exact h.nobody x hx hb

theorem LInv.close' {vm vm' : VM} {m : Nat} {rest : List Nat}
    (h : LInv files mainSrc vm (m :: rest)) (hs : Same (vm.record (.body m)) vm')
    (hS' : SInv files mainSrc (vm'.record (.done m))) :
    LInv files mainSrc (vm'.record (.done m)) rest := by
  have hlog : (vm'.record (.done m)).log = Ev.done m :: Ev.body m :: vm.log := congrArg _ hs.log
  have hclosed : closedOf (vm'.record (.done m)).log = m :: closedOf vm.log := by rw [hlog]; rfl
  have hg : vm'.graph = vm.graph := hs.graph
  have hnd := List.nodup_cons.1 h.nodup
  refine LInv.of_sinv hS' ?_ ?_ hnd.2 (fun k i hk => ?_) (fun x hx => ?_) (fun x hx hb => ?_)
  · rw [hclosed]; show Topo vm'.graph _; rw [hg]
    simpa [List.reverse_cons, List.append_assoc] using h.topo
  · show Linked vm'.graph _; rw [hg]; exact h.linked.tail
  · rw [hclosed]
    rcases h.reg k i ((hs.nameMap : vm'.nameMap = vm.nameMap) ▸ hk) with h' | h'
    · rcases List.mem_cons.1 h' with rfl | h'
      · exact Or.inr (List.mem_cons_self ..)
      · exact Or.inl h'
    · exact Or.inr (List.mem_cons_of_mem _ h')
  · show ∃ nx, (namesOf vm')[x]? = _ ∧ _; rw [(hs.names : namesOf vm' = namesOf vm)]
    exact h.sreach x (List.mem_cons_of_mem _ hx)
  · rw [hlog] at hb
    simp at hb
    rcases hb with rfl | hb
    · exact hnd.1 hx
    · exact h.nobody x (List.mem_cons_of_mem _ hx) hb

theorem LInv.new_lib' {vm vm' : VM} {n : Name} {top : Nat} {rest : List Nat}
    (h : LInv files mainSrc vm (top :: rest)) (ha : Alloc vm vm' n top)
    (hS' : SInv files mainSrc (vm'.record (.lib (namesOf vm).length))) :
    LInv files mainSrc (vm'.record (.lib (namesOf vm).length)) (top :: rest) := by
  have hclosed : closedOf (vm'.record (.lib (namesOf vm).length)).log = (namesOf vm).length :: closedOf vm.log := by
    show _ :: closedOf vm'.log = _; rw [ha.log]
  have hNs : (namesOf vm).length ∉ top :: rest := fun hc => Nat.lt_irrefl _ (h.lt_of_stack hc)
  refine LInv.of_sinv hS' ?_ (Linked.mono ha.ext.graph h.linked) h.nodup (fun k id hk => ?_) (fun x hx => ?_)
    (fun x hx hb => h.nobody x hx (ha.log ▸ (List.mem_cons.1 hb).elim nofun (fun h => h)))
  · rw [hclosed]; show Topo vm'.graph _; rw [ha.graph]
    exact topo_insert (fun x y he hx => Nat.lt_irrefl _ (hx ▸ h.src_lt he))
      (fun e => hNs (by rw [← e]; exact List.mem_cons_self ..)) h.topo (h.disj top (List.mem_cons_self ..))
  · rw [hclosed]
    rw [show (vm'.record (.lib (namesOf vm).length)).nameMap = vm'.nameMap from rfl, ha.nameMap, assoc_aset] at hk
    split at hk
    · cases hk; exact Or.inr (List.mem_cons_self ..)
    · exact (h.reg k id hk).imp (fun h => h) (List.mem_cons_of_mem _)
  · obtain ⟨nx, h1, h2⟩ := h.sreach x hx
    exact ⟨nx, ha.names_old h1, h2⟩

theorem LInv.addDep' {vm : VM} {n : Name} {top id : Nat} {rest : List Nat}
    (h : LInv files mainSrc vm (top :: rest)) (hreg : assoc n vm.nameMap = some id) (hcs : vm.cs = some top)
    (hid : id ∈ closedOf vm.log) (hS' : SInv files mainSrc (vm.addModuleDependency n)) :
    LInv files mainSrc (vm.addModuleDependency n) (top :: rest) := by
  rw [addDep_eq hreg hcs] at hS' ⊢
  exact LInv.of_sinv hS' (topo_add_edge (p := (top :: rest).reverse) h.topo (h.disj top (List.mem_cons_self ..)) hid)
    (Linked.mono (fun e he => List.mem_append_left _ he) h.linked) h.nodup
    (fun k i hk => h.reg k i (assoc_aset_idem hreg k ▸ hk)) h.sreach h.nobody

theorem LInv.old_lib' {vm : VM} {id : Nat} {st : List Nat}
    (h : LInv files mainSrc vm st) (hout : ∀ a b, (a, b) ∈ vm.graph → a ≠ id)
    (hS' : SInv files mainSrc (vm.record (.lib id))) : LInv files mainSrc (vm.record (.lib id)) st :=
  LInv.of_sinv hS' (topo_insert_noedge hout h.topo) h.linked h.nodup
    (fun k i hk => (h.reg k i hk).imp (fun h => h) (List.mem_cons_of_mem _)) h.sreach
    (fun x hx hb => h.nobody x hx ((List.mem_cons.1 hb).elim nofun (fun h => h)))

end ZnVerif.Proofs.Modules
