import ZnVerif.Proofs.Heap
import ZnVerif.Proofs.Content
open ZnVerif ZnVerif.Model
def hDup : Array (Cell Int) := #[.num 1, .hm [("a", 0), ("a", 0)] ["a", "a"]]
example : Model.content 5 hDup 1 = none := by decide
example : (Proofs.content 5 hDup 1).isSome = true := by decide
example : Proofs.content 2 hDup 1 = some (.dict [("a", .num 1), ("a", .num 1)]) := by rfl
-- an object cell: the Tree read is defined, the plain spec read is not
def hObj : Array (Cell Int) := #[.obj 0 []]
example : Model.content 1 hObj 0 = some (.ref 0) := by rfl
example : Proofs.content 1 hObj 0 = none := by rfl
