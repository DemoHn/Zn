import ZnVerif.Proofs.ControlFlow
import ZnVerif.Proofs.ControlFlowSpec
open ZnVerif.Model ZnVerif.Proofs.ControlFlow ZnVerif.Proofs.ControlFlow.Toy ZnVerif.Proofs.ControlFlowSpec

def three : Stmt := .iterate 0 (.arr 0 []) [⟨0, "1"⟩, ⟨0, "a"⟩, ⟨0, "b"⟩] (some [])
-- model (= Go: `default: return zerr.MostParamsError(2)`, no MatchIDName before it): runtime error 52
example : errIs (evalStmt 5 three vm0).1 (.rt 52) = true := by decide +kernel
-- spec: the names are classified first: fatal 32
example : (match (ZnVerif.Spec.execS 5 three sp0).1 with | .fatal 32 => true | _ => false) = true := by decide +kernel
