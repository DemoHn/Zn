import ZnVerif.Properties.C15
open ZnVerif.Model.Modules ZnVerif.Spec.ModuleSem ZnVerif.Proofs.Modules
-- `hc` of C15.fix_changes_only_rejected_names is not needed: for a library name both finders answer `emptySrc`
theorem fix_all (files : Files) (n : Name) (hp : plainName n = true) :
    finder .pinned files (parseLibName n) = finder .repaired files (parseLibName n) := by
  rcases libType_cases n with h | h
  · unfold finder; rw [h]
  · exact ZnVerif.Properties.C15.fix_changes_only_rejected_names files n h hp
-- the pinned loader: does a run end with loadFuel? (comment at Model.Modules.loadFuelFor) -- small search
open ZnVerif.Properties.C15.Examples in
#eval (run .pinned Oracle.default
  [(pMain, ⟨[⟨nA, []⟩], [.marker 1]⟩),
   ([zn nA], ⟨[⟨[0x2E, 0x2D, 0x4E59], []⟩], [.marker 2]⟩),
   ([zn nB], ⟨[⟨[0x2E, 0x2D, 0x7532], []⟩], [.marker 3]⟩)] [] 8 pMain).err
open ZnVerif.Properties.C15.Examples in
#eval (run .pinned Oracle.default
  [(pMain, ⟨[⟨[0x2E, 0x2D, 0x4E3B], []⟩], [.marker 1]⟩)] [] 8 pMain).err
open ZnVerif.Properties.C15.Examples in
#eval (run .pinned Oracle.default
  [(pMain, ⟨[⟨nA, []⟩], [.marker 1]⟩),
   ([zn nA], ⟨[⟨[0x2E, 0x2D, 0x4E3B], []⟩], [.marker 2]⟩)] [] 8 pMain).err
