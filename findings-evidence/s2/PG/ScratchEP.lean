import ZnVerif.Proofs.ErrorPrinter
namespace ZnVerif.ScratchEP
open ZnVerif.Generated ZnVerif.Proofs.ErrorPrinter

/-- one unconditional equation for `runLen` (replaces runLen_lt / runLen_ge) -/
theorem runLen_step (p : Nat → Bool) (src : List Nat) (k : Nat) :
    runLen p src k = if k < src.length ∧ p (charAt src k) = true then 1 + runLen p src (k + 1) else 0 := by
  unfold runLen charAt
  by_cases hk : k < src.length
  · rw [List.drop_eq_getElem_cons hk, List.takeWhile_cons]
    by_cases hp : p src[k] = true <;> simp [hk, hp, Nat.add_comm]
  · simp [hk, List.drop_eq_nil_of_le (Nat.le_of_not_lt hk)]

/-- any loop that steps forward while `k < len ∧ p sourceT[k]` stops at the end of the `p`-run -/
theorem scan_eq (p : Nat → Bool) (src : List Nat) (g : Nat → Int → M.Step Int)
    (hg : ∀ f k, k ≤ src.length → g (f + 1) (k : Int) =
      if k < src.length ∧ p (charAt src k) = true then g f ((k + 1 : Nat) : Int) else .ok (k : Int)) :
    ∀ (f k : Nat), k ≤ src.length → src.length - k < f → g f (k : Int) = .ok ((k + runLen p src k : Nat) : Int)
  | f + 1, k, hk, hf => by
    rw [hg f k hk, runLen_step]
    by_cases h : k < src.length ∧ p (charAt src k) = true
    · rw [if_pos h, if_pos h, scan_eq p src g hg f (k + 1) (by omega) (by omega)]
      congr 2; omega
    · rw [if_neg h, if_neg h]; rfl

theorem skipIndent_eq' (src : List Nat) : ∀ (f k : Nat), k ≤ src.length → src.length - k < f →
    M.skipIndent (src ++ [0]) f (k : Int) = .ok ((k + runLen S.isIndent src k : Nat) : Int) :=
  scan_eq S.isIndent src (M.skipIndent (src ++ [0])) fun f k hk => by
    simp only [M.skipIndent, idx_charAt src k hk]
    by_cases hlt : k < src.length
    · simp only [hlt, true_and]; rfl
    · rw [charAt_ge src k (by omega), if_neg (by decide), if_neg (fun h => hlt h.1)]

theorem fwdToLineEnd_eq' (src : List Nat) : ∀ (f k : Nat), k ≤ src.length → src.length - k < f →
    M.fwdToLineEnd (src ++ [0]) (src.length : Int) f (k : Int) = .ok ((k + runLen S.notBreak src k : Nat) : Int) :=
  scan_eq S.notBreak src (M.fwdToLineEnd (src ++ [0]) src.length) fun f k hk => by
    simp only [M.fwdToLineEnd, idx_charAt src k hk, Int.ofNat_lt]
    by_cases hlt : k < src.length
    · simp only [hlt, true_and, if_true]; rfl
    · simp only [hlt, false_and, if_false]

end ZnVerif.ScratchEP

namespace ZnVerif.ScratchEP
open ZnVerif.Generated ZnVerif.Proofs.ErrorPrinter

/-- Go's two-sided clamp of an `int` into `[0, n]` -/
theorem clampInt (n : Nat) (c : Int) :
    (if (if c < 0 then 0 else c) > (n : Int) then (n : Int) else (if c < 0 then 0 else c)) = ((min c.toNat n : Nat) : Int) := by
  split <;> split <;> omega

theorem clamp_cast' (src : List Nat) (cursorIdx : Int) :
    (if (if cursorIdx < 0 then 0 else cursorIdx) > (src.length : Int) then (src.length : Int)
      else (if cursorIdx < 0 then 0 else cursorIdx)) = ((S.clamp src cursorIdx : Nat) : Int) := clampInt _ _

theorem calcCursorOffset_eq' (q : List Nat) (col : Int) :
    M.calcCursorOffset q col = .ok ((((q.take col.toNat).map S.width).sum : Nat) : Int) := by
  unfold M.calcCursorOffset M.sliceTo
  simp only [clampInt]
  rw [if_pos (by omega), Int.toNat_natCast, ← List.take_eq_take_min]
  simp only [sumOffsets_eq, Nat.zero_add]

end ZnVerif.ScratchEP

namespace ZnVerif.ScratchEP
open ZnVerif.Generated ZnVerif.Proofs.ErrorPrinter

/-- what `render` makes of the line starting at `s`, for any start `s` and cursor `c` -/
theorem render_line (src : List Nat) (c s : Nat) (hs : s ≤ src.length) :
    M.render M.calcCursorOffset (src ++ [0]) (c : Int) ((s + runLen S.isIndent src s : Nat) : Int)
        ((s + runLen S.notBreak src s : Nat) : Int)
      = .ok (quotedFrom src s) (((quotedFrom src s).take (c - (s + (indentFrom src s).length))).map S.width).sum := by
  have hr := render_eq (src.take s ++ indentFrom src s) (quotedFrom src s) (restFrom src s ++ [0]) c
  rw [← List.append_assoc, ← decomp src s, List.length_append, List.length_take, Nat.min_eq_left hs,
    Nat.add_assoc, indent_quoted_length, indentFrom_length] at hr
  rw [indentFrom_length]
  exact hr

theorem fmtLine_eq_spec' (src : List Nat) (cursor : Int) :
    M.fmtLine src cursor = .ok (S.quotedLine src cursor) (S.caretCol src cursor) := by
  have hc := clamp_le src cursor
  have ha := anchor_le_length src cursor
  have hs := specStart_le_anchor src cursor
  have hsplit := lineRun_from_start src cursor
  unfold M.fmtLine
  simp only [clamp_cast]
  rw [backOverBreaks_eq src _ _ (by omega) hc]
  simp only []
  rw [backToLineStart_eq src _ _ (by omega) ha]
  simp only []
  rw [skipIndent_eq src _ _ (by unfold specStart at hs; omega) (by omega)]
  simp only []
  rw [fwdToLineEnd_eq src _ _ ha (by omega)]
  simp only []
  have hend : S.anchor src (S.clamp src cursor) + runLen S.notBreak src (S.anchor src (S.clamp src cursor))
      = specStart src cursor + runLen S.notBreak src (specStart src cursor) := by omega
  rw [hend, ← show specStart src cursor = S.lineStart src (S.anchor src (S.clamp src cursor)) from rfl,
    render_line src _ _ (Nat.le_trans hs ha)]
  unfold S.quotedLine S.caretCol
  rw [shown_eq]

end ZnVerif.ScratchEP

namespace ZnVerif.ScratchEP
open ZnVerif.Generated ZnVerif.Proofs.ErrorPrinter

/-- the oracle meets the declarative specification (nothing about the model) -/
theorem shown_correct (src : List Nat) (cursor : Int) :
    Correct src cursor (S.quotedLine src cursor) (S.caretCol src cursor)
      (S.shown src cursor).pre (S.shown src cursor).indent (S.shown src cursor).post where
  anchor_ok := anchor_isAnchor src _
  split := decomp src (specStart src cursor)
  line_at := shown_isLineAt src cursor
  physical := isLineAt_mem _ _ _ _ _ (shown_isLineAt src cursor)
  indent_ok := fun x hx => mem_takeWhile S.isIndent _ x hx
  stripped := by
    show quotedFrom src (specStart src cursor) = (indentFrom src (specStart src cursor) ++ quotedFrom src (specStart src cursor)).dropWhile S.isIndent
    unfold indentFrom quotedFrom
    rw [List.takeWhile_append_dropWhile]
  caret := by
    unfold S.caretCol S.quotedLine
    rw [shown_eq]
    dsimp only
    rw [List.length_take, Nat.min_eq_left (specStart_le_length src cursor)]

theorem display_correct' (src : List Nat) (cursor : Int) (q : List Nat) (col : Nat)
    (h : M.fmtLine src cursor = .ok q col) : ∃ pre indent post, Correct src cursor q col pre indent post := by
  rw [fmtLine_eq_spec] at h
  injection h with hq hcol
  subst hq hcol
  exact ⟨_, _, _, shown_correct src cursor⟩

end ZnVerif.ScratchEP

namespace ZnVerif.ScratchEP
open ZnVerif.Generated ZnVerif.Proofs.ErrorPrinter

-- the conclusion of `caret_under_offender` does not determine the column: for `ab⏎ab`, cursor 1, the printer
-- answers column 1, yet column 0 also satisfies the conclusion (decomposition at the second `ab`)
example : M.fmtLine [0x61, 0x62, 0xA, 0x61, 0x62] 1 = .ok [0x61, 0x62] 1 := by decide
example : let src := [0x61, 0x62, 0xA, 0x61, 0x62]; let q := [0x61, 0x62]; let col := 0
    ∃ pre indent post, src = pre ++ indent ++ q ++ post ∧ (∀ x ∈ indent, S.isIndent x = true) ∧
      (pre = [] ∨ ∃ p b, pre = p ++ [b] ∧ S.isBreak b = true) ∧
      col = ((q.take (S.clamp src 1 - (pre.length + indent.length))).map S.width).sum :=
  ⟨[0x61, 0x62, 0xA], [], [], by decide, by decide, Or.inr ⟨[0x61, 0x62], 0xA, by decide, by decide⟩, by decide⟩
-- a TAB or a control character inside the line counts one column
example : S.width 0x9 = 1 ∧ S.width 0x0 = 1 ∧ S.width 0x1B = 1 := by decide

end ZnVerif.ScratchEP

namespace ZnVerif.ScratchEP
open ZnVerif.Generated ZnVerif.Proofs.ErrorPrinter

theorem runLen_split' (src : List Nat) (a : Nat) (ha : a ≤ src.length) : ∀ (d s : Nat), a = s + d →
    (∀ i, s ≤ i → i < a → S.breakAt src i = false) →
    runLen S.notBreak src s = d + runLen S.notBreak src a
  | 0, s, h, _ => by have : a = s := by omega
                     rw [this]; simp
  | d + 1, s, h, hnb => by
    have h0 : S.notBreak (charAt src s) = true := by
      have := hnb s (Nat.le_refl s) (by omega)
      rw [breakAt_charAt] at this
      simp [S.notBreak, this]
    rw [runLen_step, if_pos ⟨by omega, h0⟩, runLen_split' src a ha d (s + 1) (by omega) (fun i h1 h2 => hnb i (by omega) h2)]
    omega

-- `dropWhile_head` is core's `List.head?_dropWhile_not`
example (p : Nat → Bool) (l : List Nat) (b : Nat) (q : List Nat) (h : l.dropWhile p = b :: q) : p b = false := by
  have := List.head?_dropWhile_not p l
  rwa [h] at this

end ZnVerif.ScratchEP
