import ZnVerif.Proofs.StackBalBlock
namespace ZnVerif.Proofs.StackBal
open ZnVerif.Model ZnVerif.Proofs.Calls
variable {ν : Type} [NumOps ν]
example (n : Nat) (root : Addr) (fname : String) (params : List Addr) (s s' : VM ν) (v : Addr)
    (h : execMethodFunction n root fname params s = (.ok v, s')) : s'.stack = s.stack := by
  have := ((allFr (ν := ν) n).execMethodFunction root fname params).run s
  rw [h] at this
  exact top_lit.1 (this.top rfl)
end ZnVerif.Proofs.StackBal
