import ZnVerif.Proofs.ControlFlow
set_option linter.unusedSectionVars false

namespace ZnVerif.Proofs.ControlFlow
open ZnVerif.Model ZnVerif.Proofs.Calls

variable {ν : Type} [NumOps ν]

/-- the prelude is `bindThis`, the arity check and `bindInputs` of Proofs/Handlers.lean -/
theorem execPrelude_run (inputs : List Ident) (params : List Addr) (s : VM ν) :
    execPrelude inputs params s =
      (do bindThis s; if params.length ≠ inputs.length then rtErr 51 else bindInputs inputs params : M ν Unit) s := by
  unfold execPrelude bindThis
  rw [bind_ok (rfl : getVM s = (.ok s, s))]
  cases s.stack.head? with
  | none => rfl
  | some fr =>
    dsimp only
    split
    · cases fr.this <;> rfl
    · rfl

theorem evalExecBlock_eq' (n : Nat) (inputs : List Ident) (body : Option (List Stmt))
    (catches : List (Option Ident × Option (List Stmt))) (params : List Addr) (s : VM ν) :
    evalExecBlock (n+1) (some (.mk inputs body catches)) params s =
      withScope (do
        let vm ← getVM
        execPrelude inputs params
        tryCatch (evalStmtBlock n body) (finishBlock n vm.csModuleID vm.stack.length catches)) s := by
  rw [Calls.evalExecBlock_eq]
  refine congrArg (fun b => withScope b s) (funext fun s0 => ?_)
  show execBlockBody n inputs body catches params s0 = (execPrelude inputs params >>= _) s0
  unfold execBlockBody
  rw [M_bind_def, M_bind_def, execPrelude_run, M_bind_def]
  rcases bindThis s0 s0 with ⟨r, s1⟩
  cases r <;> try rfl
  dsimp only
  split <;> rfl

end ZnVerif.Proofs.ControlFlow
