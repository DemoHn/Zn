import ZnVerif.Properties.C08
open ZnVerif ZnVerif.Model ZnVerif.Proofs ZnVerif.Proofs.Calls ZnVerif.Properties.C08
variable {ν : Type} [NumOps ν]

theorem matchIDName_ok_inv (lit : String) (s s' : VM ν) (x : String) (h : matchIDName lit s = (.ok x, s')) :
    x = lit ∧ s' = s := by
  simp only [matchIDName, matchIDType, bind] at h
  cases hp : tryParseNumber (strCps lit) <;> rw [hp] at h <;> simp [throwE, pure] at h
  exact ⟨h.1.symm, h.2.symm⟩

example (y : Ident) (res w : Addr) (s s' : VM ν) (r : Addr)
    (h : bindYield (some y) res s = (.ok r, s')) :
    r = res ∧ setElement y.lit w s' = (.err (.rt 44), s') := by
  unfold bindYield at h
  simp only at h
  obtain ⟨x, t, h1, h2⟩ := Calls.bind_ok_inv h
  obtain ⟨rfl, rfl⟩ := matchIDName_ok_inv _ _ _ _ h1
  obtain ⟨u, t2, h3, h4⟩ := Calls.bind_ok_inv h2
  obtain ⟨h5, rfl⟩ := Calls.pure_inv h4
  cases h5
  exact ⟨rfl, set_after_const_declare y.lit res w none _ _ h3⟩
