import ZnVerif.Proofs.LoaderConst
open ZnVerif ZnVerif.Model ZnVerif.Proofs ZnVerif.Proofs.Calls ZnVerif.Proofs.Balance
variable {ν : Type} [NumOps ν]

-- success of matchIDName gives back the literal
theorem matchIDName_ok_inv (lit : String) (s s' : VM ν) (x : String) (h : matchIDName lit s = (.ok x, s')) :
    x = lit ∧ s' = s := by
  simp only [matchIDName, matchIDType, bind] at h
  cases hp : tryParseNumber (strCps lit) <;> rw [hp] at h <;> simp [throwE, pure] at h
  exact ⟨h.1.symm, h.2.symm⟩

-- bindInputs_constBound without the hypothesis `hn`, from forM_constBound
example (inputs : List Ident) (params : List Addr) (names : List String) (s s' : VM ν)
    (hl : params.length = inputs.length) (hb : ConstBound names s)
    (h : bindInputs inputs params s = (.ok (), s')) : ConstBound (inputs.map (·.lit) ++ names) s' := by
  have := forM_constBound (ν := ν)
    (fun p : Ident × Addr => do let name ← matchIDName p.1.lit; declareElement name p.2 true)
    (fun p => p.1.lit) (fun _ => true)
    (by
      intro a t t' ht
      left
      refine ⟨rfl, ?_⟩
      obtain ⟨x, t1, h1, h2⟩ := Calls.bind_ok_inv ht
      obtain ⟨rfl, rfl⟩ := matchIDName_ok_inv _ _ _ _ h1
      exact ⟨_, _, h2⟩)
    (inputs.zip params) names s s' hb h
  refine ConstBound.mono this ?_
  intro x hx
  simp only [List.mem_append, List.mem_map, List.mem_filter, and_true] at hx ⊢
  rcases hx with ⟨i, hi, rfl⟩ | hx
  · left
    obtain ⟨k, hk, rfl⟩ := List.mem_iff_getElem.1 hi
    have hk' : k < params.length := by omega
    exact ⟨(inputs[k], params[k]), by
      apply List.mem_iff_getElem.2
      exact ⟨k, by rw [List.length_zip]; omega, List.getElem_zip⟩, rfl⟩
  · exact Or.inr hx
