import ZnVerif.Properties.C10
import ZnVerif.Properties.C07
import ZnVerif.Properties.C07Sites
import ZnVerif.Properties.C02

-- A1: both sides of the ↔ are false for every member
namespace A1
open ZnVerif.Properties.C10 ZnVerif.Generated
example : ∀ m ∈ Members.members, ¬ (dispatch m = .unmodelled) ∧ ¬ (m ∈ unmodelledMembers) :=
  fun m hm => ⟨by rw [members_all_answered m hm]; exact nofun, List.not_mem_nil⟩
end A1

-- A7
namespace A7
open ZnVerif.Proofs.EvalSites
example : (Mirror.pending "not yet part of this tree").inEvaluatorModel = true := rfl
end A7

-- A2
namespace A2
open ZnVerif.Model ZnVerif.Spec ZnVerif.Proofs
example {ν : Type} [NumOps ν] (ω : Addr → Option (SVal ν)) (b : Bool) (s : VM ν) (σ : SState ν) (x) :
    FinalRel ω b (.err (.rt 1), s) (.raise x, σ) := .raise
example {ν : Type} [NumOps ν] (ω : Addr → Option (SVal ν)) (b : Bool) (s : VM ν) (σ : SState ν) :
    FinalRel ω b (.err (.rt 1), s) (.fatal 99, σ) := .fatal
example {ν : Type} [NumOps ν] (ω : Addr → Option (SVal ν)) (b : Bool) (s : VM ν) (σ : SState ν) :
    FinalRel ω b (.err (.sem 5), s) (.fatal 99, σ) := .fatal
end A2

-- A3
namespace ZnVerif.Properties.C07
open ZnVerif.Model
variable {ν : Type} [NumOps ν]
theorem push_back_is_mutation_through' (n : Nat) (a b r x : Addr) (s s' : VM ν) (res : Res Addr) (t : Tree ν)
    (h : builtinMethod n r "后增" [x] s = (res, s'))
    (ht : content n s.heap x = some t)
    (hr : Reach s.heap b r) (hs : Sep s.heap a b) : MutSeq a b s.heap s'.heap :=
  (builtinMethod_storeStep h (readable1 ⟨n, t, ht⟩)).mutSeq hr hs

-- any name, any outcome
theorem any_mutator (n : Nat) (a b r : Addr) (name : String) (vals : List Addr) (s s' : VM ν) (res : Res Addr)
    (h : builtinMethod n r name vals s = (res, s')) (hv : ∀ v ∈ vals, Readable s.heap v)
    (hr : Reach s.heap b r) (hs : Sep s.heap a b) : MutSeq a b s.heap s'.heap :=
  (builtinMethod_storeStep h hv).mutSeq hr hs

theorem push_back_on_copy_invisible' (n : Nat) (a b r x : Addr) (s s1 s2 : VM ν) (res : Addr)
    (t tx : Tree ν) (ht : content n s.heap a = some t) (hd : dup n a s = (.ok b, s1))
    (hr : Reach s1.heap b r) (htx : content n s1.heap x = some tx)
    (h : builtinMethod n r "后增" [x] s1 = (.ok res, s2)) :
    content n s2.heap a = some t ∧ Sep s2.heap a b := by
  have hp := dup_post ht hd
  have hsep := sep_after_dup ht hd
  exact mutSeq_preserves ((builtinMethod_storeStep h (readable1 ⟨n, tx, htx⟩)).mutSeq hr hsep) n t hsep
    (content_ext hp.ext n a t ht)
end ZnVerif.Properties.C07

namespace ZnVerif.Model
variable {ν : Type} [NumOps ν]
theorem merge_storeStep' {n : Nat} {r : Addr} {vals : List Addr} {cellOf : Addr → List Addr}
    {s s' : VM ν} {res : Res Addr} {ts : List (Tree ν)}
    (h : builtinMethod n r "合并" vals s = (res, s'))
    (hcells : ∀ v ∈ vals, s.heap[v]? = some (.arr (cellOf v)))
    (hts : (vals.flatMap cellOf).mapM (content n s.heap) = some ts) : StoreStep r s.heap s'.heap :=
  builtinMethod_storeStep h fun v hv => readable_of_cell (hcells v hv) rfl fun x hx =>
    let ⟨t, ht, _⟩ := omapM_mem _ _ ts hts x (List.mem_flatMap.2 ⟨v, hv, hx⟩); ⟨n, t, ht⟩
end ZnVerif.Model
#print axioms ZnVerif.Properties.C07.any_mutator
