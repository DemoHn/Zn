import ZnVerif.Properties.C02
import ZnVerif.Proofs.StackBalBlock
open ZnVerif ZnVerif.Model ZnVerif.Proofs ZnVerif.Proofs.Calls ZnVerif.Proofs.StackBal
variable {ν : Type} [NumOps ν]

-- the hypothesis `hst` of C02.return_sets_slot follows from `he`
example (n : Nat) (e : Expr) (t s' : VM ν) (v : Addr) (he : evalExpr n e t = (.ok v, s')) : s'.stack = t.stack := by
  have := ((allFr n).evalExpr e).run t
  rw [he] at this
  exact top_lit.1 (this.top rfl)

example (n ln : Nat) (e : Expr) (s s' : VM ν) (v : Addr) (fr : Frame) (rest : List Frame)
    (hs : s.stack = fr :: rest)
    (he : evalExpr n e { s with stack := { fr with line := ln, started := true } :: rest } = (.ok v, s')) :
    ∃ s'', evalStmt (n+1) (.ret ln e) s = (.ok v, s'') ∧
      s''.stack = { fr with line := ln, started := true, ret := some v } :: rest := by
  refine ZnVerif.Properties.C02.return_sets_slot n ln e s s' v fr rest hs he ?_
  have := ((allFr n).evalExpr e).run { s with stack := { fr with line := ln, started := true } :: rest }
  rw [he] at this
  exact top_lit.1 (this.top rfl)
