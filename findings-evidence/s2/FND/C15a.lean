import ZnVerif.Properties.C14
import ZnVerif.Model.Interp
open ZnVerif ZnVerif.Model ZnVerif.Proofs.TextUtf8

example (s : String) : ValidText (strCps s) := by
  intro c hc
  simp only [strCps, List.mem_map] at hc
  obtain ⟨ch, _, rfl⟩ := hc
  have h := ch.valid
  simp only [UInt32.isValidChar, Nat.isValidChar] at h
  simp only [TextOps.isScalar, Char.toNat, Bool.or_eq_true, Bool.and_eq_true, decide_eq_true_eq]
  omega
