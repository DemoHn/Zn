import ZnVerif.Properties.C12
import ZnVerif.Properties.C13
import ZnVerif.Properties.C14
import ZnVerif.Properties.C17
import ZnVerif.Properties.C19
open ZnVerif.Properties
#print axioms C12.hm_inv
#print axioms C12.dict_refines_ordered_map
#print axioms C12.list_refines_seq
#print axioms C12.delete_edits_in_place_ok
#print axioms C12.index_out_of_range_error_unchanged
#print axioms C13.literal_roundtrip_safe
#print axioms C13.literal_roundtrip_verbatim
#print axioms C13.escape_table
#print axioms C13.unterminated_is_error_27
#print axioms C13.other_backtick_text_literal
#print axioms C14.format_spec
#print axioms C14.directive_table
#print axioms C14.length_chars_slice_consistent
#print axioms C14.split_preserves_characters
#print axioms C14.text_methods_refine_spec
#print axioms C14.history_refines_spec
#print axioms C14.precision_limit
#print axioms C17.chunking_irrelevant
#print axioms C17.invalid_file_rejected
#print axioms C17.bom_once
#print axioms C19.ref_codec_roundtrip
#print axioms C19.zn_json_roundtrip
#print axioms C19.malformed_raises_catchable
