import ZnVerif.Properties.C19
open ZnVerif.Model.Json ZnVerif.Properties.C19

def hexs (n : Nat) : String := String.mk (Nat.toDigits 16 n)
def showNum : Toy → String
  | .zero => "N0" | .one => "N1" | .half => "N0.5" | .minusOne => "N-1" | .inf => "Ninf"
def showStr (s : List Nat) : String := "S" ++ String.join (s.map fun c => hexs c ++ ".")
partial def showJV : JV Toy → String
  | .null => "null"
  | .bool true => "true"
  | .bool false => "false"
  | .num x => showNum x
  | .str s => showStr s
  | .list xs => "[" ++ ",".intercalate (xs.map showJV) ++ "]"
  | .dict kvs => "{" ++ ",".intercalate (kvs.map fun p => showStr p.1 ++ ":" ++ showJV p.2) ++ "}"
  | .other _ => "?"
def run (bs : List Nat) : String :=
  match jsonBytesToElement toyCodec bs with
  | .ok v => "OK " ++ showJV v
  | .raise _ => "RAISE"
  | .rtError _ => "RTERR"
  | .panic => "PANIC"
def hexToBytes (s : String) : List Nat :=
  let cs := s.toList
  let rec go : List Char → List Nat
    | a :: b :: r => ((String.mk [a, b]).toList.foldl (fun acc c => acc * 16 + (if c.isDigit then c.toNat - 48 else c.toNat - 87)) 0) :: go r
    | _ => []
  go cs
def main : IO Unit := do
  let txt ← IO.FS.readFile "/root/w/R/scratch/rE/gojson/in.hex"
  let ls := (txt.splitOn "\n").dropLast
  let mut out := ""
  for l in ls do
    out := out ++ run (hexToBytes l) ++ "\n"
  IO.FS.writeFile "/root/w/R/scratch/rE/gojson/lean.out" out
#eval main
