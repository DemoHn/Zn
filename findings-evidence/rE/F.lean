import ZnVerif.Model.TextMethods
open ZnVerif.Model.TextOps
def main : IO Unit := do
  let txt ← IO.FS.readFile "/root/w/R/scratch/rE/goatof/in.txt"
  let ls := (txt.splitOn "\n").dropLast
  let mut out := ""
  for l in ls do
    let bs := l.toUTF8.toList.map (·.toNat)
    out := out ++ (match atofClass bs with | .number => "N" | .syntaxErr => "S" | .special => "?") ++ "\n"
  IO.FS.writeFile "/root/w/R/scratch/rE/goatof/lean.out" out
#eval main
