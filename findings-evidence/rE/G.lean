import ZnVerif.Properties.C19
open ZnVerif.Model.Json ZnVerif.Properties.C19
def hexs (n : Nat) : String := String.ofList (Nat.toDigits 16 n)
def rs : List Nat := (List.range 0x100) ++ [0x2027, 0x2028, 0x2029, 0x202a, 0xfffd, 0xfffe, 0xffff, 0x10000, 0x1f600, 0x10ffff, 0xd7ff, 0xe000]
#eval match FN_generateJson toyCodec [.dict [(rs, .list [])]] with
  | .ok (.str t) => IO.FS.writeFile "/root/w/R/scratch/rE/gojson/gen.lean.out" (String.join (t.map fun c => hexs c ++ " ") ++ "\n")
  | _ => IO.println "fail"
