import ZnVerif.Model.Utf8
open ZnVerif.Model
def hexs (n : Nat) : String := String.ofList (Nat.toDigits 16 n)
def al : List Nat := [0x00, 0x7f, 0x80, 0x8f, 0x90, 0x9f, 0xa0, 0xbf, 0xc0, 0xc1, 0xc2, 0xdf, 0xe0, 0xe1, 0xec, 0xed, 0xee, 0xef, 0xf0, 0xf1, 0xf3, 0xf4, 0xf5, 0xff]
partial def rec (h : IO.FS.Handle) (p : List Nat) (n : Nat) : IO Unit := do
  let d := utf8DecodeRune p
  h.putStrLn (hexs d.1 ++ " " ++ toString d.2 ++ " " ++ (if fullRune p then "1" else "0"))
  if n == 0 then return
  for b in al do
    rec h (p ++ [b]) (n - 1)
def main : IO Unit := do
  let h ← IO.FS.Handle.mk "/root/w/R/scratch/rE/goutf/lean.out" .write
  rec h [] 4
#eval main
