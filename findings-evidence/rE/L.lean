import ZnVerif.Model.Lexer
open ZnVerif.Model
def hexs (n : Nat) : String := String.ofList (Nat.toDigits 16 n)
def parseHex (s : String) : Nat := s.toList.foldl (fun acc c => acc * 16 + (if c.isDigit then c.toNat - 48 else c.toNat - 87)) 0
def run (src : List Nat) : String :=
  match lexString src with
  | .ok (lit, ty, e) => "OK " ++ String.join (lit.map fun c => hexs c ++ ".") ++ " " ++ toString ty ++ " " ++ toString e
  | .err e => "ERR " ++ toString e.code ++ " " ++ toString e.cursor
  | .panic => "PANIC"
def main : IO Unit := do
  let txt ← IO.FS.readFile "/root/w/R/scratch/rE/golex/in.txt"
  let ls := (txt.splitOn "\n").dropLast
  let mut out := ""
  for l in ls do
    let src := (l.splitOn " ").filter (· ≠ "") |>.map parseHex
    out := out ++ run src ++ "\n"
  IO.FS.writeFile "/root/w/R/scratch/rE/golex/lean.out" out
#eval main
