import ZnVerif.Properties.C08
import ZnVerif.Properties.Bridges
open ZnVerif ZnVerif.Model ZnVerif.Proofs.Calls ZnVerif.Proofs.Balance

variable {ν : Type} [NumOps ν]

-- chain_feeds_result holds for ANY step function (nothing about the model)
theorem chain_generic (f : Addr → Expr → M ν Addr) (cur r : Addr) (c : Expr) (cs : List Expr) (s s1 : VM ν)
    (h : f cur c s = (.ok r, s1)) :
    (c :: cs).foldlM f cur s = cs.foldlM f r s1 := by
  rw [List.foldlM_cons, bind_ok h]
#print axioms chain_generic

-- SortedDepths (what well_scoped_invariant preserves) does not give SimI (what the bridge needs)
example : SortedDepths ({ syms := [], depth := -1 } : Model.Scope) ∧
    ¬ ∃ d, ZnVerif.Proofs.Bridges.SimI ({ syms := [], depth := -1 } : Model.Scope) d := by
  refine ⟨⟨List.Pairwise.nil, by intro sy h; cases h⟩, ?_⟩
  rintro ⟨d, h⟩
  have := h.depth
  simp at this

-- a symbol with depth -3 is SortedDepths at depth 0 but not SimI
example : SortedDepths ({ syms := [⟨"x", -3, false, none, 0⟩], depth := 0 } : Model.Scope) := by
  refine ⟨by simp, ?_⟩
  intro sy h; simp at h; subst h; decide
