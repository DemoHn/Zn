import ZnVerif.Properties.C06
open ZnVerif ZnVerif.SymTab ZnVerif.Spec.Scopes ZnVerif.Proofs.Scope ZnVerif.Proofs.ScopeSpec ZnVerif.Properties.C06

-- const_assign_error_keeps_value instantiated: body2 from C06.lean
example : ∃ σ₁ : Scope Nat, σ₁.step (.assign "x" 9) = .ok (σ₁, .err 44) ∧ σ₁.step (.lookup "x") = .ok (σ₁, .val 3) := by
  have hnt : ∀ op ∈ body2, ¬ touches "x" op := by
    intro op hop
    simp only [body2, List.mem_cons, List.mem_nil_iff, or_false] at hop
    rcases hop with rfl | rfl | rfl | rfl <;> simp [touches, writes]
  exact ⟨_, const_assign_error_keeps_value (Scope.new : Scope Nat) 0 sim_new "x" 3 body2 1 (by decide) hnt (by decide) _ _ rfl 9⟩

-- redeclare_same_block_error instantiated
example : ∃ σ₁ : Scope Nat, σ₁.step (declOf "x" 5 true) = .ok (σ₁, .err 43) :=
  ⟨_, redeclare_same_block_error (Scope.new : Scope Nat) 0 sim_new "x" 2 false body1 (by decide) (by decide) _ _ rfl 5 true⟩
