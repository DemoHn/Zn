import ZnVerif.Properties.C04
open ZnVerif ZnVerif.Model ZnVerif.Spec ZnVerif.Generated ZnVerif.Properties.C04

set_option maxRecDepth 1000000 in
example : ∀ k ∈ Keywords.documented, ∀ c ∈ k.1, SegChar c := by decide +kernel

set_option maxRecDepth 1000000 in
example : SegChar 0x24 ∧ SegChar 0x5E ∧ SegChar 0x5F ∧ SegChar 0x30 ∧ ¬ SegChar 0x2E ∧ ¬ SegChar 0x25 := by decide +kernel

#eval (lexAll 20 (mkLexer [0x7532, 0x2B, 0x20, 0x4E59]) []).1.map (fun t => (t.type, t.literal, t.startIdx, t.endIdx))
#eval (lexAll 20 (mkLexer [0x31, 0x2E, 0x35]) []).1.map (fun t => (t.type, t.literal, t.startIdx, t.endIdx))
#eval tryParseNumber [0x31, 0x2A, 0x31, 0x30, 0x5E, 0x2B, 0x35]
#eval tryParseNumber [0x31, 0x2A, 0x31, 0x5E, 0x35]
#eval tryParseNumber [0x31, 0x2E, 0x35, 0x45, 0x2D, 0x33]
#eval tryParseNumber [0x2D]
#eval tryParseNumber [0x2D, 0x2D, 0x31]
#eval tryParseNumber [0x31, 0x32, 0x38, 0x6B, 0x67]
