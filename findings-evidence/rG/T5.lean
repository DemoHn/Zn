import ZnVerif.Model.ParserLex
open ZnVerif ZnVerif.Model

def alpha : Array Nat := #[0x20, 0x09, 0x0A, 0x61, 0x201C, 0x201D]

def isPanic (src : List Nat) : Bool :=
  match (lexAll (4 * src.length + 16) (mkLexer src) []).2.1 with
  | some .panic => true
  | _ => false

partial def enum (n : Nat) (acc : List Nat) (found : IO.Ref (List (List Nat))) : IO Unit := do
  if isPanic acc then found.modify (acc :: ·)
  if n = 0 then return
  for c in alpha do
    enum (n - 1) (acc ++ [c]) found

def main : IO Unit := do
  let r ← IO.mkRef ([] : List (List Nat))
  enum 8 [] r
  let l ← r.get
  IO.println s!"panics: {l.length}"
  for x in l.take 10 do IO.println s!"{x}"

#eval main
