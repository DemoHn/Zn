import ZnVerif.Properties.C04
open ZnVerif ZnVerif.Model ZnVerif.Spec ZnVerif.Generated ZnVerif.Properties.C04

#eval (List.range 0x10000).filter (fun c => isIdentifierChar c && !(decide (SegChar c)))
#eval ((List.range 0x10000).filter (fun c => isIdentifierChar c)).length
#eval Tokens.markOperators
#eval Tokens.identTerminatorsHead
#eval Tokens.markPunctuations
