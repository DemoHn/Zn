import ZnVerif.Properties.C03Chars
import ZnVerif.Properties.C03LayoutsExample
import ZnVerif.Properties.C03LiteralExample
import ZnVerif.Properties.C03StmtExample
import ZnVerif.Properties.C04
import ZnVerif.Properties.C05VarInput
open ZnVerif.Properties
#print axioms C03.parse_render_doc
#print axioms C03.lex_rendered_doc
#print axioms C03.parse_statements_roundtrip
#print axioms C03.comments_are_invisible
#print axioms C03.rendering_unambiguous
#print axioms C04.number_form
#print axioms C04.lex_is_greedy_segmentation_partial
#print axioms C04.idInRange_is_membership
#print axioms C04.backtick_is_one_identifier
#print axioms C04.operator_needs_delimiter
#print axioms C05VarInput.varinput_compiles_cleanly
#print axioms C05VarInput.varinput_binds_all_in_order
