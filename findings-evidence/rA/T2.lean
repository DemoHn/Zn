import ZnVerif.Properties.C01Dispatch
open ZnVerif ZnVerif.Generated ZnVerif.Proofs.EvalSites

set_option maxRecDepth 100000

-- The statement of `operator_dispatch_as_modelled` does not depend on what is written about the model:
-- replace every "model counterpart" by an arbitrary string, the same equation holds by `rfl`.
theorem dispatch_independent_of_model_column (junk : String) :
    OperatorDispatch.operatorDispatch =
      (modelledOperatorDispatch.map fun d => ({ d with model := junk } : ModelledDispatch)).map (·.entry) := by
  rw [List.map_map]
  exact ZnVerif.Properties.C01Dispatch.operator_dispatch_as_modelled

#print axioms dispatch_independent_of_model_column
#check @ModelledDispatch.model   -- String
