import ZnVerif.Properties.C02
open ZnVerif.Model ZnVerif.Proofs

-- (1) a method call `（f：1）` is not in the fragment of exec_refines_spec / program_refines_spec
theorem call_not_pure : ¬ PureStmt (.expr (.call 0 (some ⟨0, "f"⟩) [.id ⟨0, "1"⟩] none)) := by
  intro h
  cases h with
  | expr _ he => cases he
  | display _ _ _ hn _ => exact absurd hn (by decide)

-- (2) a method definition `如何f？…` is not in the fragment
theorem funcDecl_not_pure (ln : Nat) (nm : Option Ident) (dt : Nat) (x : Option ExecBlock) :
    ¬ PureStmt (.funcDecl ln nm dt x) := by
  intro h; cases h

-- (3) `令 L = 【1，2，3】` (a variable holding a list) is not in the fragment
theorem listDecl_not_pure :
    ¬ PureStmt (.varDecl 0 [(1, [⟨0, "L"⟩], .arr 0 [.id ⟨0, "1"⟩, .id ⟨0, "2"⟩, .id ⟨0, "3"⟩])]) := by
  intro h
  cases h with
  | varDecl _ _ hp =>
    have := (hp _ (List.mem_singleton.2 rfl)).2
    cases this

-- (4) an object-method call `以L（后增：1）`, an index read `L#1`, 新建, 抛出, a class definition: none is in the fragment
theorem mcall_not_pure (r : Expr) (c : List Expr) : ¬ PureStmt (.expr (.mcall 0 r c none)) := by
  intro h; cases h with
  | expr _ he => cases he
theorem member_not_pure (a b c d e f) : ¬ PureExpr (.member a b c d e f) := by
  intro h; cases h
theorem throw_not_pure (a b c) : ¬ PureStmt (.throw a b c) := by intro h; cases h
theorem class_not_pure (a b c d e) : ¬ PureStmt (.classDecl a b c d e) := by intro h; cases h

-- (5) positive: the counter loop  令 i = 0； 每当 i < 3： i = i + 1  IS in the fragment
theorem counter_loop_pure : ∀ st ∈ ([.varDecl 0 [(1, [⟨0, "i"⟩], .id ⟨0, "0"⟩)],
    .while 1 (.logic 1 LogicLT (.id ⟨1, "i"⟩) (.id ⟨1, "3"⟩))
      (some [.expr (.assign 2 (.id ⟨2, "i"⟩) (.arith 2 ArithAdd (.id ⟨2, "i"⟩) (.id ⟨2, "1"⟩)))])] : List Stmt),
    PureStmt st := by
  intro st hst
  simp only [List.mem_cons, List.not_mem_nil, or_false] at hst
  rcases hst with rfl | rfl
  · refine .varDecl _ _ fun p hp => ?_
    simp only [List.mem_cons, List.not_mem_nil, or_false] at hp; subst hp; exact ⟨.id _, .id _⟩
  · refine .while _ _ _ (.logic _ _ _ _ (by decide) (.id _) (.id _)) fun l hl st hst => ?_
    cases hl
    simp only [List.mem_cons, List.not_mem_nil, or_false] at hst; subst hst
    exact .assign _ _ _ (.arith _ _ _ _ (by decide) (.id _) (.id _)) (.arith _ _ _ _)

#print axioms call_not_pure
#print axioms funcDecl_not_pure
#print axioms listDecl_not_pure
#print axioms mcall_not_pure
#print axioms member_not_pure
#print axioms counter_loop_pure
