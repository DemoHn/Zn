import ZnVerif.Properties.C15Interp
open ZnVerif.Model ZnVerif.Model.Modules ZnVerif.Properties.C15Interp ZnVerif.Proofs.LoaderBridge
open ZnVerif.Properties.C15.Examples

def tLib : Files := [(pMain, ⟨[⟨jsonLib, []⟩], []⟩)]
def lLib : Libs := [(jsonLib, [[0x663E, 0x793A]])]

theorem tLib_ok : TableOK tLib := by
  refine ⟨?_, ?_, ?_, ?_⟩
  · decide
  · decide
  · decide
  · intro p src hp imp hi
    simp [tLib] at hp
    obtain ⟨_, rfl⟩ := hp
    simp at hi
    subst hi
    decide

theorem tLib_disagree : agreeB Int tLib lLib 8 60 pMain = false := by decide +kernel

theorem bridge_imports_only_false : ¬ interp_loader_simulates_modules_imports_only_full := by
  intro h
  have := h Int tLib lLib 8 60 pMain tLib_ok (by decide)
  unfold Simulates at this
  rw [tLib_disagree] at this
  cases this
#print axioms bridge_imports_only_false
