import ZnVerif.Properties.C15Interp
open ZnVerif.Model ZnVerif.Model.Modules ZnVerif.Properties.C15Interp ZnVerif.Proofs.LoaderBridge
open ZnVerif.Properties.C15.Examples

def obs (files : Files) :=
  match Modules.assoc pMain files with
  | none => none
  | some src =>
    let o := Modules.run .repaired Oracle.default files [] 8 pMain
    let r := runProgramWith (toFileTable files) (toLibTable []) 60 (toProgram src) [] (initVM (ν := Int) ())
    some (absCode o, interpCode r.1, absModules o, interpModules r.2, absTrace o, interpTrace r.2)
#eval obs cyclic
#eval obs diamond
#eval obs sibling
