import ZnVerif.Properties.C15Interp
open ZnVerif.Model ZnVerif.Model.Modules ZnVerif.Properties.C15Interp ZnVerif.Proofs.LoaderBridge
open ZnVerif.Properties.C15.Examples

-- a module whose body calls the predefined 显示 with no argument / defines a method named 显示
def tGlobDef : Files := [(pMain, ⟨[], [.defn ⟨[0x663E, 0x793A], .method, 3, []⟩, .marker 1]⟩)]
def tGlobUse : Files := [(pMain, ⟨[], [.marker 1, .use (.call [0x663E, 0x793A]), .marker 2]⟩)]

#eval agreeB Int tGlobDef [] 8 60 pMain
#eval agreeB Int tGlobUse [] 8 60 pMain
#eval (absCode (Modules.run .repaired Oracle.default tGlobDef [] 8 pMain), absTrace (Modules.run .repaired Oracle.default tGlobDef [] 8 pMain))
#eval (interpCode (runProgramWith (toFileTable tGlobDef) (toLibTable []) 60 (toProgram ⟨[], [.defn ⟨[0x663E, 0x793A], .method, 3, []⟩, .marker 1]⟩) [] (initVM (ν := Int) ())).1)
#eval (absCode (Modules.run .repaired Oracle.default tGlobUse [] 8 pMain), absTrace (Modules.run .repaired Oracle.default tGlobUse [] 8 pMain))
#eval (interpCode (runProgramWith (toFileTable tGlobUse) (toLibTable []) 60 (toProgram ⟨[], [.marker 1, .use (.call [0x663E, 0x793A]), .marker 2]⟩) [] (initVM (ν := Int) ())).1,
  interpTrace (runProgramWith (toFileTable tGlobUse) (toLibTable []) 60 (toProgram ⟨[], [.marker 1, .use (.call [0x663E, 0x793A]), .marker 2]⟩) [] (initVM (ν := Int) ())).2)
