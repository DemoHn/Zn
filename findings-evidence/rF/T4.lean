import ZnVerif.Properties.C15
open ZnVerif.Model.Modules ZnVerif.Spec.ModuleSem ZnVerif.Properties.C15.Examples

def tRes : Files := [([zn [0x8D77]], ⟨[⟨mainName, []⟩], [.marker 1]⟩), ([zn mainName], ⟨[], [.marker 2]⟩)]
#eval ((run .repaired Oracle.default tRes [] 8 [zn [0x8D77]]).err, (run .repaired Oracle.default tRes [] 8 [zn [0x8D77]]).trace)
#eval resolve mainName
#check @specRun
#eval ((specRun tRes [] 8 [zn [0x8D77]]).err, (specRun tRes [] 8 [zn [0x8D77]]).trace)
