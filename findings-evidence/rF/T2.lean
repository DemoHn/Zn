import ZnVerif.Properties.C15Interp
open ZnVerif.Model ZnVerif.Model.Modules ZnVerif.Properties.C15Interp ZnVerif.Proofs.LoaderBridge
open ZnVerif.Properties.C15.Examples

def tGlobUse : Files := [(pMain, ⟨[], [.marker 1, .use (.call [0x663E, 0x793A]), .marker 2]⟩)]

theorem tGlobUse_ok : TableOK tGlobUse := by
  refine ⟨?_, ?_, ?_, ?_⟩
  · decide
  · decide
  · decide
  · intro p src hp imp hi
    simp [tGlobUse] at hp
    obtain ⟨_, rfl⟩ := hp
    simp at hi

theorem tGlobUse_disagree : agreeB Int tGlobUse [] 8 60 pMain = false := by decide +kernel

/-- the stated-only "full bridge" is false -/
theorem bridge_full_false : ¬ interp_loader_simulates_modules_full := by
  intro h
  have := h Int tGlobUse [] 8 60 pMain tGlobUse_ok
  unfold Simulates at this
  rw [tGlobUse_disagree] at this
  cases this

-- imports-only version: try names
#print axioms bridge_full_false
