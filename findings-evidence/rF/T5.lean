import ZnVerif.Properties.C15
open ZnVerif.Model.Modules ZnVerif.Spec.ModuleSem ZnVerif.Properties.C15 ZnVerif.Properties.C15.Examples
open ZnVerif.Proofs.Modules

-- hypotheses of imported_method_sees_home_module on `sibling`, H = 1 (甲)
set_option maxRecDepth 100000 in
example : (run .repaired Oracle.default sibling [] 8 pMain).err = none ∧
   Ev.done 1 ∈ (run .repaired Oracle.default sibling [] 8 pMain).vm.log ∧
   (namesOf (run .repaired Oracle.default sibling [] 8 pMain).vm)[1]? = some nA ∧
   msrc sibling ⟨[⟨nA, [fA]⟩], [.marker 1, .use (.call fA), .marker 2]⟩ nA =
     some ⟨[], [.defn ⟨fA, .method, 3, [.call gA, .new tA]⟩, .defn ⟨gA, .method, 4, []⟩, .defn ⟨tA, .type, 5, [.call gA]⟩, .marker 6]⟩ := by
  decide

-- hypotheses of imports_before_body on diamond: m = 1 (甲) imports 目-丙
#eval (run .repaired Oracle.default diamond [] 8 pMain).vm.log
#eval (namesOf (run .repaired Oracle.default diamond [] 8 pMain).vm)
#eval (run .repaired Oracle.default diamond [] 8 pMain).vm.graph
#eval (run .repaired Oracle.default cyclic [] 8 pMain).vm.log
#eval (run .repaired Oracle.default cyclic [] 8 pMain).vm.graph
