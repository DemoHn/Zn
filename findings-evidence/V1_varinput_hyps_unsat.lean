import ZnVerif.Properties.C10VarInput
open ZnVerif.Model ZnVerif.Model.Parser ZnVerif.Proofs.ParserHoare

theorem getChar_rep (l : Lexer) (k i : Nat) (hs : l.src = (List.replicate k 0x20).toArray) :
    l.getChar i = if i < k then 0x20 else 0 := by
  unfold Lexer.getChar
  simp [hs, runeEOF]
  
theorem countSame_rep (k : Nat) : ∀ (d : Nat) (l : Lexer) (c : Nat), l.src = (List.replicate k 0x20).toArray →
    l.cursor + 1 + d = k → countSame 0x20 l c = ({ l with cursor := k }, c + d) := by
  intro d
  induction d with
  | zero =>
    intro l c hs hk
    rw [countSame]
    have : l.adv.cur = 0 := by
      unfold Lexer.cur
      rw [getChar_rep l.adv k _ (by simpa using hs), if_neg (by simp; omega)]
    simp [this]
    show ({ l with cursor := l.cursor + 1 } : Lexer) = _
    congr 1
  | succ d ih =>
    intro l c hs hk
    rw [countSame]
    have : l.adv.cur = 0x20 := by
      unfold Lexer.cur
      rw [getChar_rep l.adv k _ (by simpa using hs), if_pos (by simp; omega)]
    simp [this]
    rw [ih l.adv (c+1) (by simpa using hs) (by simp; omega)]
    simp [Lexer.adv]; omega

theorem first_err (B : Nat) :
    (nextToken (mkLexer (List.replicate (4*B+1) 0x20))).1 = .err ⟨24, 4*B+1⟩ := by
  unfold nextToken preNextToken
  simp only [mkLexer]
  simp only [if_true]
  unfold parseBeginLex
  have hg : Lexer.getChar { src := (List.replicate (4*B+1) 0x20).toArray, beginLex := false } 0 = 0x20 := by
    rw [getChar_rep _ (4*B+1) 0 rfl]; simp
  have hc := countSame_rep (4*B+1) (4*B) (Lexer.pushLine { src := (List.replicate (4*B+1) 0x20).toArray, beginLex := false } { indents := 0, startIdx := 0 }) 1 rfl (by simp; omega)
  simp only [hg, hc]
  simp [runeEOF, runeTAB, runeSP, setIndentType, indentKind, setIndentTypeLexer, ZnVerif.Generated.Tokens.cIndentUnknown, ZnVerif.Generated.Tokens.cIndentSpace]

/-- the hypotheses of execVarInputBytes_total / execVarInputRunes_total / evalExpressionText_total cannot be met -/
theorem hyps_unsat {B : Nat} {μ : Lexer → Nat} {I : Lexer → Prop} (hl : LexOK realOps B μ I)
    (hI : ∀ src, I (mkLexer src)) : False := by
  have h := first_err B
  cases hn : nextToken (mkLexer (List.replicate (4*B+1) 0x20)) with
  | mk r l' =>
    rw [hn] at h
    simp only at h
    subst h
    have : realOps.nextToken (mkLexer (List.replicate (4*B+1) 0x20)) = (.err ⟨24, 4*B+1⟩, l') := by
      simp only [realOps, hn]
    have := hl.err _ _ _ (hI _) this
    have := this.2.2
    simp at this
    omega
#print axioms hyps_unsat
