import ZnVerif.Properties.C11
open ZnVerif ZnVerif.Model.MapSites ZnVerif.Properties.C11
example : ¬ (sizeOf dA < 10) := by decide
example : ¬ (sizeOf dA < 100) := by decide

