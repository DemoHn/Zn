import ZnVerif.Model.ParserLex
open ZnVerif.Model ZnVerif.Model.Parser

def alphabet : List Nat := [0x20, 0x09, 0x0A, 0x0D, 0x61, 0x201C, 0x201D, 0x60, 0x6CE8, 0xFF1A, 0x2F, 0x2A, 0]

partial def allStrings (n : Nat) : List (List Nat) :=
  if n == 0 then [[]] else
    let r := allStrings (n-1)
    r ++ (r.filter (·.length == n-1)).flatMap (fun s => alphabet.map (fun c => c :: s))

def isPanic (src : List Nat) : Bool :=
  match (lexAll (4*src.length+17) (mkLexer src) []).2.1 with
  | some .panic => true
  | none => true
  | _ => false

def badCursor (src : List Nat) : Bool :=
  let r := lexAll (4*src.length+17) (mkLexer src) []
  (match r.2.1 with
  | some (.err e) => e.cursor > src.length
  | _ => false) || r.1.any (fun t => t.startIdx > src.length)

#eval ((allStrings 5).filter isPanic).take 10
#eval ((allStrings 5).filter badCursor).take 10
#eval (allStrings 5).length
